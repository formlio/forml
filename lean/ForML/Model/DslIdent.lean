/-
C08 — model of the Python-context identity (`==`, `hash`, dict lookup, pickling) of DSL objects for the code as
repaired by fixes/C08-structural-eq.diff, fixes/C08-compound-kind-pickle.diff and fixes/C08-factors-pickle.diff
(forml/io/dsl/_struct/{series,frame,kind}.py).  The hash model (`HashEnv`, `Feature.H`, `Source.H`, `pyIntHash`) and
the model of the code before the repair (`Feature.implEq`, hash equality) stay in `ForML.Model.DslEq`.

Mechanism mirrored (same order of checks, `none` = the comparison raises):

* `series.Feature.__eq__(a, b)`  = `b.__class__ is a.__class__ and tuple.__eq__(a, b)`                → `Feature.identEq`
  `Operable.__eq__` builds the proxy `Comparison.Pythonic(Equal, a, cast(b))` whose `__bool__` is `Feature.__eq__(a, b)`
  (so is `Equal.__bool__`); an `Aliased` has no operator overloading and uses `Feature.__eq__` directly: one function.
* `tuple.__eq__` compares the items left to right with `==`, stops at the first unequal pair (or propagates what the
  item comparison raises), then compares the lengths                                              → `eqAnd`, `Features.identEq`
* `Literal` is the tuple `(value, kind)`: Python `==` of the two values, then the kinds              → `Lit.identEq`
* `frame.Source.__eq__(a, b)` = same class module and qualname (a table class carries the table's name) and
  `tuple.__eq__(a, b)`; a table is `(schema,)`, `Schema.__eq__` is ordered field-wise equality       → `Source.identEq`
* an optional clause (`prefilter`, `postfilter`, join `condition`) present on one side only: `None == feature` falls
  to the reflected `Operable.__eq__(feature, None)` → `Literal(None)` → `ValueError`                  → `FeatureOpt.identEq`
* a `Window` stores the generator returned by `Ordering.make` (and `RowNumber` has identity equality): two
  independently built windows never compare equal, hash by the generator's address, and do not pickle
                                                                        → `windowFree`, `hashAgree`, `repickle`
-/
import ForML.Model.DslEq

namespace ForML.Dsl

/-! ### literals -/

/-- Python `==` between the *values* of two literals.  Same type: exact.  `bool` against `int`: `True == 1`.
A `str` equals no number.  A `float` against an `int`/`bool` is decided by the float's numeric value, which the model
does not interpret (floats are kept by their `repr`): `cf` is that comparison, a parameter — it never decides the
outcome because the kinds then differ (`C08_lit_iff`). -/
def Lit.valueEq (cf : Lit → Lit → Bool) : Lit → Lit → Bool
  | .int a, .int b => decide (a = b)
  | .bool a, .bool b => decide (a = b)
  | .str a, .str b => decide (a = b)
  | .float a, .float b => decide (a = b)
  | .int a, .bool b => decide (a = if b then 1 else 0)
  | .bool a, .int b => decide ((if a then 1 else 0) = b)
  | .str _, _ => false
  | _, .str _ => false
  | a, b => cf a b

/-- `tuple.__eq__((value, kind), (value', kind'))` -/
def Lit.identEq (cf : Lit → Lit → Bool) (v w : Lit) : Bool := Lit.valueEq cf v w && Kind.implEq v.kind w.kind

/-! ### features and sources -/

mutual
/-- `bool(a == b)` for two features (`series.Feature.__eq__`, reached directly or through the `Pythonic` proxy) -/
def Feature.identEq (cf : Lit → Lit → Bool) : Feature → Feature → EqRes
  | .lit v, .lit w => some (Lit.identEq cf v w)
  | .elem oa na, .elem ob nb =>
    -- `Element.__new__` returns a `Column` for a table origin: the class test
    if elemClass oa = elemClass ob then eqAnd (Source.identEq cf oa ob) fun _ => some (decide (na = nb)) else some false
  | .alias fa na, .alias fb nb => eqAnd (Feature.identEq cf fa fb) fun _ => some (decide (na = nb))
  | .expr opa as, .expr opb bs => if opa = opb then Features.identEq cf as bs else some false
  | .cast fa ka, .cast fb kb => eqAnd (Feature.identEq cf fa fb) fun _ => some (Kind.implEq ka kb)
  -- `(function, partition, <generator>, frame)`: the generators of two builds are different objects
  | .window _ _ _, .window _ _ _ => some false
  | _, _ => some false
termination_by structural a => a
/-- `tuple.__eq__` on two tuples of features -/
def Features.identEq (cf : Lit → Lit → Bool) : Features → Features → EqRes
  | .nil, .nil => some true
  | .cons a as, .cons b bs => eqAnd (Feature.identEq cf a b) fun _ => Features.identEq cf as bs
  | _, _ => some false
termination_by structural a => a
/-- `==` of two optional predicates: `None == None`; one side `None`: `Literal(None)` → `ValueError` -/
def FeatureOpt.identEq (cf : Lit → Lit → Bool) : FeatureOpt → FeatureOpt → EqRes
  | .none, .none => Option.some true
  | .some a, .some b => Feature.identEq cf a b
  | _, _ => Option.none
termination_by structural a => a
/-- named tuple `(feature, direction)` -/
def Ordering.identEq (cf : Lit → Lit → Bool) : Ordering → Ordering → EqRes
  | .mk fa da, .mk fb db => eqAnd (Feature.identEq cf fa fb) fun _ => some (decide (da = db))
termination_by structural a => a
def Orderings.identEq (cf : Lit → Lit → Bool) : Orderings → Orderings → EqRes
  | .nil, .nil => some true
  | .cons a as, .cons b bs => eqAnd (Ordering.identEq cf a b) fun _ => Orderings.identEq cf as bs
  | _, _ => some false
termination_by structural a => a
/-- `frame.Source.__eq__`: class module + qualname, then the tuples -/
def Source.identEq (cf : Lit → Lit → Bool) : Source → Source → EqRes
  | .table na fa, .table nb fb => some (decide (na = nb) && fieldsEq fa fb)
  | .ref sa na, .ref sb nb => eqAnd (Source.identEq cf sa sb) fun _ => some (decide (na = nb))
  | .join la ra ka ca, .join lb rb kb cb =>
    eqAnd (Source.identEq cf la lb) fun _ => eqAnd (Source.identEq cf ra rb) fun _ =>
      eqAnd (some (decide (ka = kb))) fun _ => FeatureOpt.identEq cf ca cb
  | .set la ra ka, .set lb rb kb =>
    eqAnd (Source.identEq cf la lb) fun _ => eqAnd (Source.identEq cf ra rb) fun _ => some (decide (ka = kb))
  | .query sa sela prea grpa posta orda rowsa, .query sb selb preb grpb postb ordb rowsb =>
    eqAnd (Source.identEq cf sa sb) fun _ => eqAnd (Features.identEq cf sela selb) fun _ =>
      eqAnd (FeatureOpt.identEq cf prea preb) fun _ => eqAnd (Features.identEq cf grpa grpb) fun _ =>
        eqAnd (FeatureOpt.identEq cf posta postb) fun _ => eqAnd (Orderings.identEq cf orda ordb) fun _ =>
          some (decide (rowsa = rowsb))
  | _, _ => some false
termination_by structural a => a
end

/-! ### windows -/

mutual
/-- no `Window` anywhere inside -/
def Feature.windowFree : Feature → Bool
  | .lit _ => true
  | .elem o _ => o.windowFree
  | .alias f _ => f.windowFree
  | .expr _ args => args.windowFree
  | .cast f _ => f.windowFree
  | .window _ _ _ => false
def Features.windowFree : Features → Bool
  | .nil => true
  | .cons f fs => f.windowFree && fs.windowFree
def FeatureOpt.windowFree : FeatureOpt → Bool
  | .none => true
  | .some f => f.windowFree
def Ordering.windowFree : Ordering → Bool
  | .mk f _ => f.windowFree
def Orderings.windowFree : Orderings → Bool
  | .nil => true
  | .cons o os => o.windowFree && os.windowFree
def Source.windowFree : Source → Bool
  | .table _ _ => true
  | .ref s _ => s.windowFree
  | .join l r _ c => l.windowFree && r.windowFree && c.windowFree
  | .set l r _ => l.windowFree && r.windowFree
  | .query s sel pre grp post ord _ =>
    s.windowFree && sel.windowFree && pre.windowFree && grp.windowFree && post.windowFree && ord.windowFree
end

variable {α : Type} [DecidableEq α]

/-- `hash(a) == hash(b)` for two independently built features: a window hashes its generator by address -/
def Feature.hashAgree (env : HashEnv α) (a b : Feature) : Bool :=
  a.windowFree && b.windowFree && decide (a.H env = b.H env)

def Source.hashAgree (env : HashEnv α) (a b : Source) : Bool :=
  a.windowFree && b.windowFree && decide (a.H env = b.H env)

/-! ### pickling: reconstruction from `__getnewargs__` / `__getnewargs_ex__` / the `copyreg` reducers -/

/-- `pickle.loads(pickle.dumps(k))`: primitives are singletons, `Compound.__getnewargs__` = the items,
`Struct.__getnewargs_ex__` = the name → kind mapping: every kind is rebuilt from its own content -/
def Kind.repickle (k : Kind) : Option Kind := some k

/-- a feature is rebuilt from `tuple(self)` (a literal from its value, the kind is reflected again);
a generator cannot be pickled (`TypeError`) -/
def Feature.repickle (f : Feature) : Option Feature := if f.windowFree then some f else none

/-- a source is rebuilt from `tuple(self)`; table classes and schemas through their `copyreg` reducers -/
def Source.repickle (s : Source) : Option Source := if s.windowFree then some s else none

/-! ### hash-table lookup -/

/-- `key in d` / `d[key]` / `lru_cache` hit, reduced to what decides the answer: the entries are visited in probe
order, one whose stored hash differs from the key's is skipped without comparing, otherwise `stored == key` decides
(`some true`: hit, `some false`: next entry, raises: the lookup raises).  The theorems hold for every probe order. -/
def dictGet {K V : Type} (h : K → α) (eq : K → K → EqRes) : List (K × V) → K → Except Unit (Option V)
  | [], _ => .ok none
  | (k', v) :: rest, k =>
    if h k' = h k then
      match eq k' k with
      | some true => .ok (some v)
      | some false => dictGet h eq rest k
      | none => .error ()
    else dictGet h eq rest k

/-- the lookup a structural dictionary would do -/
def structGet {K V : Type} [DecidableEq K] (d : List (K × V)) (k : K) : Option V :=
  (d.find? (fun e => decide (e.1 = k))).map (·.2)

end ForML.Dsl
