/-
C18 — package manifest and package content (core Lean only).

Mirrors forml/project/_distribution.py
  * `Manifest.write`: `string.Template('NAME = "$name"\nVERSION = "$version"\nPACKAGE = "$package"\nMODULES = $modules')`
    with `modules=json.dumps(dict(self.modules))` (name, version text and package are pasted raw between
    double quotes);
  * `Manifest.read`: the file is imported as a Python module, i.e. the four right-hand sides are read back as
    Python literals (`"…"` string literals; the JSON object as a dict display of string literals).
(package content — `Package.create` / `install` — and component loading are in ForML.Model.ManifestLoad, histories
over locations in ForML.Model.ManifestStore).

The version is carried as its normalised text `str(Release.Key)` (`ForML.Keys.vstr`); that
`Release.Key(str(v)) == v` is `C18_version_str_roundtrip` (ForML.Model.KeysValue models the PEP 440 text parser).
Python literal reading is modelled for the escapes listed in `pyEsc`; `\x`, octal, `\N`, `\U` are
`outOfModel` (never produced by `json.dumps`).

The template text is kept as four named constants of code points (`sNAME`, `qVERSION`, `qPACKAGE`, `qMODULES`; the
rendered text is compared with the real file by the harness on every run) and the readers are written with
explicit `if c == …` tests and the helper `push`, so that proofs go through one-step lemmas
(ForML.Lemmas.C18Manifest) instead of reducing a parser over literal lists.
-/
import ForML.Model.Keys

namespace ForML.Manifest

structure Manifest where
  name : List Nat
  version : List Nat       -- normalised text
  package : List Nat
  modules : List (List Nat × List Nat)
  deriving DecidableEq, Repr

inductive ReadErr where
  | syntax
  | outOfModel
  deriving DecidableEq, Repr

/-! ### writing -/

def hexDigit (d : Nat) : Nat := if d < 10 then 48 + d else 87 + d

def u4 (c : Nat) : List Nat :=
  [92, 117, hexDigit (c / 4096 % 16), hexDigit (c / 256 % 16), hexDigit (c / 16 % 16), hexDigit (c % 16)]

/-- `json.encoder` `ESCAPE_ASCII` / `py_encode_basestring_ascii` per character -/
def jesc (c : Nat) : List Nat :=
  if c == 34 then [92, 34]
  else if c == 92 then [92, 92]
  else if c == 10 then [92, 110]
  else if c == 13 then [92, 114]
  else if c == 9 then [92, 116]
  else if c == 8 then [92, 98]
  else if c == 12 then [92, 102]
  else if 32 ≤ c && c ≤ 126 then [c]
  else if c < 65536 then u4 c
  else
    let n := c - 65536
    u4 (55296 + (n / 1024) % 1024) ++ u4 (56320 + n % 1024)

def jstr : List Nat → List Nat
  | [] => []
  | c :: r => jesc c ++ jstr r

/-- one `"k": "v"` item followed by `tail` -/
def jitem (k v tail : List Nat) : List Nat :=
  34 :: (jstr k ++ 34 :: 58 :: 32 :: 34 :: (jstr v ++ 34 :: tail))

/-- what follows an item: `}` or `, ` and the next item (`', '.join(items)`) -/
def jrest : List (List Nat × List Nat) → List Nat
  | [] => [125]
  | (k, v) :: r => 44 :: 32 :: jitem k v (jrest r)

/-- `json.dumps(dict(modules))` (default separators) -/
def jdict : List (List Nat × List Nat) → List Nat
  | [] => [123, 125]
  | (k, v) :: r => 123 :: jitem k v (jrest r)

/-- `NAME = "` -/
def sNAME : List Nat := [78, 65, 77, 69, 32, 61, 32, 34]
/-- `\nVERSION = "` (after the quote closing the name) -/
def qVERSION : List Nat := [10, 86, 69, 82, 83, 73, 79, 78, 32, 61, 32, 34]
/-- `\nPACKAGE = "` -/
def qPACKAGE : List Nat := [10, 80, 65, 67, 75, 65, 71, 69, 32, 61, 32, 34]
/-- `\nMODULES = ` -/
def qMODULES : List Nat := [10, 77, 79, 68, 85, 76, 69, 83, 32, 61, 32]

/-- `Manifest.TEMPLATE.substitute(...)`:
`NAME = "$name"\nVERSION = "$version"\nPACKAGE = "$package"\nMODULES = $modules` -/
def render (m : Manifest) : List Nat :=
  sNAME ++ (m.name ++ 34 :: (qVERSION ++ (m.version ++ 34 :: (qPACKAGE ++ (m.package ++ 34 :: (qMODULES ++ jdict m.modules))))))

/-! ### reading back (Python literals) -/

def hexVal (c : Nat) : Option Nat :=
  if 48 ≤ c && c ≤ 57 then some (c - 48)
  else if 97 ≤ c && c ≤ 102 then some (c - 87)
  else if 65 ≤ c && c ≤ 70 then some (c - 55)
  else none

/-- single-character escapes of a Python string literal -/
def pyEsc (c : Nat) : Option Nat :=
  if c == 92 then some 92 else if c == 39 then some 39 else if c == 34 then some 34
  else if c == 97 then some 7 else if c == 98 then some 8 else if c == 102 then some 12
  else if c == 110 then some 10 else if c == 114 then some 13 else if c == 116 then some 9
  else if c == 118 then some 11 else none

/-- prepend decoded characters to the result of reading the rest of the literal -/
def push (cs : List Nat) : Except ReadErr (List Nat × List Nat) → Except ReadErr (List Nat × List Nat)
  | .ok (t, rest) => .ok (cs ++ t, rest)
  | .error e => .error e

/-- `\uXXXX`: the four hex digits -/
def hex4 (h1 h2 h3 h4 : Nat) : Option Nat :=
  match hexVal h1, hexVal h2, hexVal h3, hexVal h4 with
  | some d1, some d2, some d3, some d4 => some (((d1 * 16 + d2) * 16 + d3) * 16 + d4)
  | _, _, _, _ => none

/-- escapes the model does not read (`\x`, `\N`, `\U`, octal, line continuation) -/
def unmodelledEsc (c : Nat) : Bool := c == 120 || c == 78 || c == 85 || (48 ≤ c && c ≤ 55) || c == 10

/-- body of a `"`-quoted Python string literal (input starts after the opening quote):
decoded text and the rest after the closing quote -/
def pyStr : List Nat → Except ReadErr (List Nat × List Nat)
  | [] => .error .syntax                       -- unterminated
  | a :: l =>
    if a == 34 then .ok ([], l)
    else if a == 10 || a == 13 then .error .syntax
    else if a == 92 then
      match l with
      | [] => .error .syntax
      | c :: r =>
        match pyEsc c with
        | some x => push [x] (pyStr r)
        | none =>
          if c == 117 then
            match r with
            | h1 :: h2 :: h3 :: h4 :: r' =>
              match hex4 h1 h2 h3 h4 with
              | some x => push [x] (pyStr r')
              | none => .error .syntax
            | _ => .error .syntax
          else if unmodelledEsc c then .error .outOfModel
          else push [92, c] (pyStr r)          -- unknown escape: the backslash stays
    else push [a] (pyStr l)

/-- strip an expected prefix -/
def expect : List Nat → List Nat → Except ReadErr (List Nat)
  | [], t => .ok t
  | p :: ps, c :: t => if p == c then expect ps t else .error .syntax
  | _ :: _, [] => .error .syntax

/-- `"k": "v"` then `}` (end of the display) or `, ` and further items; fuel-bounded -/
def pyItems : Nat → List Nat → Except ReadErr (List (List Nat × List Nat))
  | 0, _ => .error .syntax
  | f + 1, t =>
    match expect [34] t with
    | .error e => .error e
    | .ok t =>
      match pyStr t with
      | .error e => .error e
      | .ok (k, t) =>
        match expect [58, 32, 34] t with
        | .error e => .error e
        | .ok t =>
          match pyStr t with
          | .error e => .error e
          | .ok (v, t) =>
            if t == [125] then .ok [(k, v)]
            else
              match expect [44, 32] t with
              | .error e => .error e
              | .ok t' =>
                match pyItems f t' with
                | .ok r => .ok ((k, v) :: r)
                | .error e => .error e

/-- a dict display of string literals (input starts after `{`) -/
def pyDictBody (r : List Nat) : Except ReadErr (List (List Nat × List Nat)) :=
  if r == [125] then .ok [] else pyItems r.length r

def pyDict (t : List Nat) : Except ReadErr (List (List Nat × List Nat)) :=
  match expect [123] t with
  | .error e => .error e
  | .ok r => pyDictBody r

/-- `Manifest.read` on the module text -/
def read (t : List Nat) : Except ReadErr Manifest :=
  match expect sNAME t with
  | .error e => .error e
  | .ok t =>
    match pyStr t with
    | .error e => .error e
    | .ok (name, t) =>
      match expect qVERSION t with
      | .error e => .error e
      | .ok t =>
        match pyStr t with
        | .error e => .error e
        | .ok (version, t) =>
          match expect qPACKAGE t with
          | .error e => .error e
          | .ok t =>
            match pyStr t with
            | .error e => .error e
            | .ok (package, t) =>
              match expect qMODULES t with
              | .error e => .error e
              | .ok t =>
                match pyDict t with
                | .error e => .error e
                | .ok modules => .ok { name, version, package, modules }

end ForML.Manifest
