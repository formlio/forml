/-
C09 — the feed's parser as it is: `forml/io/dsl/parser.py` `Container` (contexts, symbol stack, origins registry),
`bypass`, `Visitor.visit_*`, `resolve_source`, `resolve_feature`, `generate_feature`, `fetch` — as a stack machine over
the shared DSL syntax, generic in everything a concrete parser (a feed's `Reader.parser`) supplies:

  the native symbol type `σ`, every abstract `generate_*`, `resolve_feature` (parsers override it), the per-context
  `Tables` registry (`select` / `filter` / the segment of a table: forml/io/dsl/parser.py `Container.Context.Tables`,
  whose content is C14's subject) and `Source.features` (the default projection: forml/io/dsl/_struct/frame.py)

are fields of `Hooks`; any of them may raise (`HErr`).  What is *not* a parameter is the code this property is about:

  Python                                                       here
  -----------------------------------------------------------  ----------------------------------------------------
  `Container.Context` (symbols, tables, origins)               `PCtx`
  `Container._context / _stack`, `__enter__`, `__exit__`       `PState`, `enter`, `leave`
  `Symbols.push / pop`, `Container.context`                    `push`, `pop` (`RuntimeError('Empty context')`, `('Invalid context')`)
  `Visitor.resolve_source` (`UnprovisionedError`)              `resolveSource`
  `Visitor.resolve_feature`                                    `Hooks.resolveFeature` (`none` = `UnprovisionedError`)
  `Visitor.generate_feature` (`accept` + `pop`)                `genFeature`
  `visit_literal / element / aliased / expression / window`    `visitF` (`context.origins[feature.origin]`: `KeyError`)
  `bypass(resolve_feature)` on `visit_expression / window`     `bypassFeature`
  `visit_table`                                                `visitS` on `.table` (`origins[source] = resolve_source(source)`
                                                               first, then the fields and the predicate of the segment)
  `visit_reference` (not decorated)                            `visitS` on `.ref`
  `bypass(resolve_source)` on `visit_join / set / query`       `bypassSource`: the wrapped method ran already, the override
                                                               is looked up afterwards and replaces the top symbol
  `visit_query` (`with self:` — a context of its own)          `visitS` on `.query`
  `with parser as visitor: accept; fetch()`                    `parseFull`

`Model/Matcher.lean` `parseSkeleton` is the source skeleton of this machine; `Lemmas/C09Parser.lean` proves that it is a sound
abstraction of it for every `Hooks`.  Core Lean only.
-/
import ForML.Model.Matcher

namespace ForML.Matcher

open ForML.Dsl

/-- whatever a hook (a `generate_*`, the tables registry, …) raises -/
abbrev HErr := String

/-- what the parser raises -/
inductive PErr where
  | unprovisioned (s : Source)          -- `UnprovisionedError('Unknown mapping for source …')` from `resolve_source`
  | unprovisionedFeature (f : Feature)  -- `UnprovisionedError('Unknown mapping for feature …')` from `resolve_feature`
  | keyError (o : Source)               -- `self.context.origins[feature.origin]`
  | window                              -- `RuntimeError('Window functions not yet supported')`
  | invalidContext                      -- `RuntimeError('Invalid context')`
  | emptyContext                        -- `RuntimeError('Empty context')`
  | contextNotFetched                   -- `RuntimeError('Context not fetched')`
  | prematureFetch                      -- `RuntimeError('Premature fetch')`
  | stackError                          -- `IndexError`: `Container._stack.pop()` of an empty list
  | hook (e : HErr)                     -- raised by a hook
  deriving DecidableEq, Repr, Inhabited

/-- what a concrete parser supplies (`σ`: its native symbols, `τ`: the state of its `Tables` registry) -/
structure Hooks (σ τ : Type) where
  /-- `self._sources[source]` for an advertised source -/
  native : Source → σ
  /-- `resolve_feature`: `none` = `UnprovisionedError` -/
  resolveFeature : Feature → Except HErr (Option σ)
  genElement : σ → σ → Except HErr σ
  genLiteral : Lit → Except HErr σ
  genExpression : Op → List σ → Except HErr σ
  genCast : σ → Kind → Except HErr σ
  genAlias : σ → String → Except HErr σ
  genTable : σ → List σ → Option σ → Except HErr σ
  /-- `(origin, handle)` -/
  genReference : σ → String → Except HErr (σ × σ)
  genJoin : σ → σ → Option σ → JoinKind → Except HErr σ
  genSet : σ → σ → SetKind → Except HErr σ
  genQuery : σ → List σ → Option σ → List σ → Option σ → List (σ × Dir) → Option Rows → Except HErr σ
  /-- `Source.features` -/
  features : Source → Except HErr (List Feature)
  /-- `Tables()` -/
  tablesNew : τ
  /-- `Tables.select(*features)` -/
  tablesSelect : τ → List Feature → Except HErr τ
  /-- `Tables.filter(expression)` -/
  tablesFilter : τ → Feature → Except HErr τ
  /-- `sorted(tables[source].fields)` -/
  segmentFields : τ → Source → Except HErr (List Feature)
  /-- `tables[source].predicate` -/
  segmentPredicate : τ → Source → Except HErr (Option Feature)

/-- `Container.Context` -/
structure PCtx (σ τ : Type) where
  symbols : List σ            -- top first
  origins : List (Source × σ)
  tables : τ

/-- `Container`: the current context (`None` outside `with` / after `fetch`) and the suspended ones -/
structure PState (σ τ : Type) where
  ctx : Option (PCtx σ τ)
  stack : List (Option (PCtx σ τ))

variable {σ τ : Type}

def liftH {α : Type} (x : Except HErr α) : Except PErr α :=
  match x with
  | .ok a => .ok a
  | .error e => .error (.hook e)

/-- `Container.context` -/
def context (st : PState σ τ) : Except PErr (PCtx σ τ) :=
  match st.ctx with
  | none => .error .invalidContext
  | some c => .ok c

def setCtx (st : PState σ τ) (c : PCtx σ τ) : PState σ τ := { st with ctx := some c }

/-- `self.context.symbols.push(item)` -/
def push (x : σ) (st : PState σ τ) : Except PErr (PState σ τ) := do
  let c ← context st
  pure (setCtx st { c with symbols := x :: c.symbols })

/-- `self.context.symbols.pop()` -/
def pop (st : PState σ τ) : Except PErr (σ × PState σ τ) := do
  let c ← context st
  match c.symbols with
  | [] => .error .emptyContext
  | x :: xs => pure (x, setCtx st { c with symbols := xs })

/-- `self.context.origins[source] = symbol` -/
def setOrigin (o : Source) (x : σ) (st : PState σ τ) : Except PErr (PState σ τ) := do
  let c ← context st
  pure (setCtx st { c with origins := (o, x) :: c.origins })

/-- `self.context.origins[feature.origin]` -/
def getOrigin (o : Source) (st : PState σ τ) : Except PErr σ := do
  let c ← context st
  match c.origins.lookup o with
  | none => .error (.keyError o)
  | some x => pure x

/-- `Container.__enter__` -/
def enter (H : Hooks σ τ) (st : PState σ τ) : PState σ τ :=
  { ctx := some ⟨[], [], H.tablesNew⟩, stack := st.ctx :: st.stack }

/-- `Container.__exit__` without an exception in flight -/
def leave (st : PState σ τ) : Except PErr (PState σ τ) :=
  match st.ctx with
  | some c =>
    if c.symbols.isEmpty then
      match st.stack with
      | [] => .error .stackError
      | top :: rest => .ok { ctx := top, stack := rest }
    else .error .contextNotFetched
  | none =>
    match st.stack with
    | [] => .error .stackError
    | top :: rest => .ok { ctx := top, stack := rest }

/-- `Visitor.resolve_source` -/
def resolveSource (H : Hooks σ τ) (S : Sources) (s : Source) : Except PErr σ :=
  if adv S s then .ok (H.native s) else .error (.unprovisioned s)

/-- `[pop() for c in reversed(feature)]` reversed again: `n` symbols in their original order -/
def popN : Nat → PState σ τ → Except PErr (List σ × PState σ τ)
  | 0, st => pure ([], st)
  | n + 1, st => do
    let (x, st) ← pop st
    let (xs, st) ← popN n st
    pure (xs ++ [x], st)

def featuresLength : Features → Nat
  | .nil => 0
  | .cons _ fs => featuresLength fs + 1

/-- `bypass(resolve_feature)`: after the wrapped method, a mapped feature replaces the generated symbol -/
def bypassFeature (H : Hooks σ τ) (f : Feature) (st : PState σ τ) : Except PErr (PState σ τ) := do
  match ← liftH (H.resolveFeature f) with
  | none => pure st
  | some new =>
    let (_, st) ← pop st
    push new st

mutual
/-- `feature.accept(visitor)` -/
def visitF (H : Hooks σ τ) : Feature → PState σ τ → Except PErr (PState σ τ)
  | .lit v, st => do
    let x ← liftH (H.genLiteral v)
    push x st
  | .elem o n, st => do
    let origin ← getOrigin o st
    match ← liftH (H.resolveFeature (.elem o n)) with
    | none => .error (.unprovisionedFeature (.elem o n))
    | some e =>
      let x ← liftH (H.genElement origin e)
      push x st
  | .alias f n, st => do
    let st ← visitF H f st
    let (x, st) ← pop st
    let y ← liftH (H.genAlias x n)
    push y st
  | .expr op args, st => do
    let st ← visitFs H args st
    let (xs, st) ← popN (featuresLength args) st
    let y ← liftH (H.genExpression op xs)
    let st ← push y st
    bypassFeature H (.expr op args) st
  | .cast f k, st => do
    let st ← visitF H f st
    let (x, st) ← pop st
    let y ← liftH (H.genCast x k)
    let st ← push y st
    bypassFeature H (.cast f k) st
  | .window _ _ _, _ => .error .window
/-- `for term in feature: term.accept(self)` -/
def visitFs (H : Hooks σ τ) : Features → PState σ τ → Except PErr (PState σ τ)
  | .nil, st => pure st
  | .cons f fs, st => do
    let st ← visitF H f st
    visitFs H fs st
end

/-- `Visitor.generate_feature`: `feature.accept(self); return self.context.symbols.pop()` -/
def genFeature (H : Hooks σ τ) (f : Feature) (st : PState σ τ) : Except PErr (σ × PState σ τ) := do
  let st ← visitF H f st
  pop st

def genFeatures (H : Hooks σ τ) : List Feature → PState σ τ → Except PErr (List σ × PState σ τ)
  | [], st => pure ([], st)
  | f :: fs, st => do
    let (x, st) ← genFeature H f st
    let (xs, st) ← genFeatures H fs st
    pure (x :: xs, st)

def genFeatureOpt (H : Hooks σ τ) : Option Feature → PState σ τ → Except PErr (Option σ × PState σ τ)
  | none, st => pure (none, st)
  | some f, st => do
    let (x, st) ← genFeature H f st
    pure (some x, st)

def genOrderings (H : Hooks σ τ) : List Dsl.Ordering → PState σ τ → Except PErr (List (σ × Dir) × PState σ τ)
  | [], st => pure ([], st)
  | .mk f d :: os, st => do
    let (x, st) ← genFeature H f st
    let (xs, st) ← genOrderings H os st
    pure ((x, d) :: xs, st)

/-- `self.context.tables.select(*features)` -/
def tablesSelect (H : Hooks σ τ) (fs : List Feature) (st : PState σ τ) : Except PErr (PState σ τ) := do
  let c ← context st
  let t ← liftH (H.tablesSelect c.tables fs)
  pure (setCtx st { c with tables := t })

/-- `self.context.tables.filter(expression)` -/
def tablesFilter (H : Hooks σ τ) (f : Feature) (st : PState σ τ) : Except PErr (PState σ τ) := do
  let c ← context st
  let t ← liftH (H.tablesFilter c.tables f)
  pure (setCtx st { c with tables := t })

/-- `bypass(resolve_source)`, the part after the wrapped method: `try: new = resolve_source(subject)` /
`except UnprovisionedError: pass` / `else: pop the old symbol, push the new one` -/
def bypassSource (H : Hooks σ τ) (S : Sources) (subject : Source) (st : PState σ τ) : Except PErr (PState σ τ) :=
  if adv S subject then do
    let (_, st) ← pop st
    push (H.native subject) st
  else pure st

/-- the part of `visit_table` after `resolve_source`: the fields and the predicate registered for the table in the
current context are generated, then `generate_table` -/
def tableTail (H : Hooks σ τ) (t : Source) (origin : σ) (st : PState σ τ) : Except PErr (PState σ τ) := do
  let c ← context st
  let fields ← liftH (H.segmentFields c.tables t)
  let (fs, st) ← genFeatures H fields st
  let predicate ← liftH (H.segmentPredicate c.tables t)
  let (p, st) ← genFeatureOpt H predicate st
  let x ← liftH (H.genTable origin fs p)
  push x st

/-- the part of `visit_reference` after the instance was visited -/
def refTail (H : Hooks σ τ) (r : Source) (name : String) (st : PState σ τ) : Except PErr (PState σ τ) := do
  let (i, st) ← pop st
  let (origin, handle) ← liftH (H.genReference i name)
  let st ← setOrigin r handle st
  push origin st

/-- `if condition is not None: self.context.tables.filter(condition)` -/
def tablesFilterOpt (H : Hooks σ τ) (c : FeatureOpt) (st : PState σ τ) : Except PErr (PState σ τ) :=
  match c with
  | .none => pure st
  | .some f => tablesFilter H f st

/-- `if postfilter is not None: self.context.tables.select(postfilter)` -/
def tablesSelectOpt (H : Hooks σ τ) (c : FeatureOpt) (st : PState σ τ) : Except PErr (PState σ τ) :=
  match c with
  | .none => pure st
  | .some f => tablesSelect H [f] st

/-- the part of `visit_join` before its sides are visited -/
def joinHead (H : Hooks σ τ) (c : FeatureOpt) (st : PState σ τ) : Except PErr (PState σ τ) :=
  tablesFilterOpt H c st

/-- the part of `visit_join` after its sides were visited, with the `bypass` epilogue -/
def joinTail (H : Hooks σ τ) (S : Sources) (l r : Source) (k : JoinKind) (c : FeatureOpt) (st : PState σ τ) :
    Except PErr (PState σ τ) := do
  let (R, st) ← pop st
  let (L, st) ← pop st
  let (e, st) ← genFeatureOpt H c.toOption st
  let x ← liftH (H.genJoin L R e k)
  let st ← push x st
  bypassSource H S (.join l r k c) st

/-- the part of `visit_set` after its sides were visited, with the `bypass` epilogue -/
def setTail (H : Hooks σ τ) (S : Sources) (l r : Source) (k : SetKind) (st : PState σ τ) : Except PErr (PState σ τ) := do
  let (R, st) ← pop st
  let (L, st) ← pop st
  let x ← liftH (H.genSet L R k)
  let st ← push x st
  bypassSource H S (.set l r k) st

/-- `Query.features`: the selection, or the features of the source -/
def queryFeatures (H : Hooks σ τ) (src : Source) (sel : Features) : Except PErr (List Feature) :=
  if sel.isEmpty then liftH (H.features src) else pure sel.toList

/-- the part of `visit_query` before its source is visited: `with self:` and the registration of every clause -/
def queryHead (H : Hooks σ τ) (src : Source) (sel : Features) (pre : FeatureOpt) (grp : Features) (post : FeatureOpt)
    (ord : Orderings) (st : PState σ τ) : Except PErr (PState σ τ) := do
  let st := enter H st
  let feats ← queryFeatures H src sel
  let st ← tablesSelect H feats st
  let st ← tablesFilterOpt H pre st
  let st ← tablesSelectOpt H post st
  let st ← tablesSelect H grp.toList st
  tablesSelect H (ord.toList.map Dsl.Ordering.feature) st

/-- the part of `visit_query` after its source was visited, with the `bypass` epilogue -/
def queryTail (H : Hooks σ τ) (S : Sources) (src : Source) (sel : Features) (pre : FeatureOpt) (grp : Features)
    (post : FeatureOpt) (ord : Orderings) (rows : Option Rows) (st : PState σ τ) : Except PErr (PState σ τ) := do
  let feats ← queryFeatures H src sel
  let (fs, st) ← genFeatures H feats st
  let (w, st) ← genFeatureOpt H pre.toOption st
  let (g, st) ← genFeatures H grp.toList st
  let (h, st) ← genFeatureOpt H post.toOption st
  let (o, st) ← genOrderings H ord.toList st
  let (frm, st) ← pop st
  let q ← liftH (H.genQuery frm fs w g h o rows)
  let st ← leave st
  let st ← push q st
  bypassSource H S (.query src sel pre grp post ord rows) st

/-- `source.accept(visitor)` -/
def visitS (H : Hooks σ τ) (S : Sources) : Source → PState σ τ → Except PErr (PState σ τ)
  | .table n fs, st => do
    let origin ← resolveSource H S (.table n fs)
    let st ← setOrigin (.table n fs) origin st
    tableTail H (.table n fs) origin st
  | .ref inst name, st => do
    let st ← visitS H S inst st
    refTail H (.ref inst name) name st
  | .join l r k c, st => do
    let st ← joinHead H c st
    let st ← visitS H S l st
    let st ← visitS H S r st
    joinTail H S l r k c st
  | .set l r k, st => do
    let st ← visitS H S l st
    let st ← visitS H S r st
    setTail H S l r k st
  | .query src sel pre grp post ord rows, st => do
    let st ← queryHead H src sel pre grp post ord st
    let st ← visitS H S src st
    queryTail H S src sel pre grp post ord rows st

/-- `Container.fetch` followed by `Container.__exit__` -/
def fetch (st : PState σ τ) : Except PErr (σ × PState σ τ) :=
  match st.ctx with
  | none => .error .invalidContext   -- `self._context.symbols`: AttributeError on None (not reachable from `parseFull`)
  | some c =>
    match c.symbols with
    | [] => .error .emptyContext
    | x :: xs =>
      if xs.isEmpty then
        match leave { st with ctx := none } with
        | .error e => .error e
        | .ok st => .ok (x, st)
      else .error .prematureFetch

/-- `with parser as visitor: statement.accept(visitor); result = visitor.fetch()` -/
def parseFull (H : Hooks σ τ) (S : Sources) (s : Source) : Except PErr σ := do
  let st := enter H { ctx := none, stack := [] }
  let st ← visitS H S s st
  let (x, _) ← fetch st
  pure x

/-- the feed's parser gets through the statement -/
def parsesOk (H : Hooks σ τ) (S : Sources) (s : Source) : Bool :=
  match parseFull H S s with
  | .ok _ => true
  | .error _ => false

/-- the feed's parser reports an unprovisioned source -/
def reportsUnprovisioned (H : Hooks σ τ) (S : Sources) (s : Source) : Option Source :=
  match parseFull H S s with
  | .error (.unprovisioned t) => some t
  | _ => none

/-- the parser fails for a reason other than an unprovisioned source (an unsupported construct, a column of a source
that is not in scope, a failing hook, …) -/
def otherFailure (H : Hooks σ τ) (S : Sources) (s : Source) : Bool :=
  match parseFull H S s with
  | .ok _ => false
  | .error (.unprovisioned _) => false
  | .error _ => true

/-! ### a concrete parser: free terms (what the harness' tuple parser builds), source skeleton only -/

/-- symbols of the free parser: the skeleton of the sources, every feature-level symbol is opaque -/
inductive Term where
  | native (s : Source)
  | handle (name : String)
  | feat
  | ref (inst : Term) (name : String)
  | join (l r : Term) (kind : JoinKind)
  | set (l r : Term) (kind : SetKind)
  | query (src : Term)
  deriving DecidableEq, Repr, Inhabited

/-- the free parser over a `Tables` registry and a `Source.features` supplied from outside; like forml's SQLAlchemy
parser it resolvesSkeleton an unmapped element by its name -/
def freeHooks {τ : Type} (features : Source → Except HErr (List Feature)) (new : τ)
    (select : τ → List Feature → Except HErr τ) (filter : τ → Feature → Except HErr τ)
    (fields : τ → Source → Except HErr (List Feature)) (predicate : τ → Source → Except HErr (Option Feature)) :
    Hooks Term τ where
  native := .native
  resolveFeature := fun f => match f with
    | .elem _ _ => .ok (some .feat)
    | _ => .ok none
  genElement := fun _ _ => .ok .feat
  genLiteral := fun _ => .ok .feat
  genExpression := fun _ _ => .ok .feat
  genCast := fun _ _ => .ok .feat
  genAlias := fun _ _ => .ok .feat
  genTable := fun t _ _ => .ok t
  genReference := fun i n => .ok (.ref i n, .handle n)
  genJoin := fun l r _ k => .ok (.join l r k)
  genSet := fun l r k => .ok (.set l r k)
  genQuery := fun s _ _ _ _ _ _ => .ok (.query s)
  features := features
  tablesNew := new
  tablesSelect := select
  tablesFilter := filter
  segmentFields := fields
  segmentPredicate := predicate

end ForML.Matcher
