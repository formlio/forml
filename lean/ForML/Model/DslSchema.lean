/-
C08 — how schemas, kinds and reflected kinds really come into being (forml/io/dsl/_struct/{frame,kind,__init__}.py).

**Schemas from class hierarchies.**  A *program* is a list of class statements; a statement names earlier ones (by
position) as its bases.  Mirrored mechanism:

* `Source.Schema.__new__(mcs, name, bases, namespace)`                                            → `newSchema`
    - `existing = ChainMap(*({f.name: k} for b in bases for c in reversed(getmro(b)) for k, f in c.__dict__.items()
      if isinstance(f, Field) and k not in seen and not seen.add(k)))` — one single-entry map per attribute key, the
      *base-most* definition of a key supplies the name                                            → `baseMaps`
    - `if existing and len(existing.maps) > len(existing): raise GrammarError('Colliding base classes')`
    - for every `Field` of the namespace, in definition order: an unnamed one is `renamed(key)`; if its name is in
      `existing` under another key → `GrammarError('Colliding field name')`; `existing[name] = key`   → `addFields`
    - `type.__new__`: C3 linearisation of the bases (`TypeError` when there is none)                 → `c3merge`, `mroOf`
* `Source.Schema.__iter__`: `{k: f for c in reversed(getmro(cls)) for k, f in c.__dict__.items() if Field}.values()`
  — a dict comprehension: a key keeps the position of its first insertion and takes the last value → `upsert`, `resolveKV`
* `Source.Schema.__eq__` = same length and field-wise `==` of the `(kind, name)` named tuples, in order; `__hash__` =
  xor of the field hashes (`fieldsH` of `DslEq`)                                                  → `fieldEq`, `schemaEq`
* the `copyreg` reducer of `Schema`: `(Schema, (s.__name__, s.__bases__, {k: f for k, f in s.__dict__.items() if
  Field}))` — keyed by the attribute key, the fields carry their (normalised) names; `pickle` memoises, so every
  class of a hierarchy is reduced and rebuilt once, bases first                   → `Cls.reducedNs`, `reduceDecl`, `encode`
* `dsl.Schema.from_fields(*fields)` = `Schema(title, (), {f'_{i}': f})`; `from_record(values, *names)` reflects the
  kinds and names an unnamed value `c{i}`                                                          → `Decl.prepared`
* a table made by a `class N(dsl.Schema)` statement is an instance of a class named `N`; `dsl.Table(schema)` is an
  instance of `Table` itself                                                                       → `Decl.tableName`

**Kind singletons.**  `kind.Singleton.__new__` gives every primitive kind class its own closure cell `instance`;
`cls()` fills the cell on first use and returns its content ever after                            → `KReg.new`, `KReg.run`

**`kind.reflect(value)`**: the primitive classes in rank order (Boolean before Integer, Timestamp before Date), then a
non-empty sequence → `Array(reflect(value[0]))`, a non-empty mapping with keys of one type → `Map` when the values are
of one type too, `Struct` when the keys are strings                                                → `PyVal.reflect`

**Anonymous references.**  `Reference.__new__(instance, None)` draws a name; the name is all that tells two anonymous
references to one source apart once they are pickled                                              → `AnonNamer`, `anonRef`

Core Lean only.
-/
import ForML.Model.DslEq

namespace ForML.Dsl

/-! ### class statements and schema classes -/

/-- `dsl.Field(kind, name)` as written; `name = none`: not given -/
structure RawField where
  kind : Kind
  name : Option String
  deriving DecidableEq, Repr

/-- how the statement is written (see the header) -/
inductive Via where
  | declared | metaclass | fromFields | fromRecord
  deriving DecidableEq, Repr

/-- one class statement -/
structure Decl where
  via : Via
  name : String
  bases : List Nat
  ns : List (String × RawField)
  deriving DecidableEq, Repr

/-- a field of a constructed schema: `(name, kind)`, always named -/
abbrev NamedField := String × Kind

/-- a constructed schema class: `__name__`, `__bases__`, the `Field` entries of its own `__dict__` (definition
order), `__mro__` (positions, itself first) -/
structure Cls where
  name : String
  bases : List Nat
  dict : List (String × NamedField)
  mro : List Nat
  deriving DecidableEq, Repr

/-- what a class statement raises -/
inductive SchemaErr where
  | grammarBases    -- GrammarError: Colliding base classes
  | grammarField    -- GrammarError: Colliding field name
  | typeError       -- TypeError: no consistent MRO / duplicate base
  | skipped         -- a base does not exist (its statement raised)
  deriving DecidableEq, Repr

/-- the classes made so far, by position (`error`: that statement raised) -/
abbrev Heap := List (Except SchemaErr Cls)

def Heap.cls? (h : Heap) (i : Nat) : Option Cls :=
  match h[i]? with
  | some (.ok c) => some c
  | _ => none

def Heap.dictOf (h : Heap) (i : Nat) : List (String × NamedField) := ((h.cls? i).map (·.dict)).getD []
def Heap.mroOf (h : Heap) (i : Nat) : List Nat := ((h.cls? i).map (·.mro)).getD []

/-! ### C3 linearisation (`type.__new__` → `mro_implementation` → `pmerge`) -/

/-- the first head that is in no tail -/
def c3pick (seqs : List (List Nat)) : Option Nat :=
  (seqs.filterMap List.head?).find? fun c => seqs.all fun s => !(s.tail.contains c)

def c3merge : Nat → List (List Nat) → Option (List Nat)
  | 0, _ => none
  | fuel + 1, seqs =>
    let live := seqs.filter fun s => !s.isEmpty
    if live.isEmpty then some []
    else match c3pick live with
      | none => none
      | some c => (c3merge fuel (live.map fun s => if s.head? = some c then s.tail else s)).map (c :: ·)

/-- `__mro__` of a new class at position `self` with the given bases -/
def mroNew (h : Heap) (self : Nat) (bases : List Nat) : Option (List Nat) :=
  let seqs := bases.map h.mroOf ++ [bases]
  (c3merge ((seqs.map List.length).sum + 1) seqs).map (self :: ·)

/-! ### `Schema.__iter__` -/

/-- one step of the dict comprehension `{k: f …}`: a known key keeps its place and takes the new value -/
def upsert (acc : List (String × NamedField)) (e : String × NamedField) : List (String × NamedField) :=
  if acc.any (fun x => x.1 == e.1) then acc.map (fun x => if x.1 == e.1 then (x.1, e.2) else x) else acc ++ [e]

/-- the comprehension over `reversed(getmro(cls))` -/
def resolveKV (h : Heap) (mro : List Nat) : List (String × NamedField) :=
  mro.reverse.foldl (fun acc i => (h.dictOf i).foldl upsert acc) []

/-- `tuple(schema)` as `(name, kind)` in order -/
def resolve (h : Heap) (mro : List Nat) : Fields := (resolveKV h mro).map (·.2)

def Heap.fields (h : Heap) (i : Nat) : Fields := resolve h (h.mroOf i)

/-! ### `Schema.__new__` -/

/-- `field.renamed(key)` when `not field.name` -/
def normName (key : String) : Option String → String
  | none => key
  | some n => if n = "" then key else n

/-- the maps of `existing` as (field name, key), in order; second component: `seen` -/
def baseMapsStep (st : List (String × String) × List String) (e : String × NamedField) :
    List (String × String) × List String :=
  if st.2.contains e.1 then st else (st.1 ++ [(e.2.1, e.1)], e.1 :: st.2)

def baseMaps (h : Heap) (bases : List Nat) : List (String × String) :=
  (bases.foldl (fun st b => (h.mroOf b).reverse.foldl (fun st c => (h.dictOf c).foldl baseMapsStep st) st) ([], [])).1

/-- the namespace loop; `ex` = `existing` as an association list (a write goes in front: `ChainMap` writes to the
first map, which is looked up first) -/
def addFields : List (String × String) → List (String × RawField) → Except SchemaErr (List (String × NamedField))
  | _, [] => .ok []
  | ex, (key, f) :: rest =>
    let name := normName key f.name
    match ex.lookup name with
    | some k' =>
      if k' = key then (addFields ((name, key) :: ex) rest).map ((key, (name, f.kind)) :: ·) else .error .grammarField
    | none => (addFields ((name, key) :: ex) rest).map ((key, (name, f.kind)) :: ·)

/-- number the entries from `i` on: `from_fields` keys `_i`; `from_record` names an unnamed value `c{i}` -/
def renumber (record : Bool) : Nat → List (String × RawField) → List (String × RawField)
  | _, [] => []
  | i, (_, f) :: rest =>
    ("_" ++ toString i, { f with name := if record && (f.name.isNone || f.name = some "") then some ("c" ++ toString i) else f.name })
      :: renumber record (i + 1) rest

/-- the namespace that reaches `Schema.__new__` -/
def Decl.prepared (d : Decl) : List (String × RawField) :=
  match d.via with
  | .fromFields => renumber false 0 d.ns
  | .fromRecord => renumber true 0 d.ns
  | _ => d.ns

/-- `Source.Schema(name, bases, namespace)` for the statement at position `self` -/
def newSchema (h : Heap) (self : Nat) (d : Decl) : Except SchemaErr Cls :=
  if d.bases.any (fun b => (h.cls? b).isNone) then .error .skipped else
  let maps := baseMaps h d.bases
  if !maps.isEmpty && maps.length > (maps.map (·.1)).eraseDups.length then .error .grammarBases else
  match addFields maps d.prepared with
  | .error e => .error e
  | .ok dict =>
    match mroNew h self d.bases with
    | none => .error .typeError
    | some mro => .ok { name := d.name, bases := d.bases, dict := dict, mro := mro }

/-- execute the statements after the heap `h` -/
def buildFrom (h : Heap) : List Decl → Heap
  | [] => h
  | d :: ds => buildFrom (h ++ [newSchema h h.length d]) ds

def buildAll (ds : List Decl) : Heap := buildFrom [] ds

/-- name of the class of the table: the statement's name for `class N(dsl.Schema)`, `Table` for `dsl.Table(schema)` -/
def Decl.tableName (d : Decl) : String :=
  match d.via with
  | .declared => d.name
  | _ => "Table"

/-- the table of statement `i` in the shared AST -/
def tableOf (ds : List Decl) (h : Heap) (i : Nat) : Option Source :=
  match ds[i]?, h.cls? i with
  | some d, some _ => some (.table d.tableName (h.fields i))
  | _, _ => none

/-! ### the `copyreg` reducer -/

/-- the namespace the reducer emits: keyed by the attribute key, every field named -/
def Cls.reducedNs (c : Cls) : List (String × RawField) := c.dict.map fun e => (e.1, { kind := e.2.2, name := some e.2.1 })

/-- `(Schema, (name, bases, namespace))` as a class statement (a statement that raised stays what it was) -/
def reduceDecl (d : Decl) : Except SchemaErr Cls → Decl
  | .ok c => { via := if d.via = .declared then .declared else .metaclass, name := c.name, bases := c.bases, ns := c.reducedNs }
  | .error _ => d

/-- what `pickle` writes for the classes of a heap: every class once, bases first -/
def encode : List Decl → Heap → List Decl
  | d :: ds, r :: rs => reduceDecl d r :: encode ds rs
  | _, _ => []

/-! ### `Schema.__eq__` / `__hash__` -/

/-- `Field.__eq__`: the named tuple `(kind, name)` -/
def fieldEq (a b : NamedField) : Bool := Kind.implEq a.2 b.2 && a.1 == b.1

/-- `isinstance(other, Schema) and len(cls) == len(other) and all(c == o for c, o in zip(cls, other))` -/
def schemaEq (a b : Fields) : Bool := a.length == b.length && (a.zip b).all fun p => fieldEq p.1 p.2

/-! ### kind singletons -/

/-- the primitive kind classes -/
inductive Prim where
  | boolean | integer | float | decimal | string | date | timestamp
  deriving DecidableEq, Repr

def Prim.kind : Prim → Kind
  | .boolean => .boolean | .integer => .integer | .float => .float | .decimal => .decimal
  | .string => .string | .date => .date | .timestamp => .timestamp

/-- an instance: its class and its identity -/
structure KObj where
  cls : Prim
  id : Nat
  deriving DecidableEq, Repr

/-- the closure cells of the primitive classes (filled ones only) and the next free identity -/
structure KReg where
  cells : List (Prim × Nat)
  next : Nat
  deriving Repr

def KReg.empty : KReg := { cells := [], next := 0 }

/-- `cls()` -/
def KReg.new (r : KReg) (c : Prim) : KReg × KObj :=
  match r.cells.lookup c with
  | some i => (r, { cls := c, id := i })
  | none => ({ cells := (c, r.next) :: r.cells, next := r.next + 1 }, { cls := c, id := r.next })

/-- a history of instantiations -/
def KReg.run : KReg → List Prim → List KObj
  | _, [] => []
  | r, c :: cs => (r.new c).2 :: KReg.run (r.new c).1 cs

/-- `Any.__eq__`: `other.__class__ == self.__class__` -/
def KObj.eq (a b : KObj) : Bool := decide (a.cls = b.cls)

/-! ### `kind.reflect` -/

mutual
/-- python values handed to `reflect` / `Literal` / `from_record` -/
inductive PyVal where
  | int (n : Int) | bool (b : Bool) | str (s : String) | float (repr : String) | decimal (s : String)
  | date (iso : String) | datetime (iso : String)
  | list (items : PyVals)
  | dict (keys values : PyVals)
inductive PyVals where
  | nil
  | cons (v : PyVal) (vs : PyVals)
end

/-- python type of a value, as far as `isinstance` needs it -/
inductive PyType where
  | int | bool | str | float | decimal | date | datetime | list | dict
  deriving DecidableEq, Repr

def PyVal.type : PyVal → PyType
  | .int _ => .int | .bool _ => .bool | .str _ => .str | .float _ => .float | .decimal _ => .decimal
  | .date _ => .date | .datetime _ => .datetime | .list _ => .list | .dict _ _ => .dict

/-- `isinstance(v, t)` for `t = type(first)`: `bool ⊂ int`, `datetime ⊂ date` -/
def PyType.isInstance (v t : PyType) : Bool :=
  v == t || (v == .bool && t == .int) || (v == .datetime && t == .date)

/-- `same(seq)`: every later element is an instance of the type of the first -/
def PyVals.same : PyVals → Bool
  | .nil => true   -- not reached: the callers pass non-empty sequences
  | .cons v vs =>
    let rec go : PyVals → Bool
      | .nil => true
      | .cons w ws => w.type.isInstance v.type && go ws
    go vs

/-- the keys of a `Struct(**…)`: strings -/
def PyVals.strs : PyVals → Option (List String)
  | .nil => some []
  | .cons (.str s) vs => (PyVals.strs vs).map (s :: ·)
  | .cons _ _ => none

def PyVals.isNil : PyVals → Bool
  | .nil => true
  | .cons _ _ => false

mutual
def PyVal.reflect : PyVal → Option Kind
  | .bool _ => some .boolean
  | .int _ => some .integer
  | .float _ => some .float
  | .decimal _ => some .decimal
  | .str _ => some .string
  | .datetime _ => some .timestamp
  | .date _ => some .date
  | .list items => items.headReflect.map .array
  | .dict keys vals =>
    if keys.isNil || vals.isNil then none
    else if keys.same then
      match keys.headReflect with
      | some kk =>
        if vals.same then vals.headReflect.map (.map kk)
        else if kk = .string then
          match keys.strs, vals.reflectAll with
          | some ns, some ks => some (.struct ns ks)
          | _, _ => none
        else none
      | none => none
    else none
/-- `reflect(value[0])` of a non-empty sequence -/
def PyVals.headReflect : PyVals → Option Kind
  | .nil => none
  | .cons v _ => v.reflect
/-- `{k: reflect(v) for k, v in value.items()}` -/
def PyVals.reflectAll : PyVals → Option Kinds
  | .nil => some .nil
  | .cons v vs =>
    match v.reflect, vs.reflectAll with
    | some k, some ks => some (.cons k ks)
    | _, _ => none
end

/-! ### anonymous references (`frame.Reference.__new__` without a name) -/

/-- How a process names its anonymous references: a function of the process (whatever distinguishes one interpreter
from another: its entropy, its start-up state) and of the number of names it has drawn before.
`Reference.__new__`: `''.join(random.choice(string.ascii_lowercase) for _ in range(8))` — the module-level
`random` generator is seeded from the operating system when the interpreter starts. -/
abbrev AnonNamer (P : Type) := P → Nat → String

/-- the `i`-th anonymous reference to `s` made by process `p`, as it is anywhere after pickling: the reducer ships
`(instance, name)` (`Source.__getnewargs__`), nothing else of the reference's origin survives -/
def anonRef {P : Type} (name : AnonNamer P) (s : Source) (p : P) (i : Nat) : Source := .ref s (name p i)

/-- a per-process serial (`ref1`, `ref2`, …): the same in every process -/
def counterNamer {P : Type} : AnonNamer P := fun _ i => "ref" ++ toString (i + 1)

/-! ### wire format -/

open ForML (Sexp)

def Via.ofWire : String → Option Via
  | "decl" => some .declared | "meta" => some .metaclass | "fields" => some .fromFields | "record" => some .fromRecord
  | _ => none

def rawFieldOfSexp : Sexp → Option (String × RawField)
  | .list [.atom key, .atom "noname", k] => (Kind.ofSexp k).map fun k => (key, { kind := k, name := none })
  | .list [.atom key, .list [.atom "name", .atom n], k] => (Kind.ofSexp k).map fun k => (key, { kind := k, name := some n })
  | _ => none

def Decl.ofSexp : Sexp → Option Decl
  | .list [.atom via, .atom name, bases, .list ns] => do
    pure { via := ← Via.ofWire via, name := name, bases := ← bases.natList?, ns := ← ns.mapM rawFieldOfSexp }
  | _ => none

def SchemaErr.wire : SchemaErr → String
  | .grammarBases => "grammar-bases" | .grammarField => "grammar-field" | .typeError => "type-error" | .skipped => "skipped"

def Prim.ofWire : String → Option Prim
  | "boolean" => some .boolean | "integer" => some .integer | "float" => some .float | "decimal" => some .decimal
  | "string" => some .string | "date" => some .date | "timestamp" => some .timestamp | _ => none

def Prim.wire (p : Prim) : String := p.kind.className.toLower

def PyVals.ofList : List PyVal → PyVals
  | [] => .nil
  | v :: vs => .cons v (PyVals.ofList vs)

partial def PyVal.ofSexp : Sexp → Option PyVal
  | .list [.atom "int", n] => n.int?.map .int
  | .list [.atom "bool", .atom "true"] => some (.bool true)
  | .list [.atom "bool", .atom "false"] => some (.bool false)
  | .list [.atom "str", .atom s] => some (.str s)
  | .list [.atom "float", .atom s] => some (.float s)
  | .list [.atom "decimal", .atom s] => some (.decimal s)
  | .list [.atom "date", .atom s] => some (.date s)
  | .list [.atom "datetime", .atom s] => some (.datetime s)
  | .list (.atom "list" :: vs) => (vs.mapM PyVal.ofSexp).map fun vs => .list (PyVals.ofList vs)
  | .list (.atom "dict" :: kvs) => do
    let pairs ← kvs.mapM fun kv => match kv with
      | .list [k, v] => do pure (← PyVal.ofSexp k, ← PyVal.ofSexp v)
      | _ => none
    pure (.dict (PyVals.ofList (pairs.map (·.1))) (PyVals.ofList (pairs.map (·.2))))
  | _ => none

end ForML.Dsl
