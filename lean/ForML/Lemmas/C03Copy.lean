/-
`Segment.copy` (`copyNodes`, `copyEdges`) as explicit graph successors: one fork per copied node (same group, actor and
shape; a `Future` for a `Future`), then, between the copies, every subscription whose two ends have been copied — in
closed form the images of the subscriptions, appended in order (`addEdges_eq`).
-/
import ForML.Lemmas.C03Reach

namespace ForML.Compose

theorem run_forkNode (n : Node) (g : Graph) : Run (forkNode n) g g.next (g.bump.pushNode ⟨g.next, n.kind⟩) := by
  obtain ⟨uid, kind⟩ := n
  cases kind with
  | future => rfl
  | worker gid a szin szout => rfl

/-- the graph after `copyNodes ns` -/
def addCopies : Graph → List Node → Graph
  | g, [] => g
  | g, n :: rest => addCopies (g.bump.pushNode ⟨g.next, n.kind⟩) rest

/-- the map `copyNodes ns` returns when started with `next = base` -/
def copyMap : Nat → List Node → List (Nat × Nat)
  | _, [] => []
  | base, n :: rest => (n.uid, base) :: copyMap (base + 1) rest

theorem run_copyNodes : ∀ (ns : List Node) (g : Graph), Run (copyNodes ns) g (copyMap g.next ns) (addCopies g ns) := by
  intro ns
  induction ns with
  | nil => intro g; rfl
  | cons n rest ih =>
    intro g
    unfold copyNodes
    refine Run.bind (run_forkNode n g) (Run.bind (ih _) ?_)
    exact Run.pure _ _

theorem addCopies_next : ∀ (ns : List Node) (g : Graph), (addCopies g ns).next = g.next + ns.length := by
  intro ns
  induction ns with
  | nil => intro g; rfl
  | cons n rest ih => intro g; simp only [addCopies, ih, List.length_cons]; simp; omega

theorem addCopies_edges : ∀ (ns : List Node) (g : Graph), (addCopies g ns).edges = g.edges := by
  intro ns
  induction ns with
  | nil => intro g; rfl
  | cons n rest ih => intro g; simp only [addCopies, ih]; rfl

theorem addCopies_trains : ∀ (ns : List Node) (g : Graph), (addCopies g ns).trains = g.trains := by
  intro ns
  induction ns with
  | nil => intro g; rfl
  | cons n rest ih => intro g; simp only [addCopies, ih]; rfl

theorem addCopies_inputOf (ns : List Node) (g : Graph) (u k : Nat) : (addCopies g ns).inputOf u k = g.inputOf u k := by
  unfold Graph.inputOf; rw [addCopies_edges]

theorem addCopies_trainerOf (ns : List Node) (g : Graph) (gid : Nat) : (addCopies g ns).trainerOf gid = g.trainerOf gid := by
  unfold Graph.trainerOf; rw [addCopies_trains]

theorem addCopies_kindOf_old : ∀ (ns : List Node) (g : Graph) (u : Nat), u < g.next →
    (addCopies g ns).kindOf u = g.kindOf u := by
  intro ns
  induction ns with
  | nil => intro g u _; rfl
  | cons n rest ih =>
    intro g u hu
    simp only [addCopies]
    rw [ih _ u (by simp; omega), kindOf_pushNode, kindOf_bump]
    have : ¬ g.next = u := by omega
    simp [this]

theorem addCopies_frame (ns : List Node) (g : Graph) : Frame g (addCopies g ns) :=
  ⟨by rw [addCopies_next]; omega, fun u hu => addCopies_kindOf_old ns g u hu, fun u k _ => addCopies_inputOf ns g u k,
    fun gid _ => addCopies_trainerOf ns g gid⟩

theorem addCopies_wired : ∀ (ns : List Node) (g : Graph), Wired g → Wired (addCopies g ns) := by
  intro ns
  induction ns with
  | nil => intro g h; exact h
  | cons n rest ih => intro g h; exact ih _ (h.bump.pushNode _)

theorem addCopies_bounded : ∀ (ns : List Node) (g : Graph), Bounded g →
    (∀ n ∈ ns, ∀ gid a i o, n.kind = .worker gid a i o → gid < g.next) → Bounded (addCopies g ns) := by
  intro ns
  induction ns with
  | nil => intro g h _; exact h
  | cons n rest ih =>
    intro g h hg
    refine ih _ (h.bump.pushNode _ (by simp) ?_) ?_
    · intro gid a i o hk
      have := hg n List.mem_cons_self gid a i o hk
      simp; omega
    · intro m hm gid a i o hk
      have := hg m (List.mem_cons_of_mem _ hm) gid a i o hk
      simp; omega

def origOf (copies : List (Nat × Nat)) (c : Nat) : Option Nat := (copies.find? (fun e => e.2 == c)).map (·.1)

theorem copyMap_lookup : ∀ (ns : List Node) (g : Graph) (u c : Nat), (∀ m ∈ g.nodes, m.uid < g.next) →
    (copyMap g.next ns).lookup u = some c →
    (g.next ≤ c ∧ c < g.next + ns.length) ∧ origOf (copyMap g.next ns) c = some u ∧
      ∃ n, ns.find? (fun n => n.uid == u) = some n ∧ (addCopies g ns).kindOf c = some n.kind := by
  intro ns
  induction ns with
  | nil => intro g u c _ h; simp [copyMap] at h
  | cons n rest ih =>
    intro g u c hnl h
    simp only [copyMap, List.lookup] at h
    cases hu : (u == n.uid) with
    | true =>
      rw [hu] at h
      cases h
      have e : n.uid = u := (beq_iff_eq.mp hu).symm
      refine ⟨⟨Nat.le_refl _, by simp⟩, by simp [origOf, copyMap, e], n, List.find?_cons_of_pos (by simpa using e), ?_⟩
      exact (addCopies_kindOf_old rest _ _ (Nat.lt_succ_self _)).trans
        (kindOf_pushNode_self (n := ⟨g.next, n.kind⟩) (kindOf_eq_none fun m hm => Nat.ne_of_lt (hnl m hm)))
    | false =>
      rw [hu] at h
      have hne : ¬ n.uid = u := fun e => by rw [← e] at hu; simp at hu
      obtain ⟨⟨h1, h2⟩, ho, m, hm, hk⟩ := ih (g.bump.pushNode ⟨g.next, n.kind⟩) u c
        (forall_mem_push (fun m hm => Nat.lt_succ_of_lt (hnl m hm)) (Nat.lt_succ_self _)) h
      rw [show (g.bump.pushNode ⟨g.next, n.kind⟩).next = g.next + 1 from rfl] at h1 h2
      refine ⟨⟨Nat.le_of_succ_le h1, by simp only [List.length_cons]; omega⟩, ?_, m,
        (List.find?_cons_of_neg (by simpa using hne)).trans hm, hk⟩
      unfold origOf at ho ⊢
      simp only [copyMap]
      rw [List.find?_cons_of_neg (by simp; omega)]
      exact ho

theorem copyMap_some : ∀ (ns : List Node) (base u : Nat), (∃ n ∈ ns, n.uid = u) → ∃ c, (copyMap base ns).lookup u = some c := by
  intro ns
  induction ns with
  | nil => intro base u h; obtain ⟨n, hn, _⟩ := h; cases hn
  | cons n rest ih =>
    intro base u h
    simp only [copyMap, List.lookup]
    cases hu : (u == n.uid) with
    | true => exact ⟨base, rfl⟩
    | false =>
      obtain ⟨m, hm, hmu⟩ := h
      rcases List.mem_cons.mp hm with e | hm'
      · subst e; subst hmu; simp at hu
      · exact ih _ _ ⟨m, hm', hmu⟩

theorem find?_filter_uid (P : Nat → Bool) (u : Nat) (l : List Node) :
    (l.filter (fun n => P n.uid)).find? (fun n => n.uid == u) = if P u then l.find? (fun n => n.uid == u) else none := by
  rw [List.find?_filter]
  by_cases h : P u = true
  · rw [if_pos h]
    congr 1
    funext a
    by_cases ha : a.uid = u <;> simp [ha, h]
  · rw [if_neg h]
    apply List.find?_eq_none.mpr
    intro a _
    by_cases ha : a.uid = u <;> simp [ha, h]

/-- image of one subscription under the copy map (both ends must have a copy) -/
def edgeImage (copies : List (Nat × Nat)) (e : Edge) : Option Edge :=
  match copies.lookup e.sub, copies.lookup e.pub.node with
  | some s, some p => some ⟨s, e.port, ⟨p, e.pub.idx⟩⟩
  | _, _ => none

theorem edgeImage_eq_some {copies : List (Nat × Nat)} {e e' : Edge} (h : edgeImage copies e = some e') :
    ∃ s p, copies.lookup e.sub = some s ∧ copies.lookup e.pub.node = some p ∧ e' = ⟨s, e.port, ⟨p, e.pub.idx⟩⟩ := by
  unfold edgeImage at h
  split at h
  · exact ⟨_, _, ‹_›, ‹_›, (Option.some.inj h).symm⟩
  · cases h

def Graph.pushImg (g : Graph) : Option Edge → Graph
  | none => g
  | some e => g.pushEdge e

/-- the graph after `copyEdges copies es` -/
def addEdges (copies : List (Nat × Nat)) : Graph → List Edge → Graph
  | g, [] => g
  | g, e :: rest => addEdges copies (g.pushImg (edgeImage copies e)) rest

/-- one step of `copyEdges`: the image of the subscription, if it has one, is subscribed -/
theorem copyEdges_cons (copies : List (Nat × Nat)) (e : Edge) (rest : List Edge) :
    copyEdges copies (e :: rest) = (do
      match edgeImage copies e with
      | some e' => subscribe e'.sub e'.port e'.pub
      | none => pure ()
      copyEdges copies rest) := by
  rw [copyEdges]
  unfold edgeImage
  cases copies.lookup e.sub <;> cases copies.lookup e.pub.node <;> rfl

theorem copyEdges_spec (copies : List (Nat × Nat)) : ∀ (es : List Edge) (ga : Graph), Bounded ga → Wired ga →
    (∀ e ∈ es, ∀ e', edgeImage copies e = some e' →
      ga.inputOf e'.sub e'.port = none ∧ e'.sub < ga.next ∧ e'.pub.node < ga.next) →
    es.Pairwise (fun a b => ∀ a' b', edgeImage copies a = some a' → edgeImage copies b = some b' →
      ¬ (a'.sub = b'.sub ∧ a'.port = b'.port)) →
    Run (copyEdges copies es) ga () (addEdges copies ga es) ∧ Bounded (addEdges copies ga es) ∧
      Wired (addEdges copies ga es) := by
  intro es
  induction es with
  | nil => intro ga hb hw _ _; exact ⟨rfl, hb, hw⟩
  | cons e rest ih =>
    intro ga hb hw hs hpw
    rw [List.pairwise_cons] at hpw
    have hrest := fun e1 h1 => hs e1 (List.mem_cons_of_mem _ h1)
    rw [copyEdges_cons, addEdges]
    cases himg : edgeImage copies e with
    | none =>
      obtain ⟨r, b, w⟩ := ih ga hb hw hrest hpw.2
      exact ⟨Run.bind (Run.pure _ _) r, b, w⟩
    | some e' =>
      obtain ⟨hf, hsub, hpub⟩ := hs e List.mem_cons_self _ himg
      -- the images of the remaining subscriptions are on other ports, hence still free
      obtain ⟨r, b, w⟩ := ih (ga.pushEdge e') (hb.pushEdge _ hsub) (hw.pushEdge _ hpub hf)
        (fun e1 h1 e1' himg1 =>
          have ⟨f1, s1, p1⟩ := hrest e1 h1 e1' himg1
          ⟨by rw [inputOf_pushEdge, f1, if_neg (hpw.1 e1 h1 _ _ himg himg1)]; rfl, s1, p1⟩)
        hpw.2
      exact ⟨Run.bind (run_subscribe _ _ _ ga hf) r, b, w⟩

theorem addEdges_eq (copies : List (Nat × Nat)) : ∀ (es : List Edge) (ga : Graph),
    addEdges copies ga es = { ga with edges := ga.edges ++ es.filterMap (edgeImage copies) } := by
  intro es
  induction es with
  | nil => intro ga; simp [addEdges]
  | cons e rest ih =>
    intro ga
    rw [addEdges, ih]
    cases h : edgeImage copies e with
    | none => rw [List.filterMap_cons_none h]; rfl
    | some e' => rw [List.filterMap_cons_some h]; simp [Graph.pushImg, Graph.pushEdge]

theorem addEdges_next (copies : List (Nat × Nat)) (es : List Edge) (ga : Graph) : (addEdges copies ga es).next = ga.next := by
  rw [addEdges_eq]

theorem addEdges_trains (copies : List (Nat × Nat)) (es : List Edge) (ga : Graph) :
    (addEdges copies ga es).trains = ga.trains := by
  rw [addEdges_eq]

theorem addEdges_kindOf (copies : List (Nat × Nat)) (es : List Edge) (ga : Graph) (u : Nat) :
    (addEdges copies ga es).kindOf u = ga.kindOf u := by
  rw [addEdges_eq]; rfl

theorem origOf_none_of_lt : ∀ (ns : List Node) (base c : Nat), c < base → origOf (copyMap base ns) c = none := by
  intro ns
  induction ns with
  | nil => intro base c _; rfl
  | cons n rest ih =>
    intro base c hc
    unfold origOf
    simp only [copyMap]
    rw [List.find?_cons_of_neg (by simp; omega)]
    exact ih (base + 1) c (by omega)

end ForML.Compose
