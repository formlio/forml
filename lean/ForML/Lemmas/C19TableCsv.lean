/-
Rows and columns of a rectangular table, the tokeniser of `read_csv` against the `csv.writer` text (quoting included),
and single cells through writer and type inference.
-/
import ForML.Lemmas.C19TableNum

namespace ForML.Codec

theorem getD'_map (l : List α) (f : α → β) (j : Nat) (d : β) (hj : j < l.length) :
    getD' (l.map f) j d = f l[j] := by
  simp [getD', hj]

theorem getD'_mem (l : List α) (i : Nat) (d : α) (h : i < l.length) : getD' l i d ∈ l := by
  simp [getD', h]

theorem range_map_getD' (l : List α) (d : α) : (List.range l.length).map (fun i => getD' l i d) = l := by
  apply List.ext_getElem
  · simp
  · intro i h1 h2
    simp [getD', (by simpa using h1 : i < l.length)]

theorem col_of_toRows (cols : List (List α)) (d : α) (n : Nat) (hn : ∀ c ∈ cols, c.length = n) (j : Nat) (hj : j < cols.length) :
    (toRows cols d n).map (fun r => getD' r j d) = cols[j] := by
  unfold toRows rowAt
  rw [List.map_map]
  have hlen : cols[j].length = n := hn _ (List.getElem_mem hj)
  have : ((fun r => getD' r j d) ∘ fun i => cols.map (fun c => getD' c i d)) = fun i => getD' cols[j] i d := by
    funext i
    simp only [Function.comp]
    exact getD'_map cols (fun c => getD' c i d) j d hj
  rw [this, ← hlen, range_map_getD']

theorem toCols_toRows (cols : List (List α)) (d : α) (n : Nat) (hn : ∀ c ∈ cols, c.length = n) :
    toCols (toRows cols d n) d cols.length = cols := by
  unfold toCols
  apply List.ext_getElem
  · simp
  · intro j h1 h2
    have hj : j < cols.length := by simpa using h1
    simp only [List.getElem_map, List.getElem_range]
    exact col_of_toRows cols d n hn j hj

theorem toRows_length (cols : List (List α)) (d : α) (n : Nat) : (toRows cols d n).length = n := by
  simp [toRows]

theorem toRows_row_length (cols : List (List α)) (d : α) (n : Nat) : ∀ r ∈ toRows cols d n, r.length = cols.length := by
  intro r hr
  simp only [toRows, List.mem_map, List.mem_range] at hr
  obtain ⟨i, _, rfl⟩ := hr
  simp [rowAt]

/-- a field the reader takes apart as the writer meant it: a carriage return only inside quotes -/
def fieldOK (f : Str) : Bool := !f.contains '\r' || needsQuote f

/-- a record the reader keeps: at least one field, fields fine, not a line of blanks only -/
def recordOK (fields : List Str) : Bool :=
  !fields.isEmpty && fields.all fieldOK &&
  (match fields with
   | [f] => f.isEmpty || !f.all blank
   | _ => true)

/-- an ordinary character of an unquoted field -/
def plainChar (c : Char) : Bool := c != ',' && c != '"' && c != '\n' && c != '\r'

theorem plain_of_unquoted (f : Str) (hq : needsQuote f = false) (hok : fieldOK f = true) : f.all plainChar = true := by
  unfold fieldOK at hok
  rw [hq, Bool.or_false] at hok
  unfold needsQuote at hq
  rw [List.all_eq_true]
  intro c hc
  have h1 : (c == ',' || c == '"' || c == '\n') = false := by
    have := List.any_eq_false.mp hq c hc
    simpa using this
  have h2 : c ≠ '\r' := by
    intro e; subst e
    have hcont : f.contains '\r' = true := by simpa using hc
    rw [hcont] at hok; simp at hok
  simp only [Bool.or_eq_false_iff, beq_eq_false_iff_ne, ne_eq] at h1
  simp [plainChar, h1.1.1, h1.1.2, h1.2, h2]

theorem scan_plain (f rest : Str) (field : Str) (record : List Str) (sq : Bool) (h : f.all plainChar = true) :
    csvScan .inField field record sq (f ++ rest) = csvScan .inField (f.reverse ++ field) record sq rest := by
  induction f generalizing field with
  | nil => rfl
  | cons c r ih =>
    simp only [List.all_cons, Bool.and_eq_true, plainChar, bne_iff_ne, ne_eq] at h
    obtain ⟨⟨⟨⟨h1, _⟩, h3⟩, h4⟩, hr⟩ := h
    rw [List.cons_append, csvScan]
    simp only [beq_iff_eq, Bool.or_eq_true, h1, h3, h4, or_self, if_false]
    rw [ih _ hr, List.reverse_cons, List.append_assoc, List.singleton_append]

/-- scanning the body of a quoted field up to its closing quote -/
theorem scan_quoted (f rest : Str) (field : Str) (record : List Str) (sq : Bool) :
    csvScan .inQuoted field record sq (doubleQuotes f ++ '"' :: rest) = csvScan .quoteInQuoted (f.reverse ++ field) record sq rest := by
  induction f generalizing field with
  | nil => simp [doubleQuotes, csvScan]
  | cons c r ih =>
    by_cases hc : c = '"'
    · subst hc
      simp only [doubleQuotes, beq_self_eq_true, if_true, List.cons_append]
      rw [csvScan]; simp only [beq_self_eq_true, if_true]
      rw [csvScan]; simp only [beq_self_eq_true, if_true]
      rw [ih]; simp
    · have : (c == '"') = false := by simp [hc]
      simp only [doubleQuotes, this, Bool.false_eq_true, if_false, List.cons_append]
      rw [csvScan]; simp only [this, Bool.false_eq_true, if_false]
      rw [ih]; simp

theorem scan_field (f rest : Str) (record : List Str) (sq : Bool) (hok : fieldOK f = true) :
    csvScan .startField [] record sq (csvField f ++ rest) =
      if needsQuote f then csvScan .quoteInQuoted f.reverse record true rest
      else if f.isEmpty then csvScan .startField [] record sq rest
      else csvScan .inField f.reverse record sq rest := by
  unfold csvField
  cases hq : needsQuote f with
  | true =>
    simp only [if_true, List.cons_append, List.append_assoc, List.nil_append]
    rw [csvScan]
    simp only [beq_self_eq_true, if_true]
    rw [scan_quoted, List.append_nil]
  | false =>
    simp only [Bool.false_eq_true, if_false]
    have hp := plain_of_unquoted f hq hok
    cases f with
    | nil => rfl
    | cons c r =>
      simp only [List.all_cons, Bool.and_eq_true, plainChar, bne_iff_ne, ne_eq] at hp
      obtain ⟨⟨⟨⟨h1, h2⟩, h3⟩, h4⟩, hr⟩ := hp
      rw [List.cons_append, csvScan]
      simp only [beq_iff_eq, Bool.or_eq_true, h1, h2, h3, h4, or_self, if_false, List.isEmpty_cons, Bool.false_eq_true]
      rw [scan_plain r rest [c] record sq hr, List.reverse_cons]

/-- after a written field and a comma the reader has the field and stands at the start of the next one -/
theorem scan_field_comma (f rest : Str) (record : List Str) (sq : Bool) (hok : fieldOK f = true) :
    csvScan .startField [] record sq (csvField f ++ ',' :: rest) = csvScan .startField [] (f :: record) (sq || needsQuote f) rest := by
  rw [scan_field f _ record sq hok]
  cases needsQuote f with
  | true => simp [csvScan]
  | false => cases f <;> simp [csvScan]

/-- after a written field and a line feed the reader closes the record -/
theorem scan_field_lf (f rest : Str) (record : List Str) (sq : Bool) (hok : fieldOK f = true) :
    csvScan .startField [] record sq (csvField f ++ '\n' :: rest) =
      (if keepRecord (f :: record).reverse (sq || needsQuote f) then [(f :: record).reverse] else []) ++ csvScan .startField [] [] false rest := by
  rw [scan_field f _ record sq hok]
  cases needsQuote f with
  | true => simp [csvScan]
  | false => cases f <;> simp [csvScan]

/-- a written record (not the one-empty-field special case) read with `record` already collected -/
theorem scan_record (fs : List Str) (rest : Str) (record : List Str) (sq : Bool) (hne : fs ≠ []) (hok : ∀ f ∈ fs, fieldOK f = true) :
    csvScan .startField [] record sq (joinWith ',' (fs.map csvField) ++ '\n' :: rest) =
      (if keepRecord (record.reverse ++ fs) (sq || fs.any needsQuote) then [record.reverse ++ fs] else []) ++
        csvScan .startField [] [] false rest := by
  induction fs generalizing record sq with
  | nil => exact absurd rfl hne
  | cons f r ih =>
    cases r with
    | nil =>
      simp only [List.map_cons, List.map_nil, joinWith]
      rw [scan_field_lf f rest record sq (hok f (by simp))]
      simp
    | cons g r' =>
      simp only [List.map_cons, joinWith, List.append_assoc, List.cons_append]
      rw [scan_field_comma f _ record sq (hok f (by simp))]
      have := ih (f :: record) (sq || needsQuote f) (by simp) (fun x hx => hok x (List.mem_cons_of_mem _ hx))
      simp only [List.map_cons] at this
      rw [this]
      simp only [List.reverse_cons, List.append_assoc, List.singleton_append, List.any_cons, Bool.or_assoc]
      rfl

theorem scan_line (fs : List Str) (rest : Str) (hok : recordOK fs = true) :
    csvScan .startField [] [] false (csvLine fs ++ rest) = fs :: csvScan .startField [] [] false rest := by
  unfold recordOK at hok
  simp only [Bool.and_eq_true, Bool.not_eq_true', List.all_eq_true] at hok
  obtain ⟨⟨hne, hf⟩, hkeep⟩ := hok
  have hne' : fs ≠ [] := by intro e; subst e; simp at hne
  by_cases hspecial : fs = [[]]
  · subst hspecial
    simp [csvLine, csvScan, keepRecord]
  · have hline : csvLine fs = joinWith ',' (fs.map csvField) ++ ['\n'] := by
      unfold csvLine
      split
      · exact absurd rfl hspecial
      · rfl
    rw [hline, List.append_assoc, List.singleton_append, scan_record fs rest [] false hne' hf]
    have hk : keepRecord fs (fs.any needsQuote) = true := by
      unfold keepRecord
      split
      · rename_i f
        simp only [List.any_cons, List.any_nil, Bool.or_false]
        simp only at hkeep
        cases hq : needsQuote f with
        | true => simp
        | false =>
          simp only [Bool.false_or, Bool.not_eq_true']
          have hfne : f ≠ [] := by intro e; subst e; exact hspecial rfl
          have : f.isEmpty = false := by cases f <;> simp_all
          simp only [this, Bool.false_or, Bool.not_eq_true'] at hkeep
          simpa [blank] using hkeep
      · rfl
    simp only [List.reverse_nil, List.nil_append, Bool.false_or, hk, if_true, List.singleton_append]

/-- the reader's tokeniser inverts the writer on every list of records it can take apart -/
theorem csvRead_csvText (records : List (List Str)) (hok : ∀ r ∈ records, recordOK r = true) :
    csvRead (csvText records) = records := by
  unfold csvRead csvText
  induction records with
  | nil => simp [csvScan]
  | cons r rs ih =>
    simp only [List.flatMap_cons]
    rw [scan_line r _ (hok r (by simp)), ih (fun x hx => hok x (List.mem_cons_of_mem _ hx))]

theorem intText_eq (i : Int) : intText i = numText (decide (i < 0)) (natText i.natAbs) none := by
  unfold intText numText numBody
  by_cases h : i < 0 <;> simp [h]

theorem natText_wf (n : Nat) (fp : Option Str) (hf : ∀ f, fp = some f → f.all isDigit = true) : numWF (natText n) fp :=
  ⟨⟨(natText_spec n).2.1, hf⟩, (natText_spec n).2.2⟩

/-- `f` is a fit text for the cell `v` of a numeric column -/
def NumCell (v : Val) (f : Str) : Prop :=
  (v = .null ∧ f = []) ∨ (isNA f = false ∧ looksNumber f = true ∧ (readNumber f).same v = true)

theorem numCell_int (i : Int) : NumCell (.int i) (csvCell false (.int i)) := by
  right
  have hwf := natText_wf i.natAbs none (by intro f h; cases h)
  simp only [csvCell, Bool.false_eq_true, if_false, intText_eq]
  refine ⟨numText_notNA _ _ _ hwf, numText_looksNumber _ _ _ hwf, ?_⟩
  rw [numText_read_int _ _ hwf, (natText_spec i.natAbs).1]
  simp only [Val.same, beq_iff_eq, decide_eq_true_eq]
  split <;> omega

theorem numCell_int_float (i : Int) : NumCell (.int i) (csvCell true (.int i)) := by
  right
  have hwf := natText_wf i.natAbs (some ['0']) (by intro f h; cases h; decide)
  have htext : csvCell true (.int i) = numText (decide (i < 0)) (natText i.natAbs) (some ['0']) := by
    simp only [csvCell, if_true, intText_eq]
    simp [numText, numBody]
  rw [htext]
  refine ⟨numText_notNA _ _ _ hwf, numText_looksNumber _ _ _ hwf, ?_⟩
  rw [numText_read_float _ _ _ hwf, digitsVal_snoc, (natText_spec i.natAbs).1]
  simp only [Val.same, List.length_singleton, beq_iff_eq, decide_eq_true_eq, Nat.sub_self]
  split <;> omega

/-- the text of a float: the padded digits cut `scale` places from the right, `.0` when nothing is cut -/
theorem floatText_eq (neg : Bool) (d : Dec) :
    ∃ ip fp, floatText neg d = numText neg ip (some fp) ∧ numWF ip (some fp) ∧
      Dec.same ⟨digitsVal (ip ++ fp), fp.length⟩ d = true := by
  obtain ⟨hval, hdig, hlen⟩ := padDigits_spec d.n (d.scale + 1)
  simp only [floatText]
  generalize padDigits d.n (d.scale + 1) = ds at hval hdig hlen
  have hsplit := List.take_append_drop (ds.length - d.scale) ds
  have hil : (ds.take (ds.length - d.scale)).length ≠ 0 := by rw [List.length_take]; omega
  have hfl : (ds.drop (ds.length - d.scale)).length = d.scale := by rw [List.length_drop]; omega
  generalize ds.take (ds.length - d.scale) = ip at *
  generalize ds.drop (ds.length - d.scale) = fp at *
  subst hsplit
  rw [List.all_append, Bool.and_eq_true] at hdig
  have hne : ip ≠ [] := fun e => hil (by rw [e]; rfl)
  cases fp with
  | nil =>
    refine ⟨ip, ['0'], by simp [numText, numBody], ⟨⟨hdig.1, by intro f h; cases h; decide⟩, hne⟩, ?_⟩
    rw [List.append_nil] at hval
    rw [digitsVal_snoc, hval]
    simp [Dec.same, ← hfl, Nat.mul_comm]
  | cons c r =>
    refine ⟨ip, c :: r, by simp [numText, numBody], ⟨⟨hdig.1, by intro f h; cases h; exact hdig.2⟩, hne⟩, ?_⟩
    simp [Dec.same, hval, hfl]

theorem numCell_float (neg : Bool) (d : Dec) : NumCell (.float neg d) (csvCell false (.float neg d)) := by
  right
  obtain ⟨ip, fp, htext, hwf, hsame⟩ := floatText_eq neg d
  simp only [csvCell]
  rw [htext]
  refine ⟨numText_notNA _ _ _ hwf, numText_looksNumber _ _ _ hwf, ?_⟩
  rw [numText_read_float _ _ _ hwf]
  simp only [Val.same, hsame, Bool.and_true, BEq.rfl, Bool.or_true]

theorem isNA_nil : isNA [] = true := by decide

theorem sameCells_map (cells : List Val) (f : Val → Val) (h : ∀ v ∈ cells, (f v).same v = true) :
    sameCells (cells.map f) cells = true := by
  induction cells with
  | nil => rfl
  | cons v r ih =>
    simp only [List.map_cons, sameCells, Bool.and_eq_true]
    exact ⟨h v (by simp), ih fun x hx => h x (List.mem_cons_of_mem _ hx)⟩

end ForML.Codec
