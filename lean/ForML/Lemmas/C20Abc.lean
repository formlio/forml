/- What makes a class abstract (`Model/BankAbc.lean`, C20): `inspect.isabstract` and the inner-class test of the class that
one more class statement creates, in terms of the statement; existing classes are not changed; `nsLookup` is `List.lookup`. -/
import ForML.Model.BankAbc
import ForML.Lemmas.ListFacts

namespace ForML.Bank

theorem inspectAbstract_old (tab : Tab) (c : Cls) {j : Nat} (hj : j < tab.length) :
    inspectAbstract (tab ++ [c]) j = inspectAbstract tab j := by
  simp only [inspectAbstract, List.getElem?_append_left hj]

theorem inspectAbstract_new (tab : Tab) (s : ClsStmt) :
    inspectAbstract (tab ++ [mkCls tab s]) tab.length =
      (stmtAbc tab s && !(computeAbstracts tab s.ns s.bases s.mro).isEmpty) := by
  simp only [inspectAbstract, List.getElem?_concat_length, mkCls]
  cases stmtAbc tab s <;> simp

theorem mem_computeAbstracts {tab : Tab} {ns : List (Nat × Attr)} {bases mro : List Nat} {n : Nat} :
    n ∈ computeAbstracts tab ns bases mro ↔
      (∃ e ∈ ns, e.1 = n ∧ isAbsAttr (some e.2) = true) ∨
      (∃ b ∈ bases, ∃ cb, tab[b]? = some cb ∧ n ∈ cb.abstracts ∧ isAbsAttr (getattrNs tab ns mro n) = true) := by
  simp only [computeAbstracts, List.mem_append, List.mem_map, List.mem_filter, List.mem_flatMap]
  constructor
  · rintro (⟨e, ⟨he, ha⟩, hn⟩ | ⟨b, hb, hm⟩)
    · exact Or.inl ⟨e, he, hn, ha⟩
    · right
      unfold inheritedFrom at hm
      cases hc : tab[b]? with
      | none => simp [hc] at hm
      | some cb =>
        simp only [hc, List.mem_filter] at hm
        exact ⟨b, hb, cb, hc, hm.1, hm.2⟩
  · rintro (⟨e, he, hn, ha⟩ | ⟨b, hb, cb, hc, hn, ha⟩)
    · exact Or.inl ⟨e, ⟨he, ha⟩, hn⟩
    · right
      refine ⟨b, hb, ?_⟩
      simp only [inheritedFrom, hc, List.mem_filter]
      exact ⟨hn, ha⟩

/-- `inspect.isabstract` of a freshly created class, spelled out: an ABCMeta class with an abstract method / property
of its own, or with a name from the `__abstractmethods__` of a direct base that it still resolves to an abstract one -/
theorem inspectAbstract_new_iff (tab : Tab) (s : ClsStmt) :
    inspectAbstract (tab ++ [mkCls tab s]) tab.length = true ↔
      stmtAbc tab s = true ∧
        ((∃ e ∈ s.ns, isAbsAttr (some e.2) = true) ∨
         (∃ b ∈ s.bases, ∃ cb, tab[b]? = some cb ∧ ∃ n ∈ cb.abstracts,
            isAbsAttr (getattrNs tab s.ns s.mro n) = true)) := by
  rw [inspectAbstract_new]
  simp only [Bool.and_eq_true, Bool.not_eq_true', List.isEmpty_eq_false_iff_exists_mem]
  constructor
  · rintro ⟨ha, n, hn⟩
    refine ⟨ha, ?_⟩
    rcases mem_computeAbstracts.1 hn with ⟨e, he, _, hab⟩ | ⟨b, hb, cb, hc, hn, hab⟩
    · exact Or.inl ⟨e, he, hab⟩
    · exact Or.inr ⟨b, hb, cb, hc, n, hn, hab⟩
  · rintro ⟨ha, h⟩
    refine ⟨ha, ?_⟩
    rcases h with ⟨e, he, hab⟩ | ⟨b, hb, cb, hc, n, hn, hab⟩
    · exact ⟨e.1, mem_computeAbstracts.2 (Or.inl ⟨e, he, rfl, hab⟩)⟩
    · exact ⟨n, mem_computeAbstracts.2 (Or.inr ⟨b, hb, cb, hc, hn, hab⟩)⟩

/-- the extended predicate of a freshly created class: only the class' own attributes are looked at, and the classes
among them are judged as they were when the statement ran -/
theorem innerAbstract_new (tab : Tab) (s : ClsStmt) (hwf : ∀ e ∈ s.ns, ∀ j, e.2 = .cls j → j < tab.length) :
    innerAbstract (tab ++ [mkCls tab s]) tab.length = s.ns.any (fun e => attrAbstract tab e.2) := by
  simp only [innerAbstract, List.getElem?_concat_length, mkCls]
  apply any_congr_mem
  intro e he
  cases hv : e.2 with
  | func b => simp [attrAbstract]
  | other => simp [attrAbstract]
  | cls j => simp only [attrAbstract]; exact inspectAbstract_old tab _ (hwf e he j hv)

theorem nsLookup_eq (n : Nat) (ns : List (Nat × Attr)) : nsLookup n ns = ns.lookup n :=
  lookup_eq_of_eqns (fun _ => rfl) (fun _ _ _ _ => rfl) n ns

theorem nsLookup_some_mem {n : Nat} {ns : List (Nat × Attr)} {v : Attr} (h : nsLookup n ns = some v) : (n, v) ∈ ns :=
  mem_of_lookup (nsLookup_eq n ns ▸ h)

end ForML.Bank
