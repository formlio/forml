/-
One round of the stacking ensemble — expand a scope (or a base model), copy its apply segment,
bind the three heads to three publishers and the head of the copy to a fourth one.

`iterV2` is the order of `FullStack.Builder.build` (copy first, then `Fold.publish`), `iterV1` the order of
`Ensembler.compose` (train, label, apply heads first, then the copy).  Afterwards the three tails carry `T` of the
three bound values, the tail of the copy carries `(T x' xt xl).apply` for the value `x'` bound to the copy's head —
the same actors with the very states trained on `(xt, xl)`: the groups are shared.
-/
import ForML.Lemmas.C03Areg
import ForML.Lemmas.C03Loop

namespace ForML.Compose

/-- what one round leaves behind (`g` before, `g'` after): `t` is the trunk of the expansion, `c` the copy of its apply
segment; ranks, groups and holes of the new nodes as `LoopOk` wants them (`IterOk.loop`, `Lemmas/C03Folds.lean`) -/
structure IterOk (g g' : Graph) (W W' : World) (t : Trunk) (c : Segment) (rr : Nat) (s : Sem) (vc : Val) : Prop where
  inv : Inv g' W'
  wired : Wired g'
  frame : Frame g g'
  agree : Agree g.next W W'
  ta : W'.live t.apply.tail ∧ W'.σ ⟨t.apply.tail, 0⟩ = s.apply
  tt : W'.live t.train.tail ∧ W'.σ ⟨t.train.tail, 0⟩ = s.train
  tl : W'.live t.label.tail ∧ W'.σ ⟨t.label.tail, 0⟩ = s.label
  tc : W'.live c.tail ∧ W'.σ ⟨c.tail, 0⟩ = vc
  tails_ge : g.next ≤ t.apply.tail ∧ g.next ≤ t.train.tail ∧ g.next ≤ t.label.tail ∧ g.next ≤ c.tail
  trains : ∃ ts, g'.trains = g.trains ++ ts ∧ (∀ x ∈ ts, W'.live x.train.node ∧ W'.live x.label.node) ∧
    ts.map (trainedUnder W') = s.states
  rank : ∀ n, g.next ≤ n → W'.live n → W'.h n < rr + (g'.next - g.next)
  fresh : ∀ n, g.next ≤ n → W'.live n → ∀ gid a i o, g'.kindOf n = some (.worker gid a i o) → g.next ≤ gid
  noOpen : ∀ n, g.next ≤ n → W'.live n → ¬ g'.isOpen n

/-- the end of a round, whichever way it was ordered: the expansion `ok` (and the same expansion `okx` on the value of the
held-out part), the copy `cok` of its apply segment taken in a graph `gk` that is `g1` up to subscriptions of the three
heads (`E1`), and a final graph `g6` that is the copy's graph up to the rest (`E2`) of the four subscriptions of the round -/
theorem IterOk.ofCopy {g g1 gk g5 g6 : Graph} {W W1 Wx W2 : World} {t : Trunk} {c : Segment} {rr : Nat}
    {va vx vt vl : Val} {s sx : Sem} {pa pt pl px : PubRef} {E1 E2 : List Edge} (hi : Inv g W) (hw : Wired g)
    (ok : TrunkOk True g g1 W W1 t va vt vl rr s) (okx : TrunkOk True g g1 W Wx t vx vt vl rr sx)
    (cok : CopyOk gk g5 W1 Wx W2 t.apply c) (hlo : ∀ u, Reach gk t.apply.head u → g.next ≤ u)
    (hbk : Bounded gk) (hnk : gk.next = g1.next) (hk : ∀ u, gk.kindOf u = g1.kindOf u)
    (hEk : ∀ u k q, gk.inputOf u k = some q ↔ g1.inputOf u k = some q ∨ (⟨u, k, q⟩ : Edge) ∈ E1)
    (n6 : g6.next = g5.next) (k6 : ∀ u, g6.kindOf u = g5.kindOf u)
    (hE6 : ∀ u k q, g6.inputOf u k = some q ↔ g5.inputOf u k = some q ∨ (⟨u, k, q⟩ : Edge) ∈ E2)
    (hE : ∀ e, e ∈ E1 ++ E2 ↔
      e ∈ [(⟨t.apply.head, 0, pa⟩ : Edge), ⟨t.train.head, 0, pt⟩, ⟨t.label.head, 0, pl⟩, ⟨c.head, 0, px⟩])
    (htr : g6.trains = g1.trains) (hi6 : Inv g6 W2) (hw6 : Wired g6) (f6 : Frame g g6)
    (hpt : pt.node < g.next) (hpl : pl.node < g.next) (hpx : px.node < g.next) :
    IterOk g g6 W W2 t c rr s sx.apply ∧ IterExt g g6 W2 t c pa pt pl px := by
  have hgg1 := ok.frame.next_le
  have hgk5 := cok.frame.next_le
  have hlt1 : ∀ n, W1.live n → n < gk.next := fun n hn => by rw [hnk]; exact (ok.inv.liveLt n hn).1
  have old2 : Keeps W1 W2 := cok.agree.keeps hlt1
  have live1 : ∀ n, n < g1.next → W2.live n → W1.live n := fun n hn hl => ((cok.agree n (hnk ▸ hn)).1).mp hl
  have ink : ∀ u k q, g1.inputOf u k = some q → gk.inputOf u k = some q := fun u k q h => (hEk u k q).mpr (.inl h)
  have in6 : ∀ u k q, g5.inputOf u k = some q → g6.inputOf u k = some q := fun u k q h => (hE6 u k q).mpr (.inl h)
  have up6 : ∀ u k q, gk.inputOf u k = some q → g6.inputOf u k = some q := fun u k q h =>
    in6 u k q (cok.frame.input_mono hbk u k q h)
  have has : ∀ e, e ∈ [(⟨t.apply.head, 0, pa⟩ : Edge), ⟨t.train.head, 0, pt⟩, ⟨t.label.head, 0, pl⟩, ⟨c.head, 0, px⟩] →
      g6.inputOf e.sub e.port = some e.pub := fun e he =>
    (List.mem_append.mp ((hE e).mpr he)).elim (fun h => up6 _ _ _ ((hEk _ _ _).mpr (.inr h))) fun h => (hE6 _ _ _).mpr (.inr h)
  have ia6 : g6.inputOf t.apply.head 0 = some pa := has ⟨t.apply.head, 0, pa⟩ (.head _)
  have it6 : g6.inputOf t.train.head 0 = some pt := has ⟨t.train.head, 0, pt⟩ (.tail _ (.head _))
  have il6 : g6.inputOf t.label.head 0 = some pl := has ⟨t.label.head, 0, pl⟩ (.tail _ (.tail _ (.head _)))
  have ic6 : g6.inputOf c.head 0 = some px := has ⟨c.head, 0, px⟩ (.tail _ (.tail _ (.tail _ (.head _))))
  -- nothing else is subscribed: the expansion's own subscriptions, those of the copy, and the four
  have hin6 : ∀ s k q, g6.inputOf s k = some q →
      (s < g1.next ∧ g1.inputOf s k = some q) ∨ (g1.next ≤ s ∧ g1.next ≤ q.node) ∨ (s = t.apply.head ∧ q = pa) ∨
      (s = t.train.head ∧ q = pt) ∨ (s = t.label.head ∧ q = pl) ∨ (g1.next ≤ s ∧ q = px) := by
    intro s k q hq
    have four : (⟨s, k, q⟩ : Edge) ∈ E1 ++ E2 → (s = t.apply.head ∧ q = pa) ∨ (s = t.train.head ∧ q = pt) ∨
        (s = t.label.head ∧ q = pl) ∨ (g1.next ≤ s ∧ q = px) := by
      intro h
      have h := (hE _).mp h
      simp only [List.mem_cons, Edge.mk.injEq, List.not_mem_nil, or_false] at h
      rcases h with ⟨e, _, hq⟩ | ⟨e, _, hq⟩ | ⟨e, _, hq⟩ | ⟨e, _, hq⟩
      · exact .inl ⟨e, hq⟩
      · exact .inr (.inl ⟨e, hq⟩)
      · exact .inr (.inr (.inl ⟨e, hq⟩))
      · exact .inr (.inr (.inr ⟨e ▸ hnk ▸ cok.head_ge, hq⟩))
    rcases (hE6 s k q).mp hq with hq | h
    · by_cases hs : s < g1.next
      · rw [cok.frame.input s k (hnk ▸ hs)] at hq
        rcases (hEk s k q).mp hq with hq | h
        · exact .inl ⟨hs, hq⟩
        · exact .inr (.inr (four (List.mem_append_left _ h)))
      · exact .inr (.inl ⟨Nat.le_of_not_lt hs, hnk ▸ cok.closed s k q (hnk ▸ Nat.le_of_not_lt hs) hq⟩)
    · exact .inr (.inr (four (List.mem_append_right _ h)))
  have open5 : ∀ n, g6.isOpen n → g5.isOpen n := fun n ho => ho.of_mono (k6 n) (in6 n 0)
  have bound6 : ∀ h q, g6.inputOf h 0 = some q → ¬ g6.isOpen h := by
    intro h q hq ho; rw [ho.2] at hq; cases hq
  have tail : ∀ {n v}, W1.live n ∧ W1.σ ⟨n, 0⟩ = v → W2.live n ∧ W2.σ ⟨n, 0⟩ = v := fun h =>
    ⟨(old2 ⟨_, 0⟩ h.1).1, (old2 ⟨_, 0⟩ h.1).2.1.trans h.2⟩
  refine ⟨⟨hi6, hw6, f6, ok.agree.trans cok.agree (by omega), tail ok.ta, tail ok.tt, tail ok.tl,
    ⟨cok.tail_live, by rw [cok.tail_val]; exact okx.ta.2⟩,
    ⟨ok.tails_ge.1, ok.tails_ge.2.1, ok.tails_ge.2.2, by have := cok.tail_ge; omega⟩,
    (Trained.keeps ok.trains old2).target htr, ?_, ?_, ?_⟩, ?_⟩
  · intro n hn hl'
    by_cases hn1 : n < g1.next
    · have := ok.rank n hn (live1 n hn1 hl')
      rw [(cok.agree n (hnk ▸ hn1)).2.1]; omega
    · obtain ⟨u, hlu, hru, _, hhu, _⟩ := cok.copies n (by omega) hl'
      have := ok.rank u (hlo u hru) hlu
      rw [hhu]; omega
  · intro n hn hl' gid a i o hk'
    rw [k6] at hk'
    by_cases hn1 : n < g1.next
    · rw [cok.frame.kind n (hnk ▸ hn1), hk] at hk'
      exact ok.fresh n hn (live1 n hn1 hl') gid a i o hk'
    · obtain ⟨u, hlu, hru, hku, _, _⟩ := cok.copies n (by omega) hl'
      rw [hku, hk] at hk'
      exact ok.fresh u (hlo u hru) hlu gid a i o hk'
  · intro n hn hl' ho
    by_cases hn1 : n < g1.next
    · have hok : gk.isOpen n := (cok.frame.isOpen (hnk ▸ hn1)).mp (open5 n ho)
      rcases ok.opens n hn (live1 n hn1 hl') (hok.of_mono (hk n) (ink n 0)) with h | h | h
      · exact bound6 _ _ (h ▸ ia6) ho
      · exact bound6 _ _ (h ▸ it6) ho
      · exact bound6 _ _ (h ▸ il6) ho
    · by_cases hc : n = c.head
      · exact bound6 _ _ (hc ▸ ic6) ho
      · exact cok.notOpen n (by omega) hl' hc (open5 n ho)
  · exact iter_reach hw hi.bounded f6 ok (fun n hl => (old2 ⟨n, 0⟩ hl).1) hin6 (fun s k q hq => up6 s k q (ink s k q hq)) ia6
      (hnk ▸ cok.tail_ge) hpt hpl hpx

theorem iterV2 {m : GraphM Trunk} {T : Scope} (hm : Spec True m T) (hT : T.Indep) {g : Graph} {W : World}
    (hi : Inv g W) (hw : Wired g) (rr : Nat) (hrr : rr ≤ g.next) {pa pt pl px : PubRef} {va vt vl vx : Val}
    (ha : PubOk W pa rr va) (ht : PubOk W pt rr vt) (hl : PubOk W pl rr vl) (hx : PubOk W px rr vx) :
    ∃ t c g1 g2 g3 g4 g5 g6 W', Run m g t g1 ∧ Run (copySegment t.apply) g1 c g2 ∧
      Run (t.apply.subscribeTo pa) g2 () g3 ∧ Run (t.train.subscribeTo pt) g3 () g4 ∧
      Run (t.label.subscribeTo pl) g4 () g5 ∧ Run (c.subscribeTo px) g5 () g6 ∧
      IterOk g g6 W W' t c rr (T va vt vl) (T vx vt vl).apply ∧ IterExt g g6 W' t c pa pt pl px := by
  obtain ⟨t, g1, W1, hr1, ok⟩ := hm g W va vt vl rr hi hw hrr
  obtain ⟨t', g1', Wx, hr1', okx⟩ := hm g W vx vt vl rr hi hw hrr
  obtain ⟨et, eg⟩ := run_det hr1 hr1'
  subst et; subst eg
  have hreg : Region g1 W1 Wx t.apply g.next := Region.ofSpec hi hw ok okx (hT va vx vt vl).2.2
  obtain ⟨c, g2, W2, hr2, cok⟩ := hreg.copy ok.inv ok.wired
  have hlt : ∀ n, W.live n → n < g.next := fun n hn => (hi.liveLt n hn).1
  have hlt1 : ∀ n, W1.live n → n < g1.next := fun n hn => (ok.inv.liveLt n hn).1
  have keep2 : Keeps W W2 := (ok.agree.keeps hlt).trans (cok.agree.keeps hlt1)
  have ha2 := ha.keeps keep2
  have ht2 := ht.keeps keep2
  have hl2 := hl.keeps keep2
  have hx2 := hx.keeps keep2
  have hA := ok.ha.mono (hlt1 _ ok.ha.live) cok.frame cok.agree
  have hT' := ok.ht.mono (hlt1 _ ok.ht.live) cok.frame cok.agree
  have hL := ok.hl.mono (hlt1 _ ok.hl.live) cok.frame cok.agree
  obtain ⟨d1, d2, d3⟩ := ok.distinct
  have hch := cok.head_ge
  have c1 : t.apply.head ≠ c.head := by have := hlt1 _ ok.ha.live; omega
  have c2 : t.train.head ≠ c.head := by have := hlt1 _ ok.ht.live; omega
  have c3 : t.label.head ≠ c.head := by have := hlt1 _ ok.hl.live; omega
  have pC : Plug g2 W2 c.head px := ⟨cok.head_live, cok.head_open,
    by rw [cok.head_rank, ok.ha.rank]; exact ⟨hx2.live, hx2.rank⟩, fun i => by rw [cok.head_val i, okx.ha.val i, hx2.val]⟩
  obtain ⟨hr3, hr4, hr5, hi5, hw5, _⟩ := Plug.bind3 cok.inv cok.wired (hA.plug ha2) (hT'.plug ht2) (hL.plug hl2) d1 d2 d3
  obtain ⟨hr6, hi6, hw6⟩ := (((pC.pushEdge c1).pushEdge c2).pushEdge c3).bind hi5 hw5
  obtain ⟨g6, hg6⟩ : ∃ x, x = (((g2.pushEdge ⟨t.apply.head, 0, pa⟩).pushEdge ⟨t.train.head, 0, pt⟩).pushEdge
    ⟨t.label.head, 0, pl⟩).pushEdge ⟨c.head, 0, px⟩ := ⟨_, rfl⟩
  rw [← hg6] at hi6 hw6 hr6
  have in6 : ∀ u k q, g6.inputOf u k = some q ↔ g2.inputOf u k = some q ∨ (⟨u, k, q⟩ : Edge) ∈
      [⟨t.apply.head, 0, pa⟩, ⟨t.train.head, 0, pt⟩, ⟨t.label.head, 0, pl⟩, ⟨c.head, 0, px⟩] :=
    fun u k q => hw6.input_append cok.wired (by rw [hg6]; show g2.edges ++ [_] ++ [_] ++ [_] ++ [_] = _; simp)
  have f6 : Frame g g6 := by
    rw [hg6]
    exact ((((ok.frame.trans cok.frame).pushEdge _ ok.ha.ge).pushEdge _ ok.ht.ge).pushEdge _ ok.hl.ge).pushEdge _
      (Nat.le_trans ok.frame.next_le hch)
  obtain ⟨hit, hext⟩ := IterOk.ofCopy (E1 := []) hi hw ok okx cok hreg.reachLo ok.inv.bounded rfl (fun _ => rfl)
    (fun _ _ _ => by simp) (by rw [hg6]; rfl) (by intro u; rw [hg6]; rfl) in6 (fun _ => Iff.rfl) (by rw [hg6]; exact cok.trains)
    hi6 hw6 f6 (hlt _ ht.live) (hlt _ hl.live) (hlt _ hx.live)
  exact ⟨t, c, g1, g2, _, _, _, g6, W2, hr1, hr2, hr3, hr4, hr5, hr6, hit, hext⟩

/-- the order of `Ensembler.compose`: train, label and apply heads are bound first, then the apply segment is copied -/
theorem iterV1 {m : GraphM Trunk} {T : Scope} (hm : Spec True m T) (hT : T.Indep) {g : Graph} {W : World}
    (hi : Inv g W) (hw : Wired g) (rr : Nat) (hrr : rr ≤ g.next) {pa pt pl px : PubRef} {va vt vl vx : Val}
    (ha : PubOk W pa rr va) (ht : PubOk W pt rr vt) (hl : PubOk W pl rr vl) (hx : PubOk W px rr vx) :
    ∃ t c g1 g2 g3 g4 g5 g6 W', Run m g t g1 ∧ Run (t.train.subscribeTo pt) g1 () g2 ∧
      Run (t.label.subscribeTo pl) g2 () g3 ∧ Run (t.apply.subscribeTo pa) g3 () g4 ∧
      Run (copySegment t.apply) g4 c g5 ∧ Run (c.subscribeTo px) g5 () g6 ∧
      IterOk g g6 W W' t c rr (T va vt vl) (T vx vt vl).apply ∧ IterExt g g6 W' t c pa pt pl px := by
  obtain ⟨t, g1, W1, hr1, ok⟩ := hm g W va vt vl rr hi hw hrr
  obtain ⟨t', g1', Wx, hr1', okx⟩ := hm g W vx vt vl rr hi hw hrr
  obtain ⟨et, eg⟩ := run_det hr1 hr1'
  subst et; subst eg
  have hreg1 : Region g1 W1 Wx t.apply g.next := Region.ofSpec hi hw ok okx (hT va vx vt vl).2.2
  have hlt : ∀ n, W.live n → n < g.next := fun n hn => (hi.liveLt n hn).1
  have hlt1 : ∀ n, W1.live n → n < g1.next := fun n hn => (ok.inv.liveLt n hn).1
  have keep1 : Keeps W W1 := ok.agree.keeps hlt
  have ha1 := ha.keeps keep1
  have ht1 := ht.keeps keep1
  have hl1 := hl.keeps keep1
  obtain ⟨d1, d2, d3⟩ := ok.distinct
  have fl2 : ∀ k, (g1.pushEdge ⟨t.train.head, 0, pt⟩).inputOf t.label.head k = none := fun k =>
    (inputOf_pushEdge_ne d3 k).trans (ok.hl.free k)
  obtain ⟨hr2, hr3, hr4, hi4, hw4, in4⟩ := Plug.bind3 ok.inv ok.wired (ok.ht.plug ht1) (ok.hl.plug hl1) (ok.ha.plug ha1) d3
    d1.symm d2.symm
  -- the apply region is still one: the three publishers lie below it
  have hreg4 := ((hreg1.pushEdge ⟨t.train.head, 0, pt⟩ (hlt _ ht.live)
    (Or.inr (not_reach_of_no_input ok.ht.free (fun e => d1 e.symm)))).pushEdge ⟨t.label.head, 0, pl⟩ (hlt _ hl.live)
    (Or.inr (not_reach_of_no_input fl2 (fun e => d2 e.symm)))).pushEdge ⟨t.apply.head, 0, pa⟩ (hlt _ ha.live) (Or.inl rfl)
  obtain ⟨g4, hg4⟩ : ∃ x, x = ((g1.pushEdge ⟨t.train.head, 0, pt⟩).pushEdge ⟨t.label.head, 0, pl⟩).pushEdge
    ⟨t.apply.head, 0, pa⟩ := ⟨_, rfl⟩
  rw [← hg4] at hi4 hw4 hreg4 hr4 in4
  have n4 : g4.next = g1.next := by rw [hg4]; rfl
  obtain ⟨c, g5, W2, hr5, cok⟩ := hreg4.copy hi4 hw4
  have hx2 : PubOk W2 px rr vx := (hx.keeps keep1).keeps (cok.agree.keeps (fun n hn => n4 ▸ hlt1 n hn))
  obtain ⟨hr6, hi6, hw6⟩ := Plug.bind ⟨cok.head_live, cok.head_open, by rw [cok.head_rank, ok.ha.rank]; exact ⟨hx2.live, hx2.rank⟩,
    fun i => by rw [cok.head_val i, okx.ha.val i, hx2.val]⟩ cok.inv cok.wired
  obtain ⟨g6, hg6⟩ : ∃ x, x = g5.pushEdge ⟨c.head, 0, px⟩ := ⟨_, rfl⟩
  rw [← hg6] at hi6 hw6 hr6
  have f6 : Frame g g6 := by
    rw [hg6]
    refine (Frame.trans ?_ cok.frame).pushEdge _ (Nat.le_trans ok.frame.next_le (n4 ▸ cok.head_ge))
    rw [hg4]
    exact ((ok.frame.pushEdge _ ok.ht.ge).pushEdge _ ok.hl.ge).pushEdge _ ok.ha.ge
  obtain ⟨hit, hext⟩ := IterOk.ofCopy (pa := pa) (pt := pt) (pl := pl) (E2 := [⟨c.head, 0, px⟩]) hi hw ok okx cok hreg4.reachLo hi4.bounded n4
    (by intro u; rw [hg4]; rfl) in4 (by rw [hg6]; rfl) (by intro u; rw [hg6]; rfl)
    (fun u k q => hw6.input_append cok.wired (by rw [hg6]; rfl))
    (fun e => by
      simp only [List.cons_append, List.nil_append, List.mem_cons, List.not_mem_nil, or_false]
      constructor <;> rintro (h | h | h | h) <;> simp [h])
    (by rw [hg6]; show g5.trains = _; rw [cok.trains, hg4]; rfl) hi6 hw6 f6 (hlt _ ht.live) (hlt _ hl.live) (hlt _ hx.live)
  exact ⟨t, c, g1, _, _, g4, g5, g6, W2, hr1, hr2, hr3, hr4, hr5, hr6, hit, hext⟩

end ForML.Compose
