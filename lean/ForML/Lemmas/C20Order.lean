/- Observational equivalence of process states and congruence of the whole import / lookup machinery (C20). -/
import ForML.Lemmas.C20Bank

namespace ForML.Bank

/-- two banks that cannot be told apart: same binding of every reference, the same search paths up to their order -/
def BankEq (b b' : Bank) : Prop :=
  (∀ r, lookupRef r b.provider = lookupRef r b'.provider) ∧ b.paths.Perm b'.paths

/-- two process states that cannot be told apart: every interface's bank, and the set of imported modules -/
def StEq (s s' : St) : Prop :=
  (∀ i, BankEq (getBank i s.banks) (getBank i s'.banks)) ∧ (∀ m, m ∈ s.loaded ↔ m ∈ s'.loaded)

theorem BankEq.refl (b : Bank) : BankEq b b := ⟨fun _ => rfl, List.Perm.refl _⟩
theorem BankEq.symm {b b' : Bank} (h : BankEq b b') : BankEq b' b := ⟨fun r => (h.1 r).symm, h.2.symm⟩
theorem BankEq.trans {a b c : Bank} (h1 : BankEq a b) (h2 : BankEq b c) : BankEq a c :=
  ⟨fun r => (h1.1 r).trans (h2.1 r), h1.2.trans h2.2⟩

theorem StEq.refl (s : St) : StEq s s := ⟨fun _ => BankEq.refl _, fun _ => Iff.rfl⟩
theorem StEq.symm {s s' : St} (h : StEq s s') : StEq s' s := ⟨fun i => (h.1 i).symm, fun m => (h.2 m).symm⟩
theorem StEq.trans {a b c : St} (h1 : StEq a b) (h2 : StEq b c) : StEq a c :=
  ⟨fun i => (h1.1 i).trans (h2.1 i), fun m => (h1.2 m).trans (h2.2 m)⟩

theorem collides_congr {b b' : Bank} (h : BankEq b b') (c : ClassDef) : collides b c = collides b' c := by
  simp only [collides, h.1]

theorem add_congr {b b' b1 : Bank} (h : BankEq b b') {c : ClassDef} (hb1 : b.add c = .ok b1) :
    ∃ b1', b'.add c = .ok b1' ∧ BankEq b1 b1' := by
  obtain ⟨hc, rfl⟩ := add_ok hb1
  rw [collides_congr h c] at hc
  obtain ⟨b1', hb1'⟩ := add_of_not_collides hc
  refine ⟨b1', hb1', ?_⟩
  obtain ⟨_, rfl⟩ := add_ok hb1'
  refine ⟨fun r => ?_, addPaths_perm h.2 _⟩
  by_cases ha : c.abstract = true
  · simp only [ha, if_true]; exact h.1 r
  · simp only [ha, Bool.false_eq_true, if_false, lookupRef_register, h.1]

/-- outcome pairs (state, raised error) that cannot be told apart -/
def ResEq (x y : St × Option Err) : Prop := x.2 = y.2 ∧ StEq x.1 y.1

theorem ResEq.elim {x y : St × Option Err} (h : ResEq x y) : ∃ s s' e, x = (s, e) ∧ y = (s', e) ∧ StEq s s' := by
  obtain ⟨s, e⟩ := x
  obtain ⟨s', e'⟩ := y
  obtain ⟨he, hs⟩ := h
  simp only at he hs
  subst he
  exact ⟨s, s', e, rfl, rfl, hs⟩

theorem stEq_setBank {st st' : St} (h : StEq st st') (i : ClassId) {b b' : Bank} (hb : BankEq b b') :
    StEq { st with banks := setBank i b st.banks } { st' with banks := setBank i b' st'.banks } := by
  refine ⟨?_, h.2⟩
  intro j
  simp only [getBank_setBank]
  split
  · exact hb
  · exact h.1 j

theorem act_congr (s s' : St) (a : Act) (t : St) (h : StEq s s') (ht : act s a = some t) :
    ∃ t', act s' a = some t' ∧ StEq t t' := by
  cases a with
  | reg i c =>
    obtain ⟨b, hadd, rfl⟩ := act_reg.1 ht
    obtain ⟨b', hb', hbe⟩ := add_congr (h.1 i) hadd
    exact ⟨_, act_reg.2 ⟨b', hb', rfl⟩, stEq_setBank h i hbe⟩
  | mark m =>
    cases ht
    exact ⟨_, rfl, h.1, fun x => by simp only [List.mem_cons, h.2 x]⟩
  | raise e => cases ht

theorem run_congr (l : List Act) {s s' : St} (h : StEq s s') : ResEq (run s l) (run s' l) := by
  induction l generalizing s s' with
  | nil => exact ⟨rfl, h⟩
  | cons a l ih =>
    simp only [run]
    cases ha : act s a with
    | some t =>
      obtain ⟨t', ht', hE⟩ := act_congr s s' a t h ha
      rw [ht']
      exact ih hE
    | none =>
      cases ha' : act s' a with
      | none => exact ⟨rfl, h⟩
      | some t' =>
        obtain ⟨t, ht, _⟩ := act_congr s' s a t' h.symm ha'
        rw [ha] at ht
        cases ht

/-- option-valued outcomes (`none` = module not found) -/
def ResEqO : Option (St × Option Err) → Option (St × Option Err) → Prop
  | none, none => True
  | some x, some y => ResEq x y
  | _, _ => False

theorem ResEqO.elim {x y : Option (St × Option Err)} (h : ResEqO x y) :
    (x = none ∧ y = none) ∨ ∃ s s' e, x = some (s, e) ∧ y = some (s', e) ∧ StEq s s' := by
  cases x <;> cases y
  · exact Or.inl ⟨rfl, rfl⟩
  · exact False.elim h
  · exact False.elim h
  · obtain ⟨s, s', e, rfl, rfl, hs⟩ := ResEq.elim h
    exact Or.inr ⟨s, s', e, rfl, rfl, hs⟩

theorem execMod_congr (w : World) (m : Mod) {st st' : St} (h : StEq st st') :
    ResEqO (execMod w st m) (execMod w st' m) := by
  simp only [execMod_eq]
  cases findMod m w with
  | none => trivial
  | some d =>
    simp only [Option.map_some, h.2 m]
    split
    · exact ⟨rfl, h⟩
    · exact run_congr _ h

theorem execAll_congr (w : World) (ms : List Mod) {st st' : St} (h : StEq st st') :
    ResEq (execAll w st ms) (execAll w st' ms) := by
  induction ms generalizing st st' with
  | nil => exact ⟨rfl, h⟩
  | cons m ms ih =>
    simp only [execAll]
    rcases (execMod_congr w m h).elim with ⟨h1, h2⟩ | ⟨s1, s1', e, h1, h2, hs⟩
    · rw [h1, h2]; exact ih h
    · rw [h1, h2]
      cases e with
      | some e => exact ⟨rfl, hs⟩
      | none => exact ih hs

theorem loadPath_congr (w : World) (p : PathE) {st st' : St} (h : StEq st st') :
    ResEq (loadPath w st p) (loadPath w st' p) := by
  rw [loadPath_eq, loadPath_eq]
  obtain ⟨s, s', e, h1, h2, hs⟩ := (execAll_congr w (plan w p.mod) h).elim
  rw [h1, h2]
  cases e <;> exact ⟨rfl, hs⟩

theorem searchList_congr {b b' : Bank} (h : BankEq b b') (r : Ref) : searchList b r = searchList b' r := by
  simp only [searchList, sortPaths_perm h.2]

theorem getLoop_congr (w : World) (iface : ClassId) (r : Ref) (n : Nat) (searched : List Mod) {st st' : St}
    (h : StEq st st') : ResEq (getLoop w iface r n st searched) (getLoop w iface r n st' searched) := by
  induction n generalizing st st' searched with
  | zero => exact ⟨rfl, h⟩
  | succ n ih =>
    simp only [getLoop, (h.1 iface).1 r, nextPath, searchList_congr (h.1 iface) r]
    split
    · exact ⟨rfl, h⟩
    · cases hn : List.find? (fun p => !searched.contains p.mod) (searchList (getBank iface st'.banks) r) with
      | none => exact ⟨rfl, h⟩
      | some p =>
        simp only
        obtain ⟨s1, s1', e, h1, h2, hs⟩ := (loadPath_congr w p h).elim
        rw [h1, h2]
        cases e with
        | some e => exact ⟨rfl, hs⟩
        | none => exact ih _ hs

theorem todoPaths_congr {b b' : Bank} (h : BankEq b b') (r : Ref) {o o' : List Mod}
    (ho : validOrder b.paths o = true) (ho' : validOrder b'.paths o' = true) : todoPaths b r o = todoPaths b' r o' := by
  have := sortPaths_perm (((validOrder_perm ho).trans h.2).trans (validOrder_perm ho').symm)
  simp only [todoPaths, this]

/-- the search list of the legacy `getOnce` is the same for every iteration order of the bank's path set -/
theorem todoPaths_order_free (b : Bank) (r : Ref) (o1 o2 : List Mod) (h1 : validOrder b.paths o1 = true)
    (h2 : validOrder b.paths o2 = true) : todoPaths b r o1 = todoPaths b r o2 :=
  todoPaths_congr (BankEq.refl b) r h1 h2

/-- `Service[reference]` cannot tell equivalent states apart: same outcome, equivalent resulting states -/
theorem get_congr (w : World) (iface : ClassId) (r : Ref) {st st' : St} (h : StEq st st') :
    (get w st iface r).2 = (get w st' iface r).2 ∧ StEq (get w st iface r).1 (get w st' iface r).1 := by
  unfold get
  obtain ⟨s1, s1', e, h1, h2, hs⟩ := (getLoop_congr w iface r (searchFuel w) [] h).elim
  rw [h1, h2]
  cases e with
  | some e => exact ⟨rfl, hs⟩
  | none =>
    simp only [finish, (hs.1 iface).1 r]
    cases lookupRef r (getBank iface s1'.banks).provider <;> exact ⟨rfl, hs⟩

end ForML.Bank
