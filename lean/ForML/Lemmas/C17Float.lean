/-
C17: the binary64 comparison `count / total < target` of `Slot.eligible` agrees with the exact rational
comparison `count * W < w * total` of the model whenever `total * W < 2^52` (lemmas about
Model/StrategyFloat.lean).  Pure natural-number arithmetic: an explicit half-ulp error bound for the rounded
quotients, the gap `1 / (total * W)` between two different quotients, and the fact that the rounded quotient
depends on the ratio only (for the boundary `count / total = w / W`).
-/
import ForML.Model.StrategyFloat

namespace ForML.Strategy

theorem shiftFrom_spec (a b : Nat) : ∀ fuel e j, e ≤ j → j < e + fuel → 2 ^ 52 * b ≤ a * 2 ^ j →
    2 ^ 52 * b ≤ a * 2 ^ (shiftFrom a b fuel e) ∧
      ∀ i, e ≤ i → i < shiftFrom a b fuel e → ¬ 2 ^ 52 * b ≤ a * 2 ^ i := by
  intro fuel e
  fun_induction shiftFrom a b fuel e with
  | case1 e => intro j h1 h2; exact absurd h2 (Nat.not_lt.mpr h1)
  | case2 fuel e h => intro j _ _ _; exact ⟨h, fun i h1 h2 => absurd h2 (Nat.not_lt.mpr h1)⟩
  | case3 fuel e h ih =>
    intro j hej hj hc
    have hne : e ≠ j := fun he => h (he ▸ hc)
    obtain ⟨h1, h3⟩ := ih j (Nat.lt_of_le_of_ne hej hne) (by omega) hc
    refine ⟨h1, fun i hi1 hi2 => ?_⟩
    rcases Nat.eq_or_lt_of_le hi1 with rfl | hlt
    · exact h
    · exact h3 i hlt hi2

theorem shiftOf_spec {a b : Nat} (ha : 0 < a) :
    2 ^ 52 * b ≤ a * 2 ^ (shiftOf a b) ∧ ∀ j, j < shiftOf a b → ¬ 2 ^ 52 * b ≤ a * 2 ^ j := by
  -- `b < 2^b`, so the exponent `52 + b` will do
  have hc : 2 ^ 52 * b ≤ a * 2 ^ (52 + b) :=
    calc 2 ^ 52 * b ≤ 2 ^ 52 * 2 ^ b := Nat.mul_le_mul_left _ (Nat.le_of_lt Nat.lt_two_pow_self)
      _ = 2 ^ (52 + b) := (Nat.pow_add ..).symm
      _ ≤ a * 2 ^ (52 + b) := Nat.le_mul_of_pos_left _ ha
  obtain ⟨h1, h3⟩ := shiftFrom_spec a b (b + 53) 0 (52 + b) (Nat.zero_le _) (by omega) hc
  exact ⟨h1, fun j hj => h3 j (Nat.zero_le _) hj⟩

theorem shiftOf_unique {a b e : Nat} (ha : 0 < a) (h1 : 2 ^ 52 * b ≤ a * 2 ^ e)
    (h2 : ∀ j, j < e → ¬ 2 ^ 52 * b ≤ a * 2 ^ j) : shiftOf a b = e := by
  obtain ⟨h1', h2'⟩ := shiftOf_spec (b := b) ha
  exact Nat.le_antisymm (Nat.le_of_not_lt fun hlt => h2' _ hlt h1) (Nat.le_of_not_lt fun hlt => h2 _ hlt h1')

theorem mul_two_pow_succ (a e : Nat) : a * 2 ^ (e + 1) = 2 * (a * 2 ^ e) := by
  rw [Nat.pow_succ, Nat.mul_comm _ 2, Nat.mul_left_comm]

theorem two_pow_53_mul (b : Nat) : 2 ^ 53 * b = 2 * (2 ^ 52 * b) := by
  rw [← Nat.mul_assoc]

theorem shiftOf_bracket {a b : Nat} (ha : 0 < a) (hab : a ≤ b) :
    ∃ e, shiftOf a b = e + 1 ∧ 2 ^ 52 * b ≤ a * 2 ^ (e + 1) ∧ a * 2 ^ (e + 1) < 2 ^ 53 * b := by
  obtain ⟨h1, h2⟩ := shiftOf_spec (b := b) ha
  cases he : shiftOf a b with
  | zero =>
    rw [he, Nat.pow_zero, Nat.mul_one] at h1
    have : 2 * b ≤ a := Nat.le_trans (Nat.mul_le_mul_right b (by decide : 2 ≤ 2 ^ 52)) h1
    omega
  | succ e =>
    rw [he] at h1 h2
    refine ⟨e, rfl, h1, ?_⟩
    rw [mul_two_pow_succ, two_pow_53_mul]
    exact Nat.mul_lt_mul_of_pos_left (Nat.lt_of_not_le (h2 e (Nat.lt_succ_self e))) (by decide)

theorem rhe_cases (x b : Nat) : (roundHalfEven x b = x / b ∧ 2 * (x % b) ≤ b) ∨
    (roundHalfEven x b = x / b + 1 ∧ b ≤ 2 * (x % b)) := by
  fun_cases roundHalfEven x b with
  | case1 h => exact Or.inl ⟨rfl, Nat.le_of_lt h⟩
  | case2 _ h => exact Or.inr ⟨rfl, Nat.le_of_lt h⟩
  | case3 _ h => exact Or.inl ⟨rfl, Nat.le_of_not_lt h⟩
  | case4 h => exact Or.inr ⟨rfl, Nat.le_of_not_lt h⟩

/-- `t`: the multiple of `b` below `x`, `r`: the remainder -/
theorem half_unit {x t r b : Nat} (hx : t + r = x) (hr : r < b) :
    (2 * r ≤ b → 2 * x ≤ 2 * t + b ∧ 2 * t ≤ 2 * x + b) ∧
    (b ≤ 2 * r → 2 * x ≤ 2 * (t + b) + b ∧ 2 * (t + b) ≤ 2 * x + b) := by
  omega

theorem rhe_spec (x : Nat) {b : Nat} (hb : 0 < b) :
    x / b ≤ roundHalfEven x b ∧ roundHalfEven x b ≤ x / b + 1 ∧
      2 * x ≤ 2 * (roundHalfEven x b * b) + b ∧ 2 * (roundHalfEven x b * b) ≤ 2 * x + b := by
  have hu := half_unit (Nat.div_add_mod' x b) (Nat.mod_lt x hb)
  rcases rhe_cases x b with ⟨hm, h⟩ | ⟨hm, h⟩
  · rw [hm]; exact ⟨Nat.le_refl _, Nat.le_succ _, hu.1 h⟩
  · rw [hm, Nat.add_mul, Nat.one_mul]; exact ⟨Nat.le_succ _, Nat.le_refl _, hu.2 h⟩

/-- a value of at most 1 with a normal mantissa has an exponent of at least 52 -/
theorem exponent_ge {a b m e : Nat} (hab : a ≤ b) (hb : 0 < b) (hm : 2 ^ 52 ≤ m)
    (h : 2 * (m * b) ≤ 2 * (a * 2 ^ e) + b) : 52 ≤ e := by
  apply Nat.le_of_not_lt
  intro hlt
  have h1 : a * 2 ^ e ≤ b * 2 ^ 51 := Nat.mul_le_mul hab (Nat.pow_le_pow_right (by decide) (Nat.le_of_lt_succ hlt))
  have h2 : 2 * (b * 2 ^ 51) ≤ m * b := by
    rw [Nat.mul_left_comm, Nat.mul_comm b]; exact Nat.mul_le_mul_right _ hm
  have h3 : b ≤ b * 2 ^ 51 := Nat.le_mul_of_pos_right _ (by decide)
  generalize b * 2 ^ 51 = t at h1 h2 h3
  omega

/-- the mantissa rounded up to `2 * 2^52` at exponent `e + 1` is `2^52` at exponent `e`, within the coarser half unit
(`t = 2^52 * b`) -/
theorem carry_bound {y t b : Nat} (h1 : 2 * (2 * y) ≤ 2 * (2 * t) + b) (h2 : 2 * (2 * t) ≤ 2 * (2 * y) + b) :
    2 * y ≤ 2 * t + b ∧ 2 * t ≤ 2 * y + b := by
  omega

/-- for `0 < a ≤ b` the result `(m, e)` of `fdiv a b` is a normal binary64 (`2^52 ≤ m < 2^53`) within half a unit in
the last place of `a / b` (`|a * 2^e - m * b| ≤ b / 2`), and `52 ≤ e` (the value is at most 1). -/
theorem fdiv_spec {a b : Nat} (ha : 0 < a) (hab : a ≤ b) :
    2 ^ 52 ≤ (fdiv a b).1 ∧ (fdiv a b).1 < 2 ^ 53 ∧
      2 * (a * 2 ^ (fdiv a b).2) ≤ 2 * (fdiv a b).1 * b + b ∧
      2 * (fdiv a b).1 * b ≤ 2 * (a * 2 ^ (fdiv a b).2) + b ∧ 52 ≤ (fdiv a b).2 := by
  have hb : 0 < b := Nat.lt_of_lt_of_le ha hab
  obtain ⟨e, he, hlo, hhi⟩ := shiftOf_bracket ha hab
  obtain ⟨hq1, hq2, he1, he2⟩ := rhe_spec (a * 2 ^ (e + 1)) hb
  have hqlo : 2 ^ 52 ≤ a * 2 ^ (e + 1) / b := (Nat.le_div_iff_mul_le hb).mpr hlo
  have hqhi : a * 2 ^ (e + 1) / b < 2 ^ 53 := (Nat.div_lt_iff_lt_mul hb).mpr hhi
  have core : 2 ^ 52 ≤ (fdiv a b).1 ∧ (fdiv a b).1 < 2 ^ 53 ∧
      2 * (a * 2 ^ (fdiv a b).2) ≤ 2 * ((fdiv a b).1 * b) + b ∧
      2 * ((fdiv a b).1 * b) ≤ 2 * (a * 2 ^ (fdiv a b).2) + b := by
    unfold fdiv
    simp only [he]
    split
    · rename_i hm
      rw [hm, mul_two_pow_succ, two_pow_53_mul] at he1 he2
      exact ⟨Nat.le_refl _, Nat.pow_lt_pow_right (by decide) (by decide), carry_bound he1 he2⟩
    · rename_i hm
      exact ⟨Nat.le_trans hqlo hq1, Nat.lt_of_le_of_ne (Nat.le_trans hq2 hqhi) hm, he1, he2⟩
  rw [Nat.mul_assoc]
  exact ⟨core.1, core.2.1, core.2.2.1, core.2.2.2, exponent_ge hab hb core.1 core.2.2.2⟩

theorem shiftOf_scale {a k : Nat} (b : Nat) (ha : 0 < a) (hk : 0 < k) : shiftOf (a * k) (b * k) = shiftOf a b := by
  have key : ∀ j, 2 ^ 52 * (b * k) ≤ a * k * 2 ^ j ↔ 2 ^ 52 * b ≤ a * 2 ^ j := fun j => by
    rw [← Nat.mul_assoc, Nat.mul_right_comm a k, Nat.mul_le_mul_right_iff hk]
  obtain ⟨h1, h2⟩ := shiftOf_spec (b := b) ha
  exact shiftOf_unique (Nat.mul_pos ha hk) ((key _).mpr h1) fun j hj hc => h2 j hj ((key j).mp hc)

theorem rhe_scale (x b : Nat) {k : Nat} (hk : 0 < k) : roundHalfEven (x * k) (b * k) = roundHalfEven x b := by
  unfold roundHalfEven
  simp only [Nat.mul_div_mul_right _ _ hk, Nat.mul_mod_mul_right, ← Nat.mul_assoc, Nat.mul_lt_mul_right hk]

theorem fdiv_scale {a k : Nat} (b : Nat) (ha : 0 < a) (hk : 0 < k) : fdiv (a * k) (b * k) = fdiv a b := by
  unfold fdiv
  simp only [shiftOf_scale b ha hk, Nat.mul_right_comm a k, rhe_scale _ b hk]

/-- the boundary `count / total = w / W`: both are the quotient of the common multiple -/
theorem fdiv_ratio {a b a' b' : Nat} (ha : 0 < a) (ha' : 0 < a') (hb : 0 < b) (hb' : 0 < b')
    (h : a * b' = a' * b) : fdiv a b = fdiv a' b' := by
  rw [← fdiv_scale b ha hb', ← fdiv_scale b' ha' hb, h, Nat.mul_comm b b']

/-- `m1 / A` at most half of the unit `1/A` above `c / n`, `m2 / B` at most half of the unit `1/B` below `w / W`: the
gap `1 / (n * W)` between the two fractions is more than the two half units -/
theorem rounded_lt {m1 m2 A B c n w W : Nat} (h1 : 2 * m1 * n ≤ 2 * (c * A) + n) (h2 : 2 * (w * B) ≤ 2 * m2 * W + W)
    (h : c * W < w * n) (hA : n * W < A) (hB : n * W < B) : m1 * B < m2 * A := by
  apply Nat.lt_of_not_le
  intro hn
  -- were `m2 * A ≤ m1 * B`: everything over the common denominator (`g3`, `g2`, `g4`, `g1` in turn) chains to
  -- `2AB(cW + 1) ≤ 2AB·wn ≤ (2·m2 + 1)·nWA ≤ 2·m1·nWB + nWA ≤ 2AB·cW + nWB + nWA`,
  -- so `2AB ≤ nWA + nWB`, against `g5` and `g6`
  have h3 : c * W + 1 ≤ w * n := h
  have g1 := Nat.mul_le_mul_right (W * B) h1
  have g2 := Nat.mul_le_mul_right (n * A) h2
  have g3 := Nat.mul_le_mul_right (2 * A * B) h3
  have g4 := Nat.mul_le_mul_left (2 * n * W) hn
  have g5 : n * W * A < B * A := Nat.mul_lt_mul_of_lt_of_le hB (Nat.le_refl _) (by omega)
  have g6 : n * W * B < A * B := Nat.mul_lt_mul_of_lt_of_le hA (Nat.le_refl _) (by omega)
  grind

/-- different quotients whose denominators multiply to less than `2^52` stay apart after rounding -/
theorem fLt_of_lt {c n w W : Nat} (hc : 0 < c) (hcn : c ≤ n) (hw : 0 < w) (hwW : w ≤ W)
    (hnW : n * W < 2 ^ 52) (h : c * W < w * n) : fLt (fdiv c n) (fdiv w W) = true := by
  obtain ⟨_, _, _, h1, e1⟩ := fdiv_spec hc hcn
  obtain ⟨_, _, h2, _, e2⟩ := fdiv_spec hw hwW
  have hA : 2 ^ 52 ≤ 2 ^ (fdiv c n).2 := Nat.pow_le_pow_right (by decide) e1
  have hB : 2 ^ 52 ≤ 2 ^ (fdiv w W).2 := Nat.pow_le_pow_right (by decide) e2
  exact decide_eq_true (rounded_lt h1 h2 h (Nat.lt_of_lt_of_le hnW hA) (Nat.lt_of_lt_of_le hnW hB))

theorem fLt_irrefl (x : Nat × Nat) : fLt x x = false := by simp [fLt]

theorem fLt_asymm {x y : Nat × Nat} (h : fLt x y = true) : fLt y x = false := by
  simp only [fLt, decide_eq_true_eq, decide_eq_false_iff_not] at *
  omega

/-- **float = rational**: for `0 < c ≤ n`, `0 < w ≤ W` and `n * W < 2^52` the binary64 comparison of the two
rounded quotients is the exact comparison of the rationals. -/
theorem fLt_iff {c n w W : Nat} (hc : 0 < c) (hcn : c ≤ n) (hw : 0 < w) (hwW : w ≤ W) (hnW : n * W < 2 ^ 52) :
    fLt (fdiv c n) (fdiv w W) = true ↔ c * W < w * n := by
  refine ⟨fun h => Nat.lt_of_not_le fun hle => ?_, fLt_of_lt hc hcn hw hwW hnW⟩
  rcases Nat.lt_or_eq_of_le hle with hlt | heq
  · have := fLt_of_lt hw hwW hc hcn (Nat.mul_comm n W ▸ hnW) hlt
    rw [fLt_asymm this] at h; cases h
  · rw [fdiv_ratio hc hw (by omega) (by omega) heq.symm, fLt_irrefl] at h; cases h

/-- `Slot.eligible` in binary64 = the exact eligibility of the model -/
theorem fEligible_iff {W n w c : Nat} (hn : 0 < n) (hcn : c ≤ n) (hw : 0 < w) (hwW : w ≤ W) (hnW : n * W < 2 ^ 52) :
    fEligible W n w c = true ↔ c * W < w * n := by
  unfold fEligible
  rcases Nat.eq_zero_or_pos c with rfl | hc
  · simpa using Nat.mul_pos hw hn
  · rw [show (c == 0) = false from beq_false_of_ne (Nat.ne_of_gt hc), Bool.false_or]
    exact fLt_iff hc hcn hw hwW hnW

/-- every slot of a request: weight positive and at most the sum, count at most the request number -/
def SlotsOK (W n : Nat) (sl : List Slot) : Prop := ∀ x ∈ sl, 0 < x.1 ∧ x.1 ≤ W ∧ x.2 ≤ n

theorem SlotsOK.head {W n : Nat} {w c : Nat} {r : List Slot} (hn : 0 < n) (hnW : n * W < 2 ^ 52)
    (hs : SlotsOK W n ((w, c) :: r)) : fEligible W n w c = true ↔ c * W < w * n :=
  have ⟨h1, h2, h3⟩ := hs (w, c) List.mem_cons_self
  fEligible_iff hn h3 h1 h2 hnW

theorem SlotsOK.tail {W n : Nat} {x : Slot} {r : List Slot} (hs : SlotsOK W n (x :: r)) : SlotsOK W n r :=
  fun y hy => hs y (List.mem_cons_of_mem _ hy)

theorem fHitFirst_eq {W n : Nat} (hn : 0 < n) (hnW : n * W < 2 ^ 52) (sl : List Slot) (hs : SlotsOK W n sl) :
    fHitFirst W n sl = hitFirst W n sl := by
  induction sl with
  | nil => rfl
  | cons x r ih =>
    obtain ⟨w, c⟩ := x
    simp only [fHitFirst, hitFirst, hs.head hn hnW, ih hs.tail]

theorem fPickIdx_eq {W n : Nat} (hn : 0 < n) (hnW : n * W < 2 ^ 52) (sl : List Slot) (hs : SlotsOK W n sl) :
    fPickIdx W n sl = pickIdx W n sl := by
  induction sl with
  | nil => rfl
  | cons x r ih =>
    obtain ⟨w, c⟩ := x
    simp only [fPickIdx, pickIdx, hs.head hn hnW, ih hs.tail]

end ForML.Strategy
