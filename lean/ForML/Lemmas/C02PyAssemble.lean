/-
`Expression.__init__` (model `assemble`). Two invariants of the provider deques over the
assembling loop. Values: every term sitting in the deque of an already assembled node is good for that node, hence the
final term is good for the last node of the DAG. Counting: every deque of an assembled node holds exactly as many
terms as there are argument occurrences still to be served (plus the final term of the last node), so `popleft` never
hits an empty deque and nothing is outstanding at the end.
-/
import ForML.Lemmas.C02PyBuild
import ForML.Lemmas.C02PyEval

namespace ForML.Flow.PyFunc
open ForML.Flow

theorem Providers.get_eq_lookup (p : Providers) (k : Key) : p.get k = p.lookup k :=
  lookup_eq_of_eqns (f := fun k p => Providers.get p k) (fun _ => rfl) (fun _ _ _ _ => rfl) k p

theorem Providers.set_isSet : IsSet (fun k d p => Providers.set p k d) :=
  ⟨fun _ _ => rfl, by intro k d k' d' r; simp only [Providers.set]; split <;> simp_all⟩

theorem Providers.get_set (p : Providers) (k : Key) (d : List Term) (k' : Key) :
    (p.set k d).get k' = if k' = k then some d else p.get k' := by
  rw [Providers.get_eq_lookup, Providers.get_eq_lookup]
  exact Providers.set_isSet.lookup k k' d p

theorem Providers.get_of_mem (p : Providers) (hn : (p.map (·.1)).Nodup) {k : Key} {d : List Term}
    (h : (k, d) ∈ p) : p.get k = some d :=
  (p.get_eq_lookup k).trans (lookup_of_mem hn h)

def GoodAll (D : Val → Key → Val) (U : Term) (k : Key) : Prop := ∀ x, Good (D x) x U k

def Earlier (seen : List Key) (ns : List Node) : Prop :=
  ArgsEarlier seen (ns.map fun n => (n.key, n.raw, n.args))

/-- provider invariant: unprocessed nodes still hold exactly their raw term, everything provided by processed
nodes is good -/
structure PInv (D : Val → Key → Val) (p : Providers) (seen : List Key) (rest : List Node) : Prop where
  raw : ∀ n ∈ rest, p.get n.key = some [.raw n.key n.raw]
  good : ∀ k ∈ seen, ∀ d, p.get k = some d → ∀ U ∈ d, GoodAll D U k

theorem popleft_spec {p : Providers} {k : Key} {U : Term} {p' : Providers} (h : popleft p k = .ok (U, p')) :
    ∃ d, p.get k = some (U :: d) ∧ p' = p.set k d := by
  unfold popleft at h
  split at h
  · cases h
  · cases h
  · rename_i x d hg
    cases h
    exact ⟨d, hg, rfl⟩

theorem Providers.set_set (p : Providers) (k : Key) (d d' : List Term) : (p.set k d).set k d' = p.set k d' :=
  Providers.set_isSet.set_set k d d' p

/-- one round of the loop on a node whose deque holds just its raw term: its arguments popped, the node provides the
fork of its call -/
theorem assemble_cons {n : Node} {rest : List Node} {p p1 : Providers} {U0 : Term} {Us0 : List Term}
    (hpa : popArgs n.args p = .ok (U0 :: Us0, p1)) (hraw : p1.get n.key = some [.raw n.key n.raw]) :
    assemble (n :: rest) p =
      assemble rest (p1.set n.key (fork n.key (.call n.key n.raw (U0 :: Us0)) n.szout)) := by
  have hget : (p1.set n.key []).get n.key = some [] := by rw [Providers.get_set]; simp
  simp [assemble, hpa, popleft, hraw, hget, Providers.set_set]

theorem popArgs_spec {D : Val → Key → Val} {seen : List Key} {rest : List Node}
    (hdisj : ∀ n ∈ rest, n.key ∉ seen) :
    ∀ (as : List Key) (p : Providers) (Us : List Term) (p' : Providers), popArgs as p = .ok (Us, p') →
      (∀ a ∈ as, a ∈ seen) → PInv D p seen rest → All₂ (GoodAll D) Us as ∧ PInv D p' seen rest := by
  intro as
  induction as with
  | nil => intro p Us p' h _ hp; simp only [popArgs] at h; cases h; exact ⟨.nil, hp⟩
  | cons a as ih =>
    intro p Us p' h hin hp
    simp only [popArgs] at h
    cases hpop : popleft p a with
    | error e => simp [hpop] at h
    | ok r1 =>
      obtain ⟨U, p1⟩ := r1
      simp only [hpop] at h
      cases hrest : popArgs as p1 with
      | error e => simp [hrest] at h
      | ok r2 =>
        obtain ⟨Us', p2⟩ := r2
        simp only [hrest] at h
        cases h
        obtain ⟨d, hg, rfl⟩ := popleft_spec hpop
        have ha : a ∈ seen := hin a (List.mem_cons_self ..)
        have hp1 : PInv D (p.set a d) seen rest := by
          refine ⟨?_, ?_⟩
          · intro n hn
            rw [Providers.get_set]
            have : n.key ≠ a := fun e => hdisj n hn (e ▸ ha)
            simp [this, hp.raw n hn]
          · intro k hk d' hd' U' hU'
            rw [Providers.get_set] at hd'
            split at hd'
            · rename_i he
              subst he
              cases hd'
              exact hp.good k hk _ hg U' (List.mem_cons_of_mem _ hU')
            · exact hp.good k hk d' hd' U' hU'
        have := ih _ _ _ hrest (fun b hb => hin b (List.mem_cons_of_mem _ hb)) hp1
        exact ⟨.cons (hp.good a ha _ hg U (List.mem_cons_self ..)) this.1, this.2⟩

theorem assemble_spec {D : Val → Key → Val} :
    ∀ (rest : List Node) (seen : List Key) (p p' : Providers), assemble rest p = .ok p' →
      (seen ++ rest.map (·.key)).Nodup → Earlier seen rest →
      (∀ n ∈ rest, ∀ x, n.raw.call (n.args.map (D x)) = D x n.key) →
      PInv D p seen rest → PInv D p' (seen ++ rest.map (·.key)) [] := by
  intro rest
  induction rest with
  | nil => intro seen p p' h _ _ _ hp; simp only [assemble] at h; cases h; simpa using hp
  | cons n rest ih =>
    intro seen p p' h hnd hearly hraw hp
    obtain ⟨_, hnr, hdisj⟩ := List.nodup_append.1 hnd
    rw [List.map_cons, List.nodup_cons] at hnr
    cases hpa : popArgs n.args p with
    | error e => simp [assemble, hpa] at h
    | ok r1 =>
      obtain ⟨Us, p1⟩ := r1
      obtain ⟨hUs, hp1⟩ := popArgs_spec (fun m hm hin => hdisj _ hin _ (List.mem_map_of_mem hm) rfl)
        n.args p Us p1 hpa hearly.1 hp
      have hrawn := hp1.raw n (List.mem_cons_self ..)
      cases Us with
      | nil => simp [assemble, hpa, popleft, hrawn] at h
      | cons U0 Us0 =>
        rw [assemble_cons hpa hrawn] at h
        have hgoodcall : GoodAll D (.call n.key n.raw (U0 :: Us0)) n.key := by
          intro x
          exact good_call (All₂.imp (fun _ _ hh => hh x) hUs) (hraw n (List.mem_cons_self ..) x)
        have hp3 : PInv D (p1.set n.key (fork n.key (.call n.key n.raw (U0 :: Us0)) n.szout))
            (seen ++ [n.key]) rest := by
          refine ⟨?_, ?_⟩
          · intro m hm
            have hne' : m.key ≠ n.key := fun e => hnr.1 (e ▸ List.mem_map_of_mem hm)
            rw [Providers.get_set]
            simp [hne', hp1.raw m (List.mem_cons_of_mem _ hm)]
          · intro k' hk' d' hd' U' hU'
            rw [Providers.get_set] at hd'
            split at hd'
            · rename_i he
              subst he
              cases hd'
              intro x
              exact good_fork _ (hgoodcall x) U' hU'
            · rename_i hne'
              rcases List.mem_append.1 hk' with h1 | h1
              · exact hp1.good k' h1 d' hd' U' hU'
              · simp at h1; exact absurd h1 hne'
        have := ih (seen ++ [n.key]) _ p' h (by simpa using hnd)
          hearly.2 (fun m hm => hraw m (List.mem_cons_of_mem _ hm)) hp3
        simpa [List.append_assoc] using this

/-- the `let providers := …` of the model's `expression` (the dict `Expression.__init__` starts from) -/
def initProviders (first : Node) (rest : List Node) : Providers :=
  (first.key, fork first.key (.raw first.key first.raw) first.szout) ::
    rest.map fun n => (n.key, [Term.raw n.key n.raw])

theorem initProviders_get_rest {first : Node} {rest : List Node} (hnd : ((first :: rest).map (·.key)).Nodup) :
    ∀ n ∈ rest, (initProviders first rest).get n.key = some [.raw n.key n.raw] := fun n hn =>
  Providers.get_of_mem _ (by simpa [initProviders, Function.comp_def] using hnd)
    (List.mem_cons_of_mem _ (List.mem_map.2 ⟨n, hn, rfl⟩))

theorem assemble_good {D : Val → Key → Val} {first : Node} {rest : List Node} {p : Providers}
    (hnd : ((first :: rest).map (·.key)).Nodup) (hearly : Earlier [first.key] rest)
    (hfirst : ∀ x, first.raw.call [x] = D x first.key)
    (hraw : ∀ n ∈ rest, ∀ x, n.raw.call (n.args.map (D x)) = D x n.key)
    (ha : assemble rest (initProviders first rest) = .ok p) :
    ∀ k ∈ (first :: rest).map (·.key), ∀ d, p.get k = some d → ∀ U ∈ d, GoodAll D U k := by
  refine (assemble_spec rest [first.key] _ p ha hnd hearly hraw ⟨initProviders_get_rest hnd, ?_⟩).good
  · intro k hk d hd U hU x
    cases List.mem_singleton.1 hk
    simp only [initProviders, Providers.get, if_true, Option.some.injEq] at hd
    subst hd
    exact good_fork _ (good_raw (hfirst x)) U hU

theorem fork_length (q : Key) (U : Term) (n : Nat) : (fork q U n).length = if n > 1 then n else 1 := by
  unfold fork
  split <;> simp

theorem fork_length_node {n : Node} {lastKey : Key} {c : Nat} (hs : n.szout = c)
    (hso : (n.key ≠ lastKey → 1 ≤ n.szout) ∧ (n.key = lastKey → n.szout = 0)) (U : Term) :
    (fork n.key U n.szout).length = c + if n.key = lastKey then 1 else 0 := by
  rw [fork_length, ← hs]
  by_cases hl : n.key = lastKey
  · rw [if_pos hl, hso.2 hl]; rfl
  · have := hso.1 hl
    rw [if_neg hl]
    split <;> omega

theorem Providers.set_keys (p : Providers) (k : Key) (d : List Term) (h : (p.get k).isSome) :
    (p.set k d).map (·.1) = p.map (·.1) :=
  Providers.set_isSet.keys_of_mem k d p (Classical.not_not.1 fun hn => by
    rw [Providers.get_eq_lookup, lookup_eq_none_iff_not_mem.2 hn] at h; cases h)

/-- all argument occurrences still to be served -/
def todoOf (ns : List Node) : List Key := ns.flatMap (·.args)

/-- counting invariant: the dict keeps its keys `keys`; nodes not yet assembled (`rest`) hold their raw term; the deque
of an assembled node (`seen`) holds one term per occurrence of its key among the argument occurrences `todo` still to
be popped, plus the final term if it is the last node of the DAG -/
structure CInv (p : Providers) (keys : List Key) (lastKey : Key) (seen : List Key) (rest : List Node)
    (todo : List Key) : Prop where
  keys : p.map (·.1) = keys
  raw : ∀ n ∈ rest, p.get n.key = some [.raw n.key n.raw]
  cnt : ∀ k ∈ seen, ∃ d, p.get k = some d ∧ d.length = todo.count k + (if k = lastKey then 1 else 0)

theorem popArgs_count {keys : List Key} {lastKey : Key} {seen : List Key} {rest : List Node}
    (hdisj : ∀ n ∈ rest, n.key ∉ seen) :
    ∀ (as : List Key) (p : Providers) (todo' : List Key), (∀ a ∈ as, a ∈ seen) →
      CInv p keys lastKey seen rest (as ++ todo') →
      ∃ Us p', popArgs as p = .ok (Us, p') ∧ Us.length = as.length ∧ CInv p' keys lastKey seen rest todo' := by
  intro as
  induction as with
  | nil => intro p todo' _ h; exact ⟨[], p, rfl, rfl, by simpa using h⟩
  | cons a as ih =>
    intro p todo' hin h
    have ha := hin a (List.mem_cons_self ..)
    obtain ⟨d, hg, hl⟩ := h.cnt a ha
    simp only [List.cons_append, List.count_cons_self] at hl
    cases d with
    | nil => simp at hl; omega
    | cons x d' =>
      have hpop : popleft p a = .ok (x, p.set a d') := by simp [popleft, hg]
      have h1 : CInv (p.set a d') keys lastKey seen rest (as ++ todo') := by
        refine ⟨?_, ?_, ?_⟩
        · rw [Providers.set_keys p a d' (by simp [hg]), h.keys]
        · intro n hn
          have : n.key ≠ a := fun e => hdisj n hn (e ▸ ha)
          rw [Providers.get_set]; simp [this, h.raw n hn]
        · intro k hk
          rw [Providers.get_set]
          by_cases hka : k = a
          · subst hka
            refine ⟨d', by simp, ?_⟩
            simp only [List.length_cons] at hl
            omega
          · obtain ⟨dk, hgk, hlk⟩ := h.cnt k hk
            refine ⟨dk, by simp [hka, hgk], ?_⟩
            have hne : ¬ (a == k) = true := by simpa using fun e : a = k => hka e.symm
            simp only [List.cons_append, List.count_cons, hne] at hlk
            simpa using hlk
      obtain ⟨Us, p', hr, hlen, hinv⟩ := ih (p.set a d') todo' (fun b hb => hin b (List.mem_cons_of_mem _ hb)) h1
      exact ⟨x :: Us, p', by simp [popArgs, hpop, hr], by simp [hlen], hinv⟩

/-- `served` = the argument occurrences popped before `rest` is entered. `szout` counts the occurrences of a key among
the arguments of the whole DAG (`served ++ todoOf rest` stays that list as the loop proceeds); when a node is assembled
none of them has been served yet, because `served` holds keys of assembled nodes only, so its fork has one term per
occurrence still to come -/
theorem assemble_count {keys : List Key} {lastKey : Key} :
    ∀ (rest : List Node) (seen : List Key) (p : Providers) (served : List Key), (seen ++ rest.map (·.key)).Nodup →
      Earlier seen rest → (∀ n ∈ rest, n.args ≠ []) →
      (∀ a ∈ served, a ∈ seen) → (∀ n ∈ rest, n.szout = (served ++ todoOf rest).count n.key) →
      (∀ n ∈ rest, (n.key ≠ lastKey → 1 ≤ n.szout) ∧ (n.key = lastKey → n.szout = 0)) →
      CInv p keys lastKey seen rest (todoOf rest) →
      ∃ p', assemble rest p = .ok p' ∧ CInv p' keys lastKey (seen ++ rest.map (·.key)) [] [] := by
  intro rest
  induction rest with
  | nil => intro seen p _ _ _ _ _ _ _ h; exact ⟨p, rfl, by simpa [todoOf] using h⟩
  | cons n rest ih =>
    intro seen p served hnd hearly hargs hserved hsz hszout h
    obtain ⟨_, hnr, hdisj⟩ := List.nodup_append.1 hnd
    rw [List.map_cons, List.nodup_cons] at hnr
    have htodo : todoOf (n :: rest) = n.args ++ todoOf rest := by simp [todoOf]
    rw [htodo] at h hsz
    -- the occurrences served so far and the node's own arguments are keys of assembled nodes, the node's key is not
    have hnk : ∀ l : List Key, (∀ a ∈ l, a ∈ seen) → l.count n.key = 0 := fun l hl =>
      List.count_eq_zero.2 fun hin => hdisj _ (hl _ hin) _ (List.mem_cons_self ..) rfl
    have hszn : n.szout = (todoOf rest).count n.key := by
      rw [hsz n (List.mem_cons_self ..), List.count_append, List.count_append, hnk _ hserved, hnk _ hearly.1]
      simp
    obtain ⟨Us, p1, hpa, hlen, h1⟩ := popArgs_count (fun m hm hin => hdisj _ hin _ (List.mem_map_of_mem hm) rfl)
      n.args p (todoOf rest) hearly.1 h
    have hrawn := h1.raw n (List.mem_cons_self ..)
    cases Us with
    | nil => simp at hlen; exact absurd (List.length_eq_zero_iff.1 hlen.symm) (hargs n (List.mem_cons_self ..))
    | cons U0 Us0 =>
      have h3 : CInv (p1.set n.key (fork n.key (.call n.key n.raw (U0 :: Us0)) n.szout)) keys lastKey
          (seen ++ [n.key]) rest (todoOf rest) := by
        refine ⟨?_, ?_, ?_⟩
        · rw [Providers.set_keys _ _ _ (by simp [hrawn]), h1.keys]
        · intro m hm
          have hne' : m.key ≠ n.key := fun e => hnr.1 (e ▸ List.mem_map_of_mem hm)
          rw [Providers.get_set]
          simp [hne', h1.raw m (List.mem_cons_of_mem _ hm)]
        · intro k hk
          rw [Providers.get_set]
          by_cases hkn : k = n.key
          · subst hkn
            exact ⟨_, by simp, fork_length_node hszn (hszout n (List.mem_cons_self ..)) (.call n.key n.raw (U0 :: Us0))⟩
          · rcases List.mem_append.1 hk with h2 | h2
            · obtain ⟨dk, hgk, hlk⟩ := h1.cnt k h2
              exact ⟨dk, by simp [hkn, hgk], hlk⟩
            · simp at h2; exact absurd h2 hkn
      obtain ⟨p', hp', hinv'⟩ := ih (seen ++ [n.key]) _ (served ++ n.args) (by simpa using hnd)
        hearly.2 (fun m hm => hargs m (List.mem_cons_of_mem _ hm))
        (fun a ha => List.mem_append_left _ ((List.mem_append.1 ha).elim (hserved a) (hearly.1 a)))
        (fun m hm => by rw [hsz m (List.mem_cons_of_mem _ hm), List.append_assoc])
        (fun m hm => hszout m (List.mem_cons_of_mem _ hm)) h3
      exact ⟨p', by rw [assemble_cons hpa hrawn]; exact hp', by simpa [List.append_assoc] using hinv'⟩

theorem assemble_ok {first : Node} {rest : List Node} {lastKey : Key}
    (hnd : ((first :: rest).map (·.key)).Nodup) (hearly : Earlier [first.key] rest)
    (hfirst : first.args = []) (hargs : ∀ n ∈ rest, n.args ≠ [])
    (hsz : ∀ n ∈ first :: rest, n.szout = (todoOf (first :: rest)).count n.key)
    (hszout : ∀ n ∈ first :: rest, (n.key ≠ lastKey → 1 ≤ n.szout) ∧ (n.key = lastKey → n.szout = 0)) :
    ∃ p, assemble rest (initProviders first rest) = .ok p ∧
      CInv p ((first :: rest).map (·.key)) lastKey ((first :: rest).map (·.key)) [] [] := by
  have htodo : todoOf (first :: rest) = todoOf rest := by simp [todoOf, hfirst]
  rw [htodo] at hsz
  refine assemble_count rest [first.key] _ [] hnd hearly hargs (by simp) (fun n hn => hsz n (List.mem_cons_of_mem _ hn))
    (fun n hn => hszout n (List.mem_cons_of_mem _ hn))
    ⟨by simp [initProviders, Function.comp_def], initProviders_get_rest hnd, fun k hk => ?_⟩
  · cases List.mem_singleton.1 hk
    exact ⟨fork first.key (.raw first.key first.raw) first.szout, by simp [initProviders, Providers.get],
      fork_length_node (hsz first (List.mem_cons_self ..)) (hszout first (List.mem_cons_self ..)) _⟩

theorem CInv.final {p : Providers} {keys : List Key} {lastKey : Key} (h : CInv p keys lastKey keys [] [])
    (hn : keys.Nodup) (hl : lastKey ∈ keys) :
    ∃ U, p.get lastKey = some [U] ∧ (p.set lastKey []).all (fun e => e.2.isEmpty) = true := by
  obtain ⟨dU, hgU, hlU⟩ := h.cnt lastKey hl
  simp only [List.count_nil, if_true, Nat.zero_add] at hlU
  obtain ⟨U, rfl⟩ := List.length_eq_one_iff.1 hlU
  refine ⟨U, hgU, List.all_eq_true.2 fun ⟨k, d⟩ he => ?_⟩
  have hkeys : (p.set lastKey []).map (·.1) = keys := by
    rw [Providers.set_keys _ _ _ (by simp [hgU]), h.keys]
  have hget := Providers.get_of_mem _ (hkeys ▸ hn) he
  rw [Providers.get_set] at hget
  by_cases hk : k = lastKey
  · simp only [hk, if_true, Option.some.injEq] at hget; simp [← hget]
  · simp only [hk, if_false] at hget
    have hkin : k ∈ keys := hkeys ▸ List.mem_map_of_mem (f := (·.1)) he
    obtain ⟨d', hg', hl'⟩ := h.cnt k hkin
    rw [hget] at hg'; cases hg'
    simp only [List.count_nil, hk, if_false, Nat.add_zero] at hl'
    simp [List.length_eq_zero_iff.1 hl']

end ForML.Flow.PyFunc
