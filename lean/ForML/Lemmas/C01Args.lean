/-
C01 — the argument lists of the final linkage: for every worker the absolute arguments are its data arguments in port
order; the committer takes the dumpers in persistent-list order.
-/
import ForML.Lemmas.C01Final

namespace ForML.Flow
open CState Segment

/-- a list without trailing gap is determined by its slots -/
theorem list_of_slots {l : List (Option Key)} {f : Nat → Option Key} (hl : LastSome l)
    (hpt : ∀ j, l.getD j none = f j) {n m : Nat} (hnm : n ≤ m) (hsome : ∀ j, j < n → (f j).isSome)
    (hnone : ∀ j, n ≤ j → f j = none) : l = ((List.range m).filterMap f).map some := by
  rw [filterMap_range_cut n hnone m hnm, filterMap_range_all_some n hsome]
  have hlen : l.length = n := by
    apply Nat.le_antisymm
    · apply hl.length_le
      intro j a hja
      rw [hpt] at hja
      apply Classical.byContradiction
      intro hge
      rw [hnone j (by omega)] at hja; cases hja
    · apply Classical.byContradiction
      intro hlt
      have hn : 0 < n := by omega
      have h1 := hsome (n - 1) (by omega)
      rw [← hpt] at h1
      have : l.getD (n - 1) none = none := by
        simp only [List.getD_eq_getElem?_getD]
        rw [List.getElem?_eq_none (by omega)]; rfl
      rw [this] at h1; cases h1
  apply List.ext_getElem
  · simp [hlen]
  · intro j h1 h2
    simp only [List.getElem_map, List.getElem_range]
    rw [← hpt j]
    simp [List.getD_eq_getElem?_getD, List.getElem?_eq_getElem h1]

/-- … in particular by a list of keys with the same slots -/
theorem eq_map_some_of_slots {l : List (Option Key)} {t : List Key} (hl : LastSome l) (hpt : ∀ j, l.getD j none = t[j]?) :
    l = t.map some := by
  rw [list_of_slots hl hpt (Nat.le_refl t.length) (fun j hj => by simp [hj]) (fun j hj => List.getElem?_eq_none hj)]
  simpa using congrArg (List.map some) (range_filterMap_get t some)

section
variable {g : Segment} {A : Option Assets} {rank : Uid → Nat} {order : List Uid} {s : CState}

/-- links into a functor: one per subscription of the node -/
theorem Final.slot_uid (hf : Final g A rank order s) (m : Uid) (j : Nat) (a : Key) :
    slot s.absolute (.uid m) j = some a ↔ ∃ e ∈ g.edges, e.sub = m ∧ e.subPort.index = j ∧ a = g.portKey e := by
  rw [hf.slot_iff]
  constructor
  · rintro ⟨w, hw, hl⟩
    rcases linkSpec_inv hl with ⟨hk, _⟩ | ⟨hk, _⟩ | ⟨i, hk, _⟩ | ⟨e, hk, hj, ha, _, he, hpub, _⟩
    · cases hk
    · cases hk
    · cases hk
    · refine ⟨e, he, (Key.uid.inj hk).symm, hj.symm, ?_⟩
      rw [ha]
      unfold portKey
      rw [hpub, worker?_of_mem hf.wf.nodup hw]
  · rintro ⟨e, he, rfl, rfl, rfl⟩
    obtain ⟨p, hp, hlt⟩ := (hf.wf.edge e he).pub
    obtain ⟨hpm, hpu⟩ := worker?_some hp
    refine ⟨p, hpm, ?_⟩
    have := LinkSpec.edge (A := A) e (publisher_untrained hf.wf he hp) he hpu.symm hlt
    unfold portKey
    rw [hp, ← hpu]
    exact this

theorem Final.slot_port (hf : Final g A rank order s) {w : Worker} (p : InPort)
    (hkind : ∀ e ∈ g.edges, e.sub = w.uid → e.subPort.isApply = p.isApply) :
    (s.ab (.uid w.uid)).getD p.index none = (g.publisher w.uid p).map g.portKey := by
  refine Option.ext fun a => ?_
  rw [ab_getD, hf.slot_uid, Option.map_eq_some_iff]
  constructor
  · rintro ⟨e, he, hes, hej, rfl⟩
    have hpub := publisher_eq hf.wf he
    rw [hes, InPort.eq_of_index (hkind e he hes) hej] at hpub
    exact ⟨e, hpub, rfl⟩
  · rintro ⟨e, hpub, rfl⟩
    obtain ⟨he1, he2, he3⟩ := publisher_some hpub
    exact ⟨e, he1, he2, by rw [he3], rfl⟩

theorem Final.ab_uid (hf : Final g A rank order s) {w : Worker} (hw : w ∈ g.workers) :
    s.ab (.uid w.uid) = (g.dataArgs w).map some := by
  have hls := hf.ab_lastSome (.uid w.uid)
  cases htr : g.trained w.uid with
  | true =>
    have hT := hf.wf.trainedOK hw htr
    obtain ⟨x, hx⟩ := hT.train
    obtain ⟨y, hy⟩ := hT.label
    have hdata : g.dataArgs w = [g.portKey x, g.portKey y] := by simp [dataArgs, htr, hx, hy]
    rw [hdata]
    -- the train subscription fills slot 0, the label subscription slot 1, and there is no third
    refine eq_map_some_of_slots hls fun j => ?_
    match j with
    | 0 => exact (hf.slot_port .train hT.noApply).trans (by rw [hx]; rfl)
    | 1 => exact (hf.slot_port .label hT.noApply).trans (by rw [hy]; rfl)
    | j + 2 =>
      show _ = none
      cases hs : (s.ab (.uid w.uid)).getD (j + 2) none with
      | none => rfl
      | some a =>
        rw [ab_getD, hf.slot_uid] at hs
        obtain ⟨e, he, hes, hej, _⟩ := hs
        have := hT.noApply e he hes
        cases hp : e.subPort with
        | apply i => rw [hp] at this; cases this
        | train => rw [hp] at hej; cases hej
        | label => rw [hp] at hej; cases hej
  | false =>
    have hdata : g.dataArgs w = (List.range w.szin).filterMap (fun i => (g.publisher w.uid (.apply i)).map g.portKey) := by
      simp [dataArgs, htr]
    rw [hdata]
    have hO := hf.wf.appliedOK hw htr
    have hpt : ∀ j, (s.ab (.uid w.uid)).getD j none = (g.publisher w.uid (.apply j)).map g.portKey := fun j =>
      hf.slot_port (.apply j) hO.apply
    by_cases hhead : w.uid = g.head
    · exact list_of_slots hls hpt (Nat.zero_le _) (fun j hj => by omega) (fun j _ => by rw [(hO.head hhead).2]; rfl)
    · refine list_of_slots hls hpt (Nat.le_refl _) (fun j hj => ?_) (fun j hj => by rw [hO.bound j hj]; rfl)
      obtain ⟨e, he⟩ := hO.full hhead j hj
      rw [he]; rfl

theorem Final.ab_single (hf : Final g A rank order s) {k a : Key}
    (h0 : ∃ w ∈ g.workers, LinkSpec g A w k 0 a) (hj : ∀ w j a', LinkSpec g A w k j a' → j = 0) :
    s.ab k = [some a] := by
  refine eq_map_some_of_slots (t := [a]) (hf.ab_lastSome k) fun j => ?_
  match j with
  | 0 => exact (ab_getD s k 0).trans ((hf.slot_iff k 0 a).mpr h0)
  | j + 1 =>
    show _ = none
    cases hg : (s.ab k).getD (j + 1) none with
    | none => rfl
    | some a' =>
      rw [ab_getD, hf.slot_iff] at hg
      obtain ⟨w, _, hl⟩ := hg
      cases hj w _ a' hl

/-- a getter takes the functor of its node -/
theorem Final.ab_getter (hf : Final g A rank order s) {w : Worker} (hw : w ∈ g.workers)
    (htr : g.trained w.uid = false) (hne : w.szout ≠ 1) {i : Nat} (hi : i < w.szout) :
    s.ab (.getter w.uid i) = [some (.uid w.uid)] :=
  hf.ab_single ⟨w, hw, LinkSpec.getter i htr hne hi⟩ fun _ _ _ hl => linkSpec_slot_zero hl (Or.inr ⟨_, _, rfl⟩)

/-- a dumper takes the train functor of its node -/
theorem Final.ab_dumper (hf : Final g A rank order s) {w : Worker} (hw : w ∈ g.workers)
    (hT : g.isTrainer w = true) (hP : persistentW A w = true) :
    s.ab (.dumper w.uid) = [some (.uid w.uid)] :=
  hf.ab_single ⟨w, hw, LinkSpec.dumper hT hP⟩ fun _ _ _ hl => linkSpec_slot_zero hl (Or.inl ⟨_, rfl⟩)

theorem Final.ab_committer (hf : Final g A rank order s)
    {As : Assets} (hAs : A = some As) {t₀ : Worker} (ht₀ : t₀ ∈ g.workers) (hT₀ : g.isTrainer t₀ = true)
    (hP₀ : persistentW A t₀ = true) :
    s.ab .committer =
      (As.persistent.filterMap (fun γ => (g.trainerOf γ).map (fun t => Key.dumper t.uid))).map some := by
  have hall := hf.assets.all_trained_of_trainer hf.wf hAs ht₀ hT₀ hP₀
  have hslot : ∀ j a, (s.ab .committer).getD j none = some a ↔
      ((As.persistent[j]?).bind (fun γ => (g.trainerOf γ).map (fun t => Key.dumper t.uid))) = some a := by
    intro j a
    rw [ab_getD, hf.slot_iff]
    constructor
    · rintro ⟨w, hw, hl⟩
      rcases linkSpec_inv hl with ⟨hk, _⟩ | ⟨_, ha, hT, hP, hoff⟩ | ⟨i', hk, _⟩ | ⟨e, hk, _⟩
      · cases hk
      · subst hAs
        simp only [Option.bind_some, Assets.offset] at hoff
        rw [indexOf_get hoff]
        simp only [Option.bind_some]
        rw [trainerOf_trainer hf.wf hw hT, ha]; rfl
      · cases hk
      · cases hk
    · intro hb
      cases hg : As.persistent[j]? with
      | none => simp [hg] at hb
      | some γ =>
        simp only [hg, Option.bind_some, Option.map_eq_some_iff] at hb
        obtain ⟨t, htO, rfl⟩ := hb
        have hγ : γ ∈ As.persistent := List.mem_of_getElem? hg
        obtain ⟨htm, hTt, hPt⟩ := persistent_trainer hf.wf hAs hγ htO
        refine ⟨t, htm, ?_⟩
        apply LinkSpec.committer j hTt hPt
        subst hAs
        simp only [Option.bind_some, Assets.offset]
        rw [(trainerOf_some htO).2.1]
        exact indexOf_of_get (hf.assets.nodup As rfl) hg
  have := list_of_slots (l := s.ab .committer)
    (f := fun j => (As.persistent[j]?).bind (fun γ => (g.trainerOf γ).map (fun t => Key.dumper t.uid)))
    (hf.ab_lastSome _)
    (fun j => Option.ext (hslot j))
    (Nat.le_refl As.persistent.length)
    (fun j hj => by
      have hg : As.persistent[j]? = some As.persistent[j] := List.getElem?_eq_getElem hj
      simp only [hg, Option.bind_some, Option.isSome_map]
      exact hall _ (List.getElem_mem hj))
    (fun j hj => by
      have : As.persistent[j]? = none := List.getElem?_eq_none hj
      simp [this])
  rw [this, range_filterMap_get]

end

end ForML.Flow
