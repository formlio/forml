/-
C12 — what rows are made of: the provenance predicates `KeysIn`, `DepsIn`, `AtomsIn`, how splitter ports, row-aligned actors
and concatenation carry them, and the two invariants of pipelines stated with them: `Local` (what the outputs can depend on),
closed under every constructor of the operator library, and `RowPreserving`, closed under those of well-formed expressions.
-/
import ForML.Model.CrossVal

namespace ForML.CrossVal

theorem mem_union {x : Atom} {a b : List Atom} : x ∈ union a b ↔ x ∈ a ∨ x ∈ b := by
  simp [union, List.mem_eraseDups]

theorem mem_atoms {d : Data} {x : Atom} : x ∈ d.atoms ↔ ∃ r ∈ d, x = r.key ∨ x ∈ r.deps := by
  simp [Data.atoms, List.mem_eraseDups, List.mem_flatMap]

theorem mem_deps {d : Data} {x : Atom} : x ∈ d.deps ↔ ∃ r ∈ d, x ∈ r.deps := by
  simp [Data.deps, List.mem_flatMap]

theorem mem_keys {d : Data} {x : Atom} : x ∈ d.keys ↔ ∃ r ∈ d, r.key = x := by
  simp [Data.keys]

theorem rids_eq_keys (d : Data) : d.rids = d.keys.map (·.rid) := by
  simp [Data.rids, Data.keys]

/-- every row describes a record satisfying `P` -/
def KeysIn (d : Data) (P : Atom → Prop) : Prop := ∀ r ∈ d, P r.key

/-- everything any row depends on satisfies `P` -/
def DepsIn (d : Data) (P : Atom → Prop) : Prop := ∀ r ∈ d, ∀ x ∈ r.deps, P x

/-- records and dependencies alike -/
def AtomsIn (d : Data) (P : Atom → Prop) : Prop := KeysIn d P ∧ DepsIn d P

theorem atomsIn_iff {d : Data} {P : Atom → Prop} : AtomsIn d P ↔ ∀ x ∈ d.atoms, P x := by
  constructor
  · rintro ⟨hk, hd⟩ x hx
    obtain ⟨r, hr, h | h⟩ := mem_atoms.mp hx
    · exact h ▸ hk r hr
    · exact hd r hr x h
  · intro h
    exact ⟨fun r hr => h _ (mem_atoms.mpr ⟨r, hr, .inl rfl⟩), fun r hr x hx => h _ (mem_atoms.mpr ⟨r, hr, .inr hx⟩)⟩

theorem KeysIn.nil {P : Atom → Prop} : KeysIn [] P := fun _ hr => nomatch hr
theorem DepsIn.nil {P : Atom → Prop} : DepsIn [] P := fun _ hr => nomatch hr
theorem AtomsIn.nil {P : Atom → Prop} : AtomsIn [] P := ⟨KeysIn.nil, DepsIn.nil⟩

theorem KeysIn.mono {d : Data} {P Q : Atom → Prop} (h : KeysIn d P) (hpq : ∀ x, P x → Q x) : KeysIn d Q :=
  fun r hr => hpq _ (h r hr)
theorem DepsIn.mono {d : Data} {P Q : Atom → Prop} (h : DepsIn d P) (hpq : ∀ x, P x → Q x) : DepsIn d Q :=
  fun r hr x hx => hpq _ (h r hr x hx)
theorem AtomsIn.mono {d : Data} {P Q : Atom → Prop} (h : AtomsIn d P) (hpq : ∀ x, P x → Q x) : AtomsIn d Q :=
  ⟨h.1.mono hpq, h.2.mono hpq⟩

theorem KeysIn.sub {d e : Data} {P : Atom → Prop} (h : KeysIn d P) (hs : ∀ r ∈ e, r ∈ d) : KeysIn e P :=
  fun r hr => h r (hs r hr)
theorem DepsIn.sub {d e : Data} {P : Atom → Prop} (h : DepsIn d P) (hs : ∀ r ∈ e, r ∈ d) : DepsIn e P :=
  fun r hr => h r (hs r hr)
theorem AtomsIn.sub {d e : Data} {P : Atom → Prop} (h : AtomsIn d P) (hs : ∀ r ∈ e, r ∈ d) : AtomsIn e P :=
  ⟨h.1.sub hs, h.2.sub hs⟩

theorem keysIn_self (d : Data) : KeysIn d (· ∈ d.keys) := fun r hr => mem_keys.mpr ⟨r, hr, rfl⟩
theorem depsIn_self (d : Data) : DepsIn d (· ∈ d.deps) := fun r hr _ hx => mem_deps.mpr ⟨r, hr, hx⟩
theorem atomsIn_self (d : Data) : AtomsIn d (· ∈ d.atoms) := atomsIn_iff.mpr fun _ h => h

theorem KeysIn.of_keys_eq {d e : Data} {P : Atom → Prop} (h : KeysIn d P) (hk : e.keys = d.keys) : KeysIn e P := by
  intro r hr
  obtain ⟨r', hr', hk'⟩ := mem_keys.mp (hk ▸ mem_keys.mpr ⟨r, hr, rfl⟩)
  exact hk' ▸ h r' hr'

theorem mem_select_iff {ps : List Nat} {d : Data} {r : Row} : r ∈ select ps d ↔ ∃ p ∈ ps, d[p]? = some r := by
  simp [select, List.mem_filterMap]

theorem mem_select {ps : List Nat} {d : Data} {r : Row} (h : r ∈ select ps d) : r ∈ d :=
  let ⟨_, _, hp⟩ := mem_select_iff.mp h
  List.mem_of_getElem? hp

theorem rids_select (ps : List Nat) (d : Data) : (select ps d).rids = ps.filterMap fun p => d.rids[p]? := by
  simp [select, Data.rids, List.map_filterMap, List.getElem?_map]

theorem rids_getElem? {d : Data} {p : Nat} {q : Row} (h : d[p]? = some q) : d.rids[p]? = some q.key.rid := by
  rw [Data.rids, List.getElem?_map, h]
  rfl

theorem select_perm {ps : List Nat} {d : Data} (h : ps.Perm (List.range d.length)) : (select ps d).Perm d := by
  have hall : ∀ n, select (List.range n) d = d.take n := by
    intro n
    induction n with
    | zero => rfl
    | succ n ih =>
      rw [List.range_succ, select, List.filterMap_append, ← select, ih, List.take_add_one]
      rfl
  have := h.filterMap (d[·]?)
  rwa [← select, ← select, hall, List.take_length] at this

theorem getElem?_cvSplit (x : Data) (idx : Indices) (k : Nat) :
    (cvSplit x idx)[k]? = idx[k / 2]?.map fun ab => select (if k % 2 = 0 then ab.1 else ab.2) x := by
  induction idx generalizing k with
  | nil => rfl
  | cons ab rest ih =>
    match k with
    | 0 => rfl
    | 1 => rfl
    | k + 2 =>
      rw [Nat.add_div_right k (by decide), Nat.add_mod_right]
      exact ih k

theorem port_cvApply (o : Option Indices) (d : Data) (k : Nat) :
    port (cvApply o d) k = select (portPositions o k) d := by
  match o with
  | none => rfl
  | some [] => rfl
  | some (ab :: rest) =>
    show (cvSplit d (ab :: rest))[k]?.getD [] = _
    rw [getElem?_cvSplit, portPositions]
    cases (ab :: rest)[k / 2]? <;> rfl

theorem portPositions_even (idx : Indices) (i : Nat) :
    portPositions (some idx) (2 * i) = (idx[i]?.getD ([], [])).1 := by
  rw [portPositions, Nat.mul_div_cancel_left i (by decide), Nat.mul_mod_right]
  cases idx[i]? <;> rfl

theorem portPositions_odd (idx : Indices) (i : Nat) :
    portPositions (some idx) (2 * i + 1) = (idx[i]?.getD ([], [])).2 := by
  have h1 : (2 * i + 1) / 2 = i := Nat.mul_add_div (by decide) i 1
  have h2 : (2 * i + 1) % 2 = 1 := Nat.mul_add_mod 2 i 1
  rw [portPositions, h1, h2]
  cases idx[i]? <;> rfl

theorem atoms_select_source {d : Data} (hd : ∀ r ∈ d, r.deps = []) {ps : List Nat} {x : Atom}
    (h : x ∈ (select ps d).atoms) : ∃ p ∈ ps, ∃ q, d[p]? = some q ∧ x = q.key := by
  obtain ⟨q, hq, hxq⟩ := mem_atoms.mp h
  obtain ⟨p, hp, hpq⟩ := mem_select_iff.mp hq
  rcases hxq with rfl | hxq
  · exact ⟨p, hp, q, hpq, rfl⟩
  · rw [hd q (mem_select hq)] at hxq
    cases hxq

/-- `h` is what `Local.apply_from` / `Local.seq_apply_from` conclude at the parts `(tr, te)` of a fold -/
theorem train_part_source {X L : Data} (hX : ∀ r ∈ X, r.deps = []) (hL : ∀ r ∈ L, r.deps = []) {tr te : List Nat}
    {x : Atom} (h : x ∈ (select te X).deps ∨ x ∈ (select tr X).atoms ∨ x ∈ (select tr L).atoms) :
    ∃ p ∈ tr, ∃ q, (X[p]? = some q ∨ L[p]? = some q) ∧ x = q.key := by
  rcases h with h | h | h
  · obtain ⟨q, hq, hxq⟩ := mem_deps.mp h
    rw [hX q (mem_select hq)] at hxq
    cases hxq
  · obtain ⟨p, hp, q, hq, hx⟩ := atoms_select_source hX h
    exact ⟨p, hp, q, .inl hq, hx⟩
  · obtain ⟨p, hp, q, hq, hx⟩ := atoms_select_source hL h
    exact ⟨p, hp, q, .inr hq, hx⟩

/-- `hx` is the conclusion of `train_part_source` -/
theorem heldout_unseen {X L : Data} {tr te : List Nat} (hdisj : ∀ p ∈ tr, p ∉ te) (hnodup : X.rids.Nodup)
    (halign : L.rids = X.rids) {k x : Atom} (hk : k ∈ (select te X).keys)
    (hx : ∃ p ∈ tr, ∃ q, (X[p]? = some q ∨ L[p]? = some q) ∧ x = q.key) : x.rid ≠ k.rid := by
  intro heq
  obtain ⟨q', hq', rfl⟩ := mem_keys.mp hk
  obtain ⟨p', hp', hpq'⟩ := mem_select_iff.mp hq'
  obtain ⟨p, hp, q, hq, rfl⟩ := hx
  have h1 : X.rids[p]? = some q.key.rid := by
    rcases hq with hq | hq
    · exact rids_getElem? hq
    · exact halign ▸ rids_getElem? hq
  have h2 : X.rids[p']? = some q.key.rid := heq ▸ rids_getElem? hpq'
  have hlt : p < X.rids.length := (List.getElem?_eq_some_iff.mp h1).1
  exact hdisj p hp ((List.getElem?_inj hlt hnodup).mp (h1.trans h2.symm) ▸ hp')

theorem rowsL_eq_map (E : Env) (vs : List Val) : rowsL E vs = vs.map (rows E) := by
  induction vs with
  | nil => rfl
  | cons v vs ih => rw [rowsL, ih, List.map_cons]

@[simp] theorem rows_none (E : Env) : rows E .none = [] := rfl
@[simp] theorem rows_input (E : Env) (n : Nat) : rows E (.input n) = E.inp n := rfl
@[simp] theorem seen_none (E : Env) : seen E .none = [] := rfl

theorem rows_apply (E : Env) (tag : Nat) (st : Val) (args : List Val) :
    rows E (.apply tag st args) = hzip (seen E st) (args.map (rows E)) := by
  rw [rows, rowsL_eq_map]

theorem rows_concat (E : Env) (tag : Nat) (args : List Val) :
    rows E (.concat tag args) = (args.map (rows E)).flatten := by
  rw [rows, rowsL_eq_map]

theorem rows_part (E : Env) (tag : Nat) (st : Val) (k : Nat) (x : Val) :
    rows E (.part tag st k x) = select (portPositions (indices E st) k) (rows E x) := by
  rw [rows, port_cvApply]

theorem seen_state (E : Env) (tag : Nat) (prev x y : Val) :
    seen E (.state tag prev x y) = union (seen E prev) (union (rows E x).atoms (rows E y).atoms) := rfl

theorem indices_state (E : Env) (tag : Nat) (prev x y : Val) :
    indices E (.state tag prev x y) = some (E.dec tag (rows E x) (rows E y)) := rfl

theorem rows_part_train (E : Env) (sp : Nat) (prev fx fy x : Val) (i : Nat) (tr te : List Nat)
    (h : (E.dec sp (rows E fx) (rows E fy))[i]? = some (tr, te)) :
    rows E (.part sp (.state sp prev fx fy) (2 * i) x) = select tr (rows E x) := by
  rw [rows_part, indices_state, portPositions_even, h]
  rfl

theorem rows_part_test_getD (E : Env) (sp : Nat) (prev fx fy x : Val) (i : Nat) :
    rows E (.part sp (.state sp prev fx fy) (2 * i + 1) x)
      = select ((E.dec sp (rows E fx) (rows E fy))[i]?.getD ([], [])).2 (rows E x) := by
  rw [rows_part, indices_state, portPositions_odd]

theorem rows_part_test (E : Env) (sp : Nat) (prev fx fy x : Val) (i : Nat) (tr te : List Nat)
    (h : (E.dec sp (rows E fx) (rows E fy))[i]? = some (tr, te)) :
    rows E (.part sp (.state sp prev fx fy) (2 * i + 1) x) = select te (rows E x) := by
  rw [rows_part_test_getD, h]
  rfl

theorem flatMap_rows_part_test (E : Env) (sp : Nat) (prev fx fy x : Val) (n : Nat) :
    ((List.range n).flatMap fun i => rows E (.part sp (.state sp prev fx fy) (2 * i + 1) x))
      = select ((List.range n).flatMap fun i => ((E.dec sp (rows E fx) (rows E fy))[i]?.getD ([], [])).2)
          (rows E x) := by
  simp only [rows_part_test_getD, select, List.filterMap_flatMap]

theorem getElem?_hzip2 (d e : Data) (i : Nat) :
    (hzip2 d e)[i]? = match d[i]?, e[i]? with
      | some r, some s => some { r with deps := union r.deps s.deps }
      | some r, none => some r
      | none, _ => none := by
  induction d generalizing e i with
  | nil => rfl
  | cons r d ih =>
    cases e with
    | nil =>
      show (r :: d)[i]? = _
      cases (r :: d)[i]? <;> rfl
    | cons s e =>
      cases i with
      | zero => rfl
      | succ i => exact ih e i

theorem keys_hzip2 (d e : Data) : (hzip2 d e).keys = d.keys := by
  refine List.ext_getElem? fun i => ?_
  rw [Data.keys, Data.keys, List.getElem?_map, List.getElem?_map, getElem?_hzip2]
  cases d[i]? <;> cases e[i]? <;> rfl

theorem keys_foldl_hzip2 (d : Data) (ds : List Data) : (ds.foldl hzip2 d).keys = d.keys := by
  induction ds generalizing d with
  | nil => rfl
  | cons e ds ih => rw [List.foldl_cons, ih, keys_hzip2]

theorem keys_hzip (sn : List Atom) (d : Data) (ds : List Data) : (hzip sn (d :: ds)).keys = d.keys := by
  rw [← keys_foldl_hzip2 d ds]
  simp only [hzip, Data.keys, List.map_map]
  rfl

theorem hzip2_row {d e : Data} {i : Nat} {r : Row} (h : (hzip2 d e)[i]? = some r) :
    ∃ q, d[i]? = some q ∧ q.key = r.key ∧ ∀ x, x ∈ r.deps ↔ x ∈ q.deps ∨ ∃ s, e[i]? = some s ∧ x ∈ s.deps := by
  rw [getElem?_hzip2] at h
  split at h
  · next q s hd he =>
    cases h
    exact ⟨q, hd, rfl, fun x => mem_union.trans (or_congr_right
      ⟨fun hx => ⟨s, he, hx⟩, fun ⟨_, hs', hx⟩ => Option.some.inj (he.symm.trans hs') ▸ hx⟩)⟩
  · next q hd he =>
    cases h
    exact ⟨r, hd, rfl, fun x => ⟨.inl, fun hx => hx.elim id fun ⟨_, hs, _⟩ => nomatch he.symm.trans hs⟩⟩
  · cases h

theorem foldl_hzip2_row {d : Data} {ds : List Data} {i : Nat} {r : Row} (h : (ds.foldl hzip2 d)[i]? = some r) :
    ∃ q, d[i]? = some q ∧ q.key = r.key ∧
      ∀ x, x ∈ r.deps ↔ x ∈ q.deps ∨ ∃ e ∈ ds, ∃ s, e[i]? = some s ∧ x ∈ s.deps := by
  induction ds generalizing d with
  | nil => exact ⟨r, h, rfl, fun x => ⟨.inl, fun hx => hx.elim id fun ⟨_, he, _⟩ => nomatch he⟩⟩
  | cons e ds ih =>
    obtain ⟨q', hq', hk', h'⟩ := ih h
    obtain ⟨q, hq, hk, h0⟩ := hzip2_row hq'
    exact ⟨q, hq, hk.trans hk', fun x => by
      rw [h', h0, or_assoc]
      simp only [List.mem_cons, or_and_right, exists_or, exists_eq_left]⟩

/-- exact, so that the upper bound `DepsIn.hzip` and the lower bound `hzip_sup` are its two directions -/
theorem hzip_row {sn : List Atom} {d : Data} {ds : List Data} {r : Row} (h : r ∈ hzip sn (d :: ds)) :
    ∃ (i : Nat) (q : Row), d[i]? = some q ∧ q.key = r.key ∧
      ∀ x, x ∈ r.deps ↔ (x ∈ q.deps ∨ ∃ e ∈ ds, ∃ s, e[i]? = some s ∧ x ∈ s.deps) ∨ x ∈ sn := by
  obtain ⟨r0, hr0, rfl⟩ := List.mem_map.mp h
  obtain ⟨i, hi⟩ := List.getElem?_of_mem hr0
  obtain ⟨q, hq, hk, h0⟩ := foldl_hzip2_row hi
  exact ⟨i, q, hq, hk, fun x => mem_union.trans (or_congr_left (h0 x))⟩

theorem KeysIn.foldl_hzip2 {d : Data} {ds : List Data} {P : Atom → Prop} (h : KeysIn d P) :
    KeysIn (ds.foldl CrossVal.hzip2 d) P :=
  h.of_keys_eq (keys_foldl_hzip2 d ds)

theorem KeysIn.hzip {sn : List Atom} {ds : List Data} {P : Atom → Prop} (h : ∀ d ∈ ds, KeysIn d P) :
    KeysIn (hzip sn ds) P := by
  cases ds with
  | nil => exact KeysIn.nil
  | cons d ds => exact (h d List.mem_cons_self).of_keys_eq (keys_hzip sn d ds)

theorem DepsIn.hzip {sn : List Atom} {ds : List Data} {P : Atom → Prop} (hsn : ∀ x ∈ sn, P x)
    (h : ∀ d ∈ ds, DepsIn d P) : DepsIn (hzip sn ds) P := by
  cases ds with
  | nil => exact DepsIn.nil
  | cons d ds =>
    intro r hr x hx
    obtain ⟨i, q, hq, _, hiff⟩ := hzip_row hr
    rcases (hiff x).mp hx with (hx | ⟨e, he, s, hs, hx⟩) | hx
    · exact h d List.mem_cons_self q (List.mem_of_getElem? hq) x hx
    · exact h e (List.mem_cons_of_mem _ he) s (List.mem_of_getElem? hs) x hx
    · exact hsn x hx

theorem KeysIn.flatten {ds : List Data} {P : Atom → Prop} (h : ∀ d ∈ ds, KeysIn d P) : KeysIn ds.flatten P :=
  List.forall_mem_flatten.mpr h

theorem DepsIn.flatten {ds : List Data} {P : Atom → Prop} (h : ∀ d ∈ ds, DepsIn d P) : DepsIn ds.flatten P :=
  List.forall_mem_flatten.mpr h

theorem keysIn_apply {E : Env} {tag : Nat} {st : Val} {args : List Val} {P : Atom → Prop}
    (h : ∀ v ∈ args, KeysIn (rows E v) P) : KeysIn (rows E (.apply tag st args)) P :=
  rows_apply E tag st args ▸ KeysIn.hzip (List.forall_mem_map.mpr h)

theorem depsIn_apply {E : Env} {tag : Nat} {st : Val} {args : List Val} {P : Atom → Prop}
    (hst : ∀ z ∈ seen E st, P z) (h : ∀ v ∈ args, DepsIn (rows E v) P) : DepsIn (rows E (.apply tag st args)) P :=
  rows_apply E tag st args ▸ DepsIn.hzip hst (List.forall_mem_map.mpr h)

theorem atomsIn_apply {E : Env} {tag : Nat} {st : Val} {args : List Val} {P : Atom → Prop}
    (hst : ∀ z ∈ seen E st, P z) (h : ∀ v ∈ args, AtomsIn (rows E v) P) : AtomsIn (rows E (.apply tag st args)) P :=
  ⟨keysIn_apply fun v hv => (h v hv).1, depsIn_apply hst fun v hv => (h v hv).2⟩

theorem atomsIn_concat {E : Env} {tag : Nat} {args : List Val} {P : Atom → Prop}
    (h : ∀ v ∈ args, AtomsIn (rows E v) P) : AtomsIn (rows E (.concat tag args)) P :=
  rows_concat E tag args ▸
    ⟨KeysIn.flatten (List.forall_mem_map.mpr fun v hv => (h v hv).1),
     DepsIn.flatten (List.forall_mem_map.mpr fun v hv => (h v hv).2)⟩

theorem forall_seen_none {E : Env} {P : Atom → Prop} : ∀ z ∈ seen E .none, P z := fun _ hz => nomatch hz

theorem keysIn_applied {E : Env} {a : Actor} {st x : Val} {P : Atom → Prop} (h : KeysIn (rows E x) P) :
    KeysIn (rows E (applied a st x)) P :=
  keysIn_apply (List.forall_mem_singleton.mpr h)

theorem depsIn_applied {E : Env} {a : Actor} {st x : Val} {P : Atom → Prop} (hst : ∀ z ∈ seen E st, P z)
    (h : DepsIn (rows E x) P) : DepsIn (rows E (applied a st x)) P :=
  depsIn_apply hst (List.forall_mem_singleton.mpr h)

theorem atomsIn_applied {E : Env} {a : Actor} {st x : Val} {P : Atom → Prop} (hst : ∀ z ∈ seen E st, P z)
    (h : AtomsIn (rows E x) P) : AtomsIn (rows E (applied a st x)) P :=
  ⟨keysIn_applied h.1, depsIn_applied hst h.2⟩

theorem atomsIn_part {E : Env} {tag : Nat} {st : Val} {k : Nat} {x : Val} {P : Atom → Prop}
    (h : AtomsIn (rows E x) P) : AtomsIn (rows E (.part tag st k x)) P :=
  h.sub fun _ hr => mem_select (rows_part E tag st k x ▸ hr)

theorem seen_trainedState {E : Env} {a : Actor} {x y : Val} {P : Atom → Prop}
    (hx : AtomsIn (rows E x) P) (hy : AtomsIn (rows E y) P) : ∀ z ∈ seen E (trainedState a x y), P z := by
  intro z hz
  unfold trainedState at hz
  split at hz
  · rcases mem_union.mp hz with hz | hz
    · cases hz
    · rcases mem_union.mp hz with hz | hz
      · exact atomsIn_iff.mp hx z hz
      · exact atomsIn_iff.mp hy z hz
  · cases hz

/-- What the outputs of an expanded pipeline can be made of, for *every* predicate `P` on records:
* apply output: describes only records the apply input describes; depends only on what the apply input rows
  depended on already and on what the train inputs mention (through the trained states);
* train and label outputs mention only what the train inputs mention. -/
structure Local (E : Env) (S : Scope) : Prop where
  applyKeys : ∀ a t l (P : Atom → Prop), KeysIn (rows E a) P → KeysIn (rows E (S a t l).apply) P
  applyDeps : ∀ a t l (P : Atom → Prop), DepsIn (rows E a) P → AtomsIn (rows E t) P → AtomsIn (rows E l) P →
    DepsIn (rows E (S a t l).apply) P
  train : ∀ a t l (P : Atom → Prop), AtomsIn (rows E t) P → AtomsIn (rows E l) P → AtomsIn (rows E (S a t l).train) P
  label : ∀ a t l (P : Atom → Prop), AtomsIn (rows E t) P → AtomsIn (rows E l) P → AtomsIn (rows E (S a t l).label) P

theorem Local.applyAtoms {E : Env} {S : Scope} (hS : Local E S) (a t l : Val) (P : Atom → Prop)
    (ha : AtomsIn (rows E a) P) (ht : AtomsIn (rows E t) P) (hl : AtomsIn (rows E l) P) :
    AtomsIn (rows E (S a t l).apply) P :=
  ⟨hS.applyKeys a t l P ha.1, hS.applyDeps a t l P ha.2 ht hl⟩

theorem origin_local (E : Env) : Local E Scope.origin :=
  ⟨fun _ _ _ _ h => h, fun _ _ _ _ h _ _ => h, fun _ _ _ _ h _ => h, fun _ _ _ _ _ h => h⟩

theorem wrap_local (E : Env) (lab app trn : Option Actor) : Local E (denoteWrap lab app trn Scope.origin) := by
  have hlabel : ∀ a t l (P : Atom → Prop), AtomsIn (rows E t) P → AtomsIn (rows E l) P →
      AtomsIn (rows E (denoteWrap lab app trn Scope.origin a t l).label) P := by
    intro a t l P ht hl
    cases lab with
    | none => exact hl
    | some la => exact atomsIn_applied (seen_trainedState ht hl) hl
  refine ⟨fun a t l P ha => ?_, fun a t l P ha ht hl => ?_, fun a t l P ht hl => ?_, hlabel⟩
  · cases app with
    | none => exact ha
    | some aa => exact keysIn_applied ha
  · cases app with
    | none => exact ha
    | some aa => exact depsIn_applied (seen_trainedState ht (hlabel a t l P ht hl)) ha
  · cases trn with
    | none => exact ht
    | some ta => exact atomsIn_applied (seen_trainedState ht (hlabel a t l P ht hl)) ht

theorem mapreduce_local (E : Env) (ms : List Actor) (reducer : Nat) :
    Local E (denoteMapReduce ms reducer Scope.origin) :=
  ⟨fun _ _ _ _ ha => keysIn_apply (List.forall_mem_map.mpr fun _ _ => keysIn_applied ha),
   fun _ _ _ _ ha ht hl => depsIn_apply forall_seen_none (List.forall_mem_map.mpr fun _ _ =>
     depsIn_applied (seen_trainedState ht hl) ha),
   fun _ _ _ _ ht hl => atomsIn_apply forall_seen_none (List.forall_mem_map.mpr fun _ _ =>
     atomsIn_applied (seen_trainedState ht hl) ht),
   fun _ _ _ _ _ hl => hl⟩

theorem seq_local {E : Env} {S Q : Scope} (hS : Local E S) (hQ : Local E Q) :
    Local E (fun xa xt xl => Q (S xa xt xl).apply (S xa xt xl).train (S xa xt xl).label) :=
  ⟨fun a t l P ha => hQ.applyKeys _ _ _ P (hS.applyKeys a t l P ha),
   fun a t l P ha ht hl => hQ.applyDeps _ _ _ P (hS.applyDeps a t l P ha ht hl) (hS.train a t l P ht hl) (hS.label a t l P ht hl),
   fun a t l P ht hl => hQ.train _ _ _ P (hS.train a t l P ht hl) (hS.label a t l P ht hl),
   fun a t l P ht hl => hQ.label _ _ _ P (hS.train a t l P ht hl) (hS.label a t l P ht hl)⟩

/-- `a'`: in a fold of an ensemble `b` takes its train inputs from another instance of `S`, the one applied to `a'` -/
theorem Local.seq_apply_from {E : Env} {S b : Scope} (hS : Local E S) (hb : Local E b) (a a' t l : Val) :
    (∀ r ∈ rows E (b (S a t l).apply (S a' t l).train (S a' t l).label).apply, r.key ∈ (rows E a).keys) ∧
    ∀ r ∈ rows E (b (S a t l).apply (S a' t l).train (S a' t l).label).apply, ∀ x ∈ r.deps,
      x ∈ (rows E a).deps ∨ x ∈ (rows E t).atoms ∨ x ∈ (rows E l).atoms := by
  let P : Atom → Prop := fun x => x ∈ (rows E a).deps ∨ x ∈ (rows E t).atoms ∨ x ∈ (rows E l).atoms
  have ht : AtomsIn (rows E t) P := (atomsIn_self _).mono fun _ h => .inr (.inl h)
  have hl : AtomsIn (rows E l) P := (atomsIn_self _).mono fun _ h => .inr (.inr h)
  exact ⟨hb.applyKeys _ _ _ _ (hS.applyKeys a t l _ (keysIn_self _)),
    hb.applyDeps _ _ _ P (hS.applyDeps a t l P ((depsIn_self _).mono fun _ => .inl) ht hl) (hS.train a' t l P ht hl)
      (hS.label a' t l P ht hl)⟩

theorem Local.apply_from {E : Env} {S : Scope} (hS : Local E S) (a t l : Val) :
    (∀ r ∈ rows E (S a t l).apply, r.key ∈ (rows E a).keys) ∧
    ∀ r ∈ rows E (S a t l).apply, ∀ x ∈ r.deps,
      x ∈ (rows E a).deps ∨ x ∈ (rows E t).atoms ∨ x ∈ (rows E l).atoms :=
  (origin_local E).seq_apply_from hS a a t l

theorem range_map_spec {α : Type} (n : Nat) (F : Nat → α) :
    ((List.range n).map F).length = n ∧ ∀ i, i < n → ((List.range n).map F)[i]? = some (F i) :=
  ⟨by rw [List.length_map, List.length_range],
   fun i h => by rw [List.getElem?_map, List.getElem?_range h, Option.map_some]⟩

theorem range_map_map_spec {α β : Type} (n : Nat) (F : Nat → β) (g : β → α) :
    (((List.range n).map F).map g).length = n ∧
    ∀ i, i < n → (((List.range n).map F).map g)[i]? = some (g (F i)) := by
  rw [List.map_map]
  exact range_map_spec n _

theorem produce_eq (S : Scope) (n sp : Nat) (X L : Val) :
    produce S n sp X L = (List.range n).map (foldOutcome S sp X L) := rfl

theorem produce_getElem? (S : Scope) (n sp : Nat) (X L : Val) {fid : Nat} (h : fid < n) :
    (produce S n sp X L)[fid]? = some (foldOutcome S sp X L fid) :=
  (range_map_spec n (foldOutcome S sp X L)).2 fid h

theorem score_of_two_le (metric reducer : Nat) {os : List Outcome} (h : 2 ≤ os.length) :
    score metric reducer os = some (.apply reducer .none (os.map (metricOf metric))) :=
  match os, h with
  | _ :: _ :: _, _ => rfl

theorem atomsIn_score {E : Env} {metric reducer : Nat} {os : List Outcome} {P : Atom → Prop}
    (h : ∀ o ∈ os, AtomsIn (rows E (metricOf metric o)) P) :
    AtomsIn (rows E ((score metric reducer os).getD .none)) P :=
  match os, h with
  | [], _ => AtomsIn.nil
  | [o], h => h o (List.mem_singleton_self o)
  | o₁ :: o₂ :: os, h =>
    atomsIn_apply (args := (o₁ :: o₂ :: os).map (metricOf metric)) forall_seen_none (List.forall_mem_map.mpr h)

theorem atomsIn_foldOutcome {E : Env} {S : Scope} (hS : Local E S) (sp metric : Nat) (X L : Val) (fid : Nat)
    {P : Atom → Prop} (ht : AtomsIn (rows E X) P) (hl : AtomsIn (rows E L) P) :
    AtomsIn (rows E (metricOf metric (foldOutcome S sp X L fid))) P :=
  atomsIn_apply forall_seen_none <| List.forall_mem_cons.mpr ⟨atomsIn_part hl, List.forall_mem_singleton.mpr <|
    hS.applyAtoms _ _ _ P (atomsIn_part ht) (atomsIn_part ht) (atomsIn_part hl)⟩

theorem score_local {E : Env} {S : Scope} (n sp metric reducer : Nat) (hS : Local E S) :
    Local E (trainTestScore n sp metric reducer S) :=
  ⟨fun _ _ _ _ h => h, fun _ _ _ _ h _ _ => h,
   fun _ t l _ ht hl => atomsIn_score <| List.forall_mem_map.mpr fun fid _ => atomsIn_foldOutcome hS sp metric t l fid ht hl,
   fun _ _ _ _ _ h => h⟩

theorem folds_eq (S : Scope) (n sp : Nat) (xa xt xl : Val) :
    folds S n sp xa xt xl = (List.range n).map (foldOf S sp xa xt xl) := rfl

theorem forall_mem_folds {S : Scope} {n sp : Nat} {xa xt xl : Val} {Q : Fold → Prop}
    (h : ∀ fid, Q (foldOf S sp xa xt xl fid)) : ∀ f ∈ folds S n sp xa xt xl, Q f :=
  List.forall_mem_map.mpr fun fid _ => h fid

/-- The fold's train and label outputs stem from the instance of `S` applied to the live input `xa`, so the block is not
`S` followed by `b` on one input. -/
theorem baseFold_local {E : Env} {S b : Scope} (hS : Local E S) (hb : Local E b) (sp : Nat) (xa xt xl : Val) (fid : Nat)
    {P : Atom → Prop} (ht : AtomsIn (rows E xt) P) (hl : AtomsIn (rows E xl) P) :
    AtomsIn (rows E (baseFold b (foldOf S sp xa xt xl fid)).1) P ∧
    (DepsIn (rows E xa) P → DepsIn (rows E (baseFold b (foldOf S sp xa xt xl fid)).2) P) := by
  have hT := atomsIn_part (tag := sp) (st := .state sp .none xt xl) (k := 2 * fid) ht
  have hTL := atomsIn_part (tag := sp) (st := .state sp .none xt xl) (k := 2 * fid) hl
  have st := hS.train xa _ _ P hT hTL
  have sl := hS.label xa _ _ P hT hTL
  exact ⟨hb.applyAtoms _ _ _ P (hS.applyAtoms _ _ _ P (atomsIn_part ht) hT hTL) st sl,
    fun ha => hb.applyDeps _ _ _ P (hS.applyDeps _ _ _ P ha hT hTL) st sl⟩

theorem stack_local {E : Env} {S : Scope} (bases : List Scope) (n sp appender stacker reducer : Nat)
    (hB : ∀ b ∈ bases, Local E b) (hS : Local E S) : Local E (fullStack bases n sp appender stacker reducer S) := by
  refine ⟨fun a t l P ha => ?_, fun a t l P ha ht hl => ?_, fun a t l P ht hl => ?_, fun a t l P ht hl => ?_⟩
  · exact keysIn_apply <| List.forall_mem_map.mpr fun b hb => keysIn_apply <| List.forall_mem_map.mpr <|
      forall_mem_folds fun fid => (hB b hb).applyKeys _ _ _ P (hS.applyKeys a _ _ P ha)
  · exact depsIn_apply forall_seen_none <| List.forall_mem_map.mpr fun b hb =>
      depsIn_apply forall_seen_none <| List.forall_mem_map.mpr <| forall_mem_folds fun fid =>
        (baseFold_local hS (hB b hb) sp a t l fid ht hl).2 ha
  · exact atomsIn_apply forall_seen_none <| List.forall_mem_map.mpr fun b hb =>
      atomsIn_concat <| List.forall_mem_map.mpr <| forall_mem_folds fun fid =>
        (baseFold_local hS (hB b hb) sp a t l fid ht hl).1
  · exact atomsIn_concat <| List.forall_mem_map.mpr <| forall_mem_folds fun fid => atomsIn_part hl

mutual
  -- `denoteC (.seq l r) S`, `denoteWrap … S` and `denoteMapReduce … S` unfold to `S` followed by the same operator over
  -- `Scope.origin` (the scope `seq_local` speaks of); FullStack and TrainTestScore expand `S` themselves, once per fold
  theorem denoteC_local (E : Env) : ∀ (p : Pipe) (S : Scope), Local E S → Local E (denoteC p S)
    | .seq l r, _, hS => seq_local hS (denoteC_local E r _ (denoteC_local E l _ (origin_local E)))
    | .wrap lab app trn, _, hS => seq_local hS (wrap_local E lab app trn)
    | .mapreduce ms r, _, hS => seq_local hS (mapreduce_local E ms r)
    | .stack bases n sp a k r, _, hS => stack_local (denoteAll bases) n sp a k r (denoteAll_local E bases) hS
    | .score n sp m r, _, hS => score_local n sp m r hS

  theorem denoteAll_local (E : Env) : ∀ (ps : List Pipe), ∀ b ∈ denoteAll ps, Local E b
    | [], _, hb => nomatch hb
    | p :: ps, b, hb => by
      rcases List.mem_cons.mp hb with rfl | hb
      · exact denoteC_local E p _ (origin_local E)
      · exact denoteAll_local E ps b hb
end

theorem denoteAll_eq_map (ps : List Pipe) : denoteAll ps = ps.map denote := by
  induction ps with
  | nil => rfl
  | cons p ps ih => exact congrArg (denote p :: ·) ih

-- the apply path of a pipeline describes exactly the records it is given, in order
def RowPreserving (E : Env) (S : Scope) : Prop :=
  ∀ a t l, (rows E (S a t l).apply).keys = (rows E a).keys

theorem origin_rowPreserving (E : Env) : RowPreserving E Scope.origin := fun _ _ _ => rfl

theorem RowPreserving.rids_eq {E : Env} {S : Scope} (hS : RowPreserving E S) (a t l : Val) :
    (rows E (S a t l).apply).rids = (rows E a).rids := by
  rw [rids_eq_keys, hS, ← rids_eq_keys]

theorem keys_applied (E : Env) (a : Actor) (st x : Val) : (rows E (applied a st x)).keys = (rows E x).keys := by
  rw [applied, rows_apply]
  exact keys_hzip _ _ []

theorem wrap_rowPreserving (E : Env) (lab app trn : Option Actor) :
    RowPreserving E (denoteWrap lab app trn Scope.origin) := by
  intro a t l
  cases app with
  | none => rfl
  | some aa => exact keys_applied E aa _ _

theorem mapreduce_rowPreserving (E : Env) (ms : List Actor) (reducer : Nat) (hms : ms ≠ []) :
    RowPreserving E (denoteMapReduce ms reducer Scope.origin) := by
  intro a t l
  cases ms with
  | nil => exact absurd rfl hms
  | cons m ms =>
    show (rows E (Val.apply reducer .none _)).keys = _
    rw [rows_apply, List.map_cons, List.map_cons, keys_hzip, keys_applied]
    rfl

theorem seq_rowPreserving {E : Env} {S Q : Scope} (hS : RowPreserving E S) (hQ : RowPreserving E Q) :
    RowPreserving E (fun xa xt xl => Q (S xa xt xl).apply (S xa xt xl).train (S xa xt xl).label) :=
  fun a t l => (hQ _ _ _).trans (hS a t l)

theorem score_rowPreserving {E : Env} {S : Scope} (n sp metric reducer : Nat) :
    RowPreserving E (trainTestScore n sp metric reducer S) := fun _ _ _ => rfl

/-- the apply output describes the records of the first base's first fold model: hence a base and a fold -/
theorem stack_rowPreserving {E : Env} {S : Scope} (b : Scope) (bases : List Scope) (n sp appender stacker reducer : Nat)
    (hn : 1 ≤ n) (hb : RowPreserving E b) (hS : RowPreserving E S) :
    RowPreserving E (fullStack (b :: bases) n sp appender stacker reducer S) := by
  intro a t l
  cases n with
  | zero => cases hn
  | succ n =>
    show (rows E (Val.apply appender .none _)).keys = _
    rw [rows_apply, List.map_cons, List.map_cons, keys_hzip, rows_apply, folds_eq, List.range_succ_eq_map,
      List.map_cons, List.map_cons, List.map_cons, keys_hzip]
    exact (hb _ _ _).trans (hS _ _ _)

theorem denoteC_rowPreserving (E : Env) : ∀ (p : Pipe) (S : Scope), p.wf = true → RowPreserving E S →
    RowPreserving E (denoteC p S)
  | .seq l r, _, hwf, hS =>
    have hwf : l.wf = true ∧ r.wf = true := Bool.and_eq_true_iff.mp hwf
    seq_rowPreserving hS
      (denoteC_rowPreserving E r _ hwf.2 (denoteC_rowPreserving E l _ hwf.1 (origin_rowPreserving E)))
  | .wrap lab app trn, _, _, hS => seq_rowPreserving (Q := denoteWrap lab app trn Scope.origin) hS (wrap_rowPreserving E lab app trn)
  | .mapreduce ms r, _, hwf, hS => seq_rowPreserving (Q := denoteMapReduce ms r Scope.origin) hS
      (mapreduce_rowPreserving E ms r fun h => by subst h; cases hwf)
  | .stack [] n sp a k r, _, hwf, _ => nomatch hwf
  | .stack (b :: bases) n sp a k r, _, hwf, hS => by
    simp only [Pipe.wf, Pipe.wfAll, Bool.and_eq_true, decide_eq_true_eq] at hwf
    exact stack_rowPreserving _ (denoteAll bases) n sp a k r hwf.1.2
      (denoteC_rowPreserving E b _ hwf.2.1 (origin_rowPreserving E)) hS
  | .score n sp m r, S, _, _ => score_rowPreserving (S := S) n sp m r

end ForML.CrossVal
