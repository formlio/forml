/- Lookup histories on lazily searched provider packages (C20): what a process state reached in a defect-free world
knows (`Inv`), what a single lookup finds (`found`), how it ends (`Closed`), and why an answer once available stays
available (`getLoop_below`). -/
import ForML.Lemmas.C20Mono

namespace ForML.Bank

/-- `c` is a concrete class below the interface `i` that carries `r` and has the identity `x` -/
def Carr (c : ClassDef) (i : ClassId) (r : Ref) (x : ClassId) : Prop :=
  c.abstract = false ∧ r ∈ refs c ∧ c.id = x ∧ i ∈ c.id :: c.parents

theorem run_from (l : List Act) (s : St) (j : ClassId) (r : Ref) (x : ClassId)
    (h : lookupRef r (getBank j (run s l).1.banks).provider = some x) :
    lookupRef r (getBank j s.banks).provider = some x ∨
      ∃ c, Act.reg j c ∈ l ∧ c.abstract = false ∧ r ∈ refs c ∧ c.id = x := by
  refine run_induct (P := fun t => lookupRef r (getBank j t.banks).provider = some x →
    lookupRef r (getBank j s.banks).provider = some x ∨
      ∃ c, Act.reg j c ∈ l ∧ c.abstract = false ∧ r ∈ refs c ∧ c.id = x) ?_ s Or.inl h
  intro a ha u t hP hat hx
  rcases act_getBank hat j with e | ⟨c, rfl, hadd⟩
  · exact hP (e ▸ hx)
  · rw [lookup_after_add hadd] at hx
    by_cases hcr : c.abstract = false ∧ r ∈ refs c
    · simp only [hcr, and_self, if_true, Option.some.injEq] at hx
      exact Or.inr ⟨c, ha, hcr.1, hcr.2, hx⟩
    · simp only [hcr, if_false] at hx
      exact hP hx

theorem run_paths (l : List Act) (s : St) (j : ClassId) (p : PathE)
    (h : p ∈ (getBank j (run s l).1.banks).paths) :
    p ∈ (getBank j s.banks).paths ∨ ∃ c, Act.reg j c ∈ l ∧ p ∈ c.paths.map (fun m => (⟨m, true⟩ : PathE)) := by
  refine run_induct (P := fun t => p ∈ (getBank j t.banks).paths →
    p ∈ (getBank j s.banks).paths ∨ ∃ c, Act.reg j c ∈ l ∧ p ∈ c.paths.map (fun m => (⟨m, true⟩ : PathE))) ?_ s Or.inl h
  intro a ha u t hP hat hp
  rcases act_getBank hat j with e | ⟨c, rfl, hadd⟩
  · exact hP (e ▸ hp)
  · rw [paths_after_add hadd] at hp
    rcases mem_addPaths hp with h2 | h2
    · exact hP h2
    · exact Or.inr ⟨c, ha, h2⟩

theorem run_reg {l : List Act} {s t : St} (h : run s l = (t, none)) {i : ClassId} {c : ClassDef} (ha : Act.reg i c ∈ l) :
    (c.abstract = false → ∀ r ∈ refs c, lookupRef r (getBank i t.banks).provider = some c.id) ∧
      ∀ pm ∈ c.paths, ∃ q ∈ (getBank i t.banks).paths, q.mod = pm := by
  induction l generalizing s with
  | nil => simp at ha
  | cons a l ih =>
    obtain ⟨u, hu, hr⟩ := run_cons_ok.1 h
    rcases List.mem_cons.1 ha with ha | ha
    · subst ha
      obtain ⟨b, hadd, rfl⟩ := act_reg.1 hu
      have hle : BankLe b (getBank i t.banks) := by
        have := (run_le { s with banks := setBank i b s.banks } l).1 i
        rw [hr] at this
        simpa [getBank_setBank] using this
      refine ⟨fun hc r hr => hle.1 r c.id (by rw [lookup_after_add hadd]; simp [hc, hr]), fun pm hp => ?_⟩
      obtain ⟨q, hq, hqm⟩ := mem_addPaths_right (ps := (getBank i s.banks).paths)
        (qs := c.paths.map (fun m => (⟨m, true⟩ : PathE))) (q := ⟨pm, true⟩) (List.mem_map.2 ⟨pm, hp, rfl⟩)
      rw [← paths_after_add hadd] at hq
      exact ⟨q, hle.2 q hq, hqm⟩
    · exact ih hr ha

theorem initSubclass_registered (c : ClassDef) (st : St) (h : (initSubclass st c).2 = none) (i : ClassId)
    (hi : i ∈ c.id :: c.parents) :
    (c.abstract = false → ∀ r ∈ refs c, lookupRef r (getBank i (initSubclass st c).1.banks).provider = some c.id) ∧
      ∀ pm ∈ c.paths, ∃ q ∈ (getBank i (initSubclass st c).1.banks).paths, q.mod = pm := by
  rw [initSubclass_eq] at h ⊢
  refine run_reg (Prod.ext rfl h) ?_
  by_cases hbad : (c.alias.isSome && c.abstract) = true
  · simp [stmtActs, hbad, run, act] at h
  · simp only [stmtActs, hbad]
    exact List.mem_map.2 ⟨i, hi, rfl⟩

/-- every concrete class of module `m` is bound, under all its references, in the bank of each of its Service ancestors -/
def ModReg (w : World) (st : St) (m : Mod) : Prop :=
  ∀ d, findMod m w = some d → ∀ c ∈ d.classes, c.abstract = false → ∀ i ∈ c.id :: c.parents, ∀ r ∈ refs c,
    lookupRef r (getBank i st.banks).provider = some c.id

theorem ModReg.mono {w : World} {st st' : St} {m : Mod} (hle : StLe st st') (h : ModReg w st m) : ModReg w st' m :=
  fun d hd c hc ha i hi r hr => (hle.1 i).1 r c.id (h d hd c hc ha i hi r hr)

/-- every `path=` of every class statement of the world can be imported (decidable) -/
def pathsOk (w : World) : Bool := (allClasses w).all (fun c => c.paths.all (fun m => importable w m))

/-- every sub-module of the world has its package in the world (decidable) -/
def pkgsExist (w : World) : Bool := w.all (fun e => e.1.sub.isNone || (findMod ⟨e.1.pkg, none⟩ w).isSome)

/-- what a process state reached in a defect-free world satisfies: bindings are justified (`StSound`); the classes of
every imported module are registered (`reg`) and so are their search paths (`preg`); every binding (`src`) and every
search path (`psrc`) comes from an imported module; imported modules exist (`ex`) -/
structure Inv (w : World) (st : St) : Prop where
  sound : StSound (InWorld w) st
  reg : ∀ m ∈ st.loaded, ModReg w st m
  src : ∀ i r x, lookupRef r (getBank i st.banks).provider = some x →
    ∃ m ∈ st.loaded, ∃ d, findMod m w = some d ∧ ∃ c ∈ d.classes, Carr c i r x
  ex : ∀ m ∈ st.loaded, (findMod m w).isSome = true
  psrc : ∀ i, ∀ q ∈ (getBank i st.banks).paths, ∃ m ∈ st.loaded, ∃ d, findMod m w = some d ∧
    ∃ c ∈ d.classes, i ∈ c.id :: c.parents ∧ q ∈ c.paths.map (fun m => (⟨m, true⟩ : PathE))
  preg : ∀ m ∈ st.loaded, ∀ d, findMod m w = some d → ∀ c ∈ d.classes, ∀ i ∈ c.id :: c.parents, ∀ pm ∈ c.paths,
    ∃ q ∈ (getBank i st.banks).paths, q.mod = pm

theorem inv_empty (w : World) : Inv w St.empty :=
  ⟨stSound_empty _, by intro m hm; simp [St.empty] at hm,
   by intro i r x h; simp [St.empty, getBank, Bank.empty, lookupRef] at h,
   by intro m hm; simp [St.empty] at hm,
   by intro i q hq; simp [St.empty, getBank, Bank.empty] at hq,
   by intro m hm; simp [St.empty] at hm⟩

theorem inv_paths_ok {w : World} (hpo : pathsOk w = true) {st : St} (hI : Inv w st) (i : ClassId) (p : PathE)
    (hp : p ∈ (getBank i st.banks).paths) : importable w p.mod = true := by
  obtain ⟨m, _, d, hd, c, hc, _, hpc⟩ := hI.psrc i p hp
  obtain ⟨pm, hpm, rfl⟩ := List.mem_map.1 hpc
  simp only [pathsOk, List.all_eq_true] at hpo
  exact hpo c ((inWorld_iff w c).1 ⟨m, d, findMod_mem hd, hc⟩) pm hpm

theorem inv_execStable {w : World} (hw : worldClean w = true) : ExecStable w (Inv w) := by
  intro st m r hI hr
  have hclean := execMod_clean hw st m hI.sound r hr
  have hsound := stSound_execStable w st m r hI.sound hr
  obtain ⟨d, hf, ⟨_, rfl⟩ | ⟨_, rfl⟩⟩ := execMod_some hr
  · exact hI
  · -- the body is the run `modActs d m`, which went through: every fact about the new state is a fact about that run
    have hle := run_le st (modActs d m)
    have hfrom := run_from (modActs d m) st
    have hpaths := run_paths (modActs d m) st
    generalize hrun : run st (modActs d m) = res at *
    obtain ⟨t, e⟩ := res
    simp only at hclean hle hfrom hpaths hsound
    subst hclean
    have hld : ∀ x, x ∈ t.loaded ↔ x ∈ st.loaded ∨ x = m := fun x => by rw [run_loaded hrun x, mark_mem_modActs]
    have hreg : ∀ c ∈ d.classes, ∀ i ∈ c.id :: c.parents, _ := fun c hc i hi =>
      run_reg hrun (reg_mem_modActs.2 ⟨hc, hi, worldClean_noAbstractAlias hw ⟨m, d, findMod_mem hf, hc⟩⟩)
    refine ⟨hsound, ?_, ?_, ?_, ?_, ?_⟩
    · intro m' hm' d' hd' c hc ha i hi r' hr'
      rcases (hld m').1 hm' with hm' | rfl
      · exact (hI.reg m' hm').mono hle d' hd' c hc ha i hi r' hr'
      · rw [hf] at hd'
        cases hd'
        exact (hreg c hc i hi).1 ha r' hr'
    · intro i r x hx
      rcases hfrom i r x hx with h0 | ⟨c, hc, ha, hr, hid⟩
      · obtain ⟨m0, hm0, rest⟩ := hI.src i r x h0
        exact ⟨m0, (hld m0).2 (Or.inl hm0), rest⟩
      · obtain ⟨hcd, hi, _⟩ := reg_mem_modActs.1 hc
        exact ⟨m, (hld m).2 (Or.inr rfl), d, hf, c, hcd, ha, hr, hid, hi⟩
    · intro m' hm'
      rcases (hld m').1 hm' with hm' | rfl
      · exact hI.ex m' hm'
      · simp [hf]
    · intro i q hq
      rcases hpaths i q hq with h0 | ⟨c, hc, hpc⟩
      · obtain ⟨m0, hm0, rest⟩ := hI.psrc i q h0
        exact ⟨m0, (hld m0).2 (Or.inl hm0), rest⟩
      · obtain ⟨hcd, hi, _⟩ := reg_mem_modActs.1 hc
        exact ⟨m, (hld m).2 (Or.inr rfl), d, hf, c, hcd, hi, hpc⟩
    · intro m' hm' d' hd' c hc i hi pm hpm
      rcases (hld m').1 hm' with hm' | rfl
      · obtain ⟨q, hq, hqm⟩ := hI.preg m' hm' d' hd' c hc i hi pm hpm
        exact ⟨q, (hle.1 i).2 q hq, hqm⟩
      · rw [hf] at hd'
        cases hd'
        exact (hreg c hc i hi).2 pm hpm

theorem inv_runHist {w : World} (hw : worldClean w = true) (ops : List HOp) (st : St)
    (h : Inv w st) : Inv w (runHist w st ops) :=
  runHist_lift (inv_execStable hw) ops st h

theorem execMod_new {w : World} {st : St} {m : Mod} {r : St × Option Err} (h : execMod w st m = some r) (x : Mod)
    (hx : x ∈ r.1.loaded) : x ∈ st.loaded ∨ x = m := by
  obtain ⟨d, _, ⟨_, rfl⟩ | ⟨_, rfl⟩⟩ := execMod_some h
  · exact Or.inl hx
  · exact (run_loaded_sub _ _ x hx).imp_right (mark_mem_modActs d m x).1

/-- a row of module bodies that raised nothing has marked every one of them that exists -/
theorem execAll_marks (w : World) (st : St) (ms : List Mod) (h : (execAll w st ms).2 = none) :
    ∀ m ∈ ms, (findMod m w).isSome = true → m ∈ (execAll w st ms).1.loaded := by
  fun_induction execAll w st ms with
  | case1 => simp
  | case2 st m ms he ih =>
    intro x hx hf
    rcases List.mem_cons.1 hx with rfl | hx
    · rw [← execMod_isSome w st x, he] at hf; cases hf
    · exact ih h x hx hf
  | case3 => cases h
  | case4 st m ms st' he ih =>
    intro x hx hf
    rcases List.mem_cons.1 hx with rfl | hx
    · exact (execAll_le w ms st').2 _ (execMod_marks he)
    · exact ih h x hx hf

theorem pkg_of_mem_covers {w : World} {m x : Mod} (h : x ∈ covers w m) : x.pkg = m.pkg := by
  unfold covers at h
  split at h
  · simp at h; rcases h with rfl | rfl <;> rfl
  · rcases List.mem_cons.1 h with rfl | h
    · rfl
    · split at h
      · obtain ⟨s, _, rfl⟩ := List.mem_map.1 h; rfl
      · cases h

/-- the package of an importable module exists, so the module is in the plan of every path that covers it -/
theorem loadPath_marks (w : World) (st : St) (p : PathE) (h : (loadPath w st p).2 = none) (m : Mod)
    (hm : m ∈ covers w p.mod) (hi : importable w m = true) : m ∈ (loadPath w st p).1.loaded := by
  simp only [importable, Bool.and_eq_true, Bool.or_eq_true] at hi
  have hpar : (findMod ⟨p.mod.pkg, none⟩ w).isSome = true := by
    rw [← pkg_of_mem_covers hm]
    obtain ⟨pk, sub⟩ := m
    cases sub with
    | none => exact hi.1
    | some s => simpa using hi.2
  rw [loadPath_state]
  rw [loadPath_eq] at h
  simp only [plan, hpar, if_true] at h ⊢
  refine execAll_marks w st _ ?_ m hm hi.1
  generalize execAll w st _ = r at h
  obtain ⟨s, e⟩ := r
  cases e with
  | none => rfl
  | some e => cases h

theorem loadPath_new (w : World) (st : St) (p : PathE) (x : Mod) (hx : x ∈ (loadPath w st p).1.loaded) :
    x ∈ st.loaded ∨ x ∈ covers w p.mod := by
  refine loadPath_liftOn (M := (· ∈ covers w p.mod)) (P := fun s => ∀ x ∈ s.loaded, x ∈ st.loaded ∨ x ∈ covers w p.mod)
    ?_ st p (fun _ h => h) (fun _ h => Or.inl h) x hx
  intro s m r hm hP he y hy
  rcases execMod_new he y hy with h | h
  · exact hP y h
  · exact Or.inr (h ▸ hm)

/-- module `m` defines a concrete class below the interface that carries the reference -/
def carriesIn (w : World) (iface : ClassId) (r : Ref) (m : Mod) : Bool :=
  match findMod m w with
  | some d => d.classes.any (fun c => !c.abstract && (refs c).contains r && (c.id :: c.parents).contains iface)
  | none => false

/-- some search path of the list makes the process import a module that defines the reference below the interface -/
def found (w : World) (iface : ClassId) (r : Ref) (todo : List PathE) : Bool :=
  todo.any (fun p => (covers w p.mod).any (carriesIn w iface r))

theorem carriesIn_iff {w : World} {iface : ClassId} {r : Ref} {m : Mod} :
    carriesIn w iface r m = true ↔ ∃ d, findMod m w = some d ∧ ∃ c ∈ d.classes, ∃ x, Carr c iface r x := by
  unfold carriesIn
  cases hf : findMod m w with
  | none => simp
  | some d =>
    simp only [List.any_eq_true, Bool.and_eq_true, Bool.not_eq_true', List.contains_eq_mem, decide_eq_true_eq,
      Option.some.injEq, exists_eq_left', Carr]
    constructor
    · rintro ⟨c, hc, ⟨ha, hr⟩, hi⟩; exact ⟨c, hc, c.id, ha, hr, rfl, hi⟩
    · rintro ⟨c, hc, x, ha, hr, _, hi⟩; exact ⟨c, hc, ⟨ha, hr⟩, hi⟩

theorem importable_of_found {w : World} (hpk : pkgsExist w = true) {m : Mod} {d : ModuleDef}
    (hf : findMod m w = some d) : importable w m = true := by
  simp only [pkgsExist, List.all_eq_true] at hpk
  have := hpk (m, d) (findMod_mem hf)
  simp only [importable, hf, Option.isSome_some, Bool.true_and]
  exact this

/-- the module names the search loop can ever take for a reference: the declared search paths and what the reference
derives from them -/
def cands (D : List Mod) : Ref → List Mod
  | .qual c => D ++ [c.mod]
  | .alias a => D ++ D.filterMap (fun m => match m.sub with
      | none => some (⟨m.pkg, some a⟩ : Mod)
      | some _ => none)

theorem cands_length (D : List Mod) (r : Ref) : (cands D r).length ≤ 2 * D.length + 1 := by
  cases r with
  | qual c => simp [cands]; omega
  | alias a =>
    simp only [cands, List.length_append]
    have := List.length_filterMap_le (fun m : Mod => match m.sub with
      | none => some (⟨m.pkg, some a⟩ : Mod)
      | some _ => none) D
    omega

theorem mem_cands {b : Bank} {r : Ref} {D : List Mod} (hD : ∀ q ∈ b.paths, q.mod ∈ D) {p : PathE}
    (hp : p ∈ searchList b r) : p.mod ∈ cands D r := by
  rcases mem_searchList.1 hp with h | h
  · cases r <;> exact List.mem_append_left _ (hD p h)
  · cases r with
    | qual c => subst h; simp [cands]
    | alias a =>
      obtain ⟨q, hq, hs, rfl⟩ := h
      exact List.mem_append_right _ (List.mem_filterMap.2 ⟨q.mod, hD q hq, by simp [hs]⟩)

theorem inv_declared {w : World} {st : St} (hI : Inv w st) (i : ClassId) :
    ∀ q ∈ (getBank i st.banks).paths, q.mod ∈ declaredPaths w := by
  intro q hq
  obtain ⟨m, _, d, hd, c, hc, _, hpc⟩ := hI.psrc i q hq
  obtain ⟨pm, hpm, rfl⟩ := List.mem_map.1 hpc
  simp only [declaredPaths, List.mem_flatMap]
  exact ⟨(m, d), findMod_mem hd, c, hc, hpm⟩

/-- the search of the state is exhausted: every module covered by an entry of its search list is imported -/
def Closed (w : World) (iface : ClassId) (r : Ref) (s : St) : Prop :=
  ∀ q ∈ searchList (getBank iface s.banks) r, ∀ m ∈ covers w q.mod, importable w m = true → m ∈ s.loaded

/-- every iteration searches a new module name out of `cands`, so `searchFuel` iterations are never used up -/
theorem getLoop_closed {w : World} (hw : worldClean w = true) (hpo : pathsOk w = true) (iface : ClassId) (r : Ref)
    (n : Nat) (st : St) (searched : List Mod) (hI : Inv w st) (hnd : searched.Nodup)
    (hsub : ∀ x ∈ searched, x ∈ cands (declaredPaths w) r)
    (hdone : ∀ x ∈ searched, ∀ m ∈ covers w x, importable w m = true → m ∈ st.loaded)
    (hfuel : (cands (declaredPaths w) r).length < n + searched.length) :
    (getLoop w iface r n st searched).2 = none ∧
      ((lookupRef r (getBank iface (getLoop w iface r n st searched).1.banks).provider).isSome = true ∨
        Closed w iface r (getLoop w iface r n st searched).1) := by
  fun_induction getLoop w iface r n st searched with
  | case1 =>
    have := hnd.length_le_of_subset hsub
    omega
  | case2 n st searched hb => exact ⟨rfl, Or.inl hb⟩
  | case3 n st searched _ hn =>
    exact ⟨rfl, Or.inr fun q hq m hm hi => hdone q.mod (nextPath_none hn q hq) m hm hi⟩
  | case4 n st searched _ p hn st' e hl =>
    have h2 := loadPath_clean hw st p hI.sound
      (fun he => inv_paths_ok hpo hI iface p (mem_searchList_explicit (nextPath_some hn).1 he))
    rw [hl] at h2
    cases h2
  | case5 n st searched _ p hn s1 hl ih =>
    obtain ⟨hp, hps⟩ := nextPath_some hn
    have h1 := loadPath_lift (inv_execStable hw) st p hI
    have hm := loadPath_marks w st p
    have hle := loadPath_le w st p
    rw [hl] at h1 hm hle
    refine ih h1 (List.nodup_cons.2 ⟨hps, hnd⟩) ?_ ?_ (by simp only [List.length_cons]; omega)
    · intro x hx
      rcases List.mem_cons.1 hx with hx | hx
      · subst hx; exact mem_cands (inv_declared hI iface) hp
      · exact hsub x hx
    · intro x hx m hmx hi
      rcases List.mem_cons.1 hx with hx | hx
      · subst hx; exact hm rfl m hmx hi
      · exact hle.2 m (hdone x hx m hmx hi)

/-- how a lookup ends in a defect-free world: with the class bound, or with the missing-provider error in a state whose
search is exhausted -/
theorem get_end {w : World} (hw : worldClean w = true) (hpo : pathsOk w = true) {st : St} (hI : Inv w st)
    (iface : ClassId) (r : Ref) :
    Inv w (get w st iface r).1 ∧
      ((∃ c, (get w st iface r).2 = .ok c ∧ lookupRef r (getBank iface (get w st iface r).1.banks).provider = some c) ∨
       ((get w st iface r).2 = .error .missing ∧
          lookupRef r (getBank iface (get w st iface r).1.banks).provider = none ∧
          Closed w iface r (get w st iface r).1)) := by
  have hInv := getLoop_lift (inv_execStable hw) iface r (searchFuel w) st [] hI
  obtain ⟨hne, hcl⟩ := getLoop_closed hw hpo iface r (searchFuel w) st [] hI List.nodup_nil (by simp) (by simp)
    (by have := cands_length (declaredPaths w) r; simp only [searchFuel, List.length_nil]; omega)
  unfold get
  cases hl : getLoop w iface r (searchFuel w) st [] with
  | mk s1 e1 =>
    rw [hl] at hInv hne hcl
    simp only at hne hInv hcl
    subst hne
    simp only [finish]
    cases hb : lookupRef r (getBank iface s1.banks).provider with
    | some c => exact ⟨hInv, Or.inl ⟨c, rfl, hb⟩⟩
    | none =>
      refine ⟨hInv, Or.inr ⟨rfl, hb, ?_⟩⟩
      rcases hcl with h | h
      · simp [hb] at h
      · exact h

theorem searchList_mods_mono {b b' : Bank} (hle : ∀ p ∈ b.paths, ∃ q ∈ b'.paths, q.mod = p.mod) (r : Ref) {p : PathE}
    (hp : p ∈ searchList b r) : ∃ q ∈ searchList b' r, q.mod = p.mod := by
  rcases mem_searchList.1 hp with h | h
  · obtain ⟨q, hq, hqp⟩ := hle p h
    exact ⟨q, mem_searchList.2 (Or.inl hq), hqp⟩
  · cases r with
    | qual c => exact ⟨p, mem_searchList.2 (Or.inr h), rfl⟩
    | alias a =>
      obtain ⟨x, hx, hs, rfl⟩ := h
      obtain ⟨y, hy, hxy⟩ := hle x hx
      exact ⟨⟨⟨y.mod.pkg, some a⟩, false⟩, mem_searchList.2 (Or.inr ⟨y, hy, hxy ▸ hs, rfl⟩), by rw [hxy]⟩

theorem inv_paths_mono {w : World} {st s : St} (hI : Inv w st) (hIs : Inv w s) (hsub : ∀ m ∈ st.loaded, m ∈ s.loaded)
    (i : ClassId) : ∀ p ∈ (getBank i st.banks).paths, ∃ q ∈ (getBank i s.banks).paths, q.mod = p.mod := by
  intro p hp
  obtain ⟨m, hm, d, hd, c, hc, hi, hpc⟩ := hI.psrc i p hp
  obtain ⟨pm, hpm, rfl⟩ := List.mem_map.1 hpc
  exact hIs.preg m (hsub m hm) d hd c hc i hi pm hpm

/-- simulation: a search that starts from a state with fewer imported modules than an exhausted state `s` never
imports a module that `s` has not imported -/
theorem getLoop_below {w : World} (hw : worldClean w = true) (hpk : pkgsExist w = true) (iface : ClassId) (r : Ref)
    {s : St} (hIs : Inv w s) (hcl : Closed w iface r s) (n : Nat) (st : St) (searched : List Mod) (hI : Inv w st)
    (hsub : ∀ m ∈ st.loaded, m ∈ s.loaded) : ∀ m ∈ (getLoop w iface r n st searched).1.loaded, m ∈ s.loaded := by
  -- one import of the search stays below `s`: what it loads newly is covered by an entry of the search list of `s`
  refine (getLoop_liftStep (P := fun t => Inv w t ∧ ∀ m ∈ t.loaded, m ∈ s.loaded) ?_ n st searched ⟨hI, hsub⟩).2
  intro st searched p ⟨hI, hsub⟩ hn
  have h1 := loadPath_lift (inv_execStable hw) st p hI
  obtain ⟨q, hq, hqp⟩ := searchList_mods_mono (inv_paths_mono hI hIs hsub iface) r (nextPath_some hn).1
  refine ⟨h1, fun m hm => ?_⟩
  rcases loadPath_new w st p m hm with h0 | h0
  · exact hsub m h0
  · have hex := h1.ex m hm
    cases hf : findMod m w with
    | none => rw [hf] at hex; cases hex
    | some d => exact hcl q hq m (by rw [hqp]; exact h0) (importable_of_found hpk hf)

theorem get_unique {w : World} (hw : worldClean w = true) {st st' : St} (hs : StSound (InWorld w) st)
    (hs' : StSound (InWorld w) st') (iface iface' : ClassId) (r : Ref) (c c' : ClassId)
    (h : (get w st iface r).2 = .ok c) (h' : (get w st' iface' r).2 = .ok c') : c = c' := by
  obtain ⟨d, hd, _, hr, hi⟩ := (get_sound w st iface r hs).2 c h
  obtain ⟨d', hd', ha', hr', hi'⟩ := (get_sound w st' iface' r hs').2 c' h'
  rw [← hi, ← hi']
  exact (worldClean_noCollision hw hd hd' ha' hr hr').symm

theorem bound_of_loaded_sub {w : World} {t s : St} (hIt : Inv w t) (hIs : Inv w s) (hsub : ∀ m ∈ t.loaded, m ∈ s.loaded)
    (iface : ClassId) (r : Ref) (c : ClassId) (h : lookupRef r (getBank iface t.banks).provider = some c) :
    lookupRef r (getBank iface s.banks).provider = some c := by
  obtain ⟨m, hm, d, hd, cd, hcd, hconc, hr, hid, hbelow⟩ := hIt.src iface r c h
  have := hIs.reg m (hsub m hm) d hd cd hcd hconc iface hbelow r hr
  rw [hid] at this
  exact this

/-- liveness under extension: an answer that a lookup gives in one state, it gives in every state in which at least the
same modules are imported -/
theorem get_hit_mono {w : World} (hw : worldClean w = true) (hpo : pathsOk w = true) (hpk : pkgsExist w = true)
    {st st' : St} (hI : Inv w st) (hI' : Inv w st') (hsub : ∀ m ∈ st.loaded, m ∈ st'.loaded) (iface : ClassId) (r : Ref)
    (c : ClassId) (h : (get w st iface r).2 = .ok c) : (get w st' iface r).2 = .ok c := by
  obtain ⟨hIe', hend'⟩ := get_end hw hpo hI' iface r
  rcases hend' with ⟨c', hc', _⟩ | ⟨_, hnb, hcl⟩
  · rw [hc']
    exact congrArg Res.ok (get_unique hw hI.sound hI'.sound iface iface r c c' h hc').symm
  · exfalso
    -- a miss from `st'` ends in an exhausted state; the search from `st` stays below that state (`getLoop_below`), so
    -- the module that bound `r` for `st` is imported there too and `Inv.reg` has `r` bound: no miss
    have hIe := (get_end hw hpo hI iface r).1
    have hbt := get_ok_bound w st iface r c h
    have hsub2 : ∀ m ∈ (get w st iface r).1.loaded, m ∈ (get w st' iface r).1.loaded := by
      rw [get_state w st iface r]
      exact getLoop_below hw hpk iface r hIe' hcl _ st [] hI
        (fun m hm => (get_le w st' iface r).2 m (hsub m hm))
    have := bound_of_loaded_sub hIe hIe' hsub2 iface r c hbt
    rw [hnb] at this
    cases this

theorem get_found_hit {w : World} (hw : worldClean w = true) (hpo : pathsOk w = true) (hpk : pkgsExist w = true)
    {st : St} (hI : Inv w st) (iface : ClassId) (r : Ref)
    (hf : found w iface r (searchList (getBank iface st.banks) r) = true) : ∃ c, (get w st iface r).2 = .ok c := by
  obtain ⟨hIe, hend⟩ := get_end hw hpo hI iface r
  rcases hend with ⟨c, hc, _⟩ | ⟨_, hnb, hcl⟩
  · exact ⟨c, hc⟩
  · exfalso
    simp only [found, List.any_eq_true] at hf
    obtain ⟨p, hp, m, hm, hcar⟩ := hf
    obtain ⟨d, hd, c, hc, x, hconc, hr, _, hbelow⟩ := carriesIn_iff.1 hcar
    obtain ⟨q, hq, hqp⟩ := searchList_mods_mono (fun x hx => ⟨x, ((get_le w st iface r).1 iface).2 x hx, rfl⟩) r hp
    have hml := hcl q hq m (hqp ▸ hm) (importable_of_found hpk hd)
    have := hIe.reg m hml d hd c hc hconc iface hbelow r hr
    rw [hnb] at this
    cases this

theorem get_repeat {w : World} (hw : worldClean w = true) (hpo : pathsOk w = true) (hpk : pkgsExist w = true)
    {st : St} (hI : Inv w st) (iface : ClassId) (r : Ref) :
    (get w (get w st iface r).1 iface r).2 = (get w st iface r).2 := by
  obtain ⟨hI1, hend⟩ := get_end hw hpo hI iface r
  rcases hend with ⟨c, hc, hb⟩ | ⟨hmiss, hnb, hcl⟩
  · rw [hc, get_of_bound w _ iface r c hb]
  · rw [hmiss]
    obtain ⟨hI2, hend2⟩ := get_end hw hpo hI1 iface r
    rcases hend2 with ⟨c, _, hb2⟩ | ⟨hmiss2, _, _⟩
    · exfalso
      -- the state after the first miss is exhausted: the second search imports nothing new (`getLoop_below` with `s` the
      -- state itself), so it cannot bind what was unbound
      have hsub : ∀ m ∈ (get w (get w st iface r).1 iface r).1.loaded, m ∈ (get w st iface r).1.loaded := by
        rw [get_state w (get w st iface r).1 iface r]
        exact getLoop_below hw hpk iface r hI1 hcl _ _ [] hI1 (fun m hm => hm)
      have := bound_of_loaded_sub hI2 hI1 hsub iface r c hb2
      rw [hnb] at this
      cases this
    · exact hmiss2

/-- an unknown reference, carried by no concrete class below the interface, raises the missing-provider error from every
state reached in a defect-free world -/
theorem get_miss {w : World} (hw : worldClean w = true) (hpo : pathsOk w = true) {st : St} (hI : Inv w st)
    (iface : ClassId) (r : Ref)
    (hun : ∀ c, InWorld w c → c.abstract = false → iface ∈ c.id :: c.parents → r ∉ refs c) :
    (get w st iface r).2 = .error .missing := by
  obtain ⟨hIe, ⟨y, _, hb⟩ | ⟨hm, _, _⟩⟩ := get_end hw hpo hI iface r
  · obtain ⟨m, _, d, hd, c, hc, hconc, hr, _, hbelow⟩ := hIe.src iface r y hb
    exact absurd hr (hun c ⟨m, d, findMod_mem hd, hc⟩ hconc hbelow)
  · exact hm

/-- every reference of every concrete class below the interface is bound already or can be found from the search
paths registered for the interface (decidable): the layout of `forml.provider.*` — providers in sub-modules named
after their alias, or listed in the package's `__all__` -/
def discoverable (w : World) (st : St) (iface : ClassId) : Bool :=
  (allClasses w).all fun c =>
    c.abstract || !(c.id :: c.parents).contains iface ||
      (refs c).all fun r =>
        (lookupRef r (getBank iface st.banks).provider).isSome || found w iface r (searchList (getBank iface st.banks) r)

/-- history independence in a discoverable, defect-free world: whatever was imported or looked up in between — hits,
misses, other references, other interfaces, failing imports — `Service[reference]` answers as it would have at once -/
theorem get_history_free {w : World} (hw : worldClean w = true) (hpo : pathsOk w = true) (hpk : pkgsExist w = true)
    {st : St} (hI : Inv w st) (iface : ClassId) (hd : discoverable w st iface = true) (ops : List HOp) (r : Ref) :
    (get w (runHist w st ops) iface r).2 = (get w st iface r).2 := by
  have hI' := inv_runHist hw ops st hI
  have hle := runHist_le w ops st
  by_cases hcar : ∃ c ∈ allClasses w, c.abstract = false ∧ iface ∈ c.id :: c.parents ∧ r ∈ refs c
  · obtain ⟨c, hc, ha, hi, hr⟩ := hcar
    have hone : ∃ y, (get w st iface r).2 = .ok y := by
      simp only [discoverable, List.all_eq_true, Bool.or_eq_true, Bool.not_eq_true', List.contains_eq_mem,
        decide_eq_false_iff_not] at hd
      rcases hd c hc with (h1 | h1) | h1
      · rw [ha] at h1; cases h1
      · exact absurd hi h1
      · rcases h1 r hr with h2 | h2
        · cases hb : lookupRef r (getBank iface st.banks).provider with
          | none => simp [hb] at h2
          | some y => exact ⟨y, by rw [get_of_bound w st iface r y hb]⟩
        · exact get_found_hit hw hpo hpk hI iface r h2
    obtain ⟨y, hy⟩ := hone
    rw [hy]
    exact get_hit_mono hw hpo hpk hI hI' hle.2 iface r y hy
  · have hun : ∀ c, InWorld w c → c.abstract = false → iface ∈ c.id :: c.parents → r ∉ refs c :=
      fun c hc ha hi hr => hcar ⟨c, (inWorld_iff w c).1 hc, ha, hi, hr⟩
    rw [get_miss hw hpo hI' iface r hun, get_miss hw hpo hI iface r hun]

end ForML.Bank
