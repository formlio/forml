/-
C01 — `compile_denotes`: the compiler model, on every well-formed segment with a compatible asset accessor and for
every visit order that covers the members once, succeeds and returns exactly the symbols of the table the segment
denotes, every instruction once.
-/
import ForML.Lemmas.C01Denotes

namespace ForML.Flow
open CState Segment

theorem compile_denotes {g : Segment} {A : Option Assets} {rank : Uid → Nat} {order : List Uid}
    (hwf : g.wf rank = true) (hA : g.assetsOK A = true) (hperm : order.Perm g.uids) :
    ∃ t, compile g A order = .ok t ∧ Denotes g A t ∧ (t.map (·.id)).Nodup := by
  have h := wf_WF hwf
  have hA' := assetsOK_AssetsOK hA
  have ho := orderOK_of_perm hperm h.nodup
  have hf := final_state h hA' ho
  refine ⟨emitted g A (addAll g A order), ?_, hf.emitted_denotes, hf.emitted_nodup⟩
  unfold compile
  simp only [hf.ok]
  exact hf.emit_ok

theorem denotes_of_compile {g : Segment} {A : Option Assets} {rank : Uid → Nat} {order : List Uid} {t : Table}
    (hwf : g.wf rank = true) (hA : g.assetsOK A = true) (hperm : order.Perm g.uids) (hc : compile g A order = .ok t) :
    Denotes g A t ∧ (t.map (·.id)).Nodup := by
  obtain ⟨t', hc', hd⟩ := compile_denotes hwf hA hperm
  rw [hc] at hc'; cases hc'
  exact hd

end ForML.Flow
