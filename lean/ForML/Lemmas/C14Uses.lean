/-
C14 — the path-based specification `needs` (what `C14_columns` proves the hints against) covers
the property's own reading `usesIn` (the columns of the scanned origin occurring anywhere in its query, *every* join
condition of the query included) on every statement the grammar admits: a join condition off the path to a scan cannot
mention its origin (`Join.__new__` scopes conditions to their own sides, origins of a query are distinct).
-/
import ForML.Lemmas.C14Cols

namespace ForML.PushDown
open ForML.Dsl

theorem usedBy_sub {F G : List Feature} {o : Source} (h : ∀ e ∈ elemsAll G, e.1 = o → e ∈ elemsAll F) :
    ∀ c ∈ usedBy G o, c ∈ usedBy F o := fun _ hc => mem_usedBy.mpr (h _ (mem_usedBy.mp hc) rfl)

/-- `needs` (conditions collected along the path) offers what `usesIn` (all the conditions of the query) asks for -/
theorem needs_uses (s : Source) (hg : grammarScoped s = true) :
    (joinsScoped s = true → (origins s).Nodup → ∀ (F G : List Feature),
        (∀ e ∈ elemsAll G, e.1 ∈ origins s → e ∈ elemsAll (F ++ condsOf s)) →
        Forall2 (fun u n => ∀ c ∈ u, c ∈ n) (usesIn G s) (needs F s))
    ∧ (isStmt s = true → ∀ (F G : List Feature), Forall2 (fun u n => ∀ c ∈ u, c ∈ n) (usesIn G s) (needs F s)) := by
  refine scoped_induction
    (A := fun s => ∀ (F G : List Feature), (∀ e ∈ elemsAll G, e.1 ∈ origins s → e ∈ elemsAll (F ++ condsOf s)) →
      Forall2 (fun u n => ∀ c ∈ u, c ∈ n) (usesIn G s) (needs F s))
    (B := fun s => ∀ (F G : List Feature), Forall2 (fun u n => ∀ c ∈ u, c ∈ n) (usesIn G s) (needs F s))
    ?_ ?_ ?_ ?_ ?_ ?_ ?_ s hg
  · intro n fs F G hG
    simp only [usesIn, needs]
    exact .cons (usedBy_sub fun e he ho => by simpa [condsOf] using hG e he (by simp [origins, ho])) .nil
  · intro i nm ht F G hG
    simp only [usesIn, needs, ht, if_true]
    exact .cons (usedBy_sub fun e he ho => by simpa [condsOf] using hG e he (by simp [origins, ho])) .nil
  · intro i nm ht ih F G _
    simp only [usesIn, needs, ht, Bool.false_eq_true, if_false]
    exact ih F G
  · intro l r k c _ hjl hjr hdisj _ iha ihb F G hG
    simp only [usesIn, needs]
    -- a condition of the other side's subtree cannot mention an origin of this side
    refine (iha (F ++ optList c) G ?_).append (ihb (F ++ optList c) G ?_)
    · intro e he hel
      have := hG e he (List.mem_append_left _ hel)
      simp only [condsOf, mem_elemsAll_append] at this ⊢
      rcases this with h | (h | h) | h
      · exact .inl (.inl h)
      · exact .inl (.inr h)
      · exact .inr h
      · exact absurd hel (hdisj _ (conds_scoped r hjr e h))
    · intro e he her
      have := hG e he (List.mem_append_right _ her)
      simp only [condsOf, mem_elemsAll_append] at this ⊢
      rcases this with h | (h | h) | h
      · exact .inl (.inl h)
      · exact .inl (.inr h)
      · exact absurd (conds_scoped l hjl e h) (hdisj _ her)
      · exact .inr h
  · intro l r k iha ihb F G
    simp only [usesIn, needs]
    exact (iha [] []).append (ihb [] [])
  · intro src sel pre grp post ord rows ih F G
    simp only [usesIn, needs]
    exact ih _ _ (fun e he _ => he)
  · intro s _ h F G _
    exact h F G

end ForML.PushDown
