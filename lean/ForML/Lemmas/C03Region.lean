/-
The apply region of an expanded trunk (`Region`, `Lemmas/C03CopySpec.lean`).  A `Region` is obtained from two runs of `Spec` on the
same graph with different apply inputs (the construction does not depend on the values, and the trained states do not
depend on the apply input: `Scope.Indep`); it survives subscriptions whose publisher lies below `lo` (binding the heads
of the trunk to older publishers).
-/
import ForML.Lemmas.C03CopySpec
import ForML.Lemmas.C03Indep
import ForML.Lemmas.C03Ops

namespace ForML.Compose

/-- a subscription to a publisher below the region does not change the region -/
theorem Region.pushEdge {g : Graph} {W Wx : World} {seg : Segment} {lo : Nat} (hr : Region g W Wx seg lo) (e : Edge)
    (hp : e.pub.node < lo) (hs : e.sub = seg.head ∨ ¬ Reach g seg.head e.sub) : Region (g.pushEdge e) W Wx seg lo := by
  have back : ∀ n, Reach (g.pushEdge e) seg.head n → Reach g seg.head n := by
    intro n hre
    induction hre with
    | refl => exact Reach.refl
    | @step p _ _ _ _ he ih =>
      rcases inputOf_pushEdge_cases he with h | ⟨_, _, h3⟩
      · exact Reach.step ih h
      · have hp' : p < lo := (show e.pub.node = p from congrArg PubRef.node h3) ▸ hp
        exact absurd (Nat.lt_of_lt_of_le hp' (hr.reachLo _ ih)) (Nat.lt_irrefl _)
  have fwd : ∀ n, Reach g seg.head n → Reach (g.pushEdge e) seg.head n := fun n h => h.mono fun _ _ _ => inputOf_pushEdge_old
  have same : ∀ n, Reach g seg.head n → n ≠ seg.head → ∀ k, (g.pushEdge e).inputOf n k = g.inputOf n k :=
    fun n hre hne => inputOf_pushEdge_ne fun hc => hs.elim (fun h => hne (hc ▸ h)) fun h => h (hc ▸ hre)
  refine ⟨hr.headLive, hr.headKind, fun n h => hr.reachLo n (back n h), ?_, fwd _ hr.tail, ?_,
    fun n gid a i o t hre => hr.states n gid a i o t (back n hre), ?_⟩
  · intro n hre hne
    have hre0 := back n hre
    obtain ⟨hl, hall⟩ := hr.reg n hre0 hne
    refine ⟨hl, ?_⟩
    intro k q hq
    rw [same n hre0 hne k] at hq
    exact fwd _ (hall k q hq)
  · intro n hre hne
    have hin := same n (back n hre) hne
    refine ⟨(hr.alt n (back n hre) hne).1.mono rfl hin (fun _ _ _ _ _ => rfl) (fun _ => rfl) fun _ hq => ⟨hq, rfl⟩, fun ho => ?_⟩
    exact (hr.alt n (back n hre) hne).2 ⟨ho.1, (hin 0).symm.trans ho.2⟩
  · intro k q hq
    rcases inputOf_pushEdge_cases hq with h | ⟨_, _, h3⟩
    · exact hr.headIn k q h
    · rw [← h3]; exact hp

/-- the state of a group read off two valuations: the references of `W`, the values of `Wx` -/
theorem StateFor.alt {g : Graph} {W Wx : World} {gid : Nat} {a : Actor} {r rx : Nat} {st stx : Val}
    (h : StateFor g W gid a r st) (hx : StateFor g Wx gid a rx stx) : StateFor g (W.alt Wx) gid a r stx := by
  rcases hx.cases with ⟨rfl, hs | hn⟩ | ⟨t, htr, hs, _, _, rfl⟩
  · exact .stateless hs
  · exact .untrained hn
  · rcases h.cases with ⟨_, hs' | hn⟩ | ⟨t', htr', _, h1, h2, _⟩
    · exact nomatch hs.symm.trans hs'
    · exact nomatch htr.symm.trans hn
    · cases htr.symm.trans htr'
      exact .trained (W := W.alt Wx) htr hs h1 h2

/-- the local equation of a bound region node under the values of `Wx`, from two certified valuations of the same graph -/
theorem good_alt {g : Graph} {W Wx : World} (hi : Inv g W) (hix : Inv g Wx) {n : Nat} (hl : W.live n) (hlx : Wx.live n)
    (hno : ¬ g.isOpen n) : GoodNode g (W.alt Wx) n := by
  rcases (hi.good n hl).cases with ho | ⟨q, hk, hq, hr, _⟩ | ⟨gid, a, szin, szout, ins, st, hk, hins, hst, _⟩
  · exact absurd ho hno
  · rcases (hix.good n hlx).cases with hox | ⟨qx, _, hqx, _, hσx⟩ | ⟨_, _, _, _, _, _, hkx, _⟩
    · exact absurd hox hno
    · exact .bound hk hq hr (Option.some.inj (hqx.symm.trans hq) ▸ hσx)
    · exact nomatch hk.symm.trans hkx
  · rcases (hix.good n hlx).cases with hox | ⟨_, hkx, _⟩ | ⟨_, _, _, _, insx, stx, hkx, hinsx, hstx, hσx⟩
    · exact absurd hox hno
    · exact nomatch hk.symm.trans hkx
    · cases hk.symm.trans hkx
      refine .worker hk insx (fun k hk' => ⟨(hinsx k hk').1, ?_⟩) (hst.alt hstx) hσx
      rw [← Option.some.inj ((hins k hk').1.symm.trans (hinsx k hk').1)]
      exact (hins k hk').2

/-- the apply region of a freshly expanded trunk, from two runs of the same construction on different apply inputs -/
theorem Region.ofSpec {g g' : Graph} {W W' Wx' : World} {t : Trunk} {xa x' xt xl : Val} {r : Nat} {s sx : Sem}
    (hi : Inv g W) (hw : Wired g) (ok : TrunkOk True g g' W W' t xa xt xl r s) (okx : TrunkOk True g g' W Wx' t x' xt xl r sx)
    (hst : s.states = sx.states) : Region g' W' Wx' t.apply g.next := by
  have hlo : ∀ n, Reach g' t.apply.head n → g.next ≤ n := fun n h => Reach.new ok.frame hw ok.ha.ge h
  obtain ⟨d1, d2, _⟩ := ok.distinct
  refine ⟨ok.ha.live, ok.ha.isOpen.1, hlo, ok.reg trivial, ok.regTail trivial, ?_, ?_, ?_⟩
  · intro n hre hne
    have hno : ¬ g'.isOpen n := fun ho => by
      rcases ok.opens n (hlo n hre) ((ok.reg trivial n hre hne).1) ho with h | h | h
      · exact hne h
      · exact not_reach_of_no_input ok.ht.free (fun e => d1 e.symm) (h ▸ hre)
      · exact not_reach_of_no_input ok.hl.free (fun e => d2 e.symm) (h ▸ hre)
    exact ⟨good_alt ok.inv okx.inv ((ok.reg trivial n hre hne).1) ((okx.reg trivial n hre hne).1) hno, hno⟩
  · -- a group of the region was created after `g`, so its trainer is among the trainings both runs recorded
    intro n gid a i o tr hre hk htr
    obtain ⟨ts, hts, _, hm⟩ := ok.trains
    obtain ⟨tsx, htsx, _, hmx⟩ := okx.trains
    have hl : W'.live n := by
      by_cases e : n = t.apply.head
      · exact e ▸ ok.ha.live
      · exact (ok.reg trivial n hre e).1
    obtain ⟨htm, htg⟩ := trainerOf_eq_some htr
    have htn : tr ∈ ts := by
      rw [hts] at htm
      rcases List.mem_append.mp htm with h | h
      · have := hi.bounded.trainsLt tr h
        have := ok.fresh n (hlo n hre) hl gid a i o hk
        omega
      · exact h
    have heq : ts.map (trainedUnder W') = ts.map (trainedUnder Wx') := by
      rw [hm, hst, ← hmx, List.append_cancel_left (hts.symm.trans htsx)]
    have hv := (Prod.mk.inj (List.map_inj_left.mp heq tr htn)).2
    exact ⟨by injection hv with _ _ h1 _; exact h1.symm, by injection hv with _ _ _ h2; exact h2.symm⟩
  · intro k q hq
    rw [ok.ha.free k] at hq; cases hq

end ForML.Compose
