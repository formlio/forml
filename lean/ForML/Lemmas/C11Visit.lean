/-
What `Traversal.each` (the walk `Segment.accept` hands to the validator) visits.  `Reach g tail h` is the spec-shaped
reachability; `visit` is sound for it in every state, and complete when no two different nodes compare equal
(`noAlias`: with `Node.__eq__` aliasing the `seen` set skips a node that merely looks like a visited one - finding
C11-F2).
-/
import ForML.Lemmas.C11Wf
import ForML.Lemmas.C01Dfs

namespace ForML.Graph

/-- the nodes `each` looks at below `p` -/
def succs (g : G) (tail p : Nat) : List Nat :=
  (outputs g p).flatten.map (·.node) ++ (if subscribed (fuelOf g) g tail p then [tail] else [])

/-- the mask of `each`: below the tail only trained subscribers are followed -/
def follow (g : G) (tail p n : Nat) : Bool := !(eqNode g p tail && !(isWorker g n && trained g n))

/-- one step of the fold of `visit` -/
def vstep (fuel : Nat) (g : G) (tail pivot : Nat) (seen : List Nat) (n : Nat) : List Nat :=
  if memNode g n seen then seen
  else if eqNode g pivot tail && !(isWorker g n && trained g n) then seen
  else visit fuel g tail n seen

theorem visit_succ (fuel : Nat) (g : G) (tail pivot : Nat) (seen : List Nat) :
    visit (fuel + 1) g tail pivot seen = (succs g tail pivot).foldl (vstep fuel g tail pivot) (seen ++ [pivot]) := rfl

/-- reachable from the head `h` in the sense of `Traversal.each` -/
inductive Reach (g : G) (tail h : Nat) : Nat → Prop
  | head : Reach g tail h h
  | step {p n : Nat} : Reach g tail h p → n ∈ succs g tail p → follow g tail p n = true → Reach g tail h n

theorem foldl_vstep_inv {g : G} {tail k pivot : Nat} {P : List Nat → Prop} : ∀ (ns : List Nat) (acc : List Nat),
    (∀ n ∈ ns, ∀ acc, follow g tail pivot n = true → P acc → P (visit k g tail n acc)) → P acc →
    P (ns.foldl (vstep k g tail pivot) acc) := by
  intro ns
  induction ns with
  | nil => intro acc _ h; exact h
  | cons n ns ih =>
    intro acc hv h
    rw [List.foldl_cons]
    apply ih _ (fun m hm => hv m (List.mem_cons_of_mem _ hm))
    unfold vstep
    split
    · exact h
    · split
      · exact h
      · rename_i hf
        refine hv n List.mem_cons_self acc ?_ h
        unfold follow
        rw [Bool.eq_false_iff.mpr hf]; rfl

theorem visit_sound (g : G) (tail h : Nat) : ∀ (fuel pivot : Nat) (seen : List Nat),
    Reach g tail h pivot → (∀ x ∈ seen, Reach g tail h x) → ∀ x ∈ visit fuel g tail pivot seen, Reach g tail h x := by
  intro fuel
  induction fuel with
  | zero => intro pivot seen _ hs x hx; exact hs x hx
  | succ k ih =>
    intro pivot seen hp hs
    rw [visit_succ]
    refine foldl_vstep_inv (P := fun acc => ∀ x ∈ acc, Reach g tail h x) _ _
      (fun n hn acc hf ha => ih n acc (.step hp hn hf) ha) ?_
    intro x hx
    rcases List.mem_append.mp hx with hx | hx
    · exact hs x hx
    · rw [List.mem_singleton.mp hx]; exact hp

theorem seen_subset_visit (g : G) (tail : Nat) : ∀ (fuel pivot : Nat) (seen : List Nat) (x : Nat),
    x ∈ seen → x ∈ visit fuel g tail pivot seen := by
  intro fuel
  induction fuel with
  | zero => intro pivot seen x h; exact h
  | succ k ih =>
    intro pivot seen x h
    rw [visit_succ]
    exact foldl_vstep_inv (P := fun acc => x ∈ acc) _ _ (fun n _ acc _ => ih n acc x) (List.mem_append_left _ h)

theorem visit_pivot (g : G) (tail fuel pivot : Nat) (seen : List Nat) :
    pivot ∈ visit (fuel + 1) g tail pivot seen := by
  rw [visit_succ]
  exact foldl_vstep_inv (P := fun acc => pivot ∈ acc) _ _ (fun n _ acc _ => seen_subset_visit g tail fuel n acc pivot)
    (List.mem_append_right _ (List.mem_singleton.mpr rfl))

/-- no two different nodes compare equal (`Node.__eq__`) -/
def noAlias (g : G) : Bool :=
  (List.range g.nodes.length).all (fun a => (List.range g.nodes.length).all (fun b => a == b || !eqNode g a b))

theorem eqNode_of_noAlias {g : G} (na : noAlias g = true) {a b : Nat} (h : eqNode g a b = true) : a = b := by
  by_cases ha : a < g.nodes.length
  · by_cases hb : b < g.nodes.length
    · unfold noAlias at na
      have := List.all_eq_true.mp (List.all_eq_true.mp na a (List.mem_range.mpr ha)) b (List.mem_range.mpr hb)
      simp only [Bool.or_eq_true, beq_iff_eq, Bool.not_eq_true'] at this
      rcases this with h1 | h1
      · exact h1
      · rw [h] at h1; cases h1
    · unfold eqNode at h
      simpa [kind_false hb] using h
  · unfold eqNode at h
    simpa [kind_false ha] using h

theorem memNode_iff {g : G} (na : noAlias g = true) (n : Nat) (ms : List Nat) : memNode g n ms = true ↔ n ∈ ms := by
  unfold memNode
  simp only [List.any_eq_true, Bool.or_eq_true, beq_iff_eq, Bool.and_eq_true]
  constructor
  · rintro ⟨m, hm, h | ⟨_, h⟩⟩
    · exact h ▸ hm
    · exact (eqNode_of_noAlias na h) ▸ hm
  · intro h; exact ⟨n, h, .inl rfl⟩

/-- without aliasing the walk is the depth-first search `Flow.Segment.gdfs` over the successors `each` follows -/
theorem visit_eq_gdfs {g : G} (na : noAlias g = true) (tail : Nat) : ∀ (fuel pivot : Nat) (seen : List Nat),
    visit fuel g tail pivot seen =
      Flow.Segment.gdfs (fun p => (succs g tail p).filter (follow g tail p)) fuel seen pivot := by
  intro fuel
  induction fuel with
  | zero => intro pivot seen; rfl
  | succ k ih =>
    intro pivot seen
    rw [visit_succ, Flow.Segment.gdfs, List.foldl_filter]
    congr 1
    funext acc n
    unfold vstep follow
    cases eqNode g pivot tail && !(isWorker g n && trained g n) with
    | true => simp
    | false =>
      rw [ih n acc]
      simp only [Bool.not_false, if_true, Bool.false_eq_true, if_false]
      by_cases h : n ∈ acc
      · rw [if_pos ((memNode_iff na n acc).mpr h), if_pos (List.contains_iff_mem.mpr h)]
      · rw [if_neg (fun h' => h ((memNode_iff na n acc).mp h')), if_neg (fun h' => h (List.contains_iff_mem.mp h'))]
        rfl

theorem succs_lt (g : G) (hw : Wf g) (tail : Nat) (ht : tail < g.nodes.length) (p n : Nat)
    (hn : n ∈ succs g tail p) : n < g.nodes.length := by
  unfold succs at hn
  rcases List.mem_append.mp hn with h | h
  · simp only [List.mem_map, List.mem_flatten] at h
    obtain ⟨s, ⟨l, hl, hs⟩, rfl⟩ := h
    unfold outputs at hl
    simp only [List.mem_map, List.mem_range] at hl
    obtain ⟨i, _, rfl⟩ := hl
    exact isWorker_lt _ _ (hw.i7 _ (mem_out.mp hs)).2
  · split at h
    · simp only [List.mem_singleton] at h; subst h; exact ht
    · cases h

theorem visit_reach (g : G) (hw : Wf g) (na : noAlias g = true) (h tl : Nat) (hh : h < g.nodes.length)
    (ht : tl < g.nodes.length) (x : Nat) (hx : Reach g tl h x) :
    x ∈ visit (g.nodes.length * g.nodes.length + 1) g tl h [] := by
  rw [visit_eq_gdfs na]
  -- the search is complete over the universe of the node indices
  refine ((Flow.Segment.gdfs_reach (U := List.range g.nodes.length) ?_ (List.mem_range.mpr hh) ?_).2.2 x).mpr ?_
  · intro p _ n hn
    exact List.mem_range.mpr (succs_lt g hw tl ht p n (List.mem_filter.mp hn).1)
  · rw [List.length_range]
    exact Nat.le_succ_of_le (Nat.le_mul_self _)
  · induction hx with
    | head => exact .refl
    | step _ hn hf ih => exact .step ih (List.mem_filter.mpr ⟨hn, hf⟩)

/-- the validator refuses exactly when the walk visits a placeholder that does not compare equal to the tail -/
theorem accept_some {g : G} {h tl : Nat} : accept g h tl = some .futures ↔
    ∃ n ∈ visit (g.nodes.length * g.nodes.length + 1) g tl h [], isFuture g n = true ∧ eqNode g n tl = false := by
  unfold accept
  split
  · rename_i hany
    obtain ⟨n, hn, hp⟩ := List.any_eq_true.mp hany
    simp only [Bool.and_eq_true, Bool.not_eq_true'] at hp
    exact ⟨fun _ => ⟨n, hn, hp⟩, fun _ => rfl⟩
  · rename_i hany
    refine ⟨nofun, fun ⟨n, hn, h1, h2⟩ => absurd (List.any_eq_true.mpr ⟨n, hn, ?_⟩) hany⟩
    rw [h1, h2]; rfl

/-- the validator refuses only when a placeholder (other than the tail) is reachable -/
theorem accept_sound (g : G) (h tl : Nat) (hr : accept g h tl = some .futures) :
    ∃ n, Reach g tl h n ∧ isFuture g n = true ∧ eqNode g n tl = false := by
  obtain ⟨n, hn, hp⟩ := accept_some.mp hr
  exact ⟨n, visit_sound g tl h _ h [] .head (by simp) n hn, hp⟩

/-- without aliasing: the validator refuses **iff** a placeholder other than the tail is reachable -/
theorem accept_iff (g : G) (hw : Wf g) (na : noAlias g = true) (h tl : Nat) (hh : h < g.nodes.length)
    (ht : tl < g.nodes.length) :
    accept g h tl = some .futures ↔ ∃ n, Reach g tl h n ∧ isFuture g n = true ∧ n ≠ tl := by
  constructor
  · intro hr
    obtain ⟨n, h1, h2, h3⟩ := accept_sound g h tl hr
    refine ⟨n, h1, h2, ?_⟩
    intro heq
    subst heq
    simp [eqNode] at h3
  · rintro ⟨n, h1, h2, h3⟩
    refine accept_some.mpr ⟨n, visit_reach g hw na h tl hh ht n h1, h2, ?_⟩
    cases he : eqNode g n tl with
    | false => rfl
    | true => exact absurd (eqNode_of_noAlias na he) h3

theorem validate_node (g : G) (h : Nat) (t : Option Nat) (tl : Nat) (hv : validate g h t = .node tl) :
    segment g h t = .node tl ∧ accept g h tl = none := by
  unfold validate at hv
  split at hv
  · rename_i tl' hseg
    unfold accept
    simp only at hv
    split at hv
    · cases hv
    · rename_i hany
      cases hv
      exact ⟨hseg, if_neg hany⟩
  · rename_i r hne
    exact absurd hv (hne tl)

theorem accept_none (g : G) (hw : Wf g) (na : noAlias g = true) (h tl : Nat) (hh : h < g.nodes.length)
    (ht : tl < g.nodes.length) (hacc : accept g h tl = none) (n : Nat) (hr : Reach g tl h n)
    (hf : isFuture g n = true) : n = tl := by
  apply Classical.byContradiction
  intro hn
  have := (accept_iff g hw na h tl hh ht).mpr ⟨n, hr, hf, hn⟩
  rw [hacc] at this; cases this

theorem accept_none_or (g : G) (h tl : Nat) : accept g h tl = none ∨ accept g h tl = some .futures := by
  unfold accept; split
  · exact .inr rfl
  · exact .inl rfl

end ForML.Graph
