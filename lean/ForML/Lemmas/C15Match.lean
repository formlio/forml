/-
`Reader._match_entry` (`matchEntry`): the scanning loop builds "name ↦ index of its last occurrence", the second loop
collects those indices.
-/
import ForML.Model.Entry
import ForML.Lemmas.C15Matrix

namespace ForML.Entry

/-- position (offset by `i`) of the last occurrence of `c` in `e` -/
def lastIdx (c : Name) : List Name → Nat → Option Nat
  | [], _ => none
  | x :: r, i =>
    match lastIdx c r (i + 1) with
    | some k => some k
    | none => if x = c then some i else none

theorem lastIdx_none (c : Name) (e : List Name) (i : Nat) : lastIdx c e i = none ↔ c ∉ e := by
  induction e generalizing i with
  | nil => simp [lastIdx]
  | cons x r ih =>
    simp only [lastIdx]
    cases h : lastIdx c r (i + 1) with
    | some k =>
      have : ¬ c ∉ r := fun hn => by rw [(ih (i + 1)).mpr hn] at h; cases h
      constructor
      · intro h'; cases h'
      · intro hn; exact absurd (fun hm => hn (List.mem_cons_of_mem _ hm)) this
    | none =>
      have hr := (ih (i + 1)).mp h
      by_cases hx : x = c
      · simp [hx]
      · simp [hx, hr]; exact fun h' => hx h'.symm

/-- stated with the offset as a summand, so that the induction needs no subtraction -/
theorem lastIdx_offset (c : Name) (e : List Name) (i k : Nat) (h : lastIdx c e i = some k) :
    ∃ p, k = i + p ∧ e[p]? = some c ∧ ∀ j, p < j → e[j]? ≠ some c := by
  induction e generalizing i with
  | nil => cases h
  | cons x r ih =>
    simp only [lastIdx] at h
    split at h
    · rename_i k' hr
      cases h
      obtain ⟨p, rfl, h2, h3⟩ := ih (i + 1) hr
      refine ⟨p + 1, by omega, h2, fun j hj => ?_⟩
      cases j with
      | zero => cases hj
      | succ j => exact h3 j (Nat.lt_of_succ_lt_succ hj)
    · rename_i hr
      split at h
      · rename_i hx
        cases h; subst hx
        refine ⟨0, rfl, rfl, fun j hj hc => ?_⟩
        cases j with
        | zero => cases hj
        | succ j => exact (lastIdx_none x r _).mp hr (List.mem_of_getElem? hc)
      · cases h

theorem lastIdx_some (c : Name) (e : List Name) (k : Nat) (h : lastIdx c e 0 = some k) :
    e[k]? = some c ∧ ∀ j, k < j → e[j]? ≠ some c := by
  obtain ⟨p, hp, h2⟩ := lastIdx_offset c e 0 k h
  rw [Nat.zero_add] at hp
  exact hp ▸ h2

theorem lookup_cons_none (d : Name) (i : Nat) (src : Source) :
    List.lookup (some d) ((none, i) :: src) = List.lookup (some d) src := by simp [List.lookup]

theorem lookup_cons_some (d b : Name) (i : Nat) (src : Source) :
    List.lookup (some d) ((some b, i) :: src) = if d = b then some i else List.lookup (some d) src := by
  by_cases h : d = b
  · simp [List.lookup, h]
  · have : (d == b) = false := by simp [h]
    simp [List.lookup, h, this]

theorem lookup_push (c b : Name) (bs : List Name) (i : Nat) (src : Source) :
    (match lastIdx c bs (i + 1) with | some k => some k | none => List.lookup (some c) ((some b, i) :: src)) =
    match lastIdx c (b :: bs) i with | some k => some k | none => src.lookup (some c) := by
  simp only [lastIdx]
  cases lastIdx c bs (i + 1) with
  | some k => rfl
  | none =>
    rw [lookup_cons_some]
    by_cases hb : b = c
    · subst hb; simp
    · simp [hb, Ne.symm hb]

theorem scan_supply (d : Option Name) (b : Name) (rest : List (Option Name × Option Name)) (i : Nat) (src : Source)
    (ident : Bool) :
    scan ((d, some b) :: rest) i src ident = scan rest (i + 1) ((some b, i) :: src) (ident && (some b == d)) := rfl

theorem scan_demand (a : Name) (rest : List (Option Name × Option Name)) (i : Nat) (src : Source) (ident : Bool) :
    scan ((some a, none) :: rest) i src ident =
      if (src.lookup (some a)).isNone then none else scan rest (i + 1) ((none, i) :: src) false := by
  simp only [scan, lookup_cons_none, Option.isNone_none, Bool.true_and]
  rw [show ((none : Option Name) == some a) = false from rfl, Bool.and_false]

/-- `scan_some` at `zipLongest [] e` -/
theorem scan_some_nil (e : List Name) (i : Nat) (src : Source) (ident : Bool) (src' : Source)
    (ident' : Bool)
    (h : scan (e.map (fun b => ((none : Option Name), some b))) i src ident = some (src', ident')) :
    (∀ c, src'.lookup (some c) =
      match lastIdx c e i with | some k => some k | none => src.lookup (some c))
    ∧ ident' = (ident && decide (([] : List Name) = e)) := by
  induction e generalizing i src ident with
  | nil => cases h; exact ⟨fun _ => rfl, by simp⟩
  | cons b bs ih =>
    rw [List.map_cons, scan_supply] at h
    obtain ⟨h1, h2⟩ := ih _ _ _ h
    exact ⟨fun c => by rw [h1 c, lookup_push], by simp [h2]⟩

theorem scan_none_nil (e : List Name) (i : Nat) (src : Source) (ident : Bool) :
    scan (e.map (fun b => ((none : Option Name), some b))) i src ident ≠ none := by
  induction e generalizing i src ident with
  | nil => nofun
  | cons b bs ih => rw [List.map_cons, scan_supply]; exact ih _ _ _

/-- the invariant of the first loop; the `None` keys written for an exhausted entry never answer a lookup of a name -/
theorem scan_some (q e : List Name) (i : Nat) (src : Source) (ident : Bool) (src' : Source)
    (ident' : Bool) (h : scan (zipLongest q e) i src ident = some (src', ident')) :
    (∀ c, src'.lookup (some c) =
      match lastIdx c e i with | some k => some k | none => src.lookup (some c))
    ∧ ident' = (ident && decide (q = e)) := by
  fun_induction zipLongest q e generalizing i src ident with
  | case1 bs => exact scan_some_nil bs i src ident src' ident' h
  | case2 a as ih =>
    rw [scan_demand] at h
    split at h
    · cases h
    · obtain ⟨h1, h2⟩ := ih _ _ _ h
      exact ⟨fun c => by rw [h1 c, lookup_cons_none]; rfl, by simp [h2]⟩
  | case3 a as b bs ih =>
    rw [scan_supply] at h
    obtain ⟨h1, h2⟩ := ih _ _ _ h
    refine ⟨fun c => by rw [h1 c, lookup_push], ?_⟩
    rw [h2]
    by_cases hab : a = b
    · subst hab; simp
    · have : ¬ b = a := fun h => hab h.symm
      simp [hab, this]

theorem scan_none (q e : List Name) (i : Nat) (src : Source) (ident : Bool)
    (h : scan (zipLongest q e) i src ident = none) :
    ∃ d ∈ q, d ∉ e ∧ src.lookup (some d) = none := by
  fun_induction zipLongest q e generalizing i src ident with
  | case1 bs => exact absurd h (scan_none_nil bs i src ident)
  | case2 a as ih =>
    rw [scan_demand] at h
    split at h
    · rename_i hc
      exact ⟨a, List.mem_cons_self, List.not_mem_nil, Option.isNone_iff_eq_none.mp hc⟩
    · obtain ⟨d, hd, _, hl⟩ := ih _ _ _ h
      rw [lookup_cons_none] at hl
      exact ⟨d, List.mem_cons_of_mem _ hd, List.not_mem_nil, hl⟩
  | case3 a as b bs ih =>
    rw [scan_supply] at h
    obtain ⟨d, hd, hne, hl⟩ := ih _ _ _ h
    rw [lookup_cons_some] at hl
    split at hl
    · cases hl
    · rename_i hdb
      exact ⟨d, List.mem_cons_of_mem _ hd, by simp [hdb, hne], hl⟩

theorem collect_eq (src : Source) (q : List Name) : collect src q = mapOpt (fun c => src.lookup (some c)) q := by
  induction q with
  | nil => rfl
  | cons c cs ih =>
    simp only [collect, mapOpt, ih]
    cases List.lookup (some c) src <;> cases mapOpt _ cs <;> rfl

theorem collect_isSome (src : Source) (q : List Name)
    (h : ∀ c ∈ q, (src.lookup (some c)).isSome) : (collect src q).isSome := by
  cases hc : collect src q with
  | some idx => rfl
  | none =>
    obtain ⟨c, hq, hn⟩ := (mapOpt_none q).mp (collect_eq src q ▸ hc)
    have := h c hq
    rw [hn] at this; cases this

theorem matchEntry_cases (q e : List Name) :
    (matchEntry q e = (false, none) ∧ ∃ c ∈ q, c ∉ e) ∨
    (matchEntry q e = (true, none) ∧ q = e) ∨
    (∃ idx, matchEntry q e = (true, some idx) ∧ q ≠ e ∧ idx.length = q.length ∧
      ∀ (j k : Nat), idx[j]? = some k → ∃ c, q[j]? = some c ∧ lastIdx c e 0 = some k) := by
  cases hs : scan (zipLongest q e) 0 [] true with
  | none =>
    obtain ⟨d, hd, hne, _⟩ := scan_none q e 0 [] true hs
    exact Or.inl ⟨by simp only [matchEntry, hs], d, hd, hne⟩
  | some p =>
    obtain ⟨src, ident⟩ := p
    obtain ⟨h1, h2⟩ := scan_some q e 0 [] true src ident hs
    have hsrc : ∀ c, src.lookup (some c) = lastIdx c e 0 := by
      intro c; rw [h1 c]; cases lastIdx c e 0 <;> rfl
    rw [Bool.true_and] at h2; subst h2
    by_cases hqe : q = e
    · exact Or.inr (Or.inl ⟨by unfold matchEntry; rw [hs]; exact if_pos (decide_eq_true hqe), hqe⟩)
    · have hne : ¬ decide (q = e) = true := fun h => hqe (of_decide_eq_true h)
      cases hc : collect src q with
      | none =>
        obtain ⟨c, hc1, hc2⟩ := (mapOpt_none q).mp (collect_eq src q ▸ hc)
        rw [hsrc c] at hc2
        exact Or.inl ⟨by simp only [matchEntry, hs, if_neg hne, hc], c, hc1, (lastIdx_none c e 0).mp hc2⟩
      | some idx =>
        obtain ⟨h3, h4⟩ := mapOpt_some q idx (collect_eq src q ▸ hc)
        refine Or.inr (Or.inr ⟨idx, by simp only [matchEntry, hs, if_neg hne, hc], hqe, h3, fun j k hj => ?_⟩)
        rw [h4 j] at hj
        cases hq : q[j]? with
        | none => rw [hq] at hj; cases hj
        | some c => rw [hq] at hj; exact ⟨c, rfl, hsrc c ▸ hj⟩

end ForML.Entry
