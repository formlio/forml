/-
C06 — reader level, lazy (file / inline backed) feeds: the process-global backend holds copies of the storage's tables.
As long as the storage does not change and a statement uses a column of each of its tables (so that every table gets
registered), evaluating the emitted SQL over the backend is evaluating it over the storage (`exec_lazy`, invariant
`LazyOk`).
-/
import ForML.Lemmas.C06Denote
import ForML.Lemmas.C06Render
import ForML.Model.FeedCache
import ForML.Lemmas.ListFacts

namespace ForML.C06
open ForML.Dsl ForML.Rel ForML.Parser ForML.Denote
open ForML.FeedCache (Feed State FeedKind storageOf registerTables usedTables tablesOf)

/-- the physical tables a selectable reads -/
def sqlTables : SqlSel → List String
  | .table n => [n]
  | .alias i _ => sqlTables i
  | .join l r _ _ _ => sqlTables l ++ sqlTables r
  | .select _ frm _ _ _ _ _ _ => sqlTables frm
  | .compound _ l r => sqlTables l ++ sqlTables r

theorem eval_agree (db db' : Db) : ∀ (q : SqlSel), (∀ n ∈ sqlTables q, db.lookup n = db'.lookup n) →
    evalFrom q db = evalFrom q db' ∧ evalOut q db = evalOut q db' := by
  intro q
  induction q with
  | table n =>
    intro h
    have := h n (by simp [sqlTables])
    simp [evalFrom, evalOut, this]
  | «alias» i name ih =>
    intro h
    have hi := ih (by simpa [sqlTables] using h)
    refine ⟨?_, by simp [evalOut]⟩
    cases i with
    | table n =>
      have := h n (by simp [sqlTables])
      simp [evalFrom, this]
    | «alias» a b => simp [evalFrom, hi.2]
    | join a b c d e => simp [evalFrom, hi.2]
    | select a b c d e f g i => simp [evalFrom, hi.2]
    | compound a b c => simp [evalFrom, hi.2]
  | join l r on full isouter ihl ihr =>
    intro h
    have hl := ihl (fun n hn => h n (by simp [sqlTables, hn]))
    have hr := ihr (fun n hn => h n (by simp [sqlTables, hn]))
    simp [evalFrom, evalOut, hl.1, hr.1]
  | select items frm whr grp hav ord lim off ih =>
    intro h
    have hf := ih (by simpa [sqlTables] using h)
    simp [evalFrom, evalOut, hf.1]
  | compound o l r ihl ihr =>
    intro h
    have hl := ihl (fun n hn => h n (by simp [sqlTables, hn]))
    have hr := ihr (fun n hn => h n (by simp [sqlTables, hn]))
    simp [evalFrom, evalOut, hl.2, hr.2]

/-- every physical table the translation reads is the provisioned name of a table of the statement -/
theorem compile_tables (srcs : Sources) : ∀ (s : Source) (q : SqlSel), compile srcs s = some q →
    ∀ n ∈ sqlTables q, ∃ t ∈ tablesOf s, srcs.lookup t = some n
  | .table nm fields, q, h, n, hn => by
    simp only [compile, Option.map_eq_some_iff] at h
    obtain ⟨pn, hpn, rfl⟩ := h
    simp only [sqlTables, List.mem_singleton] at hn
    subst hn
    exact ⟨.table nm fields, by simp [tablesOf], hpn⟩
  | .ref inst name, q, h, n, hn => by
    simp only [compile, Option.map_eq_some_iff] at h
    obtain ⟨qi, hqi, rfl⟩ := h
    obtain ⟨t, ht, hl⟩ := compile_tables srcs inst qi hqi n (by simpa [sqlTables] using hn)
    exact ⟨t, by simpa [tablesOf] using ht, hl⟩
  | .join l r k c, q, h, n, hn => by
    simp only [compile_join, Option.bind_eq_some_iff, Option.some.injEq] at h
    obtain ⟨L, hL, R, hR, on, _, o, _, rfl⟩ := h
    have hn' : n ∈ sqlTables L ∨ n ∈ sqlTables R := by
      cases hsw : o.2.2 <;> simp only [hsw, Bool.false_eq_true, if_false, if_true, sqlTables, List.mem_append] at hn
      · exact hn
      · exact hn.symm
    rcases hn' with hm | hm
    · obtain ⟨t, ht, hl⟩ := compile_tables srcs l L hL n hm
      exact ⟨t, by simp [tablesOf, ht], hl⟩
    · obtain ⟨t, ht, hl⟩ := compile_tables srcs r R hR n hm
      exact ⟨t, by simp [tablesOf, ht], hl⟩
  | .set l r k, q, h, n, hn => by
    simp only [compile, Option.pure_def, Option.bind_eq_bind, Option.bind_eq_some_iff, Option.some.injEq] at h
    obtain ⟨L, hL, R, hR, o, _, rfl⟩ := h
    simp only [sqlTables, List.mem_append] at hn
    rcases hn with hm | hm
    · obtain ⟨t, ht, hl⟩ := compile_tables srcs l L hL n hm
      exact ⟨t, by simp [tablesOf, ht], hl⟩
    · obtain ⟨t, ht, hl⟩ := compile_tables srcs r R hR n hm
      exact ⟨t, by simp [tablesOf, ht], hl⟩
  | .query src sel pre grp post ord rows, q, h, n, hn => by
    obtain ⟨items, frm, whr, g, hav, o, hF, rfl⟩ := compile_query_select srcs src sel pre grp post ord rows q h
    obtain ⟨t, ht, hl⟩ := compile_tables srcs src frm hF n (by simpa [sqlTables] using hn)
    exact ⟨t, by simpa [tablesOf] using ht, hl⟩

/-- the backend holds copies of tables of the storage `db` -/
def BackendOk (db : Db) (backend : Db) : Prop := ∀ key c, backend.lookup key = some c → db.lookup key = some c

theorem lookup_register (key key' : String) (c : PhysTable) (l : Db) :
    ((key, c) :: l.filter (·.1 != key)).lookup key' = if key' = key then some c else l.lookup key' := by
  by_cases h : key' = key
  · subst h; simp [List.lookup]
  · have h1 : (key' == key) = false := by simpa using h
    simp [List.lookup, h1, h, lookup_filter_key (· != key)]

/-- one iteration of the registration loop of `lazy.Feed.Reader.__call__`: the body of `FeedCache.registerTables`'s
recursion (`registerTables_cons`) -/
def registerOne (st : State) (f : Feed) (t : Source) : State :=
  if st.partitions.contains (f.classOf t, t) then st else
    match f.srcs.lookup t with
    | none => st
    | some key =>
      match (storageOf st f).lookup key with
      | none => st
      | some content =>
        { st with backend := (key, content) :: st.backend.filter (·.1 != key),
                  partitions := (f.classOf t, t) :: st.partitions }

theorem registerTables_cons (st : State) (f : Feed) (t : Source) (ts : List Source) :
    registerTables st f (t :: ts) = registerTables (registerOne st f t) f ts := rfl

/-- the origins recorded in `PARTITIONS` are in the backend -/
def PartsOk (f : Feed) (st : State) : Prop :=
  ∀ p ∈ st.partitions, ∀ key, f.srcs.lookup p.2 = some key → (st.backend.lookup key).isSome = true

/-- `st'` comes from `st` by registrations: storage and caches untouched, nothing leaves the backend -/
structure Registers (st st' : State) : Prop where
  storages : st'.storages = st.storages
  mem : st'.mem = st.mem
  disk : st'.disk = st.disk
  parsed : st'.parsed = st.parsed
  mono : ∀ key, (st.backend.lookup key).isSome = true → (st'.backend.lookup key).isSome = true

theorem Registers.refl (st : State) : Registers st st := ⟨rfl, rfl, rfl, rfl, fun _ h => h⟩

theorem Registers.trans {a b c : State} (h1 : Registers a b) (h2 : Registers b c) : Registers a c :=
  ⟨h2.storages.trans h1.storages, h2.mem.trans h1.mem, h2.disk.trans h1.disk, h2.parsed.trans h1.parsed,
   fun key h => h2.mono key (h1.mono key h)⟩

theorem registerOne_spec (f : Feed) (st : State) (t : Source) (hb : BackendOk (storageOf st f) st.backend)
    (hp : PartsOk f st) :
    Registers st (registerOne st f t) ∧ BackendOk (storageOf st f) (registerOne st f t).backend ∧
      PartsOk f (registerOne st f t) ∧
      (∀ key, f.srcs.lookup t = some key → ((storageOf st f).lookup key).isSome = true →
        ((registerOne st f t).backend.lookup key).isSome = true) := by
  unfold registerOne
  by_cases hpt : st.partitions.contains (f.classOf t, t) = true
  · simp only [hpt, if_true]
    exact ⟨Registers.refl st, hb, hp, fun key hk _ => hp (f.classOf t, t) (by simpa using hpt) key hk⟩
  · have hpt' : st.partitions.contains (f.classOf t, t) = false := by simpa using hpt
    simp only [hpt', Bool.false_eq_true, if_false]
    cases hk : f.srcs.lookup t with
    | none => exact ⟨Registers.refl st, hb, hp, fun key hk' _ => by cases hk'⟩
    | some key0 =>
      simp only []
      cases hc : (storageOf st f).lookup key0 with
      | none =>
        simp only []
        refine ⟨Registers.refl st, hb, hp, ?_⟩
        intro key hk' hs
        injection hk' with hk'
        subst hk'
        simp [hc] at hs
      | some content =>
        simp only []
        refine ⟨⟨rfl, rfl, rfl, rfl, ?_⟩, ?_, ?_, ?_⟩
        · intro key hs
          simp only [lookup_register]
          by_cases he : key = key0
          · simp [he]
          · simpa [he] using hs
        · intro key c hl
          simp only [lookup_register] at hl
          by_cases he : key = key0
          · subst he; simp at hl; subst hl; exact hc
          · simp only [he, if_false] at hl; exact hb key c hl
        · intro t' ht' key hk'
          simp only [lookup_register]
          by_cases he : key = key0
          · simp [he]
          · simp only [he, if_false]
            rcases List.mem_cons.mp ht' with rfl | ht'
            · rw [hk] at hk'; injection hk' with hk'; exact absurd hk'.symm he
            · exact hp t' ht' key hk'
        · intro key hk' _
          injection hk' with hk'
          subst hk'
          simp

/-- after the loop: storage and caches untouched, the backend is a copy of tables of the storage, and every listed
table that is provisioned and present in the storage is in the backend -/
theorem registerTables_spec (f : Feed) : ∀ (ts : List Source) (st : State),
    BackendOk (storageOf st f) st.backend → PartsOk f st →
      Registers st (registerTables st f ts) ∧ BackendOk (storageOf st f) (registerTables st f ts).backend ∧
      PartsOk f (registerTables st f ts) ∧
      (∀ t ∈ ts, ∀ key, f.srcs.lookup t = some key → ((storageOf st f).lookup key).isSome = true →
        ((registerTables st f ts).backend.lookup key).isSome = true)
  | [], st, hb, hp => ⟨Registers.refl st, hb, hp, by intro t ht; cases ht⟩
  | t :: ts, st, hb, hp => by
    rw [registerTables_cons]
    obtain ⟨r1, b1, p1, h1⟩ := registerOne_spec f st t hb hp
    have hso : storageOf (registerOne st f t) f = storageOf st f := by simp [storageOf, r1.storages]
    obtain ⟨r2, b2, p2, h2⟩ := registerTables_spec f ts (registerOne st f t) (by rw [hso]; exact b1) p1
    refine ⟨r1.trans r2, by rw [← hso]; exact b2, p2, ?_⟩
    intro t' ht' key hk hs
    rcases List.mem_cons.mp ht' with rfl | ht'
    · exact r2.mono key (h1 key hk hs)
    · exact h2 t' ht' key hk (by rw [hso]; exact hs)

open ForML.FeedCache (keyOf)

/-- the statement uses a column of each of its tables (so `lazy._Columns.extract` lists every table: outside is the
known finding C06-F5), every table is provisioned and its file / frame exists in the storage -/
def lazyCovered (srcs : Sources) (db : Db) (s : Source) : Bool :=
  (tablesOf s).all (fun t => (usedTables s).contains t &&
    match srcs.lookup t with
    | some key => (db.lookup key).isSome
    | none => false)

/-- state invariant of a process whose lazy feeds all read the storage `k` of `dbs` with the sources `srcs` -/
structure LazyOk (srcs : Sources) (k : Nat) (dbs : List Db) (st : State) : Prop where
  stor : st.storages = dbs
  mem : ∀ q v, st.mem.lookup (keyOf q) = some v → evalSql q (dbs.getD k []) = some v
  disk : ∀ q v, st.disk.lookup (keyOf q) = some v → evalSql q (dbs.getD k []) = some v
  back : BackendOk (dbs.getD k []) st.backend
  parts : ∀ p ∈ st.partitions, ∀ key, srcs.lookup p.2 = some key → (st.backend.lookup key).isSome = true
  parsed : ∀ i s q, st.parsed.lookup (i, s) = some q → parse srcs s = .ok q

theorem exec_lazy (srcs : Sources) (k : Nat) (dbs : List Db) (st : State) (hst : LazyOk srcs k dbs st) (f : Feed)
    (hk : f.kind = .lazy) (hsr : f.srcs = srcs) (hs : f.storage = k) (s : Source) (q : SqlSel)
    (hq : compile srcs s = some q) (hcov : lazyCovered srcs (dbs.getD k []) s = true) :
    (FeedCache.exec st f s q).2 = evalSql q (dbs.getD k []) ∧ LazyOk srcs k dbs (FeedCache.exec st f s q).1 := by
  have hsto : storageOf st f = dbs.getD k [] := by simp [storageOf, hst.stor, hs]
  unfold FeedCache.exec
  simp only [hk, decide_true, Bool.true_and]
  by_cases hc : FeedCache.cached st q = true
  · -- the result is known: no registration
    simp only [hc, Bool.not_true, Bool.false_eq_true, if_false]
    cases hm : st.mem.lookup (keyOf q) with
    | some v => exact ⟨(hst.mem q v hm).symm, hst⟩
    | none =>
      cases hd : st.disk.lookup (keyOf q) with
      | some v =>
        refine ⟨(hst.disk q v hd).symm, ⟨hst.stor, ?_, hst.disk, hst.back, hst.parts, hst.parsed⟩⟩
        exact cache_cons_sound _ q v _ hst.mem (hst.disk q v hd)
      | none => simp [FeedCache.cached, hm, hd] at hc
  · have hc' : FeedCache.cached st q = false := by simpa using hc
    simp only [hc', Bool.not_false, if_true]
    have hb0 : BackendOk (storageOf st f) st.backend := by rw [hsto]; exact hst.back
    have hp0 : PartsOk f st := by intro t ht key hkk; exact hst.parts t ht key (by rw [← hsr]; exact hkk)
    obtain ⟨reg, hb1, hp1, hhas⟩ := registerTables_spec f (usedTables s) st hb0 hp0
    rw [hsto] at hb1 hhas
    -- the caches are as before: both miss
    simp only [FeedCache.cached, Bool.or_eq_false_iff, Option.isSome_eq_false_iff, Option.isNone_iff_eq_none] at hc'
    simp only [reg.mem, reg.disk, hc'.1, hc'.2]
    -- over the backend = over the storage
    have hagree : evalSql q (registerTables st f (usedTables s)).backend = evalSql q (dbs.getD k []) := by
      refine (eval_agree _ _ q ?_).2
      intro n hn
      obtain ⟨t, ht, hl⟩ := compile_tables srcs s q hq n hn
      have hcv := List.all_eq_true.mp hcov t ht
      simp only [hl, Bool.and_eq_true] at hcv
      have hin : ((registerTables st f (usedTables s)).backend.lookup n).isSome = true :=
        hhas t (by simpa using hcv.1) n (by rw [hsr]; exact hl) hcv.2
      obtain ⟨c, hcq⟩ := Option.isSome_iff_exists.mp hin
      rw [hcq, hb1 n c hcq]
    rw [hagree]
    have hst1 : LazyOk srcs k dbs (registerTables st f (usedTables s)) :=
      ⟨by rw [reg.storages, hst.stor], by rw [reg.mem]; exact hst.mem, by rw [reg.disk]; exact hst.disk, hb1,
        fun t ht key hkk => hp1 t ht key (by rw [hsr]; exact hkk), by rw [reg.parsed]; exact hst.parsed⟩
    cases he : evalSql q (dbs.getD k []) with
    | none => exact ⟨rfl, hst1⟩
    | some v =>
      exact ⟨rfl, ⟨hst1.stor, cache_cons_sound _ q v _ hst.mem he, cache_cons_sound _ q v _ hst.disk he, hst1.back,
        hst1.parts, hst1.parsed⟩⟩

end ForML.C06
