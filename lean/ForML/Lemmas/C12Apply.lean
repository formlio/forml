/-
C12 — the lower bound for the apply-mode clause: `hzip_sup`, the converse direction of `hzip_row` (ForML/Lemmas/C12.lean), and
the rows of a stateful actor applied to one input (`rows_applied_stateful`).
-/
import ForML.Lemmas.C12

namespace ForML.CrossVal

theorem hzip_sup {sn : List Atom} {ds : List Data} {r : Row} (h : r ∈ hzip sn ds) {m : Nat}
    (hm : ∀ e ∈ ds, e.length = m) :
    (∀ z ∈ sn, z ∈ r.deps) ∧ ∀ e ∈ ds, ∃ q ∈ e, ∀ x ∈ q.deps, x ∈ r.deps := by
  cases ds with
  | nil => cases h
  | cons d ds =>
    obtain ⟨i, q, hq, _, hiff⟩ := hzip_row h
    refine ⟨fun z hz => (hiff z).mpr (.inr hz), fun e he => ?_⟩
    have hlt : i < e.length := by
      rw [hm e he, ← hm d List.mem_cons_self]
      exact (List.getElem?_eq_some_iff.mp hq).1
    refine ⟨e[i], List.getElem_mem hlt, fun x hx => (hiff x).mpr (.inl ?_)⟩
    rcases List.mem_cons.mp he with rfl | he
    · exact .inl (Option.some.inj (hq.symm.trans (List.getElem?_eq_getElem hlt)) ▸ hx)
    · exact .inr ⟨e, he, _, List.getElem?_eq_getElem hlt, hx⟩

theorem rows_applied_stateful (E : Env) (a : Actor) (st x : Val) :
    rows E (applied a st x) = (rows E x).map fun r => { r with deps := union r.deps (seen E st) } := by
  rw [applied, rows_apply]
  rfl

end ForML.CrossVal
