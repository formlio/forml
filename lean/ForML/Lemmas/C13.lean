/-
Dict algebra of `pget/pset/pupdate/pfilter`, signature binding, what the class constructors and
`set_params` / `set_state` store (over ForML.Model.Actor), and the invariant `WrappedInv` of the reachable
class-wrapped actors.
-/
import ForML.Model.Actor
import ForML.Lemmas.ListFacts

namespace ForML.Actor

variable {σ : Type}

/-- a dict is an association list and `d.get` its `List.lookup` -/
theorem pget_eq_lookup (m : PMap) (k : Key) : pget m k = m.lookup k := by
  induction m with
  | nil => rfl
  | cons kv r ih =>
    obtain ⟨k', v⟩ := kv
    by_cases h : k' = k
    · simp [pget, h]
    · simp [pget, h, List.lookup_cons, beq_false_of_ne (Ne.symm h), ih]

/-- `d[k] = v` -/
theorem pset_isSet : IsSet (fun k v (m : PMap) => pset m k v) := ⟨fun _ _ => rfl, fun _ _ _ _ _ => rfl⟩

theorem pget_pset (m : PMap) (k : Key) (v : Int) (k' : Key) :
    pget (pset m k v) k' = if k = k' then some v else pget m k' := by
  rw [pget_eq_lookup, pget_eq_lookup, pset_isSet.lookup_comm k k' v m]

theorem pget_pupdate (m u : PMap) (k : Key) :
    pget (pupdate m u) k = por (pget u k) (pget m k) := by
  induction u with
  | nil => simp [pupdate, pget, por]
  | cons kv r ih =>
    obtain ⟨k0, v0⟩ := kv
    simp only [pupdate, pget_pset, pget]
    by_cases h : k0 = k
    · simp [h, por]
    · simp [h, ih]

theorem pget_pfilter (p : Key → Bool) (m : PMap) (k : Key) :
    pget (pfilter p m) k = if p k then pget m k else none := by
  rw [pget_eq_lookup, pget_eq_lookup, pfilter, lookup_filter_key]

theorem por_some {a b : Option Int} {v : Int} (h : a = some v) : por a b = some v := by
  subst h; rfl

theorem por_self (a : Option Int) : por a a = a := by cases a <;> rfl

theorem por_por_self (a b : Option Int) : por a (por a b) = por a b := by cases a <;> rfl

theorem por_cover (a b : Option Int) (h : b.isSome = true → a.isSome = true) : por a b = a := by
  cases a with
  | some v => rfl
  | none => cases b with
    | none => rfl
    | some w => simp at h

theorem por_assoc (a b c : Option Int) : por (por a b) c = por a (por b c) := by
  cases a <;> rfl

theorem por_none_right (a : Option Int) : por a none = a := by cases a <;> rfl

theorem all_keys_iff (P : Key → Bool) (m : PMap) :
    m.all (fun kv => P kv.1) = true ↔ ∀ k, (pget m k).isSome = true → P k = true := by
  simp only [List.all_eq_true, pget_eq_lookup, List.lookup_isSome_iff]
  exact ⟨fun h k ⟨p, hp, e⟩ => eq_of_beq e ▸ h p hp, fun h p hp => h p.1 ⟨p, hp, beq_self_eq_true _⟩⟩

theorem all_keys_congr (P : Key → Bool) (m1 m2 : PMap) (h : ∀ k, pget m1 k = pget m2 k) :
    m1.all (fun kv => P kv.1) = m2.all (fun kv => P kv.1) :=
  Bool.eq_iff_iff.2 (by rw [all_keys_iff, all_keys_iff]; simp only [h])

theorem accepts_congr (s : Sig) (m1 m2 : PMap) (h : ∀ k, pget m1 k = pget m2 k) :
    accepts s m1 = accepts s m2 := by
  unfold accepts
  rw [all_keys_congr (fun k => s.names.contains k) m1 m2 h]

theorem all_keys_pupdate (P : Key → Bool) (m u : PMap)
    (hm : m.all (fun kv => P kv.1) = true) (hu : u.all (fun kv => P kv.1) = true) :
    (pupdate m u).all (fun kv => P kv.1) = true := by
  rw [all_keys_iff] at *
  intro k hk
  rw [pget_pupdate] at hk
  cases h : pget u k with
  | some v => exact hu k (by simp [h])
  | none => rw [h] at hk; exact hm k (by simpa [por] using hk)

theorem accepts_pupdate (s : Sig) (m u : PMap) (hm : accepts s m = true) (hu : accepts s u = true) :
    accepts s (pupdate m u) = true := by
  unfold accepts at *
  cases hv : s.varkw with
  | true => rfl
  | false =>
    rw [hv] at hm hu
    exact all_keys_pupdate (fun k => s.names.contains k) m u hm hu

theorem accepts_pfilter (s : Sig) (p : Key → Bool) (m : PMap) (h : accepts s m = true) :
    accepts s (pfilter p m) = true := by
  unfold accepts at *
  cases hv : s.varkw
  · simp only [hv, Bool.false_or] at h ⊢
    rw [all_keys_iff (fun k => s.names.contains k)] at h ⊢
    intro k hk
    rw [pget_pfilter] at hk
    by_cases hp : p k
    · simp only [hp, if_true] at hk; exact h k hk
    · simp [hp] at hk
  · simp

theorem zipPos_eq_zip (ks : List Key) (vs : List Int) : zipPos ks vs = ks.zip vs := by
  induction ks generalizing vs with
  | nil => cases vs <;> rfl
  | cons k ks ih => cases vs <;> simp [zipPos, ih]

theorem accepts_zipPos (s : Sig) (vs : List Int) : accepts s (zipPos s.pos vs) = true := by
  unfold accepts
  cases s.varkw
  · simp only [Bool.false_or, zipPos_eq_zip, List.all_eq_true]
    rintro ⟨k, v⟩ hkv
    simp [Sig.names, (List.of_mem_zip hkv).1]
  · simp

theorem accepts_defaults (s : Sig) (hwf : s.wf = true) : accepts s s.defaults = true := by
  unfold accepts; unfold Sig.wf at hwf; rw [hwf]; simp

theorem bind_ok {s : Sig} {args : List Int} {kw b : PMap} (h : bind s args kw = .ok b) :
    accepts s kw = true ∧ b = pupdate (zipPos s.pos (args.drop s.anon)) kw := by
  unfold bind at h
  cases hp : bindPartial s args kw with
  | error e => simp [hp] at h
  | ok b' =>
    simp only [hp] at h
    split at h
    · cases h
      unfold bindPartial at hp
      split at hp
      · cases hp
      · simp only at hp
        split at hp
        · cases hp
        · split at hp
          · cases hp
          · rename_i _ _ hacc
            cases hp
            exact ⟨by simpa using hacc, rfl⟩
    · cases h

theorem bind_accepts (s : Sig) (args : List Int) (kw b : PMap) (h : bind s args kw = .ok b) :
    accepts s b = true := by
  obtain ⟨hacc, rfl⟩ := bind_ok h
  exact accepts_pupdate s _ _ (accepts_zipPos s _) hacc

theorem ctorStore_accepts (s : Sig) (hwf : s.wf = true) (args : List Int) (kw : PMap) (o : Obj σ)
    (h : ctorStore s args kw = .ok o) : accepts s o.params = true := by
  unfold ctorStore at h
  cases hb : bind s args kw with
  | error e => simp [hb] at h
  | ok b =>
    simp only [hb] at h
    cases h
    exact accepts_pupdate s _ _ (accepts_defaults s hwf) (bind_accepts s args kw b hb)

theorem ctorStore_state {s : Sig} {args : List Int} {kw : PMap} {o : Obj σ} (h : ctorStore s args kw = .ok o) :
    o.state = none := by
  unfold ctorStore at h
  split at h <;> cases h
  rfl

theorem ctorStore_lookup (s : Sig) (args : List Int) (kw : PMap) (o : Obj σ) (h : ctorStore s args kw = .ok o) (k : Key) :
    pget o.params k = por (pget kw k) (pget (pupdate s.defaults (zipPos s.pos (args.drop s.anon))) k) := by
  unfold ctorStore at h
  cases hb : bind s args kw with
  | error e => simp [hb] at h
  | ok b =>
    simp only [hb] at h
    cases h
    rw [(bind_ok hb).2]
    simp only [pget_pupdate, por_assoc]

theorem classApply_untrained (u : User σ) {o : Obj σ} (h : o.state = none) (x : Int) :
    classApply u true o x = .error .runtimeError := by
  unfold classApply
  rw [h]
  rfl

theorem settable_accepts (s : Sig) (m : PMap) (h : settable s m = true) : accepts s m = true := by
  unfold settable at h; simp only [Bool.and_eq_true] at h; exact h.1

theorem settable_hidden (s : Sig) (m : PMap) (h : settable s m = true) (k : Key) (hk : s.visible k = false) :
    pget m k = none := by
  unfold settable at h
  simp only [Bool.and_eq_true] at h
  have := (all_keys_iff (fun k => s.visible k) m).1 h.2 k
  cases hg : pget m k with
  | none => rfl
  | some v => simp [hg, hk] at this

theorem settable_congr (s : Sig) (m1 m2 : PMap) (h : ∀ k, pget m1 k = pget m2 k) :
    settable s m1 = settable s m2 := by
  unfold settable
  rw [accepts_congr s m1 m2 h, all_keys_congr (fun k => s.visible k) m1 m2 h]

theorem settable_pupdate (s : Sig) (m u : PMap) (hm : settable s m = true) (hu : settable s u = true) :
    settable s (pupdate m u) = true := by
  unfold settable at *
  simp only [Bool.and_eq_true] at *
  exact ⟨accepts_pupdate s m u hm.1 hu.1, all_keys_pupdate (fun k => s.visible k) m u hm.2 hu.2⟩

/-- what `get_params` reports can always be given back to `set_params` -/
theorem settable_reported (s : Sig) (o : Obj σ) (h : accepts s o.params = true) :
    settable s (reported s o) = true := by
  unfold settable reported
  simp only [Bool.and_eq_true]
  refine ⟨accepts_pfilter s _ _ h, ?_⟩
  rw [all_keys_iff (fun k => s.visible k)]
  intro k hk
  rw [pget_pfilter] at hk
  by_cases hp : s.visible k
  · exact hp
  · simp [hp] at hk

theorem pget_reported (s : Sig) (o : Obj σ) (k : Key) :
    pget (reported s o) k = if s.visible k then pget o.params k else none := pget_pfilter _ _ _

/-- `set_params(**o.get_params())` gives `o`'s content back: what pickling a class-wrapped actor relies on -/
theorem pget_pupdate_reported (s : Sig) (o : Obj σ) (base : PMap)
    (hhid : ∀ k, s.visible k = false → pget base k = pget o.params k)
    (hcov : ∀ k, s.visible k = true → (pget base k).isSome = true → (pget o.params k).isSome = true) (k : Key) :
    pget (pupdate base (reported s o)) k = pget o.params k := by
  simp only [pget_pupdate, pget_reported]
  cases hv : s.visible k
  · exact hhid k hv
  · exact por_cover _ _ (hcov k hv)

theorem accepts_reported (s : Sig) (o : Obj σ) (h : accepts s o.params = true) :
    accepts s (reported s o) = true := settable_accepts s _ (settable_reported s o h)

theorem storeParams_ok {s : Sig} {o o' : Obj σ} {kw : PMap} (h : storeParams s o kw = .ok o') :
    settable s kw = true ∧ o' = { o with params := pupdate o.params kw } := by
  unfold storeParams at h
  split at h
  · cases h; exact ⟨‹_›, rfl⟩
  · cases h

theorem storeParams_accepts {s : Sig} {o o' : Obj σ} {kw : PMap} (hacc : accepts s o.params = true)
    (h : storeParams s o kw = .ok o') : accepts s o'.params = true := by
  obtain ⟨hset, rfl⟩ := storeParams_ok h
  exact accepts_pupdate s _ _ hacc (settable_accepts s kw hset)

theorem storeParams_reported (s : Sig) (X r0 : Obj σ) (hacc : accepts s r0.params = true) :
    storeParams s X (reported s r0) = .ok { X with params := pupdate X.params (reported s r0) } :=
  if_pos (settable_reported s r0 hacc)

theorem dictSetState_whole (s : Sig) (r0 : Obj σ) (tp : PMap) (ts : Option σ) (hacc : accepts s r0.params = true) :
    dictSetState s true r0 (some (.whole tp ts))
      = .ok { r0 with params := pupdate tp (reported s r0), state := ts } :=
  storeParams_reported s _ r0 hacc

theorem wrappedBuild_ok (s : Sig) (args : List Int) (kw : PMap) (o : Obj σ) (h : wrappedBuild s args kw = .ok o) :
    ∃ o1 : Obj σ, ctorStore s args kw = .ok o1 ∧ o = { o1 with ctor := (args, kw) } := by
  unfold wrappedBuild at h
  cases hc : (ctorStore s args kw : Except Err (Obj σ)) with
  | error e => simp [hc] at h
  | ok o1 => simp only [hc] at h; cases h; exact ⟨o1, rfl, rfl⟩

theorem wrappedBuild_of (s : Sig) (args : List Int) (kw : PMap) (o1 : Obj σ) (h : ctorStore s args kw = .ok o1) :
    wrappedBuild s args kw = .ok { o1 with ctor := (args, kw) } := by
  simp [wrappedBuild, h]

theorem wrappedBuild_accepts (s : Sig) (hwf : s.wf = true) (args : List Int) (kw : PMap) (o : Obj σ)
    (h : wrappedBuild s args kw = .ok o) : accepts s o.params = true := by
  obtain ⟨o1, h1, rfl⟩ := wrappedBuild_ok s args kw o h
  exact ctorStore_accepts s hwf args kw o1 h1

/-- what the reachable wrapped objects satisfy (see `C13_wrapped_invariant`): the remembered
constructor arguments construct; every attribute is a constructor name; the hyper-parameters the
constructor stored are still there; without a training implementation there is no state and the
attributes that are not hyper-parameters are still the constructor's. -/
def WrappedInv (s : Sig) (tm : TrainMap) (o : Obj σ) : Prop :=
  ∃ o0 : Obj σ, ctorStore s o.ctor.1 o.ctor.2 = .ok o0 ∧
    accepts s o.params = true ∧
    (∀ k, s.visible k = true → (pget o0.params k).isSome = true → (pget o.params k).isSome = true) ∧
    (tm.stateful = false → o.state = none ∧ ∀ k, s.visible k = false → pget o.params k = pget o0.params k)

theorem WrappedInv.accepts {s : Sig} {tm : TrainMap} {o : Obj σ} (h : WrappedInv s tm o) : accepts s o.params = true :=
  h.elim fun _ h => h.2.1

theorem wrappedInv_setState (s : Sig) (tm : TrainMap) {o o' : Obj σ} {b : Blob σ} (hi : WrappedInv s tm o)
    (hb : ∀ p st, b = some (.whole p st) → accepts s p = true) (h : dictSetState s tm.stateful o b = .ok o') :
    WrappedInv s tm o' := by
  cases b with
  | none => cases h; exact hi
  | some pl =>
    cases hs : tm.stateful with
    | false => rw [hs] at h; cases h
    | true =>
      rw [hs] at h
      cases pl with
      | value v => cases h
      | whole p st =>
        obtain ⟨o0, h0, hacc, hcov, _⟩ := hi
        rw [dictSetState_whole s o p st hacc] at h
        cases h
        refine ⟨o0, h0, accepts_pupdate s _ _ (hb p st rfl) (accepts_reported s o hacc), fun k hv hk => ?_,
          fun hs' => by rw [hs] at hs'; cases hs'⟩
        obtain ⟨v, hv'⟩ := Option.isSome_iff_exists.1 (hcov k hv hk)
        simp only [pget_pupdate, pget_reported, hv, if_true, por_some hv', Option.isSome_some]

end ForML.Actor
