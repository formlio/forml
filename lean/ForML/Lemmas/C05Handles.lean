/-
Several writers (C05): one registry call of a handle (`Act`) on a good tree — every tree it can leave (at its end, where
it raises, where the process dies, where a transient I/O fault makes it raise) is good, keeps what the reader rested on
and shows the previous view or the complete new item.  `dump` and `commit` are separate history steps here, so a commit
moves whatever is staged under the given ids at that moment (not necessarily written by the same step).
-/
import ForML.Lemmas.C05SF
import ForML.Lemmas.C05Steps
import ForML.Model.RegistryHandles

namespace ForML.Registry
open ForML.Fs

/-- the invariant of reachable trees when dumps and commits of several writers interleave -/
structure Good2 (fs : Fs) : Prop where
  good : Good fs
  sf : StateFiles fs

theorem empty_good2 : Good2 Fs.empty := ⟨empty_good, empty_stateFiles⟩

theorem closeAt_eq (impl : Impl) (p v ord : Nat) (sids : List Nat) :
    closeAt impl p v ord sids = closeCall impl p v ord sids := rfl

theorem close_sources (kf : Bool) (fs x : Fs) (p v g : Nat) (t : Tag)
    (hr : run fs (closeOps ⟨true, kf⟩ fs p v g t) = some x) :
    ∀ s ∈ t.sids, get fs (stagedStateP p v s) ≠ none := by
  intro s hs habs
  rw [closeOps_staged, List.append_assoc, List.append_assoc] at hr
  obtain ⟨f1, h1, hr⟩ := run_append_some.mp hr
  obtain ⟨f2, h2, _⟩ := run_append_some.mp hr
  -- `mkdir -p` of the generation directory does not stage anything, so the move of `s` fails
  have habs1 : get f1 (stagedStateP p v s) = none := by
    rw [← habs]
    refine run_frame _ _ _ _ h1 fun op hop hk => ?_
    have := (mkdirP_foot hop hk).prefix.length_le
    simp [stagedStateP, generationP] at this
  rw [renames_absent_fail p v g s t.sids f1 habs1 hs] at h2
  cases h2

theorem write_left (fs x : Fs) (g2 : Good2 fs) (p v sid : Nat) (b : Bytes) (hl : relListed fs p v = true)
    (hx : CrashTree fs [fun f => writeOps f p v sid b] x) :
    Good2 x ∧ ViewEq x fs ∧ ∀ key, ¬ (stageP p v <+: key) → get x key = get fs key := by
  obtain ⟨hp, hv⟩ := relListed_dirs fs p v hl
  have sfx := hx.stateFiles g2.sf (List.forall_mem_singleton.mpr fun f => writeOps_opSF f p v sid b)
  -- a lone `write` is the dumps of a training with one state
  have hd := writes_foot p v fs [(sid, b)] fs x (EqOff.refl _ _) hx
  exact ⟨⟨(dumped_quiet g2.good (hx.wf g2.good.wf) hd).1, sfx⟩, (dumped_quiet g2.good (hx.wf g2.good.wf) hd).2,
    StageEq.of_dump hp hv hd⟩

theorem close_full (kf : Bool) (fs x : Fs) (sf : StateFiles fs) (p v ord : Nat) (sids : List Nat)
    (h : FullTree fs [closeAt ⟨true, kf⟩ p v ord sids] x) :
    get x (generationP p v (nextGen fs p v)) = some .dir
    ∧ get x (tagP p v (nextGen fs p v)) = some (.file (encodeTag ⟨ord, sids⟩))
    ∧ sids.Nodup
    ∧ (∀ s ∈ sids, ∃ b, get fs (stagedStateP p v s) = some (.file b)
        ∧ get x (stateP p v (nextGen fs p v) s) = some (.file b)) := by
  cases h with
  | call _ _ _ fs' _ hr hrest =>
    cases hrest
    simp only [closeAt, atomsAll_closeOps] at hr
    obtain ⟨c1, c2, c3, c4⟩ := close_content kf fs x p v _ _ hr
    refine ⟨c1, c2, c3, fun s hs => ?_⟩
    cases hg : get fs (stagedStateP p v s) with
    | none => exact absurd hg (close_sources kf fs x p v _ _ hr s hs)
    | some n =>
      obtain ⟨b, rfl⟩ := sf _ n hg (by simp [endsState, stagedStateP])
      exact ⟨b, rfl, by rw [c4 s hs, hg]⟩

/-- a lone `close` is a training with no dump left to do: `train_foot` with the empty list of writes -/
theorem close_left (kf : Bool) (fs x : Fs) (g2 : Good2 fs) (p v ord : Nat) (sids : List Nat)
    (hx : CrashTree fs [closeAt ⟨true, kf⟩ p v ord sids] x) :
    Good2 x ∧ EqOff (trainFoot fs p v (nextGen fs p v)) x fs
      ∧ (ViewEq x fs ∨ FullTree fs [closeAt ⟨true, kf⟩ p v ord sids] x) := by
  have wx := hx.wf g2.good.wf
  have sfx := hx.stateFiles g2.sf (List.forall_mem_singleton.mpr fun f => closeOps_opSF _ f p v _ _)
  obtain ⟨h, ht | hfull⟩ := train_foot kf fs p v ord sids (nextGen_untagged g2.good.wf p v) [] x hx
  · exact ⟨⟨(trained_quiet g2.good wx h ht).1, sfx⟩, h, Or.inl (trained_quiet g2.good wx h ht).2⟩
  · have hfull' : FullTree fs [closeAt ⟨true, kf⟩ p v ord sids] x := hfull
    obtain ⟨_, c2, _, c4⟩ := close_full kf fs x g2.sf p v ord sids hfull'
    exact ⟨⟨(trained_full g2.good wx h c2 fun s hs => (c4 s hs).imp fun b hb => hb.2).1, sfx⟩, h, Or.inr hfull'⟩

/-- the registry calls a handle operation can amount to: a write / close addresses a listed release -/
def ActOk (fs : Fs) : Act → Prop
  | .write p v _ _ => relListed fs p v = true
  | .close p v _ _ => relListed fs p v = true
  | _ => True

/-- the trees an act can leave: where it ends (or raises), or where the process dies -/
def LeftByAct (fs : Fs) (a : Act) (x : Fs) : Prop :=
  x = (runAct Impl.repaired fs a).fs
    ∨ ∃ k cut, x = (runSome fs (crashOps (atomsAll (runAct Impl.repaired fs a).calls.flatten) k cut)).1

theorem leftByAct_idle (fs x : Fs) (hx : LeftByAct fs .idle x) : x = fs := by
  rcases hx with rfl | ⟨k, cut, rfl⟩
  · rfl
  · simp [runAct, atomsAll, crashOps, runSome]

theorem runAct_publish (impl : Impl) (fs : Fs) (dp name v : Nat) (pkg : Pkg) :
    runAct impl fs (.publish dp name v pkg) = exec impl fs (.publish dp name v pkg) := rfl

theorem leftBy_of_publish {fs x : Fs} {dp name v : Nat} {pkg : Pkg} (hx : LeftByAct fs (.publish dp name v pkg) x) :
    LeftBy fs (.publish dp name v pkg) x := by
  simp only [LeftByAct, runAct_publish] at hx
  exact hx

theorem leftByAct_publish (fs x : Fs) (dp name v : Nat) (pkg : Pkg) (hx : LeftByAct fs (.publish dp name v pkg) x) :
    x = fs ∨ CrashTree fs [fun f => pushOps Impl.repaired f name v pkg] x := by
  cases hg : publishGuard Impl.repaired fs dp name v with
  | some e => exact Or.inl (leftBy_refused (e := e) (leftBy_of_publish hx) (by simp [exec, hg]))
  | none => exact Or.inr (leftBy_tree (leftBy_of_publish hx) (exec_publish pkg hg))

theorem act_left (fs : Fs) (g2 : Good2 fs) (a : Act) (ok : ActOk fs a) (x : Fs) (hx : LeftByAct fs a x) :
    Good2 x ∧ Keeps fs x
      ∧ (ViewEq x fs ∨ ((runAct Impl.repaired fs a).err = none ∧ x = (runAct Impl.repaired fs a).fs)) := by
  cases a with
  | idle =>
    cases leftByAct_idle fs x hx
    exact ⟨g2, Keeps.refl _, Or.inl (ViewEq.refl _)⟩
  | publish dp name v pkg =>
    obtain ⟨gx, hview⟩ := step_left fs g2.good _ x (leftBy_of_publish hx)
    refine ⟨⟨gx, ?_⟩, hview⟩
    rcases leftByAct_publish fs x dp name v pkg hx with rfl | htree
    · exact g2.sf
    · exact htree.stateFiles g2.sf (List.forall_mem_singleton.mpr fun f => pushOps_opSF _ f name v pkg)
  | write p v sid b =>
    have htree := runCalls_left_tree fs [fun f => writeOps f p v sid b] x hx
    obtain ⟨gx, hv, _⟩ := write_left fs x g2 p v sid b ok htree
    exact ⟨gx, trained_keeps g2.good ((writes_foot p v fs [(sid, b)] fs x (EqOff.refl _ _) htree).mono fun _ => Or.inl),
      Or.inl hv⟩
  | close p v ord sids =>
    obtain ⟨gx, h, hv⟩ := close_left true fs x g2 p v ord sids
      (runCalls_left_tree fs [closeAt Impl.repaired p v ord sids] x hx)
    exact ⟨gx, trained_keeps g2.good h, hv.imp_right fun hfull => ⟨hfull.runCalls.1, hfull.runCalls.2.symm⟩⟩

theorem close_ok (fs : Fs) (g2 : Good2 fs) (p v ord : Nat) (sids : List Nat) (hl : relListed fs p v = true)
    (h : (runAct Impl.repaired fs (.close p v ord sids)).err = none) :
    let x := (runAct Impl.repaired fs (.close p v ord sids)).fs
    genListed x p v (nextGen fs p v) = true
    ∧ tagOf x p v (nextGen fs p v) = some ⟨ord, sids⟩
    ∧ sids.Nodup
    ∧ (∀ s ∈ sids, ∃ b, get fs (stagedStateP p v s) = some (.file b)
        ∧ vis x (stateP p v (nextGen fs p v) s) = some (.file b))
    ∧ (∀ key, ¬ (generationP p v (nextGen fs p v) <+: key) → vis x key = vis fs key) := by
  intro x
  have hfull : FullTree fs [closeAt Impl.repaired p v ord sids] x := runCalls_full _ fs h
  obtain ⟨c2, c3, c4, c5⟩ := close_full true fs x g2.sf p v ord sids hfull
  obtain ⟨_, hfoot, _⟩ := close_left true fs x g2 p v ord sids hfull.crashTree
  have hgl := trained_genListed hl (nextGen_pos fs p v) hfoot c2 c3
  have htag := tagOf_encoded c3
  refine ⟨hgl, htag, c4, ?_, (trained_full g2.good (hfull.crashTree.wf g2.good.wf) hfoot c3
    fun s hs => (c5 s hs).imp fun b hb => hb.2).2⟩
  intro s hs
  obtain ⟨b, hb, hx⟩ := c5 s hs
  exact ⟨b, hb, (vis_state hgl htag hs).trans hx⟩

theorem write_ok (fs : Fs) (p v sid : Nat) (b : Bytes)
    (h : (runAct Impl.repaired fs (.write p v sid b)).err = none) :
    let x := (runAct Impl.repaired fs (.write p v sid b)).fs
    get x (stagedStateP p v sid) = some (.file b)
    ∧ ∀ s, s ≠ sid → get x (stagedStateP p v s) = get fs (stagedStateP p v s) := by
  intro x
  have hfull : FullTree fs [fun f => writeOps f p v sid b] x := runCalls_full _ fs h
  cases hfull with
  | call _ _ _ fs' _ hr hrest =>
    cases hrest
    simp only [atomsAll_writeOps] at hr
    exact write_content fs x p v sid b hr

/-- the tree an act leaves when a transient I/O fault hits its `j`-th atomic micro-operation (it raises) -/
def faultTree (fs : Fs) (a : Act) (j : Nat) : Fs :=
  (runSome fs (faultAtoms (atomsAll (runAct Impl.repaired fs a).calls.flatten) j)).1

/-- the trees an act can leave: at its end, where the process dies, or where a transient fault makes it raise -/
def LeftByActF (fs : Fs) (a : Act) (x : Fs) : Prop := LeftByAct fs a x ∨ ∃ j, x = faultTree fs a j

/-- outside `copytree` (every act but a publish) a fault is a crash at that point seen by a process that lives on -/
theorem faultTree_crash (fs : Fs) (a : Act) (j : Nat) (hne : ∀ dp name v pkg, a ≠ .publish dp name v pkg) :
    faultTree fs a j = (runSome fs (crashOps (atomsAll (runAct Impl.repaired fs a).calls.flatten) j none)).1 := by
  simp only [faultTree, crashOps_none]
  congr 2
  apply faultAtoms_take
  intro op hop
  cases a with
  | idle => simp [runAct, atomsAll] at hop
  | publish dp name v pkg => exact absurd rfl (hne dp name v pkg)
  | write p v sid b =>
    obtain ⟨c, hc, f, hf⟩ := runCalls_atoms_mem _ fs op hop
    simp only [List.mem_cons, List.not_mem_nil, or_false] at hc; subst hc
    exact writeOps_noMember f p v sid b op (by rwa [atomsAll_writeOps] at hf)
  | close p v ord sids =>
    obtain ⟨c, hc, f, hf⟩ := runCalls_atoms_mem _ fs op hop
    simp only [List.mem_cons, List.not_mem_nil, or_false] at hc; subst hc
    exact closeOps_noMember _ f p v _ _ op (by rwa [closeAt, atomsAll_closeOps] at hf)

theorem leftByActF_cases {fs : Fs} {a : Act} {x : Fs} (hx : LeftByActF fs a x) :
    LeftByAct fs a x
      ∨ ∃ dp name v pkg j, a = .publish dp name v pkg ∧ x = faultIn Impl.repaired fs (.publish dp name v pkg) j := by
  rcases hx with hx | ⟨j, rfl⟩
  · exact Or.inl hx
  · by_cases hp : ∃ dp name v pkg, a = .publish dp name v pkg
    · obtain ⟨dp, name, v, pkg, rfl⟩ := hp
      exact Or.inr ⟨dp, name, v, pkg, j, rfl, rfl⟩
    · rw [faultTree_crash fs a j fun dp name v pkg e => hp ⟨dp, name, v, pkg, e⟩]
      exact Or.inl (Or.inr ⟨j, none, rfl⟩)

theorem act_left_F (fs : Fs) (g2 : Good2 fs) (a : Act) (ok : ActOk fs a) (x : Fs) (hx : LeftByActF fs a x) :
    Good2 x ∧ Keeps fs x
      ∧ (ViewEq x fs ∨ ((runAct Impl.repaired fs a).err = none ∧ x = (runAct Impl.repaired fs a).fs)) := by
  rcases leftByActF_cases hx with hx | ⟨dp, name, v, pkg, j, rfl, rfl⟩
  · exact act_left fs g2 a ok x hx
  · have hfl := fault_left fs g2.good (.publish dp name v pkg) j
    rw [runAct_publish]
    refine ⟨⟨hfl.1, ?_⟩, hfl.2⟩
    apply runSome_stateFiles _ fs g2.sf
    intro op hop
    have hmem := faultAtoms_mem _ j op hop
    cases hg : publishGuard Impl.repaired fs dp name v with
    | some e => simp [exec, hg, atomsAll] at hmem
    | none =>
      simp only [exec, hg] at hmem
      obtain ⟨c, hc, f, hf⟩ := runCalls_atoms_mem _ fs op hmem
      simp only [List.mem_cons, List.not_mem_nil, or_false] at hc; subst hc
      exact atomsAll_opSF _ (pushOps_opSF _ f name v pkg) op hf

end ForML.Registry
