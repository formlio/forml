/-
`Expression._build` (model `buildLoop`). Every built node stands for a symbol of the table, keeps
the arguments the state presets leave, its raw term applied to the denotations of those is the symbol's instruction
applied to the denotations of all its arguments (presets and condensed loaders included), and its arguments were built
before it. On a valid apply-mode table whose instructions are listed arguments first the loop succeeds.
-/
import ForML.Lemmas.C02PyOrder
import ForML.Model.TableWF

namespace ForML.Flow.PyFunc
open ForML.Flow

abbrev Built := List (Key × Raw × List Key)

/-- `D` gives every loader symbol the state the asset accessor loads for it -/
def LoadersOK (A : Option Assets) (t : Table) (D : Key → Val) : Prop :=
  ∀ a A' g s, t.find a = some s → s.instr = .loader g → A = some A' → D a = A'.load g

/-- the arguments a node keeps after the state presets took theirs -/
def nodeArgs (s : Symbol) : List Key :=
  match s.instr with
  | .functor _ _ ps => s.args.drop ps.length
  | .getter _ => s.args
  | _ => []

theorem nodeArgs_subset {s : Symbol} {a : Key} (ha : a ∈ nodeArgs s) : a ∈ s.args := by
  unfold nodeArgs at ha
  split at ha
  · exact List.mem_of_mem_drop ha
  · exact ha
  · cases ha

/-- the built node `n` is a faithful reduction of its symbol (`extra` = the external input, which the head receives) -/
def NodeOK (A : Option Assets) (t : Table) (n : Key × Raw × List Key) : Prop :=
  ∃ s, t.find n.1 = some s ∧ n.2.2 = nodeArgs s ∧
    ∀ D, LoadersOK A t D → ∀ extra, exec A s.instr (s.args.map D ++ extra) = n.2.1.call (n.2.2.map D ++ extra)

/-- arguments are built before their consumers (`seen` = keys built before the list) -/
def ArgsEarlier : List Key → Built → Prop
  | _, [] => True
  | seen, n :: rest => (∀ a ∈ n.2.2, a ∈ seen) ∧ ArgsEarlier (seen ++ [n.1]) rest

theorem argsEarlier_append (n : Key × Raw × List Key) :
    ∀ (seen : List Key) (built : Built), ArgsEarlier seen built →
      (∀ a ∈ n.2.2, a ∈ seen ++ built.map (·.1)) → ArgsEarlier seen (built ++ [n])
  | seen, [], _, h => by simpa [ArgsEarlier] using h
  | seen, m :: rest, hb, h => by
    simp only [ArgsEarlier, List.cons_append] at hb ⊢
    refine ⟨hb.1, argsEarlier_append n _ rest hb.2 ?_⟩
    intro a ha
    have := h a ha
    simp only [List.map_cons, List.mem_append, List.mem_cons] at this ⊢
    rcases this with h1 | h1 | h1
    · exact Or.inl (Or.inl h1)
    · exact Or.inl (Or.inr (Or.inl h1))
    · exact Or.inr h1

/-- the value an evaluated argument stands for -/
def rho (D : Key → Val) : Evaluated → Val
  | .value v => v
  | .instr k => D k

theorem evaluate_spec {A : Option Assets} {t : Table} {D : Key → Val} (hl : LoadersOK A t D) {a : Key}
    {e : Evaluated} (h : evaluate A t a = .ok e) : rho D e = D a := by
  unfold evaluate at h
  split at h
  · rename_i k g as hf
    split at h
    · cases h
    · rename_i A'
      split at h
      · cases h
      · cases h
        simp only [rho]
        exact (hl a A' g _ hf rfl rfl).symm
  · cases h; rfl

theorem evaluateAll_eq (A : Option Assets) (t : Table) (as : List Key) :
    evaluateAll A t as = as.mapM (evaluate A t) := by
  induction as with
  | nil => rfl
  | cons a r ih =>
    rw [evaluateAll, List.mapM_cons, ih]; cases evaluate A t a <;> cases r.mapM (evaluate A t) <;> rfl

/-- `evaluateAll` returns exactly when every `evaluate` does, and then the results in order -/
theorem evaluateAll_ok_iff {A : Option Assets} {t : Table} {as : List Key} {evs : List Evaluated} :
    evaluateAll A t as = .ok evs ↔ as.map (evaluate A t) = evs.map .ok := by
  rw [evaluateAll_eq, mapM_eq_ok_iff_map]

theorem evaluate_instr {A : Option Assets} {t : Table} {a k : Key} (h : evaluate A t a = .ok (.instr k)) : k = a := by
  unfold evaluate at h
  split at h
  · split at h
    · cases h
    · split at h <;> cases h
  · cases h; rfl

theorem evaluateAll_spec {A : Option Assets} {t : Table} {D : Key → Val} (hl : LoadersOK A t D) {as : List Key}
    {evs : List Evaluated} (h : evaluateAll A t as = .ok evs) : evs.map (rho D) = as.map D :=
  (map_transfer (fun _ _ e => (evaluate_spec hl e).symm) (evaluateAll_ok_iff.1 h)).symm

theorem evaluateAll_instr {A : Option Assets} {t : Table} {as : List Key} {evs : List Evaluated}
    (h : evaluateAll A t as = .ok evs) (n : Nat) {args : List Key} (hd : evs.drop n = args.map .instr) :
    as.drop n = args := by
  have := congrArg (List.drop n) (evaluateAll_ok_iff.1 h)
  rw [← List.map_drop, ← List.map_drop, hd, List.map_map] at this
  simpa using map_transfer (p := id) (q := id) (fun _ _ e => (evaluate_instr e).symm) this

theorem reduce_spec (D : Key → Val) :
    ∀ {ps : List Preset} {st : Val} {evs : List Evaluated} {st' : Val} {rem : List Evaluated},
      reduce ps st evs = .ok (st', rem) → rem = evs.drop ps.length ∧
      ∀ extra, reducePresets ps st (evs.map (rho D) ++ extra) = some (st', rem.map (rho D) ++ extra)
  | [], st, evs, st', rem, h => by
    simp only [reduce] at h; cases h; exact ⟨rfl, fun _ => rfl⟩
  | .setState :: ps, st, [], st', rem, h => by simp [reduce] at h
  | .setState :: ps, st, .value v :: evs, st', rem, h => by
    simp only [reduce] at h
    simp only [List.map_cons, List.cons_append, rho, reducePresets, List.length_cons, List.drop_succ_cons]
    exact reduce_spec D h
  | .setState :: ps, st, .instr k :: evs, st', rem, h => by simp [reduce] at h

theorem resolve_spec {built : Built} {e : Evaluated} {k : Key} (h : resolve built e = .ok k) :
    e = .instr k ∧ k ∈ built.map (·.1) := by
  cases e with
  | value v => cases h
  | instr k' =>
    simp only [resolve] at h
    split at h
    · rename_i hany
      cases h
      simp only [List.any_eq_true, decide_eq_true_eq] at hany
      obtain ⟨n, hn, rfl⟩ := hany
      exact ⟨rfl, List.mem_map_of_mem hn⟩
    · cases h

theorem resolveAll_eq (built : Built) (rem : List Evaluated) : resolveAll built rem = rem.mapM (resolve built) := by
  induction rem with
  | nil => rfl
  | cons e r ih =>
    rw [resolveAll, List.mapM_cons, ih]; cases resolve built e <;> cases r.mapM (resolve built) <;> rfl

theorem resolveAll_ok_iff {built : Built} {rem : List Evaluated} {args : List Key} :
    resolveAll built rem = .ok args ↔ rem.map (resolve built) = args.map .ok := by
  rw [resolveAll_eq, mapM_eq_ok_iff_map]

theorem resolveAll_spec {built : Built} {rem : List Evaluated} {args : List Key} (h : resolveAll built rem = .ok args) :
    rem = args.map .instr ∧ ∀ a ∈ args, a ∈ built.map (·.1) := by
  have hm := resolveAll_ok_iff.1 h
  refine ⟨by simpa using map_transfer (p := id) (fun _ _ e => (resolve_spec e).1) hm, fun a ha => ?_⟩
  have : Except.ok a ∈ rem.map (resolve built) := hm ▸ List.mem_map_of_mem ha
  obtain ⟨e, _, he⟩ := List.mem_map.1 this
  exact (resolve_spec he).2

theorem getter_call (A : Option Assets) (i : Nat) : ∀ l, exec A (.getter i) l = (Raw.get i).call l
  | [] => rfl
  | [_] => rfl
  | _ :: _ :: _ => rfl

theorem task_call (a : Actor) (st : Val) : ∀ (act : Action) (rest : List Val),
    (match act with
      | .apply => Val.apply a st rest
      | .train => match rest with
        | [x, y] => Val.state a st x y
        | _ => Val.error .arity) = (Raw.task a st act).call rest
  | .apply, _ => rfl
  | .train, [] => rfl
  | .train, [_] => rfl
  | .train, [_, _] => rfl
  | .train, _ :: _ :: _ :: _ => rfl

theorem buildLoop_cons {A : Option Assets} {t : Table} {k : Key} {rest : List Key} {built res : Built}
    (h : buildLoop A t (k :: rest) built = .ok res) :
    (t.isNode k = false ∧ buildLoop A t rest built = .ok res) ∨
    (t.isNode k = true ∧ ∃ n, n.1 = k ∧ NodeOK A t n ∧ (∀ a ∈ n.2.2, a ∈ built.map (·.1)) ∧
      buildLoop A t rest (built ++ [n]) = .ok res) := by
  simp only [buildLoop] at h
  split at h
  · cases h
  · rename_i s hfind
    split at h
    · cases h
    · cases h
    · rename_i g hinstr
      split at h
      · exact Or.inl ⟨by simp [Table.isNode, hfind, hinstr], h⟩
      · cases h
    · rename_i i hinstr
      split at h
      · cases h
      · rename_i args hargs
        obtain ⟨hrem, hin⟩ := resolveAll_spec hargs
        have hargs' : args = s.args := ((List.map_inj_right fun _ _ e => Evaluated.instr.inj e).1 hrem).symm
        refine Or.inr ⟨by simp [Table.isNode, hfind, hinstr], _, rfl, ⟨s, hfind, ?_, fun D _ extra => ?_⟩, hin, h⟩
        · simp [nodeArgs, hinstr, hargs']
        · simp only [hinstr, hargs']
          exact getter_call A i _
    · rename_i a action presets hinstr
      split at h
      · cases h
      · rename_i evs hevs
        split at h
        · cases h
        · rename_i st remaining hred
          split at h
          · cases h
          · rename_i args hargs
            obtain ⟨hrem, hin⟩ := resolveAll_spec hargs
            refine Or.inr ⟨by simp [Table.isNode, hfind, hinstr], _, rfl, ⟨s, hfind, ?_, fun D hl extra => ?_⟩, hin, h⟩
            · simp only [nodeArgs, hinstr]
              exact (evaluateAll_instr hevs _ ((reduce_spec (fun _ => .none) hred).1 ▸ hrem)).symm
            · simp only [hinstr, exec, execFunctor]
              rw [← evaluateAll_spec hl hevs, (reduce_spec D hred).2 extra, hrem, List.map_map]
              exact task_call a st action _

theorem buildLoop_spec {A : Option Assets} {t : Table} :
    ∀ (ks : List Key) (built res : Built), buildLoop A t ks built = .ok res →
      (∀ n ∈ built, NodeOK A t n) → ArgsEarlier [] built →
      (∀ n ∈ res, NodeOK A t n) ∧ ArgsEarlier [] res ∧
        res.map (·.1) = built.map (·.1) ++ ks.filter t.isNode := by
  intro ks
  induction ks with
  | nil => intro built res h hb he; simp only [buildLoop] at h; cases h; exact ⟨hb, he, by simp⟩
  | cons k rest ih =>
    intro built res h hb he
    rcases buildLoop_cons h with ⟨hk, h'⟩ | ⟨hk, n, hn, hok, hin, h'⟩
    · have := ih built res h' hb he
      exact ⟨this.1, this.2.1, by rw [this.2.2, List.filter_cons_of_neg (by rw [hk]; exact Bool.false_ne_true)]⟩
    · have := ih _ res h'
        (fun m hm => by
          rcases List.mem_append.1 hm with h1 | h1
          · exact hb m h1
          · rw [List.mem_singleton.1 h1]; exact hok)
        (argsEarlier_append _ _ _ he hin)
      exact ⟨this.1, this.2.1, by
        rw [this.2.2, List.filter_cons_of_pos hk, List.map_append, List.append_assoc, ← hn]; rfl⟩

theorem pyShape_spec {t : Table} (h : t.pyShape = true) :
    (∀ s ∈ t, ∀ g, s.instr = .loader g → s.args = []) ∧ ∀ k ∈ t.sinks, t.isNode k = true := by
  simp only [Table.pyShape, Bool.and_eq_true, List.all_eq_true] at h
  refine ⟨fun s hs g hi => ?_, h.2⟩
  have := h.1 s hs
  simpa [hi] using this

/-- Prop form of `Table.applyMode` -/
structure AM (A : Option Assets) (t : Table) : Prop where
  shape : t.pyShape = true
  syms : ∀ s ∈ t, match s.instr with
    | .functor _ act ps => act = .apply ∧ ps.length ≤ s.args.length ∧
        (∀ a ∈ s.args.take ps.length, t.isLoader A a = true) ∧ (∀ a ∈ s.args.drop ps.length, t.isNode a = true)
    | .getter _ => s.args.length = 1 ∧ ∀ a ∈ s.args, t.isNode a = true
    | .loader _ => t.isLoader A s.id = true
    | _ => False
  oneSink : t.sinks.length = 1
  oneHead : t.heads.length = 1

theorem applyMode_spec {A : Option Assets} {t : Table} (h : t.applyMode A = true) : AM A t := by
  simp only [Table.applyMode, Bool.and_eq_true, List.all_eq_true, beq_iff_eq] at h
  obtain ⟨⟨⟨h1, h2⟩, h3⟩, h4⟩ := h
  refine ⟨h1, ?_, h3, h4⟩
  intro s hs
  have := h2 s hs
  cases hi : s.instr with
  | functor a act ps =>
    simp only [hi, Bool.and_eq_true, beq_iff_eq, decide_eq_true_eq, List.all_eq_true] at this ⊢
    exact ⟨this.1.1.1, this.1.1.2, this.1.2, this.2⟩
  | getter i =>
    simp only [hi, Bool.and_eq_true, beq_iff_eq, List.all_eq_true] at this ⊢
    exact this
  | loader g => simp only [hi] at this ⊢; exact this
  | dumper => simp [hi] at this
  | committer => simp [hi] at this

theorem evaluate_loader {A : Option Assets} {t : Table} {a : Key} (h : t.isLoader A a = true) :
    ∃ v, evaluate A t a = .ok (.value v) := by
  unfold Table.isLoader at h
  unfold evaluate
  cases hf : t.find a with
  | none => simp [hf] at h
  | some s =>
    obtain ⟨k, ins, as⟩ := s
    cases ins with
    | loader g =>
      cases A with
      | none => simp [hf] at h
      | some A' =>
        simp only [hf] at h ⊢
        have : (A'.offset g).isSome := h
        cases ho : A'.offset g with
        | none => simp [ho] at this
        | some i => exact ⟨_, rfl⟩
    | functor _ _ _ => simp [hf] at h
    | getter _ => simp [hf] at h
    | dumper => simp [hf] at h
    | committer => simp [hf] at h

theorem evaluate_node {A : Option Assets} {t : Table} {a : Key} (h : t.isNode a = true) :
    evaluate A t a = .ok (.instr a) := by
  unfold Table.isNode at h
  unfold evaluate
  cases hf : t.find a with
  | none => simp [hf] at h
  | some s =>
    obtain ⟨k, ins, as⟩ := s
    cases ins with
    | loader g => simp [hf] at h
    | functor _ _ _ => rfl
    | getter _ => rfl
    | dumper => simp [hf] at h
    | committer => simp [hf] at h

theorem evaluateAll_loaders {A : Option Assets} {t : Table} : ∀ (as : List Key), (∀ a ∈ as, t.isLoader A a = true) →
    ∃ vs : List Val, as.map (evaluate A t) = (vs.map .value).map .ok ∧ vs.length = as.length
  | [], _ => ⟨[], rfl, rfl⟩
  | a :: as, h => by
    obtain ⟨v, hv⟩ := evaluate_loader (h a (List.mem_cons_self ..))
    obtain ⟨vs, hvs, hl⟩ := evaluateAll_loaders as (fun b hb => h b (List.mem_cons_of_mem _ hb))
    exact ⟨v :: vs, by simp [hv, hvs], by simp [hl]⟩

theorem evaluateAll_nodes {A : Option Assets} {t : Table} (as : List Key) (h : ∀ a ∈ as, t.isNode a = true) :
    as.map (evaluate A t) = (as.map .instr).map .ok := by
  rw [List.map_map]
  exact List.map_congr_left fun a ha => evaluate_node (h a ha)

theorem reduce_values : ∀ (ps : List Preset) (st : Val) (vs : List Val) (rest : List Evaluated),
    vs.length = ps.length → ∃ st', reduce ps st (vs.map .value ++ rest) = .ok (st', rest)
  | [], st, [], rest, _ => ⟨st, rfl⟩
  | [], _, _ :: _, _, h => by simp at h
  | .setState :: ps, _, [], _, h => by simp at h
  | .setState :: ps, st, v :: vs, rest, h => by
    simp only [List.map_cons, List.cons_append, reduce]
    exact reduce_values ps _ vs rest (by simpa using h)

theorem resolveAll_ok {built : Built} (as : List Key) (h : ∀ a ∈ as, a ∈ built.map (·.1)) :
    resolveAll built (as.map .instr) = .ok as := by
  rw [resolveAll_ok_iff, List.map_map]
  refine List.map_congr_left fun a ha => ?_
  obtain ⟨n, hn, hna⟩ := List.mem_map.1 (h a ha)
  have hany : built.any (fun n => decide (n.1 = a)) = true := List.any_eq_true.2 ⟨n, hn, by simpa using hna⟩
  simp [resolve, hany]

/-- `seen` = the instructions the loop has passed (loaders too); those of them that are nodes are in `built`, which is
where `resolve` looks for an argument -/
theorem buildLoop_ok {A : Option Assets} {t : Table} (ham : AM A t) :
    ∀ (ks seen : List Key) (built : Built), (∀ k ∈ ks, (t.find k).isSome) →
      (∀ k ∈ ks, ∀ a ∈ argsOf t k, a ∈ seen ∨ a ∈ ks) → ks.Pairwise (fun k k' => k' ∉ argsOf t k) →
      (∀ k ∈ ks, k ∉ argsOf t k) → (∀ a ∈ seen, t.isNode a = true → a ∈ built.map (·.1)) →
      ∃ res, buildLoop A t ks built = .ok res := by
  intro ks
  induction ks with
  | nil => intro seen built _ _ _ _ _; exact ⟨built, rfl⟩
  | cons k rest ih =>
    intro seen built hb hcl hpw hirr hseen
    have hk := hb k (List.mem_cons_self ..)
    cases hfind : t.find k with
    | none => simp [hfind] at hk
    | some s =>
      have hsm := Table.find_some hfind
      have hpw' := List.pairwise_cons.1 hpw
      have hargsseen : ∀ a ∈ s.args, a ∈ seen := by
        intro a ha
        have ha' : a ∈ argsOf t k := mem_argsOf.2 ⟨s, hfind, ha⟩
        rcases hcl k (List.mem_cons_self ..) a ha' with h1 | h1
        · exact h1
        · rcases List.mem_cons.1 h1 with h2 | h2
          · subst h2; exact absurd ha' (hirr a (List.mem_cons_self ..))
          · exact absurd ha' (hpw'.1 a h2)
      -- the loop goes on from any `built'` that keeps what was built and holds `k` if `k` is a node
      have hrest : ∀ (built' : Built), (∀ a ∈ built.map (·.1), a ∈ built'.map (·.1)) →
          (t.isNode k = true → k ∈ built'.map (·.1)) → ∃ res, buildLoop A t rest built' = .ok res := by
        intro built' hsub hself
        refine ih (seen ++ [k]) built' (fun q hq => hb q (List.mem_cons_of_mem _ hq)) ?_ hpw'.2
          (fun q hq => hirr q (List.mem_cons_of_mem _ hq)) ?_
        · intro q hq a ha
          rcases hcl q (List.mem_cons_of_mem _ hq) a ha with h1 | h1
          · exact Or.inl (List.mem_append_left _ h1)
          · rcases List.mem_cons.1 h1 with h2 | h2
            · exact Or.inl (by simp [h2])
            · exact Or.inr h2
        · intro a ha hnode
          rcases List.mem_append.1 ha with h1 | h1
          · exact hsub a (hseen a h1 hnode)
          · cases List.mem_singleton.1 h1; exact hself hnode
      have hsy := ham.syms s hsm.1
      simp only [buildLoop, hfind]
      cases hi : s.instr with
      | dumper => simp [hi] at hsy
      | committer => simp [hi] at hsy
      | loader g =>
        simp only
        simp only [(pyShape_spec ham.shape).1 s hsm.1 g hi, List.isEmpty_nil, if_true]
        exact hrest built (fun _ h => h) fun hnode => by simp [Table.isNode, hfind, hi] at hnode
      | getter i =>
        simp only [hi] at hsy
        simp only
        simp only [resolveAll_ok (built := built) s.args (fun a ha => hseen a (hargsseen a ha) (hsy.2 a ha))]
        exact hrest _ (fun a h => by simp [h]) fun _ => by simp
      | functor a act ps =>
        simp only [hi] at hsy
        simp only
        obtain ⟨hact, hlen, hload, hnodes⟩ := hsy
        obtain ⟨vs, hvs, hvl⟩ := evaluateAll_loaders (A := A) (t := t) (s.args.take ps.length) hload
        have hev : evaluateAll A t s.args = .ok (vs.map .value ++ (s.args.drop ps.length).map .instr) := by
          rw [evaluateAll_ok_iff, List.map_append, ← hvs, ← evaluateAll_nodes _ hnodes, ← List.map_append,
            List.take_append_drop]
        simp only [hev]
        obtain ⟨st', hred⟩ := reduce_values ps .none vs ((s.args.drop ps.length).map .instr)
          (by rw [hvl, List.length_take]; omega)
        simp only [hred]
        simp only [resolveAll_ok (built := built) (s.args.drop ps.length)
          (fun b hb => hseen b (hargsseen b (List.mem_of_mem_drop hb)) (hnodes b hb))]
        exact hrest _ (fun a h => by simp [h]) fun _ => by simp

end ForML.Flow.PyFunc
