/-
`Expression.__init__` as a whole (model `expression`). When it returns is characterised once (`expression_eq_ok`);
soundness of a constructed expression and construction on a valid apply-mode table put the same pieces together.
-/
import ForML.Lemmas.C02PyAssemble

namespace ForML.Flow.PyFunc
open ForML.Flow

/-- the anonymous function that the model's `build` maps over the result of `buildLoop` -/
def mkNode (built : Built) (n : Key × Raw × List Key) : Node := ⟨n.1, n.2.1, countUses built n.1, n.2.2⟩

theorem earlier_of_built (built : Built) (seen : List Key) (bs : Built) (h : ArgsEarlier seen bs) :
    Earlier seen (bs.map (mkNode built)) := by
  simpa [Earlier, mkNode, Function.comp_def] using h

theorem mkNode_keys (built bs : Built) : (bs.map (mkNode built)).map (·.key) = bs.map (·.1) := by
  simp [mkNode, Function.comp_def]

theorem build_eq_ok {A : Option Assets} {t : Table} {dag : List Node} :
    build A t = .ok dag ↔
      ∃ ks built, order t = .ok ks ∧ buildLoop A t ks [] = .ok built ∧ dag = built.map (mkNode built) := by
  unfold build
  cases ho : order t with
  | error e => simp
  | ok ks =>
    cases hb : buildLoop A t ks [] with
    | error e => simp [hb]
    | ok built =>
      simp only [hb, Except.ok.injEq]
      exact ⟨fun h => ⟨ks, built, rfl, hb, h.symm⟩, fun ⟨_, _, h1, h2, h3⟩ => by
        subst h1; rw [hb] at h2; cases h2; exact h3.symm⟩

theorem expression_eq_ok {A : Option Assets} {t : Table} {U : Term} :
    expression A t = .ok U ↔ hasDup (t.map (·.id)) = false ∧
      ∃ first rest last p, build A t = .ok (first :: rest) ∧ (first :: rest).getLast? = some last ∧
        last.szout = 0 ∧ first.args = [] ∧ assemble rest (initProviders first rest) = .ok p ∧
        p.get last.key = some [U] ∧ (p.set last.key []).all (fun e => e.2.isEmpty) = true := by
  constructor
  · intro he
    unfold expression at he
    split at he
    · cases he
    · rename_i hdup
      split at he
      · cases he
      · rename_i dag hb
        split at he
        · rename_i first rest last hlast
          split at he
          · cases he
          · rename_i hc
            dsimp only at he
            split at he
            · cases he
            · rename_i p ha
              split at he
              · rename_i term hg
                split at he
                · rename_i hall
                  cases he
                  simp only [Bool.or_eq_true, decide_eq_true_eq, Bool.not_eq_true', not_or, Bool.not_eq_false,
                    List.isEmpty_iff, Decidable.not_not] at hc
                  exact ⟨by simpa using hdup, first, rest, last, p, hb, hlast, hc.1, hc.2, ha, hg, hall⟩
                · cases he
              · cases he
        · cases he
  · rintro ⟨hdup, first, rest, last, p, hb, hlast, hz, hf, ha, hg, hall⟩
    unfold expression
    rw [if_neg (by simp [hdup])]
    simp only [hb]
    rw [hlast]
    simp only
    rw [if_neg (by simp [hz, hf])]
    simp only [initProviders] at ha
    simp only [ha, hg, hall, if_true]

/-- a built node computes the denotation of its instruction from the denotations of the arguments it keeps (and the
input, if it is the head) -/
theorem NodeOK.call_denIn {A : Option Assets} {t : Table} {r : Key → Nat} (hr : Ranked t r) (hs : t.pyShape = true)
    {hd : Key} (hhd : t.isNode hd = true) {n : Key × Raw × List Key} (hn : NodeOK A t n) (x : Val) :
    n.2.1.call (n.2.2.map (denIn A t hd x) ++ if n.1 = hd then [x] else []) = denIn A t hd x n.1 := by
  obtain ⟨s, hf, _, hex⟩ := hn
  rw [denIn_eq A hr hd x hf, hex]
  -- the denotation gives every loader the loaded state: loaders take no arguments and the head is not a loader
  intro a A' g sa hfa hi hA
  have hargs := (pyShape_spec hs).1 sa (Table.find_some hfa).1 g hi
  have hne : a ≠ hd := by
    intro e
    subst e
    simp [Table.isNode, hfa, hi] at hhd
  rw [denIn_eq A hr hd x hfa, hargs, hi, hA]
  simp [hne, exec]

theorem built_last {A : Option Assets} {t : Table} {ks l : List Key} {tail : Key} {built : Built}
    (hl : buildLoop A t ks [] = .ok built) (hks : ks = l ++ [tail]) (htail : t.isNode tail = true)
    {last : Node} (hlast : (built.map (mkNode built)).getLast? = some last) :
    last.key = tail ∧ tail ∈ built.map (·.1) := by
  have hkeys : built.map (·.1) = l.filter t.isNode ++ [tail] := by
    rw [(buildLoop_spec ks [] built hl (by simp) trivial).2.2, hks, List.filter_append]; simp [htail]
  have := congrArg (Option.map (·.key)) hlast
  rw [← List.getLast?_map, mkNode_keys, hkeys] at this
  exact ⟨by simpa using this.symm, by simp [hkeys]⟩

theorem assembled_run {A : Option Assets} {t : Table} {r : Key → Nat} (hr : Ranked t r) (hs : t.pyShape = true)
    {ks : List Key} (hks : ks.Nodup) {b0 : Key × Raw × List Key} {brest : Built}
    (hl : buildLoop A t ks [] = .ok (b0 :: brest)) (hfirst : b0.2.2 = []) {p : Providers}
    (ha : assemble (brest.map (mkNode (b0 :: brest)))
      (initProviders (mkNode (b0 :: brest) b0) (brest.map (mkNode (b0 :: brest)))) = .ok p)
    {k : Key} (hk : k ∈ (b0 :: brest).map (·.1)) {U : Term} (hg : p.get k = some [U]) :
    t.isNode b0.1 = true ∧ ∀ x, U.run x = denIn A t b0.1 x k := by
  obtain ⟨hnodes, hearly, hkeys⟩ := buildLoop_spec ks [] _ hl (by simp) trivial
  simp only [List.map_nil, List.nil_append] at hkeys
  have hbn : ((b0 :: brest).map (·.1)).Nodup := hkeys ▸ hks.sublist (List.filter_sublist ..)
  have hhd : t.isNode b0.1 = true :=
    (List.mem_filter.1 (hkeys ▸ List.mem_cons_self .. : b0.1 ∈ ks.filter t.isNode)).2
  refine ⟨hhd, fun x => ?_⟩
  have hne : ∀ b ∈ brest, b.1 ≠ b0.1 := fun b hb e => by
    have hmem : b.1 ∈ brest.map (·.1) := List.mem_map_of_mem hb
    rw [e] at hmem
    exact (List.nodup_cons.1 hbn).1 hmem
  have hgood := assemble_good (D := fun x => denIn A t b0.1 x) (first := mkNode (b0 :: brest) b0)
    (rest := brest.map (mkNode (b0 :: brest)))
    (by rw [← List.map_cons, mkNode_keys]; exact hbn)
    (earlier_of_built _ _ brest hearly.2)
    (fun x => by simpa [hfirst, mkNode] using (hnodes b0 (List.mem_cons_self ..)).call_denIn hr hs hhd x)
    (fun n hn x => by
      obtain ⟨b, hb, rfl⟩ := List.mem_map.1 hn
      simpa [hne b hb, mkNode] using (hnodes b (List.mem_cons_of_mem _ hb)).call_denIn hr hs hhd x)
    ha k (by rw [← List.map_cons, mkNode_keys]; exact hk) _ hg U (List.mem_singleton.2 rfl) x
  exact (hgood [] (SoundQ.nil _)).1

theorem expression_sound {A : Option Assets} {t : Table} {r : Key → Nat} (hr : Ranked t r)
    (hs : t.pyShape = true) {U : Term} (he : expression A t = .ok U) :
    ∃ hd sink, t.sinks = [sink] ∧ t.isNode hd = true ∧ ∀ x, U.run x = denIn A t hd x sink := by
  obtain ⟨_, first, rest, last, p, hb, hlast, _, hf, ha, hg, _⟩ := expression_eq_ok.1 he
  obtain ⟨ks, built, ho, hl, hdag⟩ := build_eq_ok.1 hb
  obtain ⟨hksn, tail, l, hsinks, hks⟩ := order_spec hr ho
  have htail : t.isNode tail = true := (pyShape_spec hs).2 tail (by rw [hsinks]; simp)
  obtain ⟨hlk, hmem⟩ := built_last hl hks htail (hdag ▸ hlast)
  cases built with
  | nil => cases hdag
  | cons b0 brest =>
    cases hdag
    rw [hlk] at hg
    obtain ⟨hhd, hrun⟩ := assembled_run hr hs hksn hl hf ha hmem hg
    exact ⟨b0.1, tail, hsinks, hhd, hrun⟩

/-- with one sink every instruction is listed by `_order` -/
theorem order_complete {t : Table} {r : Key → Nat} (hr : Ranked t r) {tail : Key} (hs : t.sinks = [tail])
    {ks : List Key} (hok : OrderOK t tail ks) : ∀ s ∈ t, s.id ∈ ks := by
  have key : ∀ (n : Nat) (s : Symbol), s ∈ t → t.length ≤ r s.id + n → s.id ∈ ks := by
    intro n
    induction n with
    | zero => intro s hs' h; have := hr.bound s hs'; omega
    | succ n ih =>
      intro s hs' h
      by_cases hin : s.id ∈ ks
      · exact hin
      · have hne : s.id ≠ tail := fun e => hin (e ▸ hok.hasTail)
        obtain ⟨c, hc, hca⟩ := exists_consumer (List.mem_map_of_mem hs') (by rw [hs]; simpa using hne)
        have hrank := (hr.args c hc s.id hca).2
        have hcin := ih c hc (by omega)
        have hfc := Table.find_of_mem_nodup hr.nodup hc
        exact hok.closed c.id hcin s.id (mem_argsOf.2 ⟨c, hfc, hca⟩)
  intro s hs'
  exact key t.length s hs' (by omega)

theorem countUses_eq (built : Built) (k : Key) : countUses built k = (todoOf (built.map (mkNode built))).count k := by
  simp [countUses, todoOf, List.count_flatMap, mkNode, Function.comp_def]

theorem one_le_countUses {built : Built} {k : Key} : 1 ≤ countUses built k ↔ ∃ m ∈ built, k ∈ m.2.2 := by
  rw [countUses_eq, List.one_le_count_iff]
  simp only [todoOf, List.mem_flatMap, List.mem_map]
  exact ⟨fun ⟨_, ⟨m, hm, e⟩, h⟩ => ⟨m, hm, by subst e; exact h⟩, fun ⟨m, hm, h⟩ => ⟨_, ⟨m, hm, rfl⟩, h⟩⟩

theorem heads_nodup {t : Table} (hn : (t.map (·.id)).Nodup) : t.heads.Nodup := by
  unfold Table.heads
  exact (List.filter_sublist (l := t)).map (·.id) |>.nodup hn

theorem mem_heads {t : Table} {k : Key} : k ∈ t.heads ↔ ∃ s ∈ t, s.id = k ∧
    (match s.instr with | .functor _ _ ps => decide (s.args.length ≤ ps.length) | _ => false) = true := by
  simp only [Table.heads, List.mem_map, List.mem_filter]
  constructor
  · rintro ⟨s, ⟨hs, hp⟩, rfl⟩; exact ⟨s, hs, rfl, hp⟩
  · rintro ⟨s, hs, rfl, hp⟩; exact ⟨s, ⟨hs, hp⟩, rfl⟩

theorem node_consumed {A : Option Assets} {t : Table} (hn : (t.map (·.id)).Nodup) (ham : AM A t) {tail : Key}
    (hs : t.sinks = [tail]) {k : Key} (hk : t.isNode k = true) (hne : k ≠ tail) :
    ∃ c ∈ t, t.isNode c.id = true ∧ k ∈ nodeArgs c := by
  cases hfk : t.find k with
  | none => simp [Table.isNode, hfk] at hk
  | some sk =>
    have hkm := Table.find_some hfk
    obtain ⟨c, hc, hca⟩ := exists_consumer (List.mem_map.2 ⟨sk, hkm.1, hkm.2⟩) (by rw [hs]; simpa using hne)
    have hfc := Table.find_of_mem_nodup hn hc
    have hcs := ham.syms c hc
    refine ⟨c, hc, ?_⟩
    cases hi : c.instr with
    | dumper => simp [hi] at hcs
    | committer => simp [hi] at hcs
    | loader g =>
      rw [(pyShape_spec ham.shape).1 c hc g hi] at hca; cases hca
    | getter i => exact ⟨by simp [Table.isNode, hfc, hi], by simp [nodeArgs, hi, hca]⟩
    | functor a act ps =>
      simp only [hi] at hcs
      refine ⟨by simp [Table.isNode, hfc, hi], ?_⟩
      simp only [nodeArgs, hi]
      rw [← List.take_append_drop ps.length c.args] at hca
      rcases List.mem_append.1 hca with h1 | h1
      · -- a preset is fed by a loader, and a loader is not a node
        have hl := hcs.2.2.1 k h1
        simp only [Table.isLoader, hfk] at hl
        simp only [Table.isNode, hfk] at hk
        obtain ⟨k', ins, as⟩ := sk
        cases ins <;> simp at hl hk
      · exact h1

theorem head_of_no_args {A : Option Assets} {t : Table} (ham : AM A t) {k : Key} {s : Symbol}
    (hf : t.find k = some s) (hk : t.isNode k = true) (he : nodeArgs s = []) : k ∈ t.heads := by
  have hsm := Table.find_some hf
  rw [mem_heads]
  refine ⟨s, hsm.1, hsm.2, ?_⟩
  have hcs := ham.syms s hsm.1
  cases hi : s.instr with
  | dumper => simp [hi] at hcs
  | committer => simp [hi] at hcs
  | loader g => simp [Table.isNode, hf, hi] at hk
  | getter i =>
    simp only [hi] at hcs
    simp only [nodeArgs, hi] at he
    rw [he] at hcs; simp at hcs
  | functor a act ps =>
    simp only [nodeArgs, hi, List.drop_eq_nil_iff] at he
    simpa using he

theorem expression_ok {A : Option Assets} {t : Table} {r : Key → Nat} (hr : Ranked t r) (ham : AM A t) :
    ∃ U hd, expression A t = .ok U ∧ t.heads = [hd] ∧
      ∃ sink, t.sinks = [sink] ∧ ∀ x, U.run x = denIn A t hd x sink := by
  obtain ⟨tail, hsinks⟩ := List.length_eq_one_iff.1 ham.oneSink
  obtain ⟨ks, hord, hok⟩ := order_ok hr hsinks
  have hirr : ∀ k ∈ ks, k ∉ argsOf t k := by
    intro k _ hin
    obtain ⟨s, hf, hin⟩ := mem_argsOf.1 hin
    have := (hr.find_args hf k hin).2; omega
  have hcomplete := order_complete hr hsinks hok
  obtain ⟨built, hbuilt⟩ := buildLoop_ok ham ks [] [] hok.bound (fun k hk a ha => Or.inr (hok.closed k hk a ha))
    hok.before hirr (by simp)
  obtain ⟨hnodes, hearly, hkeys⟩ := buildLoop_spec ks [] built hbuilt (by simp) trivial
  simp only [List.map_nil, List.nil_append] at hkeys
  have htailnode : t.isNode tail = true := (pyShape_spec ham.shape).2 tail (by rw [hsinks]; simp)
  obtain ⟨l, hl⟩ := hok.last
  have hbn : (built.map (·.1)).Nodup := by
    rw [hkeys]; exact hok.nodup.sublist (List.filter_sublist ..)
  have hnodeOf : ∀ n ∈ built, t.isNode n.1 = true := by
    intro n hn
    have : n.1 ∈ ks.filter t.isNode := by rw [← hkeys]; exact List.mem_map_of_mem hn
    exact (List.mem_filter.1 this).2
  have hsz0 : countUses built tail = 0 := Nat.eq_zero_of_not_pos fun hpos => by
    obtain ⟨m, hm, hma⟩ := one_le_countUses.1 hpos
    obtain ⟨s, hf, he, _⟩ := hnodes m hm
    rw [he] at hma
    exact (mem_sinks.1 (by rw [hsinks]; simp : tail ∈ t.sinks)).2 s (Table.find_some hf).1 (nodeArgs_subset hma)
  have hsz1 : ∀ n ∈ built, n.1 ≠ tail → 1 ≤ countUses built n.1 := by
    intro n hn hne
    obtain ⟨c, hc, hcnode, hcarg⟩ := node_consumed hr.nodup ham hsinks (hnodeOf n hn) hne
    have hcin : c.id ∈ built.map (·.1) := by rw [hkeys]; exact List.mem_filter.2 ⟨hcomplete c hc, hcnode⟩
    obtain ⟨m, hm, hmc⟩ := List.mem_map.1 hcin
    obtain ⟨s', hf', he', _⟩ := hnodes m hm
    rw [hmc, Table.find_of_mem_nodup hr.nodup hc] at hf'; cases hf'
    exact one_le_countUses.2 ⟨m, hm, he' ▸ hcarg⟩
  have hhead : ∀ n ∈ built, n.2.2 = [] → n.1 ∈ t.heads := by
    intro n hn hempty
    obtain ⟨s, hf, he, _⟩ := hnodes n hn
    exact head_of_no_args ham hf (hnodeOf n hn) (he ▸ hempty)
  obtain ⟨hd, hheads⟩ := List.length_eq_one_iff.1 ham.oneHead
  cases built with
  | nil => rw [hl] at hkeys; simp [htailnode] at hkeys
  | cons b0 brest =>
    have hhd : t.isNode b0.1 = true := hnodeOf b0 (List.mem_cons_self ..)
    have hfirstargs : b0.2.2 = [] := by
      cases hb : b0.2.2 with
      | nil => rfl
      | cons a as => have := hearly.1 a (by rw [hb]; simp); cases this
    have hb0head : b0.1 = hd := by
      have := hhead b0 (List.mem_cons_self ..) hfirstargs
      rw [hheads] at this; simpa using this
    have hrestargs : ∀ n ∈ brest.map (mkNode (b0 :: brest)), n.args ≠ [] := by
      intro n hn hempty
      obtain ⟨b, hb, rfl⟩ := List.mem_map.1 hn
      have := hhead b (List.mem_cons_of_mem _ hb) hempty
      rw [hheads, ← hb0head, List.mem_singleton] at this
      have hmem : b.1 ∈ brest.map (·.1) := List.mem_map_of_mem hb
      rw [this] at hmem
      exact (List.nodup_cons.1 hbn).1 hmem
    have hszall : ∀ n ∈ (b0 :: brest).map (mkNode (b0 :: brest)),
        (n.key ≠ tail → 1 ≤ n.szout) ∧ (n.key = tail → n.szout = 0) := by
      intro n hn
      obtain ⟨b, hb, rfl⟩ := List.mem_map.1 hn
      refine ⟨fun hne => hsz1 b hb hne, fun he => ?_⟩
      show countUses (b0 :: brest) b.1 = 0
      rw [show b.1 = tail from he]; exact hsz0
    have hdagn : (((b0 :: brest).map (mkNode (b0 :: brest))).map (·.key)).Nodup := by
      rw [mkNode_keys]; exact hbn
    obtain ⟨p, hasm, hfin⟩ := assemble_ok (first := mkNode (b0 :: brest) b0)
      (rest := brest.map (mkNode (b0 :: brest))) hdagn
      (earlier_of_built _ _ brest hearly.2) hfirstargs hrestargs
      (fun n hn => by obtain ⟨b, _, rfl⟩ := List.mem_map.1 (List.map_cons ▸ hn); exact countUses_eq _ _) hszall
    cases hlast : ((b0 :: brest).map (mkNode (b0 :: brest))).getLast? with
    | none => simp at hlast
    | some last =>
      obtain ⟨hlk, hmem⟩ := built_last hbuilt hl htailnode hlast
      obtain ⟨U, hgU, hall⟩ := hfin.final hdagn (by rw [← List.map_cons, mkNode_keys]; exact hmem)
      have hexp : expression A t = .ok U := expression_eq_ok.2 ⟨hasDup_eq_false_iff.2 hr.nodup, _, _, last, p,
        build_eq_ok.2 ⟨ks, _, hord, hbuilt, rfl⟩, hlast, (hszall last (List.mem_of_getLast? hlast)).2 hlk,
        hfirstargs, hasm, hlk ▸ hgU, hlk ▸ hall⟩
      exact ⟨U, hd, hexp, hheads, tail, hsinks,
        hb0head ▸ (assembled_run hr ham.shape hok.nodup hbuilt hfirstargs hasm hmem hgU).2⟩

end ForML.Flow.PyFunc
