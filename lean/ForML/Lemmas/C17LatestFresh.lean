/- C17: one refresh round (two when a fault is pending) brings `Latest` to what `Spec` names (`tick_fresh`,
`tick_twice_fresh`); the refresher is alive in every reachable state under `Safe` (`reach_inv`); the first `select`. -/
import ForML.Lemmas.C17LatestInv

namespace ForML.Strategy

theorem served_of {s : LState} {i : Inst} {g : Nat} (hc : s.cache = some i) (hk : genKey s.rels i = .ok g) :
    served s = .ok (i.release, g) := by
  simp [served, useCached, hc, hk]

/-- what `_pick` returns when there is something to resolve to: an instance that resolves to just that -/
theorem spec_pick {cfg : Option Nat} {rels : Rels} {r g : Nat} (hwf : WF rels) (h : Spec cfg rels r g) :
    ∃ new, pick cfg rels = .ok new ∧ new.release = r ∧ genKey rels new = .ok g ∧ CacheOK cfg rels new := by
  cases cfg with
  | none =>
    have hp := pickLatest_of_newest hwf h
    obtain ⟨gs, hr, hm, _⟩ := newestOf_listing hwf h.1
    have hpk : pick none rels = .ok ⟨0, r, some g⟩ := by simp [pick, hp]
    exact ⟨⟨0, r, some g⟩, hpk, rfl, genKey_explicit (i := ⟨0, r, some g⟩) hr rfl hm, cacheOK_pick hwf hpk⟩
  | some c =>
    obtain ⟨rfl, h⟩ := h
    obtain ⟨gs, hr, _, hl⟩ := newestOf_listing hwf h
    have hpk : pick (some c) rels = .ok ⟨0, c, none⟩ := rfl
    exact ⟨⟨0, c, none⟩, hpk, rfl, genKey_lazy (i := ⟨0, c, none⟩) hr rfl hl, cacheOK_pick hwf hpk⟩

theorem spec_hasgen {cfg : Option Nat} {rels : Rels} {r g : Nat} (hwf : WF rels) (h : Spec cfg rels r g) :
    ∀ c, cfg = some c → HasGen rels c := by
  intro c hc; subst hc
  obtain ⟨rfl, h⟩ := h
  obtain ⟨gs, hr, hm, _⟩ := newestOf_listing hwf h
  exact ⟨gs, hr, by intro e; subst e; simp at hm⟩

theorem tick_ok {sv : Bool} {cfg : Option Nat} {s : LState} {old new new' old' : Inst} {v : Bool} (ha : s.alive = true)
    (hpd : s.pending = false) (hco : s.cache = some old) (hp : pick cfg s.rels = .ok new)
    (he : instEq s.rels new old = .ok (v, new', old')) :
    tick sv cfg s = { s with cache := some (if v then old' else new') } := by
  cases v <;> simp [tick, ha, hpd, hco, hp, he]

theorem tick_fresh {sv : Bool} {cfg : Option Nat} {s : LState} {r g : Nat} (h : InvL cfg s) (ha : s.alive = true)
    (hpd : s.pending = false) (hc : s.cache ≠ none) (hs : Spec cfg s.rels r g) :
    served (tick sv cfg s) = .ok (r, g) ∧ (tick sv cfg s).alive = true ∧ (tick sv cfg s).cache ≠ none := by
  cases hco : s.cache with
  | none => exact absurd hco hc
  | some old =>
    obtain ⟨new, hp, hnr, hnk, _⟩ := spec_pick h.wf hs
    obtain ⟨go, hok⟩ := cacheOK_genKey (h.cache old hco) (spec_hasgen h.wf hs)
    obtain ⟨gso, hro, _⟩ := genKey_ok_mem hok
    obtain ⟨gsn, hrn, _⟩ := genKey_ok_mem hnk
    obtain ⟨⟨v, new', old'⟩, he⟩ := instEq_ok hrn hro hnk (fun _ => ⟨go, hok⟩)
    have key := instEq_kept he hnk
    rw [tick_ok ha hpd hco hp he]
    exact ⟨by rw [served_of (s := { s with cache := some _ }) rfl key.2, key.1, hnr], ha, nofun⟩

/-- whenever something is cached the refresher runs -/
def AliveInv (s : LState) : Prop := s.cache ≠ none → s.alive = true

theorem tick_cache_none {sv : Bool} {cfg : Option Nat} {s : LState} (h : s.cache = none) : tick sv cfg s = s := by
  unfold tick
  split
  · simp [h]
  · rfl

theorem tick_survive_alive (cfg : Option Nat) (s : LState) : (tick true cfg s).alive = s.alive :=
  (tick_frame true cfg s).2.2 rfl

theorem tick_rels (sv : Bool) (cfg : Option Nat) (s : LState) : (tick sv cfg s).rels = s.rels :=
  (tick_frame sv cfg s).1

theorem tick_pending_false (sv : Bool) (cfg : Option Nat) (s : LState) (h : s.pending = false) :
    (tick sv cfg s).pending = false :=
  (tick_frame sv cfg s).2.1 h

theorem tick_faulted {cfg : Option Nat} {s : LState} (ha : s.alive = true) (hc : s.cache ≠ none)
    (hpd : s.pending = true) : tick true cfg s = { s with pending := false } := by
  cases hco : s.cache with
  | none => exact absurd hco hc
  | some old => simp [tick, ha, hco, hpd, LState.die]

theorem hasGen_grows {rels rels' : Rels} {c : Nat} (hg : Grows rels rels') (h : HasGen rels c) : HasGen rels' c := by
  obtain ⟨gs, hr, hne⟩ := h
  obtain ⟨gs', hr', hsub⟩ := hg _ _ hr
  refine ⟨gs', hr', ?_⟩
  intro e; subst e
  cases gs with
  | nil => exact hne rfl
  | cons a _ => exact absurd (hsub a (by simp)) (by simp)

theorem hasGen_spec {rels : Rels} {c : Nat} (hwf : WF rels) (h : HasGen rels c) : ∃ g, Spec (some c) rels c g := by
  obtain ⟨gs, hr, hne⟩ := h
  cases hl : gs.getLast? with
  | none => exact absurd (List.getLast?_eq_none_iff.mp hl) hne
  | some g => exact ⟨g, rfl, newestOf_last hwf (gensOf_mem hr) hl⟩

theorem hasGen_step {sv : Bool} {cfg : Option Nat} {s : LState} {c : Nat} (op : LOp) (hwf : WF s.rels)
    (h : HasGen s.rels c) : HasGen (stepL sv cfg s op).1.rels c := by
  rw [stepL_rels]
  split
  · exact hasGen_grows (grows_publish hwf _) h
  · exact hasGen_grows (grows_commit hwf _) h
  · exact h

/-- unconfigured: whatever is cached is listed, hence there is something to resolve to -/
theorem cached_spec_none {s : LState} (h : InvL none s) (hc : s.cache ≠ none) : ∃ r g, Spec none s.rels r g := by
  cases hco : s.cache with
  | none => exact absurd hco hc
  | some old =>
    obtain ⟨_, g, gs, _, hr, hm⟩ := h.cache old hco
    cases hp : pickLatest s.rels with
    | none =>
      have := (pickLatest_none_iff s.rels).mp hp _ (gensOf_mem hr)
      simp only at this; subst this; simp at hm
    | some y => exact ⟨y.1, y.2, pickLatest_newest h.wf hp⟩

/-- what keeps a refresher alive through its rounds (second disjunct: whatever is cached, there is something to
resolve to) -/
def Safe (sv : Bool) (cfg : Option Nat) (s : LState) : Prop :=
  sv = true ∨ (s.pending = false ∧ ∀ c, cfg = some c → HasGen s.rels c)

theorem safe_spec {cfg : Option Nat} {s : LState} (h : InvL cfg s) (hg : ∀ c, cfg = some c → HasGen s.rels c)
    (hc : s.cache ≠ none) : ∃ r g, Spec cfg s.rels r g := by
  cases cfg with
  | none => exact cached_spec_none h hc
  | some c =>
    obtain ⟨g, hs⟩ := hasGen_spec h.wf (hg c rfl)
    exact ⟨c, g, hs⟩

theorem safe_step {sv : Bool} {cfg : Option Nat} {s : LState} (op : LOp) (hwf : WF s.rels) (hs : Safe sv cfg s)
    (hop : sv = true ∨ ∀ e, op ≠ .fault e) : Safe sv cfg (stepL sv cfg s op).1 := by
  rcases hs with h | ⟨hp, hg⟩
  · exact Or.inl h
  · rcases hop with h | hop
    · exact Or.inl h
    · exact Or.inr ⟨stepL_pending op hop hp, fun c hc => hasGen_step op hwf (hg c hc)⟩

theorem alive_tick {sv : Bool} {cfg : Option Nat} {s : LState} (h : InvL cfg s) (ha : AliveInv s)
    (hok : Safe sv cfg s) : AliveInv (tick sv cfg s) := by
  intro hc
  have hc0 : s.cache ≠ none := by
    intro h0; rw [tick_cache_none h0] at hc; exact hc h0
  rcases hok with rfl | ⟨hp, hg⟩
  · rw [tick_survive_alive]; exact ha hc0
  · obtain ⟨r, g, hs⟩ := safe_spec h hg hc0
    exact (tick_fresh h (ha hc0) hp hc0 hs).2.1

theorem alive_select {cfg : Option Nat} {s : LState} (ha : AliveInv s) : AliveInv (select cfg s).2 := by
  unfold select
  split
  · exact ha
  · split
    · exact ha
    · intro _; rfl

theorem alive_useCached {s : LState} (ha : AliveInv s) : AliveInv (useCached s).2 := by
  unfold useCached
  split
  · exact ha
  · rename_i i hc
    split
    · exact ha
    · intro _; exact ha (by simp [hc])

theorem alive_step {sv : Bool} {cfg : Option Nat} {s : LState} (op : LOp) (h : InvL cfg s) (ha : AliveInv s)
    (hok : Safe sv cfg s) : AliveInv (stepL sv cfg s op).1 := by
  rw [stepL_state]
  cases op with
  | publish r => exact ha
  | commit r => exact ha
  | fault e => exact ha
  | tick => exact alive_tick h ha hok
  | select u =>
    cases u with
    | false => exact alive_select ha
    | true => exact alive_useCached (alive_select ha)

/-- a history without registry faults -/
def NoFault (ops : List LOp) : Prop := ∀ op ∈ ops, ∀ e, op ≠ .fault e

theorem reach_inv {sv : Bool} {cfg : Option Nat} {rels0 : Rels} (hwf : WF rels0) (ops : List LOp)
    (h0 : sv = true ∨ (NoFault ops ∧ ∀ c, cfg = some c → HasGen rels0 c)) :
    InvL cfg (execL sv cfg (LState.init rels0) ops) ∧ AliveInv (execL sv cfg (LState.init rels0) ops) ∧
      Safe sv cfg (execL sv cfg (LState.init rels0) ops) := by
  refine execL_induct (P := fun s => InvL cfg s ∧ AliveInv s ∧ Safe sv cfg s) ops
    ⟨invL_init hwf, fun h => absurd rfl h, h0.imp_right fun h => ⟨rfl, h.2⟩⟩ ?_
  intro s op hop ⟨h, ha, hs⟩
  exact ⟨invL_step op h, alive_step op h ha hs, safe_step op h.wf hs (h0.imp_right fun h => h.1 op hop)⟩

/-- **liveness under transient faults**: with the refresher surviving its rounds, two rounds after anything –
one to take a pending fault, one to refresh – a request is served by what the property names. -/
theorem tick_twice_fresh {cfg : Option Nat} {s : LState} {r g : Nat} (h : InvL cfg s) (ha : s.alive = true)
    (hc : s.cache ≠ none) (hs : Spec cfg s.rels r g) :
    served (tick true cfg (tick true cfg s)) = .ok (r, g) ∧ (tick true cfg (tick true cfg s)).cache ≠ none := by
  cases hpd : s.pending with
  | false =>
    obtain ⟨_, h2, h3⟩ := tick_fresh (sv := true) h ha hpd hc hs
    have := tick_fresh (sv := true) (invL_tick h) h2 (tick_pending_false true cfg s hpd) h3
      (by rw [tick_rels]; exact hs)
    exact ⟨this.1, this.2.2⟩
  | true =>
    rw [tick_faulted ha hc hpd]
    have := tick_fresh (sv := true) (cfg := cfg) (s := { s with pending := false }) ⟨h.wf, h.cache⟩ ha rfl hc hs
    exact ⟨this.1, this.2.2⟩

theorem obs_select_served {sv : Bool} {cfg : Option Nat} {s : LState} {r g : Nat} (hc : s.cache ≠ none)
    (h : served s = .ok (r, g)) : (stepL sv cfg s (.select true)).2 = .served r g := by
  cases hco : s.cache with
  | none => exact absurd hco hc
  | some i =>
    have hsel : select cfg s = (.ok i, s) := by simp [select, hco]
    simp only [served] at h
    simp only [stepL, hsel]
    cases hu : useCached s with
    | mk res s' =>
      rw [hu] at h
      simp only at h
      subst h
      rfl

/-- what the first use of a registry observes: `_pick`, then the resolution of the key of what it returned -/
theorem first_select_obs (sv : Bool) (cfg : Option Nat) {s : LState} (hc : s.cache = none) :
    (stepL sv cfg s (.select true)).2 =
      match pick cfg s.rels with
      | .error e => .err e
      | .ok i =>
        match genKey s.rels i with
        | .error e => .err e
        | .ok g => .served i.release g := by
  simp only [stepL, select, hc]
  cases pick cfg s.rels with
  | error e => rfl
  | ok i =>
    simp only [useCached]
    cases genKey s.rels i <;> rfl

/-- first use of the registry: the selector resolves to what the property names -/
theorem first_select {sv : Bool} {cfg : Option Nat} {s : LState} {r g : Nat} (hwf : WF s.rels) (hc : s.cache = none)
    (hs : Spec cfg s.rels r g) : (stepL sv cfg s (.select true)).2 = .served r g := by
  obtain ⟨new, hp, hnr, hnk, _⟩ := spec_pick hwf hs
  rw [first_select_obs sv cfg hc, hp]
  simp only [hnk, hnr]

/-- … and raises when there is nothing to resolve to -/
theorem first_select_none {sv : Bool} {cfg : Option Nat} {s : LState} (hwf : WF s.rels) (hc : s.cache = none)
    (hs : ∀ r g, ¬ Spec cfg s.rels r g) : ∃ e, (stepL sv cfg s (.select true)).2 = .err e := by
  rw [first_select_obs sv cfg hc]
  cases cfg with
  | none =>
    cases hp : pickLatest s.rels with
    | none => exact ⟨.empty, by simp only [pick, hp]⟩
    | some y => exact absurd (pickLatest_newest hwf hp) (hs y.1 y.2)
  | some c =>
    simp only [pick, genKey]
    cases hg : gensOf s.rels c with
    | none => exact ⟨.invalid, rfl⟩
    | some gs =>
      cases hl : gs.getLast? with
      | none => exact ⟨.empty, by simp only [hl]⟩
      | some g => exact absurd ⟨rfl, newestOf_last hwf (gensOf_mem hg) hl⟩ (hs c g)

end ForML.Strategy
