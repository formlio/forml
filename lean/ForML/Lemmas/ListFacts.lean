/-
Facts on core lists that the lemma files of several properties use and the core library does not state, and two notions
that the models of several properties share: assignment in an association list (`IsSet`) and insertion into a sorted
list (`IsInsert`).
-/

namespace ForML

universe u v w
variable {α : Type u} {β : Type v}

/-- a function with the two equations of a look-up by key is `List.lookup` (the models write their own) -/
theorem lookup_eq_of_eqns [DecidableEq α] {f : α → List (α × β) → Option β} (h0 : ∀ k, f k [] = none)
    (h1 : ∀ k k' v r, f k ((k', v) :: r) = if k' = k then some v else f k r) (k : α) (l : List (α × β)) :
    f k l = l.lookup k := by
  induction l with
  | nil => exact h0 k
  | cons e r ih => rw [h1, ih, List.lookup_cons, BEq.comm]; cases h : e.1 == k <;> simp_all

theorem mem_of_lookup [BEq α] [LawfulBEq α] {l : List (α × β)} {k : α} {v : β} (h : l.lookup k = some v) :
    (k, v) ∈ l := by
  obtain ⟨l₁, l₂, rfl, _⟩ := List.lookup_eq_some_iff.mp h
  exact List.mem_append_right _ List.mem_cons_self

theorem lookup_of_mem [BEq α] [LawfulBEq α] {l : List (α × β)} {k : α} {v : β} (hn : (l.map (·.1)).Nodup)
    (h : (k, v) ∈ l) : l.lookup k = some v := by
  obtain ⟨l₁, l₂, rfl⟩ := List.append_of_mem h
  rw [List.map_append, List.map_cons, List.nodup_append] at hn
  exact List.lookup_eq_some_iff.mpr ⟨l₁, l₂, rfl, fun p hp => by
    simpa using fun e => hn.2.2 p.1 (List.mem_map_of_mem hp) k List.mem_cons_self e.symm⟩

theorem lookup_filter_key [BEq α] [LawfulBEq α] (p : α → Bool) (k : α) (l : List (α × β)) :
    (l.filter fun e => p e.1).lookup k = if p k then l.lookup k else none := by
  induction l with
  | nil => simp
  | cons e l ih =>
    obtain ⟨a, b⟩ := e
    by_cases hk : k = a
    · subst hk; cases hp : p k <;> simp [hp, ih]
    · cases hp : p a <;> simp [List.lookup_cons, hp, beq_false_of_ne hk, ih]

theorem lookup_eq_none_iff_not_mem [BEq α] [LawfulBEq α] {l : List (α × β)} {k : α} :
    l.lookup k = none ↔ k ∉ l.map (·.1) := by
  simp only [List.lookup_eq_none_iff, List.mem_map, bne_iff_ne, ne_eq, not_exists, not_and]
  exact ⟨fun h p hp e => h p hp e.symm, fun h p hp e => h p hp e.symm⟩

/-- `dict.pop(j)` -/
theorem lookup_filter_ne [BEq α] [LawfulBEq α] [DecidableEq α] (k j : α) (l : List (α × β)) :
    (l.filter fun e => e.1 != j).lookup k = if k = j then none else l.lookup k := by
  rw [lookup_filter_key (· != j)]
  by_cases h : k = j <;> simp [h]

theorem pairwise_getLast? {R : α → α → Prop} {l : List α} {m : α} (hs : l.Pairwise R) (hl : l.getLast? = some m) :
    ∀ x ∈ l, x = m ∨ R x m := by
  obtain ⟨r, rfl⟩ := List.getLast?_eq_some_iff.mp hl
  intro x hx
  rcases List.mem_append.mp hx with hx | hx
  · exact Or.inr ((List.pairwise_append.mp hs).2.2 x hx m (List.mem_singleton_self m))
  · exact Or.inl (List.mem_singleton.mp hx)

theorem mem_ite_singleton {c : Prop} [Decidable c] {x y : α} : x ∈ (if c then [y] else []) ↔ c ∧ x = y := by
  by_cases h : c <;> simp [h]

theorem nodup_snoc {l : List α} {a : α} : (l ++ [a]).Nodup ↔ l.Nodup ∧ a ∉ l := by
  rw [List.nodup_append]
  constructor
  · exact fun ⟨hl, _, hd⟩ => ⟨hl, fun ha => hd a ha a (List.mem_singleton.mpr rfl) rfl⟩
  · exact fun ⟨hl, ha⟩ => ⟨hl, List.nodup_cons.mpr ⟨List.not_mem_nil, List.nodup_nil⟩,
      fun x hx y hy hxy => ha (List.mem_singleton.mp hy ▸ hxy ▸ hx)⟩

theorem length_le_of_nodup_lt {l : List Nat} {N : Nat} (hnd : l.Nodup) (hlt : ∀ u ∈ l, u < N) : l.length ≤ N := by
  have := hnd.length_le_of_subset (l₂ := List.range N) (fun u hu => List.mem_range.mpr (hlt u hu))
  simpa using this

theorem getElem?_idxOf [BEq α] [LawfulBEq α] {l : List α} {a : α} (h : a ∈ l) : l[l.idxOf a]? = some a := by
  rw [List.getElem?_eq_getElem (List.idxOf_lt_length_of_mem h), List.getElem_idxOf]

theorem idxOf_inj [BEq α] [LawfulBEq α] {l : List α} {a b : α} (ha : a ∈ l) (hb : b ∈ l) (h : l.idxOf a = l.idxOf b) :
    a = b :=
  Option.some.inj ((getElem?_idxOf ha).symm.trans (h ▸ getElem?_idxOf hb))

theorem eq_of_nodup_map (f : α → β) {l : List α} (h : (l.map f).Nodup) {a b : α} (ha : a ∈ l) (hb : b ∈ l)
    (hab : f a = f b) : a = b :=
  have hp : l.Pairwise fun a b => f a ≠ f b := List.pairwise_map.mp h
  List.Pairwise.forall_of_forall_of_flip (R := fun a b => f a = f b → a = b) (fun _ _ _ => rfl)
    (hp.imp fun hne e => absurd e hne) (hp.imp fun hne e => absurd e.symm hne) ha hb hab

/-- what two maps make equal agrees pointwise, so whatever the pointwise equations imply holds of the lists -/
theorem map_transfer {γ δ : Type w} {f : α → γ} {g : β → γ} {p : α → δ} {q : β → δ}
    (h : ∀ a b, f a = g b → p a = q b) : ∀ {l : List α} {l' : List β}, l.map f = l'.map g → l.map p = l'.map q
  | [], [], _ => rfl
  | [], _ :: _, e => by cases e
  | _ :: _, [], e => by cases e
  | a :: l, b :: l', e => by
    simp only [List.map_cons, List.cons.injEq] at e ⊢
    exact ⟨h a b e.1, map_transfer h e.2⟩

theorem filterMap_congr {f g : α → Option β} {l : List α} (h : ∀ x ∈ l, f x = g x) : l.filterMap f = l.filterMap g := by
  induction l with
  | nil => rfl
  | cons x r ih =>
    rw [List.filterMap_cons, List.filterMap_cons, h x List.mem_cons_self, ih fun y hy => h y (List.mem_cons_of_mem _ hy)]

theorem filterMap_eq_map {f : α → Option β} {h : α → β} {l : List α} (hf : ∀ x ∈ l, f x = some (h x)) :
    l.filterMap f = l.map h :=
  (filterMap_congr hf).trans (congrFun List.filterMap_eq_map' l)

theorem filterMap_total (f : α → Option β) (xs : List α) (h : ∀ x ∈ xs, (f x).isSome) :
    (xs.filterMap f).length = xs.length ∧ ∀ j : Nat, (xs.filterMap f)[j]? = xs[j]?.bind f := by
  induction xs with
  | nil => exact ⟨rfl, fun _ => rfl⟩
  | cons x r ih =>
    obtain ⟨b, hf⟩ := Option.isSome_iff_exists.mp (h x List.mem_cons_self)
    obtain ⟨h1, h2⟩ := ih fun y hy => h y (List.mem_cons_of_mem _ hy)
    rw [List.filterMap_cons_some hf]
    refine ⟨congrArg (· + 1) h1, fun j => ?_⟩
    cases j with
    | zero => exact hf.symm
    | succ j => exact h2 j

theorem any_congr_mem {p q : α → Bool} {l : List α} (h : ∀ x ∈ l, p x = q x) : l.any p = l.any q := by
  induction l with
  | nil => rfl
  | cons x r ih =>
    rw [List.any_cons, List.any_cons, h x List.mem_cons_self, ih fun y hy => h y (List.mem_cons_of_mem _ hy)]

theorem mapM_congr {m : Type v → Type w} [Monad m] [LawfulMonad m] {f g : α → m β} {l : List α} (h : ∀ x ∈ l, f x = g x) :
    l.mapM f = l.mapM g := by
  induction l with
  | nil => rfl
  | cons x r ih =>
    rw [List.mapM_cons, List.mapM_cons, h x List.mem_cons_self, ih fun y hy => h y (List.mem_cons_of_mem _ hy)]

theorem mapM_eq_pure {m : Type v → Type w} [Monad m] [LawfulMonad m] {f : α → m β} {g : α → β} {l : List α}
    (h : ∀ x ∈ l, f x = pure (g x)) : l.mapM f = pure (l.map g) :=
  (mapM_congr h).trans List.mapM_pure

theorem mapM_eq_some_iff_map {f : α → Option β} {l : List α} {ys : List β} :
    l.mapM f = some ys ↔ l.map f = ys.map some := by
  induction l generalizing ys with
  | nil => cases ys <;> simp
  | cons a l ih =>
    rw [List.mapM_cons, List.map_cons]
    cases hfa : f a with
    | none => cases ys <;> simp
    | some b =>
      cases ys with
      | nil => cases l.mapM f <;> simp
      | cons y ys =>
        rw [List.map_cons, List.cons.injEq, Option.some.injEq, ← ih]
        cases l.mapM f <;> simp

theorem mapM_eq_ok_iff_map {ε : Type w} {f : α → Except ε β} {l : List α} {ys : List β} :
    l.mapM f = .ok ys ↔ l.map f = ys.map .ok := by
  induction l generalizing ys with
  | nil => cases ys <;> simp [pure, Except.pure]
  | cons a l ih =>
    rw [List.mapM_cons, List.map_cons]
    cases hfa : f a with
    | error e => cases ys <;> simp [bind, Except.bind]
    | ok b =>
      cases ys with
      | nil => cases l.mapM f <;> simp [bind, Except.bind, pure, Except.pure]
      | cons y ys =>
        rw [List.map_cons, List.cons.injEq, Except.ok.injEq, ← ih]
        cases l.mapM f <;> simp [bind, Except.bind, pure, Except.pure]

theorem le_foldl_max {l : List Nat} {a x : Nat} (h : x ≤ a ∨ x ∈ l) : x ≤ l.foldl max a := by
  induction l generalizing a with
  | nil => exact h.elim id nofun
  | cons y r ih =>
    refine ih ?_
    rcases h with h | h
    · exact Or.inl (Nat.le_trans h (Nat.le_max_left a y))
    · exact (List.mem_cons.mp h).imp (fun e : x = y => e ▸ Nat.le_max_right a y) id

theorem exists_max (f : α → Nat) : ∀ (l : List α), l ≠ [] → ∃ x ∈ l, ∀ y ∈ l, f y ≤ f x := by
  intro l
  induction l with
  | nil => intro h; exact absurd rfl h
  | cons a r ih =>
    intro _
    cases r with
    | nil => exact ⟨a, List.mem_cons_self, fun y hy => by simp at hy; subst hy; exact Nat.le_refl _⟩
    | cons b r' =>
      obtain ⟨x, hx, hmax⟩ := ih (by simp)
      by_cases hax : f x ≤ f a
      · refine ⟨a, List.mem_cons_self, ?_⟩
        intro y hy
        rcases List.mem_cons.mp hy with rfl | hy
        · exact Nat.le_refl _
        · exact Nat.le_trans (hmax y hy) hax
      · refine ⟨x, List.mem_cons_of_mem _ hx, ?_⟩
        intro y hy
        rcases List.mem_cons.mp hy with rfl | hy
        · omega
        · exact hmax y hy

/-- the fold is `addAll` of `Model/PushDown`, `Model/ParserHints` and `Model/MatcherTables` unfolded (a set kept in a list in
order of insertion); each of them has this lemma by unfolding -/
theorem mem_foldl_addNew [DecidableEq α] {as l : List α} {x : α} :
    x ∈ as.foldl (fun l a => if a ∈ l then l else l ++ [a]) l ↔ x ∈ l ∨ x ∈ as := by
  induction as generalizing l with
  | nil => simp
  | cons a as ih =>
    rw [List.foldl_cons, ih, List.mem_cons]
    by_cases h : a ∈ l
    · rw [if_pos h]
      exact ⟨.imp_right .inr, fun h' => h'.elim .inl (·.elim (fun e => .inl (e ▸ h)) .inr)⟩
    · simp [h, or_assoc]

theorem pairwise_find? {R : α → α → Prop} {l : List α} {p : α → Bool} {z : α} (hl : l.Pairwise R)
    (h : l.find? p = some z) : ∀ w ∈ l, p w = true → w = z ∨ R z w := by
  obtain ⟨_, as, bs, rfl, has⟩ := List.find?_eq_some_iff_append.mp h
  intro w hw hpw
  rcases List.mem_append.mp hw with hw | hw
  · have := has w hw
    simp [hpw] at this
  · exact (List.mem_cons.mp hw).imp_right (List.rel_of_pairwise_cons (List.pairwise_append.mp hl).2.1)

theorem find?_of_pairwise {R : α → α → Prop} {l : List α} {p : α → Bool} {z : α} (hl : l.Pairwise R)
    (hz : z ∈ l) (hp : p z = true) (hmin : ∀ w ∈ l, p w = true → w = z ∨ ¬ R w z) : l.find? p = some z := by
  cases h : l.find? p with
  | none =>
    have := List.find?_eq_none.mp h z hz
    simp [hp] at this
  | some z' =>
    rcases hmin z' (List.mem_of_find?_eq_some h) (List.find?_some h) with rfl | hn
    · rfl
    · exact (pairwise_find? hl h z hz hp).elim (congrArg some ·.symm) (absurd · hn)

theorem findSome?_flatMap {γ : Type w} {f : α → List β} {g : β → Option γ} (l : List α) :
    (l.flatMap f).findSome? g = l.findSome? (fun a => (f a).findSome? g) := by
  induction l with
  | nil => rfl
  | cons a l ih =>
    rw [List.flatMap_cons, List.findSome?_append, ih, List.findSome?_cons]
    cases List.findSome? g (f a) <;> rfl

theorem dropWhile_of_head {p : α → Bool} {s : List α} (h : ∀ a, s.head? = some a → p a = false) : s.dropWhile p = s := by
  cases s with
  | nil => rfl
  | cons c r => simp [h c rfl]

/-- `str.strip` -/
theorem dropWhile_ends_id {p : α → Bool} {s : List α} (hh : ∀ a, s.head? = some a → p a = false)
    (hl : ∀ b, s.getLast? = some b → p b = false) : ((s.dropWhile p).reverse.dropWhile p).reverse = s := by
  rw [dropWhile_of_head hh, dropWhile_of_head (by rw [List.head?_reverse]; exact hl), List.reverse_reverse]

/-! ### Assignment in an association list

The models keep Python dicts as association lists in insertion order and each writes its own `d[k] = v` (`aset`,
`Providers.set`, `dictSet`, `pset`, `setOpt`, `setRef`, `setBank`). `IsSet set` says that `set` is that function; what a
look-up, the keys and the members are afterwards is shown once. -/

/-- `d[k] = v` on an association list kept in insertion order: the binding of `k` is replaced where it stands, a new key
goes to the end -/
structure IsSet [DecidableEq α] (set : α → β → List (α × β) → List (α × β)) : Prop where
  nil : ∀ k v, set k v [] = [(k, v)]
  cons : ∀ k v k' v' r, set k v ((k', v') :: r) = if k' = k then (k, v) :: r else (k', v') :: set k v r

namespace IsSet
variable [DecidableEq α] {set : α → β → List (α × β) → List (α × β)} (h : IsSet set)
include h

theorem lookup (k k' : α) (v : β) : ∀ l, (set k v l).lookup k' = if k' = k then some v else l.lookup k'
  | [] => by
    rw [h.nil, List.lookup_cons, List.lookup_nil]
    by_cases e : k' = k
    · simp [e]
    · simp [e, beq_false_of_ne e]
  | (a, b) :: r => by
    rw [h.cons]
    by_cases ha : a = k
    · subst ha
      by_cases e : k' = a
      · simp [e]
      · simp [e, beq_false_of_ne e, List.lookup_cons]
    · rw [if_neg ha, List.lookup_cons, List.lookup_cons, lookup k k' v r]
      by_cases e : k' = a
      · subst e; simp [ha]
      · simp [beq_false_of_ne e]

theorem lookup_comm (k k' : α) (v : β) (l : List (α × β)) :
    (set k v l).lookup k' = if k = k' then some v else l.lookup k' := by
  rw [h.lookup]
  by_cases e : k' = k
  · rw [if_pos e, if_pos e.symm]
  · rw [if_neg e, if_neg (Ne.symm e)]

theorem of_not_mem (k : α) (v : β) : ∀ l : List (α × β), k ∉ l.map (·.1) → set k v l = l ++ [(k, v)]
  | [], _ => h.nil k v
  | (a, b) :: r, hk => by
    have ha : ¬ a = k := fun e => hk (e ▸ List.mem_cons_self)
    rw [h.cons, if_neg ha, of_not_mem k v r (fun hr => hk (List.mem_cons_of_mem _ hr)), List.cons_append]

theorem keys_of_mem (k : α) (v : β) : ∀ l : List (α × β), k ∈ l.map (·.1) → (set k v l).map (·.1) = l.map (·.1)
  | [], hk => nomatch hk
  | (a, b) :: r, hk => by
    rw [h.cons]
    by_cases ha : a = k
    · rw [if_pos ha, List.map_cons, List.map_cons, ha]
    · rw [if_neg ha, List.map_cons, List.map_cons,
        keys_of_mem k v r ((List.mem_cons.mp hk).resolve_left fun e => ha e.symm)]

theorem mem {k : α} {v : β} {x : α × β} : ∀ {l : List (α × β)}, x ∈ set k v l → x = (k, v) ∨ x ∈ l
  | [], hx => by rw [h.nil] at hx; exact .inl (List.mem_singleton.mp hx)
  | (a, b) :: r, hx => by
    rw [h.cons] at hx
    by_cases ha : a = k
    · rw [if_pos ha] at hx
      exact (List.mem_cons.mp hx).imp_right (List.mem_cons_of_mem _)
    · rw [if_neg ha] at hx
      rcases List.mem_cons.mp hx with e | hx
      · exact .inr (e ▸ List.mem_cons_self)
      · exact (mem hx).imp_right (List.mem_cons_of_mem _)

theorem keys_mem {k k' : α} {v : β} {l : List (α × β)} : k' ∈ (set k v l).map (·.1) ↔ k' = k ∨ k' ∈ l.map (·.1) := by
  by_cases hk : k ∈ l.map (·.1)
  · rw [h.keys_of_mem k v l hk]
    exact ⟨.inr, fun e => e.elim (· ▸ hk) id⟩
  · rw [h.of_not_mem k v l hk, List.map_append, List.mem_append, List.map_cons, List.map_nil, List.mem_singleton]
    exact Or.comm

theorem keys_nodup {k : α} {v : β} {l : List (α × β)} (hn : (l.map (·.1)).Nodup) : ((set k v l).map (·.1)).Nodup := by
  by_cases hk : k ∈ l.map (·.1)
  · rw [h.keys_of_mem k v l hk]; exact hn
  · rw [h.of_not_mem k v l hk, List.map_append]; exact nodup_snoc.mpr ⟨hn, hk⟩

theorem set_set (k : α) (v v' : β) : ∀ l, set k v' (set k v l) = set k v' l
  | [] => by rw [h.nil, h.cons, if_pos rfl, h.nil]
  | (a, b) :: r => by
    rw [h.cons]
    by_cases ha : a = k
    · rw [if_pos ha, h.cons, if_pos rfl, h.cons, if_pos ha]
    · rw [if_neg ha, h.cons, if_neg ha, set_set k v v' r, h.cons, if_neg ha]

end IsSet

/-! ### Insertion sorts

The models write `sorted(...)` as a stable insertion sort, each with its own element type, order and fold direction; what
makes them sort is the same every time.  `IsInsert ins c`: `ins` walks down the list and puts the element before the first
`x` for which the test `c e x` says so.  Such an `ins` permutes, and it keeps a list sorted by any transitive relation that
the test decides (`c e x` gives `R e x`, its failure `R x e`); so do its folds. -/

structure IsInsert (ins : α → List α → List α) (c : α → α → Bool) : Prop where
  nil : ∀ e, ins e [] = [e]
  cons : ∀ e x r, ins e (x :: r) = if c e x then e :: x :: r else x :: ins e r

namespace IsInsert
variable {ins : α → List α → List α} {c : α → α → Bool} (h : IsInsert ins c)
include h

theorem perm (e : α) : ∀ l, (ins e l).Perm (e :: l)
  | [] => by rw [h.nil]
  | x :: r => by
    rw [h.cons]
    split
    · exact .refl _
    · exact ((perm e r).cons x).trans (.swap e x r)

theorem foldl_perm : ∀ (todo acc : List α), (todo.foldl (fun acc e => ins e acc) acc).Perm (acc ++ todo)
  | [], acc => by rw [List.append_nil]; exact .refl _
  | e :: todo, acc =>
    (foldl_perm todo _).trans (((h.perm e acc).append_right todo).trans List.perm_middle.symm)

theorem foldr_perm : ∀ l : List α, (l.foldr ins []).Perm l
  | [] => .refl _
  | e :: l => (h.perm e _).trans ((foldr_perm l).cons e)

variable {R : α → α → Prop} (hyes : ∀ e x, c e x = true → R e x) (hno : ∀ e x, c e x = false → R x e)
  (htrans : ∀ a b d, R a b → R b d → R a d)
include hyes hno htrans

theorem pairwise (e : α) : ∀ {l : List α}, l.Pairwise R → (ins e l).Pairwise R
  | [], _ => by rw [h.nil]; exact List.pairwise_singleton R e
  | x :: r, hl => by
    have hx := List.pairwise_cons.1 hl
    rw [h.cons]
    cases hc : c e x with
    | true =>
      refine List.pairwise_cons.2 ⟨fun b hb => ?_, hl⟩
      rcases List.mem_cons.1 hb with rfl | hb
      · exact hyes e _ hc
      · exact htrans _ _ _ (hyes e x hc) (hx.1 b hb)
    | false =>
      refine List.pairwise_cons.2 ⟨fun b hb => ?_, pairwise e hx.2⟩
      rcases List.mem_cons.1 ((h.perm e r).mem_iff.1 hb) with rfl | hb
      · exact hno _ x hc
      · exact hx.1 b hb

theorem foldl_pairwise : ∀ (todo : List α) {acc : List α}, acc.Pairwise R →
    (todo.foldl (fun acc e => ins e acc) acc).Pairwise R
  | [], _, ha => ha
  | e :: todo, _, ha => foldl_pairwise todo (h.pairwise hyes hno htrans e ha)

theorem foldr_pairwise : ∀ l : List α, (l.foldr ins []).Pairwise R
  | [] => .nil
  | e :: l => h.pairwise hyes hno htrans e (foldr_pairwise l)

end IsInsert

end ForML
