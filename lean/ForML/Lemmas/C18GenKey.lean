/-
C18: the decimal text of a natural number is read back by `int()` as that number
(`Generation.Key(str(k)) = k`), `parseInt` on plain digit strings is the positional value, and `strip` leaves a
text without white space at its ends as it is.
-/
import ForML.Model.Keys
import ForML.Lemmas.ListFacts

namespace ForML.Keys

/-- positional value of a digit string, left to right from `acc` -/
def valOf (acc : Nat) (ds : List Nat) : Nat := ds.foldl (fun a c => a * 10 + (c - 48)) acc

theorem digitsVal_digits (ds : List Nat) (acc : Nat) (pd : Bool) (hd : ∀ c ∈ ds, isDigit c = true)
    (hne : ds ≠ [] ∨ pd = true) : digitsVal acc pd ds = some (valOf acc ds) := by
  induction ds generalizing acc pd with
  | nil =>
    rcases hne with h | h
    · exact absurd rfl h
    · simp [digitsVal, valOf, h]
  | cons c r ih =>
    have hc := hd c (by simp)
    rw [digitsVal, if_pos hc, ih _ _ (fun d hd' => hd d (by simp [hd'])) (Or.inr rfl)]
    rfl

theorem lstrip_eq (s : List Nat) : lstrip s = s.dropWhile isSpace := by
  induction s with
  | nil => rfl
  | cons c r ih => rw [lstrip, List.dropWhile_cons, ih]

theorem strip_id (s : List Nat) (hh : ∀ c, s.head? = some c → isSpace c = false)
    (hl : ∀ c, s.getLast? = some c → isSpace c = false) : strip s = s := by
  unfold strip
  rw [lstrip_eq, lstrip_eq]
  exact dropWhile_ends_id hh hl

theorem strip_nospace (s : List Nat) (h : ∀ c ∈ s, isSpace c = false) : strip s = s :=
  strip_id s (fun c hc => h c (List.mem_of_head? hc)) (fun c hc => h c (List.mem_of_getLast? hc))

theorem isDigit_iff (c : Nat) : isDigit c = true ↔ 48 ≤ c ∧ c ≤ 57 := by
  simp [isDigit]

theorem isDigit_not_space (c : Nat) (h : isDigit c = true) : isSpace c = false := by
  rw [isDigit_iff] at h
  simp only [isSpace, Bool.or_eq_false_iff, Bool.and_eq_false_iff, beq_eq_false_iff_ne, decide_eq_false_iff_not]
  omega

theorem parseInt_digits (ds : List Nat) (hne : ds ≠ []) (hd : ∀ c ∈ ds, isDigit c = true) :
    parseInt ds = some (Int.ofNat (valOf 0 ds)) := by
  have hs : strip ds = ds := strip_nospace ds fun c hc => isDigit_not_space c (hd c hc)
  unfold parseInt
  rw [hs]
  cases ds with
  | nil => exact absurd rfl hne
  | cons c r =>
    have hc := hd c (by simp)
    rw [isDigit_iff] at hc
    have h43 : (c == 43) = false := by simp; omega
    have h45 : (c == 45) = false := by simp; omega
    simp only [h43, h45, Bool.false_eq_true, if_false]
    rw [digitsVal_digits (c :: r) 0 false hd (Or.inl (by simp))]
    rfl

theorem digitsLE_digits (f n : Nat) : ∀ c ∈ digitsLE f n, isDigit c = true := by
  induction f generalizing n with
  | zero => simp [digitsLE]
  | succ f ih =>
    intro c hc
    rw [digitsLE] at hc
    split at hc
    · simp at hc; subst hc; simp [isDigit]; omega
    · rcases List.mem_cons.mp hc with e | hc
      · subst e; simp [isDigit]; omega
      · exact ih _ c hc

theorem digitsLE_val (f n : Nat) (h : n < f) : (digitsLE f n).foldr (fun c a => a * 10 + (c - 48)) 0 = n := by
  induction f generalizing n with
  | zero => omega
  | succ f ih =>
    rw [digitsLE]
    split
    · rw [List.foldr_cons, List.foldr_nil, Nat.add_sub_cancel_left, Nat.zero_mul, Nat.zero_add]
    · rw [List.foldr_cons, ih (n / 10) (by omega), Nat.add_sub_cancel_left, Nat.div_add_mod']

theorem natStr_spec (n : Nat) :
    natStr n ≠ [] ∧ (∀ c ∈ natStr n, isDigit c = true) ∧ valOf 0 (natStr n) = n := by
  unfold natStr
  refine ⟨?_, ?_, ?_⟩
  · rw [digitsLE]
    split <;> simp
  · intro c hc
    exact digitsLE_digits _ _ c (List.mem_reverse.mp hc)
  · rw [valOf, List.foldl_reverse]
    exact digitsLE_val _ _ (by omega)

theorem parseInt_natStr (n : Nat) : parseInt (natStr n) = some (Int.ofNat n) := by
  obtain ⟨h1, h2, h3⟩ := natStr_spec n
  rw [parseInt_digits _ h1 h2, h3]

end ForML.Keys
