/-
The source skeleton `parseSkeleton` (`Model/Matcher.lean`) is a sound abstraction of the parser machine `visitS` /
`parseFull` (`Model/MatcherParser.lean`) for every concrete parser (`Hooks`): the machine gets through only if no table
is missing, and the unprovisioned source it reports is the first missing one.
-/
import ForML.Model.MatcherParser
import ForML.Lemmas.C09

namespace ForML.Matcher

open ForML.Dsl

variable {σ τ : Type}

theorem bind_ok {α β : Type} {x : Except PErr α} {f : α → Except PErr β} {b : β} (h : (x >>= f) = .ok b) :
    ∃ a, x = .ok a ∧ f a = .ok b := by
  cases x with
  | error e => cases h
  | ok a => exact ⟨a, rfl, h⟩

theorem bind_error {α β : Type} {x : Except PErr α} {f : α → Except PErr β} {e : PErr} (h : (x >>= f) = .error e) :
    x = .error e ∨ ∃ a, x = .ok a ∧ f a = .error e := by
  cases x with
  | error e' =>
    left
    cases h
    rfl
  | ok a => exact Or.inr ⟨a, rfl, h⟩

/-- the computation never raises the unprovisioned-*source* error -/
def NoUnprov {α : Type} (x : Except PErr α) : Prop := ∀ t, x ≠ .error (.unprovisioned t)

theorem noUnprov_pure {α : Type} (a : α) : NoUnprov (pure a : Except PErr α) := by
  intro t h; cases h

theorem NoUnprov.bind {α β : Type} {x : Except PErr α} {f : α → Except PErr β} (hx : NoUnprov x)
    (hf : ∀ a, NoUnprov (f a)) : NoUnprov (x >>= f) := by
  intro t h
  rcases bind_error h with h | ⟨a, _, h⟩
  · exact hx t h
  · exact hf a t h

theorem noUnprov_liftH {α : Type} (x : Except HErr α) : NoUnprov (liftH x) := by
  cases x <;> exact fun _ => nofun

/-! Each step of the machine is a `do` block over steps that cannot raise the error: its fact is read off its
definition, one `bind` per line of the block. -/

theorem noUnprov_context (st : PState σ τ) : NoUnprov (context st) := by
  unfold context
  cases st.ctx <;> exact fun _ => nofun

theorem noUnprov_push (x : σ) (st : PState σ τ) : NoUnprov (push x st) :=
  (noUnprov_context st).bind fun _ => noUnprov_pure _

theorem noUnprov_pop (st : PState σ τ) : NoUnprov (pop st) := by
  refine (noUnprov_context st).bind fun c => ?_
  cases c.symbols <;> exact fun _ => nofun

theorem noUnprov_setOrigin (o : Source) (x : σ) (st : PState σ τ) : NoUnprov (setOrigin o x st) :=
  (noUnprov_context st).bind fun _ => noUnprov_pure _

theorem noUnprov_getOrigin (o : Source) (st : PState σ τ) : NoUnprov (getOrigin o st) := by
  refine (noUnprov_context st).bind fun c => ?_
  cases c.origins.lookup o <;> exact fun _ => nofun

theorem noUnprov_leave (st : PState σ τ) : NoUnprov (leave st) := by
  intro t h
  unfold leave at h
  split at h
  · split at h
    · split at h <;> cases h
    · cases h
  · split at h <;> cases h

theorem noUnprov_popN : ∀ (n : Nat) (st : PState σ τ), NoUnprov (popN n st)
  | 0, _ => noUnprov_pure _
  | n + 1, st => (noUnprov_pop st).bind fun _ => (noUnprov_popN n _).bind fun _ => noUnprov_pure _

theorem noUnprov_bypassFeature (H : Hooks σ τ) (f : Feature) (st : PState σ τ) : NoUnprov (bypassFeature H f st) := by
  refine (noUnprov_liftH _).bind fun r => ?_
  cases r
  · exact noUnprov_pure _
  · exact (noUnprov_pop st).bind fun _ => noUnprov_push _ _

mutual
theorem noUnprov_visitF (H : Hooks σ τ) : ∀ (f : Feature) (st : PState σ τ), NoUnprov (visitF H f st)
  | .lit v, st => by
    unfold visitF
    exact (noUnprov_liftH _).bind fun _ => noUnprov_push _ _
  | .elem o n, st => by
    unfold visitF
    refine (noUnprov_getOrigin o st).bind fun _ => (noUnprov_liftH _).bind fun r => ?_
    cases r
    · exact fun _ => nofun
    · exact (noUnprov_liftH _).bind fun _ => noUnprov_push _ _
  | .alias f n, st => by
    unfold visitF
    exact (noUnprov_visitF H f st).bind fun _ => (noUnprov_pop _).bind fun _ =>
      (noUnprov_liftH _).bind fun _ => noUnprov_push _ _
  | .expr op args, st => by
    unfold visitF
    exact (noUnprov_visitFs H args st).bind fun _ => (noUnprov_popN _ _).bind fun _ =>
      (noUnprov_liftH _).bind fun _ => (noUnprov_push _ _).bind fun _ => noUnprov_bypassFeature H _ _
  | .cast f k, st => by
    unfold visitF
    exact (noUnprov_visitF H f st).bind fun _ => (noUnprov_pop _).bind fun _ =>
      (noUnprov_liftH _).bind fun _ => (noUnprov_push _ _).bind fun _ => noUnprov_bypassFeature H _ _
  | .window _ _ _, st => by
    unfold visitF
    exact fun _ => nofun
theorem noUnprov_visitFs (H : Hooks σ τ) : ∀ (fs : Features) (st : PState σ τ), NoUnprov (visitFs H fs st)
  | .nil, st => by
    unfold visitFs
    exact noUnprov_pure _
  | .cons f fs, st => by
    unfold visitFs
    exact (noUnprov_visitF H f st).bind fun _ => noUnprov_visitFs H fs _
end

theorem noUnprov_genFeature (H : Hooks σ τ) (f : Feature) (st : PState σ τ) : NoUnprov (genFeature H f st) :=
  (noUnprov_visitF H f st).bind fun _ => noUnprov_pop _

theorem noUnprov_genFeatures (H : Hooks σ τ) : ∀ (fs : List Feature) (st : PState σ τ), NoUnprov (genFeatures H fs st)
  | [], _ => noUnprov_pure _
  | f :: fs, st =>
    (noUnprov_genFeature H f st).bind fun _ => (noUnprov_genFeatures H fs _).bind fun _ => noUnprov_pure _

theorem noUnprov_genFeatureOpt (H : Hooks σ τ) : ∀ (f : Option Feature) (st : PState σ τ), NoUnprov (genFeatureOpt H f st)
  | none, _ => noUnprov_pure _
  | some f, st => (noUnprov_genFeature H f st).bind fun _ => noUnprov_pure _

theorem noUnprov_genOrderings (H : Hooks σ τ) :
    ∀ (os : List Dsl.Ordering) (st : PState σ τ), NoUnprov (genOrderings H os st)
  | [], _ => noUnprov_pure _
  | .mk f _ :: os, st =>
    (noUnprov_genFeature H f st).bind fun _ => (noUnprov_genOrderings H os _).bind fun _ => noUnprov_pure _

theorem noUnprov_tablesSelect (H : Hooks σ τ) (fs : List Feature) (st : PState σ τ) : NoUnprov (tablesSelect H fs st) :=
  (noUnprov_context st).bind fun _ => (noUnprov_liftH _).bind fun _ => noUnprov_pure _

theorem noUnprov_tablesFilter (H : Hooks σ τ) (f : Feature) (st : PState σ τ) : NoUnprov (tablesFilter H f st) :=
  (noUnprov_context st).bind fun _ => (noUnprov_liftH _).bind fun _ => noUnprov_pure _

theorem noUnprov_bypassSource (H : Hooks σ τ) (S : Sources) (s : Source) (st : PState σ τ) :
    NoUnprov (bypassSource H S s st) := by
  unfold bypassSource
  split
  · exact (noUnprov_pop st).bind fun _ => noUnprov_push _ _
  · exact noUnprov_pure _

theorem noUnprov_tableTail (H : Hooks σ τ) (t : Source) (origin : σ) (st : PState σ τ) :
    NoUnprov (tableTail H t origin st) :=
  (noUnprov_context st).bind fun _ =>
  (noUnprov_liftH _).bind fun _ =>
  (noUnprov_genFeatures H _ _).bind fun _ =>
  (noUnprov_liftH _).bind fun _ =>
  (noUnprov_genFeatureOpt H _ _).bind fun _ =>
  (noUnprov_liftH _).bind fun _ => noUnprov_push _ _

theorem noUnprov_refTail (H : Hooks σ τ) (r : Source) (name : String) (st : PState σ τ) :
    NoUnprov (refTail H r name st) :=
  (noUnprov_pop st).bind fun _ =>
  (noUnprov_liftH _).bind fun _ =>
  (noUnprov_setOrigin _ _ _).bind fun _ => noUnprov_push _ _

theorem noUnprov_tablesFilterOpt (H : Hooks σ τ) (c : FeatureOpt) (st : PState σ τ) :
    NoUnprov (tablesFilterOpt H c st) := by
  cases c
  · exact noUnprov_pure _
  · exact noUnprov_tablesFilter H _ st

theorem noUnprov_tablesSelectOpt (H : Hooks σ τ) (c : FeatureOpt) (st : PState σ τ) :
    NoUnprov (tablesSelectOpt H c st) := by
  cases c
  · exact noUnprov_pure _
  · exact noUnprov_tablesSelect H _ st

theorem noUnprov_joinTail (H : Hooks σ τ) (S : Sources) (l r : Source) (k : JoinKind) (c : FeatureOpt)
    (st : PState σ τ) : NoUnprov (joinTail H S l r k c st) :=
  (noUnprov_pop st).bind fun _ =>
  (noUnprov_pop _).bind fun _ =>
  (noUnprov_genFeatureOpt H _ _).bind fun _ =>
  (noUnprov_liftH _).bind fun _ =>
  (noUnprov_push _ _).bind fun _ => noUnprov_bypassSource H S _ _

theorem noUnprov_setTail (H : Hooks σ τ) (S : Sources) (l r : Source) (k : SetKind) (st : PState σ τ) :
    NoUnprov (setTail H S l r k st) :=
  (noUnprov_pop st).bind fun _ =>
  (noUnprov_pop _).bind fun _ =>
  (noUnprov_liftH _).bind fun _ =>
  (noUnprov_push _ _).bind fun _ => noUnprov_bypassSource H S _ _

theorem noUnprov_queryFeatures (H : Hooks σ τ) (src : Source) (sel : Features) : NoUnprov (queryFeatures H src sel) := by
  unfold queryFeatures
  split
  · exact noUnprov_liftH _
  · exact noUnprov_pure _

theorem noUnprov_queryHead (H : Hooks σ τ) (src : Source) (sel : Features) (pre : FeatureOpt) (grp : Features)
    (post : FeatureOpt) (ord : Orderings) (st : PState σ τ) : NoUnprov (queryHead H src sel pre grp post ord st) :=
  (noUnprov_queryFeatures H src sel).bind fun _ =>
  (noUnprov_tablesSelect H _ _).bind fun _ =>
  (noUnprov_tablesFilterOpt H _ _).bind fun _ =>
  (noUnprov_tablesSelectOpt H _ _).bind fun _ =>
  (noUnprov_tablesSelect H _ _).bind fun _ => noUnprov_tablesSelect H _ _

theorem noUnprov_queryTail (H : Hooks σ τ) (S : Sources) (src : Source) (sel : Features) (pre : FeatureOpt)
    (grp : Features) (post : FeatureOpt) (ord : Orderings) (rows : Option Rows) (st : PState σ τ) :
    NoUnprov (queryTail H S src sel pre grp post ord rows st) :=
  (noUnprov_queryFeatures H src sel).bind fun _ =>
  (noUnprov_genFeatures H _ _).bind fun _ =>
  (noUnprov_genFeatureOpt H _ _).bind fun _ =>
  (noUnprov_genFeatures H _ _).bind fun _ =>
  (noUnprov_genFeatureOpt H _ _).bind fun _ =>
  (noUnprov_genOrderings H _ _).bind fun _ =>
  (noUnprov_pop _).bind fun _ =>
  (noUnprov_liftH _).bind fun _ =>
  (noUnprov_leave _).bind fun _ =>
  (noUnprov_push _ _).bind fun _ => noUnprov_bypassSource H S _ _

theorem noUnprov_fetch (st : PState σ τ) : NoUnprov (fetch st) := by
  intro t h
  unfold fetch at h
  split at h
  · cases h
  · split at h
    · cases h
    · split at h
      · split at h
        · rename_i e he
          cases h
          exact noUnprov_leave _ t he
        · cases h
      · cases h

/-- `o` is to be read as the first missing table of what `x` visits (`none`: no table is missing) -/
def Reports {α : Type} (x : Except PErr α) (o : Option Source) : Prop :=
  (∀ a, x = .ok a → o = none) ∧ ∀ t, x = .error (.unprovisioned t) → o = some t

theorem NoUnprov.reports {α : Type} {x : Except PErr α} (h : NoUnprov x) : Reports x none :=
  ⟨fun _ _ => rfl, fun t ht => absurd ht (h t)⟩

theorem Reports.bind_or {α β : Type} {x : Except PErr α} {f : α → Except PErr β} {o₁ o₂ : Option Source}
    (hx : Reports x o₁) (hf : ∀ a, Reports (f a) o₂) : Reports (x >>= f) (o₁.or o₂) := by
  constructor
  · intro b h
    obtain ⟨a, ha, h⟩ := bind_ok h
    rw [hx.1 a ha, (hf a).1 b h]
    rfl
  · intro t h
    rcases bind_error h with h | ⟨a, ha, h⟩
    · rw [hx.2 t h]
      rfl
    · rw [hx.1 a ha, (hf a).2 t h]
      rfl

theorem Reports.bind_noUnprov {α β : Type} {x : Except PErr α} {f : α → Except PErr β} {o : Option Source}
    (hx : Reports x o) (hf : ∀ a, NoUnprov (f a)) : Reports (x >>= f) o :=
  Option.or_none (o := o) ▸ hx.bind_or fun a => (hf a).reports

theorem NoUnprov.bind_reports {α β : Type} {x : Except PErr α} {f : α → Except PErr β} {o : Option Source}
    (hx : NoUnprov x) (hf : ∀ a, Reports (f a) o) : Reports (x >>= f) o :=
  hx.reports.bind_or hf

/-- only `resolve_source` in `visit_table` raises the unprovisioned-source error; everything around the visits of the
sub-statements cannot -/
theorem visitS_sound (H : Hooks σ τ) (S : Sources) :
    ∀ (s : Source) (st : PState σ τ), Reports (visitS H S s st) (firstMissing S s)
  | .table n fs, st => by
    have hr : Reports (resolveSource H S (.table n fs)) (firstMissing S (.table n fs)) := by
      unfold resolveSource
      cases h : adv S (.table n fs) <;> simp [Reports, firstMissing, tables, h]
    unfold visitS
    exact hr.bind_noUnprov fun origin =>
      (noUnprov_setOrigin _ _ _).bind fun st => noUnprov_tableTail H _ _ st
  | .ref inst name, st => by
    unfold visitS
    exact (visitS_sound H S inst st).bind_noUnprov fun st => noUnprov_refTail H _ _ st
  | .join l r k c, st => by
    unfold visitS
    rw [firstMissing_append S _ l r rfl]
    -- `joinHead` is `tablesFilterOpt` by definition
    exact (noUnprov_tablesFilterOpt H c st).bind_reports fun st => (visitS_sound H S l st).bind_or fun st =>
      (visitS_sound H S r st).bind_noUnprov fun st => noUnprov_joinTail H S l r k c st
  | .set l r k, st => by
    unfold visitS
    rw [firstMissing_append S _ l r rfl]
    exact (visitS_sound H S l st).bind_or fun st =>
      (visitS_sound H S r st).bind_noUnprov fun st => noUnprov_setTail H S l r k st
  | .query src sel pre grp post ord rows, st => by
    unfold visitS
    exact (noUnprov_queryHead H src sel pre grp post ord st).bind_reports fun st =>
      (visitS_sound H S src st).bind_noUnprov fun st => noUnprov_queryTail H S src sel pre grp post ord rows st

theorem parseFull_sound (H : Hooks σ τ) (S : Sources) (s : Source) :
    Reports (parseFull H S s) (firstMissing S s) := by
  unfold parseFull
  exact (visitS_sound H S s _).bind_noUnprov fun st => (noUnprov_fetch st).bind fun _ => noUnprov_pure _

end ForML.Matcher
