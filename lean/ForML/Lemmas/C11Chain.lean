/-
All the ports holding one subscription are upstream, through the registrations, of the port it was first published to
(`Rooted`: kept by every change the calls make, whatever is registered).  As long as no placeholder input port has a
second publisher (`SingleReg`) the ports upstream of one port form a chain (`Chain`); with (I8) this gives the
one-publisher rule.
-/
import ForML.Lemmas.C11Step
import ForML.Lemmas.ListFacts

namespace ForML.Graph

/-- output port `b` is registered as a publisher of the placeholder input/output lane `a` -/
def regStep (g : G) (a b : Nat × Nat) : Prop :=
  ∃ r ∈ g.regs, r.fut = a.1 ∧ r.idx = a.2 ∧ r.pub = b.1 ∧ r.out = b.2

/-- `b` is upstream of `a` through registrations (reflexive, transitive) -/
inductive Up (g : G) : Nat × Nat → Nat × Nat → Prop
  | refl (a : Nat × Nat) : Up g a a
  | step {a b c : Nat × Nat} : regStep g a b → Up g b c → Up g a c

namespace Up

theorem trans {g : G} {a b c : Nat × Nat} (h1 : Up g a b) (h2 : Up g b c) : Up g a c := by
  induction h1 with
  | refl => exact h2
  | step hs _ ih => exact .step hs (ih h2)

theorem mono {g g' : G} (h : ∀ r ∈ g.regs, r ∈ g'.regs) {a b : Nat × Nat} (hu : Up g a b) : Up g' a b := by
  induction hu with
  | refl => exact .refl _
  | step hs _ ih =>
    obtain ⟨r, hr, h1⟩ := hs
    exact .step ⟨r, h r hr, h1⟩ ih

end Up

/-- no placeholder input port has two different publishers -/
def SingleReg (g : G) : Prop :=
  ∀ r ∈ g.regs, ∀ r' ∈ g.regs, r.fut = r'.fut → r.idx = r'.idx → r.pub = r'.pub ∧ r.out = r'.out

/-- no placeholder input port has two registrations (the same publisher twice included) -/
def KeyNodup (g : G) : Prop := (g.regs.map (fun r => (r.fut, r.idx))).Nodup

instance (g : G) : Decidable (KeyNodup g) := by unfold KeyNodup; infer_instance

theorem keyNodup_single {g : G} (h : KeyNodup g) : SingleReg g := by
  intro r hr r' hr' h1 h2
  have : r = r' := eq_of_nodup_map (fun r : Reg => (r.fut, r.idx)) h hr hr' (by simp [h1, h2])
  subst this
  exact ⟨rfl, rfl⟩

theorem regStep_fun {g : G} (hs : SingleReg g) {a b c : Nat × Nat} (h1 : regStep g a b) (h2 : regStep g a c) :
    b = c := by
  obtain ⟨r, hr, a1, a2, a3, a4⟩ := h1
  obtain ⟨r', hr', b1, b2, b3, b4⟩ := h2
  obtain ⟨e1, e2⟩ := hs r hr r' hr' (by rw [a1, b1]) (by rw [a2, b2])
  apply Prod.ext
  · rw [← a3, ← b3, e1]
  · rw [← a4, ← b4, e2]

theorem Up.comparable {g : G} (hs : SingleReg g) {a x y : Nat × Nat} (h1 : Up g a x) (h2 : Up g a y) :
    Up g x y ∨ Up g y x := by
  induction h1 with
  | refl => exact .inl h2
  | step hab hbx ih =>
    cases h2 with
    | refl => exact .inr (.step hab hbx)
    | step hab' hby =>
      have := regStep_fun hs hab hab'
      subst this
      exact ih hby

theorem tree_up (g : G) : ∀ (fuel n i : Nat) (x : Nat × Nat), x ∈ tree fuel g n i → Up g (n, i) x := by
  intro fuel
  induction fuel with
  | zero => intro n i x h; simp [tree] at h
  | succ k ih =>
    intro n i x h
    simp only [tree, List.mem_cons] at h
    rcases h with rfl | h
    · exact .refl _
    · split at h
      · simp only [List.mem_flatMap] at h
        obtain ⟨t, ht, hx⟩ := h
        exact .step (mem_pubsAt.mp ht) (ih t.1 t.2 x hx)
      · cases h

theorem up_worker {g : G} (i8 : I8 g) {n i : Nat} (hw : isWorker g n = true) {x : Nat × Nat}
    (h : Up g (n, i) x) : x = (n, i) := by
  cases h with
  | refl => rfl
  | step hs _ =>
    obtain ⟨r, hr, h1, _⟩ := hs
    have := (i8 r hr).1
    simp only at h1
    rw [h1] at this
    exact (not_worker_and_future g n hw this).elim

/-- the ports holding one subscription are totally ordered by `Up` -/
def Chain (g : G) : Prop :=
  ∀ e ∈ g.edges, ∀ e' ∈ g.edges, e.sub = e'.sub →
    Up g (e.pub, e.out) (e'.pub, e'.out) ∨ Up g (e'.pub, e'.out) (e.pub, e.out)

theorem i1_of_chain {g : G} (i8 : I8 g) (hc : Chain g) : I1 g := by
  intro e he e' he' hw hw' hs
  rcases hc e he e' he' hs with h | h
  · obtain ⟨h1, h2⟩ := Prod.mk.inj (up_worker i8 hw h)
    cases e; cases e'; simp only at h1 h2 hs; rw [h1, h2, hs]
  · obtain ⟨h1, h2⟩ := Prod.mk.inj (up_worker i8 hw' h)
    cases e; cases e'; simp only at h1 h2 hs; rw [← h1, ← h2, hs]

/-- every subscription has a port that all the ports holding it are upstream of (the port it was first published to);
unlike `Chain` this holds after every call sequence, several publishers per placeholder port included -/
def Rooted (g : G) : Prop := ∀ s : Sub, ∃ a : Nat × Nat, ∀ e ∈ g.edges, e.sub = s → Up g a (e.pub, e.out)

theorem chain_of_rooted {g : G} (hs : SingleReg g) (hr : Rooted g) : Chain g := by
  intro e he e' he' hsub
  obtain ⟨a, ha⟩ := hr e.sub
  exact Up.comparable hs (ha e he rfl) (ha e' he' hsub.symm)

/-- `Rooted` is kept when edges and registrations are appended and every subscription a new edge carries has a port
all its holders, old and new, are upstream of -/
theorem rooted_grow {g g' : G} {N : List Edge} {R : List Reg} (he : g'.edges = g.edges ++ N)
    (hr : g'.regs = g.regs ++ R) (h : Rooted g)
    (hN : ∀ e0 ∈ N, ∃ a : Nat × Nat, ∀ e ∈ g'.edges, e.sub = e0.sub → Up g' a (e.pub, e.out)) : Rooted g' := by
  intro s
  by_cases hnew : ∃ e0 ∈ N, e0.sub = s
  · obtain ⟨e0, h0, rfl⟩ := hnew
    exact hN e0 h0
  · obtain ⟨a, ha⟩ := h s
    refine ⟨a, fun e h1 hs => ?_⟩
    rw [he] at h1
    rcases List.mem_append.mp h1 with h1 | h1
    · exact Up.mono (by rw [hr]; exact fun _ h => List.mem_append_left _ h) (ha e h1 hs)
    · exact absurd ⟨e, h1, hs⟩ hnew

theorem rooted_publish {g : G} {p pi : Nat} {s : Sub} {L : List Edge} (h : Published g p pi s L) (hr : Rooted g) :
    Rooted (g.published s L) := by
  refine rooted_grow (R := []) rfl (List.append_nil _).symm hr fun e0 h0 => ⟨(p, pi), fun e he hes => ?_⟩
  -- the fresh subscription: every holder is on the tree of the port it was published to
  rw [(h.edge e0 h0).1] at hes
  rcases List.mem_append.mp he with he | he
  · exact absurd hes (h.fresh e he)
  · exact Up.mono (g := g) (g' := g.published s L) (fun _ h => h) (tree_up g _ p pi _ (h.along e he))

theorem rooted_register {g : G} {f i p pi : Nat} {L : List Edge} (hL : Registered g f i p pi L) (hr : Rooted g) :
    Rooted (g.registered ⟨f, i, p, pi⟩ L) := by
  let g1 : G := { g with regs := g.regs ++ [⟨f, i, p, pi⟩] }
  let g' : G := g.registered ⟨f, i, p, pi⟩ L
  have mono : ∀ {a b : Nat × Nat}, Up g a b → Up g' a b :=
    fun h => Up.mono (g' := g') (fun r hr => List.mem_append_left _ hr) h
  have hnew : regStep g' (f, i) (p, pi) := ⟨⟨f, i, p, pi⟩, List.mem_append_right _ (by simp), rfl, rfl, rfl, rfl⟩
  refine rooted_grow rfl rfl hr fun e0 _ => ?_
  obtain ⟨a, ha⟩ := hr e0.sub
  refine ⟨a, fun e he hes => ?_⟩
  rcases List.mem_append.mp he with he | he
  · exact mono (ha e he hes)
  · -- a new holder is upstream of the registered publisher, and the placeholder port held the subscription before
    obtain ⟨hfi, _, _, _, ht⟩ := hL.edge e he
    exact (mono (ha _ hfi hes)).trans
      (.step hnew (Up.mono (g := g1) (g' := g') (fun _ h => h) (tree_up g1 _ p pi _ ht)))

end ForML.Graph
