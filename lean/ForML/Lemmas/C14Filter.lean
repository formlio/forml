/-
C14 — the parser state, for both variants of the parser (`fix`): what `filter` / `release` / `visit_join` and the visit
of a source (`run_state`) leave among the registered factors, and the two invariants of the filter theorem, `FromSeen`
(every registered factor comes from a condition registered so far) and `Justified` (the factors of the origins below a
node come from the conditions pending above it).  All of it is stated through `FactorOf len P x`: the pair `x` (table,
predicate) is among the factors of one of the conditions `P`.
-/
import ForML.Lemmas.C14Prune
import ForML.Lemmas.C14Cols

namespace ForML.PushDown
open ForML.Dsl

def FactorOf (len : Bool) (P : List Feature) (x : Source × Feature) : Prop :=
  ∃ p ∈ P, ∃ m, factorsOf len p = .ok m ∧ x ∈ m

namespace FactorOf
variable {len : Bool} {P P' : List Feature} {x : Source × Feature}

theorem mono (h : FactorOf len P x) (hP : ∀ p ∈ P, p ∈ P') : FactorOf len P' x :=
  let ⟨p, hp, h⟩ := h
  ⟨p, hP p hp, h⟩

theorem ok (S : Sem) (h : FactorOf len P x) : ∃ p ∈ P, FactorOK S (toPred p) x.1 x.2 :=
  let ⟨p, hp, m, hm, hx⟩ := h
  ⟨p, hp, factorsP_sound len S (toPred p) m hm x.1 x.2 hx⟩

theorem isTable (h : FactorOf len P x) : isTable x.1 = true :=
  let ⟨_, _, k⟩ := h.ok trivialSem
  k.table

theorem elem (h : FactorOf len P x) : ∃ p ∈ P, ∃ n, (x.1, n) ∈ elems p := by
  obtain ⟨p, hp, k⟩ := h.ok trivialSem
  obtain ⟨⟨o, n⟩, he⟩ := List.exists_mem_of_ne_nil _ k.nonempty
  obtain rfl : o = x.1 := k.own _ he
  exact ⟨p, hp, n, k.spec.2.2.1 _ he⟩

end FactorOf

theorem filter_factors_mem {fix len : Bool} {st : Segs} {e : Feature} {ex : List Source} {x : Source × Feature}
    (h : x ∈ (st.filter fix len e ex).factors) : x ∈ st.factors ∨ (FactorOf len [e] x ∧ x.1 ∉ ex) := by
  unfold Segs.filter at h
  cases hf : factorsOf len e with
  | ok m =>
    simp only [hf] at h
    rcases mem_addAll.mp h with h | h
    · exact Or.inl h
    · obtain ⟨hm, hx⟩ := List.mem_filter.mp h
      exact Or.inr ⟨⟨e, List.mem_singleton.mpr rfl, m, hf, hm⟩, by simpa using hx⟩
  | error x =>
    simp only [hf] at h
    exact Or.inl h

theorem filterOpt_factors_mem {fix len : Bool} {st : Segs} {c : FeatureOpt} {ex : List Source} {x : Source × Feature}
    (h : x ∈ (st.filterOpt fix len c ex).factors) : x ∈ st.factors ∨ (FactorOf len (optList c) x ∧ x.1 ∉ ex) := by
  cases c with
  | none => exact Or.inl h
  | some c => exact filter_factors_mem h

theorem filterOpt_factors_mono {fix len : Bool} {st : Segs} {c : FeatureOpt} {ex : List Source} {x : Source × Feature}
    (h : x ∈ st.factors) : x ∈ (st.filterOpt fix len c ex).factors := by
  cases c with
  | none => exact h
  | some c =>
    show x ∈ (st.filter fix len c ex).factors
    unfold Segs.filter
    cases factorsOf len c with
    | ok m => exact mem_addAll.mpr (Or.inl h)
    | error x => exact h

theorem release_factors_mem {st : Segs} {os : List Source} {x : Source × Feature} :
    x ∈ (st.release os).factors ↔ x ∈ st.factors ∧ x.1 ∉ os := by
  simp [Segs.release, List.mem_filter]

/-- what `visit_join` leaves in the factors: what was there minus the released origins, and the factors of the
condition minus the exempt origins -/
theorem joinCtx_factors_mem {fix len : Bool} {st : Segs} {l r : Source} {k : JoinKind} {c : FeatureOpt}
    {x : Source × Feature} (h : x ∈ (joinCtx fix len st l r k c).factors) :
    (x ∈ st.factors ∧ x.1 ∉ released fix l r k) ∨ (FactorOf len (optList c) x ∧ x.1 ∉ exempt fix l r k) :=
  (filterOpt_factors_mem h).imp_left release_factors_mem.mp

/-- every registered factor is a factor of one of the conditions `Q` registered so far -/
def FromSeen (len : Bool) (Q : List Feature) (st : Segs) : Prop := ∀ x ∈ st.factors, FactorOf len Q x

/-- every factor registered for one of the origins `ts` is a factor of a condition in `P` -/
def Justified (len : Bool) (P : List Feature) (st : Segs) (ts : List Source) : Prop :=
  ∀ x ∈ st.factors, x.1 ∈ ts → FactorOf len P x

theorem Justified.subset {len : Bool} {P : List Feature} {st : Segs} {ts ts' : List Source} (h : Justified len P st ts)
    (hs : ∀ t ∈ ts', t ∈ ts) : Justified len P st ts' := fun x hx hxt => h x hx (hs _ hxt)

theorem fromSeen_joinCtx {fix len : Bool} {Q : List Feature} {st : Segs} (l r : Source) (k : JoinKind) (c : FeatureOpt)
    (h : FromSeen len Q st) : FromSeen len (optList c ++ Q) (joinCtx fix len st l r k c) := fun x hx =>
  (joinCtx_factors_mem hx).elim (fun hx => (h x hx.1).mono fun _ => List.mem_append_right _)
    (fun hf => hf.1.mono fun _ => List.mem_append_left _)

theorem queryCtx_factors_mem {fix len : Bool} {err : Option Err} {src : Source} {sel : Features} {pre : FeatureOpt}
    {grp : Features} {post : FeatureOpt} {ord : Orderings} {x : Source × Feature}
    (hx : x ∈ (queryCtx fix len err src sel pre grp post ord).factors) : FactorOf len (optList pre) x := by
  unfold queryCtx at hx
  simp only [select_factors] at hx
  rcases filterOpt_factors_mem hx with hx | hf
  · cases hx
  · exact hf.1

theorem run_state (fix len : Bool) (S : Sem) (B : Backend) (db : Db) (s : Source) (hw : shaped s = true) :
    (∀ st, ∀ x ∈ (run fix len S B db s st).st.factors, x ∈ st.factors ∨ FactorOf len (condsOf s) x)
    ∧ (isStmt s = true → ∀ st,
        (run fix len S B db s st).st.fields = st.fields ∧ (run fix len S B db s st).st.factors = st.factors) := by
  refine shaped_induction
    (A := fun s => ∀ st, ∀ x ∈ (run fix len S B db s st).st.factors, x ∈ st.factors ∨ FactorOf len (condsOf s) x)
    (B := fun s => ∀ st,
      (run fix len S B db s st).st.fields = st.fields ∧ (run fix len S B db s st).st.factors = st.factors)
    ?_ ?_ ?_ ?_ ?_ ?_ ?_ s hw
  · intro n fs st x hx
    exact Or.inl hx
  · intro i nm ht st x hx
    simp only [run, ht, if_true] at hx
    exact Or.inl hx
  · intro i nm ht ih st x hx
    simp only [run, ht, Bool.false_eq_true, if_false] at hx
    exact Or.inl ((ih st).2 ▸ hx)
  · intro l r k c iha ihb st x hx
    simp only [run] at hx
    simp only [condsOf]
    rcases ihb _ x hx with hx | hf
    · rcases iha _ x hx with hx | hf
      · rcases joinCtx_factors_mem hx with ⟨hx, _⟩ | ⟨hf, _⟩
        · exact Or.inl hx
        · exact Or.inr (hf.mono fun _ h => List.mem_append_left _ (List.mem_append_left _ h))
      · exact Or.inr (hf.mono fun _ h => List.mem_append_left _ (List.mem_append_right _ h))
    · exact Or.inr (hf.mono fun _ => List.mem_append_right _)
  · intro l r k iha ihb st
    simp only [run]
    exact ⟨(ihb _).1.trans (iha st).1, (ihb _).2.trans (iha st).2⟩
  · intro src sel pre grp post ord rows _ st
    exact ⟨rfl, rfl⟩
  · intro s _ h st x hx
    exact Or.inl ((h st).2 ▸ hx)

theorem fromSeen_run {fix len : Bool} {S : Sem} {B : Backend} {db : Db} {s : Source} {Q : List Feature} {st : Segs}
    (hw : shaped s = true) (h : FromSeen len Q st) : FromSeen len (condsOf s ++ Q) (run fix len S B db s st).st :=
  fun x hx => ((run_state fix len S B db s hw).1 st x hx).elim (fun hx => (h x hx).mono fun _ => List.mem_append_right _)
    (fun hf => hf.mono fun _ => List.mem_append_left _)

/-- visiting a join tree registers nothing for origins that are not its own: its conditions are over its origins -/
theorem justified_run {fix len : Bool} {S : Sem} {B : Backend} {db : Db} {s : Source} {P : List Feature} {st : Segs}
    {ts : List Source} (hw : shaped s = true) (hjs : joinsScoped s = true) (hdisj : ∀ o ∈ ts, o ∉ origins s)
    (h : Justified len P st ts) : Justified len P (run fix len S B db s st).st ts := fun x hx hxt => by
  rcases (run_state fix len S B db s hw).1 st x hx with hx | hf
  · exact h x hx hxt
  · obtain ⟨p, hp, n, hn⟩ := hf.elem
    exact absurd (conds_scoped s hjs _ (List.mem_flatMap.mpr ⟨p, hp, hn⟩)) (hdisj _ hxt)

theorem run_indep (fix len : Bool) (S1 S2 : Sem) (B1 B2 : Backend) (db1 db2 : Db) :
    ∀ (s : Source) (st : Segs),
      (run fix len S1 B1 db1 s st).st = (run fix len S2 B2 db2 s st).st ∧
      (run fix len S1 B1 db1 s st).hints = (run fix len S2 B2 db2 s st).hints
  | .table n fs, st => by simp [run]
  | .ref i nm, st => by
    simp only [run]
    by_cases ht : isTable i = true
    · simp [ht]
    · simp only [ht, Bool.false_eq_true, if_false]
      exact run_indep fix len S1 S2 B1 B2 db1 db2 i st
  | .join l r k c, st => by
    simp only [run]
    have ha := run_indep fix len S1 S2 B1 B2 db1 db2 l (joinCtx fix len st l r k c)
    have hb := run_indep fix len S1 S2 B1 B2 db1 db2 r (run fix len S2 B2 db2 l (joinCtx fix len st l r k c)).st
    rw [ha.1, ha.2, hb.1, hb.2]
    exact ⟨rfl, rfl⟩
  | .set l r k, st => by
    simp only [run]
    have ha := run_indep fix len S1 S2 B1 B2 db1 db2 l st
    have hb := run_indep fix len S1 S2 B1 B2 db1 db2 r (run fix len S2 B2 db2 l st).st
    rw [ha.1, ha.2, hb.1, hb.2]
    exact ⟨rfl, rfl⟩
  | .query src sel pre grp post ord rows, st => by
    simp only [run]
    have ha := run_indep fix len S1 S2 B1 B2 db1 db2 src (queryCtx fix len st.err src sel pre grp post ord)
    exact ⟨by rw [ha.1], ha.2⟩

theorem get_of_row {e : Env} {t : Source} {r : Row} (h : e.row t = r) (n : String) : e.get t n = r.get n := by
  simp [Env.get, h]

theorem mem_hint_pred {st : Segs} {k t : Source} {f : Feature} : f ∈ (hintOf st k t).pred ↔ (k, f) ∈ st.factors := by
  simp only [hintOf, List.mem_map, List.mem_filter, decide_eq_true_eq]
  constructor
  · rintro ⟨⟨k', f'⟩, ⟨hx, rfl⟩, rfl⟩
    exact hx
  · exact fun h => ⟨(k, f), ⟨h, rfl⟩, rfl⟩

/-- a row rejected by the offered filter is doomed by the condition the failing factor came from -/
theorem doomed_of_not_passes (len : Bool) (S : Sem) {P : List Feature} {st : Segs} {t : Source}
    (hj : Justified len P st [t]) {r : Row} (hp : passes S (hintOf st t t) r = false) : Doomed S P [(t, r)] := by
  unfold passes at hp
  simp only [Bool.or_eq_false_iff] at hp
  obtain ⟨hne, hall⟩ := hp
  have hne' : (hintOf st t t).pred ≠ [] := by
    intro h
    simp [h] at hne
  obtain ⟨f, hf⟩ := List.exists_mem_of_ne_nil _ hne'
  obtain ⟨p, hpP, k⟩ := (hj (t, f) (mem_hint_pred.mp hf) (List.mem_singleton.mpr rfl)).ok S
  refine ⟨p, hpP, fun e' hext htrue => ?_⟩
  have h1 : eval S e' f = .bool true := k.spec.2.2.2 e' htrue
  have h2 : eval S e' f = eval S [(t, r)] f := by
    apply eval_congr
    intro el hel
    rw [k.own el hel]
    exact get_of_row (hext t (by simp [dom])) _
  have h3 : holds S [(t, r)] f = false := by
    rw [List.any_eq_false] at hall
    have := hall f hf
    simpa [hintOf] using this
  rw [h2] at h1
  simp [holds, h1] at h3

theorem passes_of_pred_nil (S : Sem) {h : Hint} (hp : h.pred = []) (r : Row) : passes S h r = true := by
  simp [passes, hp]

def NoFactor (len : Bool) (P : List Feature) (os : List Source) : Prop := ∀ x, FactorOf len P x → x.1 ∉ os

theorem NoFactor.mono {len : Bool} {P P' : List Feature} {os os' : List Source} (h : NoFactor len P os)
    (hP : ∀ p ∈ P', p ∈ P) (ho : ∀ o ∈ os', o ∈ os) : NoFactor len P' os' :=
  fun x hx hxo => h x (hx.mono hP) (ho _ hxo)

theorem noFactorFor_iff {len : Bool} {P : List Feature} {os : List Source} :
    noFactorFor len P os = true ↔ NoFactor len P os := by
  simp only [noFactorFor, List.all_eq_true, Bool.not_eq_true', List.contains_eq_mem, decide_eq_false_iff_not]
  constructor
  · intro h x ⟨p, hp, m, hm, hx⟩ ho
    exact h x.1 ho p hp (by simp only [factorTables, hm]; exact List.mem_map.mpr ⟨x, hx, rfl⟩)
  · intro h o ho p hp hin
    unfold factorTables at hin
    cases hm : factorsOf len p with
    | error e => simp [hm] at hin
    | ok m =>
      simp only [hm, List.mem_map] at hin
      obtain ⟨x, hx, rfl⟩ := hin
      exact h x ⟨p, hp, m, hm, hx⟩ ho

/-- the scan behind a reference to a table is offered no filter: its own segment never holds a factor in the repaired
code, and in the code that exists the statement is outside the region of C14-F2 -/
theorem ref_pred_nil {fix len : Bool} {Q : List Feature} {st : Segs} {i : Source} {nm : String}
    (hq : FromSeen len Q st) (hs : (fix || noFactorFor len Q [i]) = true) :
    (hintOf st (keyOf fix (.ref i nm)) i).pred = [] := by
  rw [List.eq_nil_iff_forall_not_mem]
  intro f hf
  rw [mem_hint_pred] at hf
  cases fix with
  | true =>
    have := (hq _ hf).isTable
    simp [keyOf, isTable] at this
  | false =>
    simp only [Bool.false_or] at hs
    exact noFactorFor_iff.mp hs (i, f) (by simpa [keyOf, inst] using hq _ hf) (List.mem_singleton.mpr rfl)

end ForML.PushDown
