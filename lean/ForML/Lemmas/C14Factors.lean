/-
C14 — Kleene connectives, evaluation depends only on the elements a feature mentions, and the factors of a condition
are implied by it.  Soundness is proved for `Factors.merge` with its sameness test as a parameter
(`factorsPG_sound`); `factorsP` is the instance with structural identity (`factorsP_sound`), the code of /repo before
7aea4fe (finding C14-X7) the instance with the hash test (`sameHash`), which agrees with it on every condition all of
whose integer literals are their own CPython hash (`plainP`: no `-1`, nothing beyond ±(2^61-2); `factorsPG_hash_plain`).
-/
import ForML.Model.PushDown
import ForML.Lemmas.ListFacts

namespace ForML.PushDown
open ForML.Dsl

theorem and3_true {a b : Val} : and3 a b = .bool true ↔ a = .bool true ∧ b = .bool true := by
  constructor
  · intro h
    unfold and3 at h
    split at h
    · cases h
    · cases h
    · exact ⟨rfl, rfl⟩
    · cases h
  · rintro ⟨rfl, rfl⟩
    rfl

theorem or3_true {a b : Val} : or3 a b = .bool true ↔ a = .bool true ∨ b = .bool true := by
  constructor
  · intro h
    unfold or3 at h
    split at h
    · exact Or.inl rfl
    · exact Or.inr rfl
    · cases h
    · cases h
  · rintro (rfl | rfl)
    · rfl
    · cases a with
      | bool x => cases x <;> rfl
      | _ => rfl

mutual
theorem eval_congr (S : Sem) (e1 e2 : Env) :
    ∀ f : Feature, (∀ el ∈ elems f, e1.get el.1 el.2 = e2.get el.1 el.2) → eval S e1 f = eval S e2 f
  | .lit _, _ => by simp only [eval]
  | .elem o n, h => by
    simp only [eval]
    exact h (o, n) (by simp only [elems, List.mem_singleton])
  | .alias f _, h => by
    simp only [eval]
    exact eval_congr S e1 e2 f (by simpa only [elems] using h)
  | .expr op args, h => by
    simp only [eval]
    rw [evalL_congr S e1 e2 args (by simpa only [elems] using h)]
  | .cast f k, h => by
    simp only [eval]
    rw [eval_congr S e1 e2 f (by simpa only [elems] using h)]
  | .window _ _ _, _ => by simp only [eval]
theorem evalL_congr (S : Sem) (e1 e2 : Env) :
    ∀ fs : Features, (∀ el ∈ elemsL fs, e1.get el.1 el.2 = e2.get el.1 el.2) → evalL S e1 fs = evalL S e2 fs
  | .nil, _ => by simp only [evalL]
  | .cons f fs, h => by
    simp only [elemsL, List.mem_append] at h
    simp only [evalL]
    rw [eval_congr S e1 e2 f (fun el hel => h el (Or.inl hel)), evalL_congr S e1 e2 fs (fun el hel => h el (Or.inr hel))]
end

/-- the condition a boolean skeleton was taken of -/
def Pred.feature : Pred → Feature
  | .atom f => f
  | .other f => f
  | .and a b => binop .and a.feature b.feature
  | .or a b => binop .or a.feature b.feature

theorem feature_toPred (f : Feature) : (toPred f).feature = f := by
  fun_induction toPred f with
  | case1 a b iha ihb => simp only [Pred.feature, iha, ihb, binop]
  | case2 a b iha ihb => simp only [Pred.feature, iha, ihb, binop]
  | case3 a => rfl
  | case4 op args _ _ _ h => rfl
  | case5 op args _ _ _ h => rfl
  | case6 f _ _ _ _ => rfl

theorem elems_binop (op : Op) (a b : Feature) (x : Elem) : x ∈ elems (binop op a b) ↔ x ∈ elems a ∨ x ∈ elems b := by
  simp [binop, elems, elemsL]

theorem eval_and_true {S : Sem} {e : Env} {a b : Feature} :
    eval S e (binop .and a b) = .bool true ↔ eval S e a = .bool true ∧ eval S e b = .bool true := by
  simp only [binop, eval, evalL, applyOp]
  exact and3_true

theorem eval_or_true {S : Sem} {e : Env} {a b : Feature} :
    eval S e (binop .or a b) = .bool true ↔ eval S e a = .bool true ∨ eval S e b = .bool true := by
  simp only [binop, eval, evalL, applyOp]
  exact or3_true

theorem mem_primitive {g f : Feature} {t : Source} (h : (t, f) ∈ primitive g) :
    f = g ∧ isTable t = true ∧ elems g ≠ [] ∧ ∀ e ∈ elems g, e.1 = t := by
  unfold primitive at h
  split at h
  · cases h
  · rename_i o n rest heq
    obtain ⟨hc, h⟩ := mem_ite_singleton.mp h
    simp only [Bool.and_eq_true, List.all_eq_true, beq_iff_eq] at hc
    obtain ⟨rfl, rfl⟩ := Prod.mk.inj h
    refine ⟨rfl, hc.1, by simp [heq], fun e he => ?_⟩
    rw [heq] at he
    rcases List.mem_cons.mp he with rfl | he
    · rfl
    · exact hc.2 e he

/-- what makes `f` a sound row filter for table `t` given the condition `p` -/
structure FactorOK (S : Sem) (p : Pred) (t : Source) (f : Feature) : Prop where
  table : isTable t = true
  own : ∀ e ∈ elems f, e.1 = t
  nonempty : elems f ≠ []
  sub : ∀ e ∈ elems f, e ∈ elems p.feature
  sound : ∀ env, eval S env p.feature = .bool true → eval S env f = .bool true

namespace FactorOK
variable {S : Sem} {t : Source} {a b : Pred} {f fa fb : Feature}

theorem spec {p : Feature} (k : FactorOK S (toPred p) t f) :
    isTable t = true ∧ (∀ e ∈ elems f, e.1 = t) ∧ (∀ e ∈ elems f, e ∈ elems p) ∧
      ∀ env, eval S env p = .bool true → eval S env f = .bool true := by
  have hsub := k.sub
  have hsound := k.sound
  rw [feature_toPred] at hsub hsound
  exact ⟨k.table, k.own, hsub, hsound⟩

theorem widen {p q : Pred} (k : FactorOK S p t f) (hsub : ∀ e ∈ elems p.feature, e ∈ elems q.feature)
    (hs : ∀ env, eval S env q.feature = .bool true → eval S env f = .bool true) : FactorOK S q t f :=
  ⟨k.table, k.own, k.nonempty, fun e he => hsub e (k.sub e he), hs⟩

/-- only soundness depends on the operator -/
theorem combine {p : Pred} (op : Op) (ka : FactorOK S a t fa) (kb : FactorOK S b t fb)
    (ha : ∀ e ∈ elems a.feature, e ∈ elems p.feature) (hb : ∀ e ∈ elems b.feature, e ∈ elems p.feature)
    (hs : ∀ env, eval S env p.feature = .bool true → eval S env (binop op fa fb) = .bool true) :
    FactorOK S p t (binop op fa fb) := by
  refine ⟨ka.table, fun e he => ?_, fun hn => ?_, fun e he => ?_, hs⟩
  · exact ((elems_binop _ _ _ _).mp he).elim (ka.own e) (kb.own e)
  · obtain ⟨e, he⟩ := List.exists_mem_of_ne_nil _ ka.nonempty
    exact List.ne_nil_of_mem ((elems_binop op fa fb e).mpr (Or.inl he)) hn
  · exact ((elems_binop _ _ _ _).mp he).elim (fun h => ha e (ka.sub e h)) (fun h => hb e (kb.sub e h))

end FactorOK

variable {same : Feature → Feature → Bool}

theorem mem_mergeFG {op : Op} {l r : FMap} {t : Source} {f : Feature} (h : (t, f) ∈ mergeFG same op l r) :
    (t, f) ∈ l ∨ (t, f) ∈ r ∨ ∃ a b, (t, a) ∈ l ∧ (t, b) ∈ r ∧ f = binop op a b := by
  unfold mergeFG at h
  rcases List.mem_append.mp h with h | h
  · obtain ⟨⟨k, a⟩, hkv, heq⟩ := List.mem_map.mp h
    cases hl : r.lookup k with
    | none =>
      simp only [hl] at heq
      exact Or.inl (heq ▸ hkv)
    | some b =>
      simp only [hl] at heq
      split at heq
      · exact Or.inl (heq ▸ hkv)
      · cases heq
        exact Or.inr (Or.inr ⟨a, b, hkv, mem_of_lookup hl, rfl⟩)
  · exact Or.inr (Or.inl (List.mem_filter.mp h).1)

theorem mem_orFG {l r : FMap} {t : Source} {f : Feature} (h : (t, f) ∈ orFG same l r) :
    (∃ b, (t, f) ∈ l ∧ (t, b) ∈ r ∧ same f b = true) ∨ (∃ a b, (t, a) ∈ l ∧ (t, b) ∈ r ∧ f = binop .or a b) := by
  unfold orFG at h
  obtain ⟨⟨k, a⟩, hkv, heq⟩ := List.mem_filterMap.mp h
  cases hl : r.lookup k with
  | none => simp [hl] at heq
  | some b =>
    simp only [hl, Option.some.injEq] at heq
    split at heq
    · rename_i hab
      cases heq
      exact Or.inl ⟨b, hkv, mem_of_lookup hl, hab⟩
    · cases heq
      exact Or.inr ⟨a, b, hkv, mem_of_lookup hl, rfl⟩

theorem mergeFG_congr {same' : Feature → Feature → Bool} (op : Op) {l r : FMap}
    (h : ∀ x ∈ l, ∀ y ∈ r, same x.2 y.2 = same' x.2 y.2) : mergeFG same op l r = mergeFG same' op l r := by
  unfold mergeFG
  congr 1
  apply List.map_congr_left
  intro kv hkv
  cases hb : r.lookup kv.1 with
  | none => rfl
  | some b => simp only [h kv hkv _ (mem_of_lookup hb)]

theorem orFG_congr {same' : Feature → Feature → Bool} {l r : FMap}
    (h : ∀ x ∈ l, ∀ y ∈ r, same x.2 y.2 = same' x.2 y.2) : orFG same l r = orFG same' l r := by
  unfold orFG
  apply filterMap_congr
  intro kv hkv
  cases hb : r.lookup kv.1 with
  | none => rfl
  | some b => simp only [h kv hkv _ (mem_of_lookup hb)]

theorem factorsPG_and_ok {len : Bool} {a b : Pred} {m : FMap} (h : factorsPG same len (.and a b) = .ok m) :
    ∃ l r, factorsPG same len a = .ok l ∧ factorsPG same len b = .ok r ∧ m = mergeFG same .and l r := by
  simp only [factorsPG] at h
  split at h
  · rename_i l r hl hr
    exact ⟨l, r, hl, hr, (Except.ok.inj h).symm⟩
  · cases h
  · cases h

theorem factorsPG_or_ok {len : Bool} {a b : Pred} {m : FMap} (h : factorsPG same len (.or a b) = .ok m) :
    ∃ l r, factorsPG same len a = .ok l ∧ factorsPG same len b = .ok r ∧ m = orFG same l r := by
  simp only [factorsPG] at h
  split at h
  · rename_i l r hl hr
    exact ⟨l, r, hl, hr, (Except.ok.inj h).symm⟩
  · cases h
  · cases h

theorem factorsPG_other_ok {len : Bool} {g : Feature} {m : FMap} (h : factorsPG same len (.other g) = .ok m) : m = [] := by
  simp only [factorsPG] at h
  split at h
  · exact (Except.ok.inj h).symm
  · cases h

/-! `merge` under AND keeps `left[k]` alone when the test calls the two factors the same: a weaker filter, never a wrong
one, whatever the test.  `Factors.__or__` does the same, and that is sound exactly when the right factor being TRUE
forces the left one to be TRUE (`ImpliedTest`): structural identity has it, the hash test has not.  So the test only
matters under a disjunction. -/

/-- the boolean skeleton contains no disjunction -/
def orFree : Pred → Bool
  | .atom _ => true
  | .other _ => true
  | .and a b => orFree a && orFree b
  | .or _ _ => false

/-- whenever the test calls `a` and `b` the same, every environment on which `b` is TRUE makes `a` TRUE -/
def ImpliedTest (S : Sem) (same : Feature → Feature → Bool) : Prop :=
  ∀ a b, same a b = true → ∀ env, eval S env b = .bool true → eval S env a = .bool true

theorem impliedTest_structural (S : Sem) : ImpliedTest S (fun a b => decide (a = b)) :=
  fun _ _ h _ hb => of_decide_eq_true h ▸ hb

theorem factorsPG_sound (len : Bool) (S : Sem) :
    ∀ (p : Pred), orFree p = true ∨ ImpliedTest S same →
      ∀ (m : FMap), factorsPG same len p = .ok m → ∀ t f, (t, f) ∈ m → FactorOK S p t f
  | .atom g, _, m, h, t, f, hm => by
    simp only [factorsPG, Except.ok.injEq] at h
    obtain ⟨rfl, ht, hne, hown⟩ := mem_primitive (h ▸ hm)
    exact ⟨ht, hown, hne, fun _ he => he, fun _ he => he⟩
  | .other g, _, m, h, t, f, hm => by
    rw [factorsPG_other_ok h] at hm
    cases hm
  | .and a b, hs, m, h, t, f, hm => by
    obtain ⟨l, r, hl, hr, rfl⟩ := factorsPG_and_ok h
    have hs' : (orFree a = true ∧ orFree b = true) ∨ ImpliedTest S same :=
      hs.imp_left (by simp only [orFree, Bool.and_eq_true]; exact id)
    have iha := factorsPG_sound len S a (hs'.imp_left And.left) l hl t
    have ihb := factorsPG_sound len S b (hs'.imp_left And.right) r hr t
    have inl : ∀ e ∈ elems a.feature, e ∈ elems (Pred.and a b).feature := fun e he => (elems_binop _ _ _ e).mpr (Or.inl he)
    have inr : ∀ e ∈ elems b.feature, e ∈ elems (Pred.and a b).feature := fun e he => (elems_binop _ _ _ e).mpr (Or.inr he)
    rcases mem_mergeFG hm with h1 | h1 | ⟨fa, fb, h1, h2, rfl⟩
    · exact (iha f h1).widen inl (fun env he => (iha f h1).sound env (eval_and_true.mp he).1)
    · exact (ihb f h1).widen inr (fun env he => (ihb f h1).sound env (eval_and_true.mp he).2)
    · exact .combine .and (iha fa h1) (ihb fb h2) inl inr (fun env he =>
        eval_and_true.mpr ⟨(iha fa h1).sound env (eval_and_true.mp he).1, (ihb fb h2).sound env (eval_and_true.mp he).2⟩)
  | .or a b, hs, m, h, t, f, hm => by
    obtain ⟨l, r, hl, hr, rfl⟩ := factorsPG_or_ok h
    have hsame : ImpliedTest S same := hs.resolve_left (by simp [orFree])
    have iha := factorsPG_sound len S a (Or.inr hsame) l hl t
    have ihb := factorsPG_sound len S b (Or.inr hsame) r hr t
    have inl : ∀ e ∈ elems a.feature, e ∈ elems (Pred.or a b).feature := fun e he => (elems_binop _ _ _ e).mpr (Or.inl he)
    have inr : ∀ e ∈ elems b.feature, e ∈ elems (Pred.or a b).feature := fun e he => (elems_binop _ _ _ e).mpr (Or.inr he)
    rcases mem_orFG hm with ⟨fb, h1, h2, hsm⟩ | ⟨fa, fb, h1, h2, rfl⟩
    · refine (iha f h1).widen inl (fun env he => ?_)
      rcases eval_or_true.mp he with he | he
      · exact (iha f h1).sound env he
      · exact hsame f fb hsm env ((ihb fb h2).sound env he)
    · exact .combine .or (iha fa h1) (ihb fb h2) inl inr (fun env he =>
        eval_or_true.mpr ((eval_or_true.mp he).imp ((iha fa h1).sound env) ((ihb fb h2).sound env)))

theorem mergeFG_structural (op : Op) (l r : FMap) : mergeFG (fun a b => decide (a = b)) op l r = mergeF op l r := by
  simp [mergeFG, mergeF]

theorem orFG_structural (l r : FMap) : orFG (fun a b => decide (a = b)) l r = orF l r := by
  simp [orFG, orF]

theorem factorsPG_structural (len : Bool) : ∀ p : Pred, factorsPG (fun a b => decide (a = b)) len p = factorsP len p
  | .atom f => rfl
  | .other f => rfl
  | .and a b => by
    simp only [factorsPG, factorsP, factorsPG_structural len a, factorsPG_structural len b, mergeFG_structural, andF]
  | .or a b => by
    simp only [factorsPG, factorsP, factorsPG_structural len a, factorsPG_structural len b, orFG_structural]

theorem factorsP_sound (len : Bool) (S : Sem) (p : Pred) (m : FMap) (h : factorsP len p = .ok m) (t : Source)
    (f : Feature) (hm : (t, f) ∈ m) : FactorOK S p t f :=
  factorsPG_sound len S p (Or.inr (impliedTest_structural S)) m ((factorsPG_structural len p).trans h) t f hm

/-- a feature that is its own hash key: hash equality with another such feature is identity -/
def plain (f : Feature) : Bool := hashKey f == f

theorem sameHash_plain {a b : Feature} (ha : plain a = true) (hb : plain b = true) : sameHash a b = decide (a = b) := by
  simp only [plain, beq_iff_eq] at ha hb
  simp only [sameHash, ha, hb, Bool.beq_eq_decide_eq]

theorem plain_binop (op : Op) {a b : Feature} (ha : plain a = true) (hb : plain b = true) : plain (binop op a b) = true := by
  simp only [plain, beq_iff_eq] at ha hb ⊢
  simp only [binop, hashKey, hashKeyL, ha, hb]

/-- every atom of the boolean skeleton is plain -/
def plainP : Pred → Bool
  | .atom f => plain f
  | .other _ => true
  | .and a b => plainP a && plainP b
  | .or a b => plainP a && plainP b

def PlainMap (m : FMap) : Prop := ∀ x ∈ m, plain x.2 = true

theorem factorsPG_plain (len : Bool) : ∀ (p : Pred), plainP p = true → ∀ m, factorsPG same len p = .ok m → PlainMap m
  | .atom g, hp, m, h => by
    simp only [factorsPG, Except.ok.injEq] at h
    rintro ⟨t, f⟩ hx
    exact (mem_primitive (h ▸ hx)).1 ▸ hp
  | .other g, _, m, h => by
    rw [factorsPG_other_ok h]
    exact fun _ hx => absurd hx List.not_mem_nil
  | .and a b, hp, m, h => by
    simp only [plainP, Bool.and_eq_true] at hp
    obtain ⟨l, r, hl, hr, rfl⟩ := factorsPG_and_ok h
    have iha := factorsPG_plain len a hp.1 l hl
    have ihb := factorsPG_plain len b hp.2 r hr
    rintro ⟨t, f⟩ hx
    rcases mem_mergeFG hx with h1 | h1 | ⟨fa, fb, h1, h2, rfl⟩
    · exact iha _ h1
    · exact ihb _ h1
    · exact plain_binop .and (iha _ h1) (ihb _ h2)
  | .or a b, hp, m, h => by
    simp only [plainP, Bool.and_eq_true] at hp
    obtain ⟨l, r, hl, hr, rfl⟩ := factorsPG_or_ok h
    have iha := factorsPG_plain len a hp.1 l hl
    have ihb := factorsPG_plain len b hp.2 r hr
    rintro ⟨t, f⟩ hx
    rcases mem_orFG hx with ⟨_, h1, _, _⟩ | ⟨fa, fb, h1, h2, rfl⟩
    · exact iha _ h1
    · exact plain_binop .or (iha _ h1) (ihb _ h2)

/-- on conditions without hash-colliding literals the hash test and structural identity yield the same factors -/
theorem factorsPG_hash_plain (len : Bool) :
    ∀ p : Pred, plainP p = true → factorsPG sameHash len p = factorsPG (fun a b => decide (a = b)) len p
  | .atom f, _ => rfl
  | .other f, _ => rfl
  | .and a b, hp => by
    simp only [plainP, Bool.and_eq_true] at hp
    have iha := factorsPG_plain (same := sameHash) len a hp.1
    have ihb := factorsPG_plain (same := sameHash) len b hp.2
    simp only [factorsPG, ← factorsPG_hash_plain len a hp.1, ← factorsPG_hash_plain len b hp.2]
    split
    · rename_i l r hl hr
      rw [mergeFG_congr (same' := fun a b => decide (a = b)) .and (fun x hx y hy => sameHash_plain (iha l hl x hx) (ihb r hr y hy))]
    · rfl
    · rfl
  | .or a b, hp => by
    simp only [plainP, Bool.and_eq_true] at hp
    have iha := factorsPG_plain (same := sameHash) len a hp.1
    have ihb := factorsPG_plain (same := sameHash) len b hp.2
    simp only [factorsPG, ← factorsPG_hash_plain len a hp.1, ← factorsPG_hash_plain len b hp.2]
    split
    · rename_i l r hl hr
      rw [orFG_congr (same' := fun a b => decide (a = b)) (fun x hx y hy => sameHash_plain (iha l hl x hx) (ihb r hr y hy))]
    · rfl
    · rfl

end ForML.PushDown
