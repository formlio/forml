/-
C18: generation tags through the `toml` writer and reader.

String ordinals go through the basic-string writer (`dumpStr`) and reader (`loadStr`), a faithful pair on the decidable
region `safeStr`; `unescape` is used only through its one-step lemmas.  Then `Tag.loads (Tag.dumps t)` at the structured
level, field by field, for whatever the ordinal reads back as.
-/
import ForML.Model.Tag

namespace ForML.Tag

/-- the text is `"` or starts with `""` (the reader mistakes the unescaped value for a triple-quoted string) -/
def leadingQuotes : List Nat → Bool
  | [a] => a == 34
  | a :: b :: _ => a == 34 && b == 34
  | [] => false

/-- no character that Python's `repr` writes as `\xNN` -/
def noXEsc (s : List Nat) : Bool := s.all (fun c => !isXEsc c)

/-- string ordinals on which the `toml` writer/reader pair is faithful: no `\xNN`-escaped character, no backslash
directly followed by `x`, and not `"` / not starting with `""` -/
def safeStr (s : List Nat) : Bool := noXEsc s && !hasBX s && !leadingQuotes s

@[simp] theorem consOk_ok (x : Nat) (t : List Nat) : consOk x (.ok t) = .ok (x :: t) := rfl
@[simp] theorem consOk_error (x : Nat) (e : StrErr) : consOk x (.error e) = .error e := rfl

@[simp] theorem unescape_nil : unescape [] = .ok [] := by
  rw [unescape.eq_def]

theorem unescape_plain (a : Nat) (l : List Nat) (h : a ≠ 92) : unescape (a :: l) = consOk a (unescape l) := by
  rw [unescape.eq_def]
  simp [h]

theorem unescape_bs (c x : Nat) (r : List Nat) (h : escChar c = some x) :
    unescape (92 :: c :: r) = consOk x (unescape r) := by
  rw [unescape.eq_def]
  simp [h]

theorem splitBX_noBX (l acc : List Nat) (h : hasBX l = false) : splitBX acc l = [acc.reverse ++ l] := by
  induction l generalizing acc with
  | nil => simp [splitBX]
  | cons a r ih =>
    cases r with
    | nil => simp [splitBX]
    | cons b r' =>
      simp only [hasBX, Bool.or_eq_false_iff] at h
      rw [splitBX, if_neg (by simp [h.1]), ih (a :: acc) h.2]
      simp

theorem dumpStr_noBX (s : List Nat) (h : hasBX (escape s) = false) :
    dumpStr s = .ok (34 :: escape s ++ [34]) := by
  unfold dumpStr
  rw [splitBX_noBX _ [] h]
  rfl

/-- first character is `x` -/
def headX : List Nat → Bool
  | a :: _ => a == 120
  | [] => false

theorem hasBX_cons (a : Nat) (l : List Nat) : hasBX (a :: l) = ((a == 92 && headX l) || hasBX l) := by
  cases l with
  | nil => simp [hasBX, headX]
  | cons b r => simp [hasBX, headX]

theorem esc_shape (c : Nat) (hx : isXEsc c = false) :
    (c = 92 ∧ esc c = [92, 92]) ∨ (∃ d, c ≠ 92 ∧ d ≠ 120 ∧ d ≠ 92 ∧ esc c = [92, d] ∧ escChar d = some c) ∨
    (c ≠ 92 ∧ esc c = [c]) := by
  unfold esc
  by_cases h1 : c = 92
  · subst h1; exact Or.inl ⟨rfl, rfl⟩
  by_cases h2 : c = 34
  · subst h2; exact Or.inr (Or.inl ⟨34, by decide, by decide, by decide, rfl, rfl⟩)
  by_cases h3 : c = 9
  · subst h3; exact Or.inr (Or.inl ⟨116, by decide, by decide, by decide, rfl, rfl⟩)
  by_cases h4 : c = 10
  · subst h4; exact Or.inr (Or.inl ⟨110, by decide, by decide, by decide, rfl, rfl⟩)
  by_cases h5 : c = 13
  · subst h5; exact Or.inr (Or.inl ⟨114, by decide, by decide, by decide, rfl, rfl⟩)
  refine Or.inr (Or.inr ⟨h1, ?_⟩)
  simp [h1, h2, h3, h4, h5, hx]

theorem headX_esc_append (c : Nat) (hx : isXEsc c = false) (t : List Nat) : headX (esc c ++ t) = (c == 120) := by
  rcases esc_shape c hx with ⟨e, he⟩ | ⟨d, _, _, _, he, _⟩ | ⟨_, he⟩
  · rw [he, e]; rfl
  · have : c ≠ 120 := by
      intro e
      rw [e, show esc 120 = [120] from rfl] at he
      cases he
    rw [he, beq_false_of_ne this]
    rfl
  · rw [he]; rfl

theorem hasBX_esc_append (c : Nat) (hx : isXEsc c = false) (t : List Nat) :
    hasBX (esc c ++ t) = ((c == 92 && headX t) || hasBX t) := by
  rcases esc_shape c hx with ⟨e, he⟩ | ⟨d, hc, hd, hd', he, _⟩ | ⟨_, he⟩
  · rw [he, e, List.cons_append, List.cons_append, List.nil_append, hasBX_cons, hasBX_cons]
    rfl
  · rw [he, List.cons_append, List.cons_append, List.nil_append, hasBX_cons, hasBX_cons, beq_false_of_ne hc,
      beq_false_of_ne hd']
    show ((92 == 92 && d == 120) || (false || hasBX t)) = (false || hasBX t)
    rw [beq_false_of_ne hd]
    rfl
  · rw [he]; exact hasBX_cons c t

theorem hasBX_escape (s : List Nat) (hx : noXEsc s = true) : hasBX (escape s) = hasBX s := by
  induction s with
  | nil => rfl
  | cons c r ih =>
    rw [noXEsc, List.all_cons, Bool.and_eq_true, Bool.not_eq_true'] at hx
    have hh : headX (escape r) = headX r := by
      cases r with
      | nil => rfl
      | cons a r' =>
        rw [List.all_cons, Bool.and_eq_true, Bool.not_eq_true'] at hx
        exact headX_esc_append a hx.2.1 _
    rw [escape, hasBX_esc_append c hx.1, hh, ih hx.2, hasBX_cons]

theorem unescape_esc_append (c : Nat) (hx : isXEsc c = false) (rest : List Nat) :
    unescape (esc c ++ rest) = consOk c (unescape rest) := by
  rcases esc_shape c hx with ⟨e, he⟩ | ⟨d, _, _, _, he, hd⟩ | ⟨hc, he⟩ <;> rw [he]
  · subst e; exact unescape_bs 92 92 rest (by decide)
  · exact unescape_bs d c rest hd
  · exact unescape_plain c rest hc

theorem unescape_escape (s : List Nat) (hx : noXEsc s = true) (tail t : List Nat)
    (hr : unescape tail = .ok t) : unescape (escape s ++ tail) = .ok (s ++ t) := by
  induction s with
  | nil => simpa [escape] using hr
  | cons c r ih =>
    simp only [noXEsc, List.all_cons, Bool.and_eq_true, Bool.not_eq_true'] at hx
    have ih' := ih (by simpa [noXEsc] using hx.2)
    rw [escape, List.append_assoc, unescape_esc_append c hx.1, ih']
    rfl

theorem looksTriple_quoted (a : Nat) (r : List Nat) : looksTriple (34 :: (a :: r ++ [34])) = leadingQuotes (a :: r) := by
  cases r with
  | nil => exact Bool.and_self _
  | cons b r' =>
    show (a == 34 && a == b) = (a == 34 && b == 34)
    by_cases h : a = 34
    · rw [h, BEq.comm (a := 34) (b := b)]
    · rw [beq_false_of_ne h, Bool.false_and, Bool.false_and]

theorem finish_quoted (s : List Nat) (hq : leadingQuotes s = false) : finish (34 :: (s ++ [34])) = s := by
  cases s with
  | nil => rfl
  | cons a r =>
    unfold finish
    rw [looksTriple_quoted, hq]
    exact List.dropLast_concat

theorem finish_triple_length (v : List Nat) (h : looksTriple v = true) : (finish v).length = v.length - 6 := by
  unfold finish
  simp only [h, if_true, List.length_dropLast, List.length_drop]
  omega

theorem loadStr_quoted (s : List Nat) (hx : noXEsc s = true) :
    loadStr (34 :: escape s ++ [34]) = .ok (finish (34 :: (s ++ [34]))) := by
  have hu : unescape (34 :: escape s ++ [34]) = .ok (34 :: (s ++ [34])) := by
    have h1 : unescape [34] = .ok [34] := by
      rw [unescape_plain 34 [] (by decide), unescape_nil]; rfl
    rw [List.cons_append, unescape_plain 34 _ (by decide), unescape_escape s hx [34] [34] h1]
    rfl
  unfold loadStr
  simp only [List.cons_append, beq_self_eq_true, if_true]
  rw [← List.cons_append, hu]

/-- **string ordinals round-trip** through the TOML basic-string writer and reader on the safe region -/
theorem str_roundtrip (s : List Nat) (h : safeStr s = true) :
    dumpStr s = .ok (34 :: escape s ++ [34]) ∧ loadStr (34 :: escape s ++ [34]) = .ok s := by
  simp only [safeStr, Bool.and_eq_true, Bool.not_eq_true'] at h
  obtain ⟨⟨hx, hb⟩, hq⟩ := h
  refine ⟨dumpStr_noBX s (by rw [hasBX_escape s hx]; exact hb), ?_⟩
  rw [loadStr_quoted s hx, finish_quoted s hq]

/-- ordinals that persist: every primitive kind except `Decimal`, strings in the safe region -/
def safeOrd : Option Ordinal → Bool
  | some (.str s) => safeStr s
  | some (.decimal _ _ _) => false
  | _ => true

theorem lookup_sect (k1 k2 : Key) (h : k1 ≠ k2) (v1 v2 : Option TVal) :
    lookup k1 (sect [(k1, v1), (k2, v2)]) = v1 ∧ lookup k2 (sect [(k1, v1), (k2, v2)]) = v2 := by
  have h' : k2 ≠ k1 := fun e => h e.symm
  cases v1 <;> cases v2 <;> simp [sect, lookup, h, h']

theorem loadTs_dump (ts : Option Ts) : loadTs (ts.map .datetime) = .ok ts := by
  cases ts <;> rfl

theorem loadScore_dump (sc : Option Num) : loadScore (sc.map dumpNum) = .ok sc := by
  cases sc with
  | none => rfl
  | some n => cases n <;> rfl

theorem ordinal_roundtrip (o : Option Ordinal) (h : safeOrd o = true) :
    ∃ ov, dumpOrd? o = .ok ov ∧ loadOrd? ov = .ok o := by
  cases o with
  | none => exact ⟨none, rfl, rfl⟩
  | some o =>
    cases o with
    | int i => exact ⟨_, rfl, rfl⟩
    | float b => exact ⟨_, rfl, rfl⟩
    | bool b => exact ⟨_, rfl, rfl⟩
    | date y m d => exact ⟨_, rfl, rfl⟩
    | datetime t => exact ⟨_, rfl, rfl⟩
    | decimal a b c => simp [safeOrd] at h
    | str s =>
      obtain ⟨hd, hl⟩ := str_roundtrip s h
      refine ⟨some (.strLit (34 :: escape s ++ [34])), ?_, ?_⟩
      · simp only [dumpOrd?, dumpOrdinal, hd]
      · simp only [loadOrd?, loadOrdinal, hl]

theorem tag_load_of_ordinal (t : Tag) (ov : Option TVal) (o' : Option Ordinal) (hd : dumpOrd? t.ordinal = .ok ov)
    (hl : loadOrd? ov = .ok o') : ∃ d, dumps t = .ok d ∧ loads d = .ok { t with ordinal := o' } := by
  obtain ⟨trainTs, ordinal, tuneTs, score, states⟩ := t
  have l1 := lookup_sect .timestamp .ordinal (by decide) (trainTs.map .datetime) ov
  have l2 := lookup_sect .timestamp .score (by decide) (tuneTs.map .datetime) (score.map dumpNum)
  simp only at hd
  have e : dumps ⟨trainTs, ordinal, tuneTs, score, states⟩ = .ok
      { states := states
        training := sect [(.timestamp, trainTs.map .datetime), (.ordinal, ov)]
        tuning := sect [(.timestamp, tuneTs.map .datetime), (.score, score.map dumpNum)] } := by
    simp only [dumps, hd]
  refine ⟨_, e, ?_⟩
  simp only [loads, l1.1, l1.2, l2.1, l2.2, loadTs_dump, loadScore_dump, hl]

end ForML.Tag
