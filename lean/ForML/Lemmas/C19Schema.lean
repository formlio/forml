/-
The schema cache of `Pandas.Schema.from_frame` as a state machine.
-/
import ForML.Model.CodecTable
import ForML.Lemmas.ListFacts

namespace ForML.Codec

/-- every cached schema is the list of names of every frame with that key -/
def CacheOK [DecidableEq κ] (key : FrameSig → κ) (cache : Cache κ) : Prop :=
  ∀ kv ∈ cache, ∀ f : FrameSig, key f = kv.1 → kv.2 = f.names

/-- the cache look-up is core's -/
theorem cacheGet_eq [DecidableEq κ] (k : κ) (cache : Cache κ) : cacheGet k cache = cache.lookup k :=
  lookup_eq_of_eqns (fun _ => rfl) (fun _ _ _ _ => rfl) k cache

/-- the answer is right for the frame: a schema carries the frame's names, a refusal has its cause in the frame -/
def Answers (f : FrameSig) : SchemaResult → Prop
  | .schema ns => ns = f.names
  | .emptyFrame => f.empty = true
  | .untypable => f.untypable = true

theorem Answers.spec {f : FrameSig} {r : SchemaResult} (h : Answers f r) :
    (∀ ns, r = .schema ns → ns = f.names) ∧ (r = .emptyFrame → f.empty = true) ∧ (r = .untypable → f.untypable = true) := by
  cases r with
  | schema ns => exact ⟨fun _ e => by cases e; exact h, nofun, nofun⟩
  | emptyFrame => exact ⟨nofun, fun _ => h, nofun⟩
  | untypable => exact ⟨nofun, nofun, fun _ => h⟩

/-- one call keeps the cache right and answers right: a hit by the invariant, a refusal by its test, a new entry by `hkey` -/
theorem fromFrame_ok [DecidableEq κ] (key : FrameSig → κ) (hkey : ∀ f g, key f = key g → f.names = g.names)
    (cache : Cache κ) (hc : CacheOK key cache) (f : FrameSig) :
    CacheOK key (fromFrame key cache f).1 ∧ Answers f (fromFrame key cache f).2 := by
  unfold fromFrame
  cases hg : cacheGet (key f) cache with
  | some names => exact ⟨hc, hc _ (mem_of_lookup (cacheGet_eq _ cache ▸ hg)) f rfl⟩
  | none =>
    by_cases he : f.empty = true
    · rw [if_pos he]; exact ⟨hc, he⟩
    · by_cases hu : f.untypable = true
      · rw [if_neg he, if_pos hu]; exact ⟨hc, hu⟩
      · rw [if_neg he, if_neg hu]
        refine ⟨fun kv hkv g hg' => ?_, rfl⟩
        rcases List.mem_cons.mp hkv with rfl | hmem
        · exact (hkey g f hg').symm
        · exact hc kv hmem g hg'

theorem runFrames_length [DecidableEq κ] (key : FrameSig → κ) (cache : Cache κ) (fs : List FrameSig) :
    (runFrames key cache fs).length = fs.length := by
  induction fs generalizing cache with
  | nil => rfl
  | cons f fs ih => simp [runFrames, ih]

theorem runFrames_ok [DecidableEq κ] (key : FrameSig → κ) (hkey : ∀ f g, key f = key g → f.names = g.names)
    (cache : Cache κ) (hc : CacheOK key cache) (fs : List FrameSig) :
    ∀ fr ∈ fs.zip (runFrames key cache fs), Answers fr.1 fr.2 := by
  induction fs generalizing cache with
  | nil => simp [runFrames]
  | cons f fs ih =>
    have h := fromFrame_ok key hkey cache hc f
    intro fr hfr
    simp only [runFrames, List.zip_cons_cons, List.mem_cons] at hfr
    rcases hfr with rfl | hmem
    · exact h.2
    · exact ih _ h.1 fr hmem

theorem keyItems_names (f g : FrameSig) (h : keyItems f = keyItems g) : f.names = g.names := by
  unfold keyItems at h
  exact (Prod.mk.injEq .. ▸ h).1

end ForML.Codec
