/- C17: `Explicit.select` over registry histories: under the invariant `InvE` of `Explicit._instance` a select and use
observes `explicitObs`, and a history nothing else. -/
import ForML.Lemmas.C17LatestInv

namespace ForML.Strategy

/-- `Explicit._instance` is unset or the configured instance (its keys are explicit: using it pins nothing new) -/
def InvE (r g : Nat) (s : EState) : Prop := s.inst = none ∨ s.inst = some ⟨0, r, some g⟩

/-- what a `select` (and use) observes: the configured generation when it is listed, `Level.Invalid` otherwise -/
def explicitObs (r g : Nat) (rels : Rels) : Obs :=
  match gensOf rels r with
  | none => .err .invalid
  | some gs => if g ∈ gs then .served r g else .err .invalid

theorem stepE_select_eq {r g : Nat} {s : EState} (h : InvE r g s) :
    stepE r g s .select = ({ s with inst := some ⟨0, r, some g⟩ }, explicitObs r g s.rels) := by
  have hsel : eSelect r g s = (⟨0, r, some g⟩, { s with inst := some ⟨0, r, some g⟩ }) := by
    unfold eSelect
    rcases h with h | h
    · rw [h]
    · rw [h]; simp only [← h]
  simp only [stepE, hsel, genKey, explicitObs]
  cases gensOf s.rels r with
  | none => rfl
  | some gs =>
    by_cases hg : g ∈ gs
    · simp only [if_pos hg]; rfl
    · simp only [if_neg hg]

theorem invE_step {r g : Nat} {s : EState} (op : EOp) (h : InvE r g s) : InvE r g (stepE r g s op).1 := by
  cases op with
  | publish x => exact h
  | commit x => exact h
  | select => rw [stepE_select_eq h]; exact Or.inr rfl

theorem invE_exec {r g : Nat} (ops : List EOp) {s : EState} (h : InvE r g s) : InvE r g (execE r g s ops) := by
  induction ops generalizing s with
  | nil => exact h
  | cons op ops ih => exact ih (invE_step op h)

theorem runE_obs {r g : Nat} (ops : List EOp) {s : EState} (h : InvE r g s) :
    ∀ o ∈ (runE r g s ops).2, o = .quiet ∨ o = .served r g ∨ o = .err .invalid := by
  induction ops generalizing s with
  | nil => intro o ho; simp [runE] at ho
  | cons op ops ih =>
    intro o ho
    simp only [runE] at ho
    rcases List.mem_cons.mp ho with rfl | ho
    · cases op with
      | publish x => exact Or.inl rfl
      | commit x => exact Or.inl rfl
      | select =>
        rw [stepE_select_eq h]
        unfold explicitObs
        split
        · exact Or.inr (Or.inr rfl)
        · split
          · exact Or.inr (Or.inl rfl)
          · exact Or.inr (Or.inr rfl)
    · exact ih (invE_step op h) o ho

end ForML.Strategy
