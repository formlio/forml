/-
Certified valuations of a task graph.  A `World` gives every output port a value, every node a rank, and marks the nodes
whose local constraint has been established (`live`); under `Inv g W` every live node satisfies its constraint and
refers only to live nodes of smaller rank; an unbound live `Future` is a parameter (a hole).  Then the evaluator of
`Model/Compose.lean` returns `σ` on every live port once the fuel exceeds the rank (`eval_sound`): the evaluation of a
composed graph becomes local reasoning about the construction steps, and no substitution lemma is needed, since binding
a hole only adds a local constraint.
-/
import ForML.Model.Compose
import ForML.Model.Denote
import ForML.Lemmas.ListFacts

namespace ForML.Compose

def Run (m : GraphM α) (g : Graph) (a : α) (g' : Graph) : Prop := m g = .ok (a, g')

theorem bind_apply (m : GraphM α) (f : α → GraphM β) (g : Graph) :
    (m >>= f) g = match m g with
      | .ok (a, g') => f a g'
      | .error e => .error e := rfl

theorem pure_apply (a : α) (g : Graph) : (pure a : GraphM α) g = .ok (a, g) := rfl

theorem Run.bind {m : GraphM α} {f : α → GraphM β} (h1 : Run m g a g1) (h2 : Run (f a) g1 b g2) :
    Run (m >>= f) g b g2 := by
  unfold Run at *
  rw [bind_apply, h1]
  exact h2

theorem Run.pure (a : α) (g : Graph) : Run (pure a : GraphM α) g a g := rfl

theorem Run.bind_inv {α β} {m : GraphM α} {f : α → GraphM β} {g g2 : Graph} {b : β} (h : Run (m >>= f) g b g2) :
    ∃ a g1, Run m g a g1 ∧ Run (f a) g1 b g2 := by
  unfold Run at h ⊢
  rw [bind_apply] at h
  cases hm : m g with
  | error e => rw [hm] at h; cases h
  | ok r => rw [hm] at h; exact ⟨r.1, r.2, rfl, h⟩

/-- the construction does not depend on the values: `iterV1` / `iterV2` identify with it the two expansions `Spec`
provides for two apply inputs -/
theorem run_det {α} {m : GraphM α} {g : Graph} {a a' : α} {g1 g1' : Graph} (h : Run m g a g1) (h' : Run m g a' g1') :
    a = a' ∧ g1 = g1' := by
  unfold Run at h h'
  rw [h] at h'
  injection h' with h'
  injection h' with h1 h2
  exact ⟨h1, h2⟩

theorem GraphM.bind_assoc' {α β γ} (m : GraphM α) (f : α → GraphM β) (k : β → GraphM γ) :
    (m >>= f) >>= k = m >>= fun a => f a >>= k := by
  funext g
  simp only [bind_apply]
  cases m g with
  | error e => rfl
  | ok r => rfl

theorem GraphM.bind_pure' {α} (m : GraphM α) : (m >>= pure) = m := by
  funext g
  simp only [bind_apply]
  cases h : m g with
  | error e => rfl
  | ok r => cases r; rfl

structure World where
  σ : PubRef → Val
  h : Nat → Nat
  live : Nat → Prop

def World.empty : World := ⟨fun _ => .none, fun _ => 0, fun _ => False⟩

/-- make node `u` live with port values `v` and rank `r` -/
def World.set (W : World) (u : Nat) (v : Nat → Val) (r : Nat) : World :=
  { σ := fun p => if p.node = u then v p.idx else W.σ p
    h := fun n => if n = u then r else W.h n
    live := fun n => n = u ∨ W.live n }

/-- value of output port `idx` of a worker with `szout` ports whose actor returned `out` -/
def portVal (szout idx : Nat) (out : Val) : Val := if szout == 1 then out else .proj idx out

/-- a reference to publisher `q` from a node of rank `r` -/
def RefOk (W : World) (q : PubRef) (r : Nat) : Prop := W.live q.node ∧ W.h q.node < r

/-- the state a member (of rank `r`) of group `gid` runs on -/
def StateFor (g : Graph) (W : World) (gid : Nat) (a : Actor) (r : Nat) (st : Val) : Prop :=
  if a.stateful then
    match g.trainerOf gid with
    | none => st = .none
    | some t => RefOk W t.train r ∧ RefOk W t.label r ∧ st = .state a.tag .none (W.σ t.train) (W.σ t.label)
  else st = .none

def GoodState (g : Graph) (W : World) (n gid : Nat) (a : Actor) (st : Val) : Prop := StateFor g W gid a (W.h n) st

def GoodNode (g : Graph) (W : World) (n : Nat) : Prop :=
  match g.kindOf n with
  | none => False
  | some .future =>
    match g.inputOf n 0 with
    | none => True
    | some q => RefOk W q (W.h n) ∧ ∀ i, W.σ ⟨n, i⟩ = W.σ q
  | some (.worker gid a szin szout) =>
    ∃ ins : Nat → PubRef,
      (∀ k, k < szin → g.inputOf n k = some (ins k) ∧ RefOk W (ins k) (W.h n)) ∧
      ∃ st, GoodState g W n gid a st ∧
        ∀ i, W.σ ⟨n, i⟩ = portVal szout i (.apply a.tag st ((List.range szin).map (fun k => W.σ (ins k))))

def Graph.isOpen (g : Graph) (n : Nat) : Prop := g.kindOf n = some .future ∧ g.inputOf n 0 = none

structure Inv (g : Graph) (W : World) : Prop where
  nodesLt : ∀ n ∈ g.nodes, n.uid < g.next
  gidsLt : ∀ n ∈ g.nodes, ∀ gid a i o, n.kind = .worker gid a i o → gid < g.next
  edgesLt : ∀ e ∈ g.edges, e.sub < g.next
  trainsLt : ∀ t ∈ g.trains, t.gid < g.next
  liveLt : ∀ n, W.live n → n < g.next ∧ W.h n < g.next
  good : ∀ n, W.live n → GoodNode g W n

theorem kindOf_eq_some {g : Graph} {u : Nat} {k : Kind} (h : g.kindOf u = some k) :
    ∃ n ∈ g.nodes, n.uid = u ∧ n.kind = k := by
  obtain ⟨n, hf, hk⟩ := Option.map_eq_some_iff.mp h
  exact ⟨n, List.mem_of_find?_eq_some hf, by simpa using List.find?_some hf, hk⟩

theorem kindOf_eq_none {g : Graph} {u : Nat} (h : ∀ n ∈ g.nodes, n.uid ≠ u) : g.kindOf u = none := by
  simpa [Graph.kindOf] using h

theorem inputOf_mem {g : Graph} {s k : Nat} {q : PubRef} (hq : g.inputOf s k = some q) : (⟨s, k, q⟩ : Edge) ∈ g.edges := by
  obtain ⟨⟨es, ek, ep⟩, hf, rfl⟩ := Option.map_eq_some_iff.mp hq
  have hp := List.find?_some hf
  simp only [Bool.and_eq_true, beq_iff_eq] at hp
  obtain ⟨rfl, rfl⟩ := hp
  exact List.mem_of_find?_eq_some hf

theorem inputOf_eq_none_iff {g : Graph} {s k : Nat} :
    g.inputOf s k = none ↔ ∀ e ∈ g.edges, ¬ (e.sub = s ∧ e.port = k) := by
  simp [Graph.inputOf]

theorem trainerOf_eq_some {g : Graph} {gid : Nat} {t : Training} (h : g.trainerOf gid = some t) : t ∈ g.trains ∧ t.gid = gid :=
  ⟨List.mem_of_find?_eq_some h, by simpa using List.find?_some h⟩

theorem trainerOf_eq_none {g : Graph} {gid : Nat} (h : ∀ t ∈ g.trains, t.gid ≠ gid) : g.trainerOf gid = none := by
  simpa [Graph.trainerOf] using h

theorem StateFor.stateless {g W gid a r} (h : a.stateful = false) : StateFor g W gid a r .none := by
  unfold StateFor; simp [h]

theorem StateFor.untrained {g W gid a r} (h : g.trainerOf gid = none) : StateFor g W gid a r .none := by
  unfold StateFor
  by_cases hsf : a.stateful = true
  · simp [hsf, h]
  · simp [hsf]

theorem StateFor.trained {g W gid a r} {t : Training} (h : g.trainerOf gid = some t) (hsf : a.stateful = true)
    (h1 : RefOk W t.train r) (h2 : RefOk W t.label r) :
    StateFor g W gid a r (.state a.tag .none (W.σ t.train) (W.σ t.label)) := by
  unfold StateFor
  simp only [hsf, if_true, h]
  exact ⟨h1, h2, trivial⟩

theorem StateFor.cases {g W gid a r st} (h : StateFor g W gid a r st) :
    (st = .none ∧ (a.stateful = false ∨ g.trainerOf gid = none)) ∨
    ∃ t, g.trainerOf gid = some t ∧ a.stateful = true ∧ RefOk W t.train r ∧ RefOk W t.label r ∧
      st = .state a.tag .none (W.σ t.train) (W.σ t.label) := by
  unfold StateFor at h
  cases hsf : a.stateful with
  | false => exact Or.inl ⟨by simpa [hsf] using h, Or.inl rfl⟩
  | true =>
    rw [if_pos hsf] at h
    cases ht : g.trainerOf gid with
    | none => rw [ht] at h; exact Or.inl ⟨h, Or.inr rfl⟩
    | some t => rw [ht] at h; exact Or.inr ⟨t, rfl, rfl, h⟩

/-- the state survives whatever keeps the group's trainer and the two publishers the trainer reads -/
theorem StateFor.transfer {g g' : Graph} {W W' : World} {gid : Nat} {a : Actor} {r r' : Nat} {st : Val}
    (h : StateFor g W gid a r st) (ht : g'.trainerOf gid = g.trainerOf gid)
    (hr : ∀ t q, g.trainerOf gid = some t → q = t.train ∨ q = t.label → RefOk W q r → RefOk W' q r' ∧ W'.σ q = W.σ q) :
    StateFor g' W' gid a r' st := by
  rcases h.cases with ⟨rfl, hs | hn⟩ | ⟨t, htr, hs, h1, h2, rfl⟩
  · exact .stateless hs
  · exact .untrained (ht.trans hn)
  · rw [← (hr t _ htr (.inl rfl) h1).2, ← (hr t _ htr (.inr rfl) h2).2]
    exact .trained (ht.trans htr) hs (hr t _ htr (.inl rfl) h1).1 (hr t _ htr (.inr rfl) h2).1

theorem StateFor.mono {g g' : Graph} {W W' : World} {gid : Nat} {a : Actor} {r r' : Nat} {st : Val}
    (h : StateFor g W gid a r st) (ht : g'.trainerOf gid = g.trainerOf gid)
    (hr : ∀ q : PubRef, RefOk W q r → RefOk W' q r' ∧ W'.σ q = W.σ q) : StateFor g' W' gid a r' st :=
  h.transfer ht fun _ q _ _ => hr q

theorem GoodNode.hole {g W n} (ho : g.isOpen n) : GoodNode g W n := by
  unfold GoodNode; rw [ho.1, ho.2]; trivial

theorem GoodNode.bound {g W n q} (hk : g.kindOf n = some .future) (hin : g.inputOf n 0 = some q)
    (hq : RefOk W q (W.h n)) (hσ : ∀ i, W.σ ⟨n, i⟩ = W.σ q) : GoodNode g W n := by
  unfold GoodNode; rw [hk, hin]; exact ⟨hq, hσ⟩

theorem GoodNode.worker {g W n gid a szin szout st} (hk : g.kindOf n = some (.worker gid a szin szout)) (ins : Nat → PubRef)
    (hins : ∀ k, k < szin → g.inputOf n k = some (ins k) ∧ RefOk W (ins k) (W.h n)) (hst : StateFor g W gid a (W.h n) st)
    (hσ : ∀ i, W.σ ⟨n, i⟩ = portVal szout i (.apply a.tag st ((List.range szin).map (fun k => W.σ (ins k))))) :
    GoodNode g W n := by
  unfold GoodNode; rw [hk]; exact ⟨ins, hins, st, hst, hσ⟩

theorem GoodNode.cases {g W n} (h : GoodNode g W n) :
    g.isOpen n ∨
    (∃ q, g.kindOf n = some .future ∧ g.inputOf n 0 = some q ∧ RefOk W q (W.h n) ∧ ∀ i, W.σ ⟨n, i⟩ = W.σ q) ∨
    ∃ gid a szin szout, ∃ ins : Nat → PubRef, ∃ st, g.kindOf n = some (.worker gid a szin szout) ∧
      (∀ k, k < szin → g.inputOf n k = some (ins k) ∧ RefOk W (ins k) (W.h n)) ∧ StateFor g W gid a (W.h n) st ∧
      ∀ i, W.σ ⟨n, i⟩ = portVal szout i (.apply a.tag st ((List.range szin).map (fun k => W.σ (ins k)))) := by
  unfold GoodNode at h
  cases hk : g.kindOf n with
  | none => rw [hk] at h; exact h.elim
  | some kd =>
    rw [hk] at h
    cases kd with
    | future =>
      cases hin : g.inputOf n 0 with
      | none => exact Or.inl ⟨hk, hin⟩
      | some q => rw [hin] at h; exact Or.inr (Or.inl ⟨q, rfl, rfl, h⟩)
    | worker gid a szin szout =>
      obtain ⟨ins, hins, st, hst, hσ⟩ := h
      exact Or.inr (Or.inr ⟨gid, a, szin, szout, ins, st, rfl, hins, hst, hσ⟩)

theorem GoodNode.kind {g W n} (h : GoodNode g W n) : ∃ k, g.kindOf n = some k := by
  rcases h.cases with ho | ⟨_, hk, _⟩ | ⟨_, _, _, _, _, _, hk, _⟩
  · exact ⟨_, ho.1⟩
  · exact ⟨_, hk⟩
  · exact ⟨_, hk⟩

theorem GoodNode.mono {g g' : Graph} {W W' : World} {n : Nat} (h : GoodNode g W n) (hk : g'.kindOf n = g.kindOf n)
    (hin : ∀ k, g'.inputOf n k = g.inputOf n k)
    (ht : ∀ gid a i o, g.kindOf n = some (.worker gid a i o) → g'.trainerOf gid = g.trainerOf gid)
    (hσ : ∀ i, W'.σ ⟨n, i⟩ = W.σ ⟨n, i⟩)
    (hr : ∀ q : PubRef, RefOk W q (W.h n) → RefOk W' q (W'.h n) ∧ W'.σ q = W.σ q) : GoodNode g' W' n := by
  rcases h.cases with ho | ⟨q, hkn, hq, hrq, hv⟩ | ⟨gid, a, szin, szout, ins, st, hkn, hins, hst, hv⟩
  · exact .hole ⟨hk.trans ho.1, (hin 0).trans ho.2⟩
  · exact .bound (hk.trans hkn) ((hin 0).trans hq) (hr q hrq).1 fun i => by rw [hσ, (hr q hrq).2]; exact hv i
  · refine .worker (hk.trans hkn) ins (fun k hk' => ⟨(hin k).trans (hins k hk').1, (hr _ (hins k hk').2).1⟩)
      (hst.mono (ht _ _ _ _ hkn) hr) fun i => ?_
    rw [hσ, hv, List.map_congr_left fun k hk' => (hr _ (hins k (List.mem_range.mp hk')).2).2]

theorem eval_future {g : Graph} {ρ : Nat → Val} {d : Nat} {p : PubRef} (hk : g.kindOf p.node = some .future) :
    eval g ρ (d + 1) p = match g.inputOf p.node 0 with
      | none => some (ρ p.node)
      | some q => eval g ρ d q := by
  rw [eval, hk]; rfl

theorem eval_worker {g : Graph} {ρ : Nat → Val} {d : Nat} {p : PubRef} {gid a szin szout}
    (hk : g.kindOf p.node = some (.worker gid a szin szout)) :
    eval g ρ (d + 1) p =
      match (List.range szin).mapM (fun k => (g.inputOf p.node k).bind (eval g ρ d)), stateOf g (eval g ρ d) gid a with
      | some args, some st => some (portVal szout p.idx (.apply a.tag st args))
      | _, _ => none := by
  rw [eval, hk]; rfl

theorem StateFor.stateOf_eq {g W gid a r st} {ev : PubRef → Option Val} (h : StateFor g W gid a r st)
    (hev : ∀ q, RefOk W q r → ev q = some (W.σ q)) : stateOf g ev gid a = some st := by
  unfold stateOf
  rcases h.cases with ⟨rfl, hs | hn⟩ | ⟨t, htr, hs, h1, h2, rfl⟩
  · rw [hs]; rfl
  · rw [hn]; cases a.stateful <;> rfl
  · simp only [hs, htr, if_true, hev _ h1, hev _ h2]

theorem eval_sound {g : Graph} {W : World} (hi : Inv g W) (ρ : Nat → Val)
    (hρ : ∀ n, W.live n → g.isOpen n → ∀ i, W.σ ⟨n, i⟩ = ρ n) :
    ∀ (d : Nat) (p : PubRef), W.live p.node → W.h p.node < d → eval g ρ d p = some (W.σ p) := by
  intro d
  induction d with
  | zero => intro p _ h; omega
  | succ d ih =>
    intro p hl hd
    have hev : ∀ q, RefOk W q (W.h p.node) → eval g ρ d q = some (W.σ q) := fun q hq => ih q hq.1 (by have := hq.2; omega)
    rcases (hi.good p.node hl).cases with ho | ⟨q, hk, hin, hq, hσ⟩ | ⟨gid, a, szin, szout, ins, st, hk, hins, hst, hσ⟩
    · rw [eval_future ho.1, ho.2, ← hρ p.node hl ho p.idx]
    · rw [eval_future hk, hin]
      exact (hev q hq).trans (by rw [← hσ p.idx])
    · rw [eval_worker hk, hst.stateOf_eq hev,
        mapM_eq_pure (g := fun k => W.σ (ins k)) fun k hk' => by
          obtain ⟨e, hq⟩ := hins k (List.mem_range.mp hk')
          rw [e]; exact hev _ hq]
      exact congrArg some (hσ p.idx).symm

theorem mapM_mono {α β} {f f' : α → Option β} (h : ∀ a b, f a = some b → f' a = some b) :
    ∀ (l : List α) (bs : List β), l.mapM f = some bs → l.mapM f' = some bs := fun _ _ hl =>
  mapM_eq_some_iff_map.mpr (map_transfer (g := some) (q := some) h (mapM_eq_some_iff_map.mp hl))

theorem stateOf_mono {g gid a st} {ev ev' : PubRef → Option Val} (h : ∀ q v, ev q = some v → ev' q = some v)
    (hs : stateOf g ev gid a = some st) : stateOf g ev' gid a = some st := by
  unfold stateOf at hs ⊢
  split
  · rw [if_pos ‹_›] at hs
    split at hs
    · exact hs
    · split at hs
      · rw [h _ _ ‹_›, h _ _ ‹_›]; exact hs
      · cases hs
  · rw [if_neg ‹_›] at hs; exact hs


theorem eval_mono (g : Graph) (ρ : Nat → Val) :
    ∀ (d : Nat) (p : PubRef) (v : Val), eval g ρ d p = some v → eval g ρ (d + 1) p = some v := by
  intro d
  induction d with
  | zero => intro p v h; simp [eval] at h
  | succ d ih =>
    intro p v h
    cases hk : g.kindOf p.node with
    | none => rw [eval, hk] at h; cases h
    | some k =>
      cases k with
      | future =>
        rw [eval_future hk] at h ⊢
        cases hin : g.inputOf p.node 0 with
        | none => rw [hin] at h; exact h
        | some q => rw [hin] at h; exact ih q v h
      | worker gid a szin szout =>
        rw [eval_worker hk] at h ⊢
        cases ha : (List.range szin).mapM (fun k => (g.inputOf p.node k).bind (eval g ρ d)) with
        | none => rw [ha] at h; cases h
        | some args =>
          cases hs : stateOf g (eval g ρ d) gid a with
          | none => rw [ha, hs] at h; cases h
          | some st =>
            rw [ha, hs] at h
            rw [stateOf_mono ih hs, mapM_mono (fun k b hb => ?_) _ _ ha]
            · exact h
            · cases hq : g.inputOf p.node k with
              | none => rw [hq] at hb; cases hb
              | some q => rw [hq] at hb; exact ih q b hb

theorem eval_mono_le (g : Graph) (ρ : Nat → Val) {d d' : Nat} (hle : d ≤ d') (p : PubRef) (v : Val)
    (h : eval g ρ d p = some v) : eval g ρ d' p = some v := by
  induction hle with
  | refl => exact h
  | step _ ih => exact eval_mono g ρ _ p v ih


/-- evaluation of a live port with the fuel `run` uses -/
theorem eval_live {g : Graph} {W : World} (hi : Inv g W) (ρ : Nat → Val)
    (hρ : ∀ n, W.live n → g.isOpen n → ∀ i, W.σ ⟨n, i⟩ = ρ n) (p : PubRef) (hl : W.live p.node) :
    eval g ρ g.fuel p = some (W.σ p) :=
  eval_sound hi ρ hρ _ p hl (by have := (hi.liveLt p.node hl).2; unfold Graph.fuel; omega)

end ForML.Compose
