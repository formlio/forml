/-
The invariant `Inv` of the serving transition system, kept by every step, and progress: in a reachable state where
nothing is enabled every arrived caller is done, given at least one worker and no pool stopped (`Inv.stuck_done`).  A step changes the phase of at most one caller and at most one
executor, so `InvD` is stated over the pieces of the state it reads (`LockOk`, `DescOk`), `InvC` is taken apart into
`LogOk` (phases and answer log) and one `ExecC` per executor, and those pieces are carried along the two changes.  What
a step can do is listed once, as the relation `Does`; each part of `Inv` is carried over it on its own.  `hasFatal`
(some request raises a non-platform exception), which the property theorems take as a hypothesis, is defined here.
-/
import ForML.Model.Serving
import ForML.Lemmas.C16Worker
import ForML.Lemmas.ListFacts
namespace ForML.Serving

structure ExecOk (e : Exec) : Prop where
  keys_nodup : (keys e).Nodup
  fl_nodup : (inflight e).Nodup
  fl_keys : ∀ id, id ∈ inflight e ↔ id ∈ keys e
  keys_lt : ∀ id, id ∈ keys e → id < e.next

theorem ExecOk.grow {e e' : Exec} (h : ExecOk e) (n : Nat) (hn : e.next ≤ n) (hnext : e'.next = n + 1)
    (hk : keys e' = n :: keys e) (hf : (inflight e').Perm (n :: inflight e)) : ExecOk e' := by
  have h1 : n ∉ keys e := fun hm => by have := h.keys_lt _ hm; omega
  have h2 : n ∉ inflight e := fun hm => h1 ((h.fl_keys _).1 hm)
  refine ⟨?_, ?_, ?_, ?_⟩
  · rw [hk]; exact List.nodup_cons.2 ⟨h1, h.keys_nodup⟩
  · exact hf.nodup_iff.2 (List.nodup_cons.2 ⟨h2, h.fl_nodup⟩)
  · intro id; rw [hf.mem_iff, hk]; simp [h.fl_keys]
  · intro id; rw [hk, hnext]; intro hm
    rcases List.mem_cons.1 hm with rfl | hm
    · omega
    · have := h.keys_lt _ hm; omega

theorem ExecOk.shuffle {e e' : Exec} (h : ExecOk e) (hnext : e'.next = e.next)
    (hk : keys e' = keys e) (hf : (inflight e').Perm (inflight e)) : ExecOk e' := by
  refine ⟨?_, ?_, ?_, ?_⟩
  · rw [hk]; exact h.keys_nodup
  · exact hf.nodup_iff.2 h.fl_nodup
  · intro id; rw [hf.mem_iff, hk]; exact h.fl_keys id
  · intro id; rw [hk, hnext]; exact h.keys_lt id

theorem ExecOk.shrink {e e' : Exec} (h : ExecOk e) (n : Nat) (hnext : e'.next = e.next)
    (hk : (keys e).Perm (n :: keys e')) (hf : (inflight e).Perm (n :: inflight e')) : ExecOk e' := by
  have k1 := hk.nodup_iff.1 h.keys_nodup
  have f1 := hf.nodup_iff.1 h.fl_nodup
  rw [List.nodup_cons] at k1 f1
  refine ⟨k1.2, f1.2, ?_, ?_⟩
  · -- two lists without repetition have the same members iff one is a permutation of the other, and `n` cancels
    have p := (List.perm_ext_iff_of_nodup h.fl_nodup h.keys_nodup).2 h.fl_keys
    exact fun id => (hf.symm.trans (p.trans hk)).cons_inv.mem_iff
  · intro id hm; rw [hnext]; exact h.keys_lt id (hk.mem_iff.2 (List.mem_cons_of_mem _ hm))

theorem ExecOk.submit {e : Exec} (h : ExecOk e) (c : Nat) (en : Entry) :
    ExecOk { e with started := true, next := e.next + 1, pending := (e.next, c) :: e.pending,
                    taskQ := e.taskQ ++ [⟨e.next, en⟩] } := by
  refine h.grow e.next (Nat.le_refl _) rfl (by simp [keys]) ?_
  simp only [inflight, List.map_append, List.map_cons, List.map_nil, List.append_assoc, List.singleton_append]
  exact List.perm_middle

theorem ExecOk.take {e : Exec} (h : ExecOk e) (w : Nat) (t : Task) (q : List Task) (hq : e.taskQ = t :: q) :
    ExecOk { e with taskQ := q, held := (w, t) :: e.held } := by
  refine h.shuffle rfl rfl ?_
  simp only [inflight, hq, List.map_cons, List.append_assoc, List.cons_append]
  exact List.perm_middle

theorem ExecOk.finish {e : Exec} (h : ExecOk e) (w : Nat) (t : Task) (o : Outcome) (b : Bool) (cr : Nat → Carry)
    (hm : (w, t) ∈ e.held) :
    ExecOk { e with held := e.held.erase (w, t), resultQ := e.resultQ ++ [⟨t.id, o⟩], stopped := b, carry := cr } := by
  refine h.shuffle rfl rfl ?_
  simp only [inflight, List.map_append, List.map_cons, List.map_nil, List.append_assoc]
  refine List.Perm.append_left _ ?_
  rw [← List.append_assoc]
  exact (List.perm_append_singleton _ _).trans (((List.perm_cons_erase hm).map (·.2.id)).append_right _).symm

theorem ExecOk.deliver {e : Exec} (h : ExecOk e) (r : Result) (q : List Result) (c : Nat)
    (hq : e.resultQ = r :: q) (hm : (r.id, c) ∈ e.pending) :
    ExecOk { e with resultQ := q, pending := e.pending.erase (r.id, c) } := by
  refine h.shrink r.id rfl ?_ ?_
  · exact (List.perm_cons_erase hm).map (·.1)
  · simp only [inflight, hq, List.map_cons]
    exact List.perm_middle

theorem ExecOk.init : ExecOk {} := by
  refine ⟨?_, ?_, ?_, ?_⟩ <;> simp [keys, inflight]

/-- Everything a step can do, one constructor per branch of `step` that returns a state. -/
inductive Does (cfg : Config) (s : State) : Step → State → Prop
  | arrive {c} (hc : c < cfg.callers.length) (hp : s.phase c = .fresh) :
    Does cfg s (.arrive c) { s with phase := upd s.phase c .d0 }
  | hit {c} (hp : s.phase c = .d0) (hl : ¬(cfg.locked = true ∧ s.lock ≠ none)) (hin : (spec cfg c).app ∈ s.cache) :
    Does cfg s (.desc c) { s with phase := upd s.phase c .resolved }
  | enter {c} (hp : s.phase c = .d0) (hl : ¬(cfg.locked = true ∧ s.lock ≠ none)) (hin : (spec cfg c).app ∉ s.cache) :
    Does cfg s (.desc c) { s with phase := upd s.phase c .d1, lock := if cfg.locked then some c else none }
  | list {c} (hp : s.phase c = .d1) : Does cfg s (.desc c) { s with phase := upd s.phase c (.d2 cfg.inventory) }
  | diff {c l} (hp : s.phase c = .d2 l) :
    Does cfg s (.desc c) { s with phase := upd s.phase c (.d3 (l.filter (fun a => a ∉ s.cache))) }
  | update {c u} (hp : s.phase c = .d3 u) :
    Does cfg s (.desc c) { s with phase := upd s.phase c (.d4 u), cache := s.cache ++ u }
  | found {c u} (hp : s.phase c = .d4 u) (hin : (spec cfg c).app ∈ u) :
    Does cfg s (.desc c) { s with phase := upd s.phase c .resolved, lock := none }
  | missing {c u} (hp : s.phase c = .d4 u) (hin : (spec cfg c).app ∉ u) :
    Does cfg s (.desc c) { answer s c (.error .missingApp) with lock := none }
  | decodeFail {c} (hp : s.phase c = .resolved) (hb : (spec cfg c).badEncoding = true) :
    Does cfg s (.decodeFail c) (answer s c (.error .unsupported))
  | refuse {c} (hp : s.phase c = .resolved) (hb : (spec cfg c).badEncoding = false)
    (hst : (s.execs (cfg.select (spec cfg c).app)).stopped = true) :
    Does cfg s (.submit c) (answer s c (.error .notRunning))
  | submit {c i} (hp : s.phase c = .resolved) (hb : (spec cfg c).badEncoding = false)
    (hi : i = cfg.select (spec cfg c).app) (hst : (s.execs i).stopped = false) :
    Does cfg s (.submit c) { s with
      phase := upd s.phase c (.submitted i (s.execs i).next)
      execs := upd s.execs i { s.execs i with
        started := true, next := (s.execs i).next + 1, pending := ((s.execs i).next, c) :: (s.execs i).pending,
        taskQ := (s.execs i).taskQ ++ [⟨(s.execs i).next, entryOf cfg c⟩] } }
  | take {i w t q} (hw : w < cfg.workers) (hst : (s.execs i).stopped = false) (hf : (s.execs i).held.lookup w = none)
    (hq : (s.execs i).taskQ = t :: q) :
    Does cfg s (.take i w) { s with execs := upd s.execs i { s.execs i with taskQ := q, held := (w, t) :: (s.execs i).held } }
  | finish {i w t} (ht : (s.execs i).held.lookup w = some t) :
    Does cfg s (.finish i w) { s with execs := upd s.execs i { s.execs i with
      held := (s.execs i).held.erase (w, t),
      resultQ := (s.execs i).resultQ ++ [⟨t.id, (workerCall cfg.reset i (cfg.fanout i) ((s.execs i).carry w) t.entry).1⟩],
      stopped := (s.execs i).stopped || decide (t.entry.kind = .fatal),
      carry := upd (s.execs i).carry w (workerCall cfg.reset i (cfg.fanout i) ((s.execs i).carry w) t.entry).2 } }
  | drop {i r q} (hst : (s.execs i).stopped = false) (hq : (s.execs i).resultQ = r :: q)
    (hl : (s.execs i).pending.lookup r.id = none) :
    Does cfg s (.deliver i) { s with execs := upd s.execs i { s.execs i with resultQ := q, stopped := true } }
  | fail {i r q c err} (hst : (s.execs i).stopped = false) (hq : (s.execs i).resultQ = r :: q)
    (hl : (s.execs i).pending.lookup r.id = some c) (ho : r.out.err? = some err) :
    Does cfg s (.deliver i) { answer s c (.error err) with
      execs := upd s.execs i { s.execs i with resultQ := q, pending := (s.execs i).pending.erase (r.id, c) } }
  | result {i r q c} (hst : (s.execs i).stopped = false) (hq : (s.execs i).resultQ = r :: q)
    (hl : (s.execs i).pending.lookup r.id = some c) (ho : r.out.err? = none) :
    Does cfg s (.deliver i) { s with
      phase := upd s.phase c (.responding r.out)
      execs := upd s.execs i { s.execs i with resultQ := q, pending := (s.execs i).pending.erase (r.id, c) } }
  | respond {c o} (hp : s.phase c = .responding o) : Does cfg s (.respond c) (answer s c (encode cfg c o))

variable {cfg : Config} {s s' : State} {a : Step}

theorem step_does (h : step cfg s a = some s') : Does cfg s a s' := by
  cases a <;> simp only [step] at h
  case arrive c =>
    split at h
    · rename_i hc; cases h; exact .arrive hc.1 hc.2
    · cases h
  case desc c =>
    split at h
    · rename_i hp
      split at h
      · cases h
      · rename_i hl
        split at h
        · rename_i hc; cases h; exact .hit hp hl hc
        · rename_i hc; cases h; exact .enter hp hl hc
    · rename_i hp; cases h; exact .list hp
    · rename_i l hp; cases h; exact .diff hp
    · rename_i u hp; cases h; exact .update hp
    · rename_i u hp
      split at h
      · rename_i hc; cases h; exact .found hp hc
      · rename_i hc; cases h; exact .missing hp hc
    · cases h
  case decodeFail c =>
    split at h
    · rename_i hc; cases h; exact .decodeFail hc.1 hc.2
    · cases h
  case submit c =>
    split at h
    · rename_i hc
      split at h
      · rename_i hs; cases h; exact .refuse hc.1 hc.2 hs
      · rename_i hs; cases h; exact .submit hc.1 hc.2 rfl (by simpa using hs)
    · cases h
  case take i w =>
    split at h
    · rename_i hc
      split at h
      · cases h
      · rename_i t q hq; cases h; exact .take hc.1 hc.2.1 hc.2.2 hq
    · cases h
  case finish i w =>
    split at h
    · cases h
    · rename_i t ht; cases h; exact .finish ht
  case deliver i =>
    split at h
    · cases h
    · rename_i hs
      have hs : (s.execs i).stopped = false := by simpa using hs
      split at h
      · cases h
      · rename_i r q hq
        split at h
        · rename_i hl; cases h; exact .drop hs hq hl
        · rename_i c hl
          split at h
          · rename_i err ho; cases h; exact .fail hs hq hl ho
          · rename_i ho; cases h; exact .result hs hq hl ho
  case respond c =>
    split at h
    · rename_i o hp; cases h; exact .respond hp
    · cases h

theorem Does.step (h : Does cfg s a s') : step cfg s a = some s' := by
  cases h
  case submit hp hb hi hst => subst hi; simp [Serving.step, *]
  all_goals simp [Serving.step, *]

theorem forall_upd {α : Type} {P : Nat → α → Prop} {f : Nat → α} {k : Nat} {v : α}
    (hk : P k v) (h : ∀ j, j ≠ k → P j (f j)) (j : Nat) : P j (upd f k v j) := by
  by_cases e : j = k
  · subst e; rw [upd_same]; exact hk
  · rw [upd_other _ _ _ _ e]; exact h j e

theorem mem_inflight_task {e : Exec} {t : Task} (h : t ∈ e.taskQ) : t.id ∈ inflight e := by
  simp only [inflight, List.mem_append, List.mem_map]
  exact Or.inl (Or.inl ⟨t, h, rfl⟩)

theorem mem_inflight_held {e : Exec} {w : Nat} {t : Task} (h : (w, t) ∈ e.held) : t.id ∈ inflight e := by
  simp only [inflight, List.mem_append, List.mem_map]
  exact Or.inl (Or.inr ⟨(w, t), h, rfl⟩)

theorem mem_inflight_result {e : Exec} {r : Result} (h : r ∈ e.resultQ) : r.id ∈ inflight e := by
  simp only [inflight, List.mem_append, List.mem_map]
  exact Or.inr ⟨r, h, rfl⟩

theorem mem_keys_iff {e : Exec} {id : Nat} : id ∈ keys e ↔ ∃ c, (id, c) ∈ e.pending := by
  simp [keys]

theorem ExecOk.inflight_lt {e : Exec} (h : ExecOk e) {id : Nat} (hm : id ∈ inflight e) : id < e.next :=
  h.keys_lt id ((h.fl_keys id).1 hm)

theorem ExecOk.pending_lt {e : Exec} (h : ExecOk e) {id c : Nat} (hm : (id, c) ∈ e.pending) : id < e.next :=
  h.keys_lt id (mem_keys_iff.2 ⟨c, hm⟩)

theorem ExecOk.pending_of_inflight {e : Exec} (h : ExecOk e) {id : Nat} (hm : id ∈ inflight e) :
    ∃ c, (id, c) ∈ e.pending :=
  mem_keys_iff.1 ((h.fl_keys id).1 hm)

theorem ExecOk.pending_nodup {e : Exec} (h : ExecOk e) : e.pending.Nodup :=
  List.Pairwise.of_map (·.1) (fun _ _ hne e => hne (e ▸ rfl)) h.keys_nodup

/-- the `KeyError` branch of `Executor.run` is dead: the id of a queued result is in flight, hence pending -/
theorem ExecOk.lookup_result {e : Exec} (h : ExecOk e) {r : Result} {q : List Result} (hq : e.resultQ = r :: q) :
    e.pending.lookup r.id ≠ none :=
  fun hl => lookup_eq_none_iff_not_mem.1 hl ((h.fl_keys _).1 (mem_inflight_result (hq ▸ List.mem_cons_self)))

def critical : Phase → Prop
  | .d1 | .d2 _ | .d3 _ | .d4 _ => True
  | _ => False

instance : DecidablePred critical := fun p => by cases p <;> simp [critical] <;> infer_instance

/-- `Wrapper._lock`: never taken when the code runs unsynchronised; otherwise held by exactly the caller that is
inside the list/diff/update/test block of `_get_descriptor` -/
structure LockOk (cfg : Config) (ph : Nat → Phase) (lock : Option Nat) : Prop where
  off : cfg.locked = false → lock = none
  crit : ∀ c, lock = some c → critical (ph c)
  held : cfg.locked = true → ∀ c, critical (ph c) → lock = some c

section
variable {ph : Nat → Phase} {lock : Option Nat}

theorem LockOk.mutex (h : LockOk cfg ph lock) (hk : cfg.locked = true) {c c' : Nat} (hc : critical (ph c))
    (hc' : critical (ph c')) : c = c' :=
  Option.some.inj ((h.held hk c hc).symm.trans (h.held hk c' hc'))

theorem LockOk.stay (h : LockOk cfg ph lock) (c : Nat) (p : Phase) (hp : critical p ↔ critical (ph c)) :
    LockOk cfg (upd ph c p) lock := by
  refine ⟨h.off, fun c' hl => ?_, fun hk c' hc => h.held hk c' ?_⟩
  · exact forall_upd (P := fun x q => lock = some x → critical q) (fun e => hp.2 (h.crit c e)) (fun x _ => h.crit x) c' hl
  · exact forall_upd (P := fun x q => critical q → critical (ph x)) hp.1 (fun _ _ => id) c' hc

theorem LockOk.enter (h : LockOk cfg ph lock) (c : Nat) (p : Phase) (hfree : ¬(cfg.locked = true ∧ lock ≠ none))
    (hp : critical p) : LockOk cfg (upd ph c p) (if cfg.locked then some c else none) := by
  refine ⟨fun hk => by rw [hk]; rfl, fun c' hl => ?_, fun hk c' hc => ?_⟩
  · split at hl
    · cases hl; rw [upd_same]; exact hp
    · cases hl
  · rw [if_pos hk]
    by_cases e : c' = c
    · rw [e]
    · rw [upd_other _ _ _ _ e] at hc
      exact absurd ⟨hk, by rw [h.held hk c' hc]; nofun⟩ hfree

theorem LockOk.leave (h : LockOk cfg ph lock) (c : Nat) (p : Phase) (hc : critical (ph c)) (hp : ¬ critical p) :
    LockOk cfg (upd ph c p) none := by
  refine ⟨fun _ => rfl, nofun, fun hk c' hc' => ?_⟩
  by_cases e : c' = c
  · subst e; rw [upd_same] at hc'; exact absurd hc' hp
  · rw [upd_other _ _ _ _ e] at hc'
    exact absurd (h.mutex hk hc' hc) e

end

/-- what caller `c` in phase `p` of `_get_descriptor` knows, given the keys `cache` of `Wrapper._descriptors` -/
def DescOk (cfg : Config) (cache : List Nat) (c : Nat) : Phase → Prop
  | .d1 => cfg.locked = true → (spec cfg c).app ∉ cache
  | .d2 l => l = cfg.inventory ∧ (cfg.locked = true → (spec cfg c).app ∉ cache)
  | .d3 u | .d4 u => (∀ a, a ∈ u → a ∈ cfg.inventory)
      ∧ (cfg.locked = true → (spec cfg c).app ∈ cfg.inventory → (spec cfg c).app ∈ u)
  | .resolved => (spec cfg c).app ∈ cfg.inventory
  | _ => True

theorem DescOk.cache_indep {cache cache' : List Nat} {c : Nat} {p : Phase} (h : DescOk cfg cache c p)
    (hp : cfg.locked = true → ¬ critical p) : DescOk cfg cache' c p := by
  cases p with
  | d1 => exact fun hk => absurd trivial (hp hk)
  | d2 l => exact ⟨h.1, fun hk => absurd trivial (hp hk)⟩
  | _ => exact h

structure InvD (cfg : Config) (s : State) : Prop where
  cache_inv : ∀ a, a ∈ s.cache → a ∈ cfg.inventory
  lock : LockOk cfg s.phase s.lock
  desc : ∀ c, DescOk cfg s.cache c (s.phase c)

theorem InvD.init : InvD cfg Serving.init :=
  ⟨nofun, ⟨fun _ => rfl, nofun, fun _ _ => False.elim⟩, fun _ => trivial⟩

theorem InvD.of_phase (h : InvD cfg s) {c : Nat} {p : Phase} (hp : s.phase c = p) : DescOk cfg s.cache c p :=
  hp ▸ h.desc c

theorem InvD.res_known (h : InvD cfg s) {c : Nat} (hp : s.phase c = .resolved) : (spec cfg c).app ∈ cfg.inventory :=
  h.of_phase hp

theorem InvD.move (h : InvD cfg s) (c : Nat) (p : Phase) (hc : s'.cache = s.cache) (hl : s'.lock = s.lock)
    (hph : s'.phase = upd s.phase c p) (hp : critical p ↔ critical (s.phase c)) (hd : DescOk cfg s.cache c p) :
    InvD cfg s' := by
  refine ⟨?_, ?_, ?_⟩
  · rw [hc]; exact h.cache_inv
  · rw [hl, hph]; exact h.lock.stay c p hp
  · rw [hc, hph]; exact forall_upd (P := DescOk cfg s.cache) hd (fun c' _ => h.desc c')

def hasFatal (cfg : Config) : Bool := cfg.callers.any (fun sp => decide (sp.entry.kind = .fatal))

theorem spec_mem {c : Nat} (hc : c < cfg.callers.length) : spec cfg c ∈ cfg.callers := by
  simp [spec, List.getD, hc]

theorem hasFatal_of_caller {c : Nat} (hc : c < cfg.callers.length) (hk : (entryOf cfg c).kind = .fatal) :
    hasFatal cfg = true :=
  List.any_eq_true.2 ⟨spec cfg c, spec_mem hc, decide_eq_true hk⟩

structure InvC (cfg : Config) (s : State) : Prop where
  ans_done : ∀ c o, (c, o) ∈ s.answers → s.phase c = .done
  ans_nodup : (s.answers.map (·.1)).Nodup
  ans_ok : ∀ c o, (c, o) ∈ s.answers → o = expected cfg c ∨ (o = .error .missingApp ∧ cfg.locked = false)
    ∨ (o = .error .notRunning ∧ hasFatal cfg = true) ∨ cfg.reset ≠ .always
  pend_phase : ∀ i id c, (id, c) ∈ (s.execs i).pending → s.phase c = .submitted i id
  pend_exp : ∀ i id c, (id, c) ∈ (s.execs i).pending →
    expected cfg c = finalOf cfg c (runInst cfg i (entryOf cfg c)) ∧ i = cfg.select (spec cfg c).app
  sub_pend : ∀ c i id, s.phase c = .submitted i id → (id, c) ∈ (s.execs i).pending
  task_data : ∀ i t c, (t ∈ (s.execs i).taskQ ∨ t ∈ (s.execs i).held.map (·.2)) →
    (t.id, c) ∈ (s.execs i).pending → t.entry = entryOf cfg c
  res_data : cfg.reset = .always → ∀ i r c, r ∈ (s.execs i).resultQ → (r.id, c) ∈ (s.execs i).pending →
    r.out = runInst cfg i (entryOf cfg c)
  stop_fatal : ∀ i, (s.execs i).stopped = true → hasFatal cfg = true
  arrived_lt : ∀ c, s.phase c ≠ .fresh → c < cfg.callers.length
  done_ans : ∀ c, s.phase c = .done → ∃ o, (c, o) ∈ s.answers
  held_lt : ∀ i w t, (w, t) ∈ (s.execs i).held → w < cfg.workers
  resp_ok : cfg.reset = .always → ∀ c o, s.phase c = .responding o → encode cfg c o = expected cfg c

/-- what `InvC` says of the callers' phases and the answer log -/
structure LogOk (cfg : Config) (ph : Nat → Phase) (ans : List (Nat × Outcome)) : Prop where
  ans_done : ∀ c o, (c, o) ∈ ans → ph c = .done
  ans_nodup : (ans.map (·.1)).Nodup
  ans_ok : ∀ c o, (c, o) ∈ ans → o = expected cfg c ∨ (o = .error .missingApp ∧ cfg.locked = false)
    ∨ (o = .error .notRunning ∧ hasFatal cfg = true) ∨ cfg.reset ≠ .always
  arrived_lt : ∀ c, ph c ≠ .fresh → c < cfg.callers.length
  done_ans : ∀ c, ph c = .done → ∃ o, (c, o) ∈ ans
  resp_ok : cfg.reset = .always → ∀ c o, ph c = .responding o → encode cfg c o = expected cfg c

/-- what `InvC` says of executor `i`, given the callers' phases -/
structure ExecC (cfg : Config) (ph : Nat → Phase) (i : Nat) (e : Exec) : Prop where
  pend_phase : ∀ id c, (id, c) ∈ e.pending → ph c = .submitted i id
  pend_exp : ∀ id c, (id, c) ∈ e.pending →
    expected cfg c = finalOf cfg c (runInst cfg i (entryOf cfg c)) ∧ i = cfg.select (spec cfg c).app
  sub_pend : ∀ c id, ph c = .submitted i id → (id, c) ∈ e.pending
  task_data : ∀ t c, (t ∈ e.taskQ ∨ t ∈ e.held.map (·.2)) → (t.id, c) ∈ e.pending → t.entry = entryOf cfg c
  res_data : cfg.reset = .always → ∀ r c, r ∈ e.resultQ → (r.id, c) ∈ e.pending → r.out = runInst cfg i (entryOf cfg c)
  stop_fatal : e.stopped = true → hasFatal cfg = true
  held_lt : ∀ w t, (w, t) ∈ e.held → w < cfg.workers

theorem InvC.log (h : InvC cfg s) : LogOk cfg s.phase s.answers :=
  ⟨h.ans_done, h.ans_nodup, h.ans_ok, h.arrived_lt, h.done_ans, h.resp_ok⟩

theorem InvC.exec (h : InvC cfg s) (i : Nat) : ExecC cfg s.phase i (s.execs i) :=
  ⟨h.pend_phase i, h.pend_exp i, fun c => h.sub_pend c i, h.task_data i, fun hr => h.res_data hr i, h.stop_fatal i,
    h.held_lt i⟩

theorem InvC.of_parts (hl : LogOk cfg s.phase s.answers) (he : ∀ i, ExecC cfg s.phase i (s.execs i)) : InvC cfg s :=
  ⟨hl.ans_done, hl.ans_nodup, hl.ans_ok, fun i => (he i).pend_phase, fun i => (he i).pend_exp,
    fun c i => (he i).sub_pend c, fun i => (he i).task_data, fun hr i => (he i).res_data hr, fun i => (he i).stop_fatal,
    hl.arrived_lt, hl.done_ans, fun i => (he i).held_lt, hl.resp_ok⟩

theorem InvC.of_parts_upd {ph : Nat → Phase} {lock : Option Nat} {cache : List Nat} {execs : Nat → Exec}
    {ans : List (Nat × Outcome)} {i : Nat} {e : Exec}
    (hl : LogOk cfg ph ans) (hi : ExecC cfg ph i e) (ho : ∀ j, j ≠ i → ExecC cfg ph j (execs j)) :
    InvC cfg ⟨ph, cache, lock, upd execs i e, ans⟩ :=
  InvC.of_parts hl (forall_upd (P := ExecC cfg ph) hi ho)

theorem InvC.init : InvC cfg Serving.init := by
  constructor <;> simp [Serving.init]

theorem InvC.arrived (h : InvC cfg s) {c : Nat} {p : Phase} (hp : s.phase c = p) (hn : p ≠ .fresh) :
    c < cfg.callers.length :=
  h.arrived_lt c (hp ▸ hn)

section
variable {ph : Nat → Phase} {i : Nat} {e : Exec}

theorem LogOk.move {ans : List (Nat × Outcome)} (h : LogOk cfg ph ans) (c : Nat) (p : Phase) (h1 : ph c ≠ .done)
    (h4 : p ≠ .done) (h3 : c < cfg.callers.length)
    (h5 : cfg.reset = .always → ∀ o, p = .responding o → encode cfg c o = expected cfg c) :
    LogOk cfg (upd ph c p) ans := by
  refine ⟨fun c' o hm => ?_, h.ans_nodup, h.ans_ok, ?_, ?_, fun hr => ?_⟩
  · have hd := h.ans_done c' o hm
    rw [upd_other _ _ _ _ (fun e : c' = c => h1 (e ▸ hd))]; exact hd
  · exact forall_upd (P := fun x (q : Phase) => q ≠ .fresh → x < cfg.callers.length) (fun _ => h3) (fun x _ => h.arrived_lt x)
  · exact forall_upd (P := fun x (q : Phase) => q = .done → ∃ o, (x, o) ∈ ans) (fun e => absurd e h4) (fun x _ => h.done_ans x)
  · exact forall_upd (P := fun x (q : Phase) => ∀ o, q = .responding o → encode cfg x o = expected cfg x) (h5 hr)
      (fun x _ => h.resp_ok hr x)

theorem LogOk.answer {ans : List (Nat × Outcome)} (h : LogOk cfg ph ans) (c : Nat) (o : Outcome) (h1 : ph c ≠ .done)
    (h3 : c < cfg.callers.length)
    (ho : o = expected cfg c ∨ (o = .error .missingApp ∧ cfg.locked = false)
      ∨ (o = .error .notRunning ∧ hasFatal cfg = true) ∨ cfg.reset ≠ .always) :
    LogOk cfg (upd ph c .done) ((c, o) :: ans) := by
  refine ⟨fun c' o' hm => ?_, List.nodup_cons.2 ⟨fun hm => ?_, h.ans_nodup⟩, fun c' o' hm => ?_, ?_, ?_, fun hr => ?_⟩
  · by_cases e : c' = c
    · rw [e, upd_same]
    · rw [upd_other _ _ _ _ e]
      exact h.ans_done c' o' ((List.mem_cons.1 hm).resolve_left (fun e' => e (congrArg Prod.fst e')))
  · obtain ⟨x, hx, rfl⟩ := List.mem_map.1 hm
    exact h1 (h.ans_done x.1 x.2 hx)
  · rcases List.mem_cons.1 hm with e | hm
    · cases e; exact ho
    · exact h.ans_ok c' o' hm
  · exact forall_upd (P := fun x (q : Phase) => q ≠ .fresh → x < cfg.callers.length) (fun _ => h3) (fun x _ => h.arrived_lt x)
  · exact forall_upd (P := fun x (q : Phase) => q = .done → ∃ o', (x, o') ∈ (c, o) :: ans) (fun _ => ⟨o, List.mem_cons_self⟩)
      (fun x _ hq => (h.done_ans x hq).imp (fun _ => List.mem_cons_of_mem _))
  · exact forall_upd (P := fun x (q : Phase) => ∀ o, q = .responding o → encode cfg x o = expected cfg x) nofun
      (fun x _ => h.resp_ok hr x)

theorem ExecC.move (h : ExecC cfg ph i e) (c : Nat) (p : Phase) (h0 : ∀ id, ph c ≠ .submitted i id)
    (h2 : ∀ id, p ≠ .submitted i id) : ExecC cfg (upd ph c p) i e :=
  { h with
    pend_phase := fun id c' hm => by
      have hp := h.pend_phase id c' hm
      rw [upd_other _ _ _ _ (fun e : c' = c => h0 id (e ▸ hp))]; exact hp
    sub_pend := forall_upd (P := fun x (q : Phase) => ∀ id, q = .submitted i id → (id, x) ∈ e.pending)
      (fun id hq => absurd hq (h2 id)) (fun x _ => h.sub_pend x) }

/-- `Executor.apply`: the next id is above every key and every id in flight, so nothing that is pending changes hands -/
theorem ExecC.submit (h : ExecC cfg ph i e) (hE : ExecOk e) (c : Nat) (h0 : ∀ id, ph c ≠ .submitted i id)
    (hx : expected cfg c = finalOf cfg c (runInst cfg i (entryOf cfg c))) (hi : i = cfg.select (spec cfg c).app) :
    ExecC cfg (upd ph c (.submitted i e.next)) i { e with
      started := true, next := e.next + 1, pending := (e.next, c) :: e.pending,
      taskQ := e.taskQ ++ [⟨e.next, entryOf cfg c⟩] } := by
  have old : ∀ {id c'}, id < e.next → (id, c') ∈ (e.next, c) :: e.pending → (id, c') ∈ e.pending := fun hlt hm =>
    (List.mem_cons.1 hm).resolve_left (fun e' => Nat.ne_of_lt hlt (congrArg Prod.fst e'))
  refine ⟨?_, ?_, ?_, ?_, ?_, h.stop_fatal, h.held_lt⟩
  · intro id c' hm
    rcases List.mem_cons.1 hm with e' | hm
    · cases e'; rw [upd_same]
    · have hp := h.pend_phase id c' hm
      rw [upd_other _ _ _ _ (fun e : c' = c => h0 id (e ▸ hp))]; exact hp
  · intro id c' hm
    rcases List.mem_cons.1 hm with e' | hm
    · cases e'; exact ⟨hx, hi⟩
    · exact h.pend_exp id c' hm
  · exact forall_upd (P := fun x (q : Phase) => ∀ id, q = .submitted i id → (id, x) ∈ (e.next, c) :: e.pending)
      (fun id hq => by cases hq; exact List.mem_cons_self) (fun x _ id hq => List.mem_cons_of_mem _ (h.sub_pend x id hq))
  · intro t c' ht hm
    have told : t ∈ e.taskQ ∨ t ∈ e.held.map (·.2) → t.entry = entryOf cfg c' := fun ht => by
      refine h.task_data t c' ht (old (hE.inflight_lt ?_) hm)
      rcases ht with ht | ht
      · exact mem_inflight_task ht
      · obtain ⟨x, hx, rfl⟩ := List.mem_map.1 ht; exact mem_inflight_held hx
    rcases ht with ht | ht
    · rcases List.mem_append.1 ht with ht | ht
      · exact told (Or.inl ht)
      · rw [List.mem_singleton] at ht; subst ht
        rcases List.mem_cons.1 hm with e' | hm
        · cases e'; rfl
        · exact absurd (hE.pending_lt hm) (Nat.lt_irrefl _)
    · exact told (Or.inr ht)
  · intro hr r c' hq hm
    exact h.res_data hr r c' hq (old (hE.inflight_lt (mem_inflight_result hq)) hm)

/-- `Pool.Worker.run`: `tasks.get` -/
theorem ExecC.take (h : ExecC cfg ph i e) {w : Nat} {t : Task} {q : List Task} (hq : e.taskQ = t :: q)
    (hw : w < cfg.workers) : ExecC cfg ph i { e with taskQ := q, held := (w, t) :: e.held } :=
  { h with
    task_data := fun t' c ht => h.task_data t' c (by
      rw [hq]
      rcases ht with ht | ht
      · exact Or.inl (List.mem_cons_of_mem _ ht)
      · rcases List.mem_cons.1 ht with rfl | ht
        · exact Or.inl List.mem_cons_self
        · exact Or.inr ht)
    held_lt := fun w' t' hm => by
      rcases List.mem_cons.1 hm with e' | hm
      · cases e'; exact hw
      · exact h.held_lt w' t' hm }

/-- `Pool.Worker.run`: `results.put` -/
theorem ExecC.finish (h : ExecC cfg ph i e) (hE : ExecOk e) (hlt : ∀ c, ph c ≠ .fresh → c < cfg.callers.length)
    {w : Nat} {t : Task} {o : Outcome} (cr : Nat → Carry) (hm : (w, t) ∈ e.held)
    (ho : cfg.reset = .always → o = runInst cfg i t.entry) :
    ExecC cfg ph i { e with
      held := e.held.erase (w, t), resultQ := e.resultQ ++ [⟨t.id, o⟩],
      stopped := e.stopped || decide (t.entry.kind = .fatal), carry := cr } := by
  have hd : ∀ c, (t.id, c) ∈ e.pending → t.entry = entryOf cfg c :=
    fun c => h.task_data t c (Or.inr (List.mem_map.2 ⟨(w, t), hm, rfl⟩))
  refine ⟨h.pend_phase, h.pend_exp, h.sub_pend, fun t' c ht => h.task_data t' c (ht.imp_right fun ht => ?_), ?_,
    fun hs => ?_, fun w' t' hm' => h.held_lt w' t' (List.mem_of_mem_erase hm')⟩
  · obtain ⟨x, hx, rfl⟩ := List.mem_map.1 ht
    exact List.mem_map.2 ⟨x, List.mem_of_mem_erase hx, rfl⟩
  · intro hr r c hq hp
    rcases List.mem_append.1 hq with hq | hq
    · exact h.res_data hr r c hq hp
    · rw [List.mem_singleton] at hq; subst hq
      exact (ho hr).trans (congrArg _ (hd c hp))
  · rcases Bool.or_eq_true_iff.1 hs with hs | hs
    · exact h.stop_fatal hs
    · obtain ⟨c, hc⟩ := hE.pending_of_inflight (mem_inflight_held hm)
      refine hasFatal_of_caller (hlt c (by rw [h.pend_phase _ c hc]; nofun)) ?_
      rw [← hd c hc]; exact of_decide_eq_true hs

/-- `Executor.run`: the head of the result queue resolves the future of its caller `c`, who goes on to `p` -/
theorem ExecC.deliver (h : ExecC cfg ph i e) (hE : ExecOk e) {r : Result} {q : List Result} {c : Nat}
    (hq : e.resultQ = r :: q) (hm : (r.id, c) ∈ e.pending) (p : Phase) (h2 : ∀ id, p ≠ .submitted i id) :
    ExecC cfg (upd ph c p) i { e with resultQ := q, pending := e.pending.erase (r.id, c) } := by
  have old : ∀ {x}, x ∈ e.pending.erase (r.id, c) → x ∈ e.pending := List.mem_of_mem_erase
  refine ⟨?_, fun id c' hm' => h.pend_exp id c' (old hm'), ?_, fun t c' ht hm' => h.task_data t c' ht (old hm'),
    fun hr r' c' hr' hm' => h.res_data hr r' c' (hq ▸ List.mem_cons_of_mem _ hr') (old hm'), h.stop_fatal, h.held_lt⟩
  · intro id c' hm'
    obtain ⟨hne, hm'⟩ := hE.pending_nodup.mem_erase_iff.1 hm'
    have hp := h.pend_phase id c' hm'
    have hcc : c' ≠ c := fun e' => by
      subst e'
      have := hp.symm.trans (h.pend_phase _ _ hm)
      cases this; exact hne rfl
    rw [upd_other _ _ _ _ hcc]; exact hp
  · exact forall_upd (P := fun x (q : Phase) => ∀ id, q = .submitted i id → (id, x) ∈ e.pending.erase (r.id, c))
      (fun id hq => absurd hq (h2 id))
      (fun x hx id hq => (List.mem_erase_of_ne (fun e' => hx (congrArg Prod.snd e'))).2 (h.sub_pend x id hq))

end

theorem InvC.phase_only (h : InvC cfg s) (c : Nat) (p : Phase)
    (he : s'.execs = s.execs) (ha : s'.answers = s.answers) (hp : s'.phase = upd s.phase c p)
    (h0 : ∀ i id, s.phase c ≠ .submitted i id) (h1 : s.phase c ≠ .done)
    (h2 : ∀ i id, p ≠ .submitted i id) (h4 : p ≠ .done) (h5 : ∀ o, p ≠ .responding o)
    (h3 : c < cfg.callers.length) : InvC cfg s' := by
  refine InvC.of_parts ?_ (fun i => ?_)
  · rw [ha, hp]; exact h.log.move c p h1 h4 h3 (fun _ o e => absurd e (h5 o))
  · rw [he, hp]; exact (h.exec i).move c p (h0 i) (h2 i)

theorem InvC.answered (h : InvC cfg s) (c : Nat) (o : Outcome)
    (he : s'.execs = s.execs) (ha : s'.answers = (c, o) :: s.answers) (hp : s'.phase = upd s.phase c .done)
    (h0 : ∀ i id, s.phase c ≠ .submitted i id) (h1 : s.phase c ≠ .done) (h3 : c < cfg.callers.length)
    (ho : o = expected cfg c ∨ (o = .error .missingApp ∧ cfg.locked = false)
      ∨ (o = .error .notRunning ∧ hasFatal cfg = true) ∨ cfg.reset ≠ .always) : InvC cfg s' := by
  refine InvC.of_parts ?_ (fun i => ?_)
  · rw [ha, hp]; exact h.log.answer c o h1 h3 ho
  · rw [he, hp]; exact (h.exec i).move c .done (h0 i) nofun

theorem InvC.submit (h : InvC cfg s) (hE : ∀ i, ExecOk (s.execs i)) (c : Nat)
    (hp : s.phase c = .resolved) (hb : (spec cfg c).badEncoding = false)
    (hk : (spec cfg c).app ∈ cfg.inventory) :
    InvC cfg { s with
          phase := upd s.phase c (.submitted (cfg.select (spec cfg c).app) (s.execs (cfg.select (spec cfg c).app)).next)
          execs := upd s.execs (cfg.select (spec cfg c).app) { s.execs (cfg.select (spec cfg c).app) with
            started := true, next := (s.execs (cfg.select (spec cfg c).app)).next + 1,
            pending := ((s.execs (cfg.select (spec cfg c).app)).next, c) :: (s.execs (cfg.select (spec cfg c).app)).pending,
            taskQ := (s.execs (cfg.select (spec cfg c).app)).taskQ ++ [⟨(s.execs (cfg.select (spec cfg c).app)).next, entryOf cfg c⟩] } } := by
  have hne : ∀ j id, s.phase c ≠ .submitted j id := fun _ _ => by rw [hp]; nofun
  refine InvC.of_parts_upd ?_ ?_ (fun j hj => ?_)
  · exact h.log.move c _ (by rw [hp]; nofun) nofun (h.arrived hp nofun) (fun _ _ => nofun)
  · exact (h.exec _).submit (hE _) c (hne _) (by simp [expected, hk, hb]) rfl
  · exact (h.exec j).move c _ (hne j) (fun id e' => hj (by cases e'; rfl))

theorem InvC.finish (h : InvC cfg s) (hE : ∀ i, ExecOk (s.execs i)) (i w : Nat) (t : Task) (o : Outcome)
    (cr : Nat → Carry) (hm : (w, t) ∈ (s.execs i).held) (ho : cfg.reset = .always → o = runInst cfg i t.entry) :
    InvC cfg { s with execs := upd s.execs i { s.execs i with
        held := (s.execs i).held.erase (w, t), resultQ := (s.execs i).resultQ ++ [⟨t.id, o⟩],
        stopped := (s.execs i).stopped || decide (t.entry.kind = .fatal), carry := cr } } :=
  InvC.of_parts_upd h.log ((h.exec i).finish (hE i) h.arrived_lt cr hm ho) (fun j _ => h.exec j)

theorem InvC.not_stopped (h : InvC cfg s) (hf : hasFatal cfg = false) (i : Nat) : (s.execs i).stopped = false :=
  Bool.eq_false_iff.2 fun hs => Bool.false_ne_true (hf.symm.trans (h.stop_fatal i hs))

theorem finalOf_error (c : Nat) (err : Err) : finalOf cfg c (.error err) = .error err := rfl

theorem finalOf_of_none (c : Nat) (o : Outcome) (h : o.err? = none) : finalOf cfg c o = encode cfg c o := by
  cases o with
  | error e => cases h
  | _ => rfl

theorem eq_error_of_err? {o : Outcome} {err : Err} (h : o.err? = some err) : o = .error err := by
  cases o <;> cases h; rfl

/-- the head of the result queue was computed from the entry of the caller `Executor.run` hands it to -/
theorem InvC.final_result (h : InvC cfg s) (hr : cfg.reset = .always) {i c : Nat} {r : Result} {q : List Result}
    (hq : (s.execs i).resultQ = r :: q) (hm : (r.id, c) ∈ (s.execs i).pending) :
    finalOf cfg c r.out = expected cfg c := by
  rw [(h.pend_exp i _ c hm).1, h.res_data hr i r c (hq ▸ List.mem_cons_self) hm]

structure Inv (cfg : Config) (s : State) : Prop where
  ids : ∀ i, ExecOk (s.execs i)
  desc : InvD cfg s
  corr : InvC cfg s
  /-- with the reset of the code that exists no worker carries a replica from one task to the next -/
  clean : cfg.reset = .always → ∀ i w, ((s.execs i).carry w).queue = []

theorem Inv.init : Inv cfg Serving.init := ⟨fun _ => ExecOk.init, InvD.init, InvC.init, fun _ _ _ => rfl⟩

theorem Inv.owner (h : Inv cfg s) {i id : Nat} (hm : id ∈ inflight (s.execs i)) :
    ∃ c, (id, c) ∈ (s.execs i).pending ∧ s.phase c = .submitted i id ∧ c < cfg.callers.length := by
  obtain ⟨c, hc⟩ := (h.ids i).pending_of_inflight hm
  have hp := h.corr.pend_phase i id c hc
  exact ⟨c, hc, hp, h.corr.arrived hp nofun⟩

theorem ExecOk.does (hd : Does cfg s a s') (h : ∀ i, ExecOk (s.execs i)) : ∀ i, ExecOk (s'.execs i) := by
  have up : ∀ {i e}, ExecOk e → ∀ j, ExecOk (upd s.execs i e j) := fun he =>
    forall_upd (P := fun _ e => ExecOk e) he (fun j _ => h j)
  cases hd with
  | submit => exact up ((h _).submit _ _)
  | take _ _ _ hq => exact up ((h _).take _ _ _ hq)
  | finish ht => exact up ((h _).finish _ _ _ _ _ (mem_of_lookup ht))
  | drop _ hq hl => exact absurd hl ((h _).lookup_result hq)
  | fail _ hq hl | result _ hq hl => exact up ((h _).deliver _ _ _ hq (mem_of_lookup hl))
  | _ => exact h

theorem clean_does (hd : Does cfg s a s') (hr : cfg.reset = .always) (h : ∀ i w, ((s.execs i).carry w).queue = []) :
    ∀ i w, ((s'.execs i).carry w).queue = [] := by
  have up : ∀ {i e}, (∀ w, (e.carry w).queue = []) → ∀ j w, ((upd s.execs i e j).carry w).queue = [] := fun he =>
    forall_upd (P := fun _ (e : Exec) => ∀ w, (e.carry w).queue = []) he (fun j _ => h j)
  cases hd with
  | finish => exact up (forall_upd (P := fun _ (cr : Carry) => cr.queue = [])
      (by rw [hr]; exact workerCall_always_queue _ _ _ _) (fun v _ => h _ v))
  | submit | take | drop | fail | result => exact up (h _)
  | _ => exact h

theorem InvD.does (hd : Does cfg s a s') (h : InvD cfg s) (hC : InvC cfg s) : InvD cfg s' := by
  -- outside the critical section a caller moves without the cache or the lock taking notice
  have out : ∀ {c : Nat} {p q : Phase} {execs : Nat → Exec} {ans : List (Nat × Outcome)}, s.phase c = p → ¬ critical p →
      ¬ critical q → DescOk cfg s.cache c q → InvD cfg ⟨upd s.phase c q, s.cache, s.lock, execs, ans⟩ :=
    fun hp hn hq hd => h.move _ _ rfl rfl rfl (iff_of_false hq (hp ▸ hn)) hd
  cases hd with
  | arrive _ hp => exact out hp id id trivial
  | hit hp _ hin => exact out hp id id (h.cache_inv _ hin)
  | enter hp hl hin =>
    exact ⟨h.cache_inv, h.lock.enter _ _ hl trivial, forall_upd (P := DescOk cfg s.cache) (fun _ => hin) (fun x _ => h.desc x)⟩
  | list hp => exact h.move _ _ rfl rfl rfl (by rw [hp]; exact Iff.rfl) ⟨rfl, h.of_phase hp⟩
  | diff hp =>
    obtain ⟨rfl, hout⟩ := h.of_phase hp
    exact h.move _ _ rfl rfl rfl (by rw [hp]; exact Iff.rfl)
      ⟨fun a ha => (List.mem_filter.1 ha).1, fun hk hin => List.mem_filter.2 ⟨hin, decide_eq_true (hout hk)⟩⟩
  | @update c u hp =>
    -- the cache grows: under the lock nobody else is between the check and the update
    have hu := h.of_phase hp
    exact ⟨fun a ha => (List.mem_append.1 ha).elim (h.cache_inv a) (hu.1 a), h.lock.stay c _ (by rw [hp]; exact Iff.rfl),
      forall_upd (P := DescOk cfg (s.cache ++ u)) hu (fun x hx => (h.desc x).cache_indep
        (fun hk hcr => hx (h.lock.mutex hk hcr (by rw [hp]; trivial))))⟩
  | found hp hin =>
    exact ⟨h.cache_inv, h.lock.leave _ _ (by rw [hp]; trivial) id,
      forall_upd (P := DescOk cfg s.cache) ((h.of_phase hp).1 _ hin) (fun x _ => h.desc x)⟩
  | missing hp _ =>
    exact ⟨h.cache_inv, h.lock.leave _ _ (by rw [hp]; trivial) id,
      forall_upd (P := DescOk cfg s.cache) trivial (fun x _ => h.desc x)⟩
  | decodeFail hp | refuse hp | submit hp | respond hp => exact out hp id id trivial
  | fail _ _ hl | result _ _ hl => exact out (hC.pend_phase _ _ _ (mem_of_lookup hl)) id id trivial
  | _ => exact ⟨h.1, h.2, h.3⟩

theorem InvC.deliver (h : InvC cfg s) (hE : ∀ i, ExecOk (s.execs i)) {i c : Nat} {r : Result} {q : List Result}
    (hq : (s.execs i).resultQ = r :: q) (hm : (r.id, c) ∈ (s.execs i).pending) (p : Phase)
    (h2 : ∀ j id, p ≠ .submitted j id) {ans : List (Nat × Outcome)} (hl : LogOk cfg (upd s.phase c p) ans) :
    InvC cfg ⟨upd s.phase c p, s.cache, s.lock,
      upd s.execs i { s.execs i with resultQ := q, pending := (s.execs i).pending.erase (r.id, c) }, ans⟩ := by
  have hph := h.pend_phase i _ c hm
  refine InvC.of_parts_upd hl ((h.exec i).deliver (hE i) hq hm p (h2 i)) (fun j hj => ?_)
  exact (h.exec j).move c p (fun id e' => by rw [hph] at e'; cases e'; exact hj rfl) (h2 j)

theorem InvC.does (hd : Does cfg s a s') (h : InvC cfg s) (hE : ∀ i, ExecOk (s.execs i)) (hD : InvD cfg s)
    (hW : cfg.reset = .always → ∀ i w, ((s.execs i).carry w).queue = []) : InvC cfg s' := by
  cases hd with
  | arrive hc hp => exact h.phase_only _ .d0 rfl rfl rfl (by rw [hp]; nofun) (by rw [hp]; nofun) nofun nofun nofun hc
  | @missing c u hp hin =>
    refine h.answered c _ rfl rfl rfl (by rw [hp]; nofun) (by rw [hp]; nofun) (h.arrived hp nofun) ?_
    cases hlk : cfg.locked with
    | false => exact Or.inr (Or.inl ⟨rfl, rfl⟩)
    | true =>
      have : (spec cfg c).app ∉ cfg.inventory := fun hk => hin ((hD.of_phase hp).2 hlk hk)
      exact Or.inl (by simp [expected, this])
  | decodeFail hp hb =>
    exact h.answered _ _ rfl rfl rfl (by rw [hp]; nofun) (by rw [hp]; nofun) (h.arrived hp nofun)
      (Or.inl (by simp [expected, hD.res_known hp, hb]))
  | refuse hp hb hst =>
    exact h.answered _ _ rfl rfl rfl (by rw [hp]; nofun) (by rw [hp]; nofun) (h.arrived hp nofun)
      (Or.inr (Or.inr (Or.inl ⟨rfl, h.stop_fatal _ hst⟩)))
  | @respond c o hp =>
    refine h.answered _ _ rfl rfl rfl (by rw [hp]; nofun) (by rw [hp]; nofun) (h.arrived hp nofun) ?_
    by_cases hr : cfg.reset = .always
    · exact Or.inl (h.resp_ok hr c o hp)
    · exact Or.inr (Or.inr (Or.inr hr))
  | submit hp hb hi => subst hi; exact h.submit hE _ hp hb (hD.res_known hp)
  | take hw _ _ hq => exact InvC.of_parts_upd h.log ((h.exec _).take hq hw) (fun j _ => h.exec j)
  | finish ht =>
    exact h.finish hE _ _ _ _ _ (mem_of_lookup ht) (fun hr => workerCall_clean _ _ _ _ _ (hW hr _ _))
  | drop _ hq hl => exact absurd hl ((hE _).lookup_result hq)
  | @fail i r q c err _ hq hl ho =>
    have hm := mem_of_lookup hl
    have hph := h.pend_phase i _ c hm
    refine h.deliver hE hq hm .done nofun (h.log.answer c _ (by rw [hph]; nofun) (h.arrived hph nofun) ?_)
    by_cases hr : cfg.reset = .always
    · exact Or.inl (by rw [← h.final_result hr hq hm, eq_error_of_err? ho]; rfl)
    · exact Or.inr (Or.inr (Or.inr hr))
  | @result i r q c _ hq hl ho =>
    have hm := mem_of_lookup hl
    have hph := h.pend_phase i _ c hm
    refine h.deliver hE hq hm (.responding r.out) nofun
      (h.log.move c _ (by rw [hph]; nofun) nofun (h.arrived hph nofun) (fun hr o e' => ?_))
    cases e'
    rw [← finalOf_of_none c r.out ho]; exact h.final_result hr hq hm
  -- the other steps of `_get_descriptor`: no executor and no answer knows the caller
  | _ => exact h.phase_only _ _ rfl rfl rfl (by simp [*]) (by simp [*]) nofun nofun nofun (h.arrived_lt _ (by simp [*]))

theorem Inv.step (h : Inv cfg s) (hs : step cfg s a = some s') : Inv cfg s' :=
  have hd := step_does hs
  ⟨ExecOk.does hd h.ids, h.desc.does hd h.corr, h.corr.does hd h.ids h.desc h.clean, fun hr => clean_does hd hr (h.clean hr)⟩

theorem run_cons_some {a : Step} {as : List Step} (h : run cfg s (a :: as) = some s') :
    ∃ s1, step cfg s a = some s1 ∧ run cfg s1 as = some s' := by
  simp only [Serving.run] at h
  split at h
  · cases h
  · rename_i s1 h1; exact ⟨s1, h1, h⟩

theorem Inv.run {sched : List Step} (h : Inv cfg s) (hs : run cfg s sched = some s') : Inv cfg s' := by
  induction sched generalizing s with
  | nil => cases hs; exact h
  | cons a as ih =>
    obtain ⟨s1, h1, hs⟩ := run_cons_some hs
    exact ih (h.step h1) hs

theorem mem_candidates {insts : List Nat} {a : Step} : a ∈ candidates cfg insts ↔ match a with
    | .arrive c | .desc c | .decodeFail c | .submit c | .respond c => c < cfg.callers.length
    | .take i w | .finish i w => i ∈ insts ∧ w < cfg.workers
    | .deliver i => i ∈ insts := by
  cases a <;> simp only [candidates, List.mem_append, List.mem_map, List.mem_flatMap, List.mem_range,
    Step.arrive.injEq, Step.desc.injEq, Step.decodeFail.injEq, Step.submit.injEq, Step.take.injEq, Step.finish.injEq,
    Step.deliver.injEq, Step.respond.injEq, reduceCtorEq, exists_eq_right, exists_eq_right_right, and_false,
    exists_const, or_self, or_false, false_or]

theorem stuck_iff : stuck cfg s = true ↔ ∀ a ∈ candidates cfg (instsOf cfg), step cfg s a = none := by
  simp [stuck, enabled, List.filter_eq_nil_iff]

theorem inst_mem {c : Nat} (h : c < cfg.callers.length) : cfg.select (spec cfg c).app ∈ instsOf cfg :=
  List.mem_map.2 ⟨spec cfg c, spec_mem h, rfl⟩

theorem isSome_ne_none {α} {o : Option α} (h : o.isSome = true) : o ≠ none :=
  Option.isSome_iff_ne_none.mp h

theorem stuck_not_does (h : stuck cfg s = true) (hd : Does cfg s a s') (ha : a ∈ candidates cfg (instsOf cfg)) : False :=
  nomatch hd.step.symm.trans (stuck_iff.1 h a ha)

theorem Inv.stuck_done (h : Inv cfg s) (hw : 1 ≤ cfg.workers) (hns : ∀ i, (s.execs i).stopped = false)
    (hst : stuck cfg s = true) (c : Nat) (hc : s.phase c ≠ .fresh) : s.phase c = .done := by
  have hlt := h.corr.arrived_lt c hc
  have no : ∀ {c' s'}, c' < cfg.callers.length → ¬ Does cfg s (.desc c') s' := fun hl hd =>
    stuck_not_does hst hd (mem_candidates.2 hl)
  have off : ∀ c', c' < cfg.callers.length → ¬ critical (s.phase c') := fun c' hl hcr => by
    cases hp : s.phase c' with
    | d1 => exact no hl (.list hp)
    | d2 l => exact no hl (.diff hp)
    | d3 u => exact no hl (.update hp)
    | d4 u => exact (Classical.em _).elim (fun hin => no hl (.found hp hin)) (fun hin => no hl (.missing hp hin))
    | _ => rw [hp] at hcr; exact hcr
  cases hp : s.phase c with
  | fresh => exact absurd hp hc
  | done => rfl
  | d1 => exact absurd (by rw [hp]; trivial) (off c hlt)
  | d2 l => exact absurd (by rw [hp]; trivial) (off c hlt)
  | d3 u => exact absurd (by rw [hp]; trivial) (off c hlt)
  | d4 u => exact absurd (by rw [hp]; trivial) (off c hlt)
  | d0 =>
    have hl : cfg.locked = true ∧ s.lock ≠ none := Classical.byContradiction fun hl =>
      (Classical.em _).elim (fun hin => no hlt (.hit hp hl hin)) (fun hin => no hlt (.enter hp hl hin))
    -- the lock is held, by a caller inside the critical section, and that caller can go on
    obtain ⟨c', hlk⟩ := Option.ne_none_iff_exists'.1 hl.2
    have hcr := h.desc.lock.crit c' hlk
    exact (off c' (h.corr.arrived_lt c' (fun e => by rw [e] at hcr; exact hcr)) hcr).elim
  | resolved =>
    cases hb : (spec cfg c).badEncoding with
    | true => exact (stuck_not_does hst (.decodeFail hp hb) (mem_candidates.2 hlt)).elim
    | false => exact (stuck_not_does hst (.submit hp hb rfl (hns _)) (mem_candidates.2 hlt)).elim
  | responding o => exact (stuck_not_does hst (.respond hp) (mem_candidates.2 hlt)).elim
  | submitted i id =>
    exfalso
    have hm := h.corr.sub_pend c i id hp
    have hi : i ∈ instsOf cfg := by rw [(h.corr.pend_exp i id c hm).2]; exact inst_mem hlt
    have hfl : id ∈ inflight (s.execs i) := ((h.ids i).fl_keys id).2 (mem_keys_iff.2 ⟨c, hm⟩)
    have fin : ∀ {w}, w < cfg.workers → (s.execs i).held.lookup w = none := fun {w} hwl => by
      cases ht : (s.execs i).held.lookup w with
      | none => rfl
      | some t => exact (stuck_not_does hst (.finish ht) (mem_candidates.2 ⟨hi, hwl⟩)).elim
    simp only [inflight, List.mem_append, List.mem_map] at hfl
    rcases hfl with (⟨t, ht, _⟩ | ⟨⟨w, t⟩, hx, _⟩) | ⟨r, hr, _⟩
    · -- a queued task: worker 0 is free (or else it could finish) and can take it
      obtain ⟨t', q, hq⟩ := List.exists_cons_of_ne_nil (List.ne_nil_of_mem ht)
      exact stuck_not_does hst (.take hw (hns i) (fin hw) hq) (mem_candidates.2 ⟨hi, hw⟩)
    · -- a held task: its worker can finish
      exact lookup_eq_none_iff_not_mem.1 (fin (h.corr.held_lt i w t hx)) (List.mem_map.2 ⟨(w, t), hx, rfl⟩)
    · -- a queued result: the executor thread can deliver
      obtain ⟨r', q, hq⟩ := List.exists_cons_of_ne_nil (List.ne_nil_of_mem hr)
      cases hl : (s.execs i).pending.lookup r'.id with
      | none => exact (h.ids i).lookup_result hq hl
      | some c' =>
        cases ho : r'.out.err? with
        | none => exact stuck_not_does hst (.result (hns i) hq hl ho) (mem_candidates.2 hi)
        | some err => exact stuck_not_does hst (.fail (hns i) hq hl ho) (mem_candidates.2 hi)

end ForML.Serving
