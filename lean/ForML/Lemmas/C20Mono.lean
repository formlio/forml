/- Nothing a lookup or an import does ever removes a binding, a search path or a `sys.modules` entry (C20):
the monotonicity behind "an answer does not depend on what was looked up or imported before", stated for histories of
imports and lookups (`HOp`, `runHist`). -/
import ForML.Lemmas.C20Comm

namespace ForML.Bank

/-- `b'` has every binding and every search path of `b` -/
def BankLe (b b' : Bank) : Prop :=
  (∀ r c, lookupRef r b.provider = some c → lookupRef r b'.provider = some c) ∧ (∀ p ∈ b.paths, p ∈ b'.paths)

def StLe (s s' : St) : Prop :=
  (∀ i, BankLe (getBank i s.banks) (getBank i s'.banks)) ∧ (∀ m ∈ s.loaded, m ∈ s'.loaded)

theorem BankLe.refl (b : Bank) : BankLe b b := ⟨fun _ _ h => h, fun _ h => h⟩
theorem BankLe.trans {a b c : Bank} (h1 : BankLe a b) (h2 : BankLe b c) : BankLe a c :=
  ⟨fun r x h => h2.1 r x (h1.1 r x h), fun p h => h2.2 p (h1.2 p h)⟩
theorem StLe.refl (s : St) : StLe s s := ⟨fun _ => BankLe.refl _, fun _ h => h⟩
theorem StLe.trans {a b c : St} (h1 : StLe a b) (h2 : StLe b c) : StLe a c :=
  ⟨fun i => (h1.1 i).trans (h2.1 i), fun m h => h2.2 m (h1.2 m h)⟩

theorem add_le {b b' : Bank} {c : ClassDef} (h : b.add c = .ok b') : BankLe b b' := by
  refine ⟨fun r x hx => add_keeps h hx, fun p hp => ?_⟩
  rw [paths_after_add h]
  exact mem_addPaths_left hp _

theorem act_le {s t : St} {a : Act} (h : act s a = some t) : StLe s t := by
  refine ⟨fun j => ?_, fun x hx => (act_loaded h x).2 (Or.inl hx)⟩
  rcases act_getBank h j with e | ⟨c, _, hadd⟩
  · rw [e]; exact BankLe.refl _
  · exact add_le hadd

theorem run_le (s : St) (l : List Act) : StLe s (run s l).1 :=
  run_induct (P := StLe s) (fun _ _ _ _ h ha => h.trans (act_le ha)) s (StLe.refl s)

theorem stLe_execStable (w : World) (st : St) : ExecStable w (StLe st) :=
  execStable_of_act fun _ _ _ _ _ _ _ h ha => h.trans (act_le ha)

theorem execAll_le (w : World) (ms : List Mod) (st : St) : StLe st (execAll w st ms).1 :=
  execAll_liftOn (stLe_execStable w st).on ms (fun _ _ => trivial) st (StLe.refl st)

theorem loadPath_le (w : World) (st : St) (p : PathE) : StLe st (loadPath w st p).1 :=
  loadPath_lift (stLe_execStable w st) st p (StLe.refl st)

/-- a lookup never removes anything from the process state — in particular no search path of any bank -/
theorem get_le (w : World) (st : St) (iface : ClassId) (r : Ref) : StLe st (get w st iface r).1 :=
  get_lift (stLe_execStable w st) st iface r (StLe.refl st)

/-- what a process does between two lookups: `import` statements (each in try/except) and other lookups -/
inductive HOp where
  | imp : Mod → HOp
  | get : ClassId → Ref → HOp

def runHist (w : World) (st : St) : List HOp → St
  | [] => st
  | .imp m :: rest =>
    match importMod w st m with
    | none => runHist w (afterNotFound w st m) rest
    | some (st', _) => runHist w st' rest
  | .get i r :: rest => runHist w (get w st i r).1 rest

theorem runImports_eq (w : World) (st : St) (ms : List Mod) : runImports w st ms = runHist w st (ms.map .imp) := by
  induction ms generalizing st with
  | nil => rfl
  | cons m rest ih =>
    simp only [runImports, List.map_cons, runHist]
    cases importMod w st m with
    | none => exact ih _
    | some r => exact ih _

theorem runHist_lift {w : World} {P : St → Prop} (hP : ExecStable w P) (ops : List HOp) (st : St) (h : P st) :
    P (runHist w st ops) := by
  induction ops generalizing st with
  | nil => exact h
  | cons op rest ih =>
    cases op with
    | imp m =>
      simp only [runHist]
      have := import_lift hP st m h
      cases hi : importMod w st m with
      | none => rw [hi] at this; exact ih _ this
      | some r => rw [hi] at this; exact ih _ this
    | get i r =>
      simp only [runHist]
      exact ih _ (get_lift hP st i r h)

theorem runHist_le (w : World) (ops : List HOp) (st : St) : StLe st (runHist w st ops) :=
  runHist_lift (stLe_execStable w st) ops st (StLe.refl st)

/-- executing a class statement again (same module, same qualname string) re-registers the class: no collision, every
binding as before -/
theorem add_again {b b1 : Bank} {c : ClassDef} (h : b.add c = .ok b1) :
    ∃ b2, b1.add c = .ok b2 ∧ ∀ r, lookupRef r b2.provider = lookupRef r b1.provider := by
  have hcol : collides b1 c = false := by
    rw [collides_false_iff]
    intro r hr d hd
    rw [lookup_after_add h] at hd
    by_cases ha : c.abstract = false
    · simp only [ha, hr, and_self, if_true, Option.some.injEq] at hd
      exact hd.symm
    · have hcb := (collides_false_iff b c).1 (add_ok h).1
      simp only [ha] at hd
      exact hcb r hr d hd
  obtain ⟨b2, hb2⟩ := add_of_not_collides hcol
  refine ⟨b2, hb2, ?_⟩
  intro r
  rw [lookup_after_add hb2, lookup_after_add h]
  by_cases hx : c.abstract = false ∧ r ∈ refs c <;> simp [hx]

end ForML.Bank
