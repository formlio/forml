/-
One operator body on top of its scope: `TrunkOk.step` extends the scope's `TrunkOk` by what the body owes for the nodes
it adds (`StepOk`; `StepOk.ofSides`: its region part from the two sides of the body).  `Plug`: binding the head holes of an
expansion to publishers; `spec_seq`: `Compound.compose`, the body being the right expansion with its heads bound.
-/
import ForML.Lemmas.C03Spec

namespace ForML.Compose

/-- the structural obligations of a body for the nodes it adds (those of the scope are inherited) -/
structure StepOk (full : Prop) (g g1 g2 : Graph) (W2 : World) (r : Nat) (head : Nat) (t' : Trunk) : Prop where
  wired : Wired g2
  tge : g.next ≤ t'.apply.tail ∧ g.next ≤ t'.train.tail ∧ g.next ≤ t'.label.tail
  rank : ∀ n, g1.next ≤ n → W2.live n → W2.h n < r + (g2.next - g.next)
  reg : full → ∀ n, g1.next ≤ n → Reach g2 head n → n ≠ head →
    W2.live n ∧ ∀ k q, g2.inputOf n k = some q → Reach g2 head q.node
  regTail : full → Reach g2 head t'.apply.tail
  sep : full → ¬ Reach g2 head t'.train.tail ∧ ¬ Reach g2 head t'.label.tail
  closed : full → ∀ s k q, g1.next ≤ s → g2.inputOf s k = some q → g.next ≤ q.node

theorem reg_unary {g : Graph} {a n : Nat} {p : PubRef} (hin : ∀ k q, g.inputOf n k = some q → q = p)
    (hre : Reach g a n) (hne : n ≠ a) : ∀ k q, g.inputOf n k = some q → Reach g a q.node := by
  intro k q hq
  rcases hre.inv with h | ⟨k0, q0, hq0, hr0⟩
  · exact absurd h hne
  · rw [hin k q hq, ← hin k0 q0 hq0]; exact hr0

theorem TrunkOk.step {full : Prop} {g g1 g2 : Graph} {W W1 W2 : World} {left : Trunk} {xa xt xl : Val} {r : Nat} {s : Sem}
    (h1 : TrunkOk full g g1 W W1 left xa xt xl r s)
    (inv2 : Inv g2 W2) (f2 : Frame g1 g2) (a2 : Agree g1.next W1 W2)
    (noOpen : ∀ n, g1.next ≤ n → W2.live n → ¬ g2.isOpen n)
    (t' : Trunk) (hha : t'.apply.head = left.apply.head) (hht : t'.train.head = left.train.head)
    (hhl : t'.label.head = left.label.head) (s' : Sem)
    (ta : W2.live t'.apply.tail ∧ W2.σ ⟨t'.apply.tail, 0⟩ = s'.apply)
    (tt : W2.live t'.train.tail ∧ W2.σ ⟨t'.train.tail, 0⟩ = s'.train)
    (tl : W2.live t'.label.tail ∧ W2.σ ⟨t'.label.tail, 0⟩ = s'.label)
    {L : List (Nat × Val)} (trains : Trained g1 g2 W2 L) (hst : s'.states = s.states ++ L)
    (fresh2 : ∀ n, g1.next ≤ n → W2.live n → ∀ gid a i o, g2.kindOf n = some (.worker gid a i o) → g.next ≤ gid)
    (so : StepOk full g g1 g2 W2 r left.apply.head t') :
    TrunkOk full g g2 W W2 t' xa xt xl r s' := by
  have hlt1 : ∀ n, W1.live n → n < g1.next := fun n hn => (h1.inv.liveLt n hn).1
  have hgg := h1.frame.next_le
  refine ⟨inv2, h1.frame.trans f2, h1.agree.trans a2 hgg, ?_, ?_, ?_, ?_, ?_, ta, tt, tl, ?_, ?_, so.wired,
    so.tge, ?_, ?_, by rw [hha]; exact so.regTail, by rw [hha]; exact so.sep, ?_⟩
  · rw [hha]; exact h1.ha.mono (hlt1 _ h1.ha.live) f2 a2
  · rw [hht]; exact h1.ht.mono (hlt1 _ h1.ht.live) f2 a2
  · rw [hhl]; exact h1.hl.mono (hlt1 _ h1.hl.live) f2 a2
  · rw [hha, hht, hhl]; exact h1.distinct
  · intro n hn hl ho
    rw [hha, hht, hhl]
    by_cases hlt : n < g1.next
    · exact h1.opens n hn (((a2 n hlt).1).mp hl) ((f2.isOpen hlt).mp ho)
    · exact absurd ho (noOpen n (Nat.le_of_not_lt hlt) hl)
  · exact hst ▸ (Trained.keeps h1.trains (a2.keeps hlt1)).append trains
  · intro n hn hl gid a i o hk
    by_cases hlt : n < g1.next
    · rw [f2.kind n hlt] at hk
      exact h1.fresh n hn (((a2 n hlt).1).mp hl) gid a i o hk
    · exact fresh2 n (Nat.le_of_not_lt hlt) hl gid a i o hk
  · intro n hn hl
    by_cases hlt : n < g1.next
    · rw [(a2 n hlt).2.1]
      exact Nat.lt_of_lt_of_le (h1.rank n hn (((a2 n hlt).1).mp hl))
        (Nat.add_le_add_left (Nat.sub_le_sub_right f2.next_le _) _)
    · exact so.rank n (Nat.le_of_not_lt hlt) hl
  · intro hfull n hre hne
    rw [hha] at hre hne ⊢
    by_cases hlt : n < g1.next
    · have hre1 : Reach g1 left.apply.head n := Reach.old f2 h1.wired hlt hre
      obtain ⟨l1, i1⟩ := h1.reg hfull n hre1 hne
      refine ⟨((a2 n hlt).1).mpr l1, ?_⟩
      intro k q hq
      rw [f2.input n k hlt] at hq
      exact (i1 k q hq).mono (f2.input_mono h1.inv.bounded)
    · exact so.reg hfull n (Nat.le_of_not_lt hlt) hre hne
  · intro hfull s k q hs hq
    by_cases hlt : s < g1.next
    · rw [f2.input s k hlt] at hq
      exact h1.closed hfull s k q hs hq
    · exact so.closed hfull s k q (Nat.le_of_not_lt hlt) hq

/-- `A` marks nodes with uid `≥ lo`, above the head `a`; if every other such node is fed only from what is not
reachable from `a` or from others of its kind, then whatever is reachable from `a` up there lies in `A` (induction along the
path). -/
theorem Reach.side {g : Graph} {a lo : Nat} {A : Nat → Prop} (ha : a < lo)
    (hB : ∀ n k q, lo ≤ n → ¬ A n → g.inputOf n k = some q → ¬ Reach g a q.node ∨ (lo ≤ q.node ∧ ¬ A q.node)) {n : Nat}
    (h : Reach g a n) : lo ≤ n → A n := by
  induction h with
  | refl => exact fun hn => absurd ha (Nat.not_lt.mpr hn)
  | step hp he ih =>
    intro hn
    apply Classical.byContradiction
    intro hna
    rcases hB _ _ _ hn hna he with h | ⟨h1, h2⟩
    · exact h hp
    · exact h2 (ih h1)

/-- `A` marks the new nodes on the apply side.  The new nodes reachable from the apply head all lie in `A` (`Reach.side`
— a new node outside `A` leads back only to the train tail, the label tail or new nodes outside
`A`, none of them reachable): the scope's region extends to the body. -/
theorem StepOk.ofSides {full : Prop} {g g1 g2 : Graph} {W W1 W2 : World} {left t' : Trunk} {xa xt xl : Val} {r : Nat}
    {s : Sem} (h1 : TrunkOk full g g1 W W1 left xa xt xl r s) (f2 : Frame g1 g2) (w2 : Wired g2) (A : Nat → Prop)
    (tge : g.next ≤ t'.apply.tail ∧ g.next ≤ t'.train.tail ∧ g.next ≤ t'.label.tail)
    (rank : ∀ n, g1.next ≤ n → W2.live n → W2.h n < r + (g2.next - g.next))
    (hA : full → Reach g2 left.apply.head left.apply.tail → ∀ n, g1.next ≤ n → A n →
      W2.live n ∧ ∀ k q, g2.inputOf n k = some q → g.next ≤ q.node ∧ Reach g2 left.apply.head q.node)
    (hB : full → ∀ n, g1.next ≤ n → ¬ A n → ∀ k q, g2.inputOf n k = some q → g.next ≤ q.node ∧
      (q = left.train.publisher ∨ q = left.label.publisher ∨ (g1.next ≤ q.node ∧ ¬ A q.node)))
    (tailA : full → Reach g2 left.apply.head left.apply.tail → Reach g2 left.apply.head t'.apply.tail)
    (tailT : full → t'.train.tail = left.train.tail ∨ (g1.next ≤ t'.train.tail ∧ ¬ A t'.train.tail))
    (tailL : full → t'.label.tail = left.label.tail ∨ (g1.next ≤ t'.label.tail ∧ ¬ A t'.label.tail)) :
    StepOk full g g1 g2 W2 r left.apply.head t' := by
  have hlt : ∀ n, W1.live n → n < g1.next := fun n hn => (h1.inv.liveLt n hn).1
  have reA : full → Reach g2 left.apply.head left.apply.tail := fun hfull =>
    (h1.regTail hfull).mono (f2.input_mono h1.inv.bounded)
  have noT : full → ¬ Reach g2 left.apply.head left.train.tail := fun hfull hre =>
    (h1.sep hfull).1 (Reach.old f2 h1.wired (hlt _ h1.tt.1) hre)
  have noL : full → ¬ Reach g2 left.apply.head left.label.tail := fun hfull hre =>
    (h1.sep hfull).2 (Reach.old f2 h1.wired (hlt _ h1.tl.1) hre)
  have side : full → ∀ n, Reach g2 left.apply.head n → g1.next ≤ n → A n := fun hfull n hre =>
    Reach.side (hlt _ h1.ha.live) (fun n k q hn hna hq => by
      rcases (hB hfull n hn hna k q hq).2 with e | e | e
      · exact Or.inl (e ▸ noT hfull)
      · exact Or.inl (e ▸ noL hfull)
      · exact Or.inr e) hre
  refine ⟨w2, tge, rank, ?_, fun hfull => tailA hfull (reA hfull), fun hfull => ⟨?_, ?_⟩, ?_⟩
  · intro hfull n hn hre _
    obtain ⟨hl, hin⟩ := hA hfull (reA hfull) n hn (side hfull n hre hn)
    exact ⟨hl, fun k q hq => (hin k q hq).2⟩
  · rcases tailT hfull with e | ⟨e1, e2⟩
    · rw [e]; exact noT hfull
    · exact fun hre => e2 (side hfull _ hre e1)
  · rcases tailL hfull with e | ⟨e1, e2⟩
    · rw [e]; exact noL hfull
    · exact fun hre => e2 (side hfull _ hre e1)
  · intro hfull n k q hn hq
    by_cases ha : A n
    · exact ((hA hfull (reA hfull) n hn ha).2 k q hq).1
    · exact (hB hfull n hn ha k q hq).1

theorem run_extendOpt_none (s : Segment) (g : Graph) : Run (Trunk.extendOpt s none) g s g := rfl

theorem run_extendOpt_seg (s r : Segment) (g : Graph) (h : g.inputOf r.head 0 = none) :
    Run (Trunk.extendOpt s (some r)) g ⟨s.head, r.tail⟩ (g.pushEdge ⟨r.head, 0, s.publisher⟩) :=
  Run.bind (run_subscribe _ _ _ g h) (Run.pure _ _)

theorem run_trunk_extend {t : Trunk} {a b c : Option Segment} {g g1 g2 g3 : Graph} {a' b' c' : Segment}
    (h1 : Run (Trunk.extendOpt t.apply a) g a' g1) (h2 : Run (Trunk.extendOpt t.train b) g1 b' g2)
    (h3 : Run (Trunk.extendOpt t.label c) g2 c' g3) : Run (t.extend a b c) g ⟨a', b', c'⟩ g3 := by
  unfold Trunk.extend
  exact Run.bind h1 (Run.bind h2 (Run.bind h3 (Run.pure _ _)))

/-- an evaluable hole `h` that may be bound to the publisher `q`: `q` is evaluable below `h` and carries its value -/
structure Plug (g : Graph) (W : World) (h : Nat) (q : PubRef) : Prop where
  live : W.live h
  isOpen : g.isOpen h
  ref : RefOk W q (W.h h)
  val : ∀ i, W.σ ⟨h, i⟩ = W.σ q

theorem HeadOk.plug {g0 g : Graph} {W : World} {h : Nat} {x : Val} {r : Nat} (hh : HeadOk g0 g W h x r) {q : PubRef}
    (hq : PubOk W q r x) : Plug g W h q :=
  ⟨hh.live, hh.isOpen, hh.rank ▸ ⟨hq.live, hq.rank⟩, fun i => (hh.val i).trans hq.val.symm⟩

theorem Plug.pushEdge {g : Graph} {W : World} {h : Nat} {q : PubRef} (hp : Plug g W h q) {e : Edge} (hne : e.sub ≠ h) :
    Plug (g.pushEdge e) W h q :=
  ⟨hp.live, ⟨hp.isOpen.1, (inputOf_pushEdge_ne hne 0).trans hp.isOpen.2⟩, hp.ref, hp.val⟩

theorem Plug.bind {g : Graph} {W : World} {h : Nat} {q : PubRef} (hp : Plug g W h q) (hi : Inv g W) (hw : Wired g) :
    Run (subscribe h 0 q) g () (g.pushEdge ⟨h, 0, q⟩) ∧ Inv (g.pushEdge ⟨h, 0, q⟩) W ∧ Wired (g.pushEdge ⟨h, 0, q⟩) :=
  ⟨run_subscribe h 0 q g hp.isOpen.2, hi.bindFuture h q hp.live hp.isOpen hp.ref hp.val,
    hw.pushEdge _ (hi.liveLt _ hp.ref.1).1 hp.isOpen.2⟩

/-- `Trunk.extend` with all three segments; the heads of an expansion inside an ensemble -/
theorem Plug.bind3 {g : Graph} {W : World} {a b c : Nat} {pa pb pc : PubRef} (hi : Inv g W) (hw : Wired g)
    (ha : Plug g W a pa) (hb : Plug g W b pb) (hc : Plug g W c pc) (hab : a ≠ b) (hac : a ≠ c) (hbc : b ≠ c) :
    Run (subscribe a 0 pa) g () (g.pushEdge ⟨a, 0, pa⟩) ∧
    Run (subscribe b 0 pb) (g.pushEdge ⟨a, 0, pa⟩) () ((g.pushEdge ⟨a, 0, pa⟩).pushEdge ⟨b, 0, pb⟩) ∧
    Run (subscribe c 0 pc) ((g.pushEdge ⟨a, 0, pa⟩).pushEdge ⟨b, 0, pb⟩) ()
      (((g.pushEdge ⟨a, 0, pa⟩).pushEdge ⟨b, 0, pb⟩).pushEdge ⟨c, 0, pc⟩) ∧
    Inv (((g.pushEdge ⟨a, 0, pa⟩).pushEdge ⟨b, 0, pb⟩).pushEdge ⟨c, 0, pc⟩) W ∧
    Wired (((g.pushEdge ⟨a, 0, pa⟩).pushEdge ⟨b, 0, pb⟩).pushEdge ⟨c, 0, pc⟩) ∧
    ∀ u k q, (((g.pushEdge ⟨a, 0, pa⟩).pushEdge ⟨b, 0, pb⟩).pushEdge ⟨c, 0, pc⟩).inputOf u k = some q ↔
      g.inputOf u k = some q ∨ (⟨u, k, q⟩ : Edge) ∈ [⟨a, 0, pa⟩, ⟨b, 0, pb⟩, ⟨c, 0, pc⟩] := by
  obtain ⟨r1, i1, w1⟩ := ha.bind hi hw
  obtain ⟨r2, i2, w2⟩ := (hb.pushEdge hab).bind i1 w1
  obtain ⟨r3, i3, w3⟩ := ((hc.pushEdge hac).pushEdge hbc).bind i2 w2
  exact ⟨r1, r2, r3, i3, w3, fun u k q => w3.input_append hw (by show g.edges ++ [_] ++ [_] ++ [_] = _; simp)⟩

/-- `s.extendTrunk t` for a certified expansion `t` whose heads' values the tails of `s` carry: the three heads are bound,
nothing else changes, and no evaluable node of the expansion is open any more -/
theorem TrunkOk.bindHeads {full : Prop} {g g1 : Graph} {W W1 : World} {t : Trunk} {xa xt xl : Val} {r : Nat} {σ : Sem}
    (ok : TrunkOk full g g1 W W1 t xa xt xl r σ) (s : Trunk) (pa : PubOk W1 s.apply.publisher r xa)
    (pt : PubOk W1 s.train.publisher r xt) (pl : PubOk W1 s.label.publisher r xl) :
    ∃ g4, Run (s.extendTrunk t) g1
        ⟨⟨s.apply.head, t.apply.tail⟩, ⟨s.train.head, t.train.tail⟩, ⟨s.label.head, t.label.tail⟩⟩ g4 ∧
      Inv g4 W1 ∧ Wired g4 ∧ Frame g g4 ∧ g4.next = g1.next ∧ g4.trains = g1.trains ∧ (∀ u, g4.kindOf u = g1.kindOf u) ∧
      (∀ u k q, g4.inputOf u k = some q ↔ g1.inputOf u k = some q ∨ (⟨u, k, q⟩ : Edge) ∈
        [⟨t.apply.head, 0, s.apply.publisher⟩, ⟨t.train.head, 0, s.train.publisher⟩, ⟨t.label.head, 0, s.label.publisher⟩]) ∧
      ∀ n, g.next ≤ n → W1.live n → ¬ g4.isOpen n := by
  obtain ⟨d1, d2, d3⟩ := ok.distinct
  obtain ⟨r1, r2, r3, hi4, hw4, in4⟩ := Plug.bind3 ok.inv ok.wired (ok.ha.plug pa) (ok.ht.plug pt) (ok.hl.plug pl) d1 d2 d3
  refine ⟨_, run_trunk_extend (Run.bind r1 (Run.pure _ _)) (Run.bind r2 (Run.pure _ _)) (Run.bind r3 (Run.pure _ _)), hi4, hw4,
    ((ok.frame.pushEdge _ ok.ha.ge).pushEdge _ ok.ht.ge).pushEdge _ ok.hl.ge, rfl, rfl, fun _ => rfl, in4, fun n hn hl ho => ?_⟩
  -- an open node of the new graph is open in `g1`, hence one of the heads of `t` — which are bound now
  rcases ok.opens n hn hl (ho.of_mono rfl fun q h => (in4 n 0 q).mpr (.inl h)) with h | h | h <;> subst h
  · exact nomatch ho.2.symm.trans ((in4 _ _ _).mpr (.inr (.head _)))
  · exact nomatch ho.2.symm.trans ((in4 _ _ _).mpr (.inr (.tail _ (.head _))))
  · exact nomatch ho.2.symm.trans ((in4 _ _ _).mpr (.inr (.tail _ (.tail _ (.head _)))))

/-- semantics of `Compound.compose(scope)` given the semantics `T` of the compound's own expansion -/
def seqSem (S T : Scope) : Scope := fun xa xt xl =>
  let s := S xa xt xl
  let t := T s.apply s.train s.label
  ⟨t.apply, t.train, t.label, s.states ++ t.states⟩

/-- `left >> right` (`Compound.compose`) -/
theorem spec_seq {full : Prop} {scope m : GraphM Trunk} {S T : Scope} (hs : Spec full scope S) (hm : Spec full m T) :
    Spec full (do let s ← scope; let t ← m; s.extendTrunk t) (seqSem S T) := by
  intro g W xa xt xl r hi hw hr
  obtain ⟨s, g1, W1, hrun1, h1⟩ := hs g W xa xt xl r hi hw hr
  have hgg := h1.frame.next_le
  obtain ⟨t, g2, W2, hrun2, h2⟩ := hm g1 W1 (S xa xt xl).apply (S xa xt xl).train (S xa xt xl).label
    (r + (g1.next - g.next)) h1.inv h1.wired (by omega)
  have hgg2 := h2.frame.next_le
  obtain ⟨d1, d2, d3⟩ := h2.distinct
  have hlt1 : ∀ n, W1.live n → n < g1.next := fun n hn => (h1.inv.liveLt n hn).1
  -- `r + (g1.next - g.next)` is the rank of the heads of `t`
  have tail : ∀ (u : Nat) (v : Val), g.next ≤ u → W1.live u → W1.σ ⟨u, 0⟩ = v →
      PubOk W2 ⟨u, 0⟩ (r + (g1.next - g.next)) v := fun u v hu hl hv =>
    PubOk.agree ⟨hl, h1.rank u hu hl, hv⟩ h2.agree (hlt1 u hl)
  obtain ⟨g5, r5, hi5, hw5, hf5, n5, tr5, k5, in25, noOpen⟩ := h2.bindHeads s (tail _ _ h1.tails_ge.1 h1.ta.1 h1.ta.2)
    (tail _ _ h1.tails_ge.2.1 h1.tt.1 h1.tt.2) (tail _ _ h1.tails_ge.2.2 h1.tl.1 h1.tl.2)
  have mono25 : ∀ u k q, g2.inputOf u k = some q → g5.inputOf u k = some q := fun u k q h => (in25 u k q).mpr (Or.inl h)
  have in5_a0 : g5.inputOf t.apply.head 0 = some s.apply.publisher := (in25 _ _ _).mpr (Or.inr (.head _))
  have in5_t0 : g5.inputOf t.train.head 0 = some s.train.publisher := (in25 _ _ _).mpr (Or.inr (.tail _ (.head _)))
  have in5_l0 : g5.inputOf t.label.head 0 = some s.label.publisher :=
    (in25 _ _ _).mpr (Or.inr (.tail _ (.tail _ (.head _))))
  have in5 : ∀ u k q, g5.inputOf u k = some q → (u = t.apply.head ∧ q = s.apply.publisher) ∨
      (u = t.train.head ∧ q = s.train.publisher) ∨ (u = t.label.head ∧ q = s.label.publisher) ∨
      (u ≠ t.apply.head ∧ u ≠ t.train.head ∧ u ≠ t.label.head ∧ g2.inputOf u k = some q) := by
    intro u k q hq
    rcases (in25 u k q).mp hq with h | h
    · refine Or.inr (Or.inr (Or.inr ⟨?_, ?_, ?_, h⟩))
      · rintro rfl; exact nomatch (h2.ha.free k).symm.trans h
      · rintro rfl; exact nomatch (h2.ht.free k).symm.trans h
      · rintro rfl; exact nomatch (h2.hl.free k).symm.trans h
    · simp only [List.mem_cons, Edge.mk.injEq, List.not_mem_nil, or_false] at h
      rcases h with ⟨e, _, hq⟩ | ⟨e, _, hq⟩ | ⟨e, _, hq⟩
      · exact Or.inl ⟨e, hq⟩
      · exact Or.inr (Or.inl ⟨e, hq⟩)
      · exact Or.inr (Or.inr (Or.inl ⟨e, hq⟩))
  have noT : ¬ Reach g2 t.apply.head t.train.head := not_reach_of_no_input h2.ht.free (Ne.symm d1)
  have noL : ¬ Reach g2 t.apply.head t.label.head := not_reach_of_no_input h2.hl.free (Ne.symm d2)
  -- the body of `>>` is the expansion `t` with its heads bound; its apply side is the apply region of `t`
  refine ⟨_, g5, W2, Run.bind hrun1 (Run.bind hrun2 r5), h1.step hi5 hf5 h2.agree noOpen
    ⟨⟨s.apply.head, t.apply.tail⟩, ⟨s.train.head, t.train.tail⟩, ⟨s.label.head, t.label.tail⟩⟩ rfl rfl rfl
    (seqSem S T xa xt xl) h2.ta h2.tt h2.tl (Trained.target h2.trains tr5) rfl
    (fun n hn hl gid a i o hk => Nat.le_trans h1.frame.next_le (h2.fresh n hn hl gid a i o ((k5 n).symm.trans hk)))
    (StepOk.ofSides h1 hf5 hw5 (fun n => Reach g2 t.apply.head n)
      ⟨Nat.le_trans hgg h2.tails_ge.1, Nat.le_trans hgg h2.tails_ge.2.1, Nat.le_trans hgg h2.tails_ge.2.2⟩
      (fun n hn hl => n5 ▸ rank_step hgg hgg2 ▸ h2.rank n hn hl) ?_ ?_
      (fun hfull re => (Reach.one re in5_a0).trans ((h2.regTail hfull).mono mono25))
      (fun hfull => Or.inr ⟨h2.tails_ge.2.1, (h2.sep hfull).1⟩) (fun hfull => Or.inr ⟨h2.tails_ge.2.2, (h2.sep hfull).2⟩))⟩
  · intro hfull re n hn hre
    have live : W2.live n := if e : n = t.apply.head then e ▸ h2.ha.live else (h2.reg hfull n hre e).1
    refine ⟨live, fun k q hq => ?_⟩
    rcases in5 n k q hq with ⟨_, e⟩ | ⟨e, _⟩ | ⟨e, _⟩ | ⟨e, _, _, hq2⟩
    · rw [e]; exact ⟨h1.tails_ge.1, re⟩
    · exact absurd (e ▸ hre) noT
    · exact absurd (e ▸ hre) noL
    · exact ⟨Nat.le_trans hgg (h2.closed hfull n k q hn hq2),
        (Reach.one re in5_a0).trans (((h2.reg hfull n hre e).2 k q hq2).mono mono25)⟩
  · intro hfull n hn hna k q hq
    rcases in5 n k q hq with ⟨e, _⟩ | ⟨_, e⟩ | ⟨_, e⟩ | ⟨_, _, _, hq2⟩
    · exact absurd (e ▸ Reach.refl) hna
    · rw [e]; exact ⟨h1.tails_ge.2.1, Or.inl rfl⟩
    · rw [e]; exact ⟨h1.tails_ge.2.2, Or.inr (Or.inl rfl)⟩
    · exact ⟨Nat.le_trans hgg (h2.closed hfull n k q hn hq2), Or.inr (Or.inr ⟨h2.closed hfull n k q hn hq2,
        fun hq' => hna (Reach.one hq' hq2)⟩)⟩

end ForML.Compose
