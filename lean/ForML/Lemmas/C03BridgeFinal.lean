/-
C03 ↔ C01 bridge: the decidable side conditions as propositions, what the executed table of a translated segment holds
at its members, and the two segments of a composition: the train segment (no asset accessor) and the apply segment (the
accessor holding, at the list positions of `Composition.persistent`, the states the train run computed).
-/
import ForML.Lemmas.C03BridgeEval
import ForML.Lemmas.C03BridgeComp
import ForML.Props.C01

namespace ForML.Compose
open ForML

/-- `Graph.trainsOK M` as propositions; `BridgeHyp` has fields of the same six names (for the segment on `M`), which
`CompOk.bridge` fills from these one by one -/
structure TrainsOK (g : Graph) (M : List Nat) : Prop where
  gidNodup : g.trains.Pairwise (fun a b => a.gid ≠ b.gid)
  trainKind : ∀ T ∈ g.trains, ∃ o, g.kindOf T.node = some (.worker T.gid T.actor 1 o)
  trainNoIn : ∀ T ∈ g.trains, ∀ k, g.inputOf T.node k = none
  trainIn : ∀ T ∈ g.trains, T.node ∈ M →
    (∀ x, g.resolve g.resolveFuel T.train = some x → x.node ∈ M) ∧ (∀ y, g.resolve g.resolveFuel T.label = some y → y.node ∈ M)
  groupActor : ∀ n gid a i o T, n < g.next → g.kindOf n = some (.worker gid a i o) → g.trainerOf gid = some T → T.actor = a
  tags : ∀ w ∈ g.allWorkers, w.uid ∈ M → w.actor < Flow.falsyBase

theorem trainsOK_spec {g : Graph} {M : List Nat} (h : g.trainsOK M = true) : TrainsOK g M := by
  simp only [Graph.trainsOK, Bool.and_eq_true, List.all_eq_true] at h
  obtain ⟨⟨⟨h1, h2⟩, h3⟩, h4⟩ := h
  refine ⟨List.pairwise_map.mp ((Flow.Segment.allDistinct_iff_nodup _).mp h1), ?_, ?_, ?_, ?_, ?_⟩
  · intro T hT
    have hk := (h2 T hT).1.1
    cases hkk : g.kindOf T.node with
    | none => rw [hkk] at hk; cases hk
    | some kd =>
      cases kd with
      | future => rw [hkk] at hk; cases hk
      | worker gid a i o =>
        simp only [hkk, Bool.and_eq_true, beq_iff_eq, decide_eq_true_eq] at hk
        obtain ⟨⟨rfl, rfl⟩, rfl⟩ := hk
        exact ⟨o, rfl⟩
  · intro T hT k
    have he := (h2 T hT).1.2
    unfold Graph.inputOf
    rw [List.find?_eq_none.mpr fun e hem => by simp [bne_iff_ne.mp (he e hem)]]
    rfl
  · intro T hT hM
    have hm := (h2 T hT).2
    simp only [List.contains_iff_mem.mpr hM, Bool.not_true, Bool.false_or, Bool.and_eq_true] at hm
    constructor
    · intro x hx; simpa [hx] using hm.1
    · intro y hy; simpa [hy] using hm.2
  · intro n gid a i o T hn hk hT
    have hw : (⟨n, gid, a.tag, a.stateful, i, o⟩ : Flow.Worker) ∈ g.allWorkers := mem_allWorkers.mpr ⟨hn, by rw [hk]⟩
    have := h3 _ hw
    simp only [hT, Bool.and_eq_true, beq_iff_eq] at this
    obtain ⟨tag, stateful⟩ := a
    obtain ⟨rfl, rfl⟩ := this
    rfl
  · intro w hw hM
    simpa [hM, Flow.falsyBase] using h4 w hw

/-- both values are what a denoting table holds at `n` (`Denotes.nodeVal`) -/
theorem nodeVal_fuel {s : Flow.Segment} {A : Option Flow.Assets} {rank : Nat → Nat} (hwf : s.wf rank = true)
    (hA : s.assetsOK A = true) (hc : s.connected = true) {n : Nat} {w : Flow.Worker} (hw : s.worker? n = some w) {F : Nat}
    (hF : s.evalFuel ≤ F) : s.nodeVal A F n = s.nodeVal A s.evalFuel n := by
  obtain ⟨t, _, hd, _⟩ := Flow.compile_denotes hwf hA (Flow.Segment.visitOrder_perm hwf hc)
  have hlt : s.cntW rank n < s.evalFuel := Nat.lt_succ_of_le (Flow.Segment.cntW_le s rank n)
  rw [hd.nodeVal (Flow.Segment.wf_WF hwf) (Flow.Segment.assetsOK_AssetsOK hA) F n w hw (Nat.lt_of_lt_of_le hlt hF),
    hd.nodeVal (Flow.Segment.wf_WF hwf) (Flow.Segment.assetsOK_AssetsOK hA) s.evalFuel n w hw hlt]

theorem mem_dedup : ∀ (l : List Nat) (x : Nat), x ∈ dedup l ↔ x ∈ l
  | [], x => by simp [dedup]
  | y :: r, x => by
    unfold dedup
    by_cases h : (dedup r).contains y = true
    · simp only [h, if_true, List.mem_cons]
      rw [mem_dedup r x]
      constructor
      · exact Or.inr
      · rintro (e | e)
        · rw [e]; exact (mem_dedup r y).mp (by simpa using h)
        · exact e
    · simp only [h, Bool.false_eq_true, if_false, List.mem_cons, mem_dedup r x]

theorem storedState_map (P : List Nat) (f : Nat → Flow.Val) (gid : Nat) :
    Flow.Segment.storedState (some ⟨P, P.map f⟩) gid = if (Flow.indexOf gid P).isSome then f gid else .none := by
  unfold Flow.Segment.storedState
  simp only [Flow.Assets.contains]
  by_cases hc : (Flow.indexOf gid P).isSome = true
  · obtain ⟨i, hi⟩ := Option.isSome_iff_exists.mp hc
    simp [Flow.Assets.load, Flow.Assets.offset, hi, Flow.indexOf_get hi]
  · simp only [hc, Bool.false_eq_true, if_false]

section
variable {g : Graph} {W : World} {M : List Nat} {head tl : Nat} {A : Option Flow.Assets} {rank : Nat → Nat}
  {t : Flow.Table} (H : BridgeHyp g W M head tl A rank)
  (hwf : (segmentOn g M head tl).wf rank = true) (hA : (segmentOn g M head tl).assetsOK A = true)
  (hc : (segmentOn g M head tl).connected = true) (hp : Flow.Preserves (segmentOn g M head tl) A t)
include H hwf hA hc hp

theorem BridgeHyp.run_member {n gid : Nat} {a : Actor} {i o : Nat} (hM : n ∈ M)
    (hk : g.kindOf n = some (.worker gid a i o)) {F : Nat} (hF : (segmentOn g M head tl).evalFuel ≤ F) :
    (Flow.run A t).get (.uid n) = some ((segmentOn g M head tl).nodeVal A F n) := by
  obtain ⟨hw, hw?⟩ := H.worker hM hk
  rw [hp.values _ hw, nodeVal_fuel hwf hA hc hw? hF]

theorem BridgeHyp.run_tail (tail : PubRef) (hl : W.live tail.node) (htl : tl = tailNode g tail)
    (hs : tailSimple (segmentOn g M head tl) = true) :
    (Flow.run A t).get (.uid tl) = some (conv (W.σ tail)) := by
  obtain ⟨q, hr, ⟨gid, a, i, o, hk⟩, hlq, hσq, _⟩ := resolve_live' H.inv H.noOpen tail hl
  have hq : tl = q.node := by rw [htl]; unfold tailNode; rw [hr]; rfl
  subst hq
  have hM : q.node ∈ M := by
    obtain ⟨w, hw, hu⟩ := Flow.Segment.mem_uids.mp H.wf.tail
    exact (show w.uid = q.node from hu) ▸ (mem_seg_workers.mp hw).2
  have ho : o = 1 := by
    unfold tailSimple at hs
    rw [show (segmentOn g M head q.node).tail = q.node from rfl, (H.worker hM hk).2] at hs
    simpa using hs
  obtain ⟨out, hout, hv⟩ := H.node (W.h q.node + 1) q.node (Nat.lt_succ_self _) hlq hM gid a i o hk
  -- the fuel `evalFuel + (2 * g.next + 3)` is at least C01's `evalFuel` and above twice the rank of the tail (`< g.next`)
  rw [H.run_member hwf hA hc hp hM hk (Nat.le_add_right _ (2 * g.next + 3)),
    hv _ (fuel_lt (H.inv.liveLt _ hlq).2 (Nat.lt_succ_of_le (Nat.le_trans (Nat.le_add_right _ 2) (Nat.le_add_left _ _)))), ← hσq,
    show W.σ q = W.σ ⟨q.node, q.idx⟩ from rfl, hout q.idx, ho]
  rfl

theorem BridgeHyp.run_trainer {T : Training} (hT : T ∈ g.trains) (hM : T.node ∈ M) :
    (Flow.run A t).get (.uid T.node) = some (conv (trainedUnder W T).2) := by
  obtain ⟨o, hk⟩ := H.trainKind T hT
  obtain ⟨lx, ly⟩ := H.trainLive T hT
  rw [H.run_member hwf hA hc hp hM hk (Nat.le_add_right _ (2 * g.next + 2)),
    H.trainer g.next (fun n hl hMn hlt => H.node g.next n hlt hl hMn) hT hM (H.inv.liveLt _ lx).2 (H.inv.liveLt _ ly).2 _
      (Nat.lt_of_lt_of_le (Nat.lt_succ_self _) (Nat.le_add_left _ _))]

end

section
variable {src : Source} {s : Sem} {tk : Trunk} {g : Graph} {W : World} {M : List Nat}

theorem CompOk.bridge {head tl : Nat} {A : Option Flow.Assets} {rank : Nat → Nat} (ck : CompOk src s tk g W)
    (ok : TrainsOK g M) (hwf : (segmentOn g M head tl).wf rank = true) (hh : head = tk.apply.head ∨ head = tk.train.head)
    (st1 : ∀ gid, (∀ T, g.trainerOf gid = some T → T.node ∈ M) → (Flow.Segment.storedState A gid).asState = .none)
    (st2 : ∀ gid T, g.trainerOf gid = some T → T.node ∉ M →
      (∃ w ∈ (segmentOn g M head tl).workers, w.gid = gid ∧ w.stateful = true) →
      (Flow.Segment.storedState A gid).asState = conv (trainedUnder W T).2) :
    BridgeHyp g W M head tl A rank :=
  { inv := ck.inv, wired := ck.wired, noOpen := ck.noOpen, wf := Flow.Segment.wf_WF hwf
    headSrc := by
      rcases hh with h | h
      · rw [h, ck.heads.1, ck.frame.kind 0 (of_decide_eq_true rfl)]
        exact ⟨_, _, _, source_kind0 src⟩
      · rw [h, ck.heads.2, ck.frame.kind 2 (of_decide_eq_true rfl)]
        exact ⟨_, _, _, source_kind2 src⟩
    trainLive := ck.trains.1, gidNodup := ok.gidNodup, trainKind := ok.trainKind, trainNoIn := ok.trainNoIn
    trainIn := ok.trainIn
    groupActor := fun n gid a i o T hk hT => ok.groupActor n gid a i o T (ck.inv.bounded.uid_lt hk) hk hT
    tags := fun w hw => ok.tags w (mem_seg_workers.mp hw).1 (mem_seg_workers.mp hw).2
    stored1 := st1, stored2 := st2 }

/-- **the train segment**, compiled without an asset accessor: every trained fork is a member, so no state is loaded -/
theorem CompOk.train_run {tl : Nat} {sg : Flow.Segment} (ck : CompOk src s tk g W)
    (htl : tl = tailNode g tk.train.publisher) (hsg : sg = segmentOn g M tk.train.head tl)
    (hwf : sg.wf (segRank sg) = true) (hc : sg.connected = true) (hA : sg.assetsOK none = true)
    (hs : tailSimple sg = true) (hok : g.trainsOK M = true) (hall : ∀ T ∈ g.trains, T.node ∈ M) :
    ∃ o t, sg.each = .ok o ∧ Flow.compile sg none o = .ok t ∧
      (Flow.run none t).get (.uid tl) = some (conv s.train) ∧
      ∀ T ∈ g.trains, (Flow.run none t).get (.uid T.node) = some (conv (trainedUnder W T).2) := by
  subst hsg
  have H := ck.bridge (A := none) (trainsOK_spec hok) hwf (Or.inr rfl) (fun _ _ => rfl)
    (fun gid T hT hn _ => absurd (hall T (trainerOf_eq_some hT).1) hn)
  obtain ⟨o, t, heach, hcmp, hp⟩ := Flow.C01_dataflow_traversal _ none _ hwf hA hc
  refine ⟨o, t, heach, hcmp, ?_, fun T hT => H.run_trainer hwf hA hc hp hT (hall T hT)⟩
  rw [H.run_tail hwf hA hc hp tk.train.publisher ck.tt.1 htl hs]
  exact congrArg (fun v => some (conv v)) ck.tt.2

/-- **the apply segment**, compiled with an accessor whose previous generation holds, for every trained group, the state
its trained fork computes (`f`): no trained fork is a member, so every stateful member loads its state, and a loaded
state is truthy -/
theorem CompOk.apply_run {tl : Nat} {sg : Flow.Segment} {P : List Nat} (ck : CompOk src s tk g W)
    (htl : tl = tailNode g tk.apply.publisher) (hsg : sg = segmentOn g M tk.apply.head tl)
    (hwf : sg.wf (segRank sg) = true) (hc : sg.connected = true) (hA : sg.assetsOK (some ⟨P, []⟩) = true)
    (hs : tailSimple sg = true) (hok : g.trainsOK M = true) (hnone : ∀ T ∈ g.trains, T.node ∉ M) (f : Nat → Flow.Val)
    (hf0 : ∀ gid, g.trainerOf gid = none → f gid = .none)
    (hf1 : ∀ gid T, g.trainerOf gid = some T → f gid = conv (trainedUnder W T).2) :
    ∃ o t, sg.each = .ok o ∧ Flow.compile sg (some ⟨P, P.map f⟩) o = .ok t ∧
      (Flow.run (some ⟨P, P.map f⟩) t).get (.uid tl) = some (conv s.apply) := by
  subst hsg
  have ok := trainsOK_spec hok
  have hA' : (segmentOn g M tk.apply.head tl).assetsOK (some ⟨P, P.map f⟩) = true :=
    (Flow.assetsOK_congr (A := some ⟨P, []⟩) (B := some ⟨P, P.map f⟩) _ rfl).symm.trans hA
  have H : BridgeHyp g W M tk.apply.head tl (some ⟨P, P.map f⟩) (segRank (segmentOn g M tk.apply.head tl)) := by
    refine ck.bridge ok hwf (Or.inl rfl) ?_ ?_
    · intro gid hall
      have hn : g.trainerOf gid = none := by
        cases h : g.trainerOf gid with
        | none => rfl
        | some T => exact absurd (hall T h) (hnone T (trainerOf_eq_some h).1)
      rw [storedState_map, hf0 gid hn]
      split <;> rfl
    · intro gid T hT hn ⟨w, hw, hg, hst⟩
      obtain ⟨hTm, hTg⟩ := trainerOf_eq_some hT
      -- the group is trained elsewhere, hence persistent
      have hel : (segmentOn g M tk.apply.head tl).trainedElsewhere.contains w.gid = true := by
        rw [List.contains_iff_mem]
        show w.gid ∈ dedup _
        rw [mem_dedup]
        refine List.mem_map.mpr ⟨w, List.mem_filter.mpr ⟨hw, ?_⟩, rfl⟩
        simp only [hst, Bool.true_and, List.any_eq_true]
        exact ⟨T, hTm, by simp [hTg, hg, hn]⟩
      have hp := (Flow.Segment.assetsOK_AssetsOK hA').elsewhere w hw hst hel
      simp only [Flow.Segment.persistentW, hst, Bool.true_and, hg] at hp
      rw [storedState_map, hf1 gid T hT]
      simp only [show (Flow.indexOf gid P).isSome = true from hp, if_true]
      obtain ⟨hwa, hwM⟩ := mem_seg_workers.mp hw
      have hact := ok.groupActor w.uid w.gid _ _ _ T (mem_allWorkers.mp hwa).1 (mem_allWorkers.mp hwa).2 (hg ▸ hT)
      exact asState_trained (by rw [hact]; exact ok.tags w hwa hwM)
  obtain ⟨o, t, heach, hcmp, hp⟩ := Flow.C01_dataflow_traversal _ (some ⟨P, P.map f⟩) _ hwf hA' hc
  refine ⟨o, t, heach, hcmp, ?_⟩
  rw [H.run_tail hwf hA' hc hp tk.apply.publisher ck.ta.1 htl hs]
  exact congrArg (fun v => some (conv v)) ck.ta.2

end

end ForML.Compose
