/-
C01 — `Table.__iter__`: `itertools.groupby` over the index (`groupRuns`) and the `merge` of the alias argument lists.
Pure list lemmas.
-/
import ForML.Lemmas.C01Assoc

namespace ForML.Flow

theorem groupRuns_cons (k : Key) (o : Obj) (r : List (Key × Obj)) :
    (∃ o' ks gs, groupRuns r = (o', ks) :: gs ∧ o'.id = o.id ∧ groupRuns ((k, o) :: r) = (o, k :: ks) :: gs) ∨
    (groupRuns ((k, o) :: r) = (o, [k]) :: groupRuns r ∧ (groupRuns r).head?.map (·.1.id) ≠ some o.id) := by
  rw [groupRuns]
  cases hr : groupRuns r with
  | nil => exact Or.inr ⟨rfl, fun h => nomatch h⟩
  | cons y gs =>
    obtain ⟨o', ks⟩ := y
    by_cases h : o'.id = o.id
    · exact Or.inl ⟨o', ks, gs, rfl, h, if_pos h⟩
    · exact Or.inr ⟨if_neg h, fun he => h (Option.some.inj he)⟩

theorem groupRuns_head (l : List (Key × Obj)) :
    (groupRuns l).head?.map (·.1.id) = l.head?.map (·.2.id) := by
  cases l with
  | nil => rfl
  | cons x r =>
    obtain ⟨k, o⟩ := x
    rcases groupRuns_cons k o r with ⟨_, _, _, _, _, hc⟩ | ⟨hc, _⟩ <;> rw [hc] <;> rfl

theorem groupRuns_ids_subset (l : List (Key × Obj)) : ∀ x ∈ (groupRuns l).map (·.1.id), x ∈ l.map (·.2.id) := by
  induction l with
  | nil => intro x hx; cases hx
  | cons y r ih =>
    obtain ⟨k, o⟩ := y
    intro x hx
    rw [List.map_cons, List.mem_cons]
    rcases groupRuns_cons k o r with ⟨o', ks, gs, hr, _, hc⟩ | ⟨hc, _⟩
    · rw [hc, List.map_cons, List.mem_cons] at hx
      rw [hr, List.map_cons] at ih
      exact hx.imp_right fun hx => ih x (List.mem_cons_of_mem _ hx)
    · rw [hc, List.map_cons, List.mem_cons] at hx
      exact hx.imp_right (ih x)

/-- equal objects adjacent ⇒ every object is emitted once -/
theorem groupRuns_nodup (l : List (Key × Obj)) (hc : Contig (l.map (·.2.id))) :
    ((groupRuns l).map (·.1.id)).Nodup := by
  induction l with
  | nil => exact List.nodup_nil
  | cons y r ih =>
    obtain ⟨k, o⟩ := y
    obtain ⟨hcr, hx⟩ := hc
    have ih := ih hcr
    rcases groupRuns_cons k o r with ⟨o', ks, gs, hr, heq, hc⟩ | ⟨hc, hne⟩
    · rw [hr, List.map_cons] at ih
      rw [hc, List.map_cons, ← heq]
      exact ih
    · rw [hc, List.map_cons, List.nodup_cons]
      refine ⟨fun hmem => hne ?_, ih⟩
      -- an object of `r` equal to `o` sits at the head of `r`, hence heads the first run
      rw [groupRuns_head, ← List.head?_map]
      exact hx (groupRuns_ids_subset r _ hmem)

/-- objects with equal identity are the same object -/
def FunctionalIds (l : List (Key × Obj)) : Prop := ∀ x ∈ l, ∀ y ∈ l, x.2.id = y.2.id → x.2 = y.2

theorem FunctionalIds.tail {x : Key × Obj} {r : List (Key × Obj)} (hf : FunctionalIds (x :: r)) : FunctionalIds r :=
  fun a ha b hb => hf a (List.mem_cons_of_mem _ ha) b (List.mem_cons_of_mem _ hb)

/-- `groupby` only cuts the list -/
theorem groupRuns_flatten (l : List (Key × Obj)) (hf : FunctionalIds l) :
    (groupRuns l).flatMap (fun grp => grp.2.map (·, grp.1)) = l := by
  induction l with
  | nil => rfl
  | cons y r ih =>
    obtain ⟨k, o⟩ := y
    have ih := ih hf.tail
    rcases groupRuns_cons k o r with ⟨o', ks, gs, hr, heq, hc⟩ | ⟨hc, _⟩
    · rw [hr, List.flatMap_cons] at ih
      -- the first run of `r` holds `o'`, which is `o` since identities are functional
      have : ∀ k' ∈ ks, (k', o') = (k', o) := fun k' hk' => by
        have hm : (k', o') ∈ r := ih ▸ List.mem_append_left _ (List.mem_map.mpr ⟨k', hk', rfl⟩)
        exact congrArg (k', ·) (hf (k', o') (List.mem_cons_of_mem _ hm) (k, o) List.mem_cons_self heq)
      rw [hc, List.flatMap_cons, List.map_cons, List.cons_append, ← List.map_congr_left this, ih]
    · rw [hc, List.flatMap_cons, ih]; rfl

theorem groupRuns_ne_nil (l : List (Key × Obj)) : ∀ grp ∈ groupRuns l, grp.2 ≠ [] := by
  induction l with
  | nil => intro grp h; cases h
  | cons y r ih =>
    obtain ⟨k, o⟩ := y
    intro grp hgrp
    rcases groupRuns_cons k o r with ⟨o', ks, gs, hr, _, hc⟩ | ⟨hc, _⟩ <;> rw [hc] at hgrp <;>
      rcases List.mem_cons.mp hgrp with rfl | hgrp
    · exact List.cons_ne_nil _ _
    · exact ih grp (hr ▸ List.mem_cons_of_mem _ hgrp)
    · exact List.cons_ne_nil _ _
    · exact ih grp hgrp

theorem groupRuns_sound (l : List (Key × Obj)) (hf : FunctionalIds l) :
    ∀ grp ∈ groupRuns l, grp.2 ≠ [] ∧ ∀ k ∈ grp.2, (k, grp.1) ∈ l := fun grp hg =>
  ⟨groupRuns_ne_nil l grp hg, fun k hk =>
    groupRuns_flatten l hf ▸ List.mem_flatMap.mpr ⟨grp, hg, List.mem_map.mpr ⟨k, hk, rfl⟩⟩⟩

theorem groupRuns_complete (l : List (Key × Obj)) (hf : FunctionalIds l) :
    ∀ x ∈ l, ∃ ks, (x.2, ks) ∈ groupRuns l ∧ x.1 ∈ ks := by
  intro x hx
  rw [← groupRuns_flatten l hf, List.mem_flatMap] at hx
  obtain ⟨grp, hg, hx⟩ := hx
  obtain ⟨k, hk, rfl⟩ := List.mem_map.mp hx
  exact ⟨grp.2, hg, hk⟩

theorem groupRuns_keys_nodup (l : List (Key × Obj)) (hf : FunctionalIds l) (hnd : (l.map (·.1)).Nodup) :
    ∀ grp ∈ groupRuns l, grp.2.Nodup := by
  rw [← groupRuns_flatten l hf, List.map_flatMap, List.Nodup, List.pairwise_flatMap] at hnd
  intro grp hg
  simpa [List.Nodup, List.map_map, Function.comp_def] using hnd.1 grp hg

theorem groupRuns_all_keys (l : List (Key × Obj)) (hf : FunctionalIds l) (hc : Contig (l.map (·.2.id)))
    {o : Obj} {ks : List Key} (hg : (o, ks) ∈ groupRuns l) {k : Key} (hk : (k, o) ∈ l) : k ∈ ks := by
  obtain ⟨ks', hg', hk'⟩ := groupRuns_complete l hf (k, o) hk
  have := eq_of_nodup_map (fun x : Obj × List Key => x.1.id) (groupRuns_nodup l hc) hg' hg rfl
  cases this
  exact hk'

theorem mergeArgs_nil_left (r : List (Option Key)) : mergeArgs [] r = some r := by
  cases r <;> rfl

theorem mergeArgs_nil_right (l : List (Option Key)) : mergeArgs l [] = some l := by
  cases l <;> rfl

/-- when at most the key `p` carries arguments, merging the argument lists of the aliases yields those of `p` -/
theorem merge_fold (link : Key → List (Option Key)) (p : Key) (ks : List Key) (acc : List (Option Key))
    (hempty : ∀ k ∈ ks, k ≠ p → link k = []) (hnd : ks.Nodup) (hacc : p ∈ ks → acc = []) :
    ks.foldl (fun acc k' => acc.bind (fun a => mergeArgs a (link k'))) (some acc)
      = some (if p ∈ ks then link p else acc) := by
  induction ks generalizing acc with
  | nil => simp
  | cons k r ih =>
    simp only [List.foldl_cons, Option.bind_some]
    simp only [List.nodup_cons] at hnd
    have hempty' := fun k' hk' => hempty k' (List.mem_cons_of_mem _ hk')
    by_cases hk : k = p
    · subst hk
      rw [hacc List.mem_cons_self, mergeArgs_nil_left, ih (link k) hempty' hnd.2 (fun h => absurd h hnd.1),
        if_neg hnd.1, if_pos List.mem_cons_self]
    · have hmem : p ∈ k :: r ↔ p ∈ r := ⟨fun h => (List.mem_cons.mp h).resolve_left (Ne.symm hk), List.mem_cons_of_mem _⟩
      rw [hempty k List.mem_cons_self hk, mergeArgs_nil_right, ih acc hempty' hnd.2 (fun h => hacc (hmem.mpr h))]
      simp only [hmem]

end ForML.Flow
