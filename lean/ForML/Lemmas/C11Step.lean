/-
Outcome of `publish`, `Future.register`, `subscribe` and `Worker.train` on a well-formed state: either an error
with the state untouched, or the state extended by the edges `publishTo` appended — to a worker (`Published`) or
through a registration on a placeholder (`Registered`).  `Route` is that three-way outcome; what one wiring call
keeps is proved once per outcome.
-/
import ForML.Lemmas.C11Wf

namespace ForML.Graph

/-- the state with the `_PORTS` entry of a new subscription -/
def withPort (g : G) (s : Sub) : G := { g with ports := g.ports ++ [s] }

theorem withPort_same_nodes (g : G) (s : Sub) : (withPort g s).nodes = g.nodes := rfl

theorem delPort_withPort (g : G) (s : Sub) (h : s ∉ g.ports) : delPort (withPort g s) s = g := by
  have hl : g.ports.filter (· ≠ s) = g.ports :=
    List.filter_eq_self.mpr (fun a ha => decide_eq_true (fun hs => h (hs ▸ ha)))
  unfold delPort withPort
  simp only [List.filter_append, hl, List.filter_cons, ne_eq, not_true_eq_false, decide_false, List.filter_nil,
    List.append_nil, Bool.false_eq_true, ↓reduceIte]

/-- what the checks of `_publish` (a placeholder, or a worker that is not trained) say in terms of the edges -/
theorem canPub_of_good (g g' : G) (n : Nat) (i6 : I6 g) (i7 : I7 g) (hp : ∀ q ∈ g.ports, q ∈ g'.ports)
    (h : isFuture g n = true ∨ trained g' n = false) : CanPub g n := by
  intro e he ha heq
  rcases h with h | h
  · exact not_worker_and_future g _ (i7 e he).2 (heq ▸ h)
  · rw [trained_false g' n h e.sub (hp _ (i6.2 e he)) heq.symm] at ha; cases ha

/-- a successful `publish` of `s` from `(p, pi)` to a worker appended the edges `L` -/
structure Published (g : G) (p pi : Nat) (s : Sub) (L : List Edge) : Prop where
  worker : isWorker g s.node = true
  run : publishTo (fuelOf g) (withPort g s) p pi s =
    (g.published s L, .ok)
  port : s ∉ g.ports
  fresh : ∀ e ∈ g.edges, e.sub ≠ s
  kind : ∀ e ∈ g.edges, e.sub.node = s.node → e.sub.port.isApply = s.port.isApply
  quiet : s.port.isApply = false → ∀ e ∈ g.edges, e.pub ≠ s.node
  group : TrainOK g s
  first : (⟨p, pi, s⟩ : Edge) ∈ L
  edge : ∀ e ∈ L, e.sub = s ∧ e.pub ≠ s.node ∧ e.pub < g.nodes.length ∧ CanPub g e.pub
  along : ∀ e ∈ L, (e.pub, e.out) ∈ tree (fuelOf g) g p pi

/-- the group rule checked by `Subscription.__new__`, in terms of the edges -/
theorem trainOK_of_subscription (g : G) (s : Sub) (hw : Wf g) (hs : isWorker g s.node = true)
    (h : subscription g s = none) : TrainOK g s := by
  obtain ⟨_, _, _, _, i6, i7, _⟩ := hw
  have c5 := (subscription_none g s h).2.2.2.2
  intro ha e he hea hgid
  apply Classical.byContradiction
  intro hne
  have hany := c5 ha
  obtain ⟨k, hk⟩ := gid_of_worker g s.node hs
  have hmem : e.sub.node ∈ group g s.node := by
    unfold group
    simp only [hk, List.mem_filter, List.mem_range, decide_eq_true_eq]
    exact ⟨isWorker_lt _ _ (i7 e he).2, by rw [hgid, hk]⟩
  have htr : trained g e.sub.node = true := trained_true g e.sub (i6.2 e he) hea
  have := List.any_eq_false.mp hany e.sub.node hmem
  simp [htr, hne] at this

/-- publishing to a placeholder other than the publisher itself is the registration -/
theorem publish_future (g : G) (p pi : Nat) (s : Sub) (hf : isFuture g s.node = true) (hne : s.node ≠ p) :
    publish g p pi s = register g s.node s.port.index p pi := by
  unfold publish; rw [if_pos ⟨hf, hne⟩]

theorem publish_refused (g : G) (p pi : Nat) (s : Sub) (e : Err) (hf : ¬(isFuture g s.node = true ∧ s.node ≠ p))
    (h : subscription g s = some e) : publish g p pi s = (g, .err e) := by
  unfold publish; rw [if_neg hf, h]

theorem publish_created (g : G) (p pi : Nat) (s : Sub) (hf : ¬(isFuture g s.node = true ∧ s.node ≠ p))
    (h : subscription g s = none) :
    publish g p pi s =
      match publishTo (fuelOf g) (withPort g s) p pi s with
      | (g2, .err e) => (delPort (unpublishTo (fuelOf g) g2 p pi s) s, .err e)
      | (g2, r) => (g2, r) := by
  unfold publish; rw [if_neg hf, h]; rfl

theorem publish_cases (g : G) (p pi : Nat) (s : Sub) (hw : Wf g)
    (hs : isWorker g s.node = true) (hp : p < g.nodes.length) :
    (∃ e, publish g p pi s = (g, .err e)) ∨
    (∃ L, publish g p pi s = (g.published s L, .ok) ∧
      Published g p pi s L) := by
  have hsf : ¬(isFuture g s.node = true ∧ s.node ≠ p) := by
    rw [isFuture_eq_false_of_isWorker g _ hs]; exact fun h => Bool.noConfusion h.1
  cases hsub : subscription g s with
  | some e => exact .inl ⟨e, publish_refused g p pi s e hsf hsub⟩
  | none =>
    obtain ⟨i2, i3, i4, i5, i6, i7, i8⟩ := hw
    obtain ⟨c1, c2, c3, _⟩ := subscription_none g s hsub
    have hfresh : ∀ e ∈ g.edges, e.sub ≠ s := fun e he h => c1 (h ▸ i6.2 e he)
    obtain ⟨hsame, L, hL, hgood⟩ := publishTo_spec (fuelOf g) (withPort g s) p pi s
    rw [publish_created g p pi s hsf hsub]
    rcases publishTo_res (fuelOf g) (withPort g s) p pi s with hr | ⟨e, hr⟩
    · right
      have hrun : publishTo (fuelOf g) (withPort g s) p pi s =
          (g.published s L, .ok) :=
        Prod.ext (eq_of_same (g := g.published s L) hsame hL) hr
      refine ⟨L, by rw [hrun], hs, hrun, c1, hfresh, ?_, ?_,
        trainOK_of_subscription g s ⟨i2, i3, i4, i5, i6, i7, i8⟩ hs hsub, ?_, ?_,
        fun e he => tree_congr (g := g) (g' := withPort g s) rfl rfl _ _ _ ▸ (hgood e he).2.1⟩
      · intro e he hn
        have := c2 e.sub (i6.2 e he) hn
        rw [← hn, any_apply g i3 i6 e he] at this
        exact this
      · intro ha e he hpub
        have := List.any_eq_false.mp (c3 ha) e he
        simp [hpub] at this
      · have := publishTo_ok_mem (fuelOf g) (withPort g s) p pi s hr
        rw [hL] at this
        rcases List.mem_append.mp this with h | h
        · exact absurd rfl (hfresh _ h)
        · exact h
      · intro e he
        obtain ⟨a, b, c, d⟩ := hgood e he
        have a' : e.sub = s := List.mem_singleton.mp a
        exact ⟨a', a' ▸ c, tree_lt (g := withPort g s) (fun r hr => (i8 r hr).2) _ p pi hp _ b,
          canPub_of_good g (withPort g s) e.pub i6 i7 (fun _ h => List.mem_append_left _ h) d⟩
    · left
      have hpt : publishTo (fuelOf g) (withPort g s) p pi s =
          ((publishTo (fuelOf g) (withPort g s) p pi s).1, .err e) := Prod.ext rfl hr
      rw [hpt]
      exact ⟨e, by simp only [unpublish_undo (fuelOf g) (withPort g s) p pi s hfresh, delPort_withPort g s c1]⟩

namespace Published

theorem wf {g : G} {p pi : Nat} {s : Sub} {L : List Edge} (h : Published g p pi s L) (hw : Wf g) :
    Wf (g.published s L) := by
  refine wf_grow (ns := []) (R := []) hw (List.append_nil _).symm rfl rfl (List.append_nil _).symm ?_ ?_ nofun
  · intro e he
    obtain ⟨a, b, c, d⟩ := h.edge e he
    exact ⟨a ▸ b, c, .inl (a ▸ List.mem_singleton.mpr rfl), d⟩
  · -- the new port against the old edges: what `Subscription.__new__` checked; against the new ones: they carry it
    intro q hq
    rw [List.mem_singleton.mp hq]
    refine ⟨⟨_, h.first, rfl⟩, h.worker, ?_, ?_, ?_⟩
    · intro e he hn
      rcases List.mem_append.mp he with he | he
      · exact h.kind e he hn
      · rw [(h.edge e he).1]
    · intro ha e he hea hgid
      rcases List.mem_append.mp he with he | he
      · exact h.group ha e he hea hgid
      · rw [(h.edge e he).1]
    · intro ha e he
      rcases List.mem_append.mp he with he | he
      · exact h.quiet ha e he
      · exact (h.edge e he).2.1

theorem undo {g : G} {p pi : Nat} {s : Sub} {L : List Edge} (h : Published g p pi s L) :
    unpublish (g.published s L) p pi s = g := by
  unfold unpublish
  rw [if_pos (List.mem_append_right _ h.first)]
  have hg1 : g.published s L =
      (publishTo (fuelOf g) (withPort g s) p pi s).1 := by rw [h.run]
  have hfuel : fuelOf (g.published s L) = fuelOf g := rfl
  rw [hfuel, hg1, unpublish_undo (fuelOf g) (withPort g s) p pi s h.fresh, delPort_withPort g s h.port]

end Published

/-- a successful registration of `(p, pi)` on input `i` of the placeholder `f` appended the edges `L` -/
structure Registered (g : G) (f i p pi : Nat) (L : List Edge) : Prop where
  future : isFuture g f = true
  bound : p < g.nodes.length
  loop : ((out g f i).map (fun s => (p, pi, s))).foldl (repub (fuelOf g))
      ({ g with regs := g.regs ++ [⟨f, i, p, pi⟩] }, .ok) =
    (g.registered ⟨f, i, p, pi⟩ L, .ok)
  edge : ∀ e ∈ L, (⟨f, i, e.sub⟩ : Edge) ∈ g.edges ∧ e.pub ≠ e.sub.node ∧ e.pub < g.nodes.length ∧ CanPub g e.pub ∧
    (e.pub, e.out) ∈ tree (fuelOf g) { g with regs := g.regs ++ [⟨f, i, p, pi⟩] } p pi

theorem register_cases (g : G) (f i p pi : Nat) (hw : Wf g)
    (hf : isFuture g f = true) (hp : p < g.nodes.length) :
    (∃ e, register g f i p pi = (g, .err e)) ∨
    (∃ L, register g f i p pi =
      (g.registered ⟨f, i, p, pi⟩ L, .ok) ∧ Registered g f i p pi L) := by
  obtain ⟨_, _, _, _, i6, i7, i8⟩ := hw
  generalize hr : register g f i p pi = r
  unfold register at hr
  by_cases hfol : (isFuture g p && follows (fuelOf g) g p f) = true
  · rw [if_pos hfol] at hr; exact .inl ⟨_, hr.symm⟩
  · rw [if_neg hfol] at hr
    split at hr
    · exact .inl ⟨_, hr.symm⟩
    · rename_i hdry
      right
      let g1 : G := { g with regs := g.regs ++ [⟨f, i, p, pi⟩] }
      have hall := List.findSome?_eq_none_iff.mp
        ((foldl_first_eq (fun s => publishable (fuelOf g) g p pi s) _ none).symm.trans hdry)
      have hregs : ∀ r ∈ g1.regs, r.pub < g1.nodes.length := by
        intro r hr
        rcases List.mem_append.mp hr with hr | hr
        · exact (i8 r hr).2
        · rw [List.mem_singleton.mp hr]; exact hp
      -- every re-publication of the loop succeeds (the dry run passed) and appends edges of held subscriptions
      have hloop := foldl_repub_inv
        (P := fun a => Grown g1 (out g f i) (tree (fuelOf g) g1 p pi) a.1 ∧ a.2 = .ok)
        ((out g f i).map (fun s => (p, pi, s))) (g1, .ok) (by
          intro a q hq _ ha
          obtain ⟨s, hs, rfl⟩ := List.mem_map.mp hq
          refine ⟨ha.1.append (publishTo_spec (fuelOf g) a.1 p pi s) ?_ ?_,
            publishable_ok ⟨f, i, p, pi⟩ _ g a.1 p pi s ha.1.1 (fun hpf => by simpa [hpf] using hfol) (hall s hs)⟩
          · intro x hx; rw [List.mem_singleton.mp hx]; exact hs
          · intro x hx; rw [ha.1.1.tree] at hx; exact hx)
        ⟨Grown.refl .., rfl⟩
      obtain ⟨⟨hsame, L, hL, hfacts⟩, hok⟩ := hloop
      have hstate := eq_of_same
        (g := g.registered ⟨f, i, p, pi⟩ L) hsame hL
      have hrun : ((out g f i).map (fun s => (p, pi, s))).foldl (repub (fuelOf g)) (g1, .ok) =
          (g.registered ⟨f, i, p, pi⟩ L, .ok) := Prod.ext hstate hok
      refine ⟨L, ?_, hf, hp, hrun, ?_⟩
      · rw [← hr, ← hrun, List.foldl_map]; rfl
      · intro e he
        obtain ⟨a, b, c, d⟩ := hfacts e he
        exact ⟨mem_out.mp a, c, tree_lt hregs _ p pi hp _ b, canPub_of_good g g e.pub i6 i7 (fun _ h => h) d, b⟩

theorem Registered.wf {g : G} {f i p pi : Nat} {L : List Edge} (h : Registered g f i p pi L) (hw : Wf g) :
    Wf (g.registered ⟨f, i, p, pi⟩ L) := by
  refine wf_grow (ns := []) (P := []) hw (List.append_nil _).symm rfl (List.append_nil _).symm rfl ?_ nofun ?_
  · intro e he
    obtain ⟨a, b, c, d, _⟩ := h.edge e he
    exact ⟨b, c, .inr ⟨_, a, rfl⟩, d⟩
  · intro r hr
    rw [List.mem_singleton.mp hr]
    exact ⟨h.future, h.bound⟩

/-- the refusal is the `Future node subscribing` of `Subscription.__new__` -/
theorem publish_self_future (g : G) (p pi : Nat) (s : Sub) (hf : isFuture g s.node = true) (heq : s.node = p) :
    ∃ e, publish g p pi s = (g, .err e) := by
  cases hsub : subscription g s with
  | some e => exact ⟨e, publish_refused g p pi s e (fun h => h.2 heq) hsub⟩
  | none =>
    have := (subscription_none g s hsub).2.2.2.1
    rw [hf] at this; cases this

/-- the outcome of wiring the output port `(p, pi)` to the input `s` -/
inductive Route (g : G) (p pi : Nat) (s : Sub) : G × Res → Prop
  | refused (e : Err) : Route g p pi s (g, .err e)
  | published (L : List Edge) : Published g p pi s L →
      Route g p pi s (g.published s L, .ok)
  | registered (L : List Edge) : Registered g s.node s.port.index p pi L →
      Route g p pi s (g.registered ⟨s.node, s.port.index, p, pi⟩ L, .ok)

theorem register_route (g : G) (p pi : Nat) (s : Sub) (hw : Wf g) (hf : isFuture g s.node = true)
    (hp : p < g.nodes.length) : Route g p pi s (register g s.node s.port.index p pi) := by
  rcases register_cases g s.node s.port.index p pi hw hf hp with ⟨e, h⟩ | ⟨L, h, hL⟩ <;> rw [h]
  · exact .refused e
  · exact .registered L hL

/-- `publish` between existing nodes of a well-formed state: to a worker the subscription is created and published,
to a placeholder the publisher is registered -/
theorem publish_route (g : G) (p pi : Nat) (s : Sub) (hw : Wf g) (hs : s.node < g.nodes.length)
    (hp : p < g.nodes.length) : Route g p pi s (publish g p pi s) := by
  rcases node_kind g s.node hs with hwk | hf
  · rcases publish_cases g p pi s hw hwk hp with ⟨e, h⟩ | ⟨L, h, hL⟩ <;> rw [h]
    · exact .refused e
    · exact .published L hL
  · by_cases heq : s.node = p
    · obtain ⟨e, h⟩ := publish_self_future g p pi s hf heq
      rw [h]; exact .refused e
    · rw [publish_future g p pi s hf heq]
      exact register_route g p pi s hw hf hp

theorem publishOp_route (g : G) (p pi s : Nat) (port : Port) (hw : Wf g) :
    Route g p pi ⟨s, port⟩ (publishOp g p pi s port) := by
  unfold publishOp
  split
  · exact .refused _
  · rename_i hlen
    exact publish_route g p pi ⟨s, port⟩ hw (Nat.lt_of_not_le (fun h => hlen (.inl h)))
      (Nat.lt_of_not_le (fun h => hlen (.inr h)))

theorem subscribe_route (g : G) (s j p pi : Nat) (hw : Wf g) :
    Route g p pi ⟨s, .apply j⟩ (subscribe g s j p pi) := by
  unfold subscribe
  split
  · exact .refused _
  · rename_i hlen
    have hp : p < g.nodes.length := Nat.lt_of_not_le (fun h => hlen (.inr h))
    split
    · rename_i hf
      exact register_route g p pi ⟨s, .apply j⟩ hw hf hp
    · exact publish_route g p pi ⟨s, .apply j⟩ hw (Nat.lt_of_not_le (fun h => hlen (.inl h))) hp

namespace Route
variable {g : G} {p pi : Nat} {s : Sub} {r : G × Res}

theorem atomic (h : Route g p pi s r) (he : r.2.isErr = true) : r.1 = g := by
  cases h with
  | refused => rfl
  | published => cases he
  | registered => cases he

theorem res (h : Route g p pi s r) : (∃ e, r = (g, .err e)) ∨ r.2 = .ok := by
  cases h with
  | refused e => exact .inl ⟨e, rfl⟩
  | published => exact .inr rfl
  | registered => exact .inr rfl

theorem nodes (h : Route g p pi s r) : r.1.nodes = g.nodes := by
  cases h <;> rfl

end Route

/-- `Worker.train` on a well-formed state: an error with the state untouched (also when the label publish
fails after the train publish went through), or both subscriptions published -/
theorem train_cases (g : G) (n tp ti lp li : Nat) (hw : Wf g) :
    (∃ e, train g n tp ti lp li = (g, .err e)) ∨
    (∃ L1 L2, train g n tp ti lp li =
        ((g.published ⟨n, .train⟩ L1).published ⟨n, .label⟩ L2, .ok) ∧
      Published g tp ti ⟨n, .train⟩ L1 ∧
      Published (g.published ⟨n, .train⟩ L1) lp li ⟨n, .label⟩ L2) := by
  generalize hr : train g n tp ti lp li = r
  unfold train at hr
  by_cases hguard : (!isWorker g n) = true ∨ g.nodes.length ≤ tp ∨ g.nodes.length ≤ lp
  · rw [if_pos hguard] at hr; exact .inl ⟨_, hr.symm⟩
  rw [if_neg hguard] at hr
  have hn : isWorker g n = true := by
    cases h : isWorker g n with
    | true => rfl
    | false => exact absurd (.inl (by rw [h]; rfl)) hguard
  have htp : tp < g.nodes.length := Nat.lt_of_not_le (fun h => hguard (.inr (.inl h)))
  have hlp : lp < g.nodes.length := Nat.lt_of_not_le (fun h => hguard (.inr (.inr h)))
  by_cases hst : (!stateful g n) = true
  · rw [if_pos hst] at hr; exact .inl ⟨_, hr.symm⟩
  rw [if_neg hst] at hr
  by_cases hfork : (group g n).any (trained g) = true
  · rw [if_pos hfork] at hr; exact .inl ⟨_, hr.symm⟩
  rw [if_neg hfork] at hr
  rcases publish_cases g tp ti ⟨n, .train⟩ hw hn htp with ⟨e, h⟩ | ⟨L1, h, h1⟩ <;> rw [h] at hr
  · exact .inl ⟨e, hr.symm⟩
  · simp only at hr
    rcases publish_cases _ lp li ⟨n, .label⟩ (h1.wf hw) hn hlp with ⟨e, h2⟩ | ⟨L2, h2, hL2⟩ <;> rw [h2] at hr
    · simp only [h1.undo] at hr
      exact .inl ⟨e, hr.symm⟩
    · exact .inr ⟨L1, L2, hr.symm, h1, hL2⟩

end ForML.Graph
