/-
C10 — a result cache in front of the reader is invisible to a sequence of windows over unchanged
storage if its key tells statements with different bound values apart; a key that does not is
refuted by an instance.

`_statement2key` renders the literals, i.e. it is the injective `keyLiteral` (that sha256 and the
SQL rendering are injective on the statements of one table is C06's subject).
-/
import ForML.Props.C10
import ForML.Model.OrdinalCache

set_option linter.unusedSectionVars false

namespace ForML.Ordinal

section
variable {α κ : Type} [LE α] [LT α] [DecidableLE α] [DecidableLT α] [DecidableEq α] [DecidableEq κ]

/-- every entry of the cache holds what its statement denotes over the (unchanged) storage -/
def CacheSound (key : List (Term α) → κ) (cache : Cache κ) (data : List α) : Prop :=
  ∀ k rows, cacheGet cache k = some rows → ∀ ts, key ts = k → rows = deliverIdx ts data

theorem C10_cache_empty_sound (key : List (Term α) → κ) (data : List α) :
    CacheSound key ([] : Cache κ) data := by
  intro k rows h; simp [cacheGet] at h

private theorem getOrExec_sound (key : List (Term α) → κ) (hinj : ∀ a b, key a = key b → a = b)
    (cache : Cache κ) (data : List α) (hs : CacheSound key cache data) (ts : List (Term α)) :
    (getOrExec key cache ts data).1 = deliverIdx ts data ∧
    CacheSound key (getOrExec key cache ts data).2 data := by
  unfold getOrExec
  cases hg : cacheGet cache (key ts) with
  | some rows => exact ⟨hs _ _ hg ts rfl, hs⟩
  | none =>
    refine ⟨rfl, ?_⟩
    intro k rows h ts' hk
    simp only [cacheGet] at h
    by_cases hkk : key ts = k
    · simp only [hkk, if_true, Option.some.injEq] at h
      have : ts' = ts := hinj _ _ (hk.trans hkk.symm)
      rw [this, ← h]
    · simp only [hkk, if_false] at h
      exact hs k rows h ts' hk

private theorem launchCached_sound (key : List (Term α) → κ) (hinj : ∀ a b, key a = key b → a = b)
    (cache : Cache κ) (data : List α) (hs : CacheSound key cache data) (ord : Option (Kind × Once))
    (lo hi : Option (Raw α)) :
    (launchCached key cache ord lo hi data).1 = launch ord lo hi data ∧
    CacheSound key (launchCached key cache ord lo hi data).2 data := by
  unfold launchCached launch
  cases hp : prepared ord lo hi with
  | error e => exact ⟨rfl, hs⟩
  | ok ts =>
    have := getOrExec_sound key hinj cache data hs ts
    exact ⟨by simp [Except.map, this.1], this.2⟩

/-- with a key that is injective on the window predicates a history of launches through one
consistent cache delivers, launch by launch, exactly what the launches that read the storage deliver
(refusals included), and leaves a consistent cache behind. -/
theorem C10_cache_transparent (key : List (Term α) → κ) (hinj : ∀ a b, key a = key b → a = b)
    (ord : Option (Kind × Once)) (wins : List (Option (Raw α) × Option (Raw α))) (data : List α)
    (cache : Cache κ) (hs : CacheSound key cache data) :
    (runWindowsCached key cache ord wins data).1 = runWindows ord wins data ∧
    CacheSound key (runWindowsCached key cache ord wins data).2 data := by
  induction wins generalizing cache with
  | nil => exact ⟨rfl, hs⟩
  | cons w r ih =>
    have h1 := launchCached_sound key hinj cache data hs ord w.1 w.2
    have h2 := ih _ h1.2
    exact ⟨List.cons_eq_cons.mpr ⟨h1.1, h2.1⟩, h2.2⟩

/-- in the model the key of the code that exists is the list of terms itself, so there is nothing to prove
(what is trusted: the file header) -/
theorem C10_key_literal_injective (a b : List (Term α)) (h : keyLiteral a = keyLiteral b) : a = b := h

/-- hence the alchemy feed's cache, starting empty, does not change any window of any history -/
theorem C10_cache_literal (ord : Option (Kind × Once)) (wins : List (Option (Raw α) × Option (Raw α)))
    (data : List α) :
    (runWindowsCached keyLiteral [] ord wins data).1 = runWindows ord wins data :=
  (C10_cache_transparent keyLiteral C10_key_literal_injective ord wins data []
    (C10_cache_empty_sound keyLiteral data)).1

/-- the whole path: a source read through the caching feed = the same source read directly -/
theorem C10_source_cached (kindOf : Nat → Kind) (ordinal : Option Nat) (a : OnceArg) (n : Nat)
    (wins : List (Option (Raw α) × Option (Raw α))) (data : List α) :
    sourceWindowsCached kindOf ordinal a n wins data = sourceWindows kindOf ordinal a n wins data := by
  unfold sourceWindowsCached sourceWindows
  simp only [C10_cache_literal]
  rfl

/-- a history that `launches` accepts is, window by window, what `runWindows` returns -/
theorem C10_runWindows_launches (ord : Option (Kind × Once))
    (wins : List (Option (Raw α) × Option (Raw α))) (data : List α) (ls : List (List Nat))
    (h : launches ord wins data = .ok ls) : runWindows ord wins data = ls.map .ok :=
  launches_ok_map ord wins data ls h

/-- every history of launches with castable bounds, read through one consistent cache with an
injective key, delivers the very lists `ls` that `C10_history` / `C10_records` /
`C10_incremental_training` speak about — so each record's delivery count over the whole window
sequence obeys the semantic also behind the cache. -/
theorem C10_cached_history (key : List (Term α) → κ) (hinj : ∀ a b, key a = key b → a = b)
    (sem : Once) (k : Kind) (wins : List (Option (Raw α) × Option (Raw α)))
    (hc : ∀ w ∈ wins, Castable k w.1 ∧ Castable k w.2) (data : List α)
    (cache : Cache κ) (hs : CacheSound key cache data) :
    ∃ ls, launches (some (k, sem)) wins data = .ok ls ∧
      (runWindowsCached key cache (some (k, sem)) wins data).1 = ls.map .ok ∧
      (∀ i (h : i < data.length), timesDelivered ls i
        = hits sem (wins.map (fun w => (w.1.map (·.pt), w.2.map (·.pt)))) data[i]) := by
  obtain ⟨ls, hls, _, hin, _⟩ := C10_history sem k wins hc data
  refine ⟨ls, hls, ?_, hin⟩
  rw [(C10_cache_transparent key hinj _ wins data cache hs).1]
  exact C10_runWindows_launches _ wins data ls hls

end

/-- a key that ignores the bound values (`param_1`, `param_2` by name) is **not** transparent:
exactly-once windows `[1,4)` and `[4,7)` over the ordinals `0..9` — the second launch is answered
with the rows of the first, records 1..3 are delivered twice and 4..6 never -/
theorem C10_cache_shape_key_counterexample :
    ¬ (∀ (ord : Option (Kind × Once)) (wins : List (Option (Raw Int) × Option (Raw Int))) (data : List Int),
        (runWindowsCached keyShape [] ord wins data).1 = runWindows ord wins data) := by
  intro h
  have := h (some (.integer, .exactly))
    [(some ⟨.int, 1, true⟩, some ⟨.int, 4, true⟩), (some ⟨.int, 4, true⟩, some ⟨.int, 7, true⟩)]
    [0, 1, 2, 3, 4, 5, 6, 7, 8, 9]
  revert this
  decide +kernel

/-- what such a key still guarantees: the *first* window of every shape is right (which is why a
single `lower`/`upper` example cannot see the defect) -/
theorem C10_cache_shape_key_first_window (ord : Option (Kind × Once)) (lo hi : Option (Raw Int))
    (data : List Int) :
    (runWindowsCached keyShape [] ord [(lo, hi)] data).1 = runWindows ord [(lo, hi)] data := by
  simp only [runWindowsCached, runWindows, launchCached, launch, List.map_cons, List.map_nil]
  cases prepared ord lo hi with
  | error e => rfl
  | ok ts => simp [getOrExec, cacheGet, Except.map]

example : (runWindowsCached keyLiteral [] (some (.integer, .exactly))
    [(some ⟨.int, (1 : Int), true⟩, some ⟨.int, 4, true⟩), (some ⟨.int, 4, true⟩, some ⟨.int, 7, true⟩),
     (some ⟨.int, 1, true⟩, some ⟨.int, 4, true⟩)] [0, 1, 2, 3, 4, 5, 6, 7, 8, 9]).1
    = [.ok [1, 2, 3], .ok [4, 5, 6], .ok [1, 2, 3]] := by decide +kernel
example : (runWindowsCached keyShape [] (some (.integer, .exactly))
    [(some ⟨.int, (1 : Int), true⟩, some ⟨.int, 4, true⟩), (some ⟨.int, 4, true⟩, some ⟨.int, 7, true⟩)]
    [0, 1, 2, 3, 4, 5, 6, 7, 8, 9]).1 = [.ok [1, 2, 3], .ok [1, 2, 3]] := by decide +kernel
example : (runWindowsCached keyLiteral [] (none : Option (Kind × Once))
    [(some ⟨.int, (0 : Int), false⟩, none), (none, none)] [5, 6]).1 = [.error .unexpectedError, .ok [0, 1]] := by decide +kernel

end ForML.Ordinal
