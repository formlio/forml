/-
One registry call (`write`, `close`, `push`), raw: complete or interrupted after any number of micro-operations it
changes nothing outside its footprint (`closeFoot`, `writeFoot`, `pushFoot` / `pubFoot`), and the repaired `close` / `push`
is complete as soon as the tag / the package is there; what a completed call leaves at the paths it writes.
-/
import ForML.Lemmas.C05Inv

namespace ForML.Registry
open ForML.Fs

theorem run_eqOff {H : Path → Prop} {A : List Op} {fs x : Fs} (hA : ∀ op ∈ A, ∀ key, touches op key → H key)
    (hr : run fs A = some x) : EqOff H x fs :=
  fun key hk => run_frame _ _ _ _ hr fun op hop htk => hk (hA op hop key htk)

theorem crash_eqOff {H : Path → Prop} {A : List Op} {fs c : Fs} {k : Nat} {cut : Option Nat}
    (hA : ∀ op ∈ A, ∀ key, touches op key → H key) (hc : run fs (crashOps A k cut) = some c) : EqOff H c fs :=
  fun key hk => run_crash_frame A fs c k cut key hc fun op hop htk => hk (hA op hop key htk)

theorem close_prefix (impl : Impl) (fs c : Fs) (p v g : Nat) (t : Tag) (A : List Op) (k : Nat) (cut : Option Nat)
    (hA : ∀ op ∈ A, op ∈ closeOps impl fs p v g t) (hAt : ∀ op ∈ A, ¬ touches op (tagP p v g))
    (ht : get fs (tagP p v g) = none) (hc : run fs (crashOps A k cut) = some c) :
    EqOff (closeFoot fs p v g t.sids) c fs ∧ get c (tagP p v g) = none :=
  ⟨crash_eqOff (fun op hop => closeOps_foot impl fs p v g t op (hA op hop)) hc,
    (run_crash_frame A fs c k cut _ hc hAt).trans ht⟩

theorem close_prefix_viewEq {fs c : Fs} {p v g : Nat} {sids : List Nat} (hp : get fs (projectP p) ≠ none)
    (hv : get fs (releaseP p v) ≠ none) (ht : get fs (tagP p v g) = none)
    (h : EqOff (closeFoot fs p v g sids) c fs ∧ get c (tagP p v g) = none) : ViewEq c fs :=
  trained_viewEq (fun _ hm => absurd hm (not_missing hp hv)) ht (h.1.mono fun _ hf => hf.train) h.2

theorem closeOps_staged (kf : Bool) (fs : Fs) (p v g : Nat) (t : Tag) :
    closeOps ⟨true, kf⟩ fs p v g t = mkdirP fs (generationP p v g) ++ renOps p v g t.sids
      ++ [Op.createEmpty (tagTmpP p v g), Op.append (tagTmpP p v g) (encodeTag t)]
      ++ [Op.rename (tagTmpP p v g) (tagP p v g)] := by
  simp [closeOps, tagWriteOps, renOps]

theorem commit_crash_raw (kf : Bool) (fs c : Fs) (p v g : Nat) (t : Tag) (k : Nat) (cut : Option Nat)
    (ht : get fs (tagP p v g) = none)
    (hc : run fs (crashOps (closeOps ⟨true, kf⟩ fs p v g t) k cut) = some c) :
    (EqOff (closeFoot fs p v g t.sids) c fs ∧ get c (tagP p v g) = none)
      ∨ run fs (closeOps ⟨true, kf⟩ fs p v g t) = some c := by
  have hsplit := closeOps_staged kf fs p v g t
  rw [hsplit, crashOps_snoc _ _ (by intro _ _ h; cases h)] at hc
  split at hc
  · left
    refine close_prefix ⟨true, kf⟩ fs c p v g t _ k cut ?_ ?_ ht hc
    · intro op hop; rw [hsplit]; exact List.mem_append_left _ hop
    · apply closePrefix_not_tag
      intro op hop
      simp only [List.mem_cons, List.not_mem_nil, or_false] at hop
      rcases hop with rfl | rfl <;> simp [touches, tagP, tagTmpP]
  · right; rw [hsplit]; exact hc

theorem renOp_other (p v g s s' : Nat) (h : s' ≠ s) :
    ¬ touches (Op.rename (stagedStateP p v s') (stateP p v g s')) (stagedStateP p v s)
    ∧ ¬ touches (Op.rename (stagedStateP p v s') (stateP p v g s')) (stateP p v g s) := by
  simp [touches, stagedStateP, stateP, h]

theorem renames_absent_fail (p v g s0 : Nat) : ∀ (rest : List Nat) (f : Fs),
    get f (stagedStateP p v s0) = none → s0 ∈ rest → run f (renOps p v g rest) = none := by
  intro rest
  induction rest with
  | nil => intro f _ h; cases h
  | cons s1 r ih =>
    intro f habs hin
    simp only [renOps, List.map_cons, run]
    by_cases e : s1 = s0
    · subst e; simp [step, habs]
    · cases hs : step f (Op.rename (stagedStateP p v s1) (stateP p v g s1)) with
      | none => rfl
      | some f' =>
        refine ih f' ?_ ((List.mem_cons.mp hin).resolve_left (Ne.symm e))
        rw [step_frame f f' _ _ hs (renOp_other p v g s0 s1 e).1]; exact habs

/-- the ids are distinct because a second move of the same staged file finds it gone
(`Level.Invalid('State … not staged')`) -/
theorem renames_post (p v g : Nat) : ∀ (sids : List Nat) (f x : Fs),
    run f (renOps p v g sids) = some x →
    sids.Nodup ∧ ∀ s ∈ sids, get x (stateP p v g s) = get f (stagedStateP p v s) := by
  intro sids
  induction sids with
  | nil => intro _ _ _; exact ⟨List.nodup_nil, nofun⟩
  | cons s0 r ih =>
    intro f x hr
    obtain ⟨f', hst, h⟩ : ∃ f', step f (Op.rename (stagedStateP p v s0) (stateP p v g s0)) = some f'
      ∧ run f' (renOps p v g r) = some x := run_cons_some.mp hr
    clear hr
    obtain ⟨hdst, hsrc, _⟩ := step_rename_spec f f' _ _ hst
    have hs0 : s0 ∉ r := fun hin => by
      have := renames_absent_fail p v g s0 r f' (hsrc (by simp [stagedStateP, stateP])) hin
      rw [h] at this; cases this
    obtain ⟨hnd, hpost⟩ := ih f' x h
    refine ⟨List.nodup_cons.mpr ⟨hs0, hnd⟩, fun s hs => ?_⟩
    rcases List.mem_cons.mp hs with rfl | hin
    · rw [← hdst]
      refine run_frame _ _ _ _ h fun op hop => ?_
      obtain ⟨s', hs', rfl⟩ := List.mem_map.mp hop
      exact (renOp_other p v g s s' (fun e => hs0 (e ▸ hs'))).2
    · rw [hpost s hin]
      exact step_frame f f' _ _ hst (renOp_other p v g s s0 (fun e => hs0 (e ▸ hin))).1

theorem close_content (kf : Bool) (fs x : Fs) (p v g : Nat) (t : Tag)
    (hr : run fs (closeOps ⟨true, kf⟩ fs p v g t) = some x) :
    get x (generationP p v g) = some .dir ∧ get x (tagP p v g) = some (.file (encodeTag t)) ∧
    t.sids.Nodup ∧ ∀ s ∈ t.sids, get x (stateP p v g s) = get fs (stagedStateP p v s) := by
  rw [closeOps_staged] at hr
  obtain ⟨f3, hr, h4⟩ := run_append_some.mp hr
  obtain ⟨f2, hr, h3⟩ := run_append_some.mp hr
  obtain ⟨f1, h1, h2⟩ := run_append_some.mp hr
  obtain ⟨_, h4, hx⟩ := run_cons_some.mp h4
  cases hx
  obtain ⟨hnd, hpost⟩ := renames_post p v g t.sids f1 f2 h2
  obtain ⟨htmp, hgen, hfr⟩ := run_create_append f2 f3 _ _ h3
  have fr : ∀ key, ¬ (tagP p v g <+: key) → ¬ (tagTmpP p v g <+: key) → get x key = get f2 key :=
    fun key k2 k3 => by
      rw [step_frame f3 x _ key h4 (by simp [touches, k2, k3]), hfr key (fun e => k3 (e ▸ List.prefix_refl _))]
  refine ⟨?_, ?_, hnd, fun s hs => ?_⟩
  · rw [fr _ (by simp [generationP, tagP]) (by simp [generationP, tagTmpP])]
    exact hgen
  · rw [(step_rename_spec f3 x _ _ h4).1, htmp]
  · rw [fr _ (by simp [stateP, tagP]) (by simp [stateP, tagTmpP]), hpost s hs]
    refine run_frame _ _ _ _ h1 fun op hop hk => ?_
    have := (mkdirP_foot hop hk).prefix.length_le
    simp [stagedStateP, generationP] at this

theorem write_content (fs x : Fs) (p v sid : Nat) (b : Bytes) (hc : run fs (writeOps fs p v sid b) = some x) :
    get x (stagedStateP p v sid) = some (.file b) ∧
    ∀ s, s ≠ sid → get x (stagedStateP p v s) = get fs (stagedStateP p v s) := by
  obtain ⟨f1, h1, h2⟩ := run_append_some.mp hc
  obtain ⟨hfile, _, hfr⟩ := run_create_append f1 x _ _ h2
  refine ⟨hfile, fun s hs => ?_⟩
  rw [hfr _ (by simp [stagedStateP, hs])]
  refine run_frame _ _ _ _ h1 fun op hop hk => ?_
  have := (mkdirP_foot hop hk).prefix.length_le
  simp [stagedStateP, stageP] at this

/-- raw footprint of an interrupted publish: only the (missing) project / release directories were created and
something lies below the temporary package name -/
def QuietPub (x fs : Fs) (p v : Nat) : Prop :=
  (∀ key, key ≠ projectP p → key ≠ releaseP p v → ¬ (packageTmpP p v <+: key) → get x key = get fs key)
    ∧ (get fs (projectP p) ≠ none → get x (projectP p) = get fs (projectP p))

/-- what an interrupted `push` of release `p/v` may change, on any tree -/
def pushFoot (fs : Fs) (p v : Nat) (key : Path) : Prop := Missing fs (releaseP p v) key ∨ packageTmpP p v <+: key

/-- … and a completed one -/
def pubFoot (fs : Fs) (p v : Nat) (key : Path) : Prop := pushFoot fs p v key ∨ packageP p v <+: key

theorem QuietPub.of_foot {x fs : Fs} {p v : Nat} (h : EqOff (pushFoot fs p v) x fs) : QuietPub x fs p v := by
  refine ⟨fun key k1 k2 k3 => h key ?_, fun hne => h _ ?_⟩
  · rintro (hm | hm)
    · exact hm.release.1.elim k1 k2
    · exact k3 hm
  · rintro (hm | hm)
    · exact hne hm.release.2
    · simp [projectP, packageTmpP] at hm

/-- the member copies of `shutil.copytree` into `base`, one `copyFile` per member in the order of the package (the `.dir`
part of `packageWriteOps`) -/
def copyOps (base : Path) (ms : List (Nat × Bytes)) : List Op :=
  ms.map (fun m => Op.copyFile (base ++ [.member m.1]) m.2)

/-- what the repaired `push` writes below the temporary package name: `packageWriteOps ⟨true, _⟩` without its final
`rename` (see `pushOps_staged`) -/
def stagedOps (fs : Fs) (p v : Nat) : Pkg → List Op
  | .file b => [.createEmpty (packageTmpP p v), .append (packageTmpP p v) b]
  | .dir ms => rmtreeP fs (packageTmpP p v) ++ .mkdir (packageTmpP p v) :: copyOps (packageTmpP p v) ms

theorem pushOps_staged (kf : Bool) (fs : Fs) (p v : Nat) (pkg : Pkg) :
    atomsAll (pushOps ⟨true, kf⟩ fs p v pkg) = atomsAll (mkdirP fs (releaseP p v)) ++ atomsAll (stagedOps fs p v pkg)
      ++ [Op.rename (packageTmpP p v) (packageP p v)] := by
  cases pkg <;> simp [pushOps, packageWriteOps, stagedOps, copyOps, atomsAll, Op.atoms]

theorem stagedOps_touches (fs : Fs) (p v : Nat) (pkg : Pkg) :
    ∀ op ∈ stagedOps fs p v pkg, ∀ key, touches op key → packageTmpP p v <+: key := by
  intro op hop key hk
  cases pkg with
  | file b =>
    simp only [stagedOps, List.mem_cons, List.not_mem_nil, or_false] at hop
    rcases hop with rfl | rfl <;> (cases hk; exact List.prefix_refl _)
  | dir ms =>
    simp only [stagedOps, copyOps, List.mem_append, List.mem_cons, List.mem_map] at hop
    rcases hop with hop | rfl | ⟨m, _, rfl⟩
    · unfold rmtreeP at hop
      split at hop
      · cases List.mem_singleton.mp hop; exact hk
      · cases hop
    · cases hk; exact List.prefix_refl _
    · cases hk; exact List.prefix_append _ _

theorem pushOps_atoms (kf : Bool) (fs : Fs) (p v : Nat) (pkg : Pkg) : ∃ A : List Op,
    atomsAll (pushOps ⟨true, kf⟩ fs p v pkg) = A ++ [Op.rename (packageTmpP p v) (packageP p v)]
    ∧ ∀ op ∈ A, ∀ key, touches op key → pushFoot fs p v key := by
  refine ⟨_, pushOps_staged kf fs p v pkg, fun a ha key hk => ?_⟩
  rw [← atomsAll_append] at ha
  obtain ⟨o, ho, h⟩ := atomsAll_touches _ a ha
  rcases List.mem_append.mp ho with ho | ho
  · exact Or.inl (mkdirP_foot ho (h key hk))
  · exact Or.inr (stagedOps_touches fs p v pkg o ho key (h key hk))

theorem push_crash_raw (kf : Bool) (fs c : Fs) (p v : Nat) (pkg : Pkg) (k : Nat) (cut : Option Nat)
    (hc : run fs (crashOps (atomsAll (pushOps ⟨true, kf⟩ fs p v pkg)) k cut) = some c) :
    EqOff (pushFoot fs p v) c fs ∨ run fs (atomsAll (pushOps ⟨true, kf⟩ fs p v pkg)) = some c := by
  obtain ⟨A, hsplit, hA⟩ := pushOps_atoms kf fs p v pkg
  rw [hsplit, crashOps_snoc _ _ (by intro _ _ h; cases h)] at hc
  split at hc
  · exact Or.inl (crash_eqOff hA hc)
  · right; rw [hsplit]; exact hc

theorem pushOps_foot (kf : Bool) (fs : Fs) (p v : Nat) (pkg : Pkg) :
    ∀ op ∈ atomsAll (pushOps ⟨true, kf⟩ fs p v pkg), ∀ key, touches op key → pubFoot fs p v key := by
  obtain ⟨A, hsplit, hA⟩ := pushOps_atoms kf fs p v pkg
  rw [hsplit]
  intro op hop key hk
  rcases List.mem_append.mp hop with hop | hop
  · exact Or.inl (hA op hop key hk)
  · cases List.mem_singleton.mp hop
    exact hk.elim (fun h => Or.inl (Or.inr h)) Or.inr

theorem push_full_frame (kf : Bool) (fs x : Fs) (p v : Nat) (pkg : Pkg)
    (hr : run fs (atomsAll (pushOps ⟨true, kf⟩ fs p v pkg)) = some x) : EqOff (pubFoot fs p v) x fs :=
  run_eqOff (pushOps_foot kf fs p v pkg) hr

theorem pubFoot_free {fs : Fs} {p v : Nat} {key : Path} (w : WF fs) (hb : get fs (packageP p v) = none)
    (h : pubFoot fs p v key) : ¬ Protected fs key := by
  intro hP
  rcases h with (h | h) | h
  · exact h.free w hP
  · rcases hP.below h with ⟨e, _⟩ | ⟨_, e, _⟩ <;> cases e
  · rcases hP.below h with ⟨_, hp⟩ | ⟨_, e, _⟩
    · exact hp hb
    · cases e

theorem pushed_keeps {fs x : Fs} {p v : Nat} (w : WF fs) (hb : get fs (packageP p v) = none)
    (h : EqOff (pubFoot fs p v) x fs) : Keeps fs x :=
  Keeps.of_frame h fun _ => pubFoot_free w hb

theorem pushed_new {fs x : Fs} {p v : Nat} (h : EqOff (pubFoot fs p v) x fs) :
    (∀ p' v' g', get fs (tagP p' v' g') = none → get x (tagP p' v' g') = none)
    ∧ ∀ p' v', ¬ (p' = p ∧ v' = v) → get fs (packageP p' v') = none → get x (packageP p' v') = none := by
  refine ⟨fun p' v' g' e => (h _ ?_).trans e, fun p' v' hne e => (h _ ?_).trans e⟩
  · rintro ((hm | hm) | hm)
    · exact Missing.shallow hm
    · simp [tagP, packageTmpP] at hm
    · simp [tagP, packageP] at hm
  · rintro ((hm | hm) | hm)
    · exact Missing.shallow hm
    · simp [packageP, packageTmpP] at hm
    · simp only [packageP, List.cons_prefix_cons, Seg.proj.injEq, Seg.rel.injEq] at hm
      exact hne ⟨hm.1.symm, hm.2.1.symm⟩

theorem pushed_viewEq {fs x : Fs} {p v : Nat} (w : WF fs) (hb : get fs (packageP p v) = none)
    (h : EqOff (pushFoot fs p v) x fs) : ViewEq x fs := by
  have h' : EqOff (pubFoot fs p v) x fs := h.mono fun _ => Or.inl
  refine (pushed_keeps w hb h').viewEq (fun p' v' e => (h _ ?_).trans e) (pushed_new h').1
  rintro (hm | hm)
  · exact Missing.shallow hm
  · simp [packageP, packageTmpP] at hm

theorem pushed_good {fs x : Fs} {p v : Nat} (gd : Good fs) (wx : WF x) (hb : get fs (packageP p v) = none)
    (h : EqOff (pubFoot fs p v) x fs) :
    Good x ∧ ∀ key, ¬ releaseP p v <+: key → vis x key = vis fs key := by
  have hk := pushed_keeps gd.wf hb h
  refine ⟨hk.good_quiet wx gd (pushed_new h).1, fun key hkey => hk.vis_eq key fun p' v' hrel =>
    ⟨(pushed_new h).2 p' v' ?_, fun g' _ => (pushed_new h).1 p' v' g'⟩⟩
  rintro ⟨rfl, rfl⟩; exact hkey hrel

/-- the node a reader finds at the package path of a release holding `pkg` -/
def _root_.ForML.Registry.Pkg.placedAs (pkg : Pkg) (n : Option Node) : Prop :=
  match pkg with
  | .file b => n = some (.file b)
  | .dir _ => n = some .dir

theorem copyOps_not_base (base : Path) (ms : List (Nat × Bytes)) :
    ∀ op ∈ atomsAll (copyOps base ms), ¬ touches op base := by
  intro op hop htk
  obtain ⟨o, ho, h⟩ := atomsAll_touches _ op hop
  obtain ⟨m, _, rfl⟩ := List.mem_map.mp ho
  have := congrArg List.length (h _ htk)
  simp at this

theorem copies_content (base : Path) : ∀ (ms : List (Nat × Bytes)) (f f1 : Fs),
    run f (atomsAll (copyOps base ms)) = some f1 → (ms.map (·.1)).Nodup →
    ∀ m ∈ ms, get f1 (base ++ [.member m.1]) = some (.file m.2) := by
  intro ms
  induction ms with
  | nil => intro _ _ _ _ m hm; cases hm
  | cons m0 r ih =>
    intro f f1 hr hnd m hm
    have hsplit : atomsAll (copyOps base (m0 :: r))
        = [Op.createEmpty (base ++ [.member m0.1]), Op.append (base ++ [.member m0.1]) m0.2]
          ++ atomsAll (copyOps base r) := by
      simp [copyOps, atomsAll, Op.atoms]
    rw [hsplit] at hr
    obtain ⟨f', h0, h⟩ := run_append_some.mp hr
    clear hr
    rw [List.map_cons, List.nodup_cons] at hnd
    rcases List.mem_cons.mp hm with rfl | hin
    · rw [← (run_create_append f f' _ _ h0).1]
      refine run_frame _ _ _ _ h fun op hop htk => ?_
      obtain ⟨o, ho, h2⟩ := atomsAll_touches _ op hop
      obtain ⟨m', hm', rfl⟩ := List.mem_map.mp ho
      have := h2 _ htk
      simp only [touches, List.append_cancel_left_eq, List.cons.injEq, Seg.member.injEq, and_true] at this
      exact hnd.1 (List.mem_map.mpr ⟨m', hm', this.symm⟩)
    · exact ih f' f1 h hnd.2 m hin

theorem staged_dir {fs f0 f1 : Fs} {p v : Nat} {ms : List (Nat × Bytes)}
    (h1 : run f0 (atomsAll (stagedOps fs p v (.dir ms))) = some f1) :
    get f1 (packageTmpP p v) = some .dir ∧ ((ms.map (·.1)).Nodup →
      ∀ m ∈ ms, get f1 (packageTmpP p v ++ [.member m.1]) = some (.file m.2)) := by
  have e : atomsAll (stagedOps fs p v (.dir ms)) = atomsAll (rmtreeP fs (packageTmpP p v))
      ++ Op.mkdir (packageTmpP p v) :: atomsAll (copyOps (packageTmpP p v) ms) := by
    simp [stagedOps, atomsAll, Op.atoms]
  rw [e] at h1
  obtain ⟨_, _, h1⟩ := run_append_some.mp h1
  obtain ⟨fm, h0, h1⟩ := run_cons_some.mp h1
  refine ⟨?_, copies_content _ ms fm f1 h1⟩
  rw [run_frame _ _ _ _ h1 (copyOps_not_base _ ms), (step_mkdir_inv h0).1, get_set, if_pos rfl]

/-- the package is complete under the temporary name before the final rename moves it into place -/
theorem push_content (kf : Bool) (fs x : Fs) (p v : Nat) (pkg : Pkg)
    (hr : run fs (atomsAll (pushOps ⟨true, kf⟩ fs p v pkg)) = some x) :
    get x (releaseP p v) = some .dir ∧ pkg.placedAs (get x (packageP p v))
    ∧ ∀ ms, pkg = .dir ms → (ms.map (·.1)).Nodup →
        ∀ m ∈ ms, get x (packageP p v ++ [.member m.1]) = some (.file m.2) := by
  rw [pushOps_staged] at hr
  obtain ⟨f1, hr, hs⟩ := run_append_some.mp hr
  obtain ⟨f0, _, h1⟩ := run_append_some.mp hr
  obtain ⟨_, hs, hx⟩ := run_cons_some.mp hs
  cases hx
  obtain ⟨hdst, _, hpar⟩ := step_rename_spec f1 x _ _ hs
  refine ⟨?_, ?_, fun ms e hnd m hm => ?_⟩
  · rw [step_frame f1 x _ _ hs (by simp [touches, releaseP, packageTmpP, packageP])]
    exact hpar
  · rw [hdst]
    cases pkg with
    | file b => exact (run_create_append f0 f1 _ _ h1).1
    | dir ms => exact (staged_dir h1).1
  · subst e
    obtain ⟨hd, hms⟩ := staged_dir h1
    obtain ⟨_, _, ⟨c, _, hc, _⟩ | ⟨_, _, _, _, _, hget⟩⟩ := step_rename_inv hs
    · rw [hd] at hc; cases hc
    · rw [hget, ← hms hnd m hm]
      simp [swapKey, packageTmpP, packageP]

end ForML.Registry
