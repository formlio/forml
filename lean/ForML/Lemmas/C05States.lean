/-
Several writers (C05): what a handle reads — the tag through the TAGS cache, the states through the STATES
cache — is what a fresh reader reads, along any interleaved history (cache coherence).
-/
import ForML.Lemmas.C05World

namespace ForML.Registry
open ForML.Fs

theorem lookTag_sound (w : World) (tk : TagsOk w) (h : Nat) (x : Handle) (t : Tag)
    (hlook : (lookTag w h x).look = some (some t)) :
    ∃ v g, boundGen w.fs x = some (v, g) ∧ (resolveRel w.fs x).2 = .ok v
      ∧ (resolveGen w.fs x.proj v (resolveRel w.fs x).1).2 = .ok (some g)
      ∧ genListed w.fs x.proj v g = true ∧ tagOf w.fs x.proj v g = some t := by
  have bound : ∀ v g, (resolveRel w.fs x).2 = .ok v →
      (resolveGen w.fs x.proj v (resolveRel w.fs x).1).2 = .ok (some g) →
      boundGen w.fs x = some (v, g) ∧ genListed w.fs x.proj v g = true := by
    intro v g hv hg
    refine ⟨?_, by simp [genListed, (resolveRel_ok w.fs x v hv).1, (resolveGen_spec w.fs x.proj v _).2 g hg]⟩
    rcases hr : resolveRel w.fs x with ⟨x1, r⟩
    rw [hr] at hv hg
    cases hv
    rcases hg' : resolveGen w.fs x.proj v x1 with ⟨x2, rg⟩
    rw [hg'] at hg
    cases hg
    simp only [boundGen, hr, hg']
  revert hlook
  refine lookTag_cases (motive := fun o => o.look = some (some t) → _) w h x ?_ ?_ ?_
  · intro x' err lk _ hne hl
    exact absurd hl (hne t)
  · intro x' v g t' _ hv hg hc hl
    cases hl
    obtain ⟨b, hb, hd⟩ := tk _ (lookupTag_mem _ _ _ _ hc)
    exact ⟨v, g, (bound v g hv hg).1, hv, hg, (bound v g hv hg).2, (tagOf_of_vis _ _ _ _ b _ hb hd).2⟩
  · intro x' v g t' _ hv hg ht hl
    cases hl
    exact ⟨v, g, (bound v g hv hg).1, hv, hg, (bound v g hv hg).2, ht⟩

theorem perform_look (w : World) (tk : TagsOk w) (h : Nat) (t : Tag)
    (hlook : (perform Impl.repaired w h .look).look = some (some t)) :
    ∃ x v g, lookupH w.hs h = some x ∧ (lookTag w h x).look = some (some t) ∧ boundGen w.fs x = some (v, g)
      ∧ (resolveRel w.fs x).2 = .ok v ∧ (resolveGen w.fs x.proj v (resolveRel w.fs x).1).2 = .ok (some g)
      ∧ genListed w.fs x.proj v g = true ∧ tagOf w.fs x.proj v g = some t := by
  revert hlook
  refine perform_cases (motive := fun o _ => o.look = some (some t) → _) w h .look (fun _ _ _ _ e => nomatch e)
    (fun _ hk => nomatch hk) ?_ (fun _ _ _ _ hk => nomatch hk) (fun _ _ _ _ _ hk => nomatch hk)
  intro x hl _ hlook
  rw [(lookOn_eq w h x).2.2.2.2.2] at hlook
  exact ⟨x, (lookTag_sound w tk h x t hlook).imp fun v hv => hv.imp fun g hg => ⟨hl, hlook, hg⟩⟩

/-- coherence of the STATES caches: every state a process has cached is the state a fresh reader reads -/
def StatesOk (fs : Fs) (states : List (Nat × (Nat × Nat × Nat × Nat) × Bytes)) : Prop :=
  ∀ e ∈ states, vis fs (stateP e.2.1.1 e.2.1.2.1 e.2.1.2.2.1 e.2.1.2.2.2) = some (.file e.2.2)

theorem lookupState_mem (states : List (Nat × (Nat × Nat × Nat × Nat) × Bytes)) (proc : Nat)
    (key : Nat × Nat × Nat × Nat) (b : Bytes) (h : lookupState states proc key = some b) : (proc, key, b) ∈ states := by
  obtain ⟨⟨e1, e2, e3⟩, he, ⟨rfl, rfl⟩, rfl⟩ := lookup_mem (fun l => lookupState l proc key)
    (fun e => e.1 = proc ∧ e.2.1 = key) (·.2.2) rfl (fun _ _ => rfl) states b h
  exact he

/-- the bytes a fresh reader reads at a path (`[]` where it sees no file) -/
def visBytes (fs : Fs) (k : Path) : Bytes :=
  match vis fs k with
  | some (.file b) => b
  | _ => []

/-- reading the states of a listed generation keeps the cache coherent and returns what a fresh reader reads -/
theorem readStates_ok (fs : Fs) (proc p v g : Nat) :
    ∀ (sids : List Nat) (cache : List (Nat × (Nat × Nat × Nat × Nat) × Bytes)),
      (∀ s ∈ sids, ∃ b, vis fs (stateP p v g s) = some (.file b) ∧ get fs (stateP p v g s) = some (.file b)) →
      StatesOk fs cache →
      StatesOk fs (readStates fs cache proc p v g sids).1
      ∧ (readStates fs cache proc p v g sids).2 = sids.map (fun s => visBytes fs (stateP p v g s)) := by
  intro sids
  induction sids with
  | nil => intro cache _ hc; exact ⟨hc, rfl⟩
  | cons s r ih =>
    intro cache hs hc
    obtain ⟨b, hv, hg⟩ := hs s List.mem_cons_self
    have hr := fun s' h' => hs s' (List.mem_cons_of_mem _ h')
    simp only [readStates]
    cases hl : lookupState cache proc (p, v, g, s) with
    | some b' =>
      -- a cached entry is what the reader reads
      have := hc _ (lookupState_mem _ _ _ _ hl)
      simp only [hv, Option.some.injEq, Node.file.injEq] at this
      subst this
      exact ⟨(ih cache hr hc).1, by simp only [List.map_cons, (ih cache hr hc).2, visBytes, hv]⟩
    | none =>
      have hc' : StatesOk fs ((proc, (p, v, g, s), b) :: cache) := List.forall_mem_cons.mpr ⟨hv, hc⟩
      simp only [hg]
      exact ⟨(ih _ hr hc').1, by simp only [List.map_cons, (ih _ hr hc').2, visBytes, hv]⟩

theorem StatesOk.mono {fs fs' : Fs} {states states' : List (Nat × (Nat × Nat × Nat × Nat) × Bytes)}
    (sk : StatesOk fs states) (sub : ∀ e ∈ states', e ∈ states)
    (mono : ∀ key n, vis fs key = some n → vis fs' key = some n) : StatesOk fs' states' :=
  fun e he => mono _ _ (sk e (sub e he))

/-- the states read are those of a listed generation whose tag a fresh reader reads too (`lookTag_sound`) -/
theorem lookOn_statesOk (w : World) (g2 : Good2 w.fs) (tk : TagsOk w) (sk : StatesOk w.fs w.states) (h : Nat) (x : Handle) :
    StatesOk (lookOn w h x).w.fs (lookOn w h x).w.states := by
  have hfs := (lookTag_fs w h x).1
  have hst : (lookTag w h x).w.states = w.states := lookTag_cases (motive := fun o => o.w.states = w.states) w h x
    (fun _ _ _ _ _ => rfl) (fun _ _ _ _ _ _ _ _ => rfl) (fun _ _ _ _ _ _ _ _ => rfl)
  simp only [lookOn]
  split
  · next t v g hlk hb =>
    obtain ⟨v', g', hb', _, _, hgl, htag⟩ := lookTag_sound w tk h x t hlk
    rw [hb] at hb'; cases hb'
    rw [show (lookTag w h x).w.fs = w.fs from hfs]
    exact (readStates_ok w.fs x.proc x.proj v g t.sids w.states
      (listed_states w.fs g2.good x.proj v g t hgl htag) sk).1
  · exact sk.mono (fun e he => hst ▸ he) (fun key n hv => by rw [hfs]; exact hv)

/-- old entries stay right because the view only grows, new ones come from a read -/
theorem applyH_caches (w : World) (g2 : Good2 w.fs) (tk : TagsOk w) (sk : StatesOk w.fs w.states) (e : HEv) :
    TagsOk (applyH Impl.repaired w e) ∧ StatesOk (applyH Impl.repaired w e).fs (applyH Impl.repaired w e).states := by
  have mono : ∀ key n, vis w.fs key = some n → vis (applyH Impl.repaired w e).fs key = some n :=
    fun _ _ => (applyH_good2 w g2 e).2.grows
  have keep : ∀ w' : World, (∀ e ∈ w'.tags, e ∈ w.tags) → (∀ e ∈ w'.states, e ∈ w.states) →
      (∀ key n, vis w.fs key = some n → vis w'.fs key = some n) → TagsOk w' ∧ StatesOk w'.fs w'.states :=
    fun w' h1 h2 m => ⟨tk.mono h1 m, sk.mono h2 m⟩
  cases e with
  | run h op =>
    revert mono
    simp only [applyH]
    refine perform_cases (motive := fun o _ => (∀ key n, vis w.fs key = some n → vis o.w.fs key = some n) →
        TagsOk o.w ∧ StatesOk o.w.fs o.w.states) w h op ?_ (fun _ => keep _ (fun _ he => he) (fun _ he => he))
      (fun x _ _ _ => ⟨lookOn_tagsOk w tk h x, lookOn_statesOk w g2 tk sk h x⟩)
      (fun _ _ _ _ => keep _ (fun _ he => he) (fun _ he => he))
      (fun _ _ _ _ _ => keep _ (fun _ he => he) (fun _ he => he))
    intro proc p v g _
    split <;> exact keep _ (fun _ he => he) (fun _ he => he)
  | die h op k cut =>
    cases hl : lookupH w.hs h with
    | none => simp only [applyH, hl]; exact ⟨tk, sk⟩
    | some x =>
      simp only [applyH, hl] at mono ⊢
      exact keep _ (fun e he => (List.mem_filter.mp he).1) (fun e he => (List.mem_filter.mp he).1) mono
  | fault h op j =>
    cases hl : lookupH w.hs h with
    | none => simp only [applyH, hl]; exact ⟨tk, sk⟩
    | some x =>
      simp only [applyH, hl] at mono ⊢
      exact keep _ (fun _ he => he) (fun _ he => he) mono

theorem playH_caches_from (evs : List HEv) :
    ∀ w, Good2 w.fs → TagsOk w → StatesOk w.fs w.states →
      TagsOk (playH Impl.repaired w evs)
        ∧ StatesOk (playH Impl.repaired w evs).fs (playH Impl.repaired w evs).states := by
  induction evs with
  | nil => intro w _ tk sk; exact ⟨tk, sk⟩
  | cons e r ih =>
    intro w g tk sk
    obtain ⟨tk', sk'⟩ := applyH_caches w g tk sk e
    exact ih _ (applyH_good2 w g e).1 tk' sk'

theorem playH_caches (evs : List HEv) :
    TagsOk (playH Impl.repaired World.empty evs)
      ∧ StatesOk (playH Impl.repaired World.empty evs).fs (playH Impl.repaired World.empty evs).states :=
  playH_caches_from evs _ empty_good2 (by intro e he; cases he) (by intro e he; cases he)

theorem playH_tagsOk (evs : List HEv) : TagsOk (playH Impl.repaired World.empty evs) := (playH_caches evs).1

theorem playH_statesOk (evs : List HEv) :
    StatesOk (playH Impl.repaired World.empty evs).fs (playH Impl.repaired World.empty evs).states := (playH_caches evs).2

end ForML.Registry
