/-
C03 — `payload.MapReduce.compose` realises `denoteMapReduce` (`spec_mapreduce`).

The loop over the mappers (`mr_loop`) keeps the operator body certified (`Body`) and the two reducers pending (`MRColl`):
their first `done.length` input ports are subscribed to evaluable appliers carrying `applied m (state of m) (apply / train
features)`, the other ports are free; the trainings recorded so far are those of the stateful mappers processed.  The apply
side of the body is the apply reducer and the apply appliers: every round puts its apply applier on it before it is
created (`Body.relabelFresh`).
-/
import ForML.Lemmas.C03Body

namespace ForML.Compose

/-- the state of the graph and its valuation between two rounds of `mapReduceLoop`, field by field (no lemma uses it:
the invariant of `mr_loop` is `Body` with two `MRColl`) -/
structure MRInv (gL : Graph) (WL : World) (left : Trunk) (R : Nat) (N reducer : Nat) (va vt : Val) (st : Actor → Val)
    (g : Graph) (W : World) (done : List Actor) (insA insT : Nat → PubRef) : Prop where
  inv : Inv g W
  frame : Frame gL g
  agree : Agree gL.next WL W
  next_ge : gL.next + 3 ≤ g.next
  kA : g.kindOf gL.next = some (.worker (gL.next + 1) ⟨reducer, false⟩ N 1)
  kT : g.kindOf (gL.next + 2) = some (.worker (gL.next + 1) ⟨reducer, false⟩ N 1)
  nlA : ¬ W.live gL.next
  nlT : ¬ W.live (gL.next + 2)
  inA : ∀ k, k < done.length → g.inputOf gL.next k = some (insA k) ∧ RefOk W (insA k) (R + 1)
  inT : ∀ k, k < done.length → g.inputOf (gL.next + 2) k = some (insT k) ∧ RefOk W (insT k) (R + 1)
  freeA : ∀ k, done.length ≤ k → g.inputOf gL.next k = none
  freeT : ∀ k, done.length ≤ k → g.inputOf (gL.next + 2) k = none
  valA : (List.range done.length).map (fun k => W.σ (insA k)) = done.map (fun m => applied m (st m) va)
  valT : (List.range done.length).map (fun k => W.σ (insT k)) = done.map (fun m => applied m (st m) vt)
  workers : ∀ n, gL.next ≤ n → W.live n → ¬ g.isOpen n
  trains : ∃ ts, g.trains = gL.trains ++ ts ∧ (∀ t ∈ ts, W.live t.train.node ∧ W.live t.label.node) ∧
    ts.map (trainedUnder W) = (done.filter (·.stateful)).map (fun m => (m.tag, st m))
  fresh : ∀ n, gL.next ≤ n → W.live n → ∀ gid a i o, g.kindOf n = some (.worker gid a i o) → gL.next ≤ gid
  wired : Wired g
  rankNew : ∀ n, gL.next ≤ n → W.live n → W.h n = R
  /-- every subscription of a node created here: a reducer port, or an applier fed by the left apply / train tail -/
  cls : ∀ n k q, gL.next ≤ n → g.inputOf n k = some q →
    (n = gL.next ∧ k < done.length ∧ q = insA k) ∨ (n = gL.next + 2 ∧ k < done.length ∧ q = insT k) ∨
    (n ≠ gL.next ∧ n ≠ gL.next + 2 ∧ W.live n ∧ q = left.apply.publisher ∧
      ∀ k' q', g.inputOf n k' = some q' → q' = left.apply.publisher) ∨
    (n ≠ gL.next ∧ n ≠ gL.next + 2 ∧ W.live n ∧ q = left.train.publisher ∧
      ∀ k' q', g.inputOf n k' = some q' → q' = left.train.publisher)
  srcA : ∀ k, k < done.length → gL.next + 3 ≤ (insA k).node ∧ g.inputOf (insA k).node 0 = some left.apply.publisher
  srcT : ∀ k, k < done.length → gL.next + 3 ≤ (insT k).node ∧ g.inputOf (insT k).node 0 = some left.train.publisher

/-- a reducer during the loop: pending, its first `done.length` ports subscribed to evaluable appliers carrying `f` of the
mappers done -/
structure MRColl (g2 : Graph) (W2 : World) (col gR reducer N R : Nat) (done : List Actor) (ins : Nat → PubRef)
    (f : Actor → Val) : Prop where
  coll : Coll g2 W2 col gR ⟨reducer, false⟩ N done.length ins
  ref : ∀ k, k < done.length → RefOk W2 (ins k) (R + 1)
  val : (List.range done.length).map (fun k => W2.σ (ins k)) = done.map f

theorem MRColl.push {g2 g3 : Graph} {W2 W3 : World} {col gR reducer N R : Nat} {done : List Actor} {ins : Nat → PubRef}
    {f : Actor → Val} (h : MRColl g2 W2 col gR reducer N R done ins f) (q : PubRef) (m : Actor)
    (c' : Coll g3 W3 col gR ⟨reducer, false⟩ N (done.length + 1) (fun k => if k = done.length then q else ins k))
    (hk : Keeps W2 W3) (hq : PubOk W3 q (R + 1) (f m)) :
    MRColl g3 W3 col gR reducer N R (done ++ [m]) (fun k => if k = done.length then q else ins k) f := by
  refine ⟨by rw [List.length_append]; exact c', ?_, ?_⟩
  · intro k hk'
    rw [List.length_append, List.length_singleton] at hk'
    by_cases e : k = done.length
    · rw [if_pos e]; exact ⟨hq.live, hq.rank⟩
    · rw [if_neg e]; exact (h.ref k (by omega)).keeps hk
  · exact map_σ_update h.val (fun k hk' => (hk _ (h.ref k hk').1).2.1) hq.val

theorem map_trainedUnder {ts : List Training} {as : List Actor} {lt ll : PubRef}
    (h : ts.map (fun t => (t.actor, t.train, t.label)) = as.map (fun m => (m, lt, ll))) (W : World) :
    (∀ t ∈ ts, t.train = lt ∧ t.label = ll) ∧
      ts.map (trainedUnder W) = as.map (fun m => (m.tag, .state m.tag .none (W.σ lt) (W.σ ll))) := by
  constructor
  · intro t ht
    have hm : (t.actor, t.train, t.label) ∈ as.map (fun m => (m, lt, ll)) :=
      h ▸ List.mem_map_of_mem (f := fun t : Training => (t.actor, t.train, t.label)) ht
    obtain ⟨m, _, e⟩ := List.mem_map.mp hm
    simp only [Prod.mk.injEq] at e
    exact ⟨e.2.1.symm, e.2.2.symm⟩
  · have := congrArg (List.map fun x : Actor × PubRef × PubRef => (x.1.tag, Val.state x.1.tag .none (W.σ x.2.1) (W.σ x.2.2))) h
    rw [List.map_map, List.map_map] at this
    exact this

/-- `uA` / `uT`: the apply and the train reducer.  Kept from round to round beside the `Body` and the two `MRColl`: the
apply side `A` holds of `uA`, not of `uT`, of drawn uids only, and every node in `A` other than `uA` is evaluable.  A round:
its apply applier (uid `g2.next`) joins `A`; apply applier on the apply tail, its fork (uid `g2.next + 2`) on the train
tail, the optional trainer fork — both appliers are evaluable from here on —, then the two reducer ports. -/
theorem mr_loop {full : Prop} {g g1 : Graph} {W W1 : World} {left : Trunk} {xa xt xl : Val} {r : Nat} {s : Sem}
    (h1 : TrunkOk full g g1 W W1 left xa xt xl r s) (uA uT gR N reducer : Nat) (huA : g1.next ≤ uA) (huT : g1.next ≤ uT)
    (hne : uA ≠ uT) :
    ∀ (ms : List Actor) (A : Nat → Prop) (g2 : Graph) (W2 : World) (ts : List Training) (done : List Actor)
      (insA insT : Nat → PubRef),
      Body g g1 W1 left r A g2 W2 ts →
      MRColl g2 W2 uA gR reducer N (r + (g1.next - g.next)) done insA
        (fun m => applied m (trainedState m s.train s.label) s.apply) →
      MRColl g2 W2 uT gR reducer N (r + (g1.next - g.next)) done insT
        (fun m => applied m (trainedState m s.train s.label) s.train) →
      A uA → ¬ A uT → (∀ n, A n → n < g2.next) → (∀ n, g1.next ≤ n → A n → n = uA ∨ W2.live n) →
      ∃ A' g' W' insA' insT' tsN,
        Run (mapReduceLoop left ⟨uA, gR, ⟨reducer, false⟩, N, 1⟩ ⟨uT, gR, ⟨reducer, false⟩, N, 1⟩ done.length ms) g2 () g' ∧
        Body g g1 W1 left r A' g' W' (ts ++ tsN) ∧
        tsN.map (fun t => (t.actor, t.train, t.label)) =
          (ms.filter (·.stateful)).map (fun m => (m, left.train.publisher, left.label.publisher)) ∧
        MRColl g' W' uA gR reducer N (r + (g1.next - g.next)) (done ++ ms) insA'
          (fun m => applied m (trainedState m s.train s.label) s.apply) ∧
        MRColl g' W' uT gR reducer N (r + (g1.next - g.next)) (done ++ ms) insT'
          (fun m => applied m (trainedState m s.train s.label) s.train) ∧
        A' uA ∧ ¬ A' uT ∧ (∀ n, g1.next ≤ n → A' n → n = uA ∨ W'.live n) := by
  intro ms
  induction ms with
  | nil =>
    intro A g2 W2 ts done insA insT b hA hT hAa hAt _ hlive
    exact ⟨A, g2, W2, insA, insT, [], rfl, by simpa using b, rfl, by simpa using hA, by simpa using hT, hAa, hAt, hlive⟩
  | cons m rest ih =>
    intro A0 g2 W2 ts done insA insT b0 hA hT hAa0 hAt0 hAlt hlive
    have hltA := hA.coll.lt
    have hltT := hT.coll.lt
    -- the apply applier of this round joins the apply side
    let A : Nat → Prop := fun n => A0 n ∨ n = g2.next
    have b := b0.relabelFresh A fun n hn => ⟨fun h => h.resolve_right (Nat.ne_of_lt hn), Or.inl⟩
    have hb0 : A g2.next := Or.inr rfl
    have hb2 : ¬ A (g2.next + 2) := fun h =>
      h.elim (fun h => Nat.lt_irrefl _ (Nat.lt_trans (Nat.lt_add_of_pos_right (Nat.succ_pos 1)) (hAlt _ h))) (by omega)
    have hAa : A uA := Or.inl hAa0
    have hAt : ¬ A uT := fun h => h.elim hAt0 (Nat.ne_of_lt hltT)
    have hg12 := b.loop.next_le
    have hgg := b.le
    have hr := b.hr
    -- the arithmetic of the round, before the context grows
    have le1 : g1.next ≤ g2.next + 1 := Nat.le_succ_of_le hg12
    have le2 : g1.next ≤ g2.next + 2 := Nat.le_add_right_of_le hg12
    have gle0 : g.next ≤ g2.next := Nat.le_trans hgg hg12
    have gle2 : g.next ≤ g2.next + 2 := Nat.le_add_right_of_le gle0
    have ne02 : g2.next ≠ g2.next + 2 := Nat.ne_of_lt (Nat.lt_add_of_pos_right (Nat.succ_pos 1))
    have neA0 : uA ≠ g2.next := Nat.ne_of_lt hltA
    have neA2 : uA ≠ g2.next + 2 := Nat.ne_of_lt (Nat.lt_add_right 2 hltA)
    have neT0 : uT ≠ g2.next := Nat.ne_of_lt hltT
    have neT2 : uT ≠ g2.next + 2 := Nat.ne_of_lt (Nat.lt_add_right 2 hltT)
    have hρ : r + (g1.next - g.next) < r + (g2.next + 3 + (if m.stateful then 1 else 0) - g.next) := by omega
    let aA : WRef := ⟨g2.next, g2.next + 1, m, 1, 1⟩
    let lt := left.train.publisher
    let ll := left.label.publisher
    obtain ⟨g3, r3, n3, f3, b3, c0, hnt3⟩ := b.newWorker rfl m 1
    obtain ⟨r4, b4, c1⟩ := b3.push c0 hg12 left.apply.publisher (b3.old_lt h1.ta.1) h1.tails_ge.1
      (fun _ => Reach.refl) (fun h => absurd hb0 h)
    obtain ⟨g5, r5, n5, f5, b5, d0⟩ := b4.fork (u := g2.next + 2) n3 g2.next (g2.next + 1) m 1
      (by show g2.next + 1 < g3.next; omega)
    obtain ⟨r6, b6, d1⟩ := b5.push d0 le2 lt (b5.old_lt h1.tt.1) h1.tails_ge.2.1
      (fun h => absurd h hb2) (fun _ => Or.inl rfl)
    have F46 : Frame (g3.pushEdge ⟨g2.next, 0, left.apply.publisher⟩) (g5.pushEdge ⟨g2.next + 2, 0, lt⟩) :=
      f5.pushEdge _ (by show g3.next ≤ g2.next + 2; omega)
    have F6 : Frame g2 (g5.pushEdge ⟨g2.next + 2, 0, lt⟩) := (f3.pushEdge _ (Nat.le_refl _)).trans F46
    have n6 : (g5.pushEdge ⟨g2.next + 2, 0, lt⟩).next = g2.next + 3 := n5
    have hnt6 : (g5.pushEdge ⟨g2.next + 2, 0, lt⟩).trainerOf (g2.next + 1) = none :=
      (F46.trainer _ (by show g2.next + 1 < g3.next; omega)).trans hnt3
    obtain ⟨pa, pt, pl⟩ := b6.tails h1
    have hold : ∀ n, W2.live n → n < g2.next := fun n hl => (b.inv.liveLt n hl).1
    have b7 := b6.trainIf m.stateful aA lt ll id le1
      (by rw [n6]; exact Nat.add_lt_add_left (by decide) _) hnt6 (fun n _ hl a' i' o' hk => by
        rw [F6.kind n (hold n hl)] at hk
        have : g2.next + 1 < g2.next := b.inv.bounded.gid_lt hk
        omega)
    have n7 := trainIf_next m.stateful aA lt ll (g5.pushEdge ⟨g2.next + 2, 0, lt⟩)
    rw [n6] at n7
    have c1' := (c1.frame F46 (Agree.refl _ _)).trainIf m.stateful aA lt ll
    have cTr := d1.trainIf m.stateful aA lt ll
    -- the group of both appliers is trained exactly when the mapper is stateful; both become evaluable
    have htr : m.stateful = true → ∃ t, (trainIf m.stateful aA lt ll (g5.pushEdge ⟨g2.next + 2, 0, lt⟩)).trainerOf
        (g2.next + 1) = some t ∧ t.train = lt ∧ t.label = ll := fun hs =>
      ⟨⟨g2.next + 1, g5.next, m, lt, ll⟩, (trainIf_trainerOf _ aA lt ll _ _).trans (by rw [hnt6]; simp [hs, aA]), rfl, rfl⟩
    obtain ⟨W3, b8, ad1⟩ := b7.liveUnary c1'.kind (c1'.filled 0 Nat.one_pos) c1'.notLive hg12 le1 htr
      (r + (g1.next - g.next)) (by rw [← n7] at hρ; exact hρ) pa pt pl
    obtain ⟨W4, b9, ad2⟩ := b8.liveUnary cTr.kind (cTr.filled 0 Nat.one_pos) (cTr.adds ad1 ne02.symm).notLive le2 le1 htr
      (r + (g1.next - g.next)) (by rw [← n7] at hρ; exact hρ) (pt.keeps ad1.keeps) (pt.keeps ad1.keeps) (pl.keeps ad1.keeps)
    have k24 : Keeps W2 W4 := ad1.keeps.trans ad2.keeps
    have pA := (ad1.pub 0).keeps ad2.keeps
    have pT := ad2.pub 0
    obtain ⟨r8, b10, cA8⟩ := b9.push ((((hA.coll.frame F6 (Agree.refl _ _)).trainIf m.stateful aA lt ll).adds ad1 neA0).adds ad2
        neA2) huA ⟨g2.next, 0⟩
      (by rw [n7]; exact Nat.lt_of_lt_of_le (Nat.lt_add_of_pos_right (Nat.succ_pos 2)) (Nat.le_add_right _ _)) gle0
      (fun _ => Reach.one Reach.refl (c1'.filled 0 (Nat.lt_succ_self 0)))
      (fun h => absurd hAa h)
    obtain ⟨r9, b11, cT9⟩ := b10.push (((((hT.coll.frame F6 (Agree.refl _ _)).trainIf m.stateful aA lt ll).adds ad1 neT0).adds ad2
        neT2).pushEdge _ hne.symm) huT
      ⟨g2.next + 2, 0⟩ (by show g2.next + 2 < (trainIf m.stateful aA lt ll _).next
                           rw [n7]; exact Nat.lt_of_lt_of_le (Nat.lt_succ_self _) (Nat.le_add_right _ _)) gle2
      (fun h => absurd h hAt) (fun _ => Or.inr (Or.inr ⟨le2, hb2⟩))
    have hA' := hA.push ⟨g2.next, 0⟩ m (cA8.pushEdge ⟨uT, done.length, ⟨g2.next + 2, 0⟩⟩ hne) k24 pA
    have hT' := hT.push ⟨g2.next + 2, 0⟩ m cT9 k24 pT
    obtain ⟨A', g', W', insA', insT', tsN, hrest, bfin, htsN, hAfin, hTfin, hfin⟩ := ih A _ W4 _ (done ++ [m]) _ _ b11 hA' hT'
      hAa hAt
      (fun n h => by
        show n < (trainIf m.stateful aA lt ll _).next
        rw [n7]
        exact h.elim (fun h => Nat.lt_of_lt_of_le (hAlt n h) (Nat.le_trans (Nat.le_add_right _ 3) (Nat.le_add_right _ _)))
          fun e => e ▸ Nat.lt_of_lt_of_le (Nat.lt_add_of_pos_right (Nat.succ_pos 2)) (Nat.le_add_right _ _))
      (fun n hn h => h.elim (fun h => (hlive n hn h).imp id fun h => (k24 ⟨n, 0⟩ h).1) fun e => Or.inr (e ▸ pA.live))
    refine ⟨A', g', W', insA', insT', _, ?_, List.append_assoc _ _ _ ▸ bfin, ?_, by simpa [List.append_assoc] using hAfin,
      by simpa [List.append_assoc] using hTfin, hfin⟩
    · have e : (done ++ [m]).length = done.length + 1 := by simp
      rw [e] at hrest
      unfold mapReduceLoop
      refine Run.bind r3 (Run.bind r4 (Run.bind r5 (Run.bind r6 ?_)))
      refine run_trainIf m.stateful aA _ _ _ _ () g' (fun h => h) (fun _ => hnt6) ?_
      exact Run.bind r8 (Run.bind r9 hrest)
    · rw [List.map_append, htsN, show m :: rest = [m] ++ rest from rfl, List.filter_append, List.map_append]
      congr 1
      cases hs : m.stateful <;> simp [hs, aA, lt, ll]

theorem spec_mapreduce {full : Prop} {scope : GraphM Trunk} {S : Scope} (hs : Spec full scope S) (ms : List Actor)
    (hms : ms ≠ []) (reducer : Nat) : Spec full (composeMapReduce ms reducer scope) (denoteMapReduce ms reducer S) := by
  intro g W xa xt xl r hi hw hr
  obtain ⟨left, g1, W1, hrun1, h1⟩ := hs g W xa xt xl r hi hw hr
  have hgg := h1.frame.next_le
  have hlen : 0 < ms.length := List.length_pos_iff.mpr hms
  let Rd : Actor := ⟨reducer, false⟩
  have b1 := Body.start h1 hr (fun n => n = g1.next)
  obtain ⟨g2, r2, n2, f2, b2, cA, -⟩ := b1.newWorker rfl Rd ms.length
  obtain ⟨g3, r3, n3, f3, b3, cT⟩ := b2.fork (u := g1.next + 2) n2 g1.next (g1.next + 1) Rd ms.length (by omega)
  obtain ⟨A, g', W', insA, insT, tsN, hloop, b', htsN, hA', hT', hAa, hAT, hlive⟩ := mr_loop h1 g1.next (g1.next + 2)
    (g1.next + 1) ms.length reducer (Nat.le_refl _) (Nat.le_add_right _ 2) (by omega) ms _ g3 W1 [] [] _ _ b3
    ⟨cA.frame f3 (Agree.refl _ _), fun k hk => absurd hk (Nat.not_lt_zero k), rfl⟩
    ⟨cT, fun k hk => absurd hk (Nat.not_lt_zero k), rfl⟩ rfl (by show g1.next + 2 ≠ g1.next; omega)
    (fun n e => by rw [e, n3]; omega) (fun n _ e => Or.inl e)
  rw [List.nil_append] at hA' hT'
  have hltT := hT'.coll.lt
  have hle := b'.hr
  obtain ⟨W3, b4, adA⟩ := b'.mkLive hA'.coll (Nat.le_refl _) (Nat.le_succ _) (r + (g1.next - g.next) + 1) (by omega) .none
    (.stateless rfl) (v := fun k => W'.σ (insA k)) (fun k hk => ⟨(hA'.ref k hk).1, (hA'.ref k hk).2, rfl⟩)
  obtain ⟨W4, b5, adT⟩ := b4.mkLive (hT'.coll.adds adA (by omega)) (Nat.le_add_right _ 2) (Nat.le_succ _)
    (r + (g1.next - g.next) + 1) (by omega) .none (.stateless rfl) (v := fun k => W'.σ (insT k))
    (fun k hk => (⟨(hT'.ref k hk).1, (hT'.ref k hk).2, rfl⟩ : PubOk W' (insT k) _ _).keeps adA.keeps)
  obtain ⟨-, pt, pl⟩ := b5.tails h1
  obtain ⟨hon, hsts⟩ := map_trainedUnder htsN W4
  have pA := (hA'.val ▸ adA.pub 0).keeps adT.keeps
  have pT := hT'.val ▸ adT.pub 0
  refine ⟨⟨⟨left.apply.head, g1.next⟩, ⟨left.train.head, g1.next + 2⟩, left.label⟩, g', W4, ?_,
    b5.finish h1 ⟨⟨left.apply.head, g1.next⟩, ⟨left.train.head, g1.next + 2⟩, left.label⟩ rfl rfl rfl
      (denoteMapReduce ms reducer S xa xt xl) ⟨pA.live, pA.val⟩ ⟨pT.live, pT.val⟩ ⟨pl.live, pl.val⟩
      (fun t ht => by rw [(hon t ht).1, (hon t ht).2]; exact ⟨pt.live, pl.live⟩) ?_
      ⟨hgg, by show g.next ≤ g1.next + 2; omega, h1.tails_ge.2.2⟩ ?_
      (Reach.one (b'.sideA _ 0 _ (Nat.le_refl _) hAa (hA'.coll.filled 0 hlen)).2 (hA'.coll.filled 0 hlen))
      (Or.inr ⟨Nat.le_add_right _ 2, hAT⟩) (Or.inl rfl)⟩
  · unfold composeMapReduce
    exact Run.bind hrun1 (Run.bind r2 (Run.bind r3 (Run.bind hloop (Run.pure _ _))))
  · have e1 : W4.σ left.train.publisher = (S xa xt xl).train := pt.val
    have e2 : W4.σ left.label.publisher = (S xa xt xl).label := pl.val
    rw [List.nil_append, hsts, e1, e2]
    show _ ++ List.map _ _ = _
    congr 1
    exact List.map_congr_left fun m hm => by simp only [trainedState, if_pos (show m.stateful = true by simpa using (List.mem_filter.mp hm).2)]
  · intro n hn ha
    rcases hlive n hn ha with e | h
    · exact e ▸ pA.live
    · exact (adT.keeps ⟨n, 0⟩ ((adA.keeps ⟨n, 0⟩ h).1)).1

end ForML.Compose
