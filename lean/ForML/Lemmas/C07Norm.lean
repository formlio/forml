/-
C07: a script and its denotation (`Source.norm`, Model/GrammarNorm): a `normal` script is its own denotation, every
denotation is `normal`, and `construct r = construct r.norm` wherever the denotation is `tame`.
-/
import ForML.Model.GrammarNorm
import ForML.Lemmas.C07Main

namespace ForML.Dsl

mutual
theorem Feature.norm_of_normal : (f : Feature) → f.normal = true → f.norm = f
  | .lit _, _ => rfl
  | .elem o n, h => by
    simp only [Feature.normal] at h
    simp only [Feature.norm, Source.norm_of_normal o h]
  | .alias f n, h => by
    simp only [Feature.normal, Bool.and_eq_true, Bool.not_eq_true'] at h
    simp only [Feature.norm, Feature.norm_of_normal f h.2, Feature.operable_of_not_alias f h.1]
  | .expr op args, h => by
    simp only [Feature.normal] at h
    simp only [Feature.norm, Features.norm_of_normal args h]
  | .cast f k, h => by
    simp only [Feature.normal] at h
    simp only [Feature.norm, Feature.norm_of_normal f h]
  | .window fn ps os, h => by
    simp only [Feature.normal, Bool.and_eq_true] at h
    simp only [Feature.norm, Feature.norm_of_normal fn h.1.1, Features.norm_of_normal ps h.1.2,
      Orderings.norm_of_normal os h.2]
theorem Features.norm_of_normal : (fs : Features) → fs.normal = true → fs.norm = fs
  | .nil, _ => rfl
  | .cons f fs, h => by
    simp only [Features.normal, Bool.and_eq_true] at h
    simp only [Features.norm, Feature.norm_of_normal f h.1, Features.norm_of_normal fs h.2]
theorem FeatureOpt.norm_of_normal : (c : FeatureOpt) → c.normal = true → c.norm = c
  | .none, _ => rfl
  | .some f, h => by
    simp only [FeatureOpt.normal] at h
    simp only [FeatureOpt.norm, Feature.norm_of_normal f h]
theorem Ordering.norm_of_normal : (o : Ordering) → o.normal = true → o.norm = o
  | .mk f d, h => by
    simp only [Ordering.normal] at h
    simp only [Ordering.norm, Feature.norm_of_normal f h]
theorem Orderings.norm_of_normal : (os : Orderings) → os.normal = true → os.norm = os
  | .nil, _ => rfl
  | .cons o os, h => by
    simp only [Orderings.normal, Bool.and_eq_true] at h
    simp only [Orderings.norm, Ordering.norm_of_normal o h.1, Orderings.norm_of_normal os h.2]
theorem Source.norm_of_normal : (s : Source) → s.normal = true → s.norm = s
  | .table _ _, _ => rfl
  | .ref i n, h => by
    simp only [Source.normal, Bool.and_eq_true, Bool.not_eq_true'] at h
    simp only [Source.norm, Source.norm_of_normal i h.2, Source.inst_of_not_ref i h.1]
  | .join l r k c, h => by
    simp only [Source.normal, Bool.and_eq_true] at h
    simp only [Source.norm, Source.norm_of_normal l h.1.1, Source.norm_of_normal r h.1.2, FeatureOpt.norm_of_normal c h.2]
  | .set l r k, h => by
    simp only [Source.normal, Bool.and_eq_true] at h
    simp only [Source.norm, Source.norm_of_normal l h.1.2, Source.norm_of_normal r h.2,
      Source.statement_of_isStatement l h.1.1.1, Source.statement_of_isStatement r h.1.1.2]
  | .query s sel pre grp post ord rows, h => by
    simp only [Source.normal, Bool.and_eq_true] at h
    obtain ⟨⟨⟨⟨⟨hs, hsel⟩, hpre⟩, hgrp⟩, hpost⟩, hord⟩ := h
    simp only [Source.norm, Source.norm_of_normal s hs, Features.norm_of_normal sel hsel,
      FeatureOpt.norm_of_normal pre hpre, Features.norm_of_normal grp hgrp, FeatureOpt.norm_of_normal post hpost,
      Orderings.norm_of_normal ord hord]
end

theorem Feature.operable_not_alias_of_normal (f : Feature) (h : f.normal = true) : f.operable.isAlias = false := by
  cases f <;> simp_all [Feature.operable, Feature.isAlias, Feature.normal]

theorem Feature.operable_normal (f : Feature) (h : f.normal = true) : f.operable.normal = true := by
  cases f <;> simp_all [Feature.operable, Feature.normal]

theorem Source.inst_not_ref_of_normal (s : Source) (h : s.normal = true) : s.inst.isRef = false := by
  cases s <;> simp_all [Source.inst, Source.isRef, Source.normal]

theorem Source.inst_normal (s : Source) (h : s.normal = true) : s.inst.normal = true := by
  cases s <;> simp_all [Source.inst, Source.normal]

theorem Source.statement_isStatement (s : Source) : s.statement.isStatement = true := by
  unfold Source.statement
  split
  · assumption
  · rfl

theorem Source.statement_normal (s : Source) (h : s.normal = true) : s.statement.normal = true := by
  unfold Source.statement
  split
  · exact h
  · simp [Source.normal, h, Features.normal, FeatureOpt.normal, Orderings.normal]

mutual
theorem Feature.normal_norm : (f : Feature) → f.norm.normal = true
  | .lit _ => rfl
  | .elem o n => by simp only [Feature.norm, Feature.normal, Source.normal_norm o]
  | .alias f n => by
    simp only [Feature.norm, Feature.normal, Bool.and_eq_true, Bool.not_eq_true']
    exact ⟨Feature.operable_not_alias_of_normal _ (Feature.normal_norm f), Feature.operable_normal _ (Feature.normal_norm f)⟩
  | .expr op args => by simp only [Feature.norm, Feature.normal, Features.normal_norm args]
  | .cast f k => by simp only [Feature.norm, Feature.normal, Feature.normal_norm f]
  | .window fn ps os => by
    simp only [Feature.norm, Feature.normal, Feature.normal_norm fn, Features.normal_norm ps, Orderings.normal_norm os,
      Bool.and_self]
theorem Features.normal_norm : (fs : Features) → fs.norm.normal = true
  | .nil => rfl
  | .cons f fs => by simp only [Features.norm, Features.normal, Feature.normal_norm f, Features.normal_norm fs, Bool.and_self]
theorem FeatureOpt.normal_norm : (c : FeatureOpt) → c.norm.normal = true
  | .none => rfl
  | .some f => by simp only [FeatureOpt.norm, FeatureOpt.normal, Feature.normal_norm f]
theorem Ordering.normal_norm : (o : Ordering) → o.norm.normal = true
  | .mk f d => by simp only [Ordering.norm, Ordering.normal, Feature.normal_norm f]
theorem Orderings.normal_norm : (os : Orderings) → os.norm.normal = true
  | .nil => rfl
  | .cons o os => by
    simp only [Orderings.norm, Orderings.normal, Ordering.normal_norm o, Orderings.normal_norm os, Bool.and_self]
theorem Source.normal_norm : (s : Source) → s.norm.normal = true
  | .table _ _ => rfl
  | .ref i n => by
    simp only [Source.norm, Source.normal, Bool.and_eq_true, Bool.not_eq_true']
    exact ⟨Source.inst_not_ref_of_normal _ (Source.normal_norm i), Source.inst_normal _ (Source.normal_norm i)⟩
  | .join l r k c => by
    simp only [Source.norm, Source.normal, Source.normal_norm l, Source.normal_norm r, FeatureOpt.normal_norm c, Bool.and_self]
  | .set l r k => by
    simp only [Source.norm, Source.normal, Source.statement_isStatement,
      Source.statement_normal _ (Source.normal_norm l), Source.statement_normal _ (Source.normal_norm r), Bool.and_self]
  | .query s sel pre grp post ord rows => by
    simp only [Source.norm, Source.normal, Source.normal_norm s, Features.normal_norm sel, FeatureOpt.normal_norm pre,
      Features.normal_norm grp, FeatureOpt.normal_norm post, Orderings.normal_norm ord, Bool.and_self]
end

theorem Feature.tame_operable (f : Feature) : f.operable.tame = f.tame := by
  cases f <;> simp [Feature.operable, Feature.tame]

theorem Source.tame_of_inst (s : Source) (ht : s.inst.tame = true) (hp : s.inst.plain = true) : s.tame = true := by
  cases s <;> simp_all [Source.inst, Source.tame]

theorem Source.tame_of_statement (s : Source) (ht : s.statement.tame = true) : s.tame = true := by
  unfold Source.statement at ht
  split at ht
  · exact ht
  · simpa [Source.tame, Features.tame, FeatureOpt.tame, Orderings.tame] using ht

/-- `Aliased.__new__` takes `.operable`: an alias of an alias is an alias of the inner feature -/
theorem construct_alias_operable (eqv : Feature → Feature → Bool) (h : Feature) (n : String) :
    (do let f' ← Feature.construct eqv h; (Except.ok (.alias f'.operable n) : R Feature)) =
    (do let g ← Feature.construct eqv h.operable; (Except.ok (.alias g.operable n) : R Feature)) := by
  cases h with
  | alias g m =>
    simp only [Feature.construct, Feature.operable]
    cases Feature.construct eqv g <;> simp [bind, Except.bind]
  | lit _ | elem _ _ | expr _ _ | cast _ _ | window _ _ _ => rfl

/-- `Reference.__new__` takes `.instance`: a reference of a reference is a reference of the inner source -/
theorem construct_ref_inst (eqv : Feature → Feature → Bool) (h : Source) (n : String) :
    (do let i' ← Source.construct eqv h; (Except.ok (.ref i'.inst n) : R Source)) =
    (do let j ← Source.construct eqv h.inst; (Except.ok (.ref j.inst n) : R Source)) := by
  cases h with
  | ref j m =>
    simp only [Source.construct, Source.inst]
    cases Source.construct eqv j <;> simp [bind, Except.bind]
  | table _ _ | join _ _ _ _ | set _ _ _ | query _ _ _ _ _ _ _ => rfl

theorem Feature.norm_eq_rownumber (fn : Feature) : (fn.norm == .expr .rownumber .nil) = (fn == .expr .rownumber .nil) := by
  rw [Bool.eq_iff_iff]
  simp only [beq_iff_eq]
  cases fn with
  | expr op args =>
    cases args with
    | nil => simp [Feature.norm, Features.norm]
    | cons a as => simp [Feature.norm, Features.norm]
  | lit _ | elem _ _ | alias _ _ | cast _ _ | window _ _ _ => simp [Feature.norm]

theorem Source.schemaOf_statement (s : Source) : s.statement.schemaOf = s.schemaOf := by
  unfold Source.statement
  split
  · rfl
  · simp [Source.schemaOf, Source.entries, Features.isEmpty]

theorem Source.statement_statement (s : Source) : s.statement.statement = s.statement :=
  Source.statement_of_isStatement _ (Source.statement_isStatement s)

/-- `Set.__new__` stores `.statement`: a bare origin stands for the query selecting everything from it -/
theorem construct_statement (x : Source) (hn : x.normal = true) (ht : x.tame = true) :
    Source.construct structEqv x.statement = (do let x' ← Source.construct structEqv x; Except.ok x'.statement) := by
  by_cases hs : x.isStatement = true
  · rw [Source.statement_of_isStatement x hs]
    cases h : Source.construct structEqv x with
    | error e => rfl
    | ok x' =>
      obtain ⟨rfl, _⟩ := (Source.construct_iff x hn ht x').mp h
      simp [bind, Except.bind, Source.statement_of_isStatement _ hs]
  · -- `Query(x)` has no clause: once `x.features` can be read (`featuresOf_outs`) every check of `checkQuery` is trivial
    have hq : x.statement = .query x .nil .none .nil .none .nil none := by simp [Source.statement, hs]
    rw [hq]
    simp only [Source.construct, Features.construct, FeatureOpt.construct, Orderings.construct]
    cases h : Source.construct structEqv x with
    | error e => rfl
    | ok x' =>
      obtain ⟨rfl, _⟩ := (Source.construct_iff x hn ht x').mp h
      simp [bind, Except.bind, checkQuery, Source.featuresOf_outs x' ht, Features.toList, FeatureOpt.toOption,
        Orderings.toList, subsetBy, dissectAll, checkFilter, checkGrouping, guardG, hq]

mutual
theorem Feature.construct_norm : (f : Feature) → f.norm.tame = true →
    Feature.construct structEqv f = Feature.construct structEqv f.norm
  | .lit _, _ => rfl
  | .elem o n, ht => by
    simp only [Feature.norm, Feature.tame, Bool.and_eq_true] at ht
    simp only [Feature.norm, Feature.construct, Source.construct_norm o ht.1]
  | .alias f n, ht => by
    simp only [Feature.norm, Feature.tame, Feature.tame_operable] at ht
    simp only [Feature.norm, Feature.construct, Feature.construct_norm f ht]
    exact construct_alias_operable structEqv f.norm n
  | .expr op args, ht => by
    simp only [Feature.norm, Feature.tame] at ht
    simp only [Feature.norm, Feature.construct, Features.construct_norm args ht]
  | .cast f k, ht => by
    simp only [Feature.norm, Feature.tame] at ht
    simp only [Feature.norm, Feature.construct, Feature.construct_norm f ht]
  | .window fn ps os, ht => by
    simp only [Feature.norm, Feature.tame, Bool.and_eq_true] at ht
    simp only [Feature.norm, Feature.construct, Features.construct_norm ps ht.1.2, Orderings.construct_norm os ht.2,
      Feature.norm_eq_rownumber]
    by_cases hr : fn = .expr .rownumber .nil
    · subst hr
      simp [Feature.norm, Features.norm]
    · have hb : (fn == Feature.expr Op.rownumber Features.nil) = false := by simpa using hr
      simp only [hb, Bool.false_eq_true, if_false, Feature.construct_norm fn ht.1.1]
theorem Features.construct_norm : (fs : Features) → fs.norm.tame = true →
    Features.construct structEqv fs = Features.construct structEqv fs.norm
  | .nil, _ => rfl
  | .cons f fs, ht => by
    simp only [Features.norm, Features.tame, Bool.and_eq_true] at ht
    simp only [Features.norm, Features.construct, Feature.construct_norm f ht.1, Features.construct_norm fs ht.2]
theorem FeatureOpt.construct_norm : (c : FeatureOpt) → c.norm.tame = true →
    FeatureOpt.construct structEqv c = FeatureOpt.construct structEqv c.norm
  | .none, _ => rfl
  | .some f, ht => by
    simp only [FeatureOpt.norm, FeatureOpt.tame] at ht
    simp only [FeatureOpt.norm, FeatureOpt.construct, Feature.construct_norm f ht]
theorem Ordering.construct_norm : (o : Ordering) → o.norm.tame = true →
    Ordering.construct structEqv o = Ordering.construct structEqv o.norm
  | .mk f d, ht => by
    simp only [Ordering.norm, Ordering.tame] at ht
    simp only [Ordering.norm, Ordering.construct, Feature.construct_norm f ht]
theorem Orderings.construct_norm : (os : Orderings) → os.norm.tame = true →
    Orderings.construct structEqv os = Orderings.construct structEqv os.norm
  | .nil, _ => rfl
  | .cons o os, ht => by
    simp only [Orderings.norm, Orderings.tame, Bool.and_eq_true] at ht
    simp only [Orderings.norm, Orderings.construct, Ordering.construct_norm o ht.1, Orderings.construct_norm os ht.2]
theorem Source.construct_norm : (s : Source) → s.norm.tame = true →
    Source.construct structEqv s = Source.construct structEqv s.norm
  | .table _ _, _ => rfl
  | .ref i n, ht => by
    simp only [Source.norm, Source.tame, Bool.and_eq_true] at ht
    have hti : i.norm.tame = true := Source.tame_of_inst _ ht.1 ht.2
    simp only [Source.norm, Source.construct, Source.construct_norm i hti]
    exact construct_ref_inst structEqv i.norm n
  | .join l r k c, ht => by
    simp only [Source.norm, Source.tame, Bool.and_eq_true] at ht
    simp only [Source.norm, Source.construct, Source.construct_norm l ht.1.1, Source.construct_norm r ht.1.2,
      FeatureOpt.construct_norm c ht.2]
  | .set l r k, ht => by
    simp only [Source.norm, Source.tame, Bool.and_eq_true] at ht
    have htl : l.norm.tame = true := Source.tame_of_statement _ ht.1.1.1
    have htr : r.norm.tame = true := Source.tame_of_statement _ ht.1.1.2
    -- `construct_statement` turns the construction of `l.norm.statement` into that of `l.norm` followed by `.statement`;
    -- `checkSet` reads the schemas only, which `.statement` keeps (`schemaOf_statement`), and `.statement` is idempotent
    simp only [Source.norm, Source.construct, Source.construct_norm l htl, Source.construct_norm r htr,
      construct_statement _ (Source.normal_norm l) htl, construct_statement _ (Source.normal_norm r) htr,
      bind_assoc, ok_bind, checkSet, Source.schemaOf_statement, Source.statement_statement]
  | .query s sel pre grp post ord rows, ht => by
    simp only [Source.norm, Source.tame, Bool.and_eq_true] at ht
    obtain ⟨⟨⟨⟨⟨hs, hsel⟩, hpre⟩, hgrp⟩, hpost⟩, hord⟩ := ht
    simp only [Source.norm, Source.construct, Source.construct_norm s hs, Features.construct_norm sel hsel,
      FeatureOpt.construct_norm pre hpre, Features.construct_norm grp hgrp, FeatureOpt.construct_norm post hpost,
      Orderings.construct_norm ord hord]
end

end ForML.Dsl
