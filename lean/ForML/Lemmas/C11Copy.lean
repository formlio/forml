/-
`Segment.copy`.  A successful copy appends the forks of the region (same kind, shape
and group), the images of the subscriptions between members of one path, and their `_PORTS` entries; nothing of the
existing graph changes and no subscription / registration links an old node with a new one.
-/
import ForML.Lemmas.C11Closure
import ForML.Lemmas.C11Exists
import ForML.Lemmas.ListFacts

namespace ForML.Graph

/-- what makes `copied g region es` a copy: distinct existing nodes, edges of the graph between them, and no two
replayed subscriptions on one input port -/
structure CopyOK (g : G) (region : List Nat) (es : List Edge) : Prop where
  nodup : region.Nodup
  bound : ∀ n ∈ region, n < g.nodes.length
  mem : ∀ e ∈ es, e ∈ g.edges ∧ e.pub ∈ region ∧ e.sub.node ∈ region
  fresh : (es.map (fun e => (copyEdge g region e).sub)).Nodup

theorem copyIdx_inj (g : G) {region : List Nat} {a b : Nat} (ha : a ∈ region) (hb : b ∈ region)
    (h : copyIdx g region a = copyIdx g region b) : a = b := by
  unfold copyIdx at h
  exact idxOf_inj ha hb (by omega)

theorem copyIdx_ge (g : G) (region : List Nat) (n : Nat) : g.nodes.length ≤ copyIdx g region n := by
  unfold copyIdx; omega

theorem lt_copyIdx {g : G} {n : Nat} (h : n < g.nodes.length) (region : List Nat) (m : Nat) :
    n < copyIdx g region m := Nat.lt_of_lt_of_le h (copyIdx_ge g region m)

theorem copied_length_le (g : G) (region : List Nat) (es : List Edge) :
    g.nodes.length ≤ (copied g region es).nodes.length := by
  simp [copied]

theorem copyIdx_lt (g : G) (region : List Nat) (es : List Edge) {n : Nat} (hn : n ∈ region) :
    copyIdx g region n < (copied g region es).nodes.length := by
  have := List.idxOf_lt_length_iff.mpr hn
  simp only [copied, copyIdx, List.length_append, List.length_map]
  omega

theorem copied_new_get (g : G) (region : List Nat) (es : List Edge) {n : Nat} (hn : n ∈ region)
    (hb : n < g.nodes.length) : (copied g region es).nodes[copyIdx g region n]? = g.nodes[n]? := by
  simp only [copied, copyIdx]
  rw [List.getElem?_append_right (by omega)]
  simp only [Nat.add_sub_cancel_left, List.getElem?_map, getElem?_idxOf hn, Option.map_some]
  simp [List.getD_eq_getElem?_getD, List.getElem?_eq_getElem hb]

theorem copied_isWorker_new (g : G) (region : List Nat) (es : List Edge) {n : Nat} (hn : n ∈ region)
    (hb : n < g.nodes.length) : isWorker (copied g region es) (copyIdx g region n) = isWorker g n := by
  unfold isWorker; rw [copied_new_get g region es hn hb]

theorem mem_copied_edges (g : G) (region : List Nat) (es : List Edge) (e : Edge)
    (h : e ∈ (copied g region es).edges) : e ∈ g.edges ∨ ∃ a ∈ es, e = copyEdge g region a := by
  simp only [copied, List.mem_append, List.mem_map] at h
  rcases h with h | ⟨a, ha, rfl⟩
  · exact .inl h
  · exact .inr ⟨a, ha, rfl⟩

theorem copyEdge_apply (g : G) (region : List Nat) (a : Edge) : (copyEdge g region a).sub.port.isApply = true := rfl

theorem copied_wf (g : G) (region : List Nat) (es : List Edge) (hw : Wf g) (ok : CopyOK g region es) :
    Wf (copied g region es) := by
  have i7 := hw.i7
  have oldlt : ∀ e ∈ g.edges, e.sub.node < g.nodes.length := fun e he => isWorker_lt _ _ (i7 e he).2
  refine wf_grow (R := []) hw rfl rfl rfl (List.append_nil _).symm ?_ ?_ nofun
  · intro e he
    obtain ⟨a, ha, rfl⟩ := List.mem_map.mp he
    obtain ⟨hg, hp, hs⟩ := ok.mem a ha
    exact ⟨fun heq => hw.1 a hg (copyIdx_inj g hp hs heq), copyIdx_lt g region es hp,
      .inl (List.mem_map.mpr ⟨a, ha, rfl⟩), fun e0 h0 _ => (Nat.ne_of_lt (lt_copyIdx (oldlt e0 h0) region a.pub)).symm⟩
  · -- a replayed port is an `Apply` port of a fresh node
    intro q hq
    obtain ⟨a, ha, rfl⟩ := List.mem_map.mp hq
    obtain ⟨hg, _, hs⟩ := ok.mem a ha
    refine ⟨⟨_, List.mem_map.mpr ⟨a, ha, rfl⟩, rfl⟩, ?_, ?_, nofun, nofun⟩
    · rw [show (copyEdge g region a).sub.node = copyIdx g region a.sub.node from rfl,
        copied_isWorker_new g region es hs (ok.bound _ hs)]
      exact (i7 a hg).2
    · intro e he hn
      rcases mem_copied_edges g region es e he with h | ⟨b, _, rfl⟩
      · exact absurd hn (Nat.ne_of_lt (lt_copyIdx (oldlt e h) region a.sub.node))
      · rfl

theorem copied_rooted (g : G) (region : List Nat) (es : List Edge) (hw : Wf g) (ok : CopyOK g region es)
    (hr : Rooted g) : Rooted (copied g region es) := by
  refine rooted_grow (R := []) rfl (List.append_nil _).symm hr fun e0 h0 => ⟨(e0.pub, e0.out), fun e he hes => ?_⟩
  -- a replayed subscription is on a fresh node and has one holder
  obtain ⟨a, ha, rfl⟩ := List.mem_map.mp h0
  rcases mem_copied_edges g region es e he with h | ⟨b, hb, rfl⟩
  · exact absurd (congrArg Sub.node hes)
      (Nat.ne_of_lt (lt_copyIdx (isWorker_lt _ _ (hw.i7 e h).2) region a.sub.node))
  · rw [eq_of_nodup_map (fun e => (copyEdge g region e).sub) ok.fresh hb ha hes]
    exact .refl _

theorem copied_closed (g : G) (region : List Nat) (es : List Edge) (hw : Wf g) (hc : Closed g) :
    Closed (copied g region es) := by
  refine closed_grow (R := []) hw rfl rfl (List.append_nil _).symm hc nofun ?_
  -- no registration sits on a fresh node
  intro e he
  obtain ⟨a, _, rfl⟩ := List.mem_map.mp he
  refine .mk _ _ (List.mem_append_right _ he) ?_
  intro _ t ht
  obtain ⟨r, hr, h1, _⟩ := mem_pubsAt.mp ht
  exact absurd h1 (Nat.ne_of_lt (lt_copyIdx (isFuture_lt _ _ (hw.i8 r hr).1) region a.pub))

theorem mem_regionOf (g : G) (h : Nat) (ps : List (List Nat)) (n : Nat) :
    n ∈ regionOf g h ps ↔ n < g.nodes.length ∧ (n = h ∨ ∃ m ∈ ps, n ∈ m) := by
  unfold regionOf
  simp only [List.mem_filter, List.mem_range, Bool.or_eq_true, beq_iff_eq, List.any_eq_true,
    List.contains_iff_mem]

theorem mem_copyEdges (g : G) (ps : List (List Nat)) (e : Edge) :
    e ∈ copyEdges g ps ↔ e ∈ g.edges ∧ ∃ m ∈ ps, e.pub ∈ m ∧ e.sub.node ∈ m := by
  unfold copyEdges
  simp only [List.mem_eraseDups, List.mem_flatMap, List.mem_filter, Bool.and_eq_true, List.contains_iff_mem]
  constructor
  · rintro ⟨m, hm, he, h1, h2⟩; exact ⟨he, m, hm, h1, h2⟩
  · rintro ⟨he, m, hm, h1, h2⟩; exact ⟨m, hm, he, h1, h2⟩

theorem copy_cases (g : G) (h : Nat) (t : Option Nat) (hw : Wf g) :
    (∃ e, copy g h t = (g, .err e)) ∨
    (∃ tl ps, paths (fuelOf g) g tl h [h] = .ok ps ∧
      copy g h t = (copied g (regionOf g h ps) (copyEdges g ps),
        .segs [(copyIdx g (regionOf g h ps) h, copyIdx g (regionOf g h ps) tl)]) ∧
      CopyOK g (regionOf g h ps) (copyEdges g ps) ∧ tl ∈ regionOf g h ps ∧ h ∈ regionOf g h ps) := by
  -- the case analysis runs on one copy of the unfolded call, not on the two the statement mentions
  generalize hr : copy g h t = r
  unfold copy at hr
  rcases (segment_spec g h t).1 with ⟨tl0, hseg⟩ | ⟨e, hseg⟩
  · rw [hseg] at hr
    simp only at hr
    split at hr
    · exact .inl ⟨_, hr.symm⟩
    · rename_i tl _
      split at hr
      · exact .inl ⟨_, hr.symm⟩
      · rename_i ps hps
        -- the three Boolean checks get names, so that the case split runs on variables and not on the terms
        generalize (!aliasFree g _) = c1 at hr
        generalize hfresh :
          (!decide ((copyEdges g ps).map (fun e => (copyEdge g (regionOf g h ps) e).sub)).Nodup) = c2 at hr
        generalize htl : (!(regionOf g h ps).contains tl) = c3 at hr
        cases c1 with
        | true => exact .inl ⟨_, hr.symm⟩
        | false =>
        cases c2 with
        | true => exact .inl ⟨_, hr.symm⟩
        | false =>
        cases c3 with
        | true => exact .inl ⟨_, hr.symm⟩
        | false =>
        simp only [Bool.false_eq_true, if_false] at hr
        split at hr
        · exact .inl ⟨_, hr.symm⟩
        · refine .inr ⟨tl, ps, hps, hr.symm, ⟨?_, ?_, ?_, ?_⟩, ?_, ?_⟩
          · unfold regionOf
            exact List.Pairwise.sublist List.filter_sublist List.nodup_range
          · intro n hn; exact ((mem_regionOf g h ps n).mp hn).1
          · intro e he
            obtain ⟨hg, m, hm, h1, h2⟩ := (mem_copyEdges g ps e).mp he
            have i7 := hw.i7 e hg
            exact ⟨hg, (mem_regionOf g h ps _).mpr ⟨i7.1, .inr ⟨m, hm, h1⟩⟩,
              (mem_regionOf g h ps _).mpr ⟨isWorker_lt _ _ i7.2, .inr ⟨m, hm, h2⟩⟩⟩
          · simpa using hfresh
          · simpa using htl
          · exact (mem_regionOf g h ps h).mpr ⟨((segment_spec g h t).2.1 tl0 hseg).1, .inl rfl⟩
  · rw [hseg] at hr; exact .inl ⟨e, hr.symm⟩

end ForML.Graph
