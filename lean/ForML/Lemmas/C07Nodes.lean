/-
C07: each constructor's checks (`checkExpr`, `checkJoin`, `checkSet`, `checkQuery`), run with structural equality on
well-formed operands of a tame script, succeed exactly when the documented rule of that node holds, and otherwise, on
`resolvable` operands, raise the grammar error (`Judges`).  Each proof follows the steps of the check.
-/
import ForML.Model.Grammar
import ForML.Lemmas.C07Dissect
import ForML.Lemmas.C07Collapse
import ForML.Lemmas.C07Kinds
import ForML.Lemmas.C07ErrKind

namespace ForML.Dsl

theorem Features.wf_iff : (fs : Features) → (fs.wf = true ↔ ∀ f ∈ fs.toList, f.wf = true)
  | .nil => by simp [Features.wf, Features.toList]
  | .cons f fs => by simp [Features.wf, Features.toList, Features.wf_iff fs]

theorem Features.tame_iff : (fs : Features) → (fs.tame = true ↔ ∀ f ∈ fs.toList, f.tame = true)
  | .nil => by simp [Features.tame, Features.toList]
  | .cons f fs => by simp [Features.tame, Features.toList, Features.tame_iff fs]

theorem Features.kindsS_eq : (fs : Features) → fs.kindsS = fs.toList.map Feature.kindS
  | .nil => rfl
  | .cons f fs => by simp [Features.kindsS, Features.toList, Features.kindsS_eq fs]

theorem Features.kindsOf_eq_mapM : (fs : Features) → fs.kindsOf = fs.toList.mapM Feature.kindOf
  | .nil => rfl
  | .cons f fs => by
    simp only [Features.kindsOf, Features.toList, List.mapM_cons, Features.kindsOf_eq_mapM fs]
    rfl

theorem Features.isEmpty_eq_toList (fs : Features) : fs.isEmpty = fs.toList.isEmpty := by
  cases fs <;> rfl

theorem any_or {α : Type} (p q : α → Bool) (l : List α) : l.any (fun x => p x || q x) = (l.any p || l.any q) := by
  induction l with
  | nil => rfl
  | cons a l ih =>
    simp only [List.any_cons, ih]
    cases p a <;> cases q a <;> cases l.any p <;> cases l.any q <;> rfl

theorem dissect_cumulative (f : Feature) :
    (f.dissect Feature.isCumulative []).isEmpty = !(f.hasAggregate || f.hasWindow) := by
  rw [dissect_isEmpty]
  unfold Feature.hasAggregate Feature.hasWindow
  rw [← any_or]
  rfl

theorem dissect_aggregate (f : Feature) : (f.dissect Feature.isAggregate []).isEmpty = !f.hasAggregate :=
  dissect_isEmpty _ f

theorem dissect_window (f : Feature) : (f.dissect Feature.isWindow []).isEmpty = !f.hasWindow :=
  dissect_isEmpty _ f

theorem ensureKinds_spec {g : Prop} (p : Kind → Bool) : (l : List Feature) → (∀ a ∈ l, a.wf = true) →
    (∀ a ∈ l, a.tame = true) → (g → ∀ a ∈ l, a.resolvable = true) →
    Judges g (ensureKinds p l) () ((l.map Feature.kindS).all (fun k => k.any p) = true)
  | [], _, _, _ => (Judges.ok rfl).congr (by simp)
  | a :: l, hw, ht, hr => by
    unfold ensureKinds
    refine (a.kindOf_read (hw a (List.mem_cons_self ..)) (ht a (List.mem_cons_self ..))
      (fun h => hr h a (List.mem_cons_self ..)) fun k _ => Judges.bind (Judges.guard (p k)) fun _ =>
        ensureKinds_spec p l (fun b hb => hw b (List.mem_cons_of_mem _ hb)) (fun b hb => ht b (List.mem_cons_of_mem _ hb))
          fun h b hb => hr h b (List.mem_cons_of_mem _ hb)).congr ?_
    simp only [List.map_cons, List.all_cons]
    cases a.kindS <;> simp

theorem Option.any_beq (k : Option Kind) (b : Kind) : k.any (fun k => k == b) = (k == some b) := by
  cases k with
  | none => rfl
  | some k => simp

theorem allSame_iff (l : List Kind) : allSame l = true ↔ ∀ a ∈ l, ∀ b ∈ l, a = b := by
  cases l with
  | nil => simp [allSame]
  | cons k rest =>
    simp only [allSame, List.all_eq_true, beq_iff_eq, List.mem_cons]
    constructor
    · intro h a ha b hb
      have ea : a = k := by
        rcases ha with rfl | ha
        · rfl
        · exact h a ha
      have eb : b = k := by
        rcases hb with rfl | hb
        · rfl
        · exact h b hb
      rw [ea, eb]
    · intro h a ha
      exact h a (Or.inr ha) k (Or.inl rfl)

theorem exists_map_some : (os : List (Option Kind)) → os.all Option.isSome = true → ∃ ks : List Kind, os = ks.map some
  | [], _ => ⟨[], rfl⟩
  | o :: os, h => by
    simp only [List.all_cons, Bool.and_eq_true] at h
    obtain ⟨ks, hks⟩ := exists_map_some os h.2
    cases o with
    | none => simp at h
    | some k => exact ⟨k :: ks, by simp [hks]⟩

/-- `comparable` of the kinds that were read, said of the documented kinds (some of which may be missing) -/
theorem comparable_mapM (os : List (Option Kind)) :
    (os.mapM id).any comparable = (os.all Option.isSome &&
      (os.all (fun k => k.any Kind.isNumeric) || os.all (fun a => os.all (fun b => a == b)))) := by
  cases h : os.mapM id with
  | some ks =>
    rw [(mapM_id_iff os ks).mp h, Option.any_some, Bool.eq_iff_iff]
    unfold comparable
    rw [Bool.or_eq_true, allSame_iff]
    simp only [Bool.or_eq_true, Bool.and_eq_true, List.all_map, List.all_eq_true, Function.comp_apply,
      Option.isSome_some, Option.any_some, beq_iff_eq, Option.some.injEq, implies_true, true_and]
  | none =>
    cases hs : os.all Option.isSome with
    | false => rfl
    | true =>
      obtain ⟨ks, hks⟩ := exists_map_some os hs
      rw [(mapM_id_iff os ks).mpr hks] at h
      cases h

/-- `Univariate/Bivariate.__new__` + the mixin's `__init__` = the documented operand rules; the call is well typed
(operand count of the class, not `RowNumber()`) where `g` holds -/
theorem checkExpr_spec {g : Prop} (op : Op) (args : Features) (hw : args.wf = true) (ht : args.tame = true)
    (hr : g → (args.resolvable = true ∧ args.toList.length = op.arity) ∧ ¬ op = Op.rownumber) :
    Judges g (checkExpr op args.toList) ()
      ((decide (args.toList.length = op.arity) && args.toList.all (fun a => !a.isAlias) && kindRule op args.kindsS) = true) := by
  have hk := fun p => ensureKinds_spec (g := g) p args.toList ((Features.wf_iff args).mp hw) ((Features.tame_iff args).mp ht)
    fun h => (Features.resolvable_iff args).mp (hr h).1.1
  unfold checkExpr kindRule
  by_cases hlen : args.toList.length = op.arity
  case neg =>
    simp only [hlen, ne_eq, not_false_eq_true, if_true]
    exact (Judges.error (fun h => hlen (hr h).1.2) _ _).congr (by simp)
  simp only [hlen, ne_eq, not_true_eq_false, if_false, decide_true, Bool.true_and, Bool.and_eq_true]
  rw [Features.kindsS_eq]
  cases hg : op.group <;> simp only []
  case cmp2 | cmp1 =>
    refine (Judges.bind (Judges.guard _) fun _ => Judges.read
      (by rw [← Features.kindsOf_eq_mapM, Features.okOf_kindsOf args hw ht, Features.kindsS_eq]) (fun h => by
        obtain ⟨ks, hks, _⟩ := Features.kindsS_of_resolvable args (hr h).1.1
        rw [← Features.kindsS_eq, (mapM_id_iff _ ks).mpr hks]
        rfl) fun ks _ => Judges.guard (comparable ks)).congr ?_
    rw [← Option.any_eq_true, comparable_mapM]
  case logic => exact (Judges.bind (Judges.guard _) fun _ => hk _).congr (by simp only [Option.any_beq])
  case arith | arithInt | year => exact Judges.bind (Judges.guard _) fun _ => hk _
  case count => exact (Judges.guard _).congr (by simp)
  case rownumber =>
    refine (Judges.error (fun h => (hr h).2 ?_) _ _).congr (by simp)
    cases op <;> simp [Op.group] at hg
    rfl

theorem mapM_names : (fs : List Feature) → (∀ f ∈ fs, (nameOf f).isSome = true) →
    fs.mapM nameOrRecursion = Except.ok (fs.filterMap nameOf)
  | [], _ => rfl
  | f :: fs, h => by
    have hf := h f (by simp)
    rw [List.mapM_cons, mapM_names fs (fun g hg => h g (by simp [hg]))]
    cases hn : nameOf f with
    | none => simp [hn] at hf
    | some x => simp [hn, nameOrRecursion, bind, Except.bind, pure, Except.pure]

theorem Source.featuresOf_outs : (s : Source) → s.tame = true → s.featuresOf = Except.ok s.outs
  | .table n fs, _ => rfl
  | .ref i n, ht => by
    simp only [Source.tame, Bool.and_eq_true] at ht
    have hp := (Source.plain_iff i).mp ht.2
    simp only [Source.featuresOf, Source.featuresOf_outs i ht.1, ok_bind, mapM_names _ hp.1, Source.outs]
  | .join l r k c, ht => by
    simp only [Source.tame, Bool.and_eq_true] at ht
    simp only [Source.featuresOf, Source.featuresOf_outs l ht.1.1, Source.featuresOf_outs r ht.1.2, ok_bind, Source.outs]
  | .set l r k, ht => by
    simp only [Source.tame, Bool.and_eq_true] at ht
    simp only [Source.featuresOf, Source.featuresOf_outs l ht.1.1.1, Source.featuresOf_outs r ht.1.1.2, ok_bind,
      Source.outs]
  | .query s sel pre grp post ord rows, ht => by
    simp only [Source.tame, Bool.and_eq_true] at ht
    cases hsel : sel.isEmpty <;>
      simp [Source.featuresOf, Source.outs, hsel, Source.featuresOf_outs s ht.1.1.1.1.1]

theorem exists_some_beq (o : Option Kind) (b : Kind) : (∃ k, o = some k ∧ (k == b) = true) ↔ (o == some b) = true := by
  cases o <;> simp

theorem ensurePredicate_spec {g : Prop} (p : Feature) (hw : p.wf = true) (ht : p.tame = true)
    (hr : g → p.resolvable = true) : Judges g (ensurePredicate p) () (isPredicate p = true) := by
  unfold ensurePredicate isPredicate
  refine (Judges.bind (Judges.guard _) fun _ => p.kindOf_read hw ht hr fun k _ => Judges.guard _).congr ?_
  rw [exists_some_beq, Bool.and_eq_true]

theorem checkJoin_spec {g : Prop} (l r : Source) (k : JoinKind) (c : FeatureOpt) (htl : l.tame = true)
    (htr : r.tame = true) (hwc : c.wf = true) (htc : c.tame = true) (hrc : g → c.resolvable = true) :
    Judges g (checkJoin structEqv l r k c.toOption) () (joinRule l r k c = true) := by
  unfold checkJoin joinRule
  cases c with
  | none => exact (Judges.bind (Judges.guard _) fun _ => Judges.ok rfl).congr (by simp [FeatureOpt.toOption])
  | some p =>
    simp only [FeatureOpt.wf] at hwc
    simp only [FeatureOpt.tame] at htc
    simp only [FeatureOpt.resolvable] at hrc
    have hsub := subset_dissect_within p (dissectAll Feature.isElem (l.outs ++ r.outs)) (l.avail ++ r.avail) (by
      intro e
      rw [mem_dissectAll_elem]
      simp [Source.avail, List.flatMap_append])
    have hne : (FeatureOpt.some p == FeatureOpt.none) = false := by simp
    simp only [FeatureOpt.toOption, Source.featuresOf_outs l htl, Source.featuresOf_outs r htr, ok_bind]
    refine (Judges.bind (Judges.guard _) fun _ => Judges.bind (ensurePredicate_spec p hwc htc hrc) fun _ =>
      Judges.bind (Judges.guard _) fun _ => Judges.guard _).congr ?_
    simp only [Option.isNone_some, dissect_cumulative, hsub, Bool.and_eq_true, hne]
    simp [and_assoc]

theorem checkSet_spec {g : Prop} (l r : Source) (hwl : l.wf = true) (hwr : r.wf = true) (htl : l.tame = true)
    (htr : r.tame = true) (hpl : l.plain = true) (hpr : r.plain = true) :
    Judges g (checkSet l r) () ((l.sig == r.sig) = true) := by
  obtain ⟨le, hle, hls, _⟩ := Source.entries_spec l hwl htl hpl
  obtain ⟨re, hre, hrs, _⟩ := Source.entries_spec r hwr htr hpr
  unfold checkSet Source.schemaOf
  simp only [hle, hre, ok_bind]
  refine (Judges.guard _).congr ?_
  simp only [beq_iff_eq, ← hls, ← hrs]
  exact ⟨fun h => by rw [h], liftSig_inj _ _⟩

/-- `banned` is the class the code dissects the condition for (`Cumulative` in where, `Window` in having), `occurs` the
documented test on the condition; `hb` says that finding none of the former is the negation of the latter -/
theorem checkFilter_spec {g : Prop} (s : Source) (banned : Feature → Bool) (occurs : Feature → Bool)
    (hb : ∀ p : Feature, (p.dissect banned []).isEmpty = !occurs p)
    (c : FeatureOpt) (hwc : c.wf = true) (htc : c.tame = true) (hrc : g → c.resolvable = true) :
    Judges g (checkFilter structEqv (dissectAll Feature.isElem s.outs) banned c.toOption) ()
      (filterRule s.avail occurs c = true) := by
  unfold checkFilter filterRule
  cases c with
  | none => exact (Judges.ok rfl).congr (by simp)
  | some p =>
    simp only [FeatureOpt.wf] at hwc
    simp only [FeatureOpt.tame] at htc
    simp only [FeatureOpt.resolvable] at hrc
    have hsub := subset_dissect_within p (dissectAll Feature.isElem s.outs) s.avail (mem_dissectAll_elem s.outs)
    refine (Judges.bind (Judges.guard _) fun _ => Judges.bind (Judges.guard _) fun _ =>
      p.kindOf_read hwc htc hrc fun k _ => Judges.bind (Judges.guard _) fun _ => Judges.guard _).congr ?_
    simp only [hsub, hb, isPredicate, Bool.and_eq_true, ← exists_some_beq]
    constructor
    · rintro ⟨h1, h2, k, hk, h3, h4⟩
      exact ⟨⟨⟨h1, k, hk, h3⟩, h2⟩, h4⟩
    · rintro ⟨⟨⟨h1, k, hk, h3⟩, h2⟩, h4⟩
      exact ⟨h1, h2, k, hk, h3, h4⟩

theorem ensureGroups_spec {g : Prop} : (l : List Feature) →
    Judges g (ensureGroups l) () (∀ x ∈ l, (!x.isAlias && !(x.hasAggregate || x.hasWindow)) = true)
  | [] => (Judges.ok rfl).congr (by simp)
  | x :: l => by
    unfold ensureGroups ensureGroup
    refine (Judges.bind (a := ()) (Judges.bind (Judges.guard _) fun _ => Judges.guard _) fun _ => ensureGroups_spec l).congr ?_
    simp only [dissect_cumulative, Bool.and_eq_true, List.mem_cons, forall_eq_or_imp]

theorem checkGrouping_spec {g : Prop} (s : Source) (sel grp : Features) :
    Judges g (checkGrouping structEqv (dissectAll Feature.isElem s.outs) s.outs sel.toList grp.toList) ()
      ((grp.toList.all (fun g => !g.isAlias && g.within s.avail && !(g.hasAggregate || g.hasWindow)) &&
        (grp.isEmpty || (if sel.isEmpty then s.outs else sel.toList).all (fun f =>
          grp.toList.contains f.operable || f.operable.hasAggregate))) = true) := by
  unfold checkGrouping
  rw [Features.isEmpty_eq_toList grp, Features.isEmpty_eq_toList sel]
  cases hg : grp.toList.isEmpty with
  | true =>
    have : grp.toList = [] := List.isEmpty_iff.mp hg
    exact (Judges.ok rfl).congr (by simp [this])
  | false =>
    have hsub := subset_dissectAll_within grp.toList (dissectAll Feature.isElem s.outs) s.avail (mem_dissectAll_elem s.outs)
    simp only [Bool.false_eq_true, if_false]
    refine (Judges.bind (ensureGroups_spec _) fun _ => Judges.bind (Judges.guard _) fun _ => Judges.guard _).congr ?_
    simp only [hsub, Bool.false_or, Bool.and_eq_true, List.all_eq_true, List.all_map, Function.comp_apply,
      Bool.or_eq_true, memBy_struct, dissect_aggregate, List.contains_iff_mem, Bool.not_not]
    constructor
    · rintro ⟨h1, h2, h3⟩
      exact ⟨fun g hg' => ⟨⟨(h1 g hg').1, h2 g hg'⟩, (h1 g hg').2⟩, h3⟩
    · rintro ⟨h1, h3⟩
      exact ⟨fun g hg' => ⟨(h1 g hg').1.1, (h1 g hg').2⟩, fun g hg' => (h1 g hg').1.2, h3⟩

theorem checkQuery_spec {g : Prop} (s : Source) (sel : Features) (pre : FeatureOpt) (grp : Features) (post : FeatureOpt)
    (ord : Orderings) (hts : s.tame = true) (hwpre : pre.wf = true) (htpre : pre.tame = true)
    (hrpre : g → pre.resolvable = true) (hwpost : post.wf = true) (htpost : post.tame = true)
    (hrpost : g → post.resolvable = true) :
    Judges g (checkQuery structEqv s sel.toList pre.toOption grp.toList post.toOption ord.toList) ()
      (queryRule s sel pre grp post ord = true) := by
  unfold checkQuery queryRule
  have hsel := subset_dissectAll_within sel.toList (dissectAll Feature.isElem s.outs) s.avail (mem_dissectAll_elem s.outs)
  have hord := subset_dissectAll_within (ord.toList.map Ordering.feature) (dissectAll Feature.isElem s.outs) s.avail
    (mem_dissectAll_elem s.outs)
  simp only [Source.featuresOf_outs s hts, ok_bind]
  refine (Judges.bind (Judges.guard _) fun _ =>
    Judges.bind (checkFilter_spec s Feature.isCumulative (fun p => p.hasAggregate || p.hasWindow) dissect_cumulative pre
      hwpre htpre hrpre) fun _ =>
    Judges.bind (checkGrouping_spec s sel grp) fun _ =>
    Judges.bind (checkFilter_spec s Feature.isWindow Feature.hasWindow dissect_window post hwpost htpost hrpost) fun _ =>
    Judges.bind (Judges.guard _) fun _ => Judges.guard _).congr ?_
  simp only [hsel, hord, Bool.and_eq_true, List.all_eq_true, List.mem_map, forall_exists_index, and_imp,
    forall_apply_eq_imp_iff₂]
  constructor
  · rintro ⟨h1, h2, ⟨h3, h4⟩, h5, h6, h7⟩
    exact ⟨⟨⟨⟨⟨h1, h2⟩, h3⟩, h4⟩, h5⟩, fun o ho => ⟨h6 o ho, h7 o ho⟩⟩
  · rintro ⟨⟨⟨⟨⟨h1, h2⟩, h3⟩, h4⟩, h5⟩, h6⟩
    exact ⟨h1, h2, ⟨h3, h4⟩, h5, fun o ho => (h6 o ho).1, fun o ho => (h6 o ho).2⟩

end ForML.Dsl
