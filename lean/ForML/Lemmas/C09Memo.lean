/-
The caches of `Importer.match` (the unbounded memo and the table of `functools.lru_cache`) are transparent for every
history on which the key is injective; `Importer.match` on a pool whose members may fail to come up is `find?` of the
first decisive slot of the priority-ordered pool.
-/
import ForML.Model.MatcherLru
import ForML.Lemmas.C09

namespace ForML.Matcher

open ForML.Dsl

section cache
variable {κ ε α : Type} {key : Source → κ} {f : Source → Except ε α}

/-- the invariant: every entry filed under the key of a statement still to be asked holds that statement's answer -/
def Answers (key : Source → κ) (f : Source → Except ε α) (ss : List Source) (c : Memo κ α) : Prop :=
  ∀ p ∈ c, ∀ s ∈ ss, p.1 = key s → f s = .ok p.2

/-- what one call through a cache keyed by `key` may do, whatever its policy for keeping entries -/
def CacheCall (key : Source → κ) (f : Source → Except ε α) (c : Memo κ α) (s : Source) (r : Except ε α × Memo κ α) :
    Prop :=
  (r.1 = f s ∨ ∃ p ∈ c, p.1 = key s ∧ r.1 = .ok p.2) ∧ ∀ q ∈ r.2, q ∈ c ∨ (q.1 = key s ∧ f s = .ok q.2)

theorem CacheCall.sound {c : Memo κ α} {s : Source} {ss : List Source} {r : Except ε α × Memo κ α}
    (h : CacheCall key f c s r) (hinj : ∀ b ∈ ss, key s = key b → s = b) (hc : Answers key f (s :: ss) c) :
    r.1 = f s ∧ Answers key f ss r.2 := by
  refine ⟨?_, fun q hq b hb hk => ?_⟩
  · rcases h.1 with h | ⟨p, hp, hk, h⟩
    · exact h
    · rw [h, hc p hp s List.mem_cons_self hk]
  · rcases h.2 q hq with hq | ⟨hqk, hqa⟩
    · exact hc q hq b (List.mem_cons_of_mem _ hb) hk
    · rw [← hinj b hb (hqk.symm.trans hk)]
      exact hqa

theorem cache_transparent (step : Memo κ α → Source → Except ε α × Memo κ α)
    (seq : Memo κ α → List Source → List (Except ε α)) (hstep : ∀ c s, CacheCall key f c s (step c s))
    (hnil : ∀ c, seq c [] = []) (hcons : ∀ c s ss, seq c (s :: ss) = (step c s).1 :: seq (step c s).2 ss) :
    ∀ (ss : List Source) (c : Memo κ α), (∀ a ∈ ss, ∀ b ∈ ss, key a = key b → a = b) → Answers key f ss c →
      seq c ss = ss.map f
  | [], c, _, _ => hnil c
  | s :: ss, c, hinj, hc => by
    have ⟨h1, h2⟩ := (hstep c s).sound (fun b hb => hinj s List.mem_cons_self b (List.mem_cons_of_mem _ hb)) hc
    rw [hcons, List.map_cons, h1, cache_transparent step seq hstep hnil hcons ss _
      (fun a ha b hb => hinj a (List.mem_cons_of_mem _ ha) b (List.mem_cons_of_mem _ hb)) h2]

variable [DecidableEq κ]

theorem memoStep_call (c : Memo κ α) (s : Source) : CacheCall key f c s (memoStep key f c s) := by
  unfold memoStep
  cases hl : c.find? (fun p => decide (p.1 = key s)) with
  | some p =>
    have hk : p.1 = key s := by simpa using List.find?_some hl
    exact ⟨Or.inr ⟨p, List.mem_of_find?_eq_some hl, hk, rfl⟩, fun _ => Or.inl⟩
  | none =>
    cases hf : f s with
    | error e => exact ⟨Or.inl hf.symm, fun _ => Or.inl⟩
    | ok a =>
      refine ⟨Or.inl hf.symm, fun q hq => ?_⟩
      rcases List.mem_cons.mp hq with rfl | hq
      · exact Or.inr ⟨rfl, hf⟩
      · exact Or.inl hq

/-- moving the entry hit to the front and dropping the least recently used one only ever forgets -/
theorem lruStep_call (n : Nat) (c : Memo κ α) (s : Source) : CacheCall key f c s (lruStep n key f c s) := by
  unfold lruStep
  cases hl : c.find? (fun p => decide (p.1 = key s)) with
  | some p =>
    have hp := List.mem_of_find?_eq_some hl
    have hk : p.1 = key s := by simpa using List.find?_some hl
    refine ⟨Or.inr ⟨p, hp, hk, rfl⟩, fun q hq => Or.inl ?_⟩
    rcases List.mem_cons.mp hq with rfl | hq
    · exact hp
    · exact List.mem_of_mem_eraseP hq
  | none =>
    cases hf : f s with
    | error e => exact ⟨Or.inl hf.symm, fun _ => Or.inl⟩
    | ok a =>
      refine ⟨Or.inl hf.symm, fun q hq => ?_⟩
      rcases List.mem_cons.mp (List.mem_of_mem_take hq) with rfl | hq
      · exact Or.inr ⟨rfl, hf⟩
      · exact Or.inl hq

theorem lruStep_bounded (n : Nat) (key : Source → κ) (f : Source → Except ε α) (c : Memo κ α) (s : Source)
    (h : c.length ≤ n) : (lruStep n key f c s).2.length ≤ n := by
  unfold lruStep
  cases hl : c.find? (fun p => decide (p.1 = key s)) with
  | some p =>
    have hm := List.mem_of_find?_eq_some hl
    rw [List.length_cons, List.length_eraseP_of_mem hm (List.find?_some hl),
      Nat.sub_add_cancel (List.length_pos_of_mem hm)]
    exact h
  | none =>
    cases f s with
    | error e => exact h
    | ok a => exact List.length_take_le n _

theorem lruStateFrom_bounded (n : Nat) (key : Source → κ) (f : Source → Except ε α) :
    ∀ (ss : List Source) (c : Memo κ α), c.length ≤ n → (lruStateFrom n key f c ss).length ≤ n
  | [], _, h => h
  | s :: ss, c, h => lruStateFrom_bounded n key f ss _ (lruStep_bounded n key f c s h)

end cache

theorem matchSeqFrom_eq_memo (pool : Pool) :
    ∀ (ss : List Source) (c : Cache), matchSeqFrom pool c ss = memoSeqFrom id (importerMatch pool) c ss
  | [], _ => rfl
  | s :: ss, c => by
    have : matchStep pool c s = memoStep id (importerMatch pool) c s := by
      unfold matchStep memoStep Cache.get
      simp only [id]
      cases (c.find? fun p => decide (p.1 = s)).map (·.2) with
      | some i => rfl
      | none => cases importerMatch pool s <;> rfl
    rw [matchSeqFrom, memoSeqFrom, this, matchSeqFrom_eq_memo pool ss]

/-- the slot ends the scan: it fails to come up, or it covers -/
def decisive (fails : Nat → Option String) (s : Source) (p : Nat × Slot) : Bool :=
  (fails p.1).isSome || covers p.2.sources s

/-- what the first decisive slot makes of the scan -/
def outcomeOf (fails : Nat → Option String) : Option (Nat × Slot) → Outcome
  | none => .missing
  | some p =>
    match fails p.1 with
    | some e => .raised e
    | none => .selected p.1

theorem outcomeOf_selected (fails : Nat → Option String) (o : Option (Nat × Slot)) (i : Nat) :
    outcomeOf fails o = .selected i ↔ ∃ x, o = some (i, x) ∧ fails i = none := by
  cases o with
  | none => simp [outcomeOf]
  | some p =>
    obtain ⟨j, x⟩ := p
    cases hf : fails j <;> simp only [outcomeOf, hf, Option.some.injEq, Prod.mk.injEq, reduceCtorEq, false_iff,
      Outcome.selected.injEq]
    · exact ⟨fun h => ⟨x, ⟨h, rfl⟩, h ▸ hf⟩, fun ⟨_, h, _⟩ => h.1⟩
    · rintro ⟨_, ⟨rfl, _⟩, h⟩
      rw [hf] at h
      cases h

theorem outcomeOf_raised (fails : Nat → Option String) (o : Option (Nat × Slot)) (e : String) :
    outcomeOf fails o = .raised e ↔ ∃ i x, o = some (i, x) ∧ fails i = some e := by
  cases o with
  | none => simp [outcomeOf]
  | some p =>
    obtain ⟨j, x⟩ := p
    cases hf : fails j <;> simp only [outcomeOf, hf, Option.some.injEq, Prod.mk.injEq, reduceCtorEq, false_iff,
      Outcome.raised.injEq]
    · rintro ⟨_, _, ⟨rfl, _⟩, h⟩
      rw [hf] at h
      cases h
    · exact ⟨fun h => ⟨j, x, ⟨rfl, rfl⟩, h ▸ hf⟩, fun ⟨_, _, ⟨h, _⟩, h'⟩ => Option.some.inj (hf.symm.trans (h ▸ h'))⟩

theorem outcomeOf_missing (fails : Nat → Option String) (o : Option (Nat × Slot)) :
    outcomeOf fails o = .missing ↔ o = none := by
  cases o with
  | none => simp [outcomeOf]
  | some p => cases hf : fails p.1 <;> simp [outcomeOf, hf]

theorem scan_eq_find (fails : Nat → Option String) (s : Source) :
    ∀ l : List (Nat × Slot), (scan fails l s).1 = outcomeOf fails (l.find? (decisive fails s))
  | [] => rfl
  | (i, f) :: rest => by
    have ih := scan_eq_find fails s rest
    unfold scan
    cases hf : fails i with
    | some e => simp [List.find?, decisive, hf, outcomeOf]
    | none =>
      cases hc : covers f.sources s
      · simp [List.find?, decisive, hf, hc, ih]
      · simp [List.find?, decisive, hf, hc, outcomeOf]

/-- the scan stops at the first decisive slot, so whatever it touched before that one is not decisive, and the head of a
sorted list stands before the rest -/
theorem scan_touched {R : Nat × Slot → Nat × Slot → Prop} (fails : Nat → Option String) (s : Source) :
    ∀ l : List (Nat × Slot), l.Pairwise R → ∀ j ∈ (scan fails l s).2,
      ∃ x, (j, x) ∈ l ∧ ∀ y ∈ l, decisive fails s y = true → y = (j, x) ∨ R (j, x) y
  | [], _, j, h => by cases h
  | (i, f) :: rest, hl, j, h => by
    have ⟨hR, hrest⟩ := List.pairwise_cons.mp hl
    have head : ∃ x, (i, x) ∈ (i, f) :: rest ∧ ∀ y ∈ (i, f) :: rest, decisive fails s y = true → y = (i, x) ∨ R (i, x) y :=
      ⟨f, List.mem_cons_self, fun y hy _ => (List.mem_cons.mp hy).imp_right (hR y)⟩
    unfold scan at h
    cases hf : fails i with
    | some e =>
      rw [hf, List.mem_singleton] at h
      exact h ▸ head
    | none =>
      cases hc : covers f.sources s with
      | true =>
        rw [hf, if_pos hc, List.mem_singleton] at h
        exact h ▸ head
      | false =>
        simp only [hf, hc, Bool.false_eq_true, if_false, List.mem_cons] at h
        rcases h with rfl | h
        · exact head
        · obtain ⟨x, hx, hall⟩ := scan_touched fails s rest hrest j h
          refine ⟨x, List.mem_cons_of_mem _ hx, fun y hy hd => ?_⟩
          rcases List.mem_cons.mp hy with rfl | hy
          · simp [decisive, hf, hc] at hd
          · exact hall y hy hd

end ForML.Matcher
