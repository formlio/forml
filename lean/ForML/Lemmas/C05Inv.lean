/-
The invariants of reachable registry trees (`Good`).  A tree that `Keeps` what the reader of a good tree rests on inherits
them, provided every generation it tags anew is numbered `nextGen` and complete (`Keeps.good`).
-/
import ForML.Lemmas.C05Reg

namespace ForML.Registry
open ForML.Fs

/-- **nothing listed is missing or unreadable**: every valid generation has a tag that decodes, and every state the
tag names is a file in the generation directory -/
def Healthy (fs : Fs) : Prop :=
  ∀ p v g, genValid fs p v g = true →
    ∃ t, tagOf fs p v g = some t ∧ ∀ s ∈ t.sids, ∃ b, get fs (stateP p v g s) = some (.file b)

/-- **gap-free numbering**: the valid generations of every release are `1 .. n` -/
def GapFree (fs : Fs) : Prop :=
  ∀ p v g, genValid fs p v g = true → ∀ g', 1 ≤ g' → g' ≤ g → genValid fs p v g' = true

structure Good (fs : Fs) : Prop where
  wf : WF fs
  healthy : Healthy fs
  gapfree : GapFree fs

theorem Keeps.valid_eq {fs x : Fs} (h : Keeps fs x) {p v g : Nat} (ht : get fs (tagP p v g) ≠ none) :
    genValid x p v g = genValid fs p v g :=
  genValid_congr (h _ (Or.inr ⟨p, v, g, ht, List.prefix_refl _⟩)) (h _ (Or.inr ⟨p, v, g, ht, ⟨[.tag], rfl⟩⟩))

theorem Keeps.good {fs x : Fs} (h : Keeps fs x) (wx : WF x) (gd : Good fs)
    (hnew : ∀ p v g, get fs (tagP p v g) = none → genValid x p v g = true →
      g = nextGen fs p v ∧ ∃ t, tagOf x p v g = some t ∧ ∀ s ∈ t.sids, ∃ b, get x (stateP p v g s) = some (.file b)) :
    Good x := by
  have old : ∀ {p v g}, genValid fs p v g = true → genValid x p v g = true := fun hv => by
    rw [h.valid_eq (tagged_of_valid hv)]; exact hv
  refine ⟨wx, fun p v g hval => ?_, fun p v g hval g' h1 h2 => ?_⟩
  · by_cases ht : get fs (tagP p v g) = none
    · exact (hnew p v g ht hval).2
    · rw [h.valid_eq ht] at hval
      obtain ⟨t, htag, hs⟩ := gd.healthy p v g hval
      refine ⟨t, by rw [tagOf_congr (h _ (Or.inr ⟨p, v, g, ht, ⟨[.tag], rfl⟩⟩))]; exact htag, fun s hsin => ?_⟩
      rw [h (stateP p v g s) (Or.inr ⟨p, v, g, ht, ⟨[.state s], rfl⟩⟩)]
      exact hs s hsin
  · by_cases ht : get fs (tagP p v g) = none
    · -- the new number: below it the old listing was `1 .. nextGen - 1`
      obtain ⟨rfl, _⟩ := hnew p v g ht hval
      rcases Nat.lt_or_eq_of_le h2 with hlt | rfl
      · have spec := nextGen_spec fs p v
        have hne : generationsOf fs p v ≠ [] := fun e => by rw [spec.1 e] at hlt; omega
        exact old (gd.gapfree p v _ ((mem_generationsOf fs p v _).mp (spec.2.2 hne)) g' h1 (Nat.le_sub_one_of_lt hlt))
      · exact hval
    · rw [h.valid_eq ht] at hval
      exact old (gd.gapfree p v g hval g' h1 h2)

theorem packaged_dirs {fs : Fs} {p v : Nat} (w : WF fs) (h : get fs (packageP p v) ≠ none) :
    get fs (releaseP p v) = some .dir ∧ get fs (projectP p) = some .dir := by
  cases hr : get fs (packageP p v) with
  | none => exact absurd hr h
  | some n =>
    have d2 := w.parent_dir (packageP p v) n hr (by simp [packageP])
    exact ⟨d2, w.parent_dir (releaseP p v) .dir d2 (by simp [releaseP])⟩

theorem package_absent (fs : Fs) (p v : Nat) (w : WF fs) (hnl : relListed fs p v = false) :
    get fs (packageP p v) = none := by
  refine Classical.byContradiction fun hb => ?_
  obtain ⟨d2, d1⟩ := packaged_dirs w hb
  simp [relListed, isDir, d1, d2, hb] at hnl

theorem Missing.free {fs : Fs} {p v : Nat} {key : Path} (w : WF fs) (h : Missing fs (releaseP p v) key) :
    ¬ Protected fs key := by
  have hn := h.release.2
  rintro (⟨p', v', hp, hk⟩ | ⟨p', v', g', _, r, rfl⟩)
  · obtain ⟨d2, d1⟩ := packaged_dirs w hp
    rcases hk with rfl | rfl | ⟨r, rfl⟩
    · rw [hn] at d1; cases d1
    · rw [hn] at d2; cases d2
    · exact Missing.shallow h
  · exact Missing.shallow h

theorem Keeps.good_quiet {fs x : Fs} (h : Keeps fs x) (wx : WF x) (gd : Good fs)
    (ht : ∀ p v g, get fs (tagP p v g) = none → get x (tagP p v g) = none) : Good x :=
  h.good wx gd fun p v g e hval => absurd (ht p v g e) (tagged_of_valid hval)

/-- it is not listed, and on a well-formed tree a tag without its directory cannot be there -/
theorem nextGen_untagged {fs : Fs} (w : WF fs) (p v : Nat) : get fs (tagP p v (nextGen fs p v)) = none := by
  cases ht : get fs (tagP p v (nextGen fs p v)) with
  | none => rfl
  | some n =>
    have hd := w.parent_dir (tagP p v (nextGen fs p v)) n ht (by simp [tagP])
    have := genValid_nextGen fs p v
    simp [genValid, isDir, ht, nextGen_pos, show generationP p v (nextGen fs p v) = parent (tagP p v (nextGen fs p v)) from rfl, hd] at this

theorem trained_keeps {fs x : Fs} {p v : Nat} (gd : Good fs) (h : EqOff (trainFoot fs p v (nextGen fs p v)) x fs) :
    Keeps fs x :=
  Keeps.of_frame h fun _ => trainFoot_free (fun _ hm => hm.free gd.wf) (nextGen_untagged gd.wf p v)

theorem trained_quiet {fs x : Fs} {p v : Nat} (gd : Good fs) (wx : WF x)
    (h : EqOff (trainFoot fs p v (nextGen fs p v)) x fs) (ht : get x (tagP p v (nextGen fs p v)) = none) :
    Good x ∧ ViewEq x fs :=
  ⟨(trained_keeps gd h).good_quiet wx gd (trained_untagged h ht),
    trained_viewEq (fun _ hm => hm.free gd.wf) (nextGen_untagged gd.wf p v) h ht⟩

theorem dumped_quiet {fs x : Fs} {p v : Nat} (gd : Good fs) (wx : WF x) (h : EqOff (dumpFoot fs p v) x fs) :
    Good x ∧ ViewEq x fs :=
  trained_quiet gd wx (h.mono fun _ => Or.inl) ((h _ dumpFoot_gen.2).trans (nextGen_untagged gd.wf p v))

theorem trained_full {fs x : Fs} {p v : Nat} {t : Tag} (gd : Good fs) (wx : WF x)
    (h : EqOff (trainFoot fs p v (nextGen fs p v)) x fs)
    (ht : get x (tagP p v (nextGen fs p v)) = some (.file (encodeTag t)))
    (hs : ∀ s ∈ t.sids, ∃ b, get x (stateP p v (nextGen fs p v) s) = some (.file b)) :
    Good x ∧ ∀ key, ¬ generationP p v (nextGen fs p v) <+: key → vis x key = vis fs key := by
  obtain ⟨tags, pkgs⟩ := trained_new h
  refine ⟨(trained_keeps gd h).good wx gd fun p' v' g' e hval => ?_, fun key hkey =>
    (trained_keeps gd h).vis_eq key fun p' v' _ => ⟨pkgs p' v', fun g' hg' e => Classical.byContradiction fun hx => ?_⟩⟩
  · cases tags p' v' g' e (tagged_of_valid hval)
    exact ⟨rfl, t, tagOf_encoded ht, hs⟩
  · cases tags p' v' g' e hx
    exact hkey hg'

theorem listed_states (fs : Fs) (gd : Good fs) (p v g : Nat) (t : Tag) (hl : genListed fs p v g = true)
    (ht : tagOf fs p v g = some t) :
    ∀ s ∈ t.sids, ∃ b, vis fs (stateP p v g s) = some (.file b) ∧ get fs (stateP p v g s) = some (.file b) := by
  intro s hs
  have hv : genValid fs p v g = true := by simp only [genListed, Bool.and_eq_true] at hl; exact hl.2
  obtain ⟨t', ht', hs'⟩ := gd.healthy p v g hv
  rw [ht] at ht'; cases ht'
  obtain ⟨b, hb⟩ := hs' s hs
  exact ⟨b, (vis_state hl ht hs).trans hb, hb⟩

theorem listed_readable (fs : Fs) (gd : Good fs) (p v g : Nat) (hl : genListed fs p v g = true) :
    ∃ t, tagOf fs p v g = some t ∧ ∀ s ∈ t.sids, ∃ b, vis fs (stateP p v g s) = some (.file b) := by
  have hv : genValid fs p v g = true := by simp only [genListed, Bool.and_eq_true] at hl; exact hl.2
  obtain ⟨t, ht, _⟩ := gd.healthy p v g hv
  exact ⟨t, ht, fun s hs => (listed_states fs gd p v g t hl ht s hs).imp fun b hb => hb.1⟩

theorem generations_gapfree (fs : Fs) (gd : Good fs) (p v g : Nat) (h : g ∈ generationsOf fs p v) :
    1 ≤ g ∧ ∀ g', 1 ≤ g' → g' ≤ g → g' ∈ generationsOf fs p v := by
  rw [mem_generationsOf] at h
  refine ⟨?_, fun g' h1 h2 => (mem_generationsOf fs p v g').mpr (gd.gapfree p v g h g' h1 h2)⟩
  simp only [genValid, Bool.and_eq_true, decide_eq_true_eq] at h; exact h.1.1

theorem empty_good : Good Fs.empty := by
  refine ⟨empty_wf, ?_, ?_⟩
  · intro p v g h; simp [genValid, isDir, Fs.empty, Fs.get, generationP] at h
  · intro p v g h; simp [genValid, isDir, Fs.empty, Fs.get, generationP] at h

end ForML.Registry
