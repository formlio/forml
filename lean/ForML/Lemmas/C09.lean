/-
The priority order of `Importer.Slot`, the importer's iteration order (`sorted(slots, reverse=True)` as a rearrangement
of the numbered slots), statements as trees over their `parts`, and the first table a feed does not advertise.
-/
import ForML.Model.Matcher
import ForML.Lemmas.ListFacts

namespace ForML.Matcher

open ForML.Dsl

theorem Prio.lt_irrefl (a : Prio) : a.lt a = false := by
  cases a <;> simp [Prio.lt]

theorem Prio.lt_asymm {a b : Prio} (h : a.lt b = true) : b.lt a = false := by
  cases a <;> cases b <;>
    simp only [Prio.lt, decide_eq_true_eq, decide_eq_false_iff_not, Bool.false_eq_true] at h ⊢ <;> omega

theorem Prio.lt_trans {a b c : Prio} (h1 : a.lt b = true) (h2 : b.lt c = true) : a.lt c = true := by
  cases a <;> cases b <;> cases c <;> simp only [Prio.lt, decide_eq_true_eq, Bool.false_eq_true] at h1 h2 ⊢ <;> omega

theorem Prio.eq_of_not_lt {a b : Prio} (h1 : a.lt b = false) (h2 : b.lt a = false) : a = b := by
  cases a <;> cases b <;>
    simp only [Prio.lt, decide_eq_false_iff_not, Bool.true_eq_false, Prio.fin.injEq] at h1 h2 ⊢ <;> omega

theorem Prio.inf_not_lt (a : Prio) : Prio.inf.lt a = false := by
  cases a <;> simp [Prio.lt]

/-- `x` is iterated before `y`: strictly higher priority, or the same priority and constructed earlier -/
def before (x y : Nat × Slot) : Prop :=
  y.2.prio.lt x.2.prio = true ∨ (x.2.prio = y.2.prio ∧ x.1 < y.1)

theorem before_not_lt {x y : Nat × Slot} (h : before x y) : x.2.prio.lt y.2.prio = false := by
  rcases h with h | ⟨he, _⟩
  · exact Prio.lt_asymm h
  · rw [he]
    exact Prio.lt_irrefl _

theorem before_asymm {x y : Nat × Slot} (h : before x y) : ¬ before y x := by
  rintro (h' | ⟨he', hl'⟩)
  · rw [before_not_lt h] at h'
    cases h'
  · rcases h with h | ⟨_, hl⟩
    · rw [he', Prio.lt_irrefl] at h
      cases h
    · omega

theorem before_irrefl (x : Nat × Slot) : ¬ before x x := fun h => before_asymm h h

theorem insertDesc_isInsert : IsInsert insertDesc (fun x y => !(x.2.prio.lt y.2.prio)) :=
  ⟨fun _ => rfl, fun x y r => by simp only [insertDesc]; cases x.2.prio.lt y.2.prio <;> rfl⟩

theorem perm_insertDesc (x : Nat × Slot) (l : List (Nat × Slot)) : (insertDesc x l).Perm (x :: l) :=
  insertDesc_isInsert.perm x l

theorem perm_orderFrom : ∀ (i : Nat) (pool : Pool), (orderFrom i pool).Perm ((pool.zipIdx i).map Prod.swap)
  | _, [] => .refl _
  | i, x :: xs => (perm_insertDesc (i, x) _).trans ((perm_orderFrom (i + 1) xs).cons _)

theorem mem_zipIdx_swap {α : Type} {l : List α} {i : Nat} {z : Nat × α} :
    z ∈ (l.zipIdx i).map Prod.swap ↔ i ≤ z.1 ∧ l[z.1 - i]? = some z.2 := by
  rw [List.mem_map]
  constructor
  · rintro ⟨p, hp, rfl⟩
    exact List.mem_zipIdx_iff_le_and_getElem?_sub.mp hp
  · intro h
    exact ⟨z.swap, List.mem_zipIdx_iff_le_and_getElem?_sub.mpr h, rfl⟩

theorem mem_orderFrom {i : Nat} {pool : Pool} {z : Nat × Slot} :
    z ∈ orderFrom i pool ↔ i ≤ z.1 ∧ pool[z.1 - i]? = some z.2 :=
  (perm_orderFrom i pool).mem_iff.trans mem_zipIdx_swap

theorem mem_order {pool : Pool} {z : Nat × Slot} : z ∈ order pool ↔ pool[z.1]? = some z.2 :=
  mem_orderFrom.trans (by simp)

theorem length_order (pool : Pool) : (order pool).length = pool.length :=
  (perm_orderFrom 0 pool).length_eq.trans (by simp)

theorem before_of_not_lt {x z : Nat × Slot} (hi : x.1 < z.1) (h : x.2.prio.lt z.2.prio = false) : before x z := by
  cases hz : z.2.prio.lt x.2.prio
  · exact Or.inr ⟨Prio.eq_of_not_lt h hz, hi⟩
  · exact Or.inl hz

theorem pairwise_insertDesc (x : Nat × Slot) (l : List (Nat × Slot)) (hl : l.Pairwise before)
    (hx : ∀ y ∈ l, x.1 < y.1) : (insertDesc x l).Pairwise before := by
  induction l with
  | nil => exact List.pairwise_singleton _ _
  | cons y ys ih =>
    have ⟨hy, hys⟩ := List.pairwise_cons.mp hl
    rw [insertDesc]
    split
    next hlt =>
      refine List.pairwise_cons.mpr ⟨fun z hz => ?_, ih hys fun w hw => hx w (List.mem_cons_of_mem _ hw)⟩
      rcases List.mem_cons.mp ((perm_insertDesc x ys).mem_iff.mp hz) with rfl | hz
      · exact Or.inl hlt
      · exact hy z hz
    next hnlt =>
      -- `x` goes in front: no slot behind it has a priority above `x`'s, since none has one above `y`'s
      rw [Bool.not_eq_true] at hnlt
      refine List.pairwise_cons.mpr ⟨fun z hz => before_of_not_lt (hx z hz) ?_, hl⟩
      rcases List.mem_cons.mp hz with rfl | hz
      · exact hnlt
      · cases hxz : x.2.prio.lt z.2.prio
        · rfl
        · rcases hy z hz with h | ⟨he, _⟩
          · rw [Prio.lt_trans hxz h] at hnlt
            cases hnlt
          · rw [he, hxz] at hnlt
            cases hnlt

theorem pairwise_orderFrom : ∀ (i : Nat) (pool : Pool), (orderFrom i pool).Pairwise before
  | _, [] => .nil
  | i, x :: xs =>
    pairwise_insertDesc (i, x) _ (pairwise_orderFrom (i + 1) xs) fun _ hy => (mem_orderFrom.mp hy).1

theorem pairwise_order (pool : Pool) : (order pool).Pairwise before := pairwise_orderFrom 0 pool

theorem find?_order (pool : Pool) (p : Nat × Slot → Bool) (i : Nat) (x : Slot) :
    (order pool).find? p = some (i, x) ↔ pool[i]? = some x ∧ p (i, x) = true ∧
      ∀ (j : Nat) (y : Slot), pool[j]? = some y → p (j, y) = true → j = i ∨ before (i, x) (j, y) := by
  refine ⟨fun h => ⟨mem_order.mp (List.mem_of_find?_eq_some h), List.find?_some h, fun j y hj hp => ?_⟩,
    fun ⟨hx, hp, hall⟩ => find?_of_pairwise (pairwise_order pool) (mem_order.mpr hx) hp fun w hw hpw => ?_⟩
  · exact (pairwise_find? (pairwise_order pool) h (j, y) (mem_order.mpr hj) hp).imp_left (congrArg Prod.fst)
  · have hw := mem_order.mp hw
    refine (hall w.1 w.2 hw hpw).imp (fun hji => ?_) before_asymm
    rw [hji, hx] at hw
    exact Prod.ext hji (Option.some.inj hw).symm

theorem find?_order_eq_none (pool : Pool) (p : Nat × Slot → Bool) :
    (order pool).find? p = none ↔ ∀ (j : Nat) (y : Slot), pool[j]? = some y → p (j, y) = false := by
  rw [List.find?_eq_none]
  exact ⟨fun h j y hj => Bool.eq_false_iff.mpr (h (j, y) (mem_order.mpr hj)),
    fun h z hz => Bool.eq_false_iff.mp (h z.1 z.2 (mem_order.mp hz))⟩

theorem select_eq_some (pool : Pool) (s : Source) (i : Nat) :
    select pool s = some i ↔ ∃ f, pool[i]? = some f ∧ covers f.sources s = true ∧
      ∀ (j : Nat) (g : Slot), pool[j]? = some g → covers g.sources s = true → j = i ∨ before (i, f) (j, g) := by
  simp only [select, Option.map_eq_some_iff, ← find?_order pool (fun p => covers p.2.sources s)]
  exact ⟨fun ⟨⟨_, f⟩, h, e⟩ => ⟨f, e ▸ h⟩, fun ⟨f, h⟩ => ⟨(i, f), h, rfl⟩⟩

theorem importerMatch_eq_ok {pool : Pool} {s : Source} {i : Nat} : importerMatch pool s = .ok i ↔ select pool s = some i := by
  unfold importerMatch
  cases select pool s <;> simp

theorem importerMatch_eq_error {pool : Pool} {s : Source} :
    importerMatch pool s = .error .missing ↔ select pool s = none := by
  unfold importerMatch
  cases select pool s <;> simp

theorem select_eq_none (pool : Pool) (s : Source) :
    select pool s = none ↔ ∀ (j : Nat) (g : Slot), pool[j]? = some g → covers g.sources s = false := by
  simp only [select, Option.map_eq_none_iff, find?_order_eq_none]

/-! `visit`, `coversSpec`, `tables` and `cutsProvisioned` treat a reference, a join, a set and a query alike: something at
the node, then the sub-statements from left to right.  `parts` names them, so that each of the four has one equation for
nodes (`…_node`) and each fact about them one case for nodes (`parts_induction`). -/

def parts : Source → List Source
  | .table _ _ => []
  | .ref inst _ => [inst]
  | .join l r _ _ => [l, r]
  | .set l r _ => [l, r]
  | .query src _ _ _ _ _ _ => [src]

theorem parts_induction {motive : Source → Prop} (table : ∀ n fs, motive (.table n fs))
    (node : ∀ s, parts s ≠ [] → (∀ c ∈ parts s, motive c) → motive s) : ∀ s, motive s
  | .table n fs => table n fs
  | .ref inst n => node _ (by simp [parts]) (by simpa [parts] using parts_induction table node inst)
  | .join l r k c => node _ (by simp [parts])
    (by simpa [parts] using ⟨parts_induction table node l, parts_induction table node r⟩)
  | .set l r k => node _ (by simp [parts])
    (by simpa [parts] using ⟨parts_induction table node l, parts_induction table node r⟩)
  | .query src sel pre grp post ord rows => node _ (by simp [parts]) (by simpa [parts] using parts_induction table node src)

theorem visit_node {s : Source} (h : parts s ≠ []) (S : Sources) (m : Bool) :
    visit S s m = if m && !adv S s then (parts s).foldl (fun m c => visit S c m) m else m := by
  cases s with
  | table => exact absurd rfl h
  | _ => rfl

theorem coversSpec_node {s : Source} (h : parts s ≠ []) (S : Sources) :
    coversSpec S s = (adv S s || (parts s).all (coversSpec S)) := by
  cases s with
  | table => exact absurd rfl h
  | _ => simp [coversSpec, parts]

theorem tables_node {s : Source} (h : parts s ≠ []) : tables s = (parts s).flatMap tables := by
  cases s with
  | table => exact absurd rfl h
  | _ => simp [tables, parts]

theorem cutsProvisioned_node {s : Source} (h : parts s ≠ []) (S : Sources) :
    cutsProvisioned S s =
      ((if adv S s then (tables s).all (adv S) else true) && (parts s).all (cutsProvisioned S)) := by
  cases s with
  | table => exact absurd rfl h
  | _ => simp only [cutsProvisioned, tables, parts, List.all_cons, List.all_nil, Bool.and_true, Bool.and_assoc]

theorem adv_node_of_tablesOnly {S : Sources} (hS : tablesOnly S = true) {s : Source} (h : parts s ≠ []) :
    adv S s = false := by
  rw [Bool.eq_false_iff]
  intro ha
  have := List.all_eq_true.mp hS s (List.contains_iff_mem.mp ha)
  cases s with
  | table => exact h rfl
  | _ => cases this

theorem foldl_and {α : Type} (f : α → Bool → Bool) (g : α → Bool) :
    ∀ (l : List α) (m : Bool), (∀ c ∈ l, ∀ m, f c m = (m && g c)) → l.foldl (fun m c => f c m) m = (m && l.all g)
  | [], m, _ => by simp
  | c :: l, m, h => by
    rw [List.foldl_cons, h c List.mem_cons_self, foldl_and f g l _ fun c hc => h c (List.mem_cons_of_mem _ hc),
      List.all_cons, Bool.and_assoc]

theorem visit_eq_spec (S : Sources) (s : Source) : ∀ m, visit S s m = (m && coversSpec S s) := by
  induction s using parts_induction with
  | table n fs => intro m; cases m <;> simp [visit, coversSpec]
  | node s h ih =>
    intro m
    rw [visit_node h, coversSpec_node h, foldl_and _ _ _ _ ih]
    cases m <;> cases adv S s <;> simp

theorem adv_mono {S S' : Sources} (h : ∀ x, x ∈ S → x ∈ S') (s : Source) (hs : adv S s = true) : adv S' s = true :=
  List.contains_iff_mem.mpr (h s (List.contains_iff_mem.mp hs))

theorem coversSpec_mono {S S' : Sources} (h : ∀ x, x ∈ S → x ∈ S') (s : Source) :
    coversSpec S s = true → coversSpec S' s = true := by
  induction s using parts_induction with
  | table n fs => exact adv_mono h _
  | node s hs ih =>
    simp only [coversSpec_node hs, Bool.or_eq_true, List.all_eq_true]
    exact Or.imp (adv_mono h s) fun hc c hm => ih c hm (hc c hm)

theorem coversSpec_of_tables (S : Sources) (s : Source) : (tables s).all (adv S) = true → coversSpec S s = true := by
  induction s using parts_induction with
  | table n fs => simp [tables, coversSpec]
  | node s hs ih =>
    simp only [tables_node hs, coversSpec_node hs, List.all_flatMap, Bool.or_eq_true, List.all_eq_true]
    exact fun h => Or.inr fun c hm => ih c hm (List.all_eq_true.mpr (h c hm))

theorem tables_of_cuts (S : Sources) (s : Source) :
    cutsProvisioned S s = true → coversSpec S s = true → (tables s).all (adv S) = true := by
  induction s using parts_induction with
  | table n fs => simp [tables, coversSpec]
  | node s hs ih =>
    rw [cutsProvisioned_node hs, coversSpec_node hs, Bool.and_eq_true, Bool.or_eq_true]
    rintro ⟨hcut, hparts⟩ (ha | hc)
    · rwa [if_pos ha] at hcut
    · rw [tables_node hs, List.all_flatMap, List.all_eq_true]
      exact fun c hm => ih c hm (List.all_eq_true.mp hparts c hm) (List.all_eq_true.mp hc c hm)

theorem cuts_of_tablesOnly {S : Sources} (h : tablesOnly S = true) (s : Source) : cutsProvisioned S s = true := by
  induction s using parts_induction with
  | table n fs => rfl
  | node s hs ih =>
    rw [cutsProvisioned_node hs, adv_node_of_tablesOnly h hs, Bool.and_eq_true, List.all_eq_true]
    exact ⟨rfl, ih⟩

def firstMissing (S : Sources) (s : Source) : Option Source := (tables s).find? (fun t => !adv S t)

theorem firstMissing_append (S : Sources) (s l r : Source) (h : tables s = tables l ++ tables r) :
    firstMissing S s = (firstMissing S l).or (firstMissing S r) := by
  simp only [firstMissing, h, List.find?_append]

theorem firstMissing_isNone (S : Sources) (s : Source) : (firstMissing S s).isNone = (tables s).all (adv S) := by
  rw [Bool.eq_iff_iff]
  simp [firstMissing]

theorem firstMissing_eq_some {S : Sources} {s t : Source} (h : firstMissing S s = some t) :
    t ∈ tables s ∧ adv S t = false :=
  ⟨List.mem_of_find?_eq_some h, by simpa using List.find?_some h⟩

def raised {ε α : Type} : Except ε α → Option ε
  | .ok _ => none
  | .error e => some e

theorem raised_eq_some {ε α : Type} {x : Except ε α} {e : ε} (h : raised x = some e) : x = .error e := by
  cases x with
  | ok a => cases h
  | error e' => cases h; rfl

/-- advertised joins, sets, queries and references do not matter: `bypass` runs the wrapped `visit_*` before it looks
the override up, and `visit_reference` has no override -/
theorem parseSkeleton_raised (S : Sources) : ∀ s, raised (parseSkeleton S s) = firstMissing S s
  | .table n fs => by
    rw [parseSkeleton]
    cases h : adv S (.table n fs) <;> simp [firstMissing, tables, raised, h]
  | .ref inst n => by
    rw [parseSkeleton, ← show firstMissing S inst = firstMissing S (.ref inst n) from rfl, ← parseSkeleton_raised S inst]
    cases parseSkeleton S inst <;> rfl
  | .join l r k c => by
    rw [parseSkeleton, firstMissing_append S _ l r rfl, ← parseSkeleton_raised S l, ← parseSkeleton_raised S r]
    cases parseSkeleton S l <;> cases parseSkeleton S r <;> rfl
  | .set l r k => by
    rw [parseSkeleton, firstMissing_append S _ l r rfl, ← parseSkeleton_raised S l, ← parseSkeleton_raised S r]
    cases parseSkeleton S l <;> cases parseSkeleton S r <;> rfl
  | .query src sel pre grp post ord rows => by
    rw [parseSkeleton, ← show firstMissing S src = firstMissing S (.query src sel pre grp post ord rows) from rfl,
      ← parseSkeleton_raised S src]
    cases parseSkeleton S src <;> rfl

end ForML.Matcher
