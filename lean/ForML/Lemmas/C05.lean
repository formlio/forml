/-
What a file-system micro-operation does to lookups, the paths it may change (`touches`), and operation lists run to their
end or cut off by a process death (`crashOps`).
-/
import ForML.Model.Fs
import ForML.Lemmas.ListFacts

namespace ForML.Fs

theorem get_set (fs : Fs) (k q : Path) (n : Node) :
    get (set fs k n) q = if q = k then some n else get fs q := by
  simp [get, set]

/-- so the look-up facts of `Lemmas/ListFacts` (`lookup_filter_key`, `mem_of_lookup`) apply to `get` -/
theorem get_eq_lookup (fs : Fs) (k : Path) : get fs k = fs.lookup k := by
  induction fs with
  | nil => rfl
  | cons e r ih =>
    obtain ⟨a, b⟩ := e
    rw [get, List.lookup_cons, ih]
    by_cases h : k = a
    · rw [if_pos h, h, beq_self_eq_true]
    · rw [if_neg h, beq_false_of_ne h]

theorem get_filter (fs : Fs) (P : Path → Bool) (q : Path) :
    get (fs.filter (fun e => P e.1)) q = if P q then get fs q else none := by
  rw [get_eq_lookup, get_eq_lookup, lookup_filter_key]

theorem get_del (fs : Fs) (k q : Path) : get (del fs k) q = if q = k then none else get fs q := by
  simpa [del] using get_filter fs (· != k) q

theorem get_rmtree (fs : Fs) (p q : Path) :
    get (fs.filter (fun e => !(p <+: e.1))) q = if p <+: q then none else get fs q := by
  simpa using get_filter fs (fun x => !(p <+: x)) q

theorem mem_of_get (fs : Fs) (k : Path) (n : Node) (h : get fs k = some n) : (k, n) ∈ fs :=
  mem_of_lookup (get_eq_lookup fs k ▸ h)

theorem get_of_mem (fs : Fs) (k : Path) (n : Node) (h : (k, n) ∈ fs) : ∃ n', get fs k = some n' :=
  Option.ne_none_iff_exists'.mp
    (get_eq_lookup fs k ▸ fun e => lookup_eq_none_iff_not_mem.mp e (List.mem_map_of_mem (f := (·.1)) h))

theorem swapKey_invol (p q x : Path) (hpq : ¬ p <+: q) (hqp : ¬ q <+: p) : swapKey p q (swapKey p q x) = x := by
  have below : ∀ a b : Path, ¬ a <+: b → ¬ b <+: a → ∀ r, ¬ a <+: b ++ r := fun a b hab hba r h =>
    (List.prefix_or_prefix_of_prefix h (List.prefix_append b r)).elim hab hba
  unfold swapKey
  by_cases h1 : p <+: x
  · simp only [h1, if_true, below p q hpq hqp, if_false, List.prefix_append, List.drop_left]
    exact List.prefix_iff_eq_append.mp h1
  · by_cases h2 : q <+: x
    · simp only [h1, h2, if_false, if_true, List.prefix_append, List.drop_left]
      exact List.prefix_iff_eq_append.mp h2
    · simp [h1, h2]

theorem swapKey_other (p q k : Path) (hp : ¬ p <+: k) (hq : ¬ q <+: k) : swapKey p q k = k := by
  simp [swapKey, hp, hq]

theorem get_moveTree (fs : Fs) (p q k : Path) (hpq : ¬ p <+: q) (hqp : ¬ q <+: p) :
    get (moveTree fs p q) k = get fs (swapKey p q k) := by
  induction fs with
  | nil => rfl
  | cons e r ih =>
    simp only [moveTree, List.map_cons, get] at ih ⊢
    rw [ih]
    have : k = swapKey p q e.1 ↔ swapKey p q k = e.1 :=
      ⟨fun h => h ▸ swapKey_invol p q e.1 hpq hqp, fun h => h ▸ (swapKey_invol p q k hpq hqp).symm⟩
    simp only [this]

theorem no_entry_below (fs : Fs) (q k : Path) (hall : fs.all (fun e => !(q <+: e.1)) = true) (hk : q <+: k) :
    get fs k = none := by
  cases h : get fs k with
  | none => rfl
  | some n =>
    have := List.all_eq_true.mp hall (k, n) (mem_of_get fs k n h)
    simp [hk] at this

theorem moved_cases {fs : Fs} {p q k : Path} {n : Node} (hall : fs.all (fun e => !(q <+: e.1)) = true)
    (h : get fs (swapKey p q k) = some n) :
    (¬ p <+: k ∧ ¬ q <+: k ∧ get fs k = some n) ∨ ∃ r, k = q ++ r ∧ get fs (p ++ r) = some n := by
  unfold swapKey at h
  by_cases h1 : p <+: k
  · rw [if_pos h1, no_entry_below fs q _ hall (List.prefix_append _ _)] at h; cases h
  · rw [if_neg h1] at h
    by_cases h2 : q <+: k
    · obtain ⟨r, rfl⟩ := h2
      rw [if_pos (List.prefix_append _ _), List.drop_left] at h
      exact Or.inr ⟨r, rfl, h⟩
    · rw [if_neg h2] at h
      exact Or.inl ⟨h1, h2, h⟩

theorem step_mkdir_inv {fs fs' : Fs} {p : Path} (h : step fs (.mkdir p) = some fs') :
    fs' = set fs p .dir ∧ p ≠ [] ∧ get fs (parent p) = some .dir ∧ get fs p = none := by
  simp only [step] at h; split at h <;> cases h; rename_i hc; exact ⟨rfl, hc⟩

theorem step_createEmpty_inv {fs fs' : Fs} {p : Path} (h : step fs (.createEmpty p) = some fs') :
    fs' = set fs p (.file []) ∧ p ≠ [] ∧ get fs (parent p) = some .dir ∧ get fs p ≠ some .dir := by
  simp only [step] at h; split at h <;> cases h; rename_i hc; exact ⟨rfl, hc⟩

theorem step_copyFile_inv {fs fs' : Fs} {p : Path} {b : Bytes} (h : step fs (.copyFile p b) = some fs') :
    fs' = set fs p (.file b) ∧ p ≠ [] ∧ get fs (parent p) = some .dir ∧ get fs p ≠ some .dir := by
  simp only [step] at h; split at h <;> cases h; rename_i hc; exact ⟨rfl, hc⟩

theorem step_append_inv {fs fs' : Fs} {p : Path} {b : Bytes} (h : step fs (.append p b) = some fs') :
    ∃ c, fs' = set fs p (.file (c ++ b)) ∧ get fs p = some (.file c) := by
  simp only [step] at h; split at h <;> cases h; rename_i c hg; exact ⟨c, rfl, hg⟩

theorem step_rmtree_inv {fs fs' : Fs} {p : Path} (h : step fs (.rmtree p) = some fs') :
    fs' = fs.filter (fun e => !(p <+: e.1)) ∨ fs' = fs := by
  simp only [step] at h; split at h <;> cases h
  · exact Or.inl rfl
  · exact Or.inr rfl

theorem step_rename_inv {fs fs' : Fs} {p q : Path} (h : step fs (.rename p q) = some fs') :
    q ≠ [] ∧ get fs (parent q) = some .dir ∧
      ((∃ c, fs' = set (del fs p) q (.file c) ∧ get fs p = some (.file c) ∧ get fs q ≠ some .dir)
        ∨ (get fs p = some .dir ∧ get fs q = none ∧ ¬ p <+: q ∧ ¬ q <+: p
            ∧ fs.all (fun e => !(q <+: e.1)) = true ∧ ∀ k, get fs' k = get fs (swapKey p q k))) := by
  simp only [step] at h
  split at h
  · rename_i c hg
    split at h <;> cases h
    rename_i hc
    exact ⟨hc.1, hc.2.1, Or.inl ⟨c, rfl, hg, hc.2.2⟩⟩
  · rename_i hg
    split at h <;> cases h
    rename_i hc
    exact ⟨hc.1, hc.2.1, Or.inr ⟨hg, hc.2.2.1, hc.2.2.2.1, hc.2.2.2.2.1, hc.2.2.2.2.2,
      fun k => get_moveTree fs p q k hc.2.2.2.1 hc.2.2.2.2.1⟩⟩
  · cases h

theorem step_rename_spec (f f' : Fs) (p q : Path) (h : step f (.rename p q) = some f') :
    get f' q = get f p ∧ (p ≠ q → get f' p = none) ∧ get f (parent q) = some .dir := by
  obtain ⟨_, hpar, ⟨c, rfl, hp, _⟩ | ⟨_, hnone, hpq, _, _, hget⟩⟩ := step_rename_inv h
  · exact ⟨by simp [get_set, hp], fun hne => by simp [get_set, get_del, hne], hpar⟩
  · refine ⟨?_, fun _ => ?_, hpar⟩
    · rw [hget]; simp [swapKey, hpq]
    · rw [hget]; simp [swapKey, hnone]

/-- the paths whose lookup an operation may change -/
def touches : Op → Path → Prop
  | .mkdir p, k => k = p
  | .createEmpty p, k => k = p
  | .append p _, k => k = p
  | .copyFile p _, k => k = p
  | .rename p q, k => p <+: k ∨ q <+: k
  | .rmtree p, k => p <+: k

theorem step_frame (fs fs' : Fs) (op : Op) (k : Path) (h : step fs op = some fs')
    (hk : ¬ touches op k) : get fs' k = get fs k := by
  cases op with
  | mkdir p => obtain ⟨rfl, _⟩ := step_mkdir_inv h; exact (get_set ..).trans (if_neg hk)
  | createEmpty p => obtain ⟨rfl, _⟩ := step_createEmpty_inv h; exact (get_set ..).trans (if_neg hk)
  | copyFile p b => obtain ⟨rfl, _⟩ := step_copyFile_inv h; exact (get_set ..).trans (if_neg hk)
  | append p b => obtain ⟨c, rfl, _⟩ := step_append_inv h; exact (get_set ..).trans (if_neg hk)
  | rmtree p =>
    obtain rfl | rfl := step_rmtree_inv h
    · exact (get_rmtree ..).trans (if_neg hk)
    · rfl
  | rename p q =>
    have hp : ¬ p <+: k := fun e => hk (Or.inl e)
    have hq : ¬ q <+: k := fun e => hk (Or.inr e)
    obtain ⟨_, _, ⟨c, rfl, _⟩ | ⟨_, _, _, _, _, hget⟩⟩ := step_rename_inv h
    · have hkq : k ≠ q := fun e => hq (e ▸ List.prefix_refl _)
      have hkp : k ≠ p := fun e => hp (e ▸ List.prefix_refl _)
      rw [get_set, if_neg hkq, get_del, if_neg hkp]
    · rw [hget, swapKey_other p q k hp hq]

theorem run_cons_some {fs x : Fs} {op : Op} {r : List Op} :
    run fs (op :: r) = some x ↔ ∃ m, step fs op = some m ∧ run m r = some x := by
  simp only [run]
  cases step fs op <;> simp

theorem run_append (A B : List Op) (fs : Fs) :
    run fs (A ++ B) = (run fs A).bind (fun f => run f B) := by
  induction A generalizing fs with
  | nil => rfl
  | cons a r ih =>
    simp only [List.cons_append, run]
    cases step fs a with
    | none => rfl
    | some f => exact ih f

theorem run_append_some {fs x : Fs} {A B : List Op} :
    run fs (A ++ B) = some x ↔ ∃ m, run fs A = some m ∧ run m B = some x := by
  rw [run_append]
  cases run fs A <;> simp

/-- `open(p, 'wb')` followed by one `write` -/
theorem run_create_append (f x : Fs) (p : Path) (b : Bytes) (h : run f [.createEmpty p, .append p b] = some x) :
    get x p = some (.file b) ∧ get f (parent p) = some .dir ∧ ∀ k, k ≠ p → get x k = get f k := by
  obtain ⟨f1, h1, h⟩ := run_cons_some.mp h
  obtain ⟨f2, h2, h⟩ := run_cons_some.mp h
  cases h
  obtain ⟨rfl, _, hpar, _⟩ := step_createEmpty_inv h1
  obtain ⟨c, rfl, hc⟩ := step_append_inv h2
  rw [get_set, if_pos rfl] at hc
  cases hc
  exact ⟨by simp [get_set], hpar, fun k hk => by simp [get_set, hk]⟩

theorem run_frame (ops : List Op) (fs fs' : Fs) (k : Path) (h : run fs ops = some fs')
    (hk : ∀ op ∈ ops, ¬ touches op k) : get fs' k = get fs k := by
  induction ops generalizing fs with
  | nil => cases h; rfl
  | cons op rest ih =>
    obtain ⟨fs1, h1, h2⟩ := run_cons_some.mp h
    rw [ih fs1 h2 (fun o ho => hk o (List.mem_cons_of_mem _ ho)), step_frame fs fs1 op k h1 (hk op List.mem_cons_self)]

theorem run_of_runSome {ops : List Op} {fs fs' : Fs} (h : runSome fs ops = (fs', true)) : run fs ops = some fs' := by
  induction ops generalizing fs with
  | nil => cases h; rfl
  | cons op rest ih =>
    simp only [runSome] at h
    simp only [run]
    cases hs : step fs op with
    | some fs1 => rw [hs] at h; exact ih h
    | none => rw [hs] at h; cases h

theorem run_runSome (ops : List Op) (fs x : Fs) (h : run fs ops = some x) : runSome fs ops = (x, true) := by
  induction ops generalizing fs with
  | nil => cases h; rfl
  | cons a r ih =>
    obtain ⟨f, hs, hr⟩ := run_cons_some.mp h
    simp only [runSome, hs]
    exact ih f hr

theorem runSome_false (ops : List Op) (fs : Fs) (h : (runSome fs ops).2 = false) : run fs ops = none := by
  cases hr : run fs ops with
  | none => rfl
  | some x => rw [run_runSome ops fs x hr] at h; cases h

theorem runSome_append_of_run (A B : List Op) (fs f : Fs) (h : run fs A = some f) :
    runSome fs (A ++ B) = runSome f B := by
  induction A generalizing fs with
  | nil => cases h; rfl
  | cons a r ih =>
    obtain ⟨g, hs, hr⟩ := run_cons_some.mp h
    simp only [List.cons_append, runSome, hs]
    exact ih g hr

theorem runSome_prefix (ops : List Op) (fs : Fs) : ∃ j, run fs (ops.take j) = some (runSome fs ops).1 := by
  induction ops generalizing fs with
  | nil => exact ⟨0, rfl⟩
  | cons a r ih =>
    simp only [runSome]
    cases hs : step fs a with
    | none => exact ⟨0, rfl⟩
    | some g =>
      obtain ⟨j, hj⟩ := ih g
      exact ⟨j + 1, by simp [run, hs, hj]⟩

theorem crashOps_none (ops : List Op) (k : Nat) : crashOps ops k none = ops.take k := by
  simp [crashOps]

theorem crashOps_succ (a : Op) (r : List Op) (k : Nat) (cut : Option Nat) :
    crashOps (a :: r) (k + 1) cut = a :: crashOps r k cut := rfl

theorem crashOps_of_length_le (ops : List Op) (k : Nat) (cut : Option Nat) (h : ops.length ≤ k) :
    crashOps ops k cut = ops := by
  unfold crashOps
  rw [List.take_of_length_le h, List.getElem?_eq_none h]
  cases cut <;> simp

theorem mem_crashOps {ops : List Op} {k : Nat} {cut : Option Nat} {op : Op} (h : op ∈ crashOps ops k cut) :
    op ∈ ops ∨ ∃ p b c, op = .append p (b.take c) ∧ .append p b ∈ ops := by
  unfold crashOps at h
  rcases List.mem_append.mp h with h | h
  · exact Or.inl (List.mem_of_mem_take h)
  · split at h
    · rename_i c p b hk _
      exact Or.inr ⟨p, b, c, List.mem_singleton.mp h, List.mem_of_getElem? hk⟩
    · cases h

theorem crashOps_touches (ops : List Op) (k : Nat) (cut : Option Nat) :
    ∀ op ∈ crashOps ops k cut, ∃ op' ∈ ops, ∀ key, touches op key → touches op' key := by
  intro op hop
  rcases mem_crashOps hop with h | ⟨p, b, c, rfl, h⟩
  · exact ⟨op, h, fun _ h => h⟩
  · exact ⟨_, h, fun _ h => h⟩

theorem crashOps_length_le (ops : List Op) (k : Nat) (cut : Option Nat) :
    (crashOps ops k cut).length ≤ (ops.take k).length + 1 := by
  unfold crashOps
  simp only [List.length_append]
  split <;> simp

theorem crashOps_append (A B : List Op) (k : Nat) (cut : Option Nat) :
    crashOps (A ++ B) k cut = if k < A.length then crashOps A k cut else A ++ crashOps B (k - A.length) cut := by
  unfold crashOps
  by_cases h : k < A.length
  · simp only [h, if_true]
    rw [List.take_append_of_le_length (Nat.le_of_lt h), List.getElem?_append_left h]
  · simp only [h, if_false]
    have hge : A.length ≤ k := Nat.le_of_not_lt h
    rw [List.take_append, List.take_of_length_le hge, List.getElem?_append_right hge, List.append_assoc]

theorem crashOps_zero (B : List Op) (cut : Option Nat) (hB : ∀ p b, B.head? ≠ some (.append p b)) :
    crashOps B 0 cut = [] := by
  unfold crashOps
  split
  · rename_i p b hk
    exact absurd (List.head?_eq_getElem? ▸ hk) (hB p b)
  · rfl

theorem crashOps_append_le (A B : List Op) (k : Nat) (cut : Option Nat) (hk : k ≤ A.length)
    (hB : ∀ p b, B.head? ≠ some (.append p b)) : crashOps (A ++ B) k cut = crashOps A k cut := by
  rw [crashOps_append]
  split
  · rfl
  · rename_i h
    cases Nat.le_antisymm hk (Nat.le_of_not_lt h)
    rw [Nat.sub_self, crashOps_zero B cut hB, List.append_nil, crashOps_of_length_le A _ cut (Nat.le_refl _)]

theorem crashOps_snoc (A : List Op) (last : Op) (hl : ∀ p b, last ≠ .append p b) (k : Nat) (cut : Option Nat) :
    crashOps (A ++ [last]) k cut = (if k ≤ A.length then crashOps A k cut else A ++ [last]) := by
  split
  · rename_i h
    exact crashOps_append_le A [last] k cut h (fun p b e => hl p b (Option.some.inj e))
  · rename_i h
    exact crashOps_of_length_le _ k cut (by rw [List.length_append]; exact Nat.lt_of_not_le h)

theorem crashOps_take (A : List Op) (j k : Nat) (cut : Option Nat) :
    crashOps (A.take j) k cut = crashOps A (min k j) (if k < j then cut else none) := by
  unfold crashOps
  by_cases h : k < j
  · have hm : min k j = k := Nat.min_eq_left (Nat.le_of_lt h)
    simp only [h, if_true, hm, List.take_take, List.getElem?_take]
  · have hm : min k j = j := Nat.min_eq_right (Nat.le_of_not_lt h)
    have h1 : (List.take j A)[k]? = none := by simp [List.getElem?_take, h]
    simp only [h, if_false, hm, List.take_take, h1]

/-- `runSome` performs a prefix, and a prefix of `crashOps L k cut` is `L.take j` or the whole list -/
theorem runSome_crashOps_exists (L : List Op) (fs : Fs) (k : Nat) (cut : Option Nat) :
    ∃ k' cut', run fs (crashOps L k' cut') = some (runSome fs (crashOps L k cut)).1 := by
  obtain ⟨j, hj⟩ := runSome_prefix (crashOps L k cut) fs
  by_cases hle : j ≤ (L.take k).length
  · refine ⟨min j k, none, ?_⟩
    rw [crashOps_none]
    have : (crashOps L k cut).take j = L.take (min j k) := by
      unfold crashOps
      rw [List.take_append_of_le_length hle, List.take_take]
    rw [this] at hj; exact hj
  · refine ⟨k, cut, ?_⟩
    have hlen := crashOps_length_le L k cut
    have : (crashOps L k cut).take j = crashOps L k cut := List.take_of_length_le (Nat.le_trans hlen (Nat.lt_of_not_le hle))
    rw [this] at hj; exact hj

theorem run_crashOps_of_run (L : List Op) (fs x : Fs) (h : run fs L = some x) (k : Nat) (cut : Option Nat) :
    ∃ c, run fs (crashOps L k cut) = some c := by
  induction L generalizing fs k with
  | nil => exact ⟨fs, by rw [crashOps_of_length_le [] k cut (Nat.zero_le _)]; rfl⟩
  | cons a r ih =>
    obtain ⟨g, hs, hr⟩ := run_cons_some.mp h
    cases k with
    | succ k =>
      obtain ⟨c, hc⟩ := ih g hr k
      exact ⟨c, by rw [crashOps_succ]; exact run_cons_some.mpr ⟨g, hs, hc⟩⟩
    | zero =>
      unfold crashOps
      split
      · rename_i c p b hk
        cases (Option.some.inj hk : a = .append p b)
        obtain ⟨c0, _, hg⟩ := step_append_inv hs
        exact ⟨set fs p (.file (c0 ++ b.take c)), by simp [run, step, hg]⟩
      · exact ⟨fs, rfl⟩

theorem run_crash_frame (A : List Op) (fs c : Fs) (k : Nat) (cut : Option Nat) (key : Path)
    (hc : run fs (crashOps A k cut) = some c) (hA : ∀ op ∈ A, ¬ touches op key) : get c key = get fs key := by
  refine run_frame _ _ _ _ hc fun op hop htk => ?_
  obtain ⟨op', hop', himp⟩ := crashOps_touches A k cut op hop
  exact hA op' hop' (himp key htk)

end ForML.Fs
