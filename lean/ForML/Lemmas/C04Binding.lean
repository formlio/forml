/-
On a well-formed composition every generation a training commits lists, position by
position, the states of the occurrences behind `Composition.persistent` (registry invariant), and every load through
the positional accessor hands a worker the state of its own occurrence from the selected generation.
-/
import ForML.Lemmas.C04Step

namespace ForML.Persist

namespace Comp

theorem node?_some {c : Comp} {u : Nat} {x : Node} (h : c.node? u = some x) : x ∈ c.nodes ∧ x.uid = u := by
  simp only [node?] at h
  exact ⟨List.mem_of_find?_eq_some h, by simpa using List.find?_some h⟩

theorem mem_visitNodes_iff {c : Comp} {h t : Nat} {x : Node} :
    x ∈ c.visitNodes h t ↔ ∃ u ∈ c.visit h t, c.node? u = some x := by
  simp only [visitNodes, List.mem_filterMap]

theorem mem_visitNodes {c : Comp} {h t : Nat} {n : Node} (hn : n ∈ c.visitNodes h t) : n ∈ c.nodes :=
  have ⟨_, _, hu⟩ := mem_visitNodes_iff.mp hn
  (node?_some hu).1

theorem tag_of_same_gid {c : Comp} (htc : c.tagsConsistent = true) {n m : Node} (hn : n ∈ c.nodes)
    (hm : m ∈ c.nodes) (hg : n.gid = m.gid) : n.tag = m.tag := by
  simp only [tagsConsistent, List.all_eq_true] at htc
  have := htc n hn m hm
  simp only [Bool.or_eq_true, bne_iff_ne, ne_eq, beq_iff_eq] at this
  cases this with
  | inl h => exact absurd hg h
  | inr h => exact h

theorem tagOfGid_of_mem {c : Comp} (htc : c.tagsConsistent = true) {n : Node} (hn : n ∈ c.nodes) :
    c.tagOfGid n.gid = some n.tag := by
  simp only [tagOfGid]
  cases hf : c.nodes.find? (fun m => m.gid == n.gid) with
  | none =>
    have := List.find?_eq_none.mp hf n hn
    simp at this
  | some m =>
    have hm := List.mem_of_find?_eq_some hf
    have hp := List.find?_some hf
    simp only [beq_iff_eq] at hp
    simp only [Option.map_some]
    rw [tag_of_same_gid htc hm hn hp]

end Comp

/-- generation `g` holds, position by position, a state of the occurrence listed in `T`, all of `g`'s own run -/
def GenOk (T : List (Option Nat)) (g : Generation) : Prop :=
  g.states.map (fun s => some s.tag) = T ∧ ∀ s ∈ g.states, s.run = g.run

def RegInv (T : List (Option Nat)) (reg : Registry) : Prop := ∀ g ∈ reg, GenOk T g

theorem RegInv.nil (T : List (Option Nat)) : RegInv T [] := by
  intro g hg; cases hg

theorem RegInv.append {T : List (Option Nat)} {reg : Registry} {g : Generation} (h : RegInv T reg)
    (hg : GenOk T g) : RegInv T (reg ++ [g]) := by
  intro g' hg'
  simp only [List.mem_append, List.mem_singleton] at hg'
  cases hg' with
  | inl h' => exact h g' h'
  | inr h' => rw [h']; exact hg

theorem RegInv.take {T : List (Option Nat)} {reg : Registry} (h : RegInv T reg) (n : Nat) : RegInv T (reg.take n) :=
  fun g hg => h g (List.mem_of_mem_take hg)

/-- the generation `select` names, by its number: the explicit one, or the number of listed generations -/
theorem select_key {reg : Registry} {sel : Option Nat} {g : Generation} (h : select reg sel = .ok (some g)) :
    ∃ k, k ≠ 0 ∧ reg[k - 1]? = some g ∧ (sel = some k ∨ sel = none ∧ k = reg.length) := by
  cases sel with
  | none =>
    simp only [select, Except.ok.injEq] at h
    have hne : reg.length ≠ 0 := fun e => by rw [List.length_eq_zero_iff.mp e] at h; cases h
    exact ⟨reg.length, hne, by rw [← h, List.getLast?_eq_getElem?], .inr ⟨rfl, rfl⟩⟩
  | some k =>
    simp only [select] at h
    split at h
    · cases h
    · rename_i hk0
      cases hk : reg[k - 1]? with
      | none => rw [hk] at h; cases h
      | some g' =>
        rw [hk] at h
        cases h
        exact ⟨k, by simpa using hk0, hk, .inl rfl⟩

theorem select_mem {reg : Registry} {k : Option Nat} {g : Generation} (h : select reg k = .ok (some g)) : g ∈ reg :=
  have ⟨_, _, hk, _⟩ := select_key h
  List.mem_of_getElem? hk

theorem loaded_of_select {reg : Registry} {a : Action} {x : Option Generation} (h : select reg a.gen = .ok x) :
    loaded reg a = x := by
  simp only [loaded, h]

theorem load_gen_ok {P : List Nat} {g : Generation} {gid : Nat} {r : Option Origin}
    (h : Assets.load ⟨P, .ok (some g)⟩ gid = .ok r) :
    P.contains gid = true ∧ ∃ s, g.states[P.idxOf gid]? = some s ∧ r = some s := by
  simp only [Assets.load] at h
  split at h
  · rename_i hc
    cases hs : g.states[List.idxOf gid P]? with
    | none => rw [hs] at h; cases h
    | some s => rw [hs] at h; cases h; exact ⟨hc, s, rfl, rfl⟩
  · cases h

theorem load_own {c : Comp} {T : List (Option Nat)} (hT : c.persistentTags = T) (htc : c.tagsConsistent = true)
    {g : Generation} (hg : GenOk T g) {n : Node} (hn : n ∈ c.nodes) (hc : c.persistent.contains n.gid = true)
    {s : Origin} (hs : g.states[c.persistent.idxOf n.gid]? = some s) : s.tag = n.tag ∧ s.run = g.run := by
  refine ⟨?_, hg.2 s (List.mem_of_getElem? hs)⟩
  have h1 : (g.states.map (fun s => some s.tag))[List.idxOf n.gid c.persistent]? = some (some s.tag) := by
    rw [List.getElem?_map, hs]; rfl
  rw [hg.1, ← hT] at h1
  simp only [Comp.persistentTags, List.getElem?_map, getElem?_idxOf (List.contains_iff_mem.mp hc), Option.map_some,
    Comp.tagOfGid_of_mem htc hn, Option.some.injEq] at h1
  exact h1.symm

theorem load_none_of_nogen {P : List Nat} {gid : Nat} {r : Option Origin}
    (h : Assets.load ⟨P, .ok none⟩ gid = .ok r) : r = none := by
  simp only [Assets.load] at h
  split at h
  · cases h; rfl
  · cases h

theorem obsOk_applied {reg : Registry} {a : Action} (hk : a.kind ≠ .train) (tag : Nat) (s : Option Origin) :
    obsOk reg a (.applied tag a.hp s) = match loaded reg a with
      | some g => boundTo g tag s
      | none => true := by
  cases hkind : a.kind with
  | train => exact absurd hkind hk
  | apply | serve | perftrack => simp only [obsOk, hkind, beq_self_eq_true, Bool.true_and]; rfl

/-- what a worker loads through the positional accessor satisfies the property, as the state a trainer starts from
and as the state an applied worker holds: its own state of the generation the action selects (none on an empty
release) -/
theorem obsOk_of_load {c : Comp} {T : List (Option Nat)} (hT : c.persistentTags = T) (htc : c.tagsConsistent = true)
    {reg : Registry} (hreg : RegInv T reg) {a : Action} {n : Node} (hn : n ∈ c.nodes) {s : Option Origin}
    (h : Assets.load ⟨c.persistent, select reg a.gen⟩ n.gid = .ok s) :
    obsOk reg a (.trained n.tag a.hp s) = true ∧ (a.kind ≠ .train → obsOk reg a (.applied n.tag a.hp s) = true) := by
  cases hsel : select reg a.gen with
  | error e =>
    rw [hsel] at h
    simp only [Assets.load] at h
    split at h <;> cases h
  | ok x =>
    have hl := loaded_of_select hsel
    cases x with
    | none =>
      cases load_none_of_nogen (hsel ▸ h)
      exact ⟨by simp [obsOk], fun hk => by rw [obsOk_applied hk, hl]⟩
    | some g =>
      obtain ⟨hc, o, ho, rfl⟩ := load_gen_ok (hsel ▸ h)
      obtain ⟨h1, h2⟩ := load_own hT htc (hreg g (select_mem hsel)) hn hc ho
      exact ⟨by simp [obsOk, hl, h1, h2], fun hk => by rw [obsOk_applied hk, hl]; simp [boundTo, h1, h2]⟩

theorem newState_tag_run {a : Assets} {run hp : Nat} {n : Node} {s : Origin} (h : newState a run hp n = .ok s) :
    s.tag = n.tag ∧ s.run = run := by
  simp only [newState] at h
  cases hp' : prevOf a n with
  | error e => rw [hp'] at h; cases h
  | ok prev => rw [hp'] at h; cases h; exact ⟨rfl, rfl⟩

theorem trainerOf_spec {order : List Node} {g : Nat} {t : Node} (h : trainerOf order g = some t) :
    t ∈ order ∧ t.trained = true ∧ t.gid = g := by
  have hm := List.mem_of_find?_eq_some h
  have hp := List.find?_some h
  simp only [Bool.and_eq_true, beq_iff_eq] at hp
  exact ⟨hm, hp.1.2, hp.2⟩

theorem trainerOf_none_of_untrained {order : List Node} (h : ∀ n ∈ order, n.trained = false) (g : Nat) :
    trainerOf order g = none := by
  simp only [trainerOf]
  apply List.find?_eq_none.mpr
  intro n hn
  simp [h n hn]

/-- the state committed for a group is the new state of its trainer in the table -/
theorem committedState_spec {order : List Node} {a : Assets} {run hp g : Nat} {s : Origin}
    (h : committedState order a run hp g = .ok s) : ∃ t, trainerOf order g = some t ∧ newState a run hp t = .ok s := by
  simp only [committedState] at h
  cases ht : trainerOf order g with
  | none => rw [ht] at h; cases h
  | some t => rw [ht] at h; exact ⟨t, rfl, h⟩

/-- a derived worker is preset with the new state of its group's trainer if that is part of the table, else with what
it loads -/
theorem receive_spec {c : Comp} {order : List Node} {a : Assets} {run hp : Nat} {n : Node} {s : Option Origin}
    (hd : c.derived n = true) (h : receive c order a run hp n = .ok s) :
    (∃ t s', trainerOf order n.gid = some t ∧ newState a run hp t = .ok s' ∧ s = some s') ∨
      (trainerOf order n.gid = none ∧ a.has n.gid = true ∧ a.load n.gid = .ok s) := by
  simp only [receive, hd, Bool.or_true, if_true] at h
  cases ht : trainerOf order n.gid with
  | some t =>
    simp only [ht] at h
    cases hns : newState a run hp t with
    | error e => rw [hns] at h; cases h
    | ok s' => rw [hns] at h; cases h; exact .inl ⟨t, s', rfl, hns, rfl⟩
  | none =>
    simp only [ht] at h
    split at h
    · rename_i hhas
      exact .inr ⟨rfl, hhas, h⟩
    · cases h

theorem commit_genOk {c : Comp} (htc : c.tagsConsistent = true) {order : List Node}
    (hsub : ∀ n ∈ order, n ∈ c.nodes) {gen : Except Err (Option Generation)} {run hp : Nat} {g : Generation}
    (h : commit order ⟨c.persistent, gen⟩ run hp = .ok (some g)) : GenOk c.persistentTags g := by
  simp only [commit] at h
  split at h
  · cases hm : mapE (committedState order ⟨c.persistent, gen⟩ run hp) c.persistent with
    | error e => simp only [hm] at h; cases h
    | ok states =>
      simp only [hm] at h
      cases h
      constructor
      · show states.map (fun s => some s.tag) = c.persistent.map c.tagOfGid
        apply mapE_ok_map hm
        intro gid _ s hs
        obtain ⟨t, ht, hns⟩ := committedState_spec hs
        obtain ⟨htm, _, htg⟩ := trainerOf_spec ht
        rw [(newState_tag_run hns).1, ← htg, Comp.tagOfGid_of_mem htc (hsub t htm)]
      · intro s hs
        show s.run = run
        obtain ⟨gid, _, hgs⟩ := mapE_ok_mem hm s hs
        obtain ⟨t, _, hns⟩ := committedState_spec hgs
        exact (newState_tag_run hns).2
  · cases h

theorem commit_none_of_untrained {order : List Node} (h : ∀ n ∈ order, n.trained = false) (a : Assets)
    (run hp : Nat) : commit order a run hp = .ok none := by
  simp only [commit]
  have : (order.any fun n => n.stateful && n.trained && a.has n.gid) = false := by
    apply List.any_eq_false.mpr
    intro n hn
    simp [h n hn]
  simp [this]

theorem mem_observeAll {c : Comp} {order : List Node} {a : Assets} {run hp : Nat} {obs : List Obs}
    (h : observeAll c order a run hp = .ok obs) {o : Obs} (ho : o ∈ obs) :
    ∃ n ∈ order, n.stateful = true ∧
      ((n.trained = true ∧ ∃ prev, prevOf a n = .ok prev ∧ o = .trained n.tag hp prev) ∨
        (n.trained = false ∧ ∃ s, receive c order a run hp n = .ok s ∧ o = .applied n.tag hp s)) := by
  simp only [observeAll] at h
  cases hm : mapE (observe c order a run hp) order with
  | error e => rw [hm] at h; cases h
  | ok oss =>
    rw [hm] at h
    cases h
    obtain ⟨os, hos, hoos⟩ := List.mem_flatten.mp ho
    obtain ⟨n, hn, hno⟩ := mapE_ok_mem hm os hos
    refine ⟨n, hn, ?_⟩
    unfold observe at hno
    cases hst : n.stateful with
    | false => simp only [hst, Bool.not_false, if_true, Except.ok.injEq] at hno; subst hno; cases hoos
    | true =>
      refine ⟨rfl, ?_⟩
      simp only [hst, Bool.not_true, Bool.false_eq_true, if_false] at hno
      split at hno
      · rename_i htr
        split at hno
        · cases hno
        · rename_i prev hp'
          cases hno
          exact .inl ⟨htr, prev, hp', List.mem_singleton.mp hoos⟩
      · rename_i htr
        split at hno
        · cases hno
        · rename_i s hrc
          cases hno
          exact .inr ⟨by simpa using htr, s, hrc, List.mem_singleton.mp hoos⟩

end ForML.Persist
