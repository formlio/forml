/-
C01 — the central semantic lemma: in any table with the symbols of `specTable g A` (well-formed `g`,
compatible `A`) the functor of worker `n` denotes `nodeVal g A evalFuel n`, the committer denotes
`commitVal g A`. Induction over the fuel of `nodeVal`, using the bounded rank `cntW`.
-/
import ForML.Lemmas.C01Spec

namespace ForML.Flow
namespace Segment

/-- value published on the port an edge starts from, given the values of the nodes -/
def portValOf (g : Segment) (rec : Uid → Val) (e : Edge) : Val :=
  match g.worker? e.pub with
  | some p => if p.szout = 1 then rec e.pub else .proj e.pubPort (rec e.pub)
  | none => .error .unbound

theorem nodeVal_succ (g : Segment) (A : Option Assets) (f : Nat) (n : Uid) :
    nodeVal g A (f + 1) n =
      match g.worker? n with
      | none => .error .unbound
      | some w =>
        if g.trained n then
          match g.publisher n .train, g.publisher n .label with
          | some x, some y =>
            .state w.actor (if w.stateful then (storedState A w.gid).asState else .none)
              (portValOf g (nodeVal g A f) x) (portValOf g (nodeVal g A f) y)
          | _, _ => .error .arity
        else
          .apply w.actor
            (if !w.stateful then .none
             else match g.trainerOf w.gid with
               | some t => (nodeVal g A f t.uid).asState
               | none => (storedState A w.gid).asState)
            ((List.range w.szin).filterMap (fun i => (g.publisher n (.apply i)).map (portValOf g (nodeVal g A f)))) := by
  rfl

theorem nodeVal_trained {g : Segment} {A : Option Assets} {f : Nat} {n : Uid} {w : Worker} {x y : Edge}
    (hw : g.worker? n = some w) (htr : g.trained n = true) (hx : g.publisher n .train = some x)
    (hy : g.publisher n .label = some y) :
    nodeVal g A (f + 1) n =
      .state w.actor (if w.stateful then (storedState A w.gid).asState else .none)
        (portValOf g (nodeVal g A f) x) (portValOf g (nodeVal g A f) y) := by
  rw [nodeVal_succ, hw]
  simp only [htr, if_true, hx, hy]

theorem nodeVal_applied {g : Segment} {A : Option Assets} {f : Nat} {n : Uid} {w : Worker}
    (hw : g.worker? n = some w) (htr : g.trained n = false) :
    nodeVal g A (f + 1) n =
      .apply w.actor
        (if !w.stateful then .none
         else match g.trainerOf w.gid with
           | some t => (nodeVal g A f t.uid).asState
           | none => (storedState A w.gid).asState)
        ((List.range w.szin).filterMap (fun i => (g.publisher n (.apply i)).map (portValOf g (nodeVal g A f)))) := by
  rw [nodeVal_succ, hw]
  simp only [htr, Bool.false_eq_true, if_false]

theorem getterSym_mem {g : Segment} {A : Option Assets} {rank : Uid → Nat} (h : WF g rank) {e : Edge} (he : e ∈ g.edges)
    {p : Worker} (hp : g.worker? e.pub = some p) (hne : p.szout ≠ 1) :
    (⟨.getter e.pub e.pubPort, .getter e.pubPort, [.uid e.pub]⟩ : Symbol) ∈ g.specTable A := by
  obtain ⟨hpm, hpu⟩ := worker?_some hp
  obtain ⟨p', hp', hlt⟩ := (h.edge e he).pub
  rw [hp] at hp'; cases hp'
  apply mem_specTable.mpr
  refine Or.inr (Or.inl ⟨p, hpm,
    mem_getterSyms.mpr ⟨publisher_untrained h he hp, hne, e.pubPort, hlt, ?_, by rw [hpu]⟩⟩)
  intro hnil
  have : e ∈ g.subscribers p.uid e.pubPort := by
    simp [subscribers, he, hpu]
  rw [hnil] at this; cases this

section
variable {g : Segment} {A : Option Assets} {rank : Uid → Nat} {t : Table}

theorem Denotes.portVal (hd : Denotes g A t) (h : WF g rank) (rec : Uid → Val) {e : Edge} (he : e ∈ g.edges)
    (hrec : rec e.pub = Table.value A t t.fuel (.uid e.pub)) :
    portValOf g rec e = Table.value A t t.fuel (g.portKey e) := by
  obtain ⟨p, hp, _⟩ := (h.edge e he).pub
  unfold portValOf portKey
  rw [hp]
  simp only
  split
  · exact hrec
  · rename_i hne
    rw [hd.value_getter h (getterSym_mem h he hp hne), hrec]

/-- **functor of `n` = direct evaluation of `n`**, for every fuel exceeding the bounded rank -/
theorem Denotes.nodeVal (hd : Denotes g A t) (h : WF g rank) (hA : AssetsOK g A) :
    ∀ f n w, g.worker? n = some w → g.cntW rank n < f →
      nodeVal g A f n = Table.value A t t.fuel (.uid n) := by
  intro f
  induction f with
  | zero => intro n w _ hc; omega
  | succ f ih =>
    intro n w hw hc
    obtain ⟨hwm, rfl⟩ := worker?_some hw
    have ih' : ∀ p pw, g.worker? p = some pw → rank p < rank w.uid →
        Segment.nodeVal g A f p = Table.value A t t.fuel (.uid p) := by
      intro p pw hp hlt
      exact ih p pw hp (by have := cntW_lt hwm hlt; omega)
    have hport : ∀ e ∈ g.edges, e.sub = w.uid →
        portValOf g (Segment.nodeVal g A f) e = Table.value A t t.fuel (g.portKey e) := by
      intro e he hsub
      obtain ⟨p, hp, _⟩ := (h.edge e he).pub
      exact hd.portVal h _ he (ih' e.pub p hp (by have := (h.edge e he).rank; rw [hsub] at this; exact this))
    rw [hd.value_functor h hwm]
    cases htr : g.trained w.uid with
    | true =>
      have hT := h.trainedOK hwm htr
      obtain ⟨x, hx⟩ := hT.train
      obtain ⟨y, hy⟩ := hT.label
      have hxe := publisher_some hx
      have hye := publisher_some hy
      have hdata : g.dataArgs w = [g.portKey x, g.portKey y] := by
        simp [dataArgs, htr, hx, hy]
      have hsrc : g.stateSrc w = .loader w.gid := by simp [stateSrc, isTrainer_of_trained h hwm htr]
      rw [nodeVal_trained hw htr hx hy]
      simp only [hT.stateful, if_true, functorSym, isTrainer_of_trained h hwm htr, hasPreset_trained h hwm htr, hsrc,
        hdata, List.map_append, apply_ite (List.map _), List.map_cons, List.map_nil, exec_train_opt,
        hd.preset_stored h hwm hT.stateful, hport x hxe.1 hxe.2.1, hport y hye.1 hye.2.1]
    | false =>
      rw [nodeVal_applied hw htr]
      have hisT : g.isTrainer w = false := by simp [isTrainer, htr]
      have hdata : (g.dataArgs w).map (Table.value A t t.fuel) =
          (List.range w.szin).filterMap
            (fun i => (g.publisher w.uid (.apply i)).map (portValOf g (Segment.nodeVal g A f))) := by
        simp only [dataArgs, htr, Bool.false_eq_true, if_false, List.map_filterMap]
        apply filterMap_congr
        intro i _
        cases hpub : g.publisher w.uid (.apply i) with
        | none => rfl
        | some e =>
          have he := publisher_some hpub
          simp [hport e he.1 he.2.1]
      simp only [Bool.false_eq_true, if_false, functorSym, hisT, List.map_append, hdata, apply_ite (List.map _),
        List.map_cons, List.map_nil, exec_apply_opt]
      cases hst : w.stateful with
      | false => simp [hasPreset, hst]
      | true =>
        simp only [Bool.not_true, Bool.false_eq_true, if_false]
        cases htO : g.trainerOf w.gid with
        | some tw =>
          -- the state of the group's trainer, which the numbering puts first
          obtain ⟨htm, htg, htt⟩ := trainerOf_some htO
          have hne : tw.uid ≠ w.uid := fun e => by rw [e, htr] at htt; cases htt
          have hpre : g.hasPreset A w = true := by simp [hasPreset, hst, derived_fork hst htO hne]
          have hsrc : g.stateSrc w = .uid tw.uid := by simp [stateSrc, hisT, htO]
          simp only [hpre, if_true, hsrc,
            ih' tw.uid tw (worker?_of_mem h.nodup htm) ((h.group tw htm w hwm htg).2.2 htt hne).2]
        | none =>
          have hsrc : g.stateSrc w = .loader w.gid := by simp [stateSrc, hisT, htO]
          simp only [hasPreset_no_trainer hA hwm hst htO, hsrc, hd.preset_stored h hwm hst]

theorem Denotes.value_uid (hd : Denotes g A t) (h : WF g rank) (hA : AssetsOK g A) {w : Worker} (hw : w ∈ g.workers) :
    Table.value A t t.fuel (.uid w.uid) = Segment.nodeVal g A g.evalFuel w.uid :=
  (hd.nodeVal h hA g.evalFuel w.uid w (worker?_of_mem h.nodup hw)
    (by have := cntW_le g rank w.uid; simp only [evalFuel]; omega)).symm

theorem Denotes.value_commit (hd : Denotes g A t) (h : WF g rank) (hA : AssetsOK g A) {c : Val}
    (hc : g.commitVal A = some c) :
    (∃ s ∈ t, s.id = Key.committer) ∧ Table.value A t t.fuel .committer = c := by
  cases A with
  | none => simp [commitVal] at hc
  | some As =>
    have hAs : (some As : Option Assets) = some As := rfl
    simp only [commitVal] at hc
    split at hc
    · rename_i hany
      cases hc
      simp only [List.any_eq_true] at hany
      obtain ⟨γ₀, hγ₀, hsome₀⟩ := hany
      have hall := hA.all_trained hAs hγ₀ hsome₀
      obtain ⟨t₀, ht₀⟩ := Option.isSome_iff_exists.mp hsome₀
      obtain ⟨ht₀m, ht₀T, ht₀P⟩ := persistent_trainer h hAs hγ₀ ht₀
      have hmem : (⟨.committer, .committer,
          As.persistent.filterMap (fun γ => (g.trainerOf γ).map (fun t => Key.dumper t.uid))⟩ : Symbol)
            ∈ g.specTable (some As) :=
        mem_specTable.mpr (Or.inr (Or.inr (Or.inr (Or.inr
          (mem_committerSyms.mpr ⟨As, hAs, ⟨t₀, ht₀m, ht₀T, ht₀P⟩, rfl⟩)))))
      refine ⟨⟨_, (hd _).mpr hmem, rfl⟩, ?_⟩
      have hv := hd.value_sym h hmem
      simp only at hv
      rw [hv]
      have hexec : ∀ vs, exec (some As) .committer vs = As.commit vs := by intro vs; rfl
      rw [hexec]
      congr 1
      -- both lists run over the persistent groups, each of which has its trainer here
      rw [List.map_filterMap, ← List.filterMap_eq_map]
      refine filterMap_congr fun γ hγ => ?_
      obtain ⟨tw, htw⟩ := Option.isSome_iff_exists.mp (hall γ hγ)
      obtain ⟨htm, htT, htP⟩ := persistent_trainer h hAs hγ htw
      have hdump : (⟨.dumper tw.uid, .dumper, [.uid tw.uid]⟩ : Symbol) ∈ g.specTable (some As) :=
        mem_specTable.mpr (Or.inr (Or.inr (Or.inr (Or.inl (mem_dumperSyms.mpr ⟨tw, htm, htT, htP, rfl⟩)))))
      simp only [htw, Option.map_some, Function.comp, hd.value_dumper h hAs hdump, hd.value_uid h hA htm]
    · cases hc

theorem Denotes.no_commit (hd : Denotes g A t) (hc : g.commitVal A = none) : ∀ s ∈ t, s.id ≠ Key.committer := by
  intro s hs hid
  obtain ⟨As, hAs, ⟨w, hw, hT, hP⟩, _⟩ := mem_committerSyms.mp (spec_committer ((hd s).mp hs) hid)
  subst hAs
  simp only [commitVal] at hc
  split at hc
  · cases hc
  · rename_i hany
    apply hany
    simp only [List.any_eq_true]
    simp only [persistentW, Bool.and_eq_true, Assets.contains] at hP
    refine ⟨w.gid, (indexOf_isSome_iff _ _).mp hP.2, ?_⟩
    unfold trainerOf
    rw [List.find?_isSome]
    exact ⟨w, hw, by simp [trained_of_isTrainer hT]⟩

end

end Segment

theorem commitVal_trained {g : Segment} {As : Assets} {γ : Gid} (hγ : γ ∈ As.persistent) (hs : (g.trainerOf γ).isSome) :
    g.commitVal (some As) = some (As.commit (As.persistent.map fun p =>
      match g.trainerOf p with
      | some t => .dumped (g.nodeVal (some As) g.evalFuel t.uid)
      | none => .error .unbound)) := by
  simp only [Segment.commitVal]
  rw [if_pos (List.any_eq_true.mpr ⟨γ, hγ, hs⟩)]
  rfl

end ForML.Flow
