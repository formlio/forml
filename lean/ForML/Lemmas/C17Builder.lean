/- C17: the variant list `ABTest.Builder` hands to the constructor is the declared one (lemmas). -/
import ForML.Model.StrategyBuilder

namespace ForML.Strategy

theorem foldl_over (args : List VArg) : ∀ (pre : List Variant) (v : Variant),
    args.foldl Builder.over (pre ++ [v]) = pre ++ v :: declaredFrom v.project v.release args := by
  induction args with
  | nil => intro pre v; simp [declaredFrom]
  | cons a rest ih =>
    intro pre v
    simp only [List.foldl_cons, declaredFrom]
    have hstep : Builder.over (pre ++ [v]) a =
        (pre ++ [v]) ++ [⟨a.project.getD v.project, a.release.getD v.release, a.generation, a.target⟩] := by
      simp [Builder.over]
    rw [hstep, ih]
    simp

theorem build_eq_declared (first : Variant) (args : List VArg) :
    Builder.build first args = declared first args := by
  have := foldl_over args [] first
  simpa [Builder.build, declared] using this

theorem declaredFrom_length (p r : Nat) (args : List VArg) : (declaredFrom p r args).length = args.length := by
  induction args generalizing p r with
  | nil => rfl
  | cons a rest ih => simp [declaredFrom, ih]

theorem declaredFrom_targets (p r : Nat) (args : List VArg) :
    (declaredFrom p r args).map (·.target) = args.map (·.target) := by
  induction args generalizing p r with
  | nil => rfl
  | cons a rest ih => simp only [declaredFrom, List.map_cons, ih]

theorem declaredFrom_last (x : Variant) (p r : Nat) (args : List VArg) (a : VArg) :
    ∃ p' r', (x :: declaredFrom p r (args ++ [a])).getLast? =
      some ⟨a.project.getD p', a.release.getD r', a.generation, a.target⟩ := by
  induction args generalizing x p r with
  | nil => exact ⟨p, r, rfl⟩
  | cons b rest ih =>
    obtain ⟨p', r', h⟩ := ih ⟨b.project.getD p, b.release.getD r, b.generation, b.target⟩ (b.project.getD p)
      (b.release.getD r)
    exact ⟨p', r', by rw [List.cons_append, declaredFrom, List.getLast?_cons_cons]; exact h⟩

end ForML.Strategy
