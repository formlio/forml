/-
The whole table through `text/csv` (writer, tokeniser, transposition, type inference) under the verdict `same`.
-/
import ForML.Lemmas.C19TableCol

namespace ForML.Codec

/-- **any format**: a frame that holds, under each column's name, cells that are the column's cell by cell is the same table -/
theorem frame_same (cols : List Column) (back : Column → List Val) (h : ∀ c ∈ cols, sameCells (back c) c.cells = true) :
    (Frame.table (cols.map fun c => (c.name, back c)) (cols.map (·.kind))).same ⟨cols⟩ = true := by
  have hcols : ((cols.map fun c => (c.name, back c)).zip (cols.map (·.kind))).map (fun x : (Str × List Val) × Kind => Column.mk x.1.1 x.2 x.1.2)
      = cols.map fun c => ⟨c.name, c.kind, back c⟩ := by
    rw [List.zip_map', List.map_map]; rfl
  unfold Frame.table Table.same
  simp only [hcols, List.map_map, List.length_map, Bool.and_eq_true, beq_iff_eq, BEq.rfl, and_true]
  refine ⟨by simp [Function.comp_def], ?_⟩
  -- both sides of the zip as maps of `cols`
  rw [← List.map_id cols, List.map_map, List.zip_map', List.all_map, List.all_eq_true]
  exact h

/-- for the verdicts: a cause other than the first one is decided further down -/
theorem ite_eq_iff_of_ne {α : Sort u} {c : Prop} [Decidable c] {v e x : α} (hv : v ≠ x) :
    (if c then v else e) = x ↔ ¬ c ∧ e = x := by
  split <;> simp [*]

/-- what `csvVerdict = same` says of a table, one field per cause ruled out -/
structure CsvFacts (t : Table) : Prop where
  ne : t.cols ≠ []
  rows : t.nrows ≠ 0
  cr : ∀ c ∈ t.cols, ∀ f ∈ c.name :: c.csvTexts, fieldOK f = true
  blank : t.cols.length = 1 → ∀ c ∈ t.cols, ∀ f ∈ c.name :: c.csvTexts, f.isEmpty = true ∨ f.all blank = false
  kept : ∀ c ∈ t.cols, c.kind = .str → c.csvTextKept = true

theorem csvFacts_of_verdict (t : Table) (hv : t.csvVerdict = .same) : CsvFacts t := by
  unfold Table.csvVerdict at hv
  rw [ite_eq_iff_of_ne (by decide), ite_eq_iff_of_ne (by decide), ite_eq_iff_of_ne (by decide), ite_eq_iff_of_ne (by decide)] at hv
  obtain ⟨h1, h2, h3, h4, _⟩ := hv
  simp only [Bool.or_eq_true, beq_iff_eq, not_or] at h1
  simp only [Bool.not_eq_true', Bool.not_eq_false] at h2 h4
  refine ⟨?_, h1.2, ?_, ?_, ?_⟩
  · intro e; rw [e] at h1; simp at h1
  · intro c hc f hf
    have := List.all_eq_true.mp h2 c hc
    unfold Column.csvCRfree at this
    exact List.all_eq_true.mp this f hf
  · intro hlen c hc f hf
    simp only [hlen, BEq.rfl, Bool.true_and] at h3
    have h3' := Bool.eq_false_iff.mpr h3
    have h4' := List.any_eq_false.mp h3' c hc
    have h5 := List.any_eq_false.mp (Bool.eq_false_iff.mpr h4') f hf
    cases he : f.isEmpty
    · cases hb : f.all blank
      · right; rfl
      · simp [he, hb] at h5
    · left; rfl
  · intro c hc hk
    have := List.all_eq_true.mp h4 c hc
    simpa [hk] using this

/-- `Table.wf` as propositions (the non-empty names are not needed) -/
structure WfFacts (t : Table) : Prop where
  len : ∀ c ∈ t.cols, c.cells.length = t.nrows
  kinds : ∀ c ∈ t.cols, c.cells.all (Val.ofKind c.kind) = true
  nonnull : t.nrows ≠ 0 → ∀ c ∈ t.cols, c.cells.any (· != .null) = true
  names : (t.cols.map (·.name)).Nodup

theorem wfFacts (t : Table) (h : t.wf = true) : WfFacts t := by
  unfold Table.wf at h
  simp only [Bool.and_eq_true, decide_eq_true_eq, List.all_eq_true, beq_iff_eq, Bool.or_eq_true] at h
  obtain ⟨⟨hn, _⟩, hc⟩ := h
  refine ⟨fun c hc' => (hc c hc').1.2, fun c hc' => List.all_eq_true.mpr (hc c hc').1.1, ?_, hn⟩
  intro hr c hc'
  rcases (hc c hc').2 with h0 | h1
  · exact absurd h0 hr
  · exact h1

theorem recordOK_pick (t : Table) (F : CsvFacts t) (pick : Column → Str)
    (hpick : ∀ c ∈ t.cols, pick c ∈ c.name :: c.csvTexts) : recordOK (t.cols.map pick) = true := by
  unfold recordOK
  simp only [Bool.and_eq_true, Bool.not_eq_true', List.all_eq_true]
  cases hc : t.cols with
  | nil => exact absurd hc F.ne
  | cons c r =>
    have hmem : ∀ x ∈ c :: r, x ∈ t.cols := fun x hx => hc ▸ hx
    refine ⟨⟨rfl, ?_⟩, ?_⟩
    · intro f hf
      obtain ⟨x, hx, rfl⟩ := List.mem_map.mp hf
      exact F.cr x (hmem x hx) _ (hpick x (hmem x hx))
    · cases r with
      | nil =>
        rcases F.blank (by rw [hc]; rfl) c (hmem c (by simp)) _ (hpick c (hmem c (by simp))) with h | h <;> simp [h]
      | cons c2 r2 => simp

/-- **`text/csv` round trip**: a well-formed table whose verdict is `same` is decoded from its own encoding as the same table -/
theorem table_csv_roundtrip (t : Table) (hwf : t.wf = true) (hv : t.csvVerdict = .same) :
    ∃ f, csvDecode t.csv = some f ∧ (Frame.table f (t.cols.map (·.kind))).same t = true := by
  have F := csvFacts_of_verdict t hv
  have W := wfFacts t hwf
  have htlen : ∀ col ∈ t.cols.map Column.csvTexts, col.length = t.nrows := by
    intro col hcol
    obtain ⟨c, hc, rfl⟩ := List.mem_map.mp hcol
    simp [Column.csvTexts, W.len c hc]
  have hrec : ∀ r ∈ t.csvRecords, recordOK r = true := by
    intro r hr
    unfold Table.csvRecords at hr
    rcases List.mem_cons.mp hr with rfl | hrow
    · exact recordOK_pick t F (·.name) (fun c _ => by simp)
    · simp only [toRows, List.mem_map, List.mem_range] at hrow
      obtain ⟨i, hi, rfl⟩ := hrow
      rw [rowAt, List.map_map]
      exact recordOK_pick t F _ fun c hc => List.mem_cons_of_mem _
        (getD'_mem _ _ _ (by rw [htlen _ (List.mem_map.mpr ⟨c, hc, rfl⟩)]; exact hi))
  have hlens : (toRows (t.cols.map Column.csvTexts) [] t.nrows).all (fun r => r.length == (t.cols.map (·.name)).length) = true := by
    rw [List.all_eq_true]
    intro r hr
    simp [toRows_row_length _ _ _ r hr]
  have hcols : toCols (toRows (t.cols.map Column.csvTexts) [] t.nrows) [] (t.cols.map (·.name)).length = t.cols.map Column.csvTexts := by
    simpa using toCols_toRows (t.cols.map Column.csvTexts) [] t.nrows htlen
  refine ⟨(t.cols.map (·.name)).zip ((t.cols.map Column.csvTexts).map readColumn), ?_, ?_⟩
  · unfold csvDecode
    rw [show csvRead t.csv = t.csvRecords from csvRead_csvText _ hrec]
    unfold Table.csvRecords
    simp only [hlens, if_true, hcols]
  · rw [List.map_map, List.zip_map']
    exact frame_same t.cols _ fun c hc => column_csv c (W.kinds c hc) (W.nonnull F.rows c hc) (F.kept c hc)

end ForML.Codec
