/-
Memoised functions over histories (Model/EntryMemo.lean): a memo whose key determines the answer is invisible.
-/
import ForML.Model.EntryMemo
import ForML.Lemmas.C15Kind
import ForML.Lemmas.ListFacts
set_option linter.unusedSectionVars false
namespace ForML.Entry

section memo
variable {α κ β : Type} [DecidableEq κ]

/-- every stored answer is the function's answer for every (good) argument filed under that key -/
def MemoInv (key : α → κ) (f : α → β) (Good : α → Prop) (m : Cache κ β) : Prop :=
  ∀ k r, (k, r) ∈ m → ∀ x, Good x → key x = k → f x = r

/-- the key determines the answer (among the good arguments) -/
def KeySound (key : α → κ) (f : α → β) (Good : α → Prop) : Prop :=
  ∀ x y, Good x → Good y → key x = key y → f x = f y

theorem lookup_none_of_nil (k : κ) : ([] : Cache κ β).lookup k = none := rfl

theorem MemoInv.nil (key : α → κ) (f : α → β) (Good : α → Prop) : MemoInv key f Good [] := by
  intro k r h; cases h

theorem MemoInv.sub (key : α → κ) (f : α → β) (Good : α → Prop) (m m' : Cache κ β)
    (h : MemoInv key f Good m) (hs : ∀ p ∈ m', p ∈ m) : MemoInv key f Good m' :=
  fun k r hm => h k r (hs _ hm)

theorem trim_sub {γ : Type} (cap : Option Nat) (l : List γ) : ∀ p ∈ trim cap l, p ∈ l := by
  intro p hp
  cases cap with
  | none => exact hp
  | some n => exact List.mem_of_mem_take hp

/-- one call: the answer is the function's answer, and the cache stays right -/
theorem memoCall_spec (cap : Option Nat) (key : α → κ) (f : α → β) (store : β → Bool) (Good : α → Prop)
    (hs : KeySound key f Good) (m : Cache κ β) (hinv : MemoInv key f Good m) (x : α) (hx : Good x) :
    (memoCall cap key f store m x).1 = f x ∧ MemoInv key f Good (memoCall cap key f store m x).2 := by
  unfold memoCall
  cases hl : m.lookup (key x) with
  | some r =>
    have hm := mem_of_lookup hl
    have hr : f x = r := hinv _ _ hm x hx rfl
    refine ⟨hr.symm, ?_⟩
    intro k r' hmem y hy hk
    rcases List.mem_cons.mp hmem with heq | hin
    · cases heq; exact (hs y x hy hx hk).trans hr
    · exact hinv k r' (List.mem_filter.mp hin).1 y hy hk
  | none =>
    simp only
    split
    · refine ⟨rfl, ?_⟩
      intro k r' hmem y hy hk
      rcases List.mem_cons.mp (trim_sub cap _ _ hmem) with heq | hin
      · cases heq; exact hs y x hy hx hk
      · exact hinv k r' hin y hy hk
    · exact ⟨rfl, hinv⟩

/-- **a history through a memo whose key determines the answer**: every call is answered as if nothing had been
asked before — whatever the capacity, the eviction and the (correct) initial content of the cache -/
theorem memoRun_eq (cap : Option Nat) (key : α → κ) (f : α → β) (store : β → Bool) (Good : α → Prop)
    (hs : KeySound key f Good) (xs : List α) (hx : ∀ x ∈ xs, Good x) (m : Cache κ β)
    (hinv : MemoInv key f Good m) : (memoRun cap key f store m xs).1 = xs.map f := by
  induction xs generalizing m with
  | nil => rfl
  | cons x xs ih =>
    obtain ⟨h1, h2⟩ := memoCall_spec cap key f store Good hs m hinv x (hx x List.mem_cons_self)
    simp only [memoRun, List.map_cons]
    rw [h1, ih (fun y hy => hx y (List.mem_cons_of_mem _ hy)) _ h2]

/-- **a key that files two arguments with different answers together makes the answer depend on the history**: after
`x`, the call for `y` is answered with `x`'s answer -/
theorem memoRun_collision (cap : Option Nat) (hcap : cap ≠ some 0) (key : α → κ) (f : α → β) (store : β → Bool)
    (x y : α) (hk : key x = key y) (hst : store (f x) = true) :
    (memoRun cap key f store [] [x, y]).1 = [f x, f x] := by
  have htrim : trim cap [(key x, f x)] = [(key x, f x)] := by
    cases cap with
    | none => rfl
    | some n =>
      cases n with
      | zero => exact absurd rfl hcap
      | succ n => simp [trim]
  rw [hk] at htrim
  simp [memoRun, memoCall, List.lookup, hst, htrim, hk]

end memo

theorem readerRun_eq {α : Type} (km : Kind → Kind → Bool) (cast : Kind → α → Option α) (legacy : Bool)
    (cap : Option Nat) (reqs : List (Req α)) (m : Cache (List Field × List Field) (Bool × Option (List Nat)))
    (hinv : MemoInv exactKey matchSchemas (fun _ => True) m) :
    readerRun km cast legacy cap exactKey m reqs = reqs.map (fun r => readerCall km cast legacy r.q r.e r.data) := by
  induction reqs generalizing m with
  | nil => rfl
  | cons r rs ih =>
    have hs : KeySound exactKey matchSchemas (fun _ => True) := by
      intro x y _ _ h; simp only [exactKey] at h; rw [h]
    obtain ⟨h1, h2⟩ := memoCall_spec cap exactKey matchSchemas (fun _ => true) (fun _ => True) hs m hinv (r.q, r.e) trivial
    simp only [readerRun, List.map_cons]
    rw [h1, ih _ h2]
    rfl

/-- among the classes a frame column is assumed to hold, a dtype other than `object` names its class -/
private theorem dtypeOf_inj (v v' : VClass) (h : dtypeOf v = dtypeOf v') (ho : dtypeOf v ≠ .object)
    (h1 : v ≠ .npbool ∧ v ≠ .npint ∧ v ≠ .npfloat) (h2 : v' ≠ .npbool ∧ v' ≠ .npint ∧ v' ≠ .npfloat) : v = v' := by
  have : ∀ v ∈ VClass.all, ∀ v' ∈ VClass.all, dtypeOf v = dtypeOf v' → dtypeOf v ≠ .object →
      (v ≠ .npbool ∧ v ≠ .npint ∧ v ≠ .npfloat) → (v' ≠ .npbool ∧ v' ≠ .npint ∧ v' ≠ .npfloat) → v = v' := by
    decide +kernel
  exact this v (mem_vclassAll v) v' (mem_vclassAll v') h ho h1 h2

private theorem map_inj_on {γ δ : Type} {f : γ → δ} {l l' : List γ} (h : l.map f = l'.map f)
    (hf : ∀ a ∈ l, ∀ b ∈ l', f a = f b → a = b) : l = l' := by
  induction l generalizing l' with
  | nil => exact (List.map_eq_nil_iff.mp h.symm).symm
  | cons a l ih =>
    cases l' with
    | nil => cases h
    | cons b l' =>
      obtain ⟨hab, hl⟩ := List.cons.inj h
      rw [hf a List.mem_cons_self b List.mem_cons_self hab,
        ih hl fun a ha b hb => hf a (List.mem_cons_of_mem _ ha) b (List.mem_cons_of_mem _ hb)]

/-- for frames whose dtypes determine the value classes the cache key determines the inferred schema -/
theorem frameKey_sound (isinst : Kind → VClass → Bool) (rank : Kind → Nat) :
    KeySound frameKey (inferSchema isinst rank) Determined := by
  intro x y hx hy hk
  have hc : x.cols = y.cols := by
    refine map_inj_on hk fun c hc c' hc' hcc => ?_
    obtain ⟨ho, v, hv, hdv, hnp⟩ := hx.2 c hc
    obtain ⟨_, v', hv', hdv', hnp'⟩ := hy.2 c' hc'
    obtain ⟨hn, hd⟩ := Prod.mk.inj hcc
    have hvv : v = v' := dtypeOf_inj v v' (by rw [hdv, hdv', hd]) (by rw [hdv]; exact ho) hnp hnp'
    cases c; cases c'
    cases hn; cases hd; cases hv; cases hv'; rw [hvv]
  unfold inferSchema
  rw [hc]
  have h1 : x.nrows ≠ 0 := by have := hx.1; omega
  have h2 : y.nrows ≠ 0 := by have := hy.1; omega
  simp [h1, h2]

end ForML.Entry
