/-
C01 — facts on core lists that several of the C01 modules share.
-/

import ForML.Lemmas.ListFacts

namespace ForML.Flow

theorem countP_lt_of_imp {α} (p q : α → Bool) (l : List α)
    (himp : ∀ x ∈ l, p x = true → q x = true) (x : α) (hx : x ∈ l) (hq : q x = true) (hp : p x = false) :
    l.countP p < l.countP q := by
  induction l with
  | nil => cases hx
  | cons y r ih =>
    have hle : r.countP p ≤ r.countP q :=
      List.countP_mono_left fun z hz => himp z (List.mem_cons_of_mem _ hz)
    rw [List.countP_cons, List.countP_cons]
    rcases List.mem_cons.mp hx with rfl | hxr
    · rw [if_pos hq, if_neg (by rw [hp]; exact Bool.false_ne_true)]
      exact Nat.lt_succ_of_le hle
    · have hlt := ih (fun z hz => himp z (List.mem_cons_of_mem _ hz)) hxr
      by_cases hpy : p y = true
      · rw [if_pos hpy, if_pos (himp y List.mem_cons_self hpy)]
        exact Nat.succ_lt_succ hlt
      · rw [if_neg hpy]
        exact Nat.lt_of_lt_of_le hlt (Nat.le_add_right _ _)

theorem countP_rank_lt {α} (rk : α → Nat) {l : List α} {x : α} (hx : x ∈ l) {b : Nat} (hb : b < rk x) :
    l.countP (fun y => decide (rk y ≤ b)) < l.countP (fun y => decide (rk y ≤ rk x)) :=
  countP_lt_of_imp _ _ l (fun _ _ hy => decide_eq_true (Nat.le_trans (of_decide_eq_true hy) (Nat.le_of_lt hb))) x hx
    (decide_eq_true (Nat.le_refl _)) (decide_eq_false (Nat.not_le_of_lt hb))

theorem snoc_induction {α : Type} {P : List α → Prop} (h0 : P []) (hs : ∀ l a, P l → P (l ++ [a])) : ∀ l, P l := by
  intro l
  rw [← List.reverse_reverse l]
  induction l.reverse with
  | nil => exact h0
  | cons a r ih => rw [List.reverse_cons]; exact hs _ _ ih

theorem ite_singleton_sublist {α : Type} (c : Prop) [Decidable c] (x : α) : (if c then [x] else []).Sublist [x] := by
  split
  · exact List.Sublist.refl _
  · exact List.nil_sublist _

theorem nodup_opt_append {α : Type} {a : α} {l r : List α} (hl : l.Sublist [a]) (hr : r.Nodup) (ha : a ∉ r) :
    (l ++ r).Nodup := by
  rw [List.nodup_append]
  refine ⟨hl.nodup (by simp), hr, ?_⟩
  rintro _ hx _ hb rfl
  exact ha (List.mem_singleton.mp (hl.subset hx) ▸ hb)

theorem nodup_of_nodup_map {α β : Type} (f : α → β) {l : List α} (h : (l.map f).Nodup) : l.Nodup :=
  List.Pairwise.of_map f (fun _ _ hne heq => hne (congrArg f heq)) h

theorem range_filterMap_get {α β : Type} (l : List α) (f : α → Option β) :
    (List.range l.length).filterMap (fun j => (l[j]?).bind f) = l.filterMap f := by
  induction l with
  | nil => rfl
  | cons x r ih =>
    rw [List.length_cons, List.range_succ_eq_map, List.filterMap_cons]
    simp only [List.getElem?_cons_zero, Option.bind_some, List.filterMap_cons, List.filterMap_map]
    have : ((fun j => ((x :: r)[j]?).bind f) ∘ Nat.succ) = fun j => (r[j]?).bind f := by
      funext j; simp
    rw [this, ih]

theorem filterMap_range_all_some {α : Type} {f : Nat → Option α} (k : Nat) (h : ∀ j, j < k → (f j).isSome) :
    ((List.range k).filterMap f).map some = (List.range k).map f := by
  rw [List.map_filterMap]
  exact filterMap_eq_map fun j hj => by
    obtain ⟨a, ha⟩ := Option.isSome_iff_exists.mp (h j (List.mem_range.mp hj)); simp [ha]

theorem filterMap_range_cut {α : Type} {f : Nat → Option α} (n : Nat) (hnone : ∀ j, n ≤ j → f j = none) :
    ∀ m, n ≤ m → (List.range m).filterMap f = (List.range n).filterMap f := by
  intro m hm
  induction m with
  | zero => have : n = 0 := by omega
            subst this; rfl
  | succ m ih =>
    by_cases hnm : n ≤ m
    · rw [List.range_succ, List.filterMap_append, ih hnm]
      simp [hnone m hnm]
    · have : n = m + 1 := by omega
      subst this; rfl

theorem nodup_map_of_imp {α β γ : Type} {l : List α} {f1 : α → β} {f2 : α → γ} (h : (l.map f1).Nodup)
    (himp : ∀ a ∈ l, ∀ b ∈ l, f2 a = f2 b → f1 a = f1 b) : (l.map f2).Nodup := by
  rw [List.Nodup, List.pairwise_map] at h ⊢
  exact h.imp_of_mem (fun ha hb hne heq => hne (himp _ ha _ hb heq))

end ForML.Flow
