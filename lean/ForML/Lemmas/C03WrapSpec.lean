/-
C03 — `wrap.Operator.compose` realises `denoteWrap` (`spec_wrap`).  `denoteWrap_closed` restates `denoteWrap` over the dict of
`build` — slot values `slotVal`, dicts `buildGroupsOpt`, trainings `buildTrainsOpt` — one slot at a time (`slot_closed`).
-/
import ForML.Lemmas.C03WrapGraph

namespace ForML.Compose

theorem buildTrainsOpt_mem {groups : List (Nat × WRef)} {slot : Option Actor} {n : Nat} {lt lp : PubRef} {t : Training}
    (h : t ∈ buildTrainsOpt groups slot n lt lp) : t.train = lt ∧ t.label = lp ∧ t.actor.stateful = true := by
  cases slot with
  | none => simp [buildTrainsOpt] at h
  | some a =>
    unfold buildTrainsOpt buildTrains at h
    cases hl : groups.lookup a.tag with
    | some p => simp [hl] at h
    | none =>
      by_cases hs : a.stateful = true
      · simp [hl, hs] at h
        subst h
        exact ⟨rfl, rfl, hs⟩
      · simp [hl, hs] at h

/-- the trainings of one slot under a valuation in which the publishers they were recorded with carry `vt`, `lv` -/
theorem buildTrainsOpt_under {groups : List (Nat × WRef)} {slot : Option Actor} {n : Nat} {lt lp : PubRef} {W : World}
    {ρ ρ' : Nat} {vt lv : Val} (h1 : PubOk W lt ρ vt) (h2 : PubOk W lp ρ' lv) :
    (∀ t ∈ buildTrainsOpt groups slot n lt lp, W.live t.train.node ∧ W.live t.label.node) ∧
      (buildTrainsOpt groups slot n lt lp).map (trainedUnder W) =
        (buildTrainsOpt groups slot n lt lp).map (fun t => (t.actor.tag, trainedState t.actor vt lv)) := by
  refine ⟨fun t ht => ?_, List.map_congr_left fun t ht => ?_⟩ <;> obtain ⟨x1, x2, x3⟩ := buildTrainsOpt_mem ht
  · rw [x1, x2]; exact ⟨h1.live, h2.live⟩
  · simp only [trainedUnder, trainedState, x3, if_true, x1, x2, h1.val, h2.val]

/-- One slot over the dict `groups`, read as the list of engaged actors with the states `sf` gives them (`hG`): the
slot's worker runs the actor `unify` picks, the dict grows by that actor only when its builder is new, and it is then that
a stateful actor is trained. -/
theorem slot_closed (sf : Actor → Val) (vt : Val) (lblv : Nat → Val) (groups : List (Nat × WRef)) (slot : Option Actor)
    (n : Nat) (lt lp : PubRef)
    (hG : ∀ e ∈ groups, e.2.actor.tag = e.1 ∧ sf e.2.actor = trainedState e.2.actor vt (lblv e.1))
    (hnew : ∀ a, slot = some a → groups.lookup a.tag = none → sf a = trainedState a vt (lblv a.tag)) :
    (∀ x, slotVal vt lblv groups slot x =
      ((slot.map (unify (groups.map (·.2.actor)))).map fun a => applied a (sf a) x).getD x) ∧
    (buildGroupsOpt groups slot n).map (·.2.actor) =
      groups.map (·.2.actor) ++ newIn (groups.map (·.2.actor)) (slot.map (unify (groups.map (·.2.actor)))) ∧
    (∀ lbl, (∀ a, slot = some a → groups.lookup a.tag = none → lblv a.tag = lbl) →
      (buildTrainsOpt groups slot n lt lp).map (fun t => (t.actor.tag, trainedState t.actor vt lbl)) =
        ((newIn (groups.map (·.2.actor)) (slot.map (unify (groups.map (·.2.actor))))).filter (·.stateful)).map
          fun a => (a.tag, sf a)) ∧
    ∀ e ∈ buildGroupsOpt groups slot n, e.2.actor.tag = e.1 ∧ sf e.2.actor = trainedState e.2.actor vt (lblv e.1) := by
  cases slot with
  | none => exact ⟨fun _ => rfl, (List.append_nil _).symm, fun _ _ => rfl, hG⟩
  | some a =>
    have hu := buildActor_eq_unify (fun e he => (hG e he).1) a
    have hfind := find?_actors groups a.tag (fun e he => (hG e he).1)
    simp only [Option.map_some, ← hu, slotVal, buildGroupsOpt, buildTrainsOpt, Option.getD_some]
    cases hlk : groups.lookup a.tag with
    | some p =>
      have hmem := mem_of_lookup hlk
      have hb : buildActor groups a = p.actor := by simp [buildActor, hlk]
      have hany : (groups.map (·.2.actor)).any (fun k => k.tag == p.actor.tag) = true :=
        List.any_eq_true.mpr ⟨p.actor, List.mem_map.mpr ⟨_, hmem, rfl⟩, beq_self_eq_true _⟩
      simp only [hb, buildGroups, buildTrains, hlk, newIn, Option.toList, List.filter, hany, Bool.not_true,
        List.append_nil, List.map_nil]
      exact ⟨fun x => by rw [(hG _ hmem).2], trivial, fun _ _ => trivial, hG⟩
    | none =>
      have hb : buildActor groups a = a := by simp [buildActor, hlk]
      rw [hlk] at hfind
      have hany : (groups.map (·.2.actor)).any (fun k => k.tag == a.tag) = false :=
        List.any_eq_false.mpr fun k hk => List.find?_eq_none.mp hfind k hk
      have hs := hnew a rfl hlk
      simp only [hb, buildGroups, buildTrains, hlk, newIn, Option.toList, List.filter, hany, Bool.not_false,
        List.map_append, List.map_cons, List.map_nil]
      refine ⟨fun x => by rw [hs], trivial, ?_, ?_⟩
      · intro lbl hl
        cases a.stateful
        · rfl
        · simp only [if_true, List.map_cons, List.map_nil, hs, hl a rfl hlk]
      · intro e he
        rcases List.mem_append.mp he with he | he
        · exact hG e he
        · rw [List.mem_singleton.mp he]; exact ⟨rfl, hs⟩

theorem labelOf_of_lookup_none {α} (lab : Option Actor) (own other : α) (n τ : Nat)
    (h : (buildGroupsOpt [] lab n).lookup τ = none) : other = labelOf lab own other τ := by
  cases lab with
  | none => rfl
  | some l =>
    have : ¬ l.tag = τ := by
      intro e
      subst e
      simp [buildGroupsOpt, buildGroups, List.lookup] at h
    simp [labelOf, this]

/-- `denoteWrap` read off the dict of `build`, for whatever next uids `n1 n2 n3` the three builds start from and whatever
publishers `lt ll lp` they train on (the right-hand side uses the dicts' keys and actors and the trainings' actors only).
Three applications of `slot_closed` with `sf := wrapState lab …`. -/
theorem denoteWrap_closed (lab app trn : Option Actor) (S : Scope) (xa xt xl : Val) (n1 n2 n3 : Nat)
    (lt ll lp : PubRef) :
    denoteWrap lab app trn S xa xt xl =
      { apply := slotVal (S xa xt xl).train
          (labelOf lab (S xa xt xl).label (labelVal lab (S xa xt xl).train (S xa xt xl).label))
          (buildGroupsOpt [] lab n1) app (S xa xt xl).apply
        train := slotVal (S xa xt xl).train
          (labelOf lab (S xa xt xl).label (labelVal lab (S xa xt xl).train (S xa xt xl).label))
          (buildGroupsOpt (buildGroupsOpt [] lab n1) app n2) trn (S xa xt xl).train
        label := labelVal lab (S xa xt xl).train (S xa xt xl).label
        states := (S xa xt xl).states ++
          ((buildTrainsOpt [] lab n1 lt ll).map
              (fun t => (t.actor.tag, trainedState t.actor (S xa xt xl).train (S xa xt xl).label)) ++
            (buildTrainsOpt (buildGroupsOpt [] lab n1) app n2 lt lp).map
              (fun t => (t.actor.tag, trainedState t.actor (S xa xt xl).train
                (labelVal lab (S xa xt xl).train (S xa xt xl).label))) ++
            (buildTrainsOpt (buildGroupsOpt (buildGroupsOpt [] lab n1) app n2) trn n3 lt lp).map
              (fun t => (t.actor.tag, trainedState t.actor (S xa xt xl).train
                (labelVal lab (S xa xt xl).train (S xa xt xl).label)))) } := by
  rw [denoteWrap_unify]
  obtain ⟨s, hs⟩ : ∃ s, s = S xa xt xl := ⟨_, rfl⟩
  simp only [← hs]
  obtain ⟨lblv, hlblv⟩ : ∃ f, f = labelOf lab s.label (labelVal lab s.train s.label) := ⟨_, rfl⟩
  have c1 := slot_closed (wrapState lab s.train s.label) s.train lblv [] lab n1 lt ll (by intro e he; cases he)
    (fun l e _ => by subst e; rw [wrapState_label, hlblv]; simp [labelOf])
  have k1 : (buildGroupsOpt [] lab n1).map (·.2.actor) = lab.toList := by
    rw [c1.2.1, List.map_nil, map_unify_nil, newIn_nil, List.nil_append]
  have new1 : ∀ a : Actor, (buildGroupsOpt [] lab n1).lookup a.tag = none →
      wrapState lab s.train s.label a = trainedState a s.train (lblv a.tag) := by
    intro a h
    have hf := find?_actors _ a.tag (fun e he => (c1.2.2.2 e he).1)
    rw [h, k1] at hf
    rw [wrapState_new (ks := lab.toList) (by intro l e; subst e; simp) _ _ hf, hlblv,
      ← labelOf_of_lookup_none lab s.label _ n1 a.tag h]
  have c2 := slot_closed _ s.train lblv _ app n2 lt lp c1.2.2.2 (fun a _ h => new1 a h)
  have c3 := slot_closed _ s.train lblv _ trn n3 lt lp c2.2.2.2 (fun a _ h => new1 a (lookup_buildGroupsOpt_none h))
  rw [← hlblv, c2.1, c3.1, c2.2.1, k1,
    c1.2.2.1 s.label (fun l e _ => by subst e; rw [hlblv]; simp [labelOf]),
    c2.2.2.1 _ (fun a _ h => by rw [hlblv]; exact (labelOf_of_lookup_none lab s.label _ n1 a.tag h).symm),
    c3.2.2.1 _ (fun a _ h => by
      rw [hlblv]; exact (labelOf_of_lookup_none lab s.label _ n1 a.tag (lookup_buildGroupsOpt_none h)).symm)]
  have hu : unify (lab.toList ++ newIn lab.toList (app.map (unify lab.toList))) =
      unify (lab.toList ++ (app.map (unify lab.toList)).toList) := funext (unify_newIn _ _)
  have k2 := c2.2.1
  rw [k1] at k2
  simp only [k1, k2, hu, List.map_nil, map_unify_nil, newIn_nil, List.nil_append, List.foldl_append, foldl_newIn,
    List.filter_append, List.map_append]

/-- the label slot over the empty dict carries the transformed labels -/
theorem slotVal_label (lab : Option Actor) (vt vl other : Val) :
    slotVal vt (labelOf lab vl other) [] lab vl = labelVal lab vt vl := by
  cases lab <;> simp [slotVal, labelVal, labelOf, buildActor]

theorem spec_wrap {full : Prop} {scope : GraphM Trunk} {S : Scope} (hs : Spec full scope S) (lab app trn : Option Actor) :
    Spec full (composeWrap lab app trn scope) (denoteWrap lab app trn S) := by
  rw [composeWrap_eq]
  intro g W xa xt xl r hi hw hr
  obtain ⟨left, gL, WL, hrun1, h1⟩ := hs g W xa xt xl r hi hw hr
  have hgg := h1.frame.next_le
  obtain ⟨R, hR⟩ : ∃ R, R = r + (gL.next - g.next) := ⟨_, rfl⟩
  have hnlW : ∀ u, gL.next ≤ u → ¬ WL.live u := fun u hu h => absurd (h1.inv.liveLt u h).1 (Nat.not_lt.mpr hu)
  -- the label publisher and, per builder, the one its group is trained with: known before anything is built
  obtain ⟨labelPub, hlabelPub⟩ : ∃ x, x = labelPubAt lab gL.next left.label.publisher := ⟨_, rfl⟩
  obtain ⟨lpOf, hlpOf⟩ : ∃ x, x = labelOf lab left.label.publisher labelPub := ⟨_, rfl⟩
  have hlp1 := labelOf_of_lookup_none lab left.label.publisher labelPub gL.next
  rw [← hlpOf] at hlp1
  have b0 := Body.start h1 hr (fun _ => False)
  obtain ⟨wl?, gA, hrA, hfA, bA, sL, hGA⟩ :=
    buildOpt_spec b0 hnlW left.train.publisher left.label.publisher lpOf [] lab nofun
      (fun a ha _ => by rw [hlpOf, ha]; simp [labelOf])
  have eLP : labelPubOf wl? left.label.publisher = labelPub := (sL.labelPub _).trans hlabelPub.symm
  -- the apply side is the apply worker: the third uid the apply build draws
  let A : Nat → Prop := fun n => app ≠ none ∧ n = gA.next + 2
  have bA' := bA.relabelFresh A fun n hn => ⟨fun h => absurd hn (by rw [h.2]; omega), False.elim⟩
  obtain ⟨wa?, gB, hrB, hfB, bB, sA, hGB⟩ :=
    buildOpt_spec bA' hnlW left.train.publisher (labelPubOf wl? left.label.publisher) lpOf _ app hGA
      (fun a _ h => eLP.trans (hlp1 a.tag h))
  obtain ⟨wt?, gC, hrC, hfC, bC, sT, -⟩ :=
    buildOpt_spec bB hnlW left.train.publisher (labelPubOf wl? left.label.publisher) lpOf _ trn hGB
      (fun a _ h => eLP.trans (hlp1 a.tag (lookup_buildGroupsOpt_none h)))
  have hnAB := hfB.next_le
  have sLC := sL.frame (hfB.trans hfC)
  have sAC := sA.frame hfC
  -- `left.extend(apply, train, label)`
  have offT : ∀ w, wt? = some w → ¬ A w.uid := fun w hw h => by
    have := (sT.uid hw).1; have := sA.room h.1; have := h.2; omega
  have offL : ∀ w, wl? = some w → ¬ A w.uid := fun w hw h => by have := (sL.uid hw).2; have := h.2; omega
  obtain ⟨g4, r4, b4, sA4, keep4⟩ := bC.extendOpt left.apply sAC (bC.old_lt h1.ta.1) h1.tails_ge.1
    (fun _ _ _ => Reach.refl) (fun w hw h => absurd (sA.of_some hw) h)
  obtain ⟨g5, r5, b5, sT5, keep5⟩ := b4.extendOpt left.train (keep4 sT (Or.inl (Nat.le_refl _))) (b4.old_lt h1.tt.1)
    h1.tails_ge.2.1 (fun w hw h => absurd h (offT w hw)) (fun _ _ _ => Or.inl rfl)
  obtain ⟨g6, r6, b6, sL6, keep6⟩ := b5.extendOpt left.label (keep5 (keep4 sLC (Or.inr (Nat.le_refl _))) (Or.inr hnAB))
    (b5.old_lt h1.tl.1) h1.tails_ge.2.2 (fun w hw h => absurd h (offL w hw)) (fun _ _ _ => Or.inr (Or.inl rfl))
  have sA6 := keep6 (keep5 sA4 (Or.inr (Nat.le_refl _))) (Or.inl (Nat.le_refl _))
  have sT6 := keep6 sT5 (Or.inl hnAB)
  rw [denoteWrap_closed lab app trn S xa xt xl gL.next gA.next gB.next left.train.publisher left.label.publisher
    (labelPubOf wl? left.label.publisher)]
  obtain ⟨s, hsS⟩ : ∃ s, s = S xa xt xl := ⟨_, rfl⟩
  rw [← hsS] at h1 ⊢
  obtain ⟨label', hlabel'⟩ : ∃ x, x = labelVal lab s.train s.label := ⟨_, rfl⟩
  obtain ⟨lblv, hlblv⟩ : ∃ x, x = labelOf lab s.label label' := ⟨_, rfl⟩
  rw [← hlabel', ← hlblv, eLP]
  rw [eLP] at b6
  obtain ⟨pa0, pt0, pl0⟩ : PubOk WL left.apply.publisher R s.apply ∧ PubOk WL left.train.publisher R s.train ∧
      PubOk WL left.label.publisher R s.label := by rw [hR]; exact b6.tails h1
  -- the label worker becomes evaluable: its output is the label publisher
  obtain ⟨W1, b7, K1, PL, keepL⟩ := b6.liveSlot sL6 R (hR ▸ Nat.le_succ _) (lblv := lblv) pl0 pt0
    (fun a ha => by rw [hlpOf, hlblv, ha]; simp only [labelOf, ↓reduceIte]; exact pl0)
  have lab1 : PubOk W1 labelPub (R + 1) label' := by
    rw [← (labelPubOf_eq wl? _).symm.trans eLP, hlabel', ← slotVal_label lab s.train s.label label', ← hlblv]
    exact PL
  have pt1 := (pt0.keeps K1).mono (Nat.le_succ R)
  have pl1 := (pl0.keeps K1).mono (Nat.le_succ R)
  have pa1 := (pa0.keeps K1).mono (Nat.le_succ R)
  have lp1 : ∀ τ, PubOk W1 (lpOf τ) (R + 1) (lblv τ) := fun τ => by
    rw [hlpOf, hlblv]
    exact labelOf_rel (PubOk W1 · (R + 1) ·) lab pl1 lab1 τ
  obtain ⟨W2, b8, K2, PA, keepA⟩ := b7.liveSlot (keepL sA6 (Or.inl (Nat.le_refl _))) (R + 1) (hR ▸ Nat.le_refl _) pa1 pt1
    (fun a _ => lp1 a.tag)
  obtain ⟨W3, b9, K3, PT, -⟩ := b8.liveSlot (keepA (keepL sT6 (Or.inl hnAB)) (Or.inl (Nat.le_refl _))) (R + 1)
    (hR ▸ Nat.le_refl _) (pt1.keeps K2) (pt1.keeps K2) (fun a _ => (lp1 a.tag).keeps K2)
  have K13 : Keeps W1 W3 := K2.trans K3
  have lab3 := lab1.keeps K13
  have PL3 := PL.keeps K13
  have PA3 := PA.keeps K3
  obtain ⟨l1, m1⟩ := buildTrainsOpt_under (groups := []) (slot := lab) (n := gL.next) (pt1.keeps K13) (pl1.keeps K13)
  obtain ⟨l2, m2⟩ := buildTrainsOpt_under (groups := buildGroupsOpt [] lab gL.next) (slot := app) (n := gA.next)
    (pt1.keeps K13) lab3
  obtain ⟨l3, m3⟩ := buildTrainsOpt_under (groups := buildGroupsOpt (buildGroupsOpt [] lab gL.next) app gA.next)
    (slot := trn) (n := gB.next) (pt1.keeps K13) lab3
  refine ⟨_, g6, W3, Run.bind hrun1 (Run.bind hrA (Run.bind hrB (Run.bind hrC (run_trunk_extend r4 r5 r6)))), b9.finish h1
    ⟨⟨left.apply.head, tailOpt wa? left.apply.tail⟩, ⟨left.train.head, tailOpt wt? left.train.tail⟩,
      ⟨left.label.head, tailOpt wl? left.label.tail⟩⟩ rfl rfl rfl _ ⟨PA3.live, PA3.val⟩ ⟨PT.live, PT.val⟩
    ⟨PL3.live, PL3.val.trans ?_⟩ ?_ ?_
    ⟨sA6.tail_ge hgg h1.tails_ge.1, sT6.tail_ge hgg h1.tails_ge.2.1, sL6.tail_ge hgg h1.tails_ge.2.2⟩ ?_ sA6.reach
    (sT6.tail_off offT _) (sL6.tail_off offL _)⟩
  · rw [hlblv, slotVal_label, hlabel']
  · intro t ht
    simp only [List.nil_append, List.mem_append] at ht
    exact ht.elim (fun ht => ht.elim (l1 t) (l2 t)) (l3 t)
  · simp only [List.nil_append, List.map_append, List.append_assoc]
    rw [m1, m2, m3]
  · intro n _ h
    rw [h.2, ← sA6.tail_some h.1 left.apply.tail]
    exact PA3.live

end ForML.Compose
