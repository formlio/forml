/-
C07: the dictionary that `Source.schema` builds (`collapse`): it is the identity on distinct names, and distributes over
the sides of a join (no common name) and of a set (entries that already carry the kind their name has in the left
schema overwrite nothing).
-/
import ForML.Model.Grammar
import ForML.Lemmas.ListFacts

namespace ForML.Dsl

/-- `d.update(b)` entry by entry -/
def upd (d b : Fields) : Fields := b.foldl (fun d e => dictSet d e.1 e.2) d

theorem collapse_eq_upd (es : Fields) : collapse es = upd [] es := rfl

theorem upd_nil (d : Fields) : upd d [] = d := rfl

theorem upd_cons (d : Fields) (e : String × Kind) (b : Fields) : upd d (e :: b) = upd (dictSet d e.1 e.2) b := rfl

theorem upd_append (d a b : Fields) : upd d (a ++ b) = upd (upd d a) b := by
  simp [upd, List.foldl_append]

theorem collapse_append (a b : Fields) : collapse (a ++ b) = upd (collapse a) b := by
  simp [collapse_eq_upd, upd_append]

/-- `dictSet` is `d[n] = k` on an association list kept in insertion order (`IsSet`, ForML.Lemmas.ListFacts), with the
dictionary as its first argument -/
theorem dictSet_isSet : IsSet (fun n k d => dictSet d n k) :=
  ⟨fun _ _ => rfl, fun n k m j r => by
    show dictSet ((m, j) :: r) n k = _
    rw [dictSet]
    split <;> simp_all⟩

theorem dictSet_keys (d : Fields) (n : String) (k : Kind) :
    (dictSet d n k).map (·.1) = if n ∈ d.map (·.1) then d.map (·.1) else d.map (·.1) ++ [n] := by
  split
  · exact dictSet_isSet.keys_of_mem n k d ‹_›
  · rw [dictSet_isSet.of_not_mem n k d ‹_›, List.map_append]
    rfl

theorem dictSet_lookup (d : Fields) (m n : String) (k : Kind) :
    (dictSet d m k).lookup n = if m = n then some k else d.lookup n :=
  dictSet_isSet.lookup_comm m n k d

theorem dictSet_append_left (d d' : Fields) (n : String) (k : Kind) (h : n ∉ d.map (·.1)) :
    dictSet (d ++ d') n k = d ++ dictSet d' n k := by
  induction d with
  | nil => rfl
  | cons p d ih =>
    obtain ⟨m, j⟩ := p
    simp only [List.map_cons, List.mem_cons, not_or] at h
    have hm : ¬ m = n := fun e => h.1 e.symm
    simp [dictSet, hm, ih h.2]

theorem mem_dictSet_keys (x : String) (d : Fields) (n : String) (k : Kind) :
    x ∈ (dictSet d n k).map (·.1) ↔ x ∈ d.map (·.1) ∨ x = n :=
  dictSet_isSet.keys_mem.trans or_comm

theorem mem_upd_keys (n : String) : (b d : Fields) → (n ∈ (upd d b).map (·.1) ↔ n ∈ d.map (·.1) ∨ n ∈ b.map (·.1))
  | [], d => by simp [upd_nil]
  | e :: b, d => by
    rw [upd_cons, mem_upd_keys n b, mem_dictSet_keys, List.map_cons, List.mem_cons, or_assoc]

theorem mem_collapse_keys (n : String) (es : Fields) : n ∈ (collapse es).map (·.1) ↔ n ∈ es.map (·.1) := by
  rw [collapse_eq_upd, mem_upd_keys]
  simp

theorem dictSet_keys_nodup (d : Fields) (n : String) (k : Kind) (h : (d.map (·.1)).Nodup) :
    ((dictSet d n k).map (·.1)).Nodup :=
  dictSet_isSet.keys_nodup h

theorem upd_keys_nodup : (b d : Fields) → (d.map (·.1)).Nodup → ((upd d b).map (·.1)).Nodup
  | [], _, h => h
  | e :: b, d, h => by
    rw [upd_cons]
    exact upd_keys_nodup b _ (dictSet_keys_nodup d e.1 e.2 h)

theorem collapse_keys_nodup (es : Fields) : ((collapse es).map (·.1)).Nodup :=
  upd_keys_nodup es [] (by simp)

theorem upd_disjoint : (b d d' : Fields) → (∀ e ∈ b, e.1 ∉ d.map (·.1)) → upd (d ++ d') b = d ++ upd d' b
  | [], _, _, _ => rfl
  | e :: b, d, d', h => by
    rw [upd_cons, upd_cons, dictSet_append_left d d' e.1 e.2 (h e (by simp))]
    exact upd_disjoint b d _ (fun x hx => h x (by simp [hx]))

/-- a join of sides without a common name: the schema is the concatenation -/
theorem collapse_append_disjoint (a b : Fields) (h : ((collapse a ++ collapse b).map (·.1)).Nodup) :
    collapse (a ++ b) = collapse a ++ collapse b := by
  rw [List.map_append, List.nodup_append] at h
  rw [collapse_append]
  have := upd_disjoint b (collapse a) [] fun e he hm =>
    h.2.2 _ hm _ ((mem_collapse_keys _ _).mpr (List.mem_map_of_mem (f := (·.1)) he)) rfl
  simpa [collapse_eq_upd] using this

theorem upd_nodup_new : (b d : Fields) → (b.map (·.1)).Nodup → (∀ e ∈ b, e.1 ∉ d.map (·.1)) → upd d b = d ++ b
  | [], d, _, _ => by simp [upd_nil]
  | e :: b, d, hn, hd => by
    simp only [List.map_cons, List.nodup_cons] at hn
    have he : e.1 ∉ d.map (·.1) := hd e (by simp)
    have h1 : dictSet d e.1 e.2 = d ++ [e] := by
      have := dictSet_append_left d [] e.1 e.2 he
      simpa [dictSet] using this
    rw [upd_cons, h1, upd_nodup_new b (d ++ [e]) hn.2]
    · simp
    · intro x hx
      simp only [List.map_append, List.map_cons, List.map_nil, List.mem_append, List.mem_singleton, not_or]
      refine ⟨hd x (by simp [hx]), ?_⟩
      intro e'
      exact hn.1 (e' ▸ List.mem_map_of_mem (f := (·.1)) hx)

theorem collapse_nodup (es : Fields) (h : (es.map (·.1)).Nodup) : collapse es = es := by
  rw [collapse_eq_upd, upd_nodup_new es [] h (by simp)]
  simp

theorem dictSet_of_lookup : (d : Fields) → (n : String) → (k : Kind) → d.lookup n = some k → dictSet d n k = d
  | [], _, _, h => nomatch h
  | (m, j) :: d, n, k, h => by
    unfold dictSet
    by_cases hm : m = n
    · subst hm
      rw [List.lookup_cons_self, Option.some.injEq] at h
      rw [if_pos rfl, h]
    · have h' : (n == m) = false := by simpa using fun e => hm e.symm
      rw [List.lookup_cons, h'] at h
      rw [if_neg hm, dictSet_of_lookup d n k h]

theorem upd_of_lookup : (b d : Fields) → (∀ e ∈ b, d.lookup e.1 = some e.2) → upd d b = d
  | [], _, _ => rfl
  | e :: b, d, h => by
    rw [upd_cons, dictSet_of_lookup d e.1 e.2 (h e (List.mem_cons_self ..))]
    exact upd_of_lookup b d fun x hx => h x (List.mem_cons_of_mem _ hx)

/-- a set: every entry of the right side is a field of the left schema, so it overwrites nothing -/
theorem collapse_append_settled (a b : Fields) (h : ∀ e ∈ b, e ∈ collapse a) : collapse (a ++ b) = collapse a := by
  rw [collapse_append, upd_of_lookup b _ fun e he => lookup_of_mem (collapse_keys_nodup a) (h e he)]

end ForML.Dsl
