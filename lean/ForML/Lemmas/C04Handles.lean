/-
Histories in which actions work through long-lived handles (`runHandles`,
Model/PersistHandles.lean) keep the registry invariant, only ever append to the registry, and every observation
satisfies the property with respect to the generation the handle addresses.
-/
import ForML.Model.PersistHandles
import ForML.Lemmas.C04Modes

namespace ForML.Persist

/-- what one action through a handle guarantees -/
structure ViaOk (T : List (Option Nat)) (r : Registry × Outcome × HandleView) : Prop where
  inv : RegInv T r.1
  seenInv : RegInv T r.2.1.seen
  obs : ∀ obs, r.2.1.result = .ok obs → ∀ o ∈ obs, obsOk r.2.1.seen r.2.1.act o = true

theorem serveKept_ok {cs : Case} (hwf : cs.Ok) {reg : Registry} (hreg : RegInv cs.plain.persistentTags reg)
    (v : HandleView) (a : Action) (len : Nat) (sel : Option Nat) (hp : Nat) :
    ViaOk cs.plain.persistentTags (serveKept cs reg v a len sel hp) := by
  have htake := hreg.take len
  unfold serveKept
  cases hs : step cs (List.take len reg) { a with gen := sel, hp := hp } with
  | error e => exact ⟨hreg, htake, fun obs h => (by cases h)⟩
  | ok r =>
    obtain ⟨reg', obs⟩ := r
    have hok := step_ok hwf htake hs
    refine ⟨hreg, htake, ?_⟩
    intro obs' h
    cases h
    exact hok.2

theorem stepKey_ok {cs : Case} (hwf : cs.Ok) {reg : Registry} (hreg : RegInv cs.plain.persistentTags reg)
    (v : HandleView) (keeps : Bool) (a : Action) : ViaOk cs.plain.persistentTags (stepKey cs reg v keeps a) := by
  unfold stepKey
  cases hs : step cs reg { a with gen := v.key.address reg } with
  | error e => exact ⟨hreg, hreg, fun obs h => (by cases h)⟩
  | ok r =>
    obtain ⟨reg', obs⟩ := r
    have hok := step_ok hwf hreg hs
    refine ⟨hok.1, hreg, ?_⟩
    intro obs' h
    cases h
    exact hok.2

theorem stepVia_ok {cs : Case} (hwf : cs.Ok) {reg : Registry} (hreg : RegInv cs.plain.persistentTags reg)
    (v : HandleView) (keeps : Bool) (a : Action) : ViaOk cs.plain.persistentTags (stepVia cs reg v keeps a) := by
  unfold stepVia
  split
  · exact serveKept_ok hwf hreg v a _ _ _
  · exact stepKey_ok hwf hreg v _ a

/-- an action through a handle only ever appends to the registry (no well-formedness needed) -/
theorem stepVia_prefix (cs : Case) (reg : Registry) (v : HandleView) (keeps : Bool) (a : Action) :
    ∃ l, (stepVia cs reg v keeps a).1 = reg ++ l := by
  unfold stepVia
  split
  · unfold serveKept
    split <;> exact ⟨[], by simp⟩
  · unfold stepKey
    split
    · rename_i reg' obs hs
      exact step_prefix hs
    · exact ⟨[], by simp⟩

theorem pins_rename {ρ σ : Nat → Nat} (hρ : Inj ρ) (hσ : Inj σ) (cs : Case) (a : Action) (ok : Bool) :
    pins (cs.rename ρ σ) a ok = pins cs a ok := by
  have hemp (c : Comp) : (c.rename ρ σ).persistent.isEmpty = c.persistent.isEmpty := by
    rw [Comp.persistent_rename hρ hσ, List.isEmpty_map]
  unfold pins
  cases a.kind with
  | train => rfl
  | apply | serve => simp only [Case.rename, hemp]
  | perftrack =>
    simp only [Case.rename]
    cases cs.perf with
    | error e => rfl
    | ok p => simp only [hemp]

theorem stepVia_rename {ρ σ : Nat → Nat} (hρ : Inj ρ) (hσ : Inj σ) (cs : Case) (reg : Registry) (v : HandleView)
    (keeps : Bool) (a : Action) : stepVia (cs.rename ρ σ) reg v keeps a = stepVia cs reg v keeps a := by
  unfold stepVia serveKept stepKey
  simp only [step_rename hρ hσ, pins_rename hρ hσ]

def ViaFreshOk (hist : List (Action × Fresh × Option Via)) : Prop := ∀ e ∈ hist, Inj e.2.1.1 ∧ Inj e.2.1.2

theorem runHandles_ok (cs : Case) (hwf : cs.Ok) :
    ∀ (hist : List (Action × Fresh × Option Via)) (reg : Registry) (vs : Views),
      RegInv cs.plain.persistentTags reg → ViaFreshOk hist →
      ∀ out ∈ runHandles cs reg vs hist,
        RegInv cs.plain.persistentTags out.seen ∧
        ∀ obs, out.result = .ok obs → ∀ o ∈ obs, obsOk out.seen out.act o = true := by
  intro hist reg vs hreg hfresh
  refine history_inv (I := fun s : Registry × Views => RegInv cs.plain.persistentTags s.1)
    (run := fun s => runHandles cs s.1 s.2) (fun _ => rfl) ?_ hist (reg, vs) hreg hfresh
  intro (reg, vs) (a, f, via) rest hreg hx
  cases via with
  | none =>
    rcases step_cases hwf hreg hx.1 hx.2 a with ⟨e, hs⟩ | ⟨reg', obs, hs, hinv, hobs⟩
    · exact ⟨⟨a, reg, .error e⟩, (reg, vs), by simp only [runHandles, hs], ⟨hreg, fun _ h => nomatch h⟩, hreg⟩
    · exact ⟨⟨a, reg, .ok obs⟩, (reg', vs), by simp only [runHandles, hs],
        ⟨hreg, fun _ h => by cases h; exact hobs⟩, hinv⟩
  | some via =>
    have hv := stepVia_ok hwf hreg ((vs.lookup via.id).getD ⟨⟨a.gen⟩, none⟩) via.keeps a
    rw [← stepVia_rename hx.1 hx.2] at hv
    exact ⟨_, (_, _), rfl, ⟨hv.seenInv, hv.obs⟩, hv.inv⟩

end ForML.Persist
