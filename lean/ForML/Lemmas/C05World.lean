/-
Several writers (C05): from one registry call to interleaved histories of handles in processes (`playH`).  Every
operation of every handle amounts to one `Act` on the shared tree whose addressed release is listed at that moment
(`actOf`), so the shared tree stays `Good2` along any history and only grows for a fresh reader.  Coherence of the
process-wide tag caches (`TagsOk`) is kept by a read (`lookOn_tagsOk`); along histories: `C05States`.
-/
import ForML.Lemmas.C05Handles

namespace ForML.Registry
open ForML.Fs

/-- `x'` is the handle `x` after `Level.key`: an implicit key may have been resolved and remembered, nothing else changes -/
structure Resolves (x x' : Handle) : Prop where
  proj : x'.proj = x.proj
  proc : x'.proc = x.proc
  rel : ∀ v, x.rel = some v → x'.rel = some v
  acc : x'.acc = x.acc
  dumped : x'.dumped = x.dumped
  done : x'.done = x.done

theorem Resolves.refl (x : Handle) : Resolves x x := ⟨rfl, rfl, fun _ h => h, rfl, rfl, rfl⟩

theorem Resolves.trans {x y z : Handle} (a : Resolves x y) (b : Resolves y z) : Resolves x z :=
  ⟨b.proj.trans a.proj, b.proc.trans a.proc, fun v h => b.rel v (a.rel v h), b.acc.trans a.acc,
    b.dumped.trans a.dumped, b.done.trans a.done⟩

theorem resolveRel_spec (fs : Fs) (x : Handle) :
    Resolves x (resolveRel fs x).1
      ∧ ∀ v, (resolveRel fs x).2 = .ok v → relListed fs x.proj v = true ∧ (resolveRel fs x).1.rel = some v := by
  unfold resolveRel
  split
  · split
    · next w hr =>
      refine ⟨.refl x, fun v h => ?_⟩
      split at h
      · next hl => cases h; exact ⟨hl, hr⟩
      · cases h
    · next hr =>
      split
      · exact ⟨.refl x, fun v h => by cases h⟩
      · next w hm =>
        exact ⟨⟨rfl, rfl, fun v hv => (by rw [hr] at hv; cases hv), rfl, rfl, rfl⟩,
          fun v h => by cases h; exact ⟨latestRel_listed fs x.proj _ hm, rfl⟩⟩
  · exact ⟨.refl x, fun v h => by cases h⟩

theorem resolveRel_resolves (fs : Fs) (x : Handle) : Resolves x (resolveRel fs x).1 := (resolveRel_spec fs x).1

theorem resolveRel_ok (fs : Fs) (x : Handle) (v : Nat) (h : (resolveRel fs x).2 = .ok v) :
    relListed fs x.proj v = true ∧ (resolveRel fs x).1.rel = some v := (resolveRel_spec fs x).2 v h

theorem resolveGen_spec (fs : Fs) (p v : Nat) (x : Handle) :
    Resolves x (resolveGen fs p v x).1
      ∧ ∀ g, (resolveGen fs p v x).2 = .ok (some g) → genValid fs p v g = true := by
  unfold resolveGen
  split
  · refine ⟨.refl x, fun g h => ?_⟩
    split at h
    · next hv => cases h; exact hv
    · cases h
  · split
    · exact ⟨.refl x, fun g h => by cases h⟩
    · next g' hm => exact ⟨⟨rfl, rfl, fun _ h => h, rfl, rfl, rfl⟩, fun g h => by cases h; exact latestGen_valid fs p v _ hm⟩

/-- the registry call `perform` makes for the operation `op` of handle `h` -/
def actOf (w : World) (h : Nat) (op : HOp) : Act :=
  match op with
  | .open _ _ _ _ => .idle
  | .look => .idle
  | op =>
    match lookupH w.hs h with
    | none => .idle
    | some x =>
      match (plan w.fs x op).err with
      | some _ => .idle
      | none => (plan w.fs x op).act

theorem plan_dump_ok (fs : Fs) (x : Handle) (sid : Nat) (b : Bytes) (h : (plan fs x (.dump sid b)).err = none) :
    ∃ v, (resolveRel fs x).2 = .ok v ∧ (plan fs x (.dump sid b)).act = .write x.proj v sid b
      ∧ (plan fs x (.dump sid b)).x = (resolveRel fs x).1 := by
  simp only [plan] at h ⊢
  split at h
  · cases h
  · split at h
    · next hr => rw [hr]; exact ⟨_, rfl, rfl, rfl⟩
    · cases h

theorem plan_commit_ok (fs : Fs) (x : Handle) (h : (plan fs x .commit).err = none) :
    ∃ ord v, x.acc = some (ord, x.sids.length) ∧ (resolveRel fs x).2 = .ok v
      ∧ (plan fs x .commit).act = .close x.proj v ord x.sids
      ∧ (plan fs x .commit).x = { (resolveRel fs x).1 with done := true } := by
  cases ha : x.acc with
  | none => simp [plan, ha] at h
  | some a =>
    by_cases hn : x.sids.length ≠ a.2
    · simp [plan, ha, hn] at h
    · cases hr : resolveRel fs x with
      | mk x' r =>
        cases r with
        | error e => simp [plan, ha, hn, hr] at h
        | ok v =>
          exact ⟨a.1, v, by rw [Decidable.of_not_not hn], rfl, by simp [plan, ha, hn, hr], by simp [plan, ha, hn, hr]⟩

theorem plan_ok (fs : Fs) (x : Handle) (op : HOp) (h : (plan fs x op).err = none) : ActOk fs (plan fs x op).act := by
  cases op with
  | dump sid b => obtain ⟨v, hr, ha, _⟩ := plan_dump_ok fs x sid b h; rw [ha]; exact (resolveRel_ok fs x v hr).1
  | commit => obtain ⟨o, v, _, hr, ha, _⟩ := plan_commit_ok fs x h; rw [ha]; exact (resolveRel_ok fs x v hr).1
  | _ => trivial

theorem actOf_general (w : World) (h : Nat) (op : HOp) (hop : ∀ proc p v g, op ≠ .open proc p v g) (hlook : op ≠ .look) :
    actOf w h op =
      match lookupH w.hs h with
      | none => Act.idle
      | some x => match (plan w.fs x op).err with
        | some _ => Act.idle
        | none => (plan w.fs x op).act := by
  unfold actOf
  split
  · next proc p v g => exact absurd rfl (hop proc p v g)
  · exact absurd rfl hlook
  · rfl

theorem perform_general (w : World) (h : Nat) (op : HOp) (hop : ∀ proc p v g, op ≠ .open proc p v g) (hlook : op ≠ .look) :
    perform Impl.repaired w h op =
      match lookupH w.hs h with
      | none => ⟨w, [], some .dead, none⟩
      | some x =>
        match (plan w.fs x op).err with
        | some e => ⟨{ w with hs := setH w.hs h (plan w.fs x op).x }, [], some e, none⟩
        | none =>
          let o := runAct Impl.repaired w.fs (plan w.fs x op).act
          ⟨{ w with fs := o.fs, hs := setH w.hs h (if o.err.isNone then afterOk (plan w.fs x op).x op else (plan w.fs x op).x) },
            o.calls, actErr Impl.repaired w.fs (plan w.fs x op).act, none⟩ := by
  unfold perform
  split
  · next proc p v g => exact absurd rfl (hop proc p v g)
  · cases lookupH w.hs h with
    | none => rfl
    | some x =>
      dsimp only
      split
      · exact absurd rfl hlook
      · rfl

/-- the five ways an operation through a handle goes, each with the registry call it amounts to -/
theorem perform_cases {motive : HOut → Act → Prop} (w : World) (h : Nat) (op : HOp)
    (opened : ∀ proc p v g, op = .open proc p v g →
      motive (if g = some 0 then ⟨w, [], some .invalid, none⟩
        else ⟨{ w with hs := setH w.hs h ⟨proc, p, v, g, none, [], false⟩ }, [], none, none⟩) .idle)
    (dead : lookupH w.hs h = none → motive ⟨w, [], some .dead, none⟩ .idle)
    (look : ∀ x, lookupH w.hs h = some x → op = .look → motive (lookOn w h x) .idle)
    (refused : ∀ x e, lookupH w.hs h = some x → (plan w.fs x op).err = some e →
      motive ⟨{ w with hs := setH w.hs h (plan w.fs x op).x }, [], some e, none⟩ .idle)
    (called : ∀ x x', lookupH w.hs h = some x → (plan w.fs x op).err = none →
      let o := runAct Impl.repaired w.fs (plan w.fs x op).act
      x' = (plan w.fs x op).x ∨ (o.err = none ∧ x' = afterOk (plan w.fs x op).x op) →
      motive ⟨{ w with fs := o.fs, hs := setH w.hs h x' }, o.calls, actErr Impl.repaired w.fs (plan w.fs x op).act, none⟩
        (plan w.fs x op).act) :
    motive (perform Impl.repaired w h op) (actOf w h op) := by
  by_cases hop : ∃ proc p v g, op = .open proc p v g
  · obtain ⟨proc, p, v, g, rfl⟩ := hop
    exact opened proc p v g rfl
  · by_cases hlook : op = .look
    · subst hlook
      simp only [perform, actOf]
      cases hl : lookupH w.hs h with
      | none => exact dead hl
      | some x => exact look x hl rfl
    · have hop' : ∀ proc p v g, op ≠ .open proc p v g := fun proc p v g e => hop ⟨proc, p, v, g, e⟩
      rw [perform_general w h op hop' hlook, actOf_general w h op hop' hlook]
      cases hl : lookupH w.hs h with
      | none => exact dead hl
      | some x =>
        dsimp only
        cases he : (plan w.fs x op).err with
        | some e => exact refused x e hl he
        | none =>
          refine called x _ hl he ?_
          cases herr : (runAct Impl.repaired w.fs (plan w.fs x op).act).err with
          | none => exact Or.inr ⟨rfl, rfl⟩
          | some e => exact Or.inl rfl

theorem actOf_ok (w : World) (h : Nat) (op : HOp) : ActOk w.fs (actOf w h op) :=
  perform_cases (motive := fun _ a => ActOk w.fs a) w h op (fun _ _ _ _ _ => trivial) (fun _ => trivial)
    (fun _ _ _ => trivial) (fun _ _ _ _ => trivial) (fun x _ _ he _ => plan_ok w.fs x op he)

theorem lookOn_eq (w : World) (h : Nat) (x : Handle) :
    (lookOn w h x).w.fs = (lookTag w h x).w.fs ∧ (lookOn w h x).w.hs = (lookTag w h x).w.hs
      ∧ (lookOn w h x).w.tags = (lookTag w h x).w.tags ∧ (lookOn w h x).calls = (lookTag w h x).calls
      ∧ (lookOn w h x).err = (lookTag w h x).err ∧ (lookOn w h x).look = (lookTag w h x).look := by
  simp only [lookOn]
  split <;> exact ⟨rfl, rfl, rfl, rfl, rfl, rfl⟩

/-- the three ways `Instance.tag` goes; `quiet`: a key does not resolve, there is no generation yet, or the tag is
unreadable -/
theorem lookTag_cases {motive : HOut → Prop} (w : World) (h : Nat) (x : Handle)
    (quiet : ∀ x' err lk, Resolves x x' → (∀ t, lk ≠ some (some t)) →
      motive ⟨{ w with hs := setH w.hs h x' }, [], err, lk⟩)
    (cached : ∀ x' v g t, Resolves x x' → (resolveRel w.fs x).2 = .ok v →
      (resolveGen w.fs x.proj v (resolveRel w.fs x).1).2 = .ok (some g) →
      lookupTag w.tags x.proc (x.proj, v, g) = some t →
      motive ⟨{ w with hs := setH w.hs h x' }, [], none, some (some t)⟩)
    (read : ∀ x' v g t, Resolves x x' → (resolveRel w.fs x).2 = .ok v →
      (resolveGen w.fs x.proj v (resolveRel w.fs x).1).2 = .ok (some g) → tagOf w.fs x.proj v g = some t →
      motive ⟨{ w with hs := setH w.hs h x', tags := (x.proc, (x.proj, v, g), t) :: w.tags }, [], none, some (some t)⟩) :
    motive (lookTag w h x) := by
  have r1 := resolveRel_resolves w.fs x
  unfold lookTag
  split
  · next x1 e hr => rw [hr] at r1; exact quiet x1 _ _ r1 (fun t ht => by cases ht)
  · next x1 v hr =>
    rw [hr] at r1
    have hv : (resolveRel w.fs x).2 = .ok v := by rw [hr]
    have r2 := r1.trans (resolveGen_spec w.fs x.proj v x1).1
    split
    · next x2 e hg => rw [hg] at r2; exact quiet x2 _ _ r2 (fun t ht => by cases ht)
    · next x2 hg => rw [hg] at r2; exact quiet x2 _ _ r2 (fun t ht => by cases ht)
    · next x2 g hg =>
      rw [hg] at r2
      have hg' : (resolveGen w.fs x.proj v (resolveRel w.fs x).1).2 = .ok (some g) := by rw [hr, hg]
      split
      · next t hc => exact cached x2 v g t r2 hv hg' hc
      · split
        · next t ht => exact read x2 v g t r2 hv hg' ht
        · exact quiet x2 _ _ r2 (fun t ht => by cases ht)

theorem lookTag_fs (w : World) (h : Nat) (x : Handle) : (lookTag w h x).w.fs = w.fs ∧ (lookTag w h x).calls = [] :=
  lookTag_cases (motive := fun o => o.w.fs = w.fs ∧ o.calls = []) w h x (fun _ _ _ _ _ => ⟨rfl, rfl⟩)
    (fun _ _ _ _ _ _ _ _ => ⟨rfl, rfl⟩) (fun _ _ _ _ _ _ _ _ => ⟨rfl, rfl⟩)

theorem lookOn_fs (w : World) (h : Nat) (x : Handle) : (lookOn w h x).w.fs = w.fs ∧ (lookOn w h x).calls = [] := by
  rw [(lookOn_eq w h x).1, (lookOn_eq w h x).2.2.2.1]; exact lookTag_fs w h x

theorem perform_act (w : World) (h : Nat) (op : HOp) :
    (perform Impl.repaired w h op).w.fs = (runAct Impl.repaired w.fs (actOf w h op)).fs
      ∧ (perform Impl.repaired w h op).calls = (runAct Impl.repaired w.fs (actOf w h op)).calls := by
  refine perform_cases (motive := fun o a => o.w.fs = (runAct Impl.repaired w.fs a).fs
    ∧ o.calls = (runAct Impl.repaired w.fs a).calls) w h op ?_ (fun _ => ⟨rfl, rfl⟩) (fun x _ _ => lookOn_fs w h x)
    (fun _ _ _ _ => ⟨rfl, rfl⟩) (fun _ _ _ _ _ => ⟨rfl, rfl⟩)
  intro proc p v g _
  split <;> exact ⟨rfl, rfl⟩

theorem actErr_none (impl : Impl) (fs : Fs) (a : Act) : actErr impl fs a = none ↔ (runAct impl fs a).err = none := by
  unfold actErr
  split
  · rename_i h; simp [h]
  · rename_i e h
    simp only [h]
    cases a <;> simp

theorem perform_ok (w : World) (h : Nat) (op : HOp) (hok : (perform Impl.repaired w h op).err = none) :
    (runAct Impl.repaired w.fs (actOf w h op)).err = none :=
  perform_cases (motive := fun o a => o.err = none → (runAct Impl.repaired w.fs a).err = none) w h op
    (fun _ _ _ _ _ _ => rfl) (fun _ _ => rfl) (fun _ _ _ _ => rfl) (fun _ _ _ _ _ => rfl)
    (fun _ _ _ _ _ => (actErr_none _ _ _).mp) hok

theorem perform_fail (w : World) (h : Nat) (op : HOp) (hne : (perform Impl.repaired w h op).err ≠ none) :
    (runAct Impl.repaired w.fs (actOf w h op)).err ≠ none ∨ actOf w h op = .idle :=
  perform_cases (motive := fun o a => o.err ≠ none → (runAct Impl.repaired w.fs a).err ≠ none ∨ a = .idle) w h op
    (fun _ _ _ _ _ _ => Or.inr rfl) (fun _ _ => Or.inr rfl) (fun _ _ _ _ => Or.inr rfl) (fun _ _ _ _ _ => Or.inr rfl)
    (fun _ _ _ _ _ hne => Or.inl fun hn => hne ((actErr_none _ _ _).mpr hn)) hne

theorem perform_ok_plan (w : World) (h : Nat) (op : HOp) (hop : ∀ proc p v g, op ≠ .open proc p v g) (hlook : op ≠ .look)
    (hok : (perform Impl.repaired w h op).err = none) :
    ∃ x, lookupH w.hs h = some x ∧ (plan w.fs x op).err = none
      ∧ (runAct Impl.repaired w.fs (plan w.fs x op).act).err = none
      ∧ (perform Impl.repaired w h op).w.fs = (runAct Impl.repaired w.fs (plan w.fs x op).act).fs :=
  perform_cases (motive := fun o _ => o.err = none → ∃ x, lookupH w.hs h = some x ∧ (plan w.fs x op).err = none
      ∧ (runAct Impl.repaired w.fs (plan w.fs x op).act).err = none
      ∧ o.w.fs = (runAct Impl.repaired w.fs (plan w.fs x op).act).fs) w h op
    (fun proc p v g e => absurd e (hop proc p v g)) (fun _ hd => nomatch hd) (fun _ _ e => absurd e hlook)
    (fun _ _ _ _ hr => nomatch hr) (fun x _ hl he _ hr => ⟨x, hl, he, (actErr_none _ _ _).mp hr, rfl⟩) hok

theorem killProc_fs (w : World) (proc : Nat) : (killProc w proc).fs = w.fs := rfl

theorem actOf_cases (w : World) (h : Nat) (op : HOp) :
    actOf w h op = .idle
      ∨ ∃ x, lookupH w.hs h = some x ∧ (plan w.fs x op).err = none ∧ actOf w h op = (plan w.fs x op).act :=
  perform_cases (motive := fun _ a => a = .idle
      ∨ ∃ x, lookupH w.hs h = some x ∧ (plan w.fs x op).err = none ∧ a = (plan w.fs x op).act) w h op
    (fun _ _ _ _ _ => Or.inl rfl) (fun _ => Or.inl rfl) (fun _ _ _ => Or.inl rfl) (fun _ _ _ _ => Or.inl rfl)
    (fun x _ hl he _ => Or.inr ⟨x, hl, he, rfl⟩)

/-- whatever an event does to the shared tree is what the registry call of its operation leaves behind: at its end, at
some crash point, or where a transient fault makes it raise -/
theorem applyH_left (w : World) (e : HEv) :
    ∃ h op, (e = .run h op ∨ (∃ k cut, e = .die h op k cut) ∨ ∃ j, e = .fault h op j)
      ∧ LeftByActF w.fs (actOf w h op) (applyH Impl.repaired w e).fs := by
  have dead : ∀ h op, lookupH w.hs h = none → LeftByActF w.fs (actOf w h op) w.fs := by
    intro h op hl
    rcases actOf_cases w h op with hi | ⟨x, hx, _⟩
    · rw [hi]; exact Or.inl (Or.inl rfl)
    · rw [hl] at hx; cases hx
  cases e with
  | run h op => exact ⟨h, op, Or.inl rfl, Or.inl (Or.inl (perform_act w h op).1)⟩
  | die h op k cut =>
    refine ⟨h, op, Or.inr (Or.inl ⟨k, cut, rfl⟩), ?_⟩
    cases hl : lookupH w.hs h with
    | none => simp only [applyH, hl]; exact dead h op hl
    | some x => exact Or.inl (Or.inr ⟨k, cut, by simp only [applyH, hl, killProc_fs, (perform_act w h op).2]⟩)
  | fault h op j =>
    refine ⟨h, op, Or.inr (Or.inr ⟨j, rfl⟩), ?_⟩
    cases hl : lookupH w.hs h with
    | none => simp only [applyH, hl]; exact dead h op hl
    | some x => exact Or.inr ⟨j, by simp only [applyH, hl, faultTree, (perform_act w h op).2]⟩

theorem playH_append (impl : Impl) (w : World) (evs evs' : List HEv) :
    playH impl w (evs ++ evs') = playH impl (playH impl w evs) evs' := by
  induction evs generalizing w with
  | nil => rfl
  | cons e r ih => simp only [List.cons_append, playH]; exact ih _

theorem applyH_good2 (w : World) (g2 : Good2 w.fs) (e : HEv) :
    Good2 (applyH Impl.repaired w e).fs ∧ Keeps w.fs (applyH Impl.repaired w e).fs := by
  obtain ⟨h, op, _, hl⟩ := applyH_left w e
  exact ⟨(act_left_F w.fs g2 _ (actOf_ok w h op) _ hl).1, (act_left_F w.fs g2 _ (actOf_ok w h op) _ hl).2.1⟩

theorem playH_left (evs : List HEv) : ∀ w, Good2 w.fs →
    Good2 (playH Impl.repaired w evs).fs ∧ Keeps w.fs (playH Impl.repaired w evs).fs := by
  induction evs with
  | nil => intro w g; exact ⟨g, Keeps.refl _⟩
  | cons e r ih =>
    intro w g
    obtain ⟨g1, k1⟩ := applyH_good2 w g e
    exact ⟨(ih _ g1).1, k1.trans (ih _ g1).2⟩

theorem playH_good2 (evs : List HEv) : Good2 (playH Impl.repaired World.empty evs).fs :=
  (playH_left evs _ empty_good2).1

/-- coherence of the TAGS caches: every tag a process has cached is the tag a fresh reader reads for that generation -/
def TagsOk (w : World) : Prop :=
  ∀ e ∈ w.tags, ∃ b, vis w.fs (tagP e.2.1.1 e.2.1.2.1 e.2.1.2.2) = some (.file b) ∧ decodeTag b = some e.2.2

/-- a first-match lookup that succeeds has found its entry in the list -/
theorem lookup_mem {α β : Type} (f : List α → Option β) (p : α → Prop) [DecidablePred p] (val : α → β)
    (hnil : f [] = none) (hcons : ∀ e r, f (e :: r) = if p e then some (val e) else f r) :
    ∀ l b, f l = some b → ∃ e ∈ l, p e ∧ val e = b := by
  intro l
  induction l with
  | nil => intro b h; rw [hnil] at h; cases h
  | cons e r ih =>
    intro b h
    rw [hcons] at h
    split at h
    · next hp => cases h; exact ⟨e, List.mem_cons_self, hp, rfl⟩
    · obtain ⟨e', he', hp⟩ := ih b h
      exact ⟨e', List.mem_cons_of_mem _ he', hp⟩

theorem lookupTag_mem (tags : List (Nat × (Nat × Nat × Nat) × Tag)) (proc : Nat) (key : Nat × Nat × Nat) (t : Tag)
    (h : lookupTag tags proc key = some t) : (proc, key, t) ∈ tags := by
  obtain ⟨⟨e1, e2, e3⟩, he, ⟨rfl, rfl⟩, rfl⟩ := lookup_mem (fun l => lookupTag l proc key)
    (fun e => e.1 = proc ∧ e.2.1 = key) (·.2.2) rfl (fun _ _ => rfl) tags t h
  exact he

theorem vis_tag_of (fs : Fs) (p v g : Nat) (t : Tag) (hl : relListed fs p v = true) (hg : genValid fs p v g = true)
    (ht : tagOf fs p v g = some t) : ∃ b, vis fs (tagP p v g) = some (.file b) ∧ decodeTag b = some t := by
  unfold tagOf at ht
  split at ht
  · rename_i b hb
    exact ⟨b, by simp only [vis, tagP, genListed, hl, hg, Bool.and_self, if_true]; exact hb, ht⟩
  · cases ht

theorem tagOf_of_vis (fs : Fs) (p v g : Nat) (b : Bytes) (t : Tag) (hv : vis fs (tagP p v g) = some (.file b))
    (hd : decodeTag b = some t) : genListed fs p v g = true ∧ tagOf fs p v g = some t := by
  simp only [vis, tagP] at hv
  split at hv
  · rename_i hl
    refine ⟨hl, ?_⟩
    simp only [tagOf, tagP, hv]; exact hd
  · cases hv

theorem TagsOk.mono {w w' : World} (tk : TagsOk w) (sub : ∀ e ∈ w'.tags, e ∈ w.tags)
    (mono : ∀ key n, vis w.fs key = some n → vis w'.fs key = some n) : TagsOk w' :=
  fun e he => (tk e (sub e he)).imp fun _ hb => ⟨mono _ _ hb.1, hb.2⟩

/-- a new entry was just read from a listed generation of the tree -/
theorem lookOn_tagsOk (w : World) (tk : TagsOk w) (h : Nat) (x : Handle) : TagsOk (lookOn w h x).w := by
  intro e he
  rw [(lookOn_eq w h x).2.2.1] at he
  rw [(lookOn_eq w h x).1, (lookTag_fs w h x).1]
  revert he
  refine lookTag_cases (motive := fun o => e ∈ o.w.tags → _) w h x (fun _ _ _ _ _ he => tk e he)
    (fun _ _ _ _ _ _ _ _ he => tk e he) ?_
  intro x' v g t _ hv hg ht he
  rcases List.mem_cons.mp he with rfl | he
  · exact vis_tag_of w.fs _ _ _ _ (resolveRel_ok w.fs x v hv).1 ((resolveGen_spec w.fs x.proj v _).2 g hg) ht
  · exact tk e he

end ForML.Registry
