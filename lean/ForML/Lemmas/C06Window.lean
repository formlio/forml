/-
C06 — LIMIT / OFFSET arithmetic: what `generate_query` emits for `Rows(count, offset)` (`LIMIT count`, and `OFFSET offset`
only when the offset is non-zero) selects exactly the rows `[offset, offset + count)` of the result without a limit, in
the SQL the parser emits and in the reference denotation alike.
-/
import ForML.Model.Parser
import ForML.Model.DslDenote
import ForML.Lemmas.ListFacts

namespace ForML.C06
open ForML.Dsl ForML.Rel ForML.Parser ForML.Denote

theorem mapM_cons_option {α β : Type} (f : α → Option β) (a : α) (l : List α) :
    (a :: l).mapM f = (f a).bind fun b => (l.mapM f).map (b :: ·) := by
  rw [List.mapM_cons]
  cases f a <;> cases l.mapM f <;> rfl

theorem mapM_take {α β : Type} (f : α → Option β) (l : List α) (out : List β) (n : Nat) (h : l.mapM f = some out) :
    (l.take n).mapM f = some (out.take n) :=
  mapM_eq_some_iff_map.mpr (by rw [List.map_take, mapM_eq_some_iff_map.mp h, List.map_take])

theorem mapM_drop {α β : Type} (f : α → Option β) (l : List α) (out : List β) (n : Nat) (h : l.mapM f = some out) :
    (l.drop n).mapM f = some (out.drop n) :=
  mapM_eq_some_iff_map.mpr (by rw [List.map_drop, mapM_eq_some_iff_map.mp h, List.map_drop])

/-- the rows `[offset, offset + count)` -/
def windowOf {α : Type} (off lim : Option Int) (l : List α) : List α :=
  let l := match off with
    | none => l
    | some o => l.drop (toNat' o)
  match lim with
  | none => l
  | some n => l.take (toNat' n)

/-- `runQuery` up to (and without) OFFSET / LIMIT and the projection -/
def preWindow (c : Clauses) (width : Nat) (rows : List Row) : Option (List Unit') := do
  let rows ← match c.whr with
    | none => some rows
    | some p => filterRows (fun r => p [r] r) rows
  let us ← units c width rows
  let us ← match c.hav with
    | none => some us
    | some p => filterRows (fun (u : Unit') => p u.1 u.2) us
  if c.ord.isEmpty then some us else do
    let keyed ← us.mapM (fun (u : Unit') => do
      let ks ← c.ord.mapM (fun (e : Ev × SortDir) => e.1 u.1 u.2)
      pure (ks, u))
    pure ((sortKeyed (c.ord.map (·.2)) keyed).map (·.2))

theorem runQuery_eq (c : Clauses) (w : Nat) (rows : List Row) :
    runQuery c w rows =
      (preWindow c w rows).bind (fun us => (windowOf c.off c.lim us).mapM (fun (u : Unit') => c.sel.mapM (fun e => e u.1 u.2))) := by
  obtain ⟨agg, sel, whr, grp, hav, ord, off, lim⟩ := c
  unfold runQuery preWindow windowOf
  cases whr <;> cases hav <;> cases ord.isEmpty <;>
    simp only [Option.bind_eq_bind, Option.bind_assoc, Option.bind_some, Option.pure_def, if_true,
      Bool.false_eq_true, if_false] <;> rfl

theorem preWindow_window (c : Clauses) (off lim : Option Int) (w : Nat) (rows : List Row) :
    preWindow { c with off := off, lim := lim } w rows = preWindow c w rows := rfl

/-- OFFSET / LIMIT cut the window out of the result of the same block without them -/
theorem runQuery_window (c : Clauses) (w : Nat) (rows out : List Row) (off lim : Option Int)
    (h : runQuery { c with off := none, lim := none } w rows = some out) :
    runQuery { c with off := off, lim := lim } w rows = some (windowOf off lim out) := by
  rw [runQuery_eq] at h ⊢
  rw [preWindow_window] at h ⊢
  cases hp : preWindow c w rows with
  | none => simp [hp] at h
  | some us =>
    simp only [hp, Option.bind_some, windowOf] at h ⊢
    cases off with
    | none =>
      cases lim with
      | none => exact h
      | some n => exact mapM_take _ us out _ h
    | some o =>
      have hd := mapM_drop _ us out (toNat' o) h
      cases lim with
      | none => exact hd
      | some n => exact mapM_take _ _ _ _ hd

-- `lim off` in the order of `SqlSel.select` and `sqlClauses`; `windowOf` and `runQuery_window` take `off lim`
theorem evalSql_window (items : List SqlExpr) (frm : SqlSel) (whr : Option SqlExpr) (grp : List SqlExpr)
    (hav : Option SqlExpr) (ord : List (SqlExpr × SortDir)) (lim off : Option Int) (db : Db) (R : ORel)
    (h : evalSql (.select items frm whr grp hav ord none none) db = some R) :
    evalSql (.select items frm whr grp hav ord lim off) db = some ⟨R.names, windowOf off lim R.rows⟩ := by
  simp only [evalSql, evalOut] at h ⊢
  cases hF : evalFrom frm db with
  | none => simp [hF] at h
  | some F =>
    simp only [hF] at h ⊢
    cases hr : runQuery (sqlClauses F.cols items whr grp hav ord none none) F.cols.length F.rows with
    | none => simp [hr] at h
    | some out =>
      simp only [hr, Option.map_some, Option.some.injEq] at h
      have := runQuery_window (sqlClauses F.cols items whr grp hav ord none none) F.cols.length F.rows out off lim hr
      have hc : sqlClauses F.cols items whr grp hav ord lim off =
          { sqlClauses F.cols items whr grp hav ord none none with off := off, lim := lim } := rfl
      rw [hc, this, ← h]
      rfl

/-- `Rows(count, offset)` as the window it denotes: OFFSET is omitted when zero — skipping zero rows -/
theorem windowOf_rowsOpts (c o : Int) (l : List Row) :
    windowOf (rowsOpts (some (c, o))).2 (rowsOpts (some (c, o))).1 l = (l.drop (toNat' o)).take (toNat' c) := by
  by_cases h : o = 0
  · subst h; simp [rowsOpts, windowOf, toNat']
  · simp [rowsOpts, windowOf, h]

/-- the documented meaning of `limit(count, offset)`: skip `offset` rows, keep `count` -/
theorem denote_window (srcs : Sources) (src : Source) (sel : Features) (pre : FeatureOpt) (grp : Features)
    (post : FeatureOpt) (ord : Orderings) (c o : Int) (db : Db) (R : ORel)
    (h : denote srcs (.query src sel pre grp post ord none) db = some R) :
    denote srcs (.query src sel pre grp post ord (some (c, o))) db =
      some ⟨R.names, (R.rows.drop (toNat' o)).take (toNat' c)⟩ := by
  simp only [denote, denoteOut] at h ⊢
  cases hF : denoteFrom srcs src db with
  | none => simp [hF] at h
  | some F =>
    simp only [hF] at h ⊢
    cases hs : (if sel.isEmpty = true then (originElems src).map elemFeatures else some sel) with
    | none => simp [hs] at h
    | some sel' =>
      simp only [hs] at h ⊢
      by_cases he : sel'.isEmpty = true
      · simp [he] at h
      · have he' : sel'.isEmpty = false := by simpa using he
        simp only [he', Bool.false_eq_true, if_false] at h ⊢
        cases hr : runQuery (dslClauses F.labels sel' pre grp post ord none) F.labels.length F.rows with
        | none => simp [hr] at h
        | some out =>
          simp only [hr, Option.map_some, Option.some.injEq] at h
          have := runQuery_window (dslClauses F.labels sel' pre grp post ord none) F.labels.length F.rows out
            (some o) (some c) hr
          have hc : dslClauses F.labels sel' pre grp post ord (some (c, o)) =
              { dslClauses F.labels sel' pre grp post ord none with off := some o, lim := some c } := rfl
          rw [hc, this, ← h]
          rfl

end ForML.C06
