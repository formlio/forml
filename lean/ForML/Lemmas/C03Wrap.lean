/-
C03 — `wrap.Operator.compose`, semantic side: `denoteWrap` (written from the documentation with `unify`/`stateFor`) with
its local definitions named, the de-duplicating fold as `newIn`, and the dict of prototypes of `build` read as the list of
engaged actors.
-/
import ForML.Lemmas.C03Build

namespace ForML.Compose

/-- the (transformed) labels: output of the label actor, if any -/
def labelVal (lab : Option Actor) (vt vl : Val) : Val :=
  match lab with
  | some l => applied l (trainedState l vt vl) vl
  | none => vl

/-- the actor of a slot, if its builder is not among the engaged actors `ks` -/
def newIn (ks : List Actor) (o : Option Actor) : List Actor :=
  o.toList.filter fun a => !ks.any (fun k => k.tag == a.tag)

theorem foldl_newIn (ks : List Actor) (o : Option Actor) :
    o.toList.foldl (fun acc a => if acc.any (fun k => k.tag == a.tag) then acc else acc ++ [a]) ks = ks ++ newIn ks o := by
  cases o with
  | none => simp [newIn]
  | some a =>
    cases h : ks.any (fun k => k.tag == a.tag) <;>
      simp only [newIn, Option.toList, List.foldl, List.filter, h, Bool.not_true, Bool.not_false, Bool.false_eq_true,
        if_true, if_false, List.append_nil]

/-- a second actor of a builder already engaged is never the one `unify` finds -/
theorem unify_newIn (ks : List Actor) (o : Option Actor) (b : Actor) :
    unify (ks ++ newIn ks o) b = unify (ks ++ o.toList) b := by
  cases o with
  | none => rfl
  | some a =>
    by_cases h : ks.any (fun k => k.tag == a.tag) = true
    · obtain ⟨k, hk, hka⟩ := List.any_eq_true.mp h
      simp only [unify, newIn, Option.toList, List.filter, h, Bool.not_true, List.append_nil, List.find?_append]
      cases hf : ks.find? (fun k => k.tag == b.tag) with
      | some _ => rfl
      | none =>
        have : (k.tag == b.tag) = false := by simpa using List.find?_eq_none.mp hf k hk
        have : (a.tag == b.tag) = false := by rw [← this, ← beq_iff_eq.mp hka]
        simp [this]
    · simp [newIn, h]

/-- the state `denoteWrap` gives actor `a`: that of the label actor if `a` comes from its builder, else the one trained
on the transformed labels -/
def wrapState (lab : Option Actor) (vt vl : Val) (a : Actor) : Val :=
  match lab with
  | some l => if l.tag == a.tag then trainedState l vt vl else trainedState a vt (labelVal lab vt vl)
  | none => trainedState a vt vl

theorem wrapState_label (l : Actor) (vt vl : Val) : wrapState (some l) vt vl l = trainedState l vt vl := by
  simp [wrapState]

theorem wrapState_new {lab : Option Actor} {ks : List Actor} (hks : ∀ l, lab = some l → l ∈ ks) (vt vl : Val) {a : Actor}
    (hf : ks.find? (fun k => k.tag == a.tag) = none) :
    wrapState lab vt vl a = trainedState a vt (labelVal lab vt vl) := by
  cases lab with
  | none => rfl
  | some l =>
    have : (l.tag == a.tag) = false := by simpa using List.find?_eq_none.mp hf l (hks l rfl)
    simp [wrapState, this]

theorem newIn_nil (o : Option Actor) : newIn [] o = o.toList := by cases o <;> rfl

theorem map_unify_nil (o : Option Actor) : o.map (unify []) = o := by cases o <;> rfl

theorem denoteWrap_unify (lab app trn : Option Actor) (S : Scope) (xa xt xl : Val) :
    denoteWrap lab app trn S xa xt xl =
      { apply := ((app.map (unify lab.toList)).map fun a =>
          applied a (wrapState lab (S xa xt xl).train (S xa xt xl).label a) (S xa xt xl).apply).getD (S xa xt xl).apply
        train := ((trn.map (unify (lab.toList ++ (app.map (unify lab.toList)).toList))).map fun a =>
          applied a (wrapState lab (S xa xt xl).train (S xa xt xl).label a) (S xa xt xl).train).getD (S xa xt xl).train
        label := labelVal lab (S xa xt xl).train (S xa xt xl).label
        states := (S xa xt xl).states ++
          (((lab.toList ++ (app.map (unify lab.toList)).toList ++
              (trn.map (unify (lab.toList ++ (app.map (unify lab.toList)).toList))).toList).foldl
            (fun acc a => if acc.any (fun k => k.tag == a.tag) then acc else acc ++ [a]) []).filter (·.stateful)).map
            fun a => (a.tag, wrapState lab (S xa xt xl).train (S xa xt xl).label a) } := by
  cases lab <;> cases app <;> cases trn <;> rfl

theorem find?_actors : ∀ (groups : List (Nat × WRef)) (τ : Nat), (∀ e ∈ groups, e.2.actor.tag = e.1) →
    (groups.map (·.2.actor)).find? (fun k => k.tag == τ) = (groups.lookup τ).map (·.actor) := by
  intro groups
  induction groups with
  | nil => intro τ _; rfl
  | cons x xs ih =>
    intro τ h
    obtain ⟨k, p⟩ := x
    have hk : p.actor.tag = k := h (k, p) List.mem_cons_self
    by_cases hτ : τ = k
    · subst hτ
      simp [List.lookup, hk]
    · have h1 : (τ == k) = false := by simpa using hτ
      have h2 : ¬ p.actor.tag = τ := by rw [hk]; exact fun e => hτ e.symm
      simp only [List.map_cons, List.lookup, h1]
      rw [List.find?_cons_of_neg (by simpa using h2)]
      exact ih τ (fun e he => h e (List.mem_cons_of_mem _ he))

theorem buildActor_eq_unify {groups : List (Nat × WRef)} (h : ∀ e ∈ groups, e.2.actor.tag = e.1) (a : Actor) :
    buildActor groups a = unify (groups.map (·.2.actor)) a := by
  unfold buildActor unify
  rw [find?_actors groups a.tag h]
  cases groups.lookup a.tag <;> rfl

end ForML.Compose
