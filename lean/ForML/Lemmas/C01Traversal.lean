/-
C01 — `span.Traversal.each` (`Segment.dfs` / `Segment.eachE`) enumerates the members of a segment: it is the search of
`C01Dfs` over `Segment.followed` and never raises, the `Cyclic` test of `Traversal.subscribers` being out of its reach. So
on every segment whose subscriptions stay inside the listed members, cyclic or not, the visit order holds the nodes
reachable from the head once each, not continuing past the tail except into trained subscribers; for a well-formed
segment `connected` says exactly that every listed member is reachable.
-/
import ForML.Lemmas.C01Dfs
import ForML.Lemmas.C01Wf

namespace ForML.Flow
namespace Segment

theorem dfs_eq_gdfs (g : Segment) : ∀ (f : Nat) (seen : List Uid) (n : Uid), g.dfs f seen n = gdfs g.followed f seen n := by
  intro f
  induction f with
  | zero => intro seen n; rfl
  | succ f ih =>
    intro seen n
    simp only [dfs, gdfs, followed]
    cases hw : g.worker? n with
    | none => simp
    | some w =>
      simp only [List.foldl_map, List.foldl_filter]
      congr 1
      funext acc e
      rw [ih]
      cases acc.contains e.sub <;> cases (decide (n = g.tail) && !g.trained e.sub) <;> rfl

/-- **`Traversal.each` never raises `Cyclic`**: every node of the recursion path is in the global `seen` set, and the
`seen` mask is tested before the path; so the traversal of any graph, cyclic or not, is the plain search. -/
theorem eachE_eq_dfs (g : Segment) : ∀ (f : Nat) (path seen : List Uid) (n : Uid), (∀ x ∈ path, x ∈ seen) →
    g.eachE f path seen n = .ok (g.dfs f seen n) := by
  intro f
  induction f with
  | zero => intro path seen n _; rfl
  | succ f ih =>
    intro path seen n hp
    simp only [eachE, dfs]
    cases hw : g.worker? n with
    | none => rfl
    | some w =>
      simp only
      have h0 : ∀ x ∈ n :: path, x ∈ seen ++ [n] := by
        intro x hx
        rcases List.mem_cons.mp hx with rfl | hx
        · simp
        · exact List.mem_append_left _ (hp x hx)
      generalize seen ++ [n] = acc at h0
      induction g.outEdges w generalizing acc with
      | nil => rfl
      | cons e l ihl =>
        simp only [List.foldlM_cons, List.foldl_cons]
        by_cases hc : (acc.contains e.sub || (decide (n = g.tail) && !g.trained e.sub)) = true
        · simp only [hc, if_true]
          exact ihl acc h0
        · simp only [hc]
          have hns : e.sub ∉ acc := by
            intro hmem
            simp [hmem] at hc
          have hnp : (n :: path).contains e.sub = false := by
            cases hcp : (n :: path).contains e.sub with
            | false => rfl
            | true => exact absurd (h0 _ (List.contains_iff_mem.mp hcp)) hns
          simp only [hnp]
          rw [ih (n :: path) acc e.sub (fun x hx => h0 x hx)]
          exact ihl _ (fun x hx => by rw [dfs_eq_gdfs]; exact gdfs_sub _ _ _ _ x (h0 x hx))

theorem each_eq (g : Segment) : g.each = .ok g.visitOrder := eachE_eq_dfs g _ [] [] g.head (by simp)

theorem mem_outEdges {g : Segment} {w : Worker} {e : Edge} :
    e ∈ g.outEdges w ↔ e ∈ g.edges ∧ e.pub = w.uid ∧ e.pubPort < w.szout := by
  simp only [outEdges, subscribers, List.mem_flatMap, List.mem_range, List.mem_filter, Bool.and_eq_true,
    decide_eq_true_eq]
  constructor
  · rintro ⟨i, hi, he, hp, rfl⟩
    exact ⟨he, hp, hi⟩
  · rintro ⟨he, hp, hi⟩
    exact ⟨e.pubPort, hi, he, hp, rfl⟩

theorem mask_iff (n tail : Uid) (t : Bool) : (!(decide (n = tail) && !t)) = true ↔ ¬(n = tail ∧ t = false) := by
  cases t <;> simp

theorem mem_followed {g : Segment} {n m : Uid} :
    m ∈ g.followed n ↔ ∃ w e, g.worker? n = some w ∧ e ∈ g.edges ∧ e.pub = w.uid ∧ e.pubPort < w.szout ∧ e.sub = m ∧
      ¬(n = g.tail ∧ g.trained m = false) := by
  unfold followed
  cases hw : g.worker? n with
  | none => simp
  | some w =>
    simp only [List.mem_map, List.mem_filter, mem_outEdges, mask_iff]
    constructor
    · rintro ⟨e, ⟨⟨he, hp, hi⟩, hm⟩, rfl⟩
      exact ⟨w, e, rfl, he, hp, hi, rfl, hm⟩
    · rintro ⟨w', e, hw', he, hp, hi, rfl, hm⟩
      cases hw'
      exact ⟨e, ⟨⟨he, hp, hi⟩, hm⟩, rfl⟩

theorem closed_iff {g : Segment} : g.closed = true ↔ g.head ∈ g.uids ∧ ∀ e ∈ g.edges, e.sub ∈ g.uids := by
  simp only [closed, Bool.and_eq_true, List.all_eq_true, List.contains_iff_mem]

theorem followed_closed {g : Segment} (h : g.closed = true) : ∀ n ∈ g.uids, ∀ m ∈ g.followed n, m ∈ g.uids := by
  intro n _ m hm
  obtain ⟨_, e, _, he, _, _, rfl, _⟩ := mem_followed.mp hm
  exact (closed_iff.mp h).2 e he

theorem uids_length (g : Segment) : g.uids.length = g.workers.length := by simp [uids]

/-- **`Traversal.each` visits every node reachable from the head exactly once and nothing else** (any segment whose
subscriptions stay inside the listed members; no acyclicity needed) -/
theorem visitOrder_spec {g : Segment} (h : g.closed = true) :
    g.visitOrder.Nodup ∧ (∀ x ∈ g.visitOrder, x ∈ g.uids) ∧ ∀ x, x ∈ g.visitOrder ↔ Reach g.followed g.head x := by
  unfold visitOrder
  rw [dfs_eq_gdfs]
  exact gdfs_reach (followed_closed h) (closed_iff.mp h).1 (by rw [uids_length]; omega)

theorem wf_closed {g : Segment} {rank : Uid → Nat} (h : g.wf rank = true) : g.closed = true := by
  have hw := wf_WF h
  refine closed_iff.mpr ⟨hw.head, fun e he => ?_⟩
  obtain ⟨s, hs, _⟩ := (hw.edge e he).sub
  obtain ⟨hmem, hid⟩ := worker?_some hs
  exact mem_uids.mpr ⟨s, hmem, hid⟩

theorem connected_iff {g : Segment} : g.connected = true ↔
    ∀ w ∈ g.workers, w.uid = g.head ∨ ∃ e ∈ g.edges, e.sub = w.uid ∧ (e.pub ≠ g.tail ∨ g.trained w.uid = true) := by
  simp [connected]

/-- a listed member that is reachable is either the head or followed through one of its subscriptions -/
theorem connected_of_reach {g : Segment} (h : ∀ x ∈ g.uids, Reach g.followed g.head x) : g.connected = true := by
  rw [connected_iff]
  intro w hw
  rcases reach_cases (h w.uid (mem_uids.mpr ⟨w, hw, rfl⟩)) with hh | ⟨b, _, hc⟩
  · exact Or.inl hh
  · obtain ⟨p, e, hp, he, hpub, _, hsub, hm⟩ := mem_followed.mp hc
    refine Or.inr ⟨e, he, hsub, ?_⟩
    have hb : p.uid = b := (worker?_some hp).2
    by_cases ht : g.trained w.uid = true
    · exact Or.inr ht
    · refine Or.inl (fun hpt => hm ⟨?_, by simpa using ht⟩)
      rw [← hb, ← hpub, hpt]

/-- in a well-formed segment every member with a followed subscription is reachable (induction along the numbering) -/
theorem reach_of_connected {g : Segment} {rank : Uid → Nat} (hw : WF g rank) (hc : g.connected = true) :
    ∀ x ∈ g.uids, Reach g.followed g.head x := by
  rw [connected_iff] at hc
  suffices H : ∀ (k : Nat) (x : Uid), rank x < k → x ∈ g.uids → Reach g.followed g.head x from
    fun x hx => H (rank x + 1) x (Nat.lt_succ_self _) hx
  intro k
  induction k with
  | zero => intro x hx; omega
  | succ k ih =>
    intro x hk hx
    obtain ⟨w, hwm, rfl⟩ := mem_uids.mp hx
    rcases hc w hwm with hh | ⟨e, he, hsub, hfol⟩
    · rw [hh]; exact .refl
    · have hok := hw.edge e he
      obtain ⟨p, hp, hport⟩ := hok.pub
      obtain ⟨hpm, hpid⟩ := worker?_some hp
      have hrk : rank e.pub < k := by have := hok.rank; rw [hsub] at this; omega
      have hrp := ih e.pub hrk (mem_uids.mpr ⟨p, hpm, hpid⟩)
      refine .step hrp (mem_followed.mpr ⟨p, e, hp, he, hpid.symm, hport, hsub, ?_⟩)
      rintro ⟨h1, h2⟩
      rcases hfol with h | h
      · exact h h1
      · rw [h] at h2; cases h2

/-- **the member list of a well-formed segment is the reachable set iff it is `connected`** -/
theorem connected_iff_reach {g : Segment} {rank : Uid → Nat} (h : g.wf rank = true) :
    g.connected = true ↔ ∀ x ∈ g.uids, Reach g.followed g.head x :=
  ⟨reach_of_connected (wf_WF h), connected_of_reach⟩

theorem visitOrder_perm {g : Segment} {rank : Uid → Nat} (h : g.wf rank = true) (hc : g.connected = true) :
    g.visitOrder.Perm g.uids := by
  obtain ⟨hnd, hsub, hiff⟩ := visitOrder_spec (wf_closed h)
  rw [List.perm_ext_iff_of_nodup hnd (wf_WF h).nodup]
  exact fun x => ⟨hsub x, fun hx => (hiff x).mpr (reach_of_connected (wf_WF h) hc x hx)⟩

theorem connected_of_perm {g : Segment} {rank : Uid → Nat} (h : g.wf rank = true) (hp : g.visitOrder.Perm g.uids) :
    g.connected = true := by
  obtain ⟨_, _, hiff⟩ := visitOrder_spec (wf_closed h)
  exact connected_of_reach (fun x hx => (hiff x).mp (hp.mem_iff.mpr hx))

end Segment
end ForML.Flow
