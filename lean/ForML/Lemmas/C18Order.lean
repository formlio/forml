/-
C18: lawful comparators (strict total orders given as `Ordering`-valued functions): the Python tuple / list
comparisons of the model are core's `compare`; and the listing invariants.
-/
import ForML.Model.Keys

namespace ForML.Keys

/-- `cmp` is a strict total order: `.eq` exactly on equal arguments, antisymmetric, transitive. -/
structure Lawful (cmp : α → α → Ordering) : Prop where
  eq_iff : ∀ a b, cmp a b = .eq ↔ a = b
  swap : ∀ a b, cmp b a = (cmp a b).swap
  trans : ∀ a b c, cmp a b = .lt → cmp b c = .lt → cmp a c = .lt

theorem Lawful.refl {cmp : α → α → Ordering} (h : Lawful cmp) (a : α) : cmp a a = .eq :=
  (h.eq_iff a a).mpr rfl

theorem Lawful.gt_iff {cmp : α → α → Ordering} (h : Lawful cmp) (a b : α) :
    cmp a b = .gt ↔ cmp b a = .lt := by
  rw [h.swap a b]; cases cmp a b <;> simp [Ordering.swap]

/-- what core's order classes say of a comparison -/
theorem lawful_of_std {cmp : α → α → Ordering} [Std.TransCmp cmp] [Std.LawfulEqCmp cmp] : Lawful cmp :=
  ⟨fun _ _ => Std.LawfulEqCmp.compare_eq_iff_eq, fun _ _ => Std.OrientedCmp.eq_swap, fun _ _ _ => Std.TransCmp.lt_trans⟩

/-! The comparators of the model are core's `compare`: on `Nat` and `Int` by definition, on lists the lexicographic one
(`List.compareLex`), on options `none` first, on pairs the lexicographic `lexOrd`.  So the comparison of keys is `compare`
on `CmpKey`, and a strict total order because core's instances are. -/

theorem lawful_nat : Lawful natCmp := lawful_of_std (cmp := compare)

theorem lawful_int : Lawful intCmp := lawful_of_std (cmp := compare)

theorem listCmp_eq (c : α → α → Ordering) (as bs : List α) : listCmp c as bs = List.compareLex c as bs := by
  fun_induction listCmp c as bs <;> simp_all [List.compareLex]

-- core gives pairs no `Ord` instance of their own; this is its lexicographic one
attribute [local instance] lexOrd

theorem listCmp_compare [Ord α] : listCmp (compare : α → α → Ordering) = compare := by
  funext as bs; exact listCmp_eq _ _ _

theorem prodCmp_compare [Ord α] [Ord β] :
    prodCmp (compare : α → α → Ordering) (compare : β → β → Ordering) = compare := by
  funext ⟨a1, b1⟩ ⟨a2, b2⟩
  show _ = compareLex (compareOn (·.1)) (compareOn (·.2)) (a1, b1) (a2, b2)
  simp only [prodCmp, compareLex, compareOn, Ordering.then]
  cases compare a1 a2 <;> rfl

theorem optCmp_compare [Ord α] : optCmp (compare : α → α → Ordering) = compare := by
  funext a b; cases a <;> cases b <;> rfl

theorem cmpKey_compare : cmpKey = compare := by
  unfold cmpKey
  rw [show natCmp = compare from rfl, show intCmp = compare from rfl]
  simp only [listCmp_compare, prodCmp_compare, optCmp_compare]

theorem lawful_cmpKey : Lawful cmpKey := cmpKey_compare ▸ lawful_of_std

theorem cmpkey_head (v : Version) : ∃ s l, cmpkey v = (v.epoch, trim v.release, s, l) := by
  unfold cmpkey
  split <;> exact ⟨_, _, rfl⟩

theorem trim_snoc_zero (r : List Nat) : trim (r ++ [0]) = trim r := by
  simp [trim]

theorem cmpKey_same (e : Nat) (r : List Nat) (s1 s2 : List Int) (l1 l2 : Option (List (Int × List Nat))) :
    cmpKey (e, r, s1, l1) (e, r, s2, l2) =
      prodCmp (listCmp intCmp) (optCmp (listCmp (prodCmp intCmp (listCmp natCmp)))) (s1, l1) (s2, l2) := by
  have h1 : natCmp e e = .eq := lawful_nat.refl e
  have h2 : listCmp natCmp r r = .eq := by
    rw [show natCmp = compare from rfl, listCmp_compare]; exact Std.ReflCmp.compare_self
  simp [cmpKey, prodCmp, h1, h2]

/-- strictly ascending w.r.t. `cmp` -/
def Sorted (cmp : α → α → Ordering) (l : List α) : Prop := l.Pairwise (fun a b => cmp a b = .lt)

theorem insert_mem {cmp : α → α → Ordering} (h : Lawful cmp) (x y : α) (l : List α) :
    y ∈ insert cmp x l ↔ y = x ∨ y ∈ l := by
  induction l with
  | nil => simp [insert]
  | cons z r ih =>
    simp only [insert]
    cases hxz : cmp x z with
    | lt => simp
    | eq =>
      have e := (h.eq_iff x z).mp hxz; subst e
      simp
    | gt =>
      simp only [List.mem_cons, ih]
      exact or_left_comm

theorem insert_sorted {cmp : α → α → Ordering} (h : Lawful cmp) (x : α) (l : List α)
    (hs : Sorted cmp l) : Sorted cmp (insert cmp x l) := by
  induction l with
  | nil => simp [insert, Sorted]
  | cons z r ih =>
    simp only [insert]
    have hs' := List.pairwise_cons.mp hs
    cases hxz : cmp x z with
    | lt =>
      refine List.pairwise_cons.mpr ⟨?_, hs⟩
      intro w hw
      rcases List.mem_cons.mp hw with e | hw
      · subst e; exact hxz
      · exact h.trans _ _ _ hxz (hs'.1 w hw)
    | eq => exact hs
    | gt =>
      refine List.pairwise_cons.mpr ⟨?_, ih hs'.2⟩
      intro w hw
      rcases (insert_mem h x w r).mp hw with e | hw
      · subst e; exact (h.gt_iff _ _).mp hxz
      · exact hs'.1 w hw

theorem foldl_insert_sorted {cmp : α → α → Ordering} (h : Lawful cmp) (xs acc : List α)
    (hs : Sorted cmp acc) : Sorted cmp (xs.foldl (fun acc x => insert cmp x acc) acc) := by
  induction xs generalizing acc with
  | nil => exact hs
  | cons x r ih => exact ih _ (insert_sorted h x acc hs)

theorem foldl_insert_mem {cmp : α → α → Ordering} (h : Lawful cmp) (xs acc : List α) (y : α) :
    y ∈ xs.foldl (fun acc x => insert cmp x acc) acc ↔ y ∈ xs ∨ y ∈ acc := by
  induction xs generalizing acc with
  | nil => simp
  | cons x r ih =>
    simp only [List.foldl_cons, ih, insert_mem h, List.mem_cons]
    exact or_left_comm.trans or_assoc.symm

end ForML.Keys
