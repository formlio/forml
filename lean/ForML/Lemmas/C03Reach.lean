/-
`Wired g`: every recorded subscription is *the* subscription of its input port (`subscribe` refuses a second one) and
the uid of its publisher has been drawn — uids and gids share the counter, so this does not say that a node with that
uid is recorded.  `Reach g a b`: `b` is `a` or a transitive subscriber of `a`, the nodes `Segment.copy` follows.
-/
import ForML.Lemmas.C03Prim

namespace ForML.Compose

structure Wired (g : Graph) : Prop where
  pubsLt : ∀ e ∈ g.edges, e.pub.node < g.next
  keys : ∀ e ∈ g.edges, g.inputOf e.sub e.port = some e.pub
  /-- no input port is subscribed twice -/
  nodup : g.edges.Pairwise (fun e e' => ¬ (e.sub = e'.sub ∧ e.port = e'.port))

theorem Wired.empty : Wired {} := by
  refine ⟨?_, ?_, List.Pairwise.nil⟩ <;> intro e he <;> simp at he

theorem Wired.bump {g} (h : Wired g) : Wired g.bump :=
  ⟨fun e he => Nat.lt_succ_of_lt (h.pubsLt e he), h.keys, h.nodup⟩

theorem Wired.pushNode {g} (h : Wired g) (n : Node) : Wired (g.pushNode n) :=
  ⟨h.pubsLt, h.keys, h.nodup⟩

theorem Wired.pushTrain {g} (h : Wired g) (t : Training) : Wired (g.pushTrain t) :=
  ⟨h.pubsLt, h.keys, h.nodup⟩

theorem Wired.pushEdge {g} (h : Wired g) (e : Edge) (hp : e.pub.node < g.next) (hfree : g.inputOf e.sub e.port = none) :
    Wired (g.pushEdge e) := by
  have hnew : ∀ a ∈ g.edges, ¬ (a.sub = e.sub ∧ a.port = e.port) := inputOf_eq_none_iff.mp hfree
  refine ⟨forall_mem_push h.pubsLt hp, forall_mem_push (fun a ha => inputOf_pushEdge_old (h.keys a ha)) (inputOf_pushEdge_self hfree),
    List.pairwise_append.mpr ⟨h.nodup, List.pairwise_singleton _ _, fun a ha b hb => ?_⟩⟩
  rw [List.mem_singleton.mp hb]
  exact hnew a ha

theorem Wired.pub_lt {g} (h : Wired g) {s k : Nat} {q : PubRef} (hq : g.inputOf s k = some q) : q.node < g.next :=
  h.pubsLt _ (inputOf_mem hq)

/-- no lookup has to be computed through the successive `pushEdge`s once the final graph is known to be wired -/
theorem Wired.input_iff {g} (h : Wired g) {s k : Nat} {q : PubRef} : g.inputOf s k = some q ↔ (⟨s, k, q⟩ : Edge) ∈ g.edges :=
  ⟨inputOf_mem, h.keys _⟩

theorem Wired.input_append {g g' : Graph} (h' : Wired g') (h : Wired g) {es : List Edge} (he : g'.edges = g.edges ++ es)
    {s k : Nat} {q : PubRef} : g'.inputOf s k = some q ↔ g.inputOf s k = some q ∨ (⟨s, k, q⟩ : Edge) ∈ es := by
  rw [h'.input_iff, he, List.mem_append, h.input_iff]

inductive Reach (g : Graph) (a : Nat) : Nat → Prop
  | refl : Reach g a a
  | step {p s k i : Nat} : Reach g a p → g.inputOf s k = some ⟨p, i⟩ → Reach g a s

theorem Reach.trans {g a b c} (h1 : Reach g a b) (h2 : Reach g b c) : Reach g a c := by
  induction h2 with
  | refl => exact h1
  | step _ he ih => exact Reach.step ih he

theorem Reach.inv {g a n} (h : Reach g a n) : n = a ∨ ∃ k q, g.inputOf n k = some q ∧ Reach g a q.node := by
  cases h with
  | refl => exact Or.inl rfl
  | step hp he => exact Or.inr ⟨_, _, he, hp⟩

theorem Reach.mono {g g' a n} (hm : ∀ s k q, g.inputOf s k = some q → g'.inputOf s k = some q) (h : Reach g a n) :
    Reach g' a n := by
  induction h with
  | refl => exact Reach.refl
  | step _ he ih => exact Reach.step ih (hm _ _ _ he)

theorem Reach.one {g a s k} {q : PubRef} (h : Reach g a q.node) (he : g.inputOf s k = some q) : Reach g a s := by
  obtain ⟨p, i⟩ := q
  exact Reach.step h he

/-- a frame cannot make an older node reachable: its inputs are what they were, and those are older still -/
theorem Reach.old {gL g' : Graph} (hf : Frame gL g') (hw : Wired gL) {a n : Nat} (hn : n < gL.next) (h : Reach g' a n) :
    Reach gL a n := by
  induction h with
  | refl => exact Reach.refl
  | step hp he ih =>
    rw [hf.input _ _ hn] at he
    have := hw.pub_lt he
    exact Reach.step (ih this) he

theorem Reach.new {gL g' : Graph} (hf : Frame gL g') (hw : Wired gL) {a n : Nat} (ha : gL.next ≤ a) (h : Reach g' a n) :
    gL.next ≤ n := by
  induction h with
  | refl => exact ha
  | @step p s k i _ he ih =>
    by_cases hs : s < gL.next
    · rw [hf.input _ _ hs] at he
      have : p < gL.next := hw.pub_lt he
      omega
    · omega

end ForML.Compose
