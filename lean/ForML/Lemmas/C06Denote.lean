/-
C06 — source level: the plain translation `compile` succeeds on well-formed sources and preserves the denotation over
every content on which each CROSS join is balanced (an origin up to the relabelling `phi`, a statement exactly), by one
induction over the source.
-/
import ForML.Lemmas.C06Feature
import ForML.Lemmas.C06Window

namespace ForML.C06
open ForML.Dsl ForML.Rel ForML.Parser ForML.Denote

/-- `generate_join`: (full, isouter, sides swapped) per join kind -/
theorem joinOpt_eq (k : JoinKind) :
    joinOpt k = some (match k with
      | .inner => (false, false, false)
      | .left => (false, true, false)
      | .right => (false, true, true)
      | .full | .cross => (true, false, false)) := by
  cases k <;> decide +kernel

theorem joinOpt_cross : joinOpt .cross = some (true, false, false) := joinOpt_eq .cross

theorem setOpOf_setOfKind (k : SetKind) : setOpOf k = some (setOfKind k) := by
  cases k <;> decide +kernel

theorem mem_of_contains {l : List Source} {a : Source} (h : l.contains a = true) : a ∈ l := by
  simpa using h

theorem nodupB_iff {α : Type} [DecidableEq α] (l : List α) : nodupB l = true ↔ l.Nodup := by
  induction l with
  | nil => simp [nodupB]
  | cons x r ih => simp [nodupB, ih]

theorem injOn_of_nodupB (srcs : Sources) (l : List Source) (h : nodupB (l.map (qualD srcs)) = true) : InjOn srcs l :=
  fun _ ha _ hb hab => eq_of_nodup_map _ ((nodupB_iff _).mp h) ha hb hab

theorem InjOn.mono {srcs : Sources} {big small : List Source} (h : InjOn srcs big) (hs : ∀ a ∈ small, a ∈ big) :
    InjOn srcs small :=
  fun a ha b hb hab => h a (hs a ha) b (hs b hb) hab

theorem LabelsIn.mono {labels : Labels} {small big : List Source} (h : LabelsIn labels small)
    (hs : ∀ a ∈ small, a ∈ big) : LabelsIn labels big :=
  fun o n hm => hs o (h o n hm)

theorem LabelsIn.append {a b : Labels} {scope : List Source} (ha : LabelsIn a scope) (hb : LabelsIn b scope) :
    LabelsIn (a ++ b) scope := by
  intro o n hm
  rcases List.mem_append.mp hm with h | h
  · exact ha o n h
  · exact hb o n h

theorem wfFrom_join {srcs : Sources} {l r : Source} {k : JoinKind} {c : FeatureOpt}
    (h : wfFrom srcs (.join l r k c) = true) :
    wfFrom srcs l = true ∧ wfFrom srcs r = true ∧ isOrigin l = true ∧ isOrigin r = true ∧ (joinOpt k).isSome = true ∧
      match c with
      | .none => k = .cross
      | .some f => k ≠ .cross ∧ supportedF (leaves l ++ leaves r) f = true := by
  simp only [wfFrom, Bool.and_eq_true] at h
  obtain ⟨⟨⟨⟨⟨hl, hr⟩, hol⟩, hor⟩, hjo⟩, hkc⟩ := h
  refine ⟨hl, hr, hol, hor, hjo, ?_⟩
  cases c <;> cases k <;> first | rfl | cases hkc | exact ⟨nofun, hkc⟩

/-- of the projection only the case of selected features; `selection_spec` has both -/
theorem wfOut_query {srcs : Sources} {src : Source} {sel grp : Features} {pre post : FeatureOpt} {ord : Orderings}
    {rows : Option Rows} (h : wfOut srcs (.query src sel pre grp post ord rows) = true) :
    wfFrom srcs src = true ∧ isOrigin src = true ∧ InjOn srcs (leaves src) ∧
      (sel.isEmpty = false → supportedFs (leaves src) sel = true) ∧ supportedFO (leaves src) pre = true ∧
      supportedFs (leaves src) grp = true ∧ supportedFO (leaves src) post = true ∧
      supportedOrd (leaves src) ord = true := by
  simp only [wfOut, Bool.and_eq_true] at h
  obtain ⟨⟨⟨⟨⟨⟨⟨hfrom, horig⟩, hnodup⟩, hsel⟩, hpre⟩, hgrp⟩, hpost⟩, hord⟩ := h
  exact ⟨hfrom, horig, injOn_of_nodupB srcs _ hnodup, fun he => by simpa [he] using hsel, hpre, hgrp, hpost, hord⟩

theorem wfOut_of_wfFrom_ref {srcs : Sources} {inst : Source} {name : String} (h : wfFrom srcs (.ref inst name) = true)
    (ht : isTable inst = false) : wfOut srcs inst = true := by
  cases inst <;> first | exact h | cases ht

/-- induction over a well-formed source: an origin (`Pf`) is a provisioned table, a reference to one or to a statement,
or a join of origins; a statement (`Po`) is a set operation on statements or a query on an origin -/
theorem wf_induction (srcs : Sources) {Pf Po : Source → Prop}
    (table : ∀ n fields pn, srcs.lookup (.table n fields) = some pn → Pf (.table n fields))
    (refTable : ∀ n fields name pn, srcs.lookup (.table n fields) = some pn → Pf (.table n fields) →
      Pf (.ref (.table n fields) name))
    (refStmt : ∀ inst name, isTable inst = false → wfOut srcs inst = true → Po inst → Pf (.ref inst name))
    (join : ∀ l r k c, wfFrom srcs (.join l r k c) = true → Pf l → Pf r → Pf (.join l r k c))
    (set : ∀ l r k, wfOut srcs l = true → wfOut srcs r = true → Po l → Po r → Po (.set l r k))
    (query : ∀ src sel pre grp post ord rows, wfOut srcs (.query src sel pre grp post ord rows) = true → Pf src →
      Po (.query src sel pre grp post ord rows)) :
    ∀ s, (wfFrom srcs s = true → isOrigin s = true → Pf s) ∧ (wfOut srcs s = true → Po s) :=
  go
where
  go : ∀ s, (wfFrom srcs s = true → isOrigin s = true → Pf s) ∧ (wfOut srcs s = true → Po s)
  | .table n fields => by
    refine ⟨fun hwf _ => ?_, fun h => by simp [wfOut] at h⟩
    simp only [wfFrom] at hwf
    obtain ⟨pn, hpn⟩ := Option.isSome_iff_exists.mp hwf
    exact table n fields pn hpn
  | .ref inst name => by
    refine ⟨fun hwf _ => ?_, fun h => by simp [wfOut] at h⟩
    cases ht : isTable inst with
    | true =>
      cases inst <;> cases ht
      simp only [wfFrom] at hwf
      obtain ⟨pn, hpn⟩ := Option.isSome_iff_exists.mp hwf
      exact refTable _ _ name pn hpn (table _ _ pn hpn)
    | false =>
      have hw := wfOut_of_wfFrom_ref hwf ht
      exact refStmt inst name ht hw ((go inst).2 hw)
  | .join l r k c => by
    refine ⟨fun hwf _ => ?_, fun h => by simp [wfOut] at h⟩
    obtain ⟨hl, hr, hol, hor, _⟩ := wfFrom_join hwf
    exact join l r k c hwf ((go l).1 hl hol) ((go r).1 hr hor)
  | .set l r k => by
    refine ⟨fun _ ho => by simp [isOrigin] at ho, fun hwf => ?_⟩
    simp only [wfOut, Bool.and_eq_true] at hwf
    exact set l r k hwf.1.1 hwf.1.2 ((go l).2 hwf.1.1) ((go r).2 hwf.1.2)
  | .query src sel pre grp post ord rows => by
    refine ⟨fun _ ho => by simp [isOrigin] at ho, fun hwf => ?_⟩
    obtain ⟨hfrom, horig, _⟩ := wfOut_query hwf
    exact query src sel pre grp post ord rows hwf ((go src).1 hfrom horig)

theorem leaves_qual_some (srcs : Sources) (s : Source) (hwf : wfFrom srcs s = true) (ho : isOrigin s = true) :
    ∀ o ∈ leaves s, (qual srcs o).isSome = true := by
  refine (wf_induction srcs (Pf := fun s => ∀ o ∈ leaves s, (qual srcs o).isSome = true) (Po := fun _ => True)
    ?_ ?_ ?_ ?_ (fun _ _ _ _ _ _ _ => trivial) (fun _ _ _ _ _ _ _ _ _ => trivial) s).1 hwf ho
  · intro n fields pn hpn o ho
    obtain rfl := List.mem_singleton.mp ho
    simp [qual, hpn]
  · intro n fields name pn _ _ o ho
    obtain rfl := List.mem_singleton.mp ho
    rfl
  · intro inst name _ _ _ o ho
    obtain rfl := List.mem_singleton.mp ho
    rfl
  · intro l r k c _ ihl ihr o ho
    exact (List.mem_append.mp ho).elim (ihl o) (ihr o)

theorem denoteFrom_ref_stmt (srcs : Sources) {inst : Source} (name : String) (db : Db) (ht : isTable inst = false) :
    denoteFrom srcs (.ref inst name) db =
      (denoteOut srcs inst db).map (fun o => ⟨o.names.map (fun x => x.map (fun x => (.ref inst name, x))), o.rows⟩) := by
  cases inst <;> first | rfl | cases ht

/-- the join of two denoted sides whose rows are `rows`: the labels of the first side, then those of the second -/
def joinD (rows : DRel → DRel → Option (List Row)) (A B : Option DRel) : Option DRel :=
  A.bind fun A => B.bind fun B => (rows A B).map fun rows => ⟨A.labels ++ B.labels, rows⟩

/-- the rows of a conditioned join: the matching pairs, then (`keepL` / `keepR`) the rows of either side without
partner -/
def condRows (f : Feature) (keepL keepR : Bool) (A B : DRel) : Option (List Row) :=
  joinRows A.rows B.rows A.labels.length B.labels.length (evalF (A.labels ++ B.labels) f []) keepL keepR

/-- the five kinds of join as one; RIGHT is the mirrored LEFT, CROSS has the product for its rows -/
theorem denoteFrom_join (srcs : Sources) (l r : Source) (k : JoinKind) (c : FeatureOpt) (db : Db) :
    denoteFrom srcs (.join l r k c) db =
      match k, c with
      | .inner, .some f => joinD (condRows f false false) (denoteFrom srcs l db) (denoteFrom srcs r db)
      | .left, .some f => joinD (condRows f true false) (denoteFrom srcs l db) (denoteFrom srcs r db)
      | .right, .some f => joinD (condRows f true false) (denoteFrom srcs r db) (denoteFrom srcs l db)
      | .full, .some f => joinD (condRows f true true) (denoteFrom srcs l db) (denoteFrom srcs r db)
      | .cross, .none => joinD (fun A B => some (productRows A.rows B.rows)) (denoteFrom srcs l db) (denoteFrom srcs r db)
      | _, _ => none := by
  cases k <;> cases c <;> simp only [denoteFrom] <;> cases denoteFrom srcs l db <;> cases denoteFrom srcs r db <;> rfl

theorem joinD_labels {rows : DRel → DRel → Option (List Row)} {A B : Option DRel} {R : DRel} {scope : List Source}
    (h : joinD rows A B = some R) (ha : ∀ A', A = some A' → LabelsIn A'.labels scope)
    (hb : ∀ B', B = some B' → LabelsIn B'.labels scope) : LabelsIn R.labels scope := by
  simp only [joinD, Option.bind_eq_some_iff, Option.map_eq_some_iff] at h
  obtain ⟨A', rfl, B', rfl, rows, _, rfl⟩ := h
  exact (ha A' rfl).append (hb B' rfl)

/-- columns labelled with one origin: the shape of the labels of a table, of a reference to a table and of a reference
to a statement -/
theorem labelsIn_self {α : Type} (o : Source) (g : α → Option String) (xs : List α) :
    LabelsIn (xs.map (fun x => (g x).map (fun n => (o, n)))) [o] := by
  intro o' n hm
  obtain ⟨x, _, hx⟩ := List.mem_map.mp hm
  cases hg : g x <;> simp [hg] at hx
  simp [← hx.1]

theorem denoteFrom_labels (srcs : Sources) (db : Db) :
    ∀ (s : Source) (R : DRel), denoteFrom srcs s db = some R → LabelsIn R.labels (leaves s)
  | .table n fields, R, h => by
    simp only [denoteFrom] at h
    split at h
    · obtain ⟨t, _, rfl⟩ := Option.map_eq_some_iff.mp h
      exact labelsIn_self _ some t.cols
    · cases h
  | .ref inst name, R, h => by
    cases ht : isTable inst with
    | true =>
      cases inst <;> cases ht
      simp only [denoteFrom] at h
      split at h
      · obtain ⟨t, _, rfl⟩ := Option.map_eq_some_iff.mp h
        exact labelsIn_self _ some t.cols
      · cases h
    | false =>
      rw [denoteFrom_ref_stmt srcs name db ht] at h
      obtain ⟨t, _, rfl⟩ := Option.map_eq_some_iff.mp h
      exact labelsIn_self _ id t.names
  | .join l r k c, R, h => by
    have hl : ∀ L, denoteFrom srcs l db = some L → LabelsIn L.labels (leaves l ++ leaves r) := fun L hL =>
      (denoteFrom_labels srcs db l L hL).mono (fun a ha => List.mem_append.mpr (Or.inl ha))
    have hr : ∀ R', denoteFrom srcs r db = some R' → LabelsIn R'.labels (leaves l ++ leaves r) := fun R' hR =>
      (denoteFrom_labels srcs db r R' hR).mono (fun a ha => List.mem_append.mpr (Or.inr ha))
    simp only [leaves]
    rw [denoteFrom_join] at h
    cases k <;> cases c <;> simp only at h <;>
      first | cases h | exact joinD_labels h hl hr | exact joinD_labels h hr hl
  | .set _ _ _, R, h => by simp [denoteFrom] at h
  | .query _ _ _ _ _ _ _, R, h => by simp [denoteFrom] at h

theorem originElems_leaves : ∀ (s : Source) (es : List (Source × String)), originElems s = some es →
    ∀ e ∈ es, e.1 ∈ leaves s
  | .table n fields, es, h, e, he => by
    simp only [originElems, Option.some.injEq] at h; subst h
    simp only [List.mem_map] at he
    obtain ⟨f, _, rfl⟩ := he
    simp [leaves]
  | .ref inst name, es, h, e, he => by
    simp only [originElems] at h
    obtain ⟨x, _, hx⟩ := List.mem_map.mp (mapM_eq_some_iff_map.mp h ▸ List.mem_map_of_mem (f := some) he)
    obtain ⟨n, _, rfl⟩ := Option.map_eq_some_iff.mp hx
    simp [leaves]
  | .join l r k c, es, h, e, he => by
    simp only [originElems, Option.pure_def, Option.bind_eq_bind, Option.bind_eq_some_iff] at h
    obtain ⟨a, ha, b, hb, hes⟩ := h
    simp at hes; subst hes
    simp only [leaves, List.mem_append]
    rcases List.mem_append.mp he with h1 | h1
    · exact Or.inl (originElems_leaves l a ha e h1)
    · exact Or.inr (originElems_leaves r b hb e h1)
  | .set _ _ _, es, h, _, _ => by simp [originElems] at h
  | .query _ _ _ _ _ _ _, es, h, _, _ => by simp [originElems] at h

theorem supportedFs_elemFeatures (scope : List Source) : ∀ (es : List (Source × String)),
    (∀ e ∈ es, e.1 ∈ scope) → supportedFs scope (elemFeatures es) = true
  | [], _ => rfl
  | (o, n) :: rest, h => by
    simp only [elemFeatures, supportedFs, supportedF, Bool.and_eq_true]
    refine ⟨?_, supportedFs_elemFeatures scope rest (fun e he => h e (List.mem_cons_of_mem _ he))⟩
    simpa using h (o, n) (List.mem_cons_self ..)

theorem compileFs_elemFeatures (srcs : Sources) : ∀ (es : List (Source × String)),
    compileFs srcs (elemFeatures es) = es.mapM (fun e => (qual srcs e.1).map (fun q => SqlExpr.col q e.2))
  | [] => rfl
  | (o, n) :: rest => by
    simp only [elemFeatures, compileFs_cons, compileF, mapM_cons_option, compileFs_elemFeatures srcs rest]

theorem elemFeatures_isEmpty (es : List (Source × String)) : (elemFeatures es).isEmpty = es.isEmpty := by
  cases es with
  | nil => rfl
  | cons e rest => obtain ⟨o, n⟩ := e; rfl

theorem compile_query (srcs : Sources) (src : Source) (sel : Features) (pre : FeatureOpt) (grp : Features)
    (post : FeatureOpt) (ord : Orderings) (rows : Option Rows) :
    compile srcs (.query src sel pre grp post ord rows) =
      (compile srcs src).bind fun frm =>
      (if sel.isEmpty then compileElems srcs src else compileFs srcs sel).bind fun items =>
      if items.isEmpty then none else
      (compileFO srcs pre).bind fun whr => (compileFs srcs grp).bind fun g => (compileFO srcs post).bind fun hav =>
      (compileOrd srcs ord).bind fun o => some (.select items frm whr g hav o (rowsOpts rows).1 (rowsOpts rows).2) := by
  rw [compile]
  cases compile srcs src with
  | none => rfl
  | some frm => cases sel.isEmpty <;> rfl

theorem compile_query_select (srcs : Sources) (src : Source) (sel : Features) (pre : FeatureOpt) (grp : Features)
    (post : FeatureOpt) (ord : Orderings) (rows : Option Rows) (q : SqlSel)
    (h : compile srcs (.query src sel pre grp post ord rows) = some q) :
    ∃ items frm whr g hav o, compile srcs src = some frm ∧
      q = .select items frm whr g hav o (rowsOpts rows).1 (rowsOpts rows).2 := by
  simp only [compile_query, Option.bind_eq_some_iff] at h
  obtain ⟨frm, hfrm, items, _, h⟩ := h
  split at h
  · cases h
  · simp only [Option.bind_eq_some_iff, Option.some.injEq] at h
    obtain ⟨whr, _, g, _, hav, _, o, _, rfl⟩ := h
    exact ⟨_, _, _, _, _, _, hfrm, rfl⟩

/-- the SELECT with its LIMIT / OFFSET replaced -/
def withWindow (lim off : Option Int) : SqlSel → SqlSel
  | .select items frm whr grp hav ord _ _ => .select items frm whr grp hav ord lim off
  | q => q

/-- `generate_query` treats `rows` independently of everything else -/
theorem compile_rows (srcs : Sources) (src : Source) (sel : Features) (pre : FeatureOpt) (grp : Features)
    (post : FeatureOpt) (ord : Orderings) (rows : Option Rows) :
    compile srcs (.query src sel pre grp post ord rows) =
      (compile srcs (.query src sel pre grp post ord none)).map (withWindow (rowsOpts rows).1 (rowsOpts rows).2) := by
  simp only [compile_query, Option.map_bind, Function.comp_def, apply_ite (Option.map _), Option.map_none,
    Option.map_some, withWindow]

theorem compile_join (srcs : Sources) (l r : Source) (k : JoinKind) (c : FeatureOpt) :
    compile srcs (.join l r k c) =
      (compile srcs l).bind fun L => (compile srcs r).bind fun R =>
      (match c with
        | .none => some (SqlExpr.lit (.bool true))
        | .some f => compileF srcs f).bind fun on =>
      (joinOpt k).bind fun o => some (if o.2.2 then .join R L on o.1 o.2.1 else .join L R on o.1 o.2.1) := by
  rw [compile]
  cases c <;> rfl

theorem selection_spec (srcs : Sources) {src : Source} {sel : Features} {pre post : FeatureOpt} {grp : Features}
    {ord : Orderings} {rows : Option Rows} (hw : wfOut srcs (.query src sel pre grp post ord rows) = true) :
    ∃ sel' : Features, (if sel.isEmpty then (originElems src).map elemFeatures else some sel) = some sel' ∧
      supportedFs (leaves src) sel' = true ∧ sel'.isEmpty = false ∧
      (if sel.isEmpty then compileElems srcs src else compileFs srcs sel) = compileFs srcs sel' := by
  simp only [wfOut, Bool.and_eq_true] at hw
  have hsel := hw.1.1.1.1.2
  cases he : sel.isEmpty with
  | true =>
    simp only [he, if_true] at hsel ⊢
    cases hoe : originElems src with
    | none => simp [hoe] at hsel
    | some es =>
      have hne : es.isEmpty = false := by simpa [hoe] using hsel
      exact ⟨elemFeatures es, rfl, supportedFs_elemFeatures _ es (originElems_leaves src es hoe),
        by rw [elemFeatures_isEmpty, hne], by simp [compileElems, hoe, compileFs_elemFeatures]⟩
  | false =>
    simp only [he, Bool.false_eq_true, if_false] at hsel ⊢
    exact ⟨sel, rfl, hsel, he, rfl⟩

theorem runQuery_off_zero (c : Clauses) (w : Nat) (rows : List Row) :
    runQuery { c with off := some 0 } w rows = runQuery { c with off := none } w rows := by
  rw [runQuery_eq, runQuery_eq]; rfl

def isStmtSql : SqlSel → Bool
  | .select _ _ _ _ _ _ _ _ => true
  | .compound _ _ _ => true
  | _ => false

theorem isStmtSql_compile {srcs : Sources} {s : Source} {q : SqlSel} (hw : wfOut srcs s = true)
    (hq : compile srcs s = some q) : isStmtSql q = true := by
  cases s with
  | set l r k =>
    simp only [compile, Option.pure_def, Option.bind_eq_bind, Option.bind_eq_some_iff, Option.some.injEq] at hq
    obtain ⟨L, _, R, _, o, _, rfl⟩ := hq
    rfl
  | query src sel pre grp post ord rows =>
    obtain ⟨_, _, _, _, _, _, _, rfl⟩ := compile_query_select srcs src sel pre grp post ord rows q hq
    rfl
  | _ => cases hw

theorem evalFrom_alias_stmt (q : SqlSel) (name : String) (db : Db) (h : isStmtSql q = true) :
    evalFrom (.alias q name) db =
      (evalOut q db).map (fun o => ⟨o.names.map (fun n => n.map (fun n => (name, n))), o.rows⟩) := by
  cases q <;> simp [isStmtSql] at h <;> simp [evalFrom]

/-- FROM-level correspondence: same rows, labels renamed by `phi` -/
def relOf (srcs : Sources) (R : DRel) : SRel := ⟨R.labels.map (phi srcs), R.rows⟩

/-- a SQL join of two translated sides is the denoted join as soon as its rows are the denoted rows -/
theorem evalFrom_joinD (srcs : Sources) (qa qb : SqlSel) (on : SqlExpr) (full isouter : Bool) (db : Db)
    (rows : DRel → DRel → Option (List Row)) (A B : Option DRel) (ha : evalFrom qa db = A.map (relOf srcs))
    (hb : evalFrom qb db = B.map (relOf srcs))
    (hrows : ∀ A' B', A = some A' → B = some B' →
      joinRows A'.rows B'.rows A'.labels.length B'.labels.length
        (evalS ((relOf srcs A').cols ++ (relOf srcs B').cols) on []) (full || isouter) full = rows A' B') :
    evalFrom (.join qa qb on full isouter) db = (joinD rows A B).map (relOf srcs) := by
  simp only [evalFrom, ha, hb]
  cases A with
  | none => rfl
  | some A' =>
    cases B with
    | none => rfl
    | some B' =>
      simp only [Option.map_some, joinD, Option.bind_some, Option.map_map, ← hrows A' B' rfl rfl]
      simp [relOf, Function.comp_def]

theorem clauses_run (cols : Cols) (labels : Labels) (items g : List SqlExpr) (whr hav : Option SqlExpr)
    (o : List (SqlExpr × SortDir)) (sel grp : Features) (pre post : FeatureOpt) (ord : Orderings) (rows : Option Rows)
    (h1 : items.map (evalS cols) = evsOf labels sel) (h1a : items.any (·.hasAgg) = hasAggFs sel)
    (h2 : whr.map (evalS cols) = evOfOpt labels pre)
    (h3 : g.map (evalS cols) = evsOf labels grp) (h3e : g.isEmpty = grp.isEmpty)
    (h4 : hav.map (evalS cols) = evOfOpt labels post) (h4a : (hav.map (·.hasAgg)).getD false = hasAggFO post)
    (h5 : o.map (fun e => (evalS cols e.1, e.2)) = evsOfOrd labels ord) (h5a : o.any (·.1.hasAgg) = hasAggOrd ord)
    (w : Nat) (rs : List Row) :
    runQuery (sqlClauses cols items whr g hav o (rowsOpts rows).1 (rowsOpts rows).2) w rs =
      runQuery (dslClauses labels sel pre grp post ord rows) w rs := by
  have base : ∀ (off lim : Option Int),
      sqlClauses cols items whr g hav o lim off =
        { dslClauses labels sel pre grp post ord rows with off := off, lim := lim } := by
    intro off lim
    simp only [sqlClauses, dslClauses, h1, h1a, h2, h3, h3e, h4, h4a, h5, h5a]
  cases rows with
  | none => rw [base]; rfl
  | some p =>
    obtain ⟨c, o'⟩ := p
    rw [base]
    by_cases h0 : o' = 0
    · subst h0
      simp only [rowsOpts, if_true]
      exact (runQuery_off_zero { dslClauses labels sel pre grp post ord (some (c, 0)) with lim := some c } w rs).symm
    · simp only [rowsOpts, if_neg h0]
      rfl

theorem filterRows_true {α : Type} (p : α → Option Val) (h : ∀ x, p x = some (.bool true)) :
    ∀ (l : List α), filterRows p l = some l
  | [] => rfl
  | x :: xs => by
    simp [filterRows, h x, truth, filterRows_true p h xs]

theorem productRows_eq (l r : List Row) :
    (l.flatMap (fun a => r.map (fun b => (a, b)))).map (fun p => p.1 ++ p.2) = productRows l r := by
  simp [productRows, List.map_flatMap, List.map_map, Function.comp_def]

/-- no row of `side` is without partner when each is the `mine` component of one of the `pairs` -/
theorem lonely_nil {side : List Row} {pairs : List (Row × Row)} {mine : Row × Row → Row}
    (h : ∀ x ∈ side, ∃ p ∈ pairs, mine p = x) :
    side.filter (fun x => !(pairs.any (fun p => mine p == x))) = [] := by
  rw [List.filter_eq_nil_iff]
  intro x hx
  obtain ⟨p, hp, rfl⟩ := h x hx
  simp only [Bool.not_eq_true, Bool.not_eq_false', List.any_eq_true]
  exact ⟨p, hp, by simp⟩

/-- FULL JOIN ON TRUE is the product when both sides are empty or both are not -/
theorem joinRows_true_balanced (l r : List Row) (wl wr : Nat) (on : Row → Option Val)
    (hon : ∀ x, on x = some (.bool true)) (hb : l.isEmpty = r.isEmpty) :
    joinRows l r wl wr on true true = some (productRows l r) := by
  unfold joinRows
  simp only [filterRows_true (fun (p : Row × Row) => on (p.1 ++ p.2)) (fun p => hon _), Option.pure_def,
    Option.bind_eq_bind, Option.bind_some, if_true, productRows_eq]
  cases l with
  | nil =>
    cases r with
    | nil => simp [productRows]
    | cons b bs => simp at hb
  | cons a as =>
    cases r with
    | nil => simp at hb
    | cons b bs =>
      -- every left row is paired with `b`, every right row with `a`
      rw [lonely_nil (side := a :: as) (mine := fun p => p.1), lonely_nil (side := b :: bs) (mine := fun p => p.2)]
      · simp
      · exact fun x hx => ⟨(a, x), List.mem_flatMap.mpr ⟨a, List.mem_cons_self .., List.mem_map.mpr ⟨x, hx, rfl⟩⟩, rfl⟩
      · exact fun x hx => ⟨(x, b), List.mem_flatMap.mpr ⟨x, hx, List.mem_map.mpr ⟨b, List.mem_cons_self .., rfl⟩⟩, rfl⟩

theorem crossBalanced_of_noCross (srcs : Sources) (db : Db) : ∀ (s : Source), noCross s = true → crossBalanced srcs s db = true
  | .table _ _, _ => rfl
  | .ref inst _, h => by simpa [crossBalanced] using crossBalanced_of_noCross srcs db inst (by simpa [noCross] using h)
  | .join l r k c, h => by
    simp only [noCross, Bool.and_eq_true] at h
    simp [crossBalanced, crossBalanced_of_noCross srcs db l h.1.2, crossBalanced_of_noCross srcs db r h.2, h.1.1]
  | .set l r _, h => by
    simp only [noCross, Bool.and_eq_true] at h
    simp [crossBalanced, crossBalanced_of_noCross srcs db l h.1, crossBalanced_of_noCross srcs db r h.2]
  | .query src _ _ _ _ _ _, h => by
    simpa [crossBalanced] using crossBalanced_of_noCross srcs db src (by simpa [noCross] using h)

/-- the translation of a well-formed source exists, and what it evaluates to is what the source denotes: an origin up to
the renaming `phi` of its labels, a statement exactly -/
theorem compiles (srcs : Sources) : ∀ s,
    (wfFrom srcs s = true → isOrigin s = true → ∃ q, compile srcs s = some q ∧
      (InjOn srcs (leaves s) → ∀ db, crossBalanced srcs s db = true →
        evalFrom q db = (denoteFrom srcs s db).map (relOf srcs))) ∧
    (wfOut srcs s = true → ∃ q, compile srcs s = some q ∧
      ∀ db, crossBalanced srcs s db = true → evalOut q db = denoteOut srcs s db) := by
  refine wf_induction srcs ?_ ?_ ?_ ?_ ?_ ?_
  · intro n fields pn hpn
    refine ⟨.table pn, by rw [compile, hpn]; rfl, fun _ db _ => ?_⟩
    simp only [evalFrom, denoteFrom, hpn]
    cases db.lookup pn with
    | none => rfl
    | some t =>
      simp only [Option.map_some, relOf, List.map_map, Function.comp_def, phi_some, qualD, qual, hpn, Option.getD_some]
  · intro n fields name pn hpn _
    refine ⟨.alias (.table pn) name, by rw [compile, compile, hpn]; rfl, fun _ db _ => ?_⟩
    simp only [evalFrom, denoteFrom, hpn]
    cases db.lookup pn with
    | none => rfl
    | some t =>
      simp only [Option.map_some, relOf, List.map_map, Function.comp_def, phi_some, qualD, qual, Option.getD_some]
  · intro inst name ht hw ⟨qi, hqi, hsem⟩
    refine ⟨.alias qi name, by rw [compile, hqi]; rfl, fun _ db hb => ?_⟩
    rw [evalFrom_alias_stmt qi name db (isStmtSql_compile hw hqi), hsem db (by simpa [crossBalanced] using hb),
      denoteFrom_ref_stmt srcs name db ht]
    cases denoteOut srcs inst db with
    | none => rfl
    | some o =>
      simp only [Option.map_some, relOf, List.map_map]
      congr 2
      apply List.map_congr_left
      intro x _
      cases x <;> simp [phi, qualD, qual]
  · intro l r k c hwf ⟨L, hL, hsemL⟩ ⟨R, hR, hsemR⟩
    obtain ⟨_, _, _, _, hjo, hkc⟩ := wfFrom_join hwf
    have hsides : InjOn srcs (leaves (.join l r k c)) → ∀ db, crossBalanced srcs (.join l r k c) db = true →
        evalFrom L db = (denoteFrom srcs l db).map (relOf srcs) ∧
          evalFrom R db = (denoteFrom srcs r db).map (relOf srcs) := by
      intro hinj db hb
      simp only [leaves] at hinj
      simp only [crossBalanced, Bool.and_eq_true] at hb
      exact ⟨hsemL (hinj.mono (fun a ha => List.mem_append.mpr (Or.inl ha))) db hb.1.1,
        hsemR (hinj.mono (fun a ha => List.mem_append.mpr (Or.inr ha))) db hb.1.2⟩
    cases c with
    | none =>
      cases hkc
      refine ⟨_, by rw [compile_join, hL, hR, joinOpt_cross]; rfl, fun hinj db hb => ?_⟩
      obtain ⟨hevL, hevR⟩ := hsides hinj db hb
      rw [denoteFrom_join]
      refine evalFrom_joinD srcs L R _ true false db _ _ _ hevL hevR (fun A B hA hB => ?_)
      exact joinRows_true_balanced A.rows B.rows _ _ _ (fun _ => rfl)
        (by simp only [crossBalanced, hA, hB, Bool.and_eq_true] at hb; simpa using hb.2)
    | some f =>
      obtain ⟨hne, hsf⟩ := hkc
      obtain ⟨on, hon⟩ := compileF_some srcs _ (leaves_qual_some srcs (.join l r k (.some f)) hwf rfl) f hsf
      obtain ⟨o, ho⟩ := Option.isSome_iff_exists.mp hjo
      refine ⟨if o.2.2 then .join R L on o.1 o.2.1 else .join L R on o.1 o.2.1,
        by simp only [compile_join, hL, hR, hon, ho, Option.bind_some], fun hinj db hb => ?_⟩
      obtain ⟨hevL, hevR⟩ := hsides hinj db hb
      simp only [leaves] at hinj
      -- for the sides in either order: RIGHT swaps them
      have hcond : ∀ (A B : DRel), LabelsIn (A.labels ++ B.labels) (leaves l ++ leaves r) →
          evalS ((relOf srcs A).cols ++ (relOf srcs B).cols) on [] = evalF (A.labels ++ B.labels) f [] := by
        intro A B hin
        have := evalS_compileF srcs _ (A.labels ++ B.labels) hinj hin f on hsf hon
        simp only [relOf, ← List.map_append]
        rw [this]
      have hinl : ∀ A, denoteFrom srcs l db = some A → LabelsIn A.labels (leaves l ++ leaves r) := fun A hA =>
        (denoteFrom_labels srcs db l A hA).mono (fun a ha => List.mem_append.mpr (Or.inl ha))
      have hinr : ∀ B, denoteFrom srcs r db = some B → LabelsIn B.labels (leaves l ++ leaves r) := fun B hB =>
        (denoteFrom_labels srcs db r B hB).mono (fun a ha => List.mem_append.mpr (Or.inr ha))
      have hlr : ∀ (full isouter : Bool), evalFrom (.join L R on full isouter) db =
          (joinD (condRows f (full || isouter) full) (denoteFrom srcs l db) (denoteFrom srcs r db)).map (relOf srcs) :=
        fun full isouter => evalFrom_joinD srcs L R on full isouter db _ _ _ hevL hevR
          (fun A B hA hB => by rw [hcond A B ((hinl A hA).append (hinr B hB))]; rfl)
      have hrl : ∀ (full isouter : Bool), evalFrom (.join R L on full isouter) db =
          (joinD (condRows f (full || isouter) full) (denoteFrom srcs r db) (denoteFrom srcs l db)).map (relOf srcs) :=
        fun full isouter => evalFrom_joinD srcs R L on full isouter db _ _ _ hevR hevL
          (fun A B hA hB => by rw [hcond A B ((hinr A hA).append (hinl B hB))]; rfl)
      rw [denoteFrom_join]
      rw [joinOpt_eq] at ho
      cases ho
      cases k with
      | cross => exact absurd rfl hne
      | inner => exact hlr false false
      | left => exact hlr false true
      | right => exact hrl false true
      | full => exact hlr true false
  · intro l r k _ _ ⟨L, hL, hsemL⟩ ⟨R, hR, hsemR⟩
    refine ⟨.compound (setOfKind k) L R, by simp [compile, hL, hR, setOpOf_setOfKind k], fun db hb => ?_⟩
    simp only [crossBalanced, Bool.and_eq_true] at hb
    simp only [evalOut, denoteOut, hsemL db hb.1, hsemR db hb.2]
    cases denoteOut srcs l db <;> cases denoteOut srcs r db <;> rfl
  · intro src sel pre grp post ord rows hwf ⟨frm, hfrm, hsem⟩
    obtain ⟨sel', hsel'eq, hsel's, hsel'ne, hitems⟩ := selection_spec srcs hwf
    obtain ⟨hfrom, horig, hinj, _, hpre, hgrp, hpost, hord⟩ := wfOut_query hwf
    have hq := leaves_qual_some srcs src hfrom horig
    obtain ⟨items, hI⟩ := compileFs_some srcs _ hq sel' hsel's
    obtain ⟨whr, hW⟩ := compileFO_some srcs _ hq pre hpre
    obtain ⟨g, hG⟩ := compileFs_some srcs _ hq grp hgrp
    obtain ⟨hav, hH⟩ := compileFO_some srcs _ hq post hpost
    obtain ⟨o, hO⟩ := compileOrd_some srcs _ hq ord hord
    have hne : items.isEmpty = false := by rw [compileFs_isEmpty srcs sel' items hI, hsel'ne]
    refine ⟨.select items frm whr g hav o (rowsOpts rows).1 (rowsOpts rows).2, ?_, fun db hb => ?_⟩
    · rw [compile_query, hfrm, hitems, hI]
      simp only [Option.bind_some, hne, Bool.false_eq_true, if_false, hW, hG, hH, hO]
    · simp only [evalOut, denoteOut, hsel'eq, hsem hinj db (by simpa [crossBalanced] using hb)]
      cases hd : denoteFrom srcs src db with
      | none => rfl
      | some R =>
        have hin := denoteFrom_labels srcs db src R hd
        obtain ⟨h1, h1n, h1a⟩ := compileFs_spec srcs _ R.labels hinj hin sel' items hsel's hI
        obtain ⟨h2, _⟩ := compileFO_spec srcs _ R.labels hinj hin pre whr hpre hW
        obtain ⟨h3, _, _⟩ := compileFs_spec srcs _ R.labels hinj hin grp g hgrp hG
        obtain ⟨h4, h4a⟩ := compileFO_spec srcs _ R.labels hinj hin post hav hpost hH
        obtain ⟨h5, h5a⟩ := compileOrd_spec srcs _ R.labels hinj hin ord o hord hO
        simp only [Option.map_some, relOf, hsel'ne, Bool.false_eq_true, if_false, List.length_map]
        rw [clauses_run (R.labels.map (phi srcs)) R.labels items g whr hav o sel' grp pre post ord rows
          h1 h1a h2 h3 (compileFs_isEmpty srcs grp g hG) h4 h4a h5 h5a, h1n]

-- the two halves of `compiles`: `from` is an origin (an item of a FROM tree: `wfFrom`, `evalFrom`), `out` a statement
-- (`wfOut`, `evalOut`)
theorem compile_from_some (srcs : Sources) (s : Source) (hwf : wfFrom srcs s = true) (ho : isOrigin s = true) :
    ∃ q, compile srcs s = some q :=
  ((compiles srcs s).1 hwf ho).imp fun _ h => h.1

theorem compile_out_some (srcs : Sources) (s : Source) (hwf : wfOut srcs s = true) : ∃ q, compile srcs s = some q :=
  ((compiles srcs s).2 hwf).imp fun _ h => h.1

theorem out_sem (srcs : Sources) (s : Source) (hwf : wfOut srcs s = true) (q : SqlSel) (hq : compile srcs s = some q)
    (db : Db) (hb : crossBalanced srcs s db = true) : evalOut q db = denoteOut srcs s db := by
  obtain ⟨q', hq', h⟩ := (compiles srcs s).2 hwf
  cases hq.symm.trans hq'
  exact h db hb

theorem from_spec (srcs : Sources) :
    ∀ (s : Source), wfFrom srcs s = true → isOrigin s = true → InjOn srcs (leaves s) →
      ∃ q, compile srcs s = some q ∧
        ∀ db, crossBalanced srcs s db = true → evalFrom q db = (denoteFrom srcs s db).map (relOf srcs) :=
  fun s hwf ho hinj => ((compiles srcs s).1 hwf ho).imp fun _ h => ⟨h.1, h.2 hinj⟩

end ForML.C06
