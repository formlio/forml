/-
A rank per caller that no step of the serving transition system raises and every step lowers for some caller, so that
their sum (`measure`) strictly decreases: every schedule is finite, with an explicit bound, and can be continued to a
state where nothing is enabled.
-/
import ForML.Lemmas.C16
namespace ForML.Serving

/-- how far the task `id` still is from its result: 3 in the task queue, 2 held by a worker, 1 otherwise -/
def stage (e : Exec) (id : Nat) : Nat :=
  if id ∈ e.taskQ.map (·.id) then 3 else if id ∈ e.held.map (·.2.id) then 2 else 1

theorem stage_bounds (e : Exec) (id : Nat) : 1 ≤ stage e id ∧ stage e id ≤ 3 := by
  unfold stage; split
  · omega
  · split <;> omega

/-- a task only moves forward (task queue, worker, result queue): then no stage grows -/
theorem stage_le {e e' : Exec} {id : Nat} (h1 : id ∈ e'.taskQ.map (·.id) → id ∈ e.taskQ.map (·.id))
    (h2 : id ∈ e'.held.map (·.2.id) → id ∈ e.taskQ.map (·.id) ∨ id ∈ e.held.map (·.2.id)) : stage e' id ≤ stage e id := by
  by_cases a : id ∈ e'.taskQ.map (·.id)
  · rw [stage, stage, if_pos a, if_pos (h1 a)]; exact Nat.le_refl 3
  · by_cases b : id ∈ e'.held.map (·.2.id)
    · rw [stage, if_neg a, if_pos b, stage]
      split
      · decide
      · rw [if_pos ((h2 b).resolve_left ‹_›)]; exact Nat.le_refl 2
    · rw [stage, if_neg a, if_neg b]; exact (stage_bounds e id).1

/-- upper bound on the number of steps a caller can still take part in, as a function of its phase -/
def phaseRank (execs : Nat → Exec) : Phase → Nat
  | .fresh => 11 | .d0 => 10 | .d1 => 9 | .d2 _ => 8 | .d3 _ => 7 | .d4 _ => 6 | .resolved => 5
  | .submitted i id => 1 + stage (execs i) id
  | .responding _ => 1
  | .done => 0

def rank (s : State) (c : Nat) : Nat := phaseRank s.execs (s.phase c)

def measure (n : Nat) (s : State) : Nat := ((List.range n).map (rank s)).sum

theorem sum_map_lt {l : List Nat} {f g : Nat → Nat} (hle : ∀ x ∈ l, g x ≤ f x) :
    (l.map g).sum ≤ (l.map f).sum ∧ ∀ c ∈ l, g c < f c → (l.map g).sum < (l.map f).sum := by
  induction l with
  | nil => exact ⟨Nat.le_refl _, nofun⟩
  | cons a t ih =>
    have ha := hle a List.mem_cons_self
    have ⟨h1, h2⟩ := ih (fun x hx => hle x (List.mem_cons_of_mem _ hx))
    simp only [List.map_cons, List.sum_cons]
    refine ⟨by omega, fun c hc hlt => ?_⟩
    rcases List.mem_cons.1 hc with rfl | hc
    · omega
    · have := h2 c hc hlt; omega

variable {cfg : Config} {s s' : State}

theorem rank_phase_only {c : Nat} {p : Phase} (he : s'.execs = s.execs) (hp : s'.phase = upd s.phase c p)
    (hc : c < cfg.callers.length) (hlt : phaseRank s.execs p < phaseRank s.execs (s.phase c)) :
    (∀ x, rank s' x ≤ rank s x) ∧ ∃ c, c < cfg.callers.length ∧ rank s' c < rank s c := by
  have hr : ∀ x, rank s' x = phaseRank s.execs (upd s.phase c p x) := fun x => by rw [rank, he, hp]
  refine ⟨fun x => ?_, c, hc, by rw [hr, upd_same]; exact hlt⟩
  rw [hr]
  exact forall_upd (P := fun x q => phaseRank s.execs q ≤ rank s x) (Nat.le_of_lt hlt) (fun _ _ => Nat.le_refl _) x

theorem phaseRank_mono {ex ex' : Nat → Exec} {p : Phase}
    (h : ∀ i id, p = .submitted i id → stage (ex' i) id ≤ stage (ex i) id) : phaseRank ex' p ≤ phaseRank ex p := by
  cases p with
  | submitted i id => exact Nat.add_le_add_left (h i id rfl) 1
  | _ => exact Nat.le_refl _

theorem rank_exec {i c : Nat} {e' : Exec} (he : s'.execs = upd s.execs i e') (hp : ∀ x, x ≠ c → s'.phase x = s.phase x)
    (hst : ∀ x id, x ≠ c → s.phase x = .submitted i id → stage e' id ≤ stage (s.execs i) id)
    (hlt : c < cfg.callers.length) (hc : rank s' c < rank s c) :
    (∀ x, rank s' x ≤ rank s x) ∧ ∃ c, c < cfg.callers.length ∧ rank s' c < rank s c := by
  refine ⟨fun x => ?_, c, hlt, hc⟩
  by_cases hx : x = c
  · exact hx ▸ Nat.le_of_lt hc
  · rw [rank, hp x hx, he]
    exact phaseRank_mono fun j id hq => forall_upd
      (P := fun j e => s.phase x = .submitted j id → stage e id ≤ stage (s.execs j) id)
      (hst x id hx) (fun _ _ _ => Nat.le_refl _) j hq

theorem rank_step {a : Step} (hI : Inv cfg s) (hs : step cfg s a = some s') :
    (∀ x, rank s' x ≤ rank s x) ∧ ∃ c, c < cfg.callers.length ∧ rank s' c < rank s c := by
  cases step_does hs with
  | arrive hc hp => exact rank_phase_only rfl rfl hc (by simp [hp, phaseRank])
  | @submit c i hp hb hi hst =>
    -- the new task starts at stage ≤ 3; the ids already pending are below the new one and keep their stage
    refine rank_exec rfl (fun x hx => upd_other _ _ _ _ hx) (fun x id _ hph => ?_) (hI.corr.arrived hp nofun) ?_
    · have hne : id ≠ (s.execs i).next := Nat.ne_of_lt ((hI.ids _).pending_lt (hI.corr.sub_pend x _ id hph))
      exact stage_le (by simp [hne]) Or.inr
    · simp only [rank, upd_same, hp, phaseRank]
      exact Nat.add_lt_add_left (Nat.lt_succ_of_le (stage_bounds _ _).2) 1
  | @take i w t q hw hst hf hq =>
    obtain ⟨c, -, hph, hc⟩ := hI.owner (mem_inflight_task (hq ▸ List.mem_cons_self))
    have hnq : t.id ∉ q.map (·.id) := by
      have hnd := (hI.ids i).fl_nodup
      simp only [inflight, hq, List.map_cons, List.cons_append, List.nodup_cons, List.mem_append, not_or] at hnd
      exact hnd.1.1.1
    -- the task taken goes from stage 3 to stage 2, every other id stays where it is
    have h3 : stage (s.execs i) t.id = 3 := by simp [stage, hq]
    refine rank_exec rfl (fun _ _ => rfl) (fun x id _ _ => ?_) hc ?_
    · exact stage_le (by rw [hq]; exact List.mem_cons_of_mem _)
        (by simp only [hq, List.map_cons, List.mem_cons]; exact fun h => h.imp_left Or.inl)
    · simp only [rank, upd_same, hph, phaseRank, h3]
      simp [stage, hnq]
  | @finish i w t ht =>
    have hm := mem_of_lookup ht
    obtain ⟨c, -, hph, hc⟩ := hI.owner (mem_inflight_held hm)
    have hheld : t.id ∈ (s.execs i).held.map (·.2.id) := List.mem_map.2 ⟨(w, t), hm, rfl⟩
    -- once the result is queued its id is neither in the task queue nor held any more: stage 2 becomes stage 1
    have hn : t.id ∉ (s.execs i).taskQ.map (·.id) ++ ((s.execs i).held.erase (w, t)).map (·.2.id) := fun ha =>
      (List.nodup_append.1 ((hI.ids i).finish w t (workerCall cfg.reset i (cfg.fanout i) ((s.execs i).carry w) t.entry).1
        ((s.execs i).stopped || decide (t.entry.kind = .fatal)) (s.execs i).carry hm).fl_nodup).2.2 _ ha _ (by simp) rfl
    rw [List.mem_append, not_or] at hn
    have h2 : stage (s.execs i) t.id = 2 := by simp [stage, hn.1, hheld]
    refine rank_exec rfl (fun _ _ => rfl) (fun x id _ _ => ?_) hc ?_
    · exact stage_le (fun h => h) fun h => Or.inr
        (List.mem_map.2 ((List.mem_map.1 h).imp fun _ hy => ⟨List.mem_of_mem_erase hy.1, hy.2⟩))
    · simp only [rank, upd_same, hph, phaseRank, h2]
      simp [stage, hn]
  | drop hst hq hl => exact absurd hl ((hI.ids _).lookup_result hq)
  | @fail i r q c err hst hq hl ho =>
    have hph := hI.corr.pend_phase i _ c (mem_of_lookup hl)
    refine rank_exec rfl (fun x hx => upd_other _ _ _ _ hx) (fun x id _ _ => Nat.le_refl _) (hI.corr.arrived hph nofun) ?_
    simp only [rank, answer, upd_same, hph, phaseRank]; omega
  | @result i r q c hst hq hl ho =>
    have hph := hI.corr.pend_phase i _ c (mem_of_lookup hl)
    have := (stage_bounds (s.execs i) r.id).1
    refine rank_exec rfl (fun x hx => upd_other _ _ _ _ hx) (fun x id _ _ => Nat.le_refl _) (hI.corr.arrived hph nofun) ?_
    simp only [rank, upd_same, hph, phaseRank]; omega
  | _ => exact rank_phase_only rfl rfl (hI.corr.arrived_lt _ (by simp [*])) (by simp [*, phaseRank])

theorem measure_step {a : Step} (hI : Inv cfg s) (hs : step cfg s a = some s') :
    measure cfg.callers.length s' < measure cfg.callers.length s := by
  obtain ⟨hle, c, hc, hlt⟩ := rank_step hI hs
  exact (sum_map_lt (fun x _ => hle x)).2 c (List.mem_range.2 hc) hlt

theorem measure_run {sched : List Step} (hI : Inv cfg s) (hs : run cfg s sched = some s') :
    sched.length + measure cfg.callers.length s' ≤ measure cfg.callers.length s ∧ ∀ x, rank s' x ≤ rank s x := by
  induction sched generalizing s with
  | nil => cases hs; exact ⟨Nat.le_of_eq (Nat.zero_add _), fun _ => Nat.le_refl _⟩
  | cons a as ih =>
    obtain ⟨s1, h1, hs⟩ := run_cons_some hs
    have h2 := ih (hI.step h1) hs
    have := measure_step hI h1
    refine ⟨by simp only [List.length_cons]; omega, fun x => Nat.le_trans (h2.2 x) ((rank_step hI h1).1 x)⟩

theorem measure_init (n : Nat) : measure n Serving.init = 11 * n := by
  rw [measure, show rank Serving.init = fun _ => 11 from rfl, List.map_const', List.sum_replicate_nat, List.length_range,
    Nat.mul_comm]

theorem rank_lt_iff (s : State) (c : Nat) : rank s c < 11 ↔ s.phase c ≠ .fresh := by
  unfold rank
  cases h : s.phase c <;> simp [phaseRank]
  rename_i i id
  have := (stage_bounds (s.execs i) id).2
  omega

theorem run_append (cfg : Config) (s : State) (a b : List Step) :
    run cfg s (a ++ b) = (run cfg s a).bind (fun s1 => run cfg s1 b) := by
  induction a generalizing s with
  | nil => simp [Serving.run]
  | cons x xs ih =>
    simp only [List.cons_append, Serving.run]
    cases step cfg s x with
    | none => simp
    | some s1 => simpa using ih s1

theorem exists_completion (n : Nat) : ∀ s, Inv cfg s → measure cfg.callers.length s < n →
    ∃ ext s', run cfg s ext = some s' ∧ stuck cfg s' = true := by
  induction n with
  | zero => intro s _ hm; exact absurd hm (Nat.not_lt_zero _)
  | succ n ih =>
    intro s hI hm
    by_cases hst : stuck cfg s = true
    · exact ⟨[], s, rfl, hst⟩
    · simp only [stuck_iff, Classical.not_forall] at hst
      obtain ⟨a, -, hs⟩ := hst
      cases hs1 : step cfg s a with
      | none => exact absurd hs1 hs
      | some s1 =>
        have hlt := measure_step hI hs1
        obtain ⟨ext, s', hr, hstk⟩ := ih s1 (hI.step hs1) (by omega)
        exact ⟨a :: ext, s', by simp [Serving.run, hs1, hr], hstk⟩

end ForML.Serving
