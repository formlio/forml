/-
C07: what the hypotheses `tame` and `resolvable` of the partial theorems exclude, exactly.  Each of `tame`, `resolvable`,
`dupTable`, `unknownElement`, `illTypedCall`, `consulted` is a conjunction, disjunction or concatenation over the parts
of a node, so the cases of each induction are instances of a few step lemmas stated about booleans and lists.
-/
import ForML.Model.GrammarNorm
import ForML.Lemmas.C07ErrKind

namespace ForML.Dsl

theorem Source.plain_eq_plainN_and_kinded (s : Source) : s.plain = (s.plainN && s.kinded) := by
  unfold Source.plain Source.plainN Source.kinded
  rw [Bool.eq_iff_iff]
  simp only [Bool.and_eq_true, List.all_eq_true, decide_eq_true_eq]
  constructor
  · rintro ⟨⟨h1, h2⟩, h3⟩
    exact ⟨⟨⟨h1, fun p hp => (h2 p hp).1⟩, h3⟩, fun p hp => (h2 p hp).2⟩
  · rintro ⟨⟨⟨h1, h2⟩, h3⟩, h4⟩
    exact ⟨⟨h1, fun p hp => ⟨h2 p hp, h4 p hp⟩⟩, h3⟩

theorem and_iff_consulted {t₁ t₂ d₁ d₂ : Bool} {c₁ c₂ : List Source}
    (h₁ : t₁ = true ↔ d₁ = false ∧ ∀ x ∈ c₁, x.plain = true) (h₂ : t₂ = true ↔ d₂ = false ∧ ∀ x ∈ c₂, x.plain = true) :
    (t₁ && t₂) = true ↔ (d₁ || d₂) = false ∧ ∀ x ∈ c₁ ++ c₂, x.plain = true := by
  rw [Bool.and_eq_true, h₁, h₂, Bool.or_eq_false_iff, List.forall_mem_append, and_and_and_comm]

theorem and_plain_iff_consulted {t d : Bool} {c : List Source} (h : t = true ↔ d = false ∧ ∀ x ∈ c, x.plain = true)
    (s : Source) : (t && s.plain) = true ↔ d = false ∧ ∀ x ∈ c ++ [s], x.plain = true := by
  rw [Bool.and_eq_true, h, List.forall_mem_append, and_assoc, List.forall_mem_singleton]

theorem leaf_iff_consulted : true = true ↔ false = false ∧ ∀ x ∈ ([] : List Source), x.plain = true :=
  ⟨fun _ => ⟨rfl, fun _ h => nomatch h⟩, fun _ => rfl⟩

mutual
theorem Feature.tame_iff_consulted : (f : Feature) →
    (f.tame = true ↔ f.dupTable = false ∧ ∀ x ∈ f.consulted, x.plain = true)
  | .lit _ => leaf_iff_consulted
  | .elem o _ => and_plain_iff_consulted (Source.tame_iff_consulted o) o
  | .alias f _ => Feature.tame_iff_consulted f
  | .expr _ args => Features.tame_iff_consulted args
  | .cast f _ => Feature.tame_iff_consulted f
  | .window fn ps os => and_iff_consulted (and_iff_consulted (Feature.tame_iff_consulted fn)
      (Features.tame_iff_consulted ps)) (Orderings.tame_iff_consulted os)
theorem Features.tame_iff_consulted : (fs : Features) →
    (fs.tame = true ↔ fs.dupTable = false ∧ ∀ x ∈ fs.consulted, x.plain = true)
  | .nil => leaf_iff_consulted
  | .cons f fs => and_iff_consulted (Feature.tame_iff_consulted f) (Features.tame_iff_consulted fs)
theorem FeatureOpt.tame_iff_consulted : (c : FeatureOpt) →
    (c.tame = true ↔ c.dupTable = false ∧ ∀ x ∈ c.consulted, x.plain = true)
  | .none => leaf_iff_consulted
  | .some f => Feature.tame_iff_consulted f
theorem Ordering.tame_iff_consulted : (o : Ordering) →
    (o.tame = true ↔ o.dupTable = false ∧ ∀ x ∈ o.consulted, x.plain = true)
  | .mk f _ => Feature.tame_iff_consulted f
theorem Orderings.tame_iff_consulted : (os : Orderings) →
    (os.tame = true ↔ os.dupTable = false ∧ ∀ x ∈ os.consulted, x.plain = true)
  | .nil => leaf_iff_consulted
  | .cons o os => and_iff_consulted (Ordering.tame_iff_consulted o) (Orderings.tame_iff_consulted os)
theorem Source.tame_iff_consulted : (s : Source) →
    (s.tame = true ↔ s.dupTable = false ∧ ∀ x ∈ s.consulted, x.plain = true)
  | .table n fs => by simp [Source.tame, Source.dupTable, Source.consulted]
  | .ref i _ => and_plain_iff_consulted (Source.tame_iff_consulted i) i
  | .join l r _ c => and_iff_consulted (and_iff_consulted (Source.tame_iff_consulted l) (Source.tame_iff_consulted r))
      (FeatureOpt.tame_iff_consulted c)
  | .set l r _ => by
    have := and_plain_iff_consulted (and_plain_iff_consulted
      (and_iff_consulted (Source.tame_iff_consulted l) (Source.tame_iff_consulted r)) l) r
    rwa [List.append_assoc] at this
  | .query s sel pre grp post ord _ => and_iff_consulted (and_iff_consulted (and_iff_consulted (and_iff_consulted
      (and_iff_consulted (Source.tame_iff_consulted s) (Features.tame_iff_consulted sel))
      (FeatureOpt.tame_iff_consulted pre)) (Features.tame_iff_consulted grp)) (FeatureOpt.tame_iff_consulted post))
      (Orderings.tame_iff_consulted ord)
end

theorem Source.tame_false_iff (r : Source) :
    r.tame = false ↔ (r.dupTable = true ∨ r.unnamedAt = true ∨ r.duplicateAt = true ∨ r.unkindedAt = true) := by
  have hp : (∀ x ∈ r.consulted, x.plain = true) ↔
      r.unnamedAt = false ∧ r.duplicateAt = false ∧ r.unkindedAt = false := by
    simp only [Source.unnamedAt, Source.duplicateAt, Source.unkindedAt, List.any_eq_false, Bool.not_eq_true',
      Bool.not_eq_false, Source.plain_eq_plainN_and_kinded, Source.plainN, Bool.and_eq_true]
    exact ⟨fun h => ⟨fun x hx => (h x hx).1.1, fun x hx => (h x hx).1.2, fun x hx => (h x hx).2⟩,
      fun ⟨h1, h2, h3⟩ x hx => ⟨⟨h1 x hx, h2 x hx⟩, h3 x hx⟩⟩
  rw [← Bool.not_eq_true, Source.tame_iff_consulted, hp]
  simp only [Decidable.not_and_iff_not_or_not, Bool.not_eq_false]

theorem and_consulted_resolvable {r₁ r₂ : Bool} {c₁ c₂ : List Source} (h₁ : r₁ = true → ∀ x ∈ c₁, x.resolvable = true)
    (h₂ : r₂ = true → ∀ x ∈ c₂, x.resolvable = true) (h : (r₁ && r₂) = true) : ∀ x ∈ c₁ ++ c₂, x.resolvable = true :=
  List.forall_mem_append.mpr ⟨h₁ (Bool.and_eq_true_iff.mp h).1, h₂ (Bool.and_eq_true_iff.mp h).2⟩

mutual
theorem Feature.consulted_resolvable : (f : Feature) → f.resolvable = true → ∀ x ∈ f.consulted, x.resolvable = true
  | .lit _ => fun _ _ h => nomatch h
  | .elem o _ => fun hr =>
    have ho := (Bool.and_eq_true_iff.mp hr).1
    List.forall_mem_append.mpr ⟨Source.consulted_resolvable o ho, List.forall_mem_singleton.mpr ho⟩
  | .alias f _ => Feature.consulted_resolvable f
  | .expr _ args => fun hr =>
    Features.consulted_resolvable args (Bool.and_eq_true_iff.mp (Bool.and_eq_true_iff.mp hr).1).1
  | .cast f _ => Feature.consulted_resolvable f
  | .window fn ps os => by
    have hfn : (fn == .expr .rownumber .nil || fn.resolvable) = true → ∀ x ∈ fn.consulted, x.resolvable = true := by
      cases h : fn == .expr .rownumber .nil with
      | true => rw [eq_of_beq h]; exact fun _ _ h => nomatch h
      | false => exact Feature.consulted_resolvable fn
    exact and_consulted_resolvable (and_consulted_resolvable hfn (Features.consulted_resolvable ps))
      (Orderings.consulted_resolvable os)
theorem Features.consulted_resolvable : (fs : Features) → fs.resolvable = true → ∀ x ∈ fs.consulted, x.resolvable = true
  | .nil => fun _ _ h => nomatch h
  | .cons f fs => and_consulted_resolvable (Feature.consulted_resolvable f) (Features.consulted_resolvable fs)
theorem FeatureOpt.consulted_resolvable : (c : FeatureOpt) → c.resolvable = true → ∀ x ∈ c.consulted, x.resolvable = true
  | .none => fun _ _ h => nomatch h
  | .some f => Feature.consulted_resolvable f
theorem Ordering.consulted_resolvable : (o : Ordering) → o.resolvable = true → ∀ x ∈ o.consulted, x.resolvable = true
  | .mk f _ => Feature.consulted_resolvable f
theorem Orderings.consulted_resolvable : (os : Orderings) → os.resolvable = true → ∀ x ∈ os.consulted, x.resolvable = true
  | .nil => fun _ _ h => nomatch h
  | .cons o os => and_consulted_resolvable (Ordering.consulted_resolvable o) (Orderings.consulted_resolvable os)
theorem Source.consulted_resolvable : (s : Source) → s.resolvable = true → ∀ x ∈ s.consulted, x.resolvable = true
  | .table _ _ => fun _ _ h => nomatch h
  | .ref i _ => fun hr => List.forall_mem_append.mpr
      ⟨Source.consulted_resolvable i hr, List.forall_mem_singleton.mpr hr⟩
  | .join l r _ c => and_consulted_resolvable (and_consulted_resolvable (Source.consulted_resolvable l)
      (Source.consulted_resolvable r)) (FeatureOpt.consulted_resolvable c)
  | .set l r _ => fun hr => List.forall_mem_append.mpr
      ⟨and_consulted_resolvable (Source.consulted_resolvable l) (Source.consulted_resolvable r) hr,
        List.forall_mem_cons.mpr ⟨(Bool.and_eq_true_iff.mp hr).1, List.forall_mem_singleton.mpr (Bool.and_eq_true_iff.mp hr).2⟩⟩
  | .query s sel pre grp post ord _ => and_consulted_resolvable (and_consulted_resolvable (and_consulted_resolvable
      (and_consulted_resolvable (and_consulted_resolvable (Source.consulted_resolvable s)
      (Features.consulted_resolvable sel)) (FeatureOpt.consulted_resolvable pre)) (Features.consulted_resolvable grp))
      (FeatureOpt.consulted_resolvable post)) (Orderings.consulted_resolvable ord)
end

theorem Source.unkindedAt_of_resolvable (r : Source) (hr : r.resolvable = true) : r.unkindedAt = false := by
  simp only [Source.unkindedAt, List.any_eq_false, Bool.not_eq_true', Bool.not_eq_false, Source.kinded]
  intro x hx
  exact Source.kinded_of_resolvable x (Source.consulted_resolvable r hr x hx)

theorem and_iff_regions {r₁ r₂ u₁ u₂ i₁ i₂ : Bool} (h₁ : r₁ = true ↔ u₁ = false ∧ i₁ = false)
    (h₂ : r₂ = true ↔ u₂ = false ∧ i₂ = false) : (r₁ && r₂) = true ↔ (u₁ || u₂) = false ∧ (i₁ || i₂) = false := by
  rw [Bool.and_eq_true, h₁, h₂, Bool.or_eq_false_iff, Bool.or_eq_false_iff, and_and_and_comm]

theorem leaf_iff_regions : true = true ↔ false = false ∧ false = false := ⟨fun _ => ⟨rfl, rfl⟩, fun _ => rfl⟩

mutual
theorem Feature.resolvable_iff_regions : (f : Feature) →
    (f.resolvable = true ↔ f.unknownElement = false ∧ f.illTypedCall = false)
  | .lit _ => leaf_iff_regions
  | .elem o n => by
    simp only [Feature.resolvable, Feature.unknownElement, Feature.illTypedCall, Bool.and_eq_true,
      Source.resolvable_iff_regions o, Bool.or_eq_false_iff, Bool.not_eq_false', and_right_comm]
  | .alias f _ => Feature.resolvable_iff_regions f
  | .cast f _ => Feature.resolvable_iff_regions f
  | .expr op args => by
    simp only [Feature.resolvable, Feature.unknownElement, Feature.illTypedCall, Bool.and_eq_true,
      Features.resolvable_iff_regions args, Bool.or_eq_false_iff, Bool.not_eq_false', bne_iff_ne, ne_eq,
      beq_eq_false_iff_ne, and_assoc]
  | .window fn ps os => by
    have hfn : (fn == .expr .rownumber .nil || fn.resolvable) = true ↔
        fn.unknownElement = false ∧ (fn != .expr .rownumber .nil && fn.illTypedCall) = false := by
      cases h : fn == .expr .rownumber .nil with
      | true => rw [eq_of_beq h]; exact leaf_iff_regions
      | false => simpa only [bne, h, Bool.false_or, Bool.not_false, Bool.true_and] using Feature.resolvable_iff_regions fn
    exact and_iff_regions (and_iff_regions hfn (Features.resolvable_iff_regions ps)) (Orderings.resolvable_iff_regions os)
theorem Features.resolvable_iff_regions : (fs : Features) →
    (fs.resolvable = true ↔ fs.unknownElement = false ∧ fs.illTypedCall = false)
  | .nil => leaf_iff_regions
  | .cons f fs => and_iff_regions (Feature.resolvable_iff_regions f) (Features.resolvable_iff_regions fs)
theorem FeatureOpt.resolvable_iff_regions : (c : FeatureOpt) →
    (c.resolvable = true ↔ c.unknownElement = false ∧ c.illTypedCall = false)
  | .none => leaf_iff_regions
  | .some f => Feature.resolvable_iff_regions f
theorem Ordering.resolvable_iff_regions : (o : Ordering) →
    (o.resolvable = true ↔ o.unknownElement = false ∧ o.illTypedCall = false)
  | .mk f _ => Feature.resolvable_iff_regions f
theorem Orderings.resolvable_iff_regions : (os : Orderings) →
    (os.resolvable = true ↔ os.unknownElement = false ∧ os.illTypedCall = false)
  | .nil => leaf_iff_regions
  | .cons o os => and_iff_regions (Ordering.resolvable_iff_regions o) (Orderings.resolvable_iff_regions os)
theorem Source.resolvable_iff_regions : (s : Source) →
    (s.resolvable = true ↔ s.unknownElement = false ∧ s.illTypedCall = false)
  | .table _ _ => leaf_iff_regions
  | .ref i _ => Source.resolvable_iff_regions i
  | .join l r _ c => and_iff_regions (and_iff_regions (Source.resolvable_iff_regions l) (Source.resolvable_iff_regions r))
      (FeatureOpt.resolvable_iff_regions c)
  | .set l r _ => and_iff_regions (Source.resolvable_iff_regions l) (Source.resolvable_iff_regions r)
  | .query s sel pre grp post ord _ => and_iff_regions (and_iff_regions (and_iff_regions (and_iff_regions
      (and_iff_regions (Source.resolvable_iff_regions s) (Features.resolvable_iff_regions sel))
      (FeatureOpt.resolvable_iff_regions pre)) (Features.resolvable_iff_regions grp))
      (FeatureOpt.resolvable_iff_regions post)) (Orderings.resolvable_iff_regions ord)
end

theorem Source.resolvable_tame_of_outside_regions (r : Source) (h1 : Source.unnamedAt r = false) (h2 : Source.duplicateAt r = false)
    (h3 : Source.unknownElement r = false) (u1 : Source.dupTable r = false) (u2 : Source.illTypedCall r = false) :
    Source.resolvable r = true ∧ Source.tame r = true := by
  have hr : Source.resolvable r = true := (Source.resolvable_iff_regions _).mpr ⟨h3, u2⟩
  refine ⟨hr, ?_⟩
  cases h : Source.tame r with
  | true => rfl
  | false =>
    rcases (Source.tame_false_iff _).mp h with h' | h' | h' | h'
    · rw [u1] at h'; cases h'
    · rw [h1] at h'; cases h'
    · rw [h2] at h'; cases h'
    · rw [Source.unkindedAt_of_resolvable _ hr] at h'; cases h'

end ForML.Dsl
