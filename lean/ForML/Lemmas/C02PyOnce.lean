/-
Which instructions a call of the single-function runner *executes*. `evalT` is `eval` instrumented with the list of
the raw terms (`Task.__call__` / `Get.__call__`) it invokes, in invocation order; erasing the trace gives back `eval`,
so every theorem about values carries over.
-/
import ForML.Lemmas.C02PyEval

namespace ForML.Flow.PyFunc
open ForML.Flow

mutual
/-- `eval` with the executed node keys recorded -/
def evalT (x : Val) : Term → Queues → Val × Queues × List Key
  | .raw k r, q => (r.call [x], q, [k])
  | .call k r bs, q =>
    let (vs, q', tr) := evalArgsT x bs q
    (r.call vs, q', tr ++ [k])
  | .replica k t n, q =>
    match q.get k with
    | v :: d => (v, q.set k d, [])
    | [] =>
      let (v, q', tr) := evalT x t q
      (v, q'.set k (q'.get k ++ List.replicate n v), tr)
def evalArgsT (x : Val) : List Term → Queues → List Val × Queues × List Key
  | [], q => ([], q, [])
  | b :: bs, q =>
    let (v, q', tr) := evalT x b q
    let (vs, q'', tr') := evalArgsT x bs q'
    (v :: vs, q'', tr ++ tr')
end

/-- the instructions one request executes, in execution order (`Expression.__call__` starts from empty queues) -/
def Term.executed (term : Term) (x : Val) : List Key := (evalT x term []).2.2

mutual
/-- the node keys of a term in post-order (a forked node once per replica cell) -/
def Term.nodes : Term → List Key
  | .raw k _ => [k]
  | .call k _ bs => Term.nodesL bs ++ [k]
  | .replica _ t _ => t.nodes
def Term.nodesL : List Term → List Key
  | [] => []
  | b :: bs => b.nodes ++ Term.nodesL bs
end

mutual
/-- no replica cell inside: no result of the table is shared -/
def Term.plain : Term → Bool
  | .raw _ _ => true
  | .call _ _ bs => Term.plainL bs
  | .replica _ _ _ => false
def Term.plainL : List Term → Bool
  | [] => true
  | b :: bs => b.plain && Term.plainL bs
end

theorem evalT_raw (x : Val) (k : Key) (r : Raw) (q : Queues) : evalT x (.raw k r) q = (r.call [x], q, [k]) := by
  rw [evalT]

theorem evalT_call (x : Val) (k : Key) (r : Raw) (bs : List Term) (q : Queues) :
    evalT x (.call k r bs) q =
      (r.call (evalArgsT x bs q).1, (evalArgsT x bs q).2.1, (evalArgsT x bs q).2.2 ++ [k]) := by
  rw [evalT]

theorem evalT_replica (x : Val) (k : Key) (t : Term) (n : Nat) (q : Queues) :
    evalT x (.replica k t n) q =
      match q.get k with
      | v :: d => (v, q.set k d, [])
      | [] => ((evalT x t q).1,
          (evalT x t q).2.1.set k ((evalT x t q).2.1.get k ++ List.replicate n (evalT x t q).1), (evalT x t q).2.2) := by
  rw [evalT]

theorem evalArgsT_nil (x : Val) (q : Queues) : evalArgsT x [] q = ([], q, []) := by rw [evalArgsT]

theorem evalArgsT_cons (x : Val) (b : Term) (bs : List Term) (q : Queues) :
    evalArgsT x (b :: bs) q =
      ((evalT x b q).1 :: (evalArgsT x bs (evalT x b q).2.1).1, (evalArgsT x bs (evalT x b q).2.1).2.1,
        (evalT x b q).2.2 ++ (evalArgsT x bs (evalT x b q).2.1).2.2) := by
  rw [evalArgsT]

mutual
/-- erasing the trace gives the evaluator of the model -/
theorem evalT_erase (x : Val) : ∀ (t : Term) (q : Queues), ((evalT x t q).1, (evalT x t q).2.1) = eval x t q
  | .raw k r, q => by rw [evalT_raw, eval_raw]
  | .call k r bs, q => by
    have h := evalArgsT_erase x bs q
    rw [evalT_call, eval_call, ← h]
  | .replica k t n, q => by
    have h := evalT_erase x t q
    rw [evalT_replica, eval_replica, ← h]
    cases q.get k <;> rfl
theorem evalArgsT_erase (x : Val) :
    ∀ (bs : List Term) (q : Queues), ((evalArgsT x bs q).1, (evalArgsT x bs q).2.1) = evalArgs x bs q
  | [], q => by rw [evalArgsT_nil, evalArgs_nil]
  | b :: bs, q => by
    have h1 := evalT_erase x b q
    have h2 := evalArgsT_erase x bs (evalT x b q).2.1
    rw [evalArgsT_cons, evalArgs_cons, ← h1, ← h2]
end

mutual
/-- a term without replica cells executes its nodes, each once, in post-order, and never touches the queues -/
theorem evalT_plain (x : Val) :
    ∀ (t : Term) (q : Queues), t.plain = true → (evalT x t q).2.2 = t.nodes ∧ (evalT x t q).2.1 = q
  | .raw k r, q, _ => by rw [evalT_raw]; exact ⟨by rw [Term.nodes], rfl⟩
  | .call k r bs, q, h => by
    rw [Term.plain] at h
    have h' := evalArgsT_plain x bs q h
    rw [evalT_call, Term.nodes]
    exact ⟨by rw [h'.1], h'.2⟩
  | .replica k t n, q, h => by rw [Term.plain] at h; exact absurd h (by decide)
theorem evalArgsT_plain (x : Val) :
    ∀ (bs : List Term) (q : Queues), Term.plainL bs = true →
      (evalArgsT x bs q).2.2 = Term.nodesL bs ∧ (evalArgsT x bs q).2.1 = q
  | [], q, _ => by rw [evalArgsT_nil]; exact ⟨by rw [Term.nodesL], rfl⟩
  | b :: bs, q, h => by
    rw [Term.plainL, Bool.and_eq_true] at h
    have h1 := evalT_plain x b q h.1
    have h2 := evalArgsT_plain x bs (evalT x b q).2.1 h.2
    rw [evalArgsT_cons, Term.nodesL]
    refine ⟨by rw [h1.1, h2.1], ?_⟩
    show (evalArgsT x bs (evalT x b q).2.1).2.1 = q
    rw [h2.2, h1.2]
end

mutual
/-- whatever the queues hold, only nodes of the term are executed -/
theorem evalT_sound (x : Val) : ∀ (t : Term) (q : Queues) (k : Key), k ∈ (evalT x t q).2.2 → k ∈ t.nodes
  | .raw k r, q, k', h => by rw [evalT_raw] at h; rw [Term.nodes]; exact h
  | .call k r bs, q, k', h => by
    rw [evalT_call] at h
    rw [Term.nodes]
    rcases List.mem_append.1 h with h | h
    · exact List.mem_append.2 (.inl (evalArgsT_sound x bs q k' h))
    · exact List.mem_append.2 (.inr h)
  | .replica k t n, q, k', h => by
    rw [evalT_replica] at h
    rw [Term.nodes]
    cases hq : q.get k with
    | nil => rw [hq] at h; exact evalT_sound x t q k' h
    | cons v d => rw [hq] at h; simp at h
theorem evalArgsT_sound (x : Val) :
    ∀ (bs : List Term) (q : Queues) (k : Key), k ∈ (evalArgsT x bs q).2.2 → k ∈ Term.nodesL bs
  | [], q, k', h => by rw [evalArgsT_nil] at h; simp at h
  | b :: bs, q, k', h => by
    rw [evalArgsT_cons] at h
    rw [Term.nodesL]
    rcases List.mem_append.1 h with h | h
    · exact List.mem_append.2 (.inl (evalT_sound x b q k' h))
    · exact List.mem_append.2 (.inr (evalArgsT_sound x bs _ k' h))
end

mutual
/-- every replica cell named `k` wraps a term whose nodes are `C k` (all cells of one fork share one term) -/
def Term.cellsOk (C : Key → List Key) : Term → Bool
  | .raw _ _ => true
  | .call _ _ bs => Term.cellsOkL C bs
  | .replica k t _ => (t.nodes == C k) && t.cellsOk C
def Term.cellsOkL (C : Key → List Key) : List Term → Bool
  | [] => true
  | b :: bs => b.cellsOk C && Term.cellsOkL C bs
end

mutual
/-- the replica cells of a term: fork key and nodes of the wrapped term (outermost first) -/
def Term.cells : Term → List (Key × List Key)
  | .raw _ _ => []
  | .call _ _ bs => Term.cellsL bs
  | .replica k t _ => (k, t.nodes) :: t.cells
def Term.cellsL : List Term → List (Key × List Key)
  | [] => []
  | b :: bs => b.cells ++ Term.cellsL bs
end

/-- the nodes of the first cell named `k` (the candidate for `C` in `cellsOk`) -/
def Term.cellNodes (U : Term) (k : Key) : List Key :=
  match U.cells.find? (fun e => e.1 == k) with
  | some e => e.2
  | none => []

/-- all cells of one fork wrap terms with the same nodes -/
def Term.uniform (U : Term) : Bool := U.cellsOk U.cellNodes

/-- a queue holds values only if the nodes of the shared term were executed (earlier in this request) -/
def Served (C : Key → List Key) (q : Queues) (tr : List Key) : Prop :=
  ∀ k, q.get k ≠ [] → ∀ j ∈ C k, j ∈ tr

mutual
/-- `tr0` = what the request executed before `t` is entered. `Served` is kept, and every node of `t` is executed by
then: a cell that finds its queue filled executes nothing, but `Served` says the nodes `C k` of its shared term ran
already, and by `cellsOk` these are the nodes of the cell. -/
theorem evalT_covers (C : Key → List Key) (x : Val) :
    ∀ (t : Term) (q : Queues) (tr0 : List Key), t.cellsOk C = true → Served C q tr0 →
      Served C (evalT x t q).2.1 (tr0 ++ (evalT x t q).2.2) ∧ ∀ j ∈ t.nodes, j ∈ tr0 ++ (evalT x t q).2.2
  | .raw k r, q, tr0, _, hs => by
    rw [evalT_raw, Term.nodes]
    refine ⟨fun k' hk j hj => List.mem_append.2 (.inl (hs k' hk j hj)), fun j hj => List.mem_append.2 (.inr hj)⟩
  | .call k r bs, q, tr0, hc, hs => by
    rw [Term.cellsOk] at hc
    have h := evalArgsT_covers C x bs q tr0 hc hs
    rw [evalT_call, Term.nodes]
    refine ⟨fun k' hk j hj => ?_, fun j hj => ?_⟩
    · rw [← List.append_assoc]; exact List.mem_append.2 (.inl (h.1 k' hk j hj))
    · rw [← List.append_assoc]
      rcases List.mem_append.1 hj with hj | hj
      · exact List.mem_append.2 (.inl (h.2 j hj))
      · exact List.mem_append.2 (.inr hj)
  | .replica k t n, q, tr0, hc, hs => by
    rw [Term.cellsOk, Bool.and_eq_true, beq_iff_eq] at hc
    rw [evalT_replica, Term.nodes]
    cases hq : q.get k with
    | cons v d =>
      simp only [List.append_nil]
      refine ⟨fun k' hk j hj => ?_, fun j hj => ?_⟩
      · rw [Queues.get_set] at hk
        by_cases he : k' = k
        · subst he; exact hs k' (by rw [hq]; simp) j hj
        · rw [if_neg he] at hk; exact hs k' hk j hj
      · exact hs k (by rw [hq]; simp) j (hc.1 ▸ hj)
    | nil =>
      have h := evalT_covers C x t q tr0 hc.2 hs
      refine ⟨fun k' hk j hj => ?_, h.2⟩
      show j ∈ tr0 ++ (evalT x t q).2.2
      by_cases he : k' = k
      · subst he; exact h.2 j (hc.1 ▸ hj)
      · have hk' : (evalT x t q).2.1.get k' ≠ [] := by
          intro h0; apply hk
          show (Queues.set _ _ _).get k' = []
          rw [Queues.get_set, if_neg he]; exact h0
        exact h.1 k' hk' j hj
theorem evalArgsT_covers (C : Key → List Key) (x : Val) :
    ∀ (bs : List Term) (q : Queues) (tr0 : List Key), Term.cellsOkL C bs = true → Served C q tr0 →
      Served C (evalArgsT x bs q).2.1 (tr0 ++ (evalArgsT x bs q).2.2) ∧
        ∀ j ∈ Term.nodesL bs, j ∈ tr0 ++ (evalArgsT x bs q).2.2
  | [], q, tr0, _, hs => by
    rw [evalArgsT_nil, Term.nodesL]
    exact ⟨by simpa using hs, fun j hj => by simp at hj⟩
  | b :: bs, q, tr0, hc, hs => by
    rw [Term.cellsOkL, Bool.and_eq_true] at hc
    have h1 := evalT_covers C x b q tr0 hc.1 hs
    have h2 := evalArgsT_covers C x bs (evalT x b q).2.1 (tr0 ++ (evalT x b q).2.2) hc.2 h1.1
    rw [evalArgsT_cons, Term.nodesL]
    refine ⟨?_, fun j hj => ?_⟩
    · show Served C (evalArgsT x bs (evalT x b q).2.1).2.1
        (tr0 ++ ((evalT x b q).2.2 ++ (evalArgsT x bs (evalT x b q).2.1).2.2))
      rw [← List.append_assoc]; exact h2.1
    · show j ∈ tr0 ++ ((evalT x b q).2.2 ++ (evalArgsT x bs (evalT x b q).2.1).2.2)
      rw [← List.append_assoc]
      rcases List.mem_append.1 hj with hj | hj
      · exact List.mem_append.2 (.inl (h1.2 j hj))
      · exact h2.2 j hj
end

end ForML.Flow.PyFunc
