/-
C01 — lemmas on the failing accessor of `Model/Faults.lean`: `Store.loader` agrees with the load of `Store.toAssets`, and
when the load of a persistent group yields an error value, the member that is handed the loaded state (the group's
trainer, else a stateful applied member) carries the error in its `nodeVal`.
-/
import ForML.Model.Faults
import ForML.Lemmas.C01Sem
import ForML.Lemmas.C01Assoc

namespace ForML.Flow
open Segment

/-- the interpreter's store agrees with `Loader.execute` against the failing accessor: a state or `none` where the
loader returns, the error value where it raises -/
theorem Store.loader_toAssets (S : Store) (g : Gid) :
    (match S.loader g with | .ok v => v | .error e => .error e) = S.toAssets.load g := by
  simp only [Store.loader, Store.toAssets, Assets.load, Assets.offset]
  cases indexOf g S.persistent with
  | none => rfl
  | some i =>
    simp only [List.getD_eq_getElem?_getD, List.getElem?_map]
    cases hi : S.outcomes[i]? with
    | none => rfl
    | some o => cases o <;> rfl

theorem Val.anyError_of_mem {l : List Val} {v : Val} (hv : v ∈ l) (he : v.hasError = true) : Val.anyError l = true := by
  induction l with
  | nil => cases hv
  | cons x r ih =>
    simp only [Val.anyError, Bool.or_eq_true]
    rcases List.mem_cons.mp hv with rfl | h
    · exact Or.inl he
    · exact Or.inr (ih h)

theorem lookupVal_eq_aget (k : Key) (l : List (Key × Val)) : lookupVal k l = aget k l := by
  induction l with
  | nil => rfl
  | cons x r ih => rw [lookupVal, aget, ih]

theorem lookupVal_mem {k : Key} {v : Val} {l : List (Key × Val)} (h : lookupVal k l = some v) : (k, v) ∈ l :=
  mem_of_aget (lookupVal_eq_aget k l ▸ h)

theorem asState_error (e : RunErr) : (Val.error e).asState = .error e := rfl

/-- the trainer of a persistent group starts from the loaded state: a refused load is carried by its value -/
theorem trainer_hasError {g : Segment} {As : Assets} {rank : Uid → Nat} (h : WF g rank) {γ : Gid}
    (hc : As.contains γ = true) {e : RunErr} (hl : As.load γ = .error e) {tw : Worker} (htO : g.trainerOf γ = some tw) :
    (g.nodeVal (some As) g.evalFuel tw.uid).hasError = true := by
  have hss : storedState (some As) γ = .error e := by rw [storedState_persistent rfl hc, hl]
  obtain ⟨htm, htg, htt⟩ := trainerOf_some htO
  have hT := h.trainedOK htm htt
  obtain ⟨x, hx⟩ := hT.train
  obtain ⟨y, hy⟩ := hT.label
  rw [show g.evalFuel = g.workers.length + 1 from rfl, nodeVal_trained (worker?_of_mem h.nodup htm) htt hx hy,
    hT.stateful, if_pos rfl, htg, hss]
  rfl

/-- the member of a persistent group that is handed the loaded state: its trainer if it has one here, else any
stateful member; when the load is refused its value carries the error -/
theorem consumer_hasError {g : Segment} {As : Assets} {rank : Uid → Nat} (h : WF g rank) {w : Worker}
    (hw : w ∈ g.workers) (hst : w.stateful = true) (hc : As.contains w.gid = true) {e : RunErr}
    (hl : As.load w.gid = .error e) :
    ∃ x ∈ g.workers, x.gid = w.gid ∧ (g.nodeVal (some As) g.evalFuel x.uid).hasError = true := by
  have hss : storedState (some As) w.gid = .error e := by rw [storedState_persistent rfl hc, hl]
  cases htO : g.trainerOf w.gid with
  | some tw => exact ⟨tw, (trainerOf_some htO).1, (trainerOf_some htO).2.1, trainer_hasError h hc hl htO⟩
  | none =>
    have hnt := trainerOf_none htO w hw rfl
    refine ⟨w, hw, rfl, ?_⟩
    rw [show g.evalFuel = g.workers.length + 1 from rfl, nodeVal_applied (worker?_of_mem h.nodup hw) hnt]
    simp only [hst, Bool.not_true, Bool.false_eq_true, if_false, htO, hss]
    rfl

end ForML.Flow
