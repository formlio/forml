/-
Every file-system micro-operation keeps the tree shape (`Fs.WF`: the parent of every present path is a directory), so a
run of operations from a well-formed tree, complete or stopped at the first failing one, leaves a well-formed tree.
-/
import ForML.Lemmas.C05

namespace ForML.Fs

/-- `WF` in terms of lookups -/
def Rooted (fs : Fs) : Prop := ∀ k n, get fs k = some n → k ≠ [] → get fs (parent k) = some .dir

theorem mem_of_get' (fs : Fs) (k : Path) (n : Node) (h : get fs k = some n) : (k, n) ∈ fs := mem_of_get fs k n h

theorem WF.parent_dir {fs : Fs} (w : WF fs) (k : Path) (n : Node) (h : get fs k = some n) (hk : k ≠ []) :
    get fs (parent k) = some .dir :=
  (w (k, n) (mem_of_get fs k n h)).resolve_left hk

theorem Rooted.wf {fs : Fs} (r : Rooted fs) : WF fs := by
  intro e he
  by_cases hk : e.1 = []
  · exact Or.inl hk
  · obtain ⟨n', hn⟩ := get_of_mem fs e.1 e.2 he
    exact Or.inr (r e.1 n' hn hk)

theorem parent_ne (p : Path) (h : p ≠ []) : parent p ≠ p := fun e =>
  h (List.length_eq_zero_iff.mp (by have := congrArg List.length e; simp [parent] at this; omega))

theorem not_prefix_parent (p k : Path) (h : ¬ p <+: k) : ¬ p <+: parent k :=
  fun h' => h (List.IsPrefix.trans h' (List.dropLast_prefix k))

theorem not_self_prefix_parent (k : Path) (hne : k ≠ []) : ¬ k <+: parent k := by
  intro h
  have := h.length_le
  cases k with
  | nil => exact hne rfl
  | cons a r => simp [parent] at this; omega

theorem parent_append (q r : Path) (hr : r ≠ []) : parent (q ++ r) = q ++ parent r :=
  List.dropLast_append_of_ne_nil hr

theorem Rooted.set {fs : Fs} (r : Rooted fs) (p : Path) (n : Node)
    (hpar : p ≠ [] → get fs (parent p) = some .dir) (hn : get fs p = some .dir → n = .dir) : Rooted (set fs p n) := by
  intro k m hk hne
  rw [get_set] at hk ⊢
  by_cases hkp : k = p
  · subst hkp; rw [if_neg (parent_ne k hne)]; exact hpar hne
  · rw [if_neg hkp] at hk
    have := r k m hk hne
    by_cases hpk : parent k = p
    · rw [if_pos hpk, hn (hpk ▸ this)]
    · rw [if_neg hpk]; exact this

/-- a file has nothing below it -/
theorem Rooted.del_file {fs : Fs} (r : Rooted fs) (p : Path) (c : Bytes) (hg : get fs p = some (.file c)) :
    Rooted (del fs p) := by
  intro k m hk hne
  rw [get_del] at hk ⊢
  split at hk
  · cases hk
  · have := r k m hk hne
    rw [if_neg (fun e => by rw [e, hg] at this; cases this)]; exact this

theorem step_rooted (fs fs' : Fs) (op : Op) (r : Rooted fs) (h : step fs op = some fs') : Rooted fs' := by
  cases op with
  | mkdir p =>
    obtain ⟨rfl, _, hpar, hnone⟩ := step_mkdir_inv h
    exact r.set p _ (fun _ => hpar) (fun e => by rw [hnone] at e)
  | createEmpty p =>
    obtain ⟨rfl, _, hpar, hnd⟩ := step_createEmpty_inv h
    exact r.set p _ (fun _ => hpar) (fun e => absurd e hnd)
  | copyFile p b =>
    obtain ⟨rfl, _, hpar, hnd⟩ := step_copyFile_inv h
    exact r.set p _ (fun _ => hpar) (fun e => absurd e hnd)
  | append p b =>
    obtain ⟨c, rfl, hg⟩ := step_append_inv h
    exact r.set p _ (r p _ hg) (fun e => by rw [hg] at e; cases e)
  | rmtree p =>
    obtain rfl | rfl := step_rmtree_inv h
    · intro k n hk hne
      rw [get_rmtree] at hk ⊢
      split at hk
      · cases hk
      · rename_i hpk
        rw [if_neg (not_prefix_parent p k hpk)]
        exact r k n hk hne
    · exact r
  | rename p q =>
    obtain ⟨hq, hpar, ⟨c, rfl, hp, hnd⟩ | ⟨hp, hnone, hpq, hqp, hall, hget⟩⟩ := step_rename_inv h
    · refine (r.del_file p c hp).set q _ (fun _ => ?_) ?_
      · rw [get_del, if_neg (fun e => by rw [e, hp] at hpar; cases hpar)]; exact hpar
      · intro e
        rw [get_del] at e
        split at e
        · cases e
        · exact absurd e hnd
    · intro k n hk hne
      rw [hget] at hk ⊢
      rcases moved_cases hall hk with ⟨h1, h2, hk'⟩ | ⟨rest, rfl, hk'⟩
      · rw [swapKey_other p q _ (not_prefix_parent p k h1) (not_prefix_parent q k h2)]
        exact r k n hk' hne
      · by_cases hrest : rest = []
        · subst hrest
          rw [List.append_nil, swapKey_other p q _ (not_prefix_parent p q hpq) (not_self_prefix_parent q hq)]
          exact hpar
        · have n1 : ¬ p <+: q ++ parent rest := fun h =>
            (List.prefix_or_prefix_of_prefix h (List.prefix_append q _)).elim hpq hqp
          have := r _ n hk' (by simp [hrest])
          rw [parent_append _ _ hrest] at this ⊢
          simpa [swapKey, n1] using this

theorem run_wf (ops : List Op) (fs fs' : Fs) (w : WF fs) (h : run fs ops = some fs') : WF fs' := by
  induction ops generalizing fs with
  | nil => cases h; exact w
  | cons op rest ih =>
    obtain ⟨fs1, h1, h2⟩ := run_cons_some.mp h
    exact ih fs1 (step_rooted fs fs1 op w.parent_dir h1).wf h2

theorem runSome_wf (ops : List Op) (fs : Fs) (w : WF fs) : WF (runSome fs ops).1 := by
  obtain ⟨j, hj⟩ := runSome_prefix ops fs
  exact run_wf _ fs _ w hj

theorem empty_wf : WF empty := by decide

end ForML.Fs
