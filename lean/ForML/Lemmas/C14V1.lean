/-
C14 — `innerOnly` and `wellScopedV1` (no outer join anywhere, no table scanned both directly and through a reference)
imply the hypotheses of `C14_filter_partial` (`grammarScoped`, `safe false`).
-/
import ForML.Lemmas.C14Filter

namespace ForML.PushDown
open ForML.Dsl

theorem noAliased_mem {O : List Source} (h : noAliasedScan O = true) {i : Source} {nm : String}
    (hr : Source.ref i nm ∈ O) (ht : isTable i = true) : i ∉ O := by
  unfold noAliasedScan at h
  rw [List.all_eq_true] at h
  have := h _ hr
  simp only [ht, Bool.true_and, Bool.not_eq_true', List.contains_eq_mem, decide_eq_false_iff_not] at this
  exact this

/-- conditions over the origins `O` yield no factor for a table outside `O` -/
theorem noFactorFor_of_scoped {len : Bool} {Q : List Feature} {O : List Source} {i : Source}
    (hQ : ∀ p ∈ Q, ∀ e ∈ elems p, e.1 ∈ O) (hi : i ∉ O) : noFactorFor len Q [i] = true :=
  noFactorFor_iff.mpr fun x hx hxi => by
    obtain ⟨p, hp, n, hn⟩ := hx.elem
    exact hi (List.mem_singleton.mp hxi ▸ hQ p hp _ hn)

theorem wellScopedV1_grammar : ∀ (s : Source), wellScopedV1 s = true → grammarScoped s = true
  | .table _ _, _ => rfl
  | .ref i _, h => by
    simp only [wellScopedV1, Bool.and_eq_true] at h
    simp [grammarScoped, h.1, wellScopedV1_grammar i h.2]
  | .join l r _ _, h => by
    simp only [wellScopedV1, Bool.and_eq_true] at h
    simp [grammarScoped, wellScopedV1_grammar l h.1, wellScopedV1_grammar r h.2]
  | .set l r _, h => by
    simp only [wellScopedV1, Bool.and_eq_true] at h
    simp [grammarScoped, h.1.1.1, h.1.1.2, wellScopedV1_grammar l h.1.2, wellScopedV1_grammar r h.2]
  | .query src _ _ _ _ _ _, h => by
    simp only [wellScopedV1, Bool.and_eq_true, decide_eq_true_eq] at h
    simp [grammarScoped, h.1.1.1.1, h.1.1.1.2, wellScopedV1_grammar src h.2]

/-- statements without outer joins and without aliased scans lie outside the regions of both findings -/
theorem safe_of_v1 (len : Bool) (s : Source) (hi : innerOnly s = true) (hw : wellScopedV1 s = true) :
    isStmt s = true → ∀ P Q, safe false len P Q s = true := by
  intro hs
  refine (scoped_induction
    (A := fun s => innerOnly s = true → wellScopedV1 s = true → ∀ (O : List Source) (P Q : List Feature),
      (∀ o ∈ origins s, o ∈ O) → noAliasedScan O = true → (∀ p ∈ Q, ∀ e ∈ elems p, e.1 ∈ O) →
      safe false len P Q s = true)
    (B := fun s => innerOnly s = true → wellScopedV1 s = true → ∀ P Q, safe false len P Q s = true)
    ?_ ?_ ?_ ?_ ?_ ?_ ?_ s (wellScopedV1_grammar s hw)).2 hs hi hw
  · intro _ _ _ _ _ _ _ _ _ _
    rfl
  · intro i nm ht _ _ O P Q hO hna hQ
    simp only [safe, ht, if_true, Bool.false_or]
    exact noFactorFor_of_scoped hQ (noAliased_mem (nm := nm) hna (hO _ (by simp [origins])) ht)
  · intro i nm ht ih hi hw O P Q _ _ _
    simp only [innerOnly] at hi
    simp only [wellScopedV1, Bool.and_eq_true] at hw
    simp only [safe, ht, Bool.false_eq_true, if_false]
    exact ih hi hw.2 [] []
  · intro l r k c hc hjl _ _ _ iha ihb hi hw O P Q hO hna hQ
    simp only [innerOnly, Bool.and_eq_true, Bool.or_eq_true, beq_iff_eq] at hi
    simp only [wellScopedV1, Bool.and_eq_true] at hw
    have hOl : ∀ o ∈ origins l, o ∈ O := fun o ho => hO o (List.mem_append_left _ ho)
    have hOr : ∀ o ∈ origins r, o ∈ O := fun o ho => hO o (List.mem_append_right _ ho)
    -- the conditions registered by the time a side is visited are over origins of the context
    have hQ1 : ∀ p ∈ optList c ++ Q, ∀ e ∈ elems p, e.1 ∈ O := by
      intro p hp e he
      rcases List.mem_append.mp hp with hp | hp
      · exact hO _ (scopedIn_mem hc (elemsAll_optList hp he))
      · exact hQ p hp e he
    have hQ2 : ∀ p ∈ condsOf l ++ (optList c ++ Q), ∀ e ∈ elems p, e.1 ∈ O := by
      intro p hp e he
      rcases List.mem_append.mp hp with hp | hp
      · exact hOl _ (conds_scoped l hjl e (List.mem_flatMap.mpr ⟨p, hp, he⟩))
      · exact hQ1 p hp e he
    have hl := iha hi.1.2 hw.1 O (optList c ++ P) _ hOl hna hQ1
    have hr := ihb hi.2 hw.2 O (optList c ++ P) _ hOr hna hQ2
    rcases hi.1.1 with rfl | rfl <;> simp only [safe, hl, hr, Bool.and_self]
  · intro l r k iha ihb hi hw P Q
    simp only [innerOnly, Bool.and_eq_true] at hi
    simp only [wellScopedV1, Bool.and_eq_true] at hw
    simp only [safe, iha hi.1 hw.1.2 [] [], ihb hi.2 hw.2 [] [], Bool.and_self]
  · intro src sel pre grp post ord rows ih hi hw P Q
    simp only [innerOnly] at hi
    simp only [wellScopedV1, Bool.and_eq_true, decide_eq_true_eq] at hw
    simp only [safe]
    exact ih hi hw.2 (origins src) _ _ (fun o ho => ho) hw.1.2
      (fun p hp e he => scopedIn_mem hw.1.1.2 (elemsAll_optList hp he))
  · intro s _ h hi hw O P Q _ _ _
    exact h hi hw P Q

end ForML.PushDown
