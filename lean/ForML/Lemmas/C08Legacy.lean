/-
C08 (legacy) — the equality of DSL objects as it was BEFORE fixes/C08-structural-eq.diff and
fixes/C08-compound-kind-pickle.diff: `Comparison.Pythonic.__bool__` / `Equal.__bool__` compared `hash(left) ==
hash(right)`, sources were plain tuples (`tuple.__eq__`, the class took no part), compound kinds had no
`__getnewargs__`.  Model: `Feature.implEq` / `Source.implEq` / `Kind.pickle` of `ForML.Model.DslEq`.  These theorems
document the repaired defects (fixed entries C08-X1 … C08-X4 of findings.d/C08.json, whose witnesses are replayed on the
real code on every run): the full statement is refuted for that code by kernel-checked counterexamples, and the
strongest statement that did hold is kept as `_partial`.
-/
import ForML.Lemmas.C08Eq

namespace ForML.Dsl

variable {α : Type}

private theorem elemClass_mapInt (φ : Int → Int) (o : Source) : elemClass (o.mapInt φ) = elemClass o := by
  cases o <;> simp [Source.mapInt, elemClass]

private theorem Feature.isAlias_mapInt (φ : Int → Int) (f : Feature) : (f.mapInt φ).isAlias = f.isAlias := by
  cases f <;> rfl

private theorem Lit.H_mapInt (env : HashEnv α) (φ : Int → Int) (hφ : ∀ n, pyIntHash (φ n) = pyIntHash n) (v : Lit) :
    (v.mapInt φ).H env = v.H env ∧ (v.mapInt φ).kind = v.kind := by
  cases v <;> simp [Lit.mapInt, Lit.H, Lit.kind, hφ]

mutual
private theorem Feature.H_mapInt (env : HashEnv α) (φ : Int → Int) (hφ : ∀ n, pyIntHash (φ n) = pyIntHash n) :
    (f : Feature) → (f.mapInt φ).H env = f.H env
  | .lit v => by simp only [Feature.mapInt, Feature.H, Lit.H_mapInt env φ hφ v]
  | .elem o n => by simp only [Feature.mapInt, Feature.H, elemClass_mapInt, Source.H_mapInt env φ hφ o]
  | .alias f n => by simp only [Feature.mapInt, Feature.H, Feature.H_mapInt env φ hφ f]
  | .expr op args => by simp only [Feature.mapInt, Feature.H, Features.Hs_mapInt env φ hφ args]
  | .cast f k => by simp only [Feature.mapInt, Feature.H, Feature.H_mapInt env φ hφ f]
  | .window fn ps os => by
    simp only [Feature.mapInt, Feature.H, Feature.H_mapInt env φ hφ fn, Features.Hs_mapInt env φ hφ ps,
      Orderings.Hs_mapInt env φ hφ os]
private theorem Features.Hs_mapInt (env : HashEnv α) (φ : Int → Int) (hφ : ∀ n, pyIntHash (φ n) = pyIntHash n) :
    (fs : Features) → (fs.mapInt φ).Hs env = fs.Hs env
  | .nil => by simp only [Features.mapInt]
  | .cons f fs => by
    simp only [Features.mapInt, Features.Hs, Feature.H_mapInt env φ hφ f, Features.Hs_mapInt env φ hφ fs]
private theorem FeatureOpt.H_mapInt (env : HashEnv α) (φ : Int → Int) (hφ : ∀ n, pyIntHash (φ n) = pyIntHash n) :
    (o : FeatureOpt) → (o.mapInt φ).H env = o.H env
  | .none => by simp only [FeatureOpt.mapInt]
  | .some f => by simp only [FeatureOpt.mapInt, FeatureOpt.H, Feature.H_mapInt env φ hφ f]
private theorem Ordering.H_mapInt (env : HashEnv α) (φ : Int → Int) (hφ : ∀ n, pyIntHash (φ n) = pyIntHash n) :
    (o : Ordering) → (o.mapInt φ).H env = o.H env
  | .mk f d => by simp only [Ordering.mapInt, Ordering.H, Feature.H_mapInt env φ hφ f]
private theorem Orderings.Hs_mapInt (env : HashEnv α) (φ : Int → Int) (hφ : ∀ n, pyIntHash (φ n) = pyIntHash n) :
    (os : Orderings) → (os.mapInt φ).Hs env = os.Hs env
  | .nil => by simp only [Orderings.mapInt]
  | .cons o os => by
    simp only [Orderings.mapInt, Orderings.Hs, Ordering.H_mapInt env φ hφ o, Orderings.Hs_mapInt env φ hφ os]
private theorem Source.H_mapInt (env : HashEnv α) (φ : Int → Int) (hφ : ∀ n, pyIntHash (φ n) = pyIntHash n) :
    (s : Source) → (s.mapInt φ).H env = s.H env
  | .table n fs => by simp only [Source.mapInt]
  | .ref s n => by simp only [Source.mapInt, Source.H, Source.H_mapInt env φ hφ s]
  | .join l r k c => by
    simp only [Source.mapInt, Source.H, Source.H_mapInt env φ hφ l, Source.H_mapInt env φ hφ r,
      FeatureOpt.H_mapInt env φ hφ c]
  | .set l r k => by simp only [Source.mapInt, Source.H, Source.H_mapInt env φ hφ l, Source.H_mapInt env φ hφ r]
  | .query s sel pre grp post ord rows => by
    simp only [Source.mapInt, Source.H, Source.H_mapInt env φ hφ s, Features.Hs_mapInt env φ hφ sel,
      FeatureOpt.H_mapInt env φ hφ pre, Features.Hs_mapInt env φ hφ grp, FeatureOpt.H_mapInt env φ hφ post,
      Orderings.Hs_mapInt env φ hφ ord]
end

variable [DecidableEq α]

theorem Feature.operable_eq_self {f : Feature} (h : f.isAlias = false) : f.operable = f := by
  cases f with
  | alias _ _ => cases h
  | _ => rfl

theorem Feature.implEq_eq_hashEq (env : HashEnv α) {a : Feature} (h : a.isAlias = false) (b : Feature) :
    Feature.implEq env a b = some (hashEq env a b.operable) := by
  cases a with
  | alias _ _ => cases h
  | _ => rfl

theorem C08_legacy_sound_feature (env : HashEnv α) (f : Feature) : Feature.implEq env f f = some true := by
  cases hf : f.isAlias with
  | false =>
    rw [Feature.implEq_eq_hashEq env hf, Feature.operable_eq_self hf]
    exact congrArg some ((hashEq_iff env f f).2 rfl)
  | true =>
    cases f with
    | alias g n => exact congrArg some (Bool.and_eq_true_iff.2 ⟨(hashEq_iff env g g).2 rfl, decide_eq_true rfl⟩)
    | _ => cases hf

private theorem Features.implEq_refl (env : HashEnv α) : (fs : Features) → Features.implEq env fs fs = some true
  | .nil => rfl
  | .cons f fs => eqAnd_eq_true.2 ⟨C08_legacy_sound_feature env f, Features.implEq_refl env fs⟩

private theorem FeatureOpt.implEq_refl (env : HashEnv α) : (o : FeatureOpt) → FeatureOpt.implEq env o o = Option.some true
  | .none => rfl
  | .some f => C08_legacy_sound_feature env f

private theorem Orderings.implEq_refl (env : HashEnv α) : (os : Orderings) → Orderings.implEq env os os = some true
  | .nil => rfl
  | .cons (.mk f _) os =>
    eqAnd_eq_true.2 ⟨eqAnd_decide_eq_true.2 ⟨C08_legacy_sound_feature env f, rfl⟩, Orderings.implEq_refl env os⟩

theorem C08_legacy_sound_source (env : HashEnv α) : (s : Source) → Source.implEq env s s = some true
  | .table _ _ => congrArg some (decide_eq_true rfl)
  | .ref s _ => eqAnd_decide_eq_true.2 ⟨C08_legacy_sound_source env s, rfl⟩
  | .join l r _ c =>
    eqAnd_eq_true.2 ⟨C08_legacy_sound_source env l, eqAnd_eq_true.2 ⟨C08_legacy_sound_source env r,
      eqAnd_eq_true.2 ⟨congrArg some (decide_eq_true rfl), FeatureOpt.implEq_refl env c⟩⟩⟩
  | .set l r _ =>
    eqAnd_eq_true.2 ⟨C08_legacy_sound_source env l, eqAnd_decide_eq_true.2 ⟨C08_legacy_sound_source env r, rfl⟩⟩
  | .query s sel pre grp post ord _ =>
    eqAnd_eq_true.2 ⟨C08_legacy_sound_source env s, eqAnd_eq_true.2 ⟨Features.implEq_refl env sel,
      eqAnd_eq_true.2 ⟨FeatureOpt.implEq_refl env pre, eqAnd_eq_true.2 ⟨Features.implEq_refl env grp,
        eqAnd_eq_true.2 ⟨FeatureOpt.implEq_refl env post,
          eqAnd_decide_eq_true.2 ⟨Orderings.implEq_refl env ord, rfl⟩⟩⟩⟩⟩⟩

/-- the pair of features is compared faithfully: both aliased or both not, and their operables are
distinguished by their hashes -/
def Faithful (env : HashEnv α) (p : Feature × Feature) : Prop :=
  p.1.isAlias = p.2.isAlias ∧ (p.1.operable.H env = p.2.operable.H env → p.1.operable = p.2.operable)

instance (env : HashEnv α) (p : Feature × Feature) : Decidable (Faithful env p) := by
  unfold Faithful; exact inferInstance

def Features.pairs : Features → Features → List (Feature × Feature)
  | .cons a as, .cons b bs => (a, b) :: Features.pairs as bs
  | _, _ => []

def FeatureOpt.pairs : FeatureOpt → FeatureOpt → List (Feature × Feature)
  | .some a, .some b => [(a, b)]
  | _, _ => []

def Orderings.pairs : Orderings → Orderings → List (Feature × Feature)
  | .cons (.mk a _) as, .cons (.mk b _) bs => (a, b) :: Orderings.pairs as bs
  | _, _ => []

/-- the feature pairs `tuple.__eq__` puts side by side when two sources are compared -/
def Source.cmpPairs : Source → Source → List (Feature × Feature)
  | .ref sa _, .ref sb _ => Source.cmpPairs sa sb
  | .join la ra _ ca, .join lb rb _ cb => Source.cmpPairs la lb ++ Source.cmpPairs ra rb ++ FeatureOpt.pairs ca cb
  | .set la ra _, .set lb rb _ => Source.cmpPairs la lb ++ Source.cmpPairs ra rb
  | .query sa sela prea grpa posta orda _, .query sb selb preb grpb postb ordb _ =>
    Source.cmpPairs sa sb ++ Features.pairs sela selb ++ FeatureOpt.pairs prea preb ++ Features.pairs grpa grpb
      ++ FeatureOpt.pairs posta postb ++ Orderings.pairs orda ordb
  | _, _ => []

/-- the table pairs put side by side -/
def Source.tabPairs : Source → Source → List ((String × Fields) × (String × Fields))
  | .table na fa, .table nb fb => [((na, fa), (nb, fb))]
  | .ref sa _, .ref sb _ => Source.tabPairs sa sb
  | .join la ra _ _, .join lb rb _ _ => Source.tabPairs la lb ++ Source.tabPairs ra rb
  | .set la ra _, .set lb rb _ => Source.tabPairs la lb ++ Source.tabPairs ra rb
  | .query sa _ _ _ _ _ _, .query sb _ _ _ _ _ _ => Source.tabPairs sa sb
  | _, _ => []

/-- tables with equal schemas have equal names (no "twin" tables) -/
def NoTwin (p : (String × Fields) × (String × Fields)) : Prop := p.1.2 = p.2.2 → p.1.1 = p.2.1

instance (p : (String × Fields) × (String × Fields)) : Decidable (NoTwin p) := by unfold NoTwin; exact inferInstance

/-- features: hash-based equality is the structural one on faithfully compared pairs -/
theorem C08_legacy_partial_feature (env : HashEnv α) (a b : Feature) (hf : Faithful env (a, b))
    (h : Feature.implEq env a b = some true) : a = b := by
  have hal : a.isAlias = b.isAlias := hf.1
  have hinj : a.operable.H env = b.operable.H env → a.operable = b.operable := hf.2
  cases ha : a.isAlias with
  | false =>
    have hb : b.isAlias = false := hal ▸ ha
    rw [Feature.operable_eq_self ha, Feature.operable_eq_self hb] at hinj
    rw [Feature.implEq_eq_hashEq env ha, Option.some.injEq, hashEq_iff, Feature.operable_eq_self hb] at h
    exact hinj h
  | true =>
    cases a with
    | alias fa na =>
      cases b with
      | alias fb nb =>
        obtain ⟨h1, h2⟩ := Bool.and_eq_true_iff.1 (Option.some.inj h)
        have e : fa = fb := hinj ((hashEq_iff env fa fb).1 h1)
        rw [e, of_decide_eq_true h2]
      | _ => cases hal
    | _ => cases ha

private theorem Features.complete (env : HashEnv α) : (as bs : Features) →
    (∀ p ∈ Features.pairs as bs, Faithful env p) → Features.implEq env as bs = some true → as = bs
  | .nil, .nil, _, _ => rfl
  | .cons a as, .cons b bs, hf, h => by
    obtain ⟨h1, h2⟩ := eqAnd_eq_true.1 h
    rw [C08_legacy_partial_feature env a b (hf _ (List.mem_cons_self ..)) h1,
      Features.complete env as bs (fun p hp => hf p (List.mem_cons_of_mem _ hp)) h2]

private theorem FeatureOpt.complete (env : HashEnv α) (a b : FeatureOpt)
    (hf : ∀ p ∈ FeatureOpt.pairs a b, Faithful env p) (h : FeatureOpt.implEq env a b = Option.some true) : a = b :=
  match a, b, hf, h with
  | .none, .none, _, _ => rfl
  | .some x, .some y, hf, h => by rw [C08_legacy_partial_feature env x y (hf _ (List.mem_cons_self ..)) h]

private theorem Orderings.complete (env : HashEnv α) : (as bs : Orderings) →
    (∀ p ∈ Orderings.pairs as bs, Faithful env p) → Orderings.implEq env as bs = some true → as = bs
  | .nil, .nil, _, _ => rfl
  | .cons (.mk a da) as, .cons (.mk b db) bs, hf, h => by
    obtain ⟨h1, h2⟩ := eqAnd_eq_true.1 h
    obtain ⟨h0, hd⟩ := eqAnd_decide_eq_true.1 h1
    rw [C08_legacy_partial_feature env a b (hf _ (List.mem_cons_self ..)) h0, hd,
      Orderings.complete env as bs (fun p hp => hf p (List.mem_cons_of_mem _ hp)) h2]

/-- sources: if every compared feature pair is faithful and no twin tables are put side by side, the
implementation's `==` holds only between structurally identical sources -/
theorem C08_legacy_partial (env : HashEnv α) : (a b : Source) →
    (∀ p ∈ Source.cmpPairs a b, Faithful env p) → (∀ p ∈ Source.tabPairs a b, NoTwin p) →
    Source.implEq env a b = some true → a = b
  | .table na fa, b, _, ht, h => by
    cases b with
    | table nb fb =>
      have hfs : fa = fb := of_decide_eq_true (Option.some.inj h)
      have hn : na = nb := ht ((na, fa), (nb, fb)) (List.mem_cons_self ..) hfs
      rw [hn, hfs]
    | _ => cases h
  | .ref sa na, b, hf, ht, h => by
    cases b with
    | ref sb nb =>
      obtain ⟨h1, h2⟩ := eqAnd_decide_eq_true.1 h
      rw [C08_legacy_partial env sa sb hf ht h1, h2]
    | _ => cases h
  | .join la ra ka ca, b, hf, ht, h => by
    cases b with
    | join lb rb kb cb =>
      obtain ⟨h1, h⟩ := eqAnd_eq_true.1 h
      obtain ⟨h2, h⟩ := eqAnd_eq_true.1 h
      obtain ⟨h3, h4⟩ := eqAnd_eq_true.1 h
      obtain ⟨hf, hfc⟩ := List.forall_mem_append.1 hf
      obtain ⟨hfl, hfr⟩ := List.forall_mem_append.1 hf
      obtain ⟨htl, htr⟩ := List.forall_mem_append.1 ht
      rw [C08_legacy_partial env la lb hfl htl h1, C08_legacy_partial env ra rb hfr htr h2,
        of_decide_eq_true (Option.some.inj h3), FeatureOpt.complete env ca cb hfc h4]
    | _ => cases h
  | .set la ra ka, b, hf, ht, h => by
    cases b with
    | set lb rb kb =>
      obtain ⟨h1, h⟩ := eqAnd_eq_true.1 h
      obtain ⟨h2, h3⟩ := eqAnd_decide_eq_true.1 h
      obtain ⟨hfl, hfr⟩ := List.forall_mem_append.1 hf
      obtain ⟨htl, htr⟩ := List.forall_mem_append.1 ht
      rw [C08_legacy_partial env la lb hfl htl h1, C08_legacy_partial env ra rb hfr htr h2, h3]
    | _ => cases h
  | .query sa sela prea grpa posta orda rowsa, b, hf, ht, h => by
    cases b with
    | query sb selb preb grpb postb ordb rowsb =>
      obtain ⟨h1, h⟩ := eqAnd_eq_true.1 h
      obtain ⟨h2, h⟩ := eqAnd_eq_true.1 h
      obtain ⟨h3, h⟩ := eqAnd_eq_true.1 h
      obtain ⟨h4, h⟩ := eqAnd_eq_true.1 h
      obtain ⟨h5, h⟩ := eqAnd_eq_true.1 h
      obtain ⟨h6, h7⟩ := eqAnd_decide_eq_true.1 h
      obtain ⟨hf, hf6⟩ := List.forall_mem_append.1 hf
      obtain ⟨hf, hf5⟩ := List.forall_mem_append.1 hf
      obtain ⟨hf, hf4⟩ := List.forall_mem_append.1 hf
      obtain ⟨hf, hf3⟩ := List.forall_mem_append.1 hf
      obtain ⟨hf1, hf2⟩ := List.forall_mem_append.1 hf
      rw [C08_legacy_partial env sa sb hf1 ht h1, Features.complete env sela selb hf2 h2,
        FeatureOpt.complete env prea preb hf3 h3, Features.complete env grpa grpb hf4 h4,
        FeatureOpt.complete env posta postb hf5 h5, Orderings.complete env orda ordb hf6 h6, h7]
    | _ => cases h
termination_by structural a => a

/-- "equal exactly when structurally identical" for features and sources, in every hash environment -/
def C08_legacy_full : Prop :=
  ∀ (env : HashEnv HTerm), (∀ a b : Feature, Feature.implEq env a b = some true ↔ a = b)
    ∧ (∀ a b : Source, Source.implEq env a b = some true ↔ a = b)

/-- defect C08-X1: `Literal(-1) == Literal(-2)` and `Literal(0) == Literal(2**61-1)` in *every* environment -/
theorem C08_legacy_collision (env : HashEnv α) :
    Feature.implEq env (.lit (.int (-1))) (.lit (.int (-2))) = some true
    ∧ Feature.implEq env (.lit (.int 0)) (.lit (.int 2305843009213693951)) = some true := by
  have h1 : pyIntHash (-1) = pyIntHash (-2) := by decide
  have h2 : pyIntHash 0 = pyIntHash 2305843009213693951 := by decide
  simp [Feature.implEq, Feature.operable, Feature.H, Lit.H, Lit.kind, h1, h2]

theorem C08_legacy_counterexample : ¬ C08_legacy_full := by
  intro h
  have := ((h freeEnv).1 (.lit (.int (-1))) (.lit (.int (-2)))).mp (C08_legacy_collision freeEnv).1
  exact absurd this (by decide)

/-- defect C08-X2: two tables with the same fields and different names compare equal although they hash
differently (free environment: differently in every environment that tells the class names apart) -/
theorem C08_legacy_table_counterexample (fs : Fields) :
    Source.implEq freeEnv (.table "A" fs) (.table "B" fs) = some true
    ∧ Source.table "A" fs ≠ .table "B" fs
    ∧ (Source.table "A" fs).H freeEnv ≠ (Source.table "B" fs).H freeEnv := by
  refine ⟨by simp [Source.implEq, fieldsEq], by simp, ?_⟩
  simp [Source.H, freeEnv]

/-- defect C08-X3: `x == x.alias(n)` holds (the right operand is reduced to its operable), the other way
round the comparison is false or raises -/
theorem C08_legacy_alias_counterexample (env : HashEnv α) (x : Feature) (n : String) (hx : x.isAlias = false) :
    Feature.implEq env x (.alias x n) = some true ∧ x ≠ .alias x n
    ∧ Feature.implEq env (.alias x n) x ≠ some true := by
  refine ⟨?_, ?_, ?_⟩
  · rw [Feature.implEq_eq_hashEq env hx]
    exact congrArg some ((hashEq_iff env x x).2 rfl)
  · intro h
    have := congrArg sizeOf h
    simp at this
    omega
  · cases x with
    | alias _ _ => cases hx
    | _ => exact fun h => nomatch h

omit [DecidableEq α] in
/-- Renaming integer literals by any `φ` that preserves their hash (e.g. swapping −1 and −2, or adding a
multiple of 2^61−1 to the non-negative ones) is invisible to `hash` in every context … -/
theorem C08_legacy_collision_lift_hash (env : HashEnv α) (φ : Int → Int) (hφ : ∀ n, pyIntHash (φ n) = pyIntHash n) :
    (∀ f : Feature, (f.mapInt φ).H env = f.H env) ∧ (∀ s : Source, (s.mapInt φ).H env = s.H env) :=
  ⟨Feature.H_mapInt env φ hφ, Source.H_mapInt env φ hφ⟩

/-- … hence to `==` on features: every feature equals its renamed version (dict / set / `lru_cache` keyed by
it return the other one's entry) -/
theorem C08_legacy_collision_lift (env : HashEnv α) (φ : Int → Int) (hφ : ∀ n, pyIntHash (φ n) = pyIntHash n)
    (f : Feature) : Feature.implEq env f (f.mapInt φ) = some true := by
  cases hf : f.isAlias with
  | false =>
    rw [Feature.implEq_eq_hashEq env hf, Feature.operable_eq_self ((Feature.isAlias_mapInt φ f).trans hf)]
    exact congrArg some ((hashEq_iff env _ _).2 (Feature.H_mapInt env φ hφ f).symm)
  | true =>
    cases f with
    | alias g n =>
      exact congrArg some
        (Bool.and_eq_true_iff.2 ⟨(hashEq_iff env _ _).2 (Feature.H_mapInt env φ hφ g).symm, decide_eq_true rfl⟩)
    | _ => cases hf

private theorem Features.implEq_mapInt (env : HashEnv α) (φ : Int → Int) (hφ : ∀ n, pyIntHash (φ n) = pyIntHash n) :
    (fs : Features) → Features.implEq env fs (fs.mapInt φ) = some true
  | .nil => rfl
  | .cons f fs => eqAnd_eq_true.2 ⟨C08_legacy_collision_lift env φ hφ f, Features.implEq_mapInt env φ hφ fs⟩

private theorem FeatureOpt.implEq_mapInt (env : HashEnv α) (φ : Int → Int) (hφ : ∀ n, pyIntHash (φ n) = pyIntHash n)
    : (o : FeatureOpt) → FeatureOpt.implEq env o (o.mapInt φ) = Option.some true
  | .none => rfl
  | .some f => C08_legacy_collision_lift env φ hφ f

private theorem Orderings.implEq_mapInt (env : HashEnv α) (φ : Int → Int) (hφ : ∀ n, pyIntHash (φ n) = pyIntHash n) :
    (os : Orderings) → Orderings.implEq env os (os.mapInt φ) = some true
  | .nil => rfl
  | .cons (.mk f _) os =>
    eqAnd_eq_true.2 ⟨eqAnd_decide_eq_true.2 ⟨C08_legacy_collision_lift env φ hφ f, rfl⟩,
      Orderings.implEq_mapInt env φ hφ os⟩

/-- … and on statements: a query and the same query with colliding literals exchanged are the same
dictionary key -/
theorem C08_legacy_collision_lift_source (env : HashEnv α) (φ : Int → Int) (hφ : ∀ n, pyIntHash (φ n) = pyIntHash n) :
    (s : Source) → Source.implEq env s (s.mapInt φ) = some true
  | .table _ _ => congrArg some (decide_eq_true rfl)
  | .ref s _ => eqAnd_decide_eq_true.2 ⟨C08_legacy_collision_lift_source env φ hφ s, rfl⟩
  | .join l r _ c =>
    eqAnd_eq_true.2 ⟨C08_legacy_collision_lift_source env φ hφ l,
      eqAnd_eq_true.2 ⟨C08_legacy_collision_lift_source env φ hφ r,
        eqAnd_eq_true.2 ⟨congrArg some (decide_eq_true rfl), FeatureOpt.implEq_mapInt env φ hφ c⟩⟩⟩
  | .set l r _ =>
    eqAnd_eq_true.2 ⟨C08_legacy_collision_lift_source env φ hφ l,
      eqAnd_decide_eq_true.2 ⟨C08_legacy_collision_lift_source env φ hφ r, rfl⟩⟩
  | .query s sel pre grp post ord _ =>
    eqAnd_eq_true.2 ⟨C08_legacy_collision_lift_source env φ hφ s,
      eqAnd_eq_true.2 ⟨Features.implEq_mapInt env φ hφ sel, eqAnd_eq_true.2 ⟨FeatureOpt.implEq_mapInt env φ hφ pre,
        eqAnd_eq_true.2 ⟨Features.implEq_mapInt env φ hφ grp, eqAnd_eq_true.2 ⟨FeatureOpt.implEq_mapInt env φ hφ post,
          eqAnd_decide_eq_true.2 ⟨Orderings.implEq_mapInt env φ hφ ord, rfl⟩⟩⟩⟩⟩⟩

/-- the renaming that exchanges −1 and −2 preserves every integer hash -/
def swapNeg (n : Int) : Int := if n = -1 then -2 else if n = -2 then -1 else n

theorem C08_legacy_swapNeg_hash (n : Int) : pyIntHash (swapNeg n) = pyIntHash n := by
  unfold swapNeg
  split
  · subst_vars; decide
  · split
    · subst_vars; decide
    · rfl

/-- "identity survives pickling" at full strength -/
def C08_legacy_pickle_full : Prop := (∀ k : Kind, k.pickle = some k) ∧ (∀ s : Source, s.pickle = some s)

private theorem Kind.pickle_primitive (k : Kind) (h : k.isPrimitive = true) : k.pickle = some k := by
  cases k with
  | array _ => cases h
  | map _ _ => cases h
  | struct _ _ => cases h
  | _ => rfl

private theorem fieldsPickle_primitive : (fs : Fields) → fieldsPrimitive fs = true → fieldsPickle fs = some fs
  | [], _ => rfl
  | (n, k) :: fs, h => by
    obtain ⟨hk, hfs⟩ := Bool.and_eq_true_iff.1 h
    rw [fieldsPickle, Kind.pickle_primitive k hk, fieldsPickle_primitive fs hfs]
    rfl

mutual
private theorem Feature.pickle_ok : (f : Feature) → f.noCompound = true → f.pickle = some f
  | .lit _, _ => rfl
  | .elem o n, h => by
    rw [Feature.pickle, Source.pickle_ok o h]
    rfl
  | .alias f n, h => by
    rw [Feature.pickle, Feature.pickle_ok f h]
    rfl
  | .expr op args, h => by
    rw [Feature.pickle, Features.pickle_ok args h]
    rfl
  | .cast f k, h => by
    obtain ⟨h1, h2⟩ := Bool.and_eq_true_iff.1 h
    rw [Feature.pickle, Feature.pickle_ok f h1, Kind.pickle_primitive k h2]
    rfl
  | .window fn ps os, h => by
    obtain ⟨h, h3⟩ := Bool.and_eq_true_iff.1 h
    obtain ⟨h1, h2⟩ := Bool.and_eq_true_iff.1 h
    rw [Feature.pickle, Feature.pickle_ok fn h1, Features.pickle_ok ps h2, Orderings.pickle_ok os h3]
    rfl
private theorem Features.pickle_ok : (fs : Features) → fs.noCompound = true → fs.pickle = some fs
  | .nil, _ => rfl
  | .cons f fs, h => by
    obtain ⟨h1, h2⟩ := Bool.and_eq_true_iff.1 h
    rw [Features.pickle, Feature.pickle_ok f h1, Features.pickle_ok fs h2]
    rfl
private theorem FeatureOpt.pickle_ok : (o : FeatureOpt) → o.noCompound = true → o.pickle = Option.some o
  | .none, _ => rfl
  | .some f, h => by
    rw [FeatureOpt.pickle, Feature.pickle_ok f h]
    rfl
private theorem Ordering.pickle_ok : (o : Ordering) → o.noCompound = true → o.pickle = some o
  | .mk f d, h => by
    rw [Ordering.pickle, Feature.pickle_ok f h]
    rfl
private theorem Orderings.pickle_ok : (os : Orderings) → os.noCompound = true → os.pickle = some os
  | .nil, _ => rfl
  | .cons o os, h => by
    obtain ⟨h1, h2⟩ := Bool.and_eq_true_iff.1 h
    rw [Orderings.pickle, Ordering.pickle_ok o h1, Orderings.pickle_ok os h2]
    rfl
private theorem Source.pickle_ok : (s : Source) → s.noCompound = true → s.pickle = some s
  | .table n fs, h => by
    rw [Source.pickle, fieldsPickle_primitive fs h]
    rfl
  | .ref s n, h => by
    rw [Source.pickle, Source.pickle_ok s h]
    rfl
  | .join l r k c, h => by
    obtain ⟨h, h3⟩ := Bool.and_eq_true_iff.1 h
    obtain ⟨h1, h2⟩ := Bool.and_eq_true_iff.1 h
    rw [Source.pickle, Source.pickle_ok l h1, Source.pickle_ok r h2, FeatureOpt.pickle_ok c h3]
    rfl
  | .set l r k, h => by
    obtain ⟨h1, h2⟩ := Bool.and_eq_true_iff.1 h
    rw [Source.pickle, Source.pickle_ok l h1, Source.pickle_ok r h2]
    rfl
  | .query s sel pre grp post ord rows, h => by
    obtain ⟨h, h6⟩ := Bool.and_eq_true_iff.1 h
    obtain ⟨h, h5⟩ := Bool.and_eq_true_iff.1 h
    obtain ⟨h, h4⟩ := Bool.and_eq_true_iff.1 h
    obtain ⟨h, h3⟩ := Bool.and_eq_true_iff.1 h
    obtain ⟨h1, h2⟩ := Bool.and_eq_true_iff.1 h
    rw [Source.pickle, Source.pickle_ok s h1, Features.pickle_ok sel h2, FeatureOpt.pickle_ok pre h3,
      Features.pickle_ok grp h4, FeatureOpt.pickle_ok post h5, Orderings.pickle_ok ord h6]
    rfl
end

/-- objects without compound kinds are reconstructed identically (hence equal and hash-equal, `C08_legacy_sound_*`) -/
theorem C08_legacy_pickle_partial :
    (∀ k : Kind, k.isPrimitive = true → k.pickle = some k)
    ∧ (∀ f : Feature, f.noCompound = true → f.pickle = some f)
    ∧ (∀ s : Source, s.noCompound = true → s.pickle = some s) :=
  ⟨Kind.pickle_primitive, Feature.pickle_ok, Source.pickle_ok⟩

/-- defect C08-X4: a compound kind does not survive pickling -/
theorem C08_legacy_pickle_counterexample : ¬ C08_legacy_pickle_full := by
  intro h
  have := h.1 (.array .integer)
  simp [Kind.pickle] at this

section NonVacuity

private def tA : Source := .table "A" [("a", .integer), ("b", .string)]
private def tB : Source := .table "B" [("a", .integer), ("d", .date)]
private def colA (n : String) : Feature := .elem tA n
private def q (lim : Int) : Source :=
  .query tA (.cons (.alias (colA "a") "x") (.cons (colA "b") .nil))
    (.some (.expr .gt (.cons (colA "a") (.cons (.lit (.int lim)) .nil)))) .nil .none
    (.cons (.mk (colA "b") .desc) .nil) (some (10, 0))

/-- the hypotheses of `C08_legacy_partial` hold for a non-trivial pair (queries differing in one literal,
free environment) and the conclusion is used: the two are told apart -/
example : (∀ p ∈ Source.cmpPairs (q 1) (q 2), Faithful freeEnv p) ∧ (∀ p ∈ Source.tabPairs (q 1) (q 2), NoTwin p)
    ∧ Source.implEq freeEnv (q 1) (q 2) = some false := by decide +kernel

/-- … while the colliding pair is confused, as `C08_legacy_collision_lift_source` says -/
example : Source.implEq freeEnv (q (-1)) (q (-2)) = some true ∧ (q (-1)).mapInt swapNeg = q (-2) := by decide +kernel

example : (q 1).noCompound = true ∧ (q 1).pickle = some (q 1) := by decide +kernel

example : Source.implEq freeEnv (.join tA tB .inner (.some (.expr .eq (.cons (colA "a") (.cons (.elem tB "a") .nil)))))
    (.join tA tB .left (.some (.expr .eq (.cons (colA "a") (.cons (.elem tB "a") .nil))))) = some false := by decide +kernel

end NonVacuity

end ForML.Dsl
