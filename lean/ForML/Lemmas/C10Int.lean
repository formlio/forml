/-
C10 — "bounds are interpreted in the ordinal column's kind" for Integer ordinals of any magnitude:
`Integer.cast` of a written bound (canonical decimal string) is the written integer, exactly, for
every `Int` — so casting commutes with the order and window membership after casting is membership
of the written bound.  A detour through binary64 is refuted at 2^53 + 1.
-/
import ForML.Model.OrdinalInt

namespace ForML.Ordinal

private theorem digit_roundtrip : ∀ d : Fin 10, digitVal (digitChar d.val) = some d.val := by decide

private theorem parseDigits_append (a b : List Char) (acc : Nat) :
    parseDigits (a ++ b) acc = (parseDigits a acc).bind (parseDigits b) := by
  induction a generalizing acc with
  | nil => rfl
  | cons c r ih =>
    rw [List.cons_append, parseDigits, parseDigits]
    cases digitVal c with
    | none => rfl
    | some d => exact ih _

/-- reading back the digits of `n`: the leading digits give `n / 10`, the last one adds `n % 10` -/
private theorem parseDigits_digitsRev (fuel n : Nat) (h : n < fuel) :
    parseDigits ((digitsRev fuel n).reverse.map digitChar) 0 = some n := by
  induction fuel generalizing n with
  | zero => omega
  | succ f ih =>
    unfold digitsRev
    split
    · rename_i hn
      simp only [List.reverse_singleton, List.map_cons, List.map_nil, parseDigits, digit_roundtrip ⟨n, hn⟩,
        Nat.zero_mul, Nat.zero_add]
    · rw [List.reverse_cons, List.map_append, parseDigits_append, ih (n / 10) (by omega)]
      simp only [List.map_cons, List.map_nil, Option.bind_some, parseDigits,
        digit_roundtrip ⟨n % 10, Nat.mod_lt n (by decide)⟩, Nat.div_add_mod']

private theorem digitsRev_ne_nil (fuel n : Nat) : digitsRev (fuel + 1) n ≠ [] := by
  unfold digitsRev; split <;> simp

/-- `int(str(n)) = n` for every natural number -/
theorem C10_nat_parse_render (n : Nat) : parseNat (renderNat n) = some n := by
  have hp : parseDigits (renderNat n) 0 = some n := parseDigits_digitsRev (n + 1) n (Nat.lt_succ_self n)
  unfold parseNat
  split
  · rename_i heq
    exact absurd (List.reverse_eq_nil_iff.mp (List.map_eq_nil_iff.mp heq)) (digitsRev_ne_nil n n)
  · exact hp

private theorem parseIntStr_of_parseNat (cs : List Char) (n : Nat) (h : parseNat cs = some n) :
    parseIntStr cs = some (Int.ofNat n) := by
  unfold parseIntStr
  split
  · simp [parseNat, parseDigits, digitVal] at h
  · simp [parseNat, parseDigits, digitVal] at h
  · rw [h]; rfl

/-- **`int(str(n)) = n` for every integer**: the parse of the decimal string is exact on unbounded
`Int` — no magnitude at which the written bound and the cast bound differ -/
theorem C10_int_parse_render (n : Int) : parseIntStr (renderInt n) = some n := by
  cases n with
  | ofNat m => exact parseIntStr_of_parseNat _ m (C10_nat_parse_render m)
  | negSucc m =>
    simp only [renderInt, parseIntStr, C10_nat_parse_render, Option.map_some]
    rfl

/-- a bound written as a decimal string is cast to the integer it writes -/
theorem C10_int_cast_written (n : Int) : castInteger (.str (renderInt n)) = .ok n := by
  simp [castInteger, C10_int_parse_render]

/-- an Integral instance is left alone -/
theorem C10_int_cast_native (n : Int) : castInteger (.int n) = .ok n := rfl

/-- **casting commutes with the order**: on written bounds the cast is monotone and injective -/
theorem C10_int_cast_monotone_injective (a b x y : Int)
    (ha : castInteger (.str (renderInt a)) = .ok x) (hb : castInteger (.str (renderInt b)) = .ok y) :
    (x ≤ y ↔ a ≤ b) ∧ (x < y ↔ a < b) ∧ (x = y ↔ a = b) := by
  rw [C10_int_cast_written] at ha hb
  cases ha; cases hb
  exact ⟨Iff.rfl, Iff.rfl, Iff.rfl⟩

/-- … and the string spelling and the native spelling of a bound denote the same point -/
theorem C10_int_cast_str_eq_native (n : Int) :
    castInteger (.str (renderInt n)) = castInteger (.int n) := by
  rw [C10_int_cast_written]; rfl

/-- **window membership after casting = membership of the written bounds**, for every semantic,
all bounds and every record ordinal (any magnitude) -/
theorem C10_int_window_written (sem : Once) (lo hi x : Int) :
    ∃ lo' hi', castInteger (.str (renderInt lo)) = .ok lo' ∧ castInteger (.str (renderInt hi)) = .ok hi' ∧
      inWindow sem (some lo') (some hi') x = inWindow sem (some lo) (some hi) x :=
  ⟨lo, hi, C10_int_cast_written lo, C10_int_cast_written hi, rfl⟩

/-- a float / Decimal with an integral value `n` (= `n·d / d`) is cast to `n` -/
theorem C10_int_ratio_integral (n : Int) (d : Nat) (hd : 0 < d) :
    castInteger (.ratio (n * Int.ofNat d) d) = .ok n := by
  rw [castInteger, if_neg (Nat.ne_of_gt hd)]
  exact congrArg Except.ok (Int.mul_tdiv_cancel n (Int.ne_of_gt (Int.natCast_pos.mpr hd)))

/-- a fractional one is truncated towards zero (non-negative case: floor) -/
theorem C10_int_ratio_trunc (n : Int) (d : Nat) (hd : 0 < d) (hn : 0 ≤ n) :
    ∃ q, castInteger (.ratio n d) = .ok q ∧ q * Int.ofNat d ≤ n ∧ n < (q + 1) * Int.ofNat d := by
  have hpos : (0 : Int) < Int.ofNat d := Int.natCast_pos.mpr hd
  refine ⟨n / Int.ofNat d, ?_, Int.ediv_mul_le n (Int.ne_of_gt hpos), Int.lt_ediv_add_one_mul_self n hpos⟩
  rw [castInteger, if_neg (Nat.ne_of_gt hd), Int.tdiv_eq_ediv_of_nonneg hn]

/-- what `int()` refuses is refused -/
theorem C10_int_refused :
    castInteger (.str "1e6".toList) = .error .castError ∧ castInteger (.str "10.0".toList) = .error .castError ∧
    castInteger (.str "2.7".toList) = .error .castError ∧ castInteger (.str "".toList) = .error .castError ∧
    castInteger (.str "-".toList) = .error .castError ∧ castInteger .other = .error .castError ∧
    castInteger (.ratio 1 0) = .error .castError := by
  -- a string literal is `String.ofList` of its characters: `String.toList_ofList` reads the list back, which the
  -- kernel cannot do fast by evaluating `String.toList`
  rw [String.toList_ofList, String.toList_ofList, String.toList_ofList, String.toList_ofList, String.toList_ofList]
  decide +kernel

/-- `int(float(s))` is not exact: 2^53 + 1 is cast to 2^53 -/
theorem C10_int_via_double_counterexample :
    ¬ (∀ n : Int, castIntegerViaDouble (.str (renderInt n)) = .ok n) := by
  intro h
  have := h 9007199254740993
  revert this
  decide +kernel

/-- … and windows lose records: with the bounds `'9007199254740991'`, `'9007199254740993'` cast
through a double the exactly-once window no longer contains 9007199254740992 -/
theorem C10_int_via_double_window_counterexample :
    ¬ (∀ (sem : Once) (lo hi x lo' hi' : Int),
        castIntegerViaDouble (.str (renderInt lo)) = .ok lo' → castIntegerViaDouble (.str (renderInt hi)) = .ok hi' →
        inWindow sem (some lo') (some hi') x = inWindow sem (some lo) (some hi) x) := by
  intro h
  have := h .exactly 9007199254740991 9007199254740993 9007199254740992 9007199254740991 9007199254740992
    (by decide +kernel) (by decide +kernel)
  revert this
  decide +kernel

/-- below 2^53 the detour through a double is invisible: why small-domain tests cannot tell -/
theorem C10_int_via_double_small (n : Nat) (h : n < 2 ^ 53) : toDoubleNat n = n := by
  unfold toDoubleNat
  by_cases h0 : n = 0
  · simp [h0]
  · have : Nat.log2 n + 1 ≤ 53 := by
      have := (Nat.log2_lt h0).mpr h
      omega
    simp [h0, this]

example : renderInt (-9223372036854775808) = "-9223372036854775808".toList := by
  rw [String.toList_ofList]
  decide +kernel
example : parseIntStr "+0012".toList = some 12 := by
  rw [String.toList_ofList]
  decide +kernel
example : castInteger (.str "9007199254740993".toList) = .ok 9007199254740993 := by
  rw [String.toList_ofList]
  decide +kernel
example : castIntegerViaDouble (.str "9007199254740993".toList) = .ok 9007199254740992 := by
  rw [String.toList_ofList]
  decide +kernel
example : castInteger (.ratio 5 2) = .ok 2 ∧ castInteger (.ratio (-5) 2) = .ok (-2) := by decide +kernel
example : toDouble 9007199254740995 = 9007199254740996 := by decide +kernel

end ForML.Ordinal
