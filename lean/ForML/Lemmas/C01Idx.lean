/-
C01 — the index component (`Table.Index` + `Table._committer`): the effect of each primitive step on the index, and the
closed form of one `Table.add` on the index for the three kinds of node (`idx_mapper`, `idx_trainer_np`, `idx_trainer_p`).
-/
import ForML.Lemmas.C01Ops
import ForML.Lemmas.C01Spec

namespace ForML.Flow
open CState Segment

abbrev loaderObj (γ : Gid) : Obj := ⟨.loader γ, .loader γ⟩
abbrev getterObj (n : Uid) (i : Nat) : Obj := ⟨.getter n i, .getter i⟩
abbrev dumperObj (n : Uid) : Obj := ⟨.dumper n, .dumper⟩
abbrev committerObj : Obj := ⟨.committer, .committer⟩

/-- the getter instructions `Linkage.update` registers for `w` -/
def getterEntries (g : Segment) (w : Worker) : List (Key × Obj) :=
  if g.trained w.uid || w.szout = 1 then []
  else (List.range w.szout).map (fun i => (Key.getter w.uid i, getterObj w.uid i))

theorem idxRun_cons (ic : IdxS) (op : Op) (r : List Op) : idxRun ic (op :: r) = (idxStep ic op).bind (idxRun · r) := rfl

theorem idxStep_link (ic : IdxS) (k a : Key) (i : Option Nat) : idxStep ic (.linsert k a i) = some ic := rfl

section steps
variable {I : List (Key × Obj)} {c : Option Key} {k : Key} {o : Obj}

theorem idxStep_checkFresh (h : aget k I = none) : idxStep (I, c) (.checkFresh k) = some (I, c) := by
  simp [idxStep, h]

theorem idxStep_iset (h : aget k I = none) : idxStep (I, c) (.iset o k) = some (I ++ [(k, o)], c) := by
  simp [idxStep, h]

theorem idxStep_isetAbsent : idxStep (I, c) (.isetAbsent o k) = some (if (aget k I).isNone then I ++ [(k, o)] else I, c) := by
  simp only [idxStep]
  split <;> rfl

theorem idxStep_ensureCommitter (hcomm : CommOK c) (h : c = none → aget Key.committer I = none) :
    idxStep (I, c) .ensureCommitter =
      some (I ++ (if c = none then [(Key.committer, committerObj)] else []), some Key.committer) := by
  rcases hcomm with rfl | rfl
  · simp [idxStep, h rfl]
  · simp [idxStep]

theorem idxStep_ireset {a b : Key} (ha : aget a I = some o) (hb : aget b (adel a I) = none) :
    idxStep (I, c) (.ireset a b) = some (adel a I ++ [(b, o)], c) := by
  simp [idxStep, ha, hb]

theorem idxRun_ite_prepend (ic : IdxS) (p : Prop) [Decidable p] (k a : Key) (r : List Op) :
    idxRun ic ((if p then [Op.prepend k a] else []) ++ r) = idxRun ic r := by
  split <;> rfl

end steps

/-- index effect of `Linkage.update`: one fresh getter per output port -/
theorem idxRun_updProg {g : Segment} {w : Worker} (htr : g.trained w.uid = false) (I : List (Key × Obj)) (c : Option Key)
    (hfresh : ∀ i, aget (Key.getter w.uid i) I = none) :
    idxRun (I, c) (updProg g w) = some (I ++ getterEntries g w, c) := by
  unfold updProg getterEntries
  have hlinks : ∀ (ic : IdxS) (l : List Edge) (f : Edge → Op), (∀ e, ∃ k a i, f e = Op.linsert k a i) →
      idxRun ic (l.map f) = some ic := by
    intro ic l f hf
    induction l with
    | nil => rfl
    | cons e r ih =>
      obtain ⟨k, a, i, he⟩ := hf e
      simp only [List.map_cons, idxRun_cons, he, idxStep_link, Option.bind_some]
      exact ih
  split
  · rename_i h1
    simp only [htr, h1, decide_true, Bool.or_true, if_true, List.append_nil]
    exact hlinks _ _ _ (fun e => ⟨_, _, _, rfl⟩)
  · rename_i h1
    simp only [htr, h1, decide_false, Bool.or_false, Bool.false_eq_true, if_false]
    -- induction over the ports, from the right
    have key : ∀ n, idxRun (I, c) ((List.range n).flatMap (fun i =>
        [Op.iset ⟨.getter w.uid i, .getter i⟩ (.getter w.uid i), Op.linsert (.getter w.uid i) (.uid w.uid) none] ++
          (g.subscribers w.uid i).map (fun e => Op.linsert (.uid e.sub) (.getter w.uid i) (some e.subPort.index))))
        = some (I ++ (List.range n).map (fun i => (Key.getter w.uid i, getterObj w.uid i)), c) := by
      intro n
      induction n with
      | zero => simp [idxRun]
      | succ n ih =>
        rw [List.range_succ, List.flatMap_append, idxRun_append, ih]
        simp only [Option.bind_some, List.flatMap_cons, List.flatMap_nil, List.append_nil, List.cons_append,
          List.nil_append, idxRun_cons, idxStep]
        have hf : aget (Key.getter w.uid n) (I ++ (List.range n).map (fun i => (Key.getter w.uid i, getterObj w.uid i)))
            = none := by
          rw [aget_append, hfresh n]
          simp only
          rw [aget_none_iff]
          simp only [List.map_map, List.mem_map, List.mem_range, Function.comp, not_exists, not_and]
          intro x hx heq
          simp only [Key.getter.injEq, true_and] at heq
          omega
        simp only [hf, Option.isSome_none, Bool.false_eq_true, if_false, Option.bind_some]
        rw [hlinks _ _ _ (fun e => ⟨_, _, _, rfl⟩)]
        simp [List.map_append, getterObj]
    exact key w.szout

theorem persistent_offset {A : Option Assets} {w : Worker} (hP : persistentW A w = true) :
    ∃ off, A.bind (·.offset w.gid) = some off := by
  obtain ⟨_, As, rfl, hc⟩ := persistentW_true hP
  simp only [Assets.contains, Option.isSome_iff_exists] at hc
  obtain ⟨off, hoff⟩ := hc
  exact ⟨off, by simp [Assets.offset, hoff]⟩

section closed
variable {g : Segment} {A : Option Assets} {w : Worker} {I : List (Key × Obj)} {c : Option Key}

/-- mapper (not a trainer): optional loader under the gid, the functor, the getters -/
theorem idx_mapper (hT : g.isTrainer w = false) (htr : g.trained w.uid = false)
    (hu : aget (Key.uid w.uid) I = none) (hgt : ∀ i, aget (Key.getter w.uid i) I = none) :
    idxRun (I, c) (prog g A w) =
      some (I ++ (if persistentW A w = true ∧ aget (Key.gid w.gid) I = none then [(Key.gid w.gid, loaderObj w.gid)] else [])
              ++ [(Key.uid w.uid, functorObj g A w)] ++ getterEntries g w, c) := by
  generalize hI1 : I ++ (if persistentW A w = true ∧ aget (Key.gid w.gid) I = none
    then [(Key.gid w.gid, loaderObj w.gid)] else []) = I1
  have hother : ∀ k, k ≠ Key.gid w.gid → aget k I = none → aget k I1 = none := fun k hk hn =>
    hI1 ▸ aget_fresh_append hn (aget_ite_ne _ (Ne.symm hk))
  have hload : ∀ r, idxRun (I, c) ((if persistentW A w = true
      then [Op.isetAbsent ⟨Key.loader w.gid, Instr.loader w.gid⟩ (Key.gid w.gid)] else []) ++ r) = idxRun (I1, c) r := by
    intro r
    rw [← hI1]
    by_cases hP : persistentW A w = true <;> cases hg : aget (Key.gid w.gid) I <;>
      simp [hP, idxRun_cons, idxStep_isetAbsent, hg]
  have h2 : ∀ i, aget (Key.getter w.uid i) (I1 ++ [(Key.uid w.uid, functorObj g A w)]) = none := fun i =>
    aget_fresh_append (hother _ (by simp) (hgt i)) (aget_singleton_ne (by simp))
  unfold prog progHead dumpProg
  simp only [hT, htr, Bool.false_and, Bool.false_eq_true, if_false, List.append_nil, List.append_assoc, List.cons_append,
    List.nil_append]
  rw [idxRun_cons, idxStep_checkFresh hu, Option.bind_some, hload, idxRun_ite_prepend, idxRun_cons,
    idxStep_iset (hother _ (by simp) hu), Option.bind_some, idxRun_updProg htr _ c h2, List.append_assoc]
  rfl

/-- trainer of a non-persistent group: the functor under uid and gid -/
theorem idx_trainer_np (hT : g.isTrainer w = true) (hP : persistentW A w = false)
    (hu : aget (Key.uid w.uid) I = none) (hgid : aget (Key.gid w.gid) I = none) :
    idxRun (I, c) (prog g A w) =
      some (I ++ [(Key.uid w.uid, functorObj g A w), (Key.gid w.gid, functorObj g A w)], c) := by
  have htr := trained_of_isTrainer hT
  have h1 : aget (Key.gid w.gid) (I ++ [(Key.uid w.uid, functorObj g A w)]) = none :=
    aget_fresh_append hgid (aget_singleton_ne (by simp))
  unfold prog progHead dumpProg
  simp only [hT, hP, htr, Bool.and_false, Bool.false_eq_true, if_false, if_true, List.append_nil, List.cons_append,
    List.nil_append]
  rw [idxRun_cons, idxStep_checkFresh hu, Option.bind_some, idxRun_ite_prepend, idxRun_cons, idxStep_iset hu,
    Option.bind_some, idxRun_cons, idxStep_iset h1, Option.bind_some, List.append_assoc]
  rfl

/-- trainer of a persistent group: committer (once), dumper, the loader re-keyed, the functor under uid and gid -/
theorem idx_trainer_p (hT : g.isTrainer w = true) (hP : persistentW A w = true) (hnd : (I.map (·.1)).Nodup)
    (hu : aget (Key.uid w.uid) I = none)
    (hgid : aget (Key.gid w.gid) I = none ∨ aget (Key.gid w.gid) I = some (loaderObj w.gid))
    (hl : aget (Key.loader w.gid) I = none) (hd : aget (Key.dumper w.uid) I = none)
    (hc : c = none → aget Key.committer I = none) (hcomm : CommOK c) :
    idxRun (I, c) (prog g A w) =
      some (adel (Key.gid w.gid) I ++ (if c = none then [(Key.committer, committerObj)] else [])
              ++ [(Key.dumper w.uid, dumperObj w.uid), (Key.loader w.gid, loaderObj w.gid),
                  (Key.uid w.uid, functorObj g A w), (Key.gid w.gid, functorObj g A w)], some Key.committer) := by
  have htr := trained_of_isTrainer hT
  obtain ⟨off, hoff⟩ := persistent_offset hP
  unfold prog progHead dumpProg commitOp
  simp only [hT, hP, htr, hoff, Bool.and_self, if_true, List.append_nil, List.append_assoc, List.cons_append,
    List.nil_append]
  rw [idxRun_cons, idxStep_checkFresh hu, Option.bind_some, idxRun_cons, idxStep_isetAbsent, Option.bind_some]
  -- the state after the (optional) loader registration
  generalize hI1 : (if (aget (Key.gid w.gid) I).isNone then I ++ [(Key.gid w.gid, loaderObj w.gid)] else I) = I1
  have hI1gid : aget (Key.gid w.gid) I1 = some (loaderObj w.gid) := by
    rw [← hI1]
    rcases hgid with h | h
    · simp only [h, Option.isNone_none, if_true]
      rw [aget_append_right _ h]; exact aget_singleton_self
    · simp [h]
  have hI1del : adel (Key.gid w.gid) I1 = adel (Key.gid w.gid) I := by
    rw [← hI1]
    rcases hgid with h | h
    · simp only [h, Option.isNone_none, if_true]
      rw [adel_append_singleton_self h, adel_of_not_mem h]
    · simp [h]
  have hI1other : ∀ k, k ≠ Key.gid w.gid → aget k I1 = aget k I := by
    intro k hk
    rw [← hI1]
    split
    · cases hk1 : aget k I with
      | some v => exact aget_append_left _ hk1
      | none => exact aget_fresh_append hk1 (aget_singleton_ne (Ne.symm hk))
    · rfl
  have hc1 : c = none → aget Key.committer I1 = none := fun hcn => by rw [hI1other _ (by simp)]; exact hc hcn
  rw [idxRun_cons, idxStep_ensureCommitter hcomm hc1, Option.bind_some]
  generalize hI2 : (I1 ++ (if c = none then [(Key.committer, committerObj)] else [])) = I2
  have hI2get : ∀ k, k ≠ Key.committer → aget k I2 = aget k I1 := by
    intro k hk
    rw [← hI2]
    cases hk1 : aget k I1 with
    | some v => exact aget_append_left _ hk1
    | none => exact aget_fresh_append hk1 (aget_ite_ne _ (Ne.symm hk))
  -- dumper, then the loader moves from the alias to its own key
  have hd2 : aget (Key.dumper w.uid) I2 = none := by
    rw [hI2get _ (by simp), hI1other _ (by simp)]; exact hd
  have hgid2 : aget (Key.gid w.gid) (I2 ++ [(Key.dumper w.uid, dumperObj w.uid)]) = some (loaderObj w.gid) :=
    aget_append_left _ (by rw [hI2get _ (by simp), hI1gid])
  have hdel2 : adel (Key.gid w.gid) (I2 ++ [(Key.dumper w.uid, dumperObj w.uid)]) =
      adel (Key.gid w.gid) I ++ (if c = none then [(Key.committer, committerObj)] else [])
        ++ [(Key.dumper w.uid, dumperObj w.uid)] := by
    rw [adel_append_of_mem _ (by rw [hI2get _ (by simp), hI1gid]; rfl), ← hI2,
      adel_append_of_mem _ (by rw [hI1gid]; rfl), hI1del]
  generalize hB : adel (Key.gid w.gid) I ++ (if c = none then [(Key.committer, committerObj)] else [])
    ++ [(Key.dumper w.uid, dumperObj w.uid)] = B at hdel2
  have hBget : ∀ k, k ≠ Key.committer → k ≠ Key.dumper w.uid →
      aget k (adel (Key.gid w.gid) I) = none → aget k B = none := fun k h1 h2 hn =>
    hB ▸ aget_fresh_append (aget_fresh_append hn (aget_ite_ne _ (Ne.symm h1))) (aget_singleton_ne (Ne.symm h2))
  have hother : ∀ k, k ≠ Key.gid w.gid → aget k (adel (Key.gid w.gid) I) = aget k I :=
    fun k hk => aget_adel_ne (Ne.symm hk) I
  have hl3 : aget (Key.loader w.gid) B = none := hBget _ (by simp) (by simp) (by rw [hother _ (by simp)]; exact hl)
  have hu4 : aget (Key.uid w.uid) (B ++ [(Key.loader w.gid, loaderObj w.gid)]) = none :=
    aget_fresh_append (hBget _ (by simp) (by simp) (by rw [hother _ (by simp)]; exact hu)) (aget_singleton_ne (by simp))
  have hg5 : aget (Key.gid w.gid) (B ++ [(Key.loader w.gid, loaderObj w.gid)] ++ [(Key.uid w.uid, functorObj g A w)])
      = none :=
    aget_fresh_append (aget_fresh_append (hBget _ (by simp) (by simp) (aget_adel_self hnd))
      (aget_singleton_ne (by simp))) (aget_singleton_ne (by simp))
  rw [idxRun_cons, idxStep_iset hd2, Option.bind_some]
  -- the two links leave the index alone
  change idxRun _ (Op.ireset _ _ :: _) = _
  rw [idxRun_cons, idxStep_ireset hgid2 (hdel2 ▸ hl3), Option.bind_some, hdel2, idxRun_ite_prepend, idxRun_cons,
    idxStep_iset hu4, Option.bind_some, idxRun_cons, idxStep_iset hg5, Option.bind_some, ← hB]
  simp [idxRun]

end closed

end ForML.Flow
