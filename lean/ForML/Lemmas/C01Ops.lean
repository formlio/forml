/-
C01 — effect of the compiler model's primitives (`Index.set/reset`, `Linkage.insert/prepend/update`) on the
components of the state; `Table.add` as a straight-line program over the primitives; the decomposition of a program
run into three independent folds (index, absolute linkage, prefixed linkage) plus the error flag.
-/
import ForML.Lemmas.C01Assoc
import ForML.Model.CompileSpec

namespace ForML.Flow
namespace CState

/-- `Linkage._absolute[k]` -/
def ab (s : CState) (k : Key) : List (Option Key) := (aget k s.absolute).getD []
/-- `Linkage._prefixed[k]` -/
def pf (s : CState) (k : Key) : List Key := (aget k s.prefixed).getD []

theorem link_eq (s : CState) (k : Key) : s.link k = (s.pf k).reverse.map some ++ s.ab k := rfl

@[simp] theorem raise_index (s : CState) (e : CErr) : (s.raise e).index = s.index := by
  unfold raise; split <;> rfl
@[simp] theorem raise_absolute (s : CState) (e : CErr) : (s.raise e).absolute = s.absolute := by
  unfold raise; split <;> rfl
@[simp] theorem raise_prefixed (s : CState) (e : CErr) : (s.raise e).prefixed = s.prefixed := by
  unfold raise; split <;> rfl
@[simp] theorem raise_committer (s : CState) (e : CErr) : (s.raise e).committer = s.committer := by
  unfold raise; split <;> rfl

@[simp] theorem iset_absolute (s : CState) (o : Obj) (k : Key) : (s.iset o k).absolute = s.absolute := by
  unfold iset; split <;> simp
@[simp] theorem iset_prefixed (s : CState) (o : Obj) (k : Key) : (s.iset o k).prefixed = s.prefixed := by
  unfold iset; split <;> simp
@[simp] theorem iset_committer (s : CState) (o : Obj) (k : Key) : (s.iset o k).committer = s.committer := by
  unfold iset; split <;> simp

theorem iset_fresh {s : CState} {o : Obj} {k : Key} (h : aget k s.index = none) :
    s.iset o k = { s with index := s.index ++ [(k, o)] } := by
  simp only [iset, h]

@[simp] theorem ireset_absolute (s : CState) (a b : Key) : (s.ireset a b).absolute = s.absolute := by
  unfold ireset; split <;> simp
@[simp] theorem ireset_prefixed (s : CState) (a b : Key) : (s.ireset a b).prefixed = s.prefixed := by
  unfold ireset; split <;> simp
@[simp] theorem ireset_committer (s : CState) (a b : Key) : (s.ireset a b).committer = s.committer := by
  unfold ireset; split <;> simp

theorem ireset_ok {s : CState} {orig new : Key} {o : Obj} (h : aget orig s.index = some o)
    (hnew : aget new (adel orig s.index) = none) :
    s.ireset orig new = { s with index := adel orig s.index ++ [(new, o)] } := by
  simp only [ireset, iset, h, hnew]

@[simp] theorem linsert_index (s : CState) (k a : Key) (i : Option Nat) : (s.linsert k a i).index = s.index := by
  cases i <;> simp only [linsert, apply_ite CState.index, raise_index, ite_self]
@[simp] theorem linsert_prefixed (s : CState) (k a : Key) (i : Option Nat) : (s.linsert k a i).prefixed = s.prefixed := by
  cases i <;> simp only [linsert, apply_ite CState.prefixed, raise_prefixed, ite_self]
@[simp] theorem linsert_committer (s : CState) (k a : Key) (i : Option Nat) : (s.linsert k a i).committer = s.committer := by
  cases i <;> simp only [linsert, apply_ite CState.committer, raise_committer, ite_self]

theorem linsert_absolute (s : CState) (k a : Key) (i : Option Nat) :
    (s.linsert k a i).absolute = aset k (putAt (s.ab k) (i.getD 0) a) s.absolute := by
  cases i <;> simp only [linsert, ab, apply_ite CState.absolute, raise_absolute, ite_self]

@[simp] theorem prepend_index (s : CState) (k a : Key) : (s.prepend k a).index = s.index := rfl
@[simp] theorem prepend_absolute (s : CState) (k a : Key) : (s.prepend k a).absolute = s.absolute := rfl
@[simp] theorem prepend_committer (s : CState) (k a : Key) : (s.prepend k a).committer = s.committer := rfl
@[simp] theorem prepend_fail (s : CState) (k a : Key) : (s.prepend k a).fail = s.fail := rfl
theorem prepend_prefixed (s : CState) (k a : Key) :
    (s.prepend k a).prefixed = aset k (s.pf k ++ [a]) s.prefixed := rfl

end CState

open CState Segment

/-- one primitive step of the compiler -/
inductive Op where
  | checkFresh (k : Key)                 -- `assert node.uid not in self._index`
  | isetAbsent (o : Obj) (k : Key)       -- `if state not in self._index: self._index.set(Loader, state)`
  | iset (o : Obj) (k : Key)             -- `Index.set`
  | ensureCommitter                      -- `if not self._committer: self._committer = self._index.set(Committer)`
  | ireset (a b : Key)                   -- `Index.reset`
  | linsert (k a : Key) (i : Option Nat) -- `Linkage.insert`
  | linsertC (a : Key) (i : Nat)         -- `Linkage.insert(self._committer, dumper, offset)`
  | prepend (k a : Key)                  -- `Linkage.prepend`
  | fail (e : CErr)
  deriving Repr

def Op.apply (s : CState) : Op → CState
  | .checkFresh k => if (aget k s.index).isSome then s.raise .assertion else s
  | .isetAbsent o k => if (aget k s.index).isNone then s.iset o k else s
  | .iset o k => s.iset o k
  | .ensureCommitter =>
    if s.committer.isNone then { s.iset ⟨.committer, .committer⟩ .committer with committer := some .committer } else s
  | .ireset a b => s.ireset a b
  | .linsert k a i => s.linsert k a i
  | .linsertC a i => s.linsert (s.committer.getD .committer) a (some i)
  | .prepend k a => s.prepend k a
  | .fail e => s.raise e

def runOps (s : CState) (ops : List Op) : CState := ops.foldl Op.apply s

theorem runOps_append (s : CState) (a b : List Op) : runOps s (a ++ b) = runOps (runOps s a) b := by
  simp [runOps, List.foldl_append]

def functorObj (g : Segment) (A : Option Assets) (w : Worker) : Obj := ⟨.uid w.uid, (g.functorSym A w).instr⟩

/-- key preset as the state of `w` (before alias resolution) -/
def stateKey (g : Segment) (A : Option Assets) (w : Worker) : Key :=
  if g.isTrainer w && persistentW A w then .loader w.gid else .gid w.gid

/-- `Linkage.update` as a program -/
def updProg (g : Segment) (w : Worker) : List Op :=
  if w.szout = 1 then
    (g.subscribers w.uid 0).map (fun e => Op.linsert (.uid e.sub) (.uid w.uid) (some e.subPort.index))
  else
    (List.range w.szout).flatMap (fun i =>
      [Op.iset ⟨.getter w.uid i, .getter i⟩ (.getter w.uid i), Op.linsert (.getter w.uid i) (.uid w.uid) none] ++
        (g.subscribers w.uid i).map (fun e => Op.linsert (.uid e.sub) (.getter w.uid i) (some e.subPort.index)))

/-- link of the dumper into the committer at the group's list position -/
def commitOp (A : Option Assets) (w : Worker) : Op :=
  match A.bind (·.offset w.gid) with
  | some off => Op.linsertC (.dumper w.uid) off
  | none => Op.fail .unexpected

/-- the persistent trainer's block: committer, dumper, loader re-keyed -/
def dumpProg (g : Segment) (A : Option Assets) (w : Worker) : List Op :=
  if g.isTrainer w && persistentW A w then
    [Op.ensureCommitter, Op.iset ⟨.dumper w.uid, .dumper⟩ (.dumper w.uid), Op.linsert (.dumper w.uid) (.uid w.uid) none,
     commitOp A w, Op.ireset (.gid w.gid) (.loader w.gid)]
  else []

/-- `Table.add(node)` up to (excluding) `Linkage.update`, as a program -/
def progHead (g : Segment) (A : Option Assets) (w : Worker) : List Op :=
  [Op.checkFresh (.uid w.uid)]
  ++ (if persistentW A w then [Op.isetAbsent ⟨.loader w.gid, .loader w.gid⟩ (.gid w.gid)] else [])
  ++ dumpProg g A w
  ++ (if g.hasPreset A w then [Op.prepend (.uid w.uid) (stateKey g A w)] else [])
  ++ (if g.isTrainer w then [Op.iset (functorObj g A w) (.uid w.uid), Op.iset (functorObj g A w) (.gid w.gid)]
      else [Op.iset (functorObj g A w) (.uid w.uid)])

/-- `Table.add(node)` as a program -/
def prog (g : Segment) (A : Option Assets) (w : Worker) : List Op :=
  progHead g A w ++ (if g.trained w.uid then [] else updProg g w)

theorem update_eq (s : CState) (g : Segment) (w : Worker) : s.update g w = runOps s (updProg g w) := by
  unfold CState.update updProg runOps
  split
  · rw [List.foldl_map]; rfl
  · rw [List.foldl_flatMap]
    congr 1
    funext s i
    simp only [List.foldl_append, List.foldl_cons, List.foldl_nil, List.foldl_map]
    rfl

theorem add_eq (g : Segment) (A : Option Assets) (s : CState) (w : Worker) : add g A s w = runOps s (prog g A w) := by
  have hload : ∀ x : CState,
      (if persistentW A w && (aget (Key.gid w.gid) x.index).isNone
        then x.iset ⟨.loader w.gid, .loader w.gid⟩ (.gid w.gid) else x)
      = runOps x (if persistentW A w then [Op.isetAbsent ⟨.loader w.gid, .loader w.gid⟩ (.gid w.gid)] else []) := by
    intro x; cases persistentW A w <;> rfl
  have hdump : ∀ x : CState,
      (if g.isTrainer w && persistentW A w then
        let y := ((Op.ensureCommitter.apply x).iset ⟨.dumper w.uid, .dumper⟩ (.dumper w.uid)).linsert
          (.dumper w.uid) (.uid w.uid) none
        (match A.bind (·.offset w.gid) with
          | some off => y.linsert (y.committer.getD .committer) (.dumper w.uid) (some off)
          | none => y.raise .unexpected).ireset (.gid w.gid) (.loader w.gid)
       else x) = runOps x (dumpProg g A w) := by
    intro x
    unfold dumpProg commitOp
    cases g.isTrainer w && persistentW A w
    · rfl
    · cases A.bind (·.offset w.gid) <;> simp only [runOps, List.foldl_cons, List.foldl_nil, Op.apply, ↓reduceIte]
  have hpre : ∀ x : CState, (if g.hasPreset A w then x.prepend (.uid w.uid) (stateKey g A w) else x)
      = runOps x (if g.hasPreset A w then [Op.prepend (.uid w.uid) (stateKey g A w)] else []) := by
    intro x; cases g.hasPreset A w <;> rfl
  have hfun : ∀ x : CState,
      (if g.isTrainer w then [Key.uid w.uid, Key.gid w.gid] else [Key.uid w.uid]).foldl
        (fun s k => s.iset (functorObj g A w) k) x
      = runOps x (if g.isTrainer w then [Op.iset (functorObj g A w) (.uid w.uid), Op.iset (functorObj g A w) (.gid w.gid)]
          else [Op.iset (functorObj g A w) (.uid w.uid)]) := by
    intro x; cases g.isTrainer w <;> rfl
  have hupd : ∀ x : CState, (if !g.trained w.uid then x.update g w else x)
      = runOps x (if g.trained w.uid then [] else updProg g w) := by
    intro x
    cases g.trained w.uid
    · exact update_eq x g w
    · rfl
  unfold prog progHead
  simp only [runOps_append]
  rw [← hupd, ← hfun, ← hpre, ← hdump, ← hload]
  rfl

abbrev IdxS := List (Key × Obj) × Option Key
abbrev AbsS := List (Key × List (Option Key))
abbrev PreS := List (Key × List Key)

/-- effect of one step on `Index` (+ `Table._committer`); `none` = an assertion fires -/
def idxStep (ic : IdxS) : Op → Option IdxS
  | .checkFresh k => if (aget k ic.1).isSome then none else some ic
  | .isetAbsent o k => if (aget k ic.1).isNone then some (ic.1 ++ [(k, o)], ic.2) else some ic
  | .iset o k => if (aget k ic.1).isSome then none else some (ic.1 ++ [(k, o)], ic.2)
  | .ensureCommitter =>
    if ic.2.isNone then
      (if (aget Key.committer ic.1).isSome then none
       else some (ic.1 ++ [(Key.committer, ⟨.committer, .committer⟩)], some .committer))
    else some ic
  | .ireset a b =>
    match aget a ic.1 with
    | none => none
    | some o => if (aget b (adel a ic.1)).isSome then none else some (adel a ic.1 ++ [(b, o)], ic.2)
  | .fail _ => none
  | _ => some ic

def absIns (abs : AbsS) (k a : Key) (i : Option Nat) : Option AbsS :=
  let args := (aget k abs).getD []
  if (i = none ∧ ¬ args.length ≤ 1) ∨ (args.getD (i.getD 0) none).isSome then none
  else some (aset k (CState.putAt args (i.getD 0) a) abs)

/-- effect of one step on `Linkage._absolute` -/
def absStep (abs : AbsS) : Op → Option AbsS
  | .linsert k a i => absIns abs k a i
  | .linsertC a i => absIns abs .committer a (some i)
  | _ => some abs

/-- effect of one step on `Linkage._prefixed` -/
def preStep (pre : PreS) : Op → PreS
  | .prepend k a => aset k ((aget k pre).getD [] ++ [a]) pre
  | _ => pre

def idxRun : IdxS → List Op → Option IdxS
  | ic, [] => some ic
  | ic, op :: r => (idxStep ic op).bind (idxRun · r)

def absRun : AbsS → List Op → Option AbsS
  | abs, [] => some abs
  | abs, op :: r => (absStep abs op).bind (absRun · r)

def preRun (pre : PreS) (ops : List Op) : PreS := ops.foldl preStep pre

theorem idxRun_append (ic : IdxS) (a b : List Op) : idxRun ic (a ++ b) = (idxRun ic a).bind (idxRun · b) := by
  induction a generalizing ic with
  | nil => rfl
  | cons op r ih =>
    simp only [List.cons_append, idxRun]
    cases idxStep ic op with
    | none => rfl
    | some ic' => exact ih ic'

theorem absRun_append (abs : AbsS) (a b : List Op) : absRun abs (a ++ b) = (absRun abs a).bind (absRun · b) := by
  induction a generalizing abs with
  | nil => rfl
  | cons op r ih =>
    simp only [List.cons_append, absRun]
    cases absStep abs op with
    | none => rfl
    | some abs' => exact ih abs'

theorem preRun_append (pre : PreS) (a b : List Op) : preRun pre (a ++ b) = preRun (preRun pre a) b := by
  simp [preRun, List.foldl_append]

/-- `Table._committer` is unset or the committer key -/
def CommOK (c : Option Key) : Prop := c = none ∨ c = some Key.committer

theorem CState.linsert_ok {s : CState} {k a : Key} {i : Option Nat} {B : AbsS} (h : absIns s.absolute k a i = some B) :
    s.linsert k a i = { s with absolute := B } := by
  unfold absIns at h
  simp only at h
  split at h
  · cases h
  · rename_i hc
    cases h
    simp only [not_or, not_and, Decidable.not_not, Bool.not_eq_true, Option.isSome_eq_false_iff,
      Option.isNone_iff_eq_none] at hc
    cases i with
    | none => simp only [linsert, hc.1 rfl, hc.2, if_true, Option.isSome_none, Bool.false_eq_true, if_false]
    | some j => simp only [linsert, hc.2, Option.isSome_none, Bool.false_eq_true, if_false]

theorem step_decomp {s : CState} {op : Op} {I' : List (Key × Obj)} {c' : Option Key} {B' : AbsS}
    (hf : s.fail = none) (hc : CommOK s.committer)
    (hi : idxStep (s.index, s.committer) op = some (I', c')) (ha : absStep s.absolute op = some B') :
    Op.apply s op = ⟨I', B', preStep s.prefixed op, c', none⟩ ∧ CommOK c' := by
  obtain ⟨I, B, P, c, f⟩ := s
  simp only at hf hc hi ha
  subst hf
  cases op with
  | checkFresh k =>
    simp only [idxStep] at hi
    split at hi
    · cases hi
    · cases hi; cases ha
      exact ⟨if_neg ‹_›, hc⟩
  | isetAbsent o k =>
    simp only [idxStep] at hi
    cases ha
    split at hi
    · rename_i h
      cases hi
      exact ⟨(if_pos h).trans (iset_fresh (by simpa using h)), hc⟩
    · cases hi
      exact ⟨if_neg ‹_›, hc⟩
  | iset o k =>
    simp only [idxStep] at hi
    cases ha
    split at hi
    · cases hi
    · rename_i h
      cases hi
      exact ⟨iset_fresh (by simpa using h), hc⟩
  | ensureCommitter =>
    simp only [idxStep] at hi
    cases ha
    split at hi
    · rename_i hn
      split at hi
      · cases hi
      · rename_i h
        cases hi
        refine ⟨(if_pos hn).trans ?_, Or.inr rfl⟩
        rw [iset_fresh (by simpa using h)]
        rfl
    · cases hi
      exact ⟨if_neg ‹_›, hc⟩
  | ireset a b =>
    simp only [idxStep] at hi
    cases ha
    split at hi
    · cases hi
    · rename_i o hget
      split at hi
      · cases hi
      · rename_i h
        cases hi
        exact ⟨ireset_ok hget (by simpa using h), hc⟩
  | linsert k a i =>
    cases hi
    exact ⟨linsert_ok ha, hc⟩
  | linsertC a i =>
    cases hi
    refine ⟨?_, hc⟩
    rcases hc with rfl | rfl <;> exact linsert_ok ha
  | prepend k a =>
    cases hi; cases ha
    exact ⟨rfl, hc⟩
  | fail e => cases hi

/-- a program run = the three component runs, when no assertion fires -/
theorem runOps_decomp (ops : List Op) : ∀ (s : CState) (I' : List (Key × Obj)) (c' : Option Key) (B' : AbsS),
    s.fail = none → CommOK s.committer → idxRun (s.index, s.committer) ops = some (I', c') →
    absRun s.absolute ops = some B' →
    runOps s ops = ⟨I', B', preRun s.prefixed ops, c', none⟩ ∧ CommOK c' := by
  induction ops with
  | nil =>
    intro s I' c' B' hf hc hi ha
    cases hi; cases ha
    obtain ⟨I, B, P, c, f⟩ := s
    cases hf
    exact ⟨rfl, hc⟩
  | cons op r ih =>
    intro s I' c' B' hf hc hi ha
    simp only [idxRun, absRun] at hi ha
    cases h1 : idxStep (s.index, s.committer) op with
    | none => simp [h1] at hi
    | some ic1 =>
      cases h2 : absStep s.absolute op with
      | none => simp [h2] at ha
      | some B1 =>
        obtain ⟨I1, c1⟩ := ic1
        simp only [h1, h2, Option.bind_some] at hi ha
        obtain ⟨hstep, hc1⟩ := step_decomp hf hc h1 h2
        have := ih (Op.apply s op) I' c' B' (by rw [hstep]) (by rw [hstep]; exact hc1)
          (by rw [hstep]; exact hi) (by rw [hstep]; exact ha)
        simp only [runOps, List.foldl_cons] at this ⊢
        rw [this.1]
        refine ⟨?_, this.2⟩
        rw [hstep]
        simp [preRun]

end ForML.Flow
