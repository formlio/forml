/-
The primitives of the construction monad (`fresh`, `newWorker`, `fork`, `newFuture`, `subscribe`, `train`, `derived`) as
explicit successor graphs built from `bump` and the three `push` operations, each with one equation per lookup.  A
construction that touches only what it created (`Frame`) leaves every lookup of an older uid / gid unchanged, so
certified valuations survive it; new nodes become live one at a time, and a hole is bound by adding its local
constraint.  `Bounded` is the graph part of `Inv`; the publishers of the subscriptions are bounded by `Wired`, not here.
-/
import ForML.Lemmas.C03Eval

namespace ForML.Compose

def Graph.bump (g : Graph) : Graph := { g with next := g.next + 1 }
def Graph.pushNode (g : Graph) (n : Node) : Graph := { g with nodes := g.nodes ++ [n] }
def Graph.pushEdge (g : Graph) (e : Edge) : Graph := { g with edges := g.edges ++ [e] }
def Graph.pushTrain (g : Graph) (t : Training) : Graph := { g with trains := g.trains ++ [t] }

@[simp] theorem bump_next (g : Graph) : g.bump.next = g.next + 1 := rfl
@[simp] theorem pushNode_next (g : Graph) (n) : (g.pushNode n).next = g.next := rfl
@[simp] theorem pushEdge_next (g : Graph) (e) : (g.pushEdge e).next = g.next := rfl
@[simp] theorem pushTrain_next (g : Graph) (t) : (g.pushTrain t).next = g.next := rfl

@[simp] theorem bump_trains (g : Graph) : g.bump.trains = g.trains := rfl
@[simp] theorem pushNode_trains (g : Graph) (n) : (g.pushNode n).trains = g.trains := rfl
@[simp] theorem pushEdge_trains (g : Graph) (e) : (g.pushEdge e).trains = g.trains := rfl
@[simp] theorem pushTrain_trains (g : Graph) (t) : (g.pushTrain t).trains = g.trains ++ [t] := rfl

@[simp] theorem kindOf_bump (g : Graph) (u) : g.bump.kindOf u = g.kindOf u := rfl
@[simp] theorem kindOf_pushEdge (g : Graph) (e u) : (g.pushEdge e).kindOf u = g.kindOf u := rfl
@[simp] theorem kindOf_pushTrain (g : Graph) (t u) : (g.pushTrain t).kindOf u = g.kindOf u := rfl
theorem kindOf_pushNode (g : Graph) (n : Node) (u : Nat) :
    (g.pushNode n).kindOf u = (g.kindOf u).or (if n.uid = u then some n.kind else none) := by
  unfold Graph.kindOf Graph.pushNode
  simp only [List.find?_append, Option.map_or]
  congr 1
  by_cases h : n.uid = u <;> simp [h]

theorem kindOf_pushNode_ne {g : Graph} {n : Node} {u : Nat} (h : n.uid ≠ u) : (g.pushNode n).kindOf u = g.kindOf u := by
  rw [kindOf_pushNode, if_neg h, Option.or_none]

theorem kindOf_pushNode_self {g : Graph} {n : Node} (h : g.kindOf n.uid = none) :
    (g.pushNode n).kindOf n.uid = some n.kind := by
  rw [kindOf_pushNode, h, if_pos rfl]; rfl

@[simp] theorem inputOf_bump (g : Graph) (u k) : g.bump.inputOf u k = g.inputOf u k := rfl
@[simp] theorem inputOf_pushNode (g : Graph) (n u k) : (g.pushNode n).inputOf u k = g.inputOf u k := rfl
@[simp] theorem inputOf_pushTrain (g : Graph) (t u k) : (g.pushTrain t).inputOf u k = g.inputOf u k := rfl
theorem inputOf_pushEdge (g : Graph) (e : Edge) (u k : Nat) :
    (g.pushEdge e).inputOf u k = (g.inputOf u k).or (if e.sub = u ∧ e.port = k then some e.pub else none) := by
  unfold Graph.inputOf Graph.pushEdge
  simp only [List.find?_append, Option.map_or, List.find?_singleton, Bool.and_eq_true, beq_iff_eq]
  congr 1
  split <;> rfl

theorem inputOf_pushEdge_ne {g : Graph} {e : Edge} {u : Nat} (h : e.sub ≠ u) (k : Nat) :
    (g.pushEdge e).inputOf u k = g.inputOf u k := by
  rw [inputOf_pushEdge, if_neg fun hc => h hc.1, Option.or_none]

theorem inputOf_pushEdge_self {g : Graph} {e : Edge} (h : g.inputOf e.sub e.port = none) :
    (g.pushEdge e).inputOf e.sub e.port = some e.pub := by
  rw [inputOf_pushEdge, h, if_pos ⟨rfl, rfl⟩]; rfl

theorem inputOf_pushEdge_old {g : Graph} {e : Edge} {u k : Nat} {q : PubRef} (h : g.inputOf u k = some q) :
    (g.pushEdge e).inputOf u k = some q := by
  rw [inputOf_pushEdge, h]; rfl

theorem inputOf_pushEdge_cases {g : Graph} {e : Edge} {u k : Nat} {q : PubRef} (h : (g.pushEdge e).inputOf u k = some q) :
    g.inputOf u k = some q ∨ (e.sub = u ∧ e.port = k ∧ e.pub = q) := by
  rw [inputOf_pushEdge] at h
  cases h0 : g.inputOf u k with
  | some q' => rw [h0] at h; exact Or.inl h
  | none =>
    rw [h0, Option.none_or] at h
    split at h
    · exact Or.inr ⟨‹_ ∧ _›.1, ‹_ ∧ _›.2, Option.some.inj h⟩
    · cases h

@[simp] theorem trainerOf_bump (g : Graph) (u) : g.bump.trainerOf u = g.trainerOf u := rfl
@[simp] theorem trainerOf_pushNode (g : Graph) (n u) : (g.pushNode n).trainerOf u = g.trainerOf u := rfl
@[simp] theorem trainerOf_pushEdge (g : Graph) (e u) : (g.pushEdge e).trainerOf u = g.trainerOf u := rfl
theorem trainerOf_pushTrain (g : Graph) (t : Training) (gid : Nat) :
    (g.pushTrain t).trainerOf gid = (g.trainerOf gid).or (if t.gid = gid then some t else none) := by
  unfold Graph.trainerOf Graph.pushTrain
  simp only [List.find?_append, List.find?_singleton, beq_iff_eq]

theorem trainerOf_pushTrain_ne {g : Graph} {t : Training} {gid : Nat} (h : t.gid ≠ gid) :
    (g.pushTrain t).trainerOf gid = g.trainerOf gid := by
  rw [trainerOf_pushTrain, if_neg h, Option.or_none]

structure Bounded (g : Graph) : Prop where
  nodesLt : ∀ n ∈ g.nodes, n.uid < g.next
  gidsLt : ∀ n ∈ g.nodes, ∀ gid a i o, n.kind = .worker gid a i o → gid < g.next
  edgesLt : ∀ e ∈ g.edges, e.sub < g.next
  trainsLt : ∀ t ∈ g.trains, t.gid < g.next

theorem Inv.bounded {g W} (hi : Inv g W) : Bounded g := ⟨hi.nodesLt, hi.gidsLt, hi.edgesLt, hi.trainsLt⟩

theorem Bounded.empty : Bounded {} := by
  constructor <;> intro x hx <;> simp at hx

theorem Bounded.bump {g} (hb : Bounded g) : Bounded g.bump :=
  ⟨fun n hn => Nat.lt_succ_of_lt (hb.nodesLt n hn), fun n hn gid a i o hk => Nat.lt_succ_of_lt (hb.gidsLt n hn gid a i o hk),
    fun e he => Nat.lt_succ_of_lt (hb.edgesLt e he), fun t ht => Nat.lt_succ_of_lt (hb.trainsLt t ht)⟩

theorem forall_mem_push {α} {p : α → Prop} {l : List α} {a : α} (hl : ∀ x ∈ l, p x) (ha : p a) : ∀ x ∈ l ++ [a], p x :=
  List.forall_mem_append.mpr ⟨hl, List.forall_mem_singleton.mpr ha⟩

theorem Bounded.pushNode {g} (hb : Bounded g) (n : Node) (hu : n.uid < g.next)
    (hg : ∀ gid a i o, n.kind = .worker gid a i o → gid < g.next) : Bounded (g.pushNode n) :=
  ⟨forall_mem_push hb.nodesLt hu, forall_mem_push hb.gidsLt hg, hb.edgesLt, hb.trainsLt⟩

theorem Bounded.pushEdge {g} (hb : Bounded g) (e : Edge) (hs : e.sub < g.next) : Bounded (g.pushEdge e) :=
  ⟨hb.nodesLt, hb.gidsLt, forall_mem_push hb.edgesLt hs, hb.trainsLt⟩

theorem Bounded.pushTrain {g} (hb : Bounded g) (t : Training) (hs : t.gid < g.next) : Bounded (g.pushTrain t) :=
  ⟨hb.nodesLt, hb.gidsLt, hb.edgesLt, forall_mem_push hb.trainsLt hs⟩

theorem Bounded.kindOf_none {g} (hb : Bounded g) {u : Nat} (hu : g.next ≤ u) : g.kindOf u = none :=
  kindOf_eq_none fun n hn e => by have := hb.nodesLt n hn; omega

theorem Bounded.inputOf_none {g} (hb : Bounded g) {u : Nat} (hu : g.next ≤ u) (k : Nat) : g.inputOf u k = none :=
  inputOf_eq_none_iff.mpr fun e he h => by have := hb.edgesLt e he; omega

theorem Bounded.trainerOf_none {g} (hb : Bounded g) {gid : Nat} (hu : g.next ≤ gid) : g.trainerOf gid = none :=
  trainerOf_eq_none fun t ht e => by have := hb.trainsLt t ht; omega

theorem kindOf_none_of_ge {g : Graph} {W : World} (hi : Inv g W) {u : Nat} (hu : g.next ≤ u) : g.kindOf u = none :=
  hi.bounded.kindOf_none hu

theorem inputOf_none_of_ge {g : Graph} {W : World} (hi : Inv g W) {u : Nat} (hu : g.next ≤ u) (k : Nat) :
    g.inputOf u k = none :=
  hi.bounded.inputOf_none hu k

theorem trainerOf_none_of_ge {g : Graph} {W : World} (hi : Inv g W) {gid : Nat} (hu : g.next ≤ gid) :
    g.trainerOf gid = none :=
  hi.bounded.trainerOf_none hu

theorem Bounded.gid_lt {g} (hb : Bounded g) {u gid a i o} (hk : g.kindOf u = some (.worker gid a i o)) : gid < g.next := by
  obtain ⟨n, hn, _, hkn⟩ := kindOf_eq_some hk
  exact hb.gidsLt n hn gid a i o hkn

theorem Bounded.uid_lt {g} (hb : Bounded g) {u k} (hk : g.kindOf u = some k) : u < g.next := by
  obtain ⟨n, hn, rfl, _⟩ := kindOf_eq_some hk
  exact hb.nodesLt n hn

/-- `g'` extends `g` without touching anything `g` knows (uids and gids below `g.next`) -/
structure Frame (g g' : Graph) : Prop where
  next_le : g.next ≤ g'.next
  kind : ∀ u, u < g.next → g'.kindOf u = g.kindOf u
  input : ∀ u k, u < g.next → g'.inputOf u k = g.inputOf u k
  trainer : ∀ gid, gid < g.next → g'.trainerOf gid = g.trainerOf gid

theorem Frame.refl (g : Graph) : Frame g g := ⟨Nat.le_refl _, fun _ _ => rfl, fun _ _ _ => rfl, fun _ _ => rfl⟩

theorem Frame.trans {g1 g2 g3} (h12 : Frame g1 g2) (h23 : Frame g2 g3) : Frame g1 g3 :=
  have hlt : ∀ {u}, u < g1.next → u < g2.next := fun hu => Nat.lt_of_lt_of_le hu h12.next_le
  ⟨Nat.le_trans h12.next_le h23.next_le, fun u hu => (h23.kind u (hlt hu)).trans (h12.kind u hu),
    fun u k hu => (h23.input u k (hlt hu)).trans (h12.input u k hu),
    fun gid hu => (h23.trainer gid (hlt hu)).trans (h12.trainer gid hu)⟩

theorem Frame.bump {g0 g} (hf : Frame g0 g) : Frame g0 g.bump :=
  ⟨Nat.le_succ_of_le hf.next_le, hf.kind, hf.input, hf.trainer⟩

theorem Frame.pushNode {g0 g} (hf : Frame g0 g) (n : Node) (hn0 : g0.next ≤ n.uid) :
    Frame g0 (g.pushNode n) := by
  refine ⟨hf.next_le, fun u hu => ?_, hf.input, hf.trainer⟩
  rw [kindOf_pushNode_ne (by omega), hf.kind u hu]

theorem Frame.pushEdge {g0 g} (hf : Frame g0 g) (e : Edge) (hn0 : g0.next ≤ e.sub) : Frame g0 (g.pushEdge e) := by
  refine ⟨hf.next_le, hf.kind, fun u k hu => ?_, hf.trainer⟩
  rw [inputOf_pushEdge_ne (by omega), hf.input u k hu]

theorem Frame.pushTrain {g0 g} (hf : Frame g0 g) (t : Training) (hn0 : g0.next ≤ t.gid) : Frame g0 (g.pushTrain t) := by
  refine ⟨hf.next_le, hf.kind, hf.input, fun gid hu => ?_⟩
  rw [trainerOf_pushTrain_ne (by omega), hf.trainer gid hu]

theorem Frame.isOpen {g g'} (hf : Frame g g') {u} (hu : u < g.next) : g'.isOpen u ↔ g.isOpen u := by
  unfold Graph.isOpen
  rw [hf.kind u hu, hf.input u 0 hu]

theorem Graph.isOpen.of_mono {g g' : Graph} {n : Nat} (ho : g'.isOpen n) (hk : g'.kindOf n = g.kindOf n)
    (hm : ∀ q, g.inputOf n 0 = some q → g'.inputOf n 0 = some q) : g.isOpen n := by
  refine ⟨hk ▸ ho.1, ?_⟩
  cases h : g.inputOf n 0 with
  | none => rfl
  | some q => have := hm q h; rw [ho.2] at this; cases this

theorem run_fresh (g : Graph) : Run fresh g g.next g.bump := rfl

theorem run_newWorker (a : Actor) (szin szout : Nat) (g : Graph) :
    Run (newWorker a szin szout) g ⟨g.next, g.next + 1, a, szin, szout⟩
      (g.bump.bump.pushNode ⟨g.next, .worker (g.next + 1) a szin szout⟩) := rfl

theorem run_fork (w : WRef) (g : Graph) :
    Run (fork w) g { w with uid := g.next } (g.bump.pushNode ⟨g.next, .worker w.gid w.actor w.szin w.szout⟩) := rfl

theorem run_newFuture (g : Graph) : Run newFuture g g.next (g.bump.pushNode ⟨g.next, .future⟩) := rfl

theorem run_subscribe (s k : Nat) (p : PubRef) (g : Graph) (h : g.inputOf s k = none) :
    Run (subscribe s k p) g () (g.pushEdge ⟨s, k, p⟩) := by
  unfold Run subscribe
  simp only [h]
  rfl

theorem run_train (w : WRef) (tr lb : PubRef) (g : Graph) (hs : w.actor.stateful = true) (h : g.trainerOf w.gid = none) :
    Run (train w tr lb) g () (g.pushTrain ⟨w.gid, w.uid, w.actor, tr, lb⟩) := by
  unfold Run train
  simp only [hs, h]
  rfl

theorem run_derived (w : WRef) (g : Graph) :
    Run (derived w) g (w.actor.stateful && g.trains.any (fun t => t.gid == w.gid && t.node != w.uid)) g := rfl

@[simp] theorem set_live (W : World) (u v r n) : (W.set u v r).live n ↔ (n = u ∨ W.live n) := Iff.rfl
@[simp] theorem set_h_self (W : World) (u v r) : (W.set u v r).h u = r := by simp [World.set]
theorem set_h_other (W : World) (u v r n) (h : n ≠ u) : (W.set u v r).h n = W.h n := by simp [World.set, h]
@[simp] theorem set_σ_self (W : World) (u v r i) : (W.set u v r).σ ⟨u, i⟩ = v i := by simp [World.set]
theorem set_σ_other (W : World) (u v r) (p : PubRef) (h : p.node ≠ u) : (W.set u v r).σ p = W.σ p := by simp [World.set, h]

def Agree (b : Nat) (W W' : World) : Prop :=
  ∀ n, n < b → (W'.live n ↔ W.live n) ∧ W'.h n = W.h n ∧ ∀ i, W'.σ ⟨n, i⟩ = W.σ ⟨n, i⟩

theorem Agree.refl (b : Nat) (W : World) : Agree b W W := fun _ _ => ⟨Iff.rfl, rfl, fun _ => rfl⟩

theorem Agree.trans {b b' W1 W2 W3} (h12 : Agree b W1 W2) (h23 : Agree b' W2 W3) (hb : b ≤ b') : Agree b W1 W3 := by
  intro n hn
  obtain ⟨a1, a2, a3⟩ := h12 n hn
  obtain ⟨b1, b2, b3⟩ := h23 n (by omega)
  exact ⟨b1.trans a1, b2.trans a2, fun i => (b3 i).trans (a3 i)⟩

theorem RefOk.agree {b W W' q r} (ha : Agree b W W') (hq : q.node < b) (h : RefOk W q r) : RefOk W' q r := by
  obtain ⟨a1, a2, _⟩ := ha q.node hq
  exact ⟨a1.mpr h.1, by rw [a2]; exact h.2⟩

theorem Agree.σ {b W W'} (ha : Agree b W W') (q : PubRef) (hq : q.node < b) : W'.σ q = W.σ q :=
  (ha q.node hq).2.2 q.idx

theorem RefOk.set {W q r} (h : RefOk W q r) {u} (hu : ¬ W.live u) (v r') :
    RefOk (W.set u v r') q r ∧ (W.set u v r').σ q = W.σ q :=
  have hne : q.node ≠ u := fun e => hu (e ▸ h.1)
  ⟨⟨Or.inr h.1, by rw [set_h_other _ _ _ _ _ hne]; exact h.2⟩, set_σ_other _ _ _ _ q hne⟩

theorem Inv.extend {g g' W W'} (hi : Inv g W) (hf : Frame g g') (hb : Bounded g') (ha : Agree g.next W W')
    (hlt : ∀ n, W'.live n → n < g'.next ∧ W'.h n < g'.next)
    (hnew : ∀ n, W'.live n → g.next ≤ n → GoodNode g' W' n) : Inv g' W' := by
  refine ⟨hb.nodesLt, hb.gidsLt, hb.edgesLt, hb.trainsLt, hlt, fun n hl => ?_⟩
  by_cases hn : n < g.next
  · have hold : ∀ q : PubRef, W.live q.node → q.node < g.next := fun q hq => (hi.liveLt _ hq).1
    exact (hi.good n ((ha n hn).1.mp hl)).mono (hf.kind n hn) (fun k => hf.input n k hn)
      (fun gid _ _ _ hk => hf.trainer gid (hi.bounded.gid_lt hk)) (ha n hn).2.2
      fun q hq => ⟨by rw [(ha n hn).2.1]; exact hq.agree ha (hold q hq.1), ha.σ q (hold q hq.1)⟩
  · exact hnew n hl (by omega)

theorem Inv.ofFrame {g g' W} (hi : Inv g W) (hf : Frame g g') (hb : Bounded g') : Inv g' W :=
  hi.extend hf hb (Agree.refl _ _)
    (fun n hl => by have := hi.liveLt n hl; have := hf.next_le; omega)
    (fun n hl hn => by have := (hi.liveLt n hl).1; omega)

/-- everything an old live node refers to is live in `W`, hence different from `u` -/
theorem Inv.setLive {g W} (hi : Inv g W) (u : Nat) (v : Nat → Val) (r : Nat) (hu : ¬ W.live u) (hun : u < g.next)
    (hr : r < g.next) (hg : GoodNode g (W.set u v r) u) : Inv g (W.set u v r) := by
  have hne : ∀ n, W.live n → n ≠ u := fun n hl e => hu (e ▸ hl)
  refine ⟨hi.nodesLt, hi.gidsLt, hi.edgesLt, hi.trainsLt, ?_, ?_⟩
  · rintro n (rfl | hl)
    · rw [set_h_self]; exact ⟨hun, hr⟩
    · rw [set_h_other _ _ _ _ _ (hne n hl)]; exact hi.liveLt n hl
  · rintro n (rfl | hl)
    · exact hg
    · refine (hi.good n hl).mono rfl (fun _ => rfl) (fun _ _ _ _ _ => rfl)
        (fun i => set_σ_other _ _ _ _ ⟨n, i⟩ (hne n hl)) fun q hq => ?_
      rw [set_h_other _ _ _ _ _ (hne n hl)]
      exact hq.set hu v r

theorem Inv.pushEdge {g W} (hi : Inv g W) (e : Edge) (hlt : e.sub < g.next)
    (hg : W.live e.sub → GoodNode (g.pushEdge e) W e.sub) : Inv (g.pushEdge e) W := by
  have hb := hi.bounded.pushEdge e hlt
  refine ⟨hb.nodesLt, hb.gidsLt, hb.edgesLt, hb.trainsLt, hi.liveLt, fun n hn => ?_⟩
  by_cases hne : e.sub = n
  · exact hne ▸ hg (hne ▸ hn)
  · exact (hi.good n hn).mono rfl (inputOf_pushEdge_ne hne) (fun _ _ _ _ _ => rfl) (fun _ => rfl) fun q hq => ⟨hq, rfl⟩

theorem Inv.pushTrain {g W} (hi : Inv g W) (T : Training) (hlt : T.gid < g.next)
    (hnl : ∀ n, W.live n → ∀ a i o, g.kindOf n ≠ some (.worker T.gid a i o)) : Inv (g.pushTrain T) W := by
  have hb := hi.bounded.pushTrain T hlt
  refine ⟨hb.nodesLt, hb.gidsLt, hb.edgesLt, hb.trainsLt, hi.liveLt, fun n hn => ?_⟩
  exact (hi.good n hn).mono rfl (fun _ => rfl)
    (fun gid a i o hk => trainerOf_pushTrain_ne fun e => hnl n hn a i o (by rw [e]; exact hk)) (fun _ => rfl)
    fun q hq => ⟨hq, rfl⟩

/-- binding a live hole: the new subscription only adds the local constraint of the hole -/
theorem Inv.bindFuture {g W} (hi : Inv g W) (u : Nat) (q : PubRef) (hl : W.live u) (ho : g.isOpen u)
    (hq : RefOk W q (W.h u)) (hσ : ∀ i, W.σ ⟨u, i⟩ = W.σ q) : Inv (g.pushEdge ⟨u, 0, q⟩) W :=
  hi.pushEdge ⟨u, 0, q⟩ (hi.liveLt u hl).1 fun _ => .bound ho.1 (inputOf_pushEdge_self (e := ⟨u, 0, q⟩) ho.2) hq hσ

/-- the collectors are filled port by port -/
theorem range_map_update {α} (n : Nat) (f : Nat → α) (x : α) :
    (List.range (n + 1)).map (fun k => if k = n then x else f k) = (List.range n).map f ++ [x] := by
  rw [List.range_succ, List.map_append, List.map_singleton, if_pos rfl]
  exact congrArg (· ++ [x]) (List.map_congr_left fun k hk => if_neg (Nat.ne_of_lt (List.mem_range.mp hk)))

end ForML.Compose
