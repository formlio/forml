/- Section resolution (`Model/ConfSection.lean`, C20): `resolveSection` as `Section.__new__` + `extractKw`; `sortE` gives a
sorted permutation that does not depend on the order in which the references are listed; `Provider._extract` key by key. -/
import ForML.Model.ConfSection
import ForML.Lemmas.C20Conf
import ForML.Lemmas.ListFacts

namespace ForML.Conf

/-- `resolveSection` (Model/Conf.lean) is `Section.__new__` + the extraction `extractKw` on the section's options -/
theorem resolveSection_extract (cfg : Cfg) (g r kp kq : Nat) :
    resolveSection cfg g r kp kq =
      match child cfg g with
      | none => .error .missing
      | some (.table gt) =>
        (match lookup r gt with
         | none => .error .missing
         | some (.table kw) => extractKw kw kp kq
         | some _ => .error .malformed)
      | some _ => .error .malformed := by
  unfold resolveSection
  cases child cfg g with
  | none => rfl
  | some v =>
    cases v with
    | scalar _ => rfl
    | list _ => rfl
    | table gt =>
      simp only
      cases lookup r gt with
      | none => rfl
      | some s =>
        cases s with
        | scalar _ => rfl
        | list _ => rfl
        | table kw => rfl

/-- `a` may stand before `b` -/
def Entry.le (a b : Entry) : Bool := !b.lt a

theorem Entry.le_iff (a b : Entry) : a.le b = true ↔ a.prio < b.prio ∨ (a.prio = b.prio ∧ a.ref ≤ b.ref) := by
  unfold Entry.le Entry.lt
  by_cases h : b.prio = a.prio
  · rw [if_pos h]; simp only [Bool.not_eq_true', decide_eq_false_iff_not]; omega
  · rw [if_neg h]; simp only [Bool.not_eq_true', decide_eq_false_iff_not]; omega

theorem Entry.le_total (a b : Entry) : a.le b = true ∨ b.le a = true := by
  rw [Entry.le_iff, Entry.le_iff]; omega

theorem Entry.le_trans {a b c : Entry} (h1 : a.le b = true) (h2 : b.le c = true) : a.le c = true := by
  rw [Entry.le_iff] at *; omega

theorem Entry.le_of_lt {a b : Entry} (h : a.lt b = true) : a.le b = true := by
  rw [Entry.le_iff]
  simp only [Entry.lt] at h
  by_cases hp : a.prio = b.prio
  · simp only [hp, if_true, decide_eq_true_eq] at h; omega
  · simp only [hp, if_false, decide_eq_true_eq] at h; omega

theorem insertE_isInsert : IsInsert insertE (fun e x => e.lt x) := ⟨fun _ => rfl, fun _ _ _ => rfl⟩

theorem sortE_perm (l : List Entry) : (sortE l).Perm l := by
  simpa [sortE] using insertE_isInsert.foldl_perm l []

def SortedE (l : List Entry) : Prop := l.Pairwise (fun a b => a.le b = true)

theorem sortE_sorted (l : List Entry) : SortedE (sortE l) :=
  insertE_isInsert.foldl_pairwise (fun _ _ h => Entry.le_of_lt h) (fun e x h => by simp [Entry.le, h])
    (fun _ _ _ => Entry.le_trans) l .nil

/-- entries that `Feed.__lt__` cannot tell apart are the same entry (distinct (priority, provider) keys) -/
def KeysDistinct (l : List Entry) : Prop := ∀ a ∈ l, ∀ b ∈ l, a.prio = b.prio → a.ref = b.ref → a = b

theorem sortE_perm_eq {l l' : List Entry} (hp : l.Perm l') (hk : KeysDistinct l) : sortE l = sortE l' := by
  apply List.Perm.eq_of_pairwise (le := fun a b => a.le b = true)
  · intro a b ha hb h1 h2
    have ha' : a ∈ l := (sortE_perm l).mem_iff.1 ha
    have hb' : b ∈ l := hp.mem_iff.2 ((sortE_perm l').mem_iff.1 hb)
    rw [Entry.le_iff] at h1 h2
    exact hk a ha' b hb' (by omega) (by omega)
  · exact sortE_sorted l
  · exact sortE_sorted l'
  · exact ((sortE_perm l).trans hp).trans (sortE_perm l').symm

/-- `entries` is a `mapM`: it succeeds iff every reference resolves, and then lists, in order, what they resolve to -/
theorem entries_ok_iff (cfg : Cfg) (group kp kq kr prio0 : Nat) (rs : List Nat) (xs : List Entry) :
    entries cfg group kp kq kr prio0 rs = .ok xs ↔
      (∀ r ∈ rs, ∃ x, feedEntry cfg group r kp kq kr prio0 = .ok x) ∧
        xs = rs.filterMap (fun r => (feedEntry cfg group r kp kq kr prio0).toOption) := by
  induction rs generalizing xs with
  | nil => simp [entries, eq_comm]
  | cons r rest ih =>
    simp only [entries, List.forall_mem_cons, List.filterMap_cons]
    cases hf : feedEntry cfg group r kp kq kr prio0 with
    | error e => simp
    | ok x =>
      cases he : entries cfg group kp kq kr prio0 rest with
      | error e =>
        simp only [reduceCtorEq, false_iff]
        rintro ⟨⟨_, hall⟩, _⟩
        have := (ih _).2 ⟨hall, rfl⟩
        rw [he] at this
        cases this
      | ok ys =>
        obtain ⟨hall, rfl⟩ := (ih ys).1 he
        simp only [Except.ok.injEq, Except.toOption, exists_eq', true_and]
        exact ⟨fun h => ⟨hall, h.symm⟩, fun h => h.2.symm⟩

theorem entries_perm (cfg : Cfg) (group kp kq kr prio0 : Nat) {rs rs' : List Nat} (hp : rs.Perm rs') (xs : List Entry)
    (h : entries cfg group kp kq kr prio0 rs = .ok xs) :
    ∃ xs', entries cfg group kp kq kr prio0 rs' = .ok xs' ∧ xs.Perm xs' := by
  obtain ⟨hall, rfl⟩ := (entries_ok_iff cfg group kp kq kr prio0 rs xs).1 h
  exact ⟨_, (entries_ok_iff cfg group kp kq kr prio0 rs' _).2 ⟨fun r hr => hall r (hp.mem_iff.2 hr), rfl⟩, hp.filterMap _⟩

theorem entries_error (cfg : Cfg) (group kp kq kr prio0 : Nat) (rs : List Nat) (r : Nat) (hr : r ∈ rs) (e : SecErr)
    (h : feedEntry cfg group r kp kq kr prio0 = .error e) :
    ∃ e', entries cfg group kp kq kr prio0 rs = .error e' := by
  cases he : entries cfg group kp kq kr prio0 rs with
  | error e' => exact ⟨e', rfl⟩
  | ok xs =>
    obtain ⟨x, hx⟩ := ((entries_ok_iff cfg group kp kq kr prio0 rs xs).1 he).1 r hr
    rw [h] at hx
    cases hx

theorem lookup_filter_ne (k j : Nat) (t : Tbl) :
    lookup k (t.filter (fun e => e.1 != j)) = if k = j then none else lookup k t := by
  simp only [lookup_eq]
  exact ForML.lookup_filter_ne k j t

/-- the options that survive the two `pop`s -/
def restKw (kw : Tbl) (kp kq k : Nat) : Option Cfg := if k = kp ∨ k = kq then none else lookup k kw

theorem lookup_rest (kw : Tbl) (kp kq k : Nat) :
    lookup k ((kw.filter (fun e => e.1 != kp)).filter (fun e => e.1 != kq)) = restKw kw kp kq k := by
  rw [lookup_filter_ne, lookup_filter_ne, restKw]
  by_cases h1 : k = kq <;> by_cases h2 : k = kp <;> simp [h1, h2]

/-- no `params` table: the provider option is taken out, everything else is a generic option as written -/
theorem extractKw_plain (kw : Tbl) (kp kq : Nat) (hne : kq ≠ kp) (h : lookup kq kw = none) :
    ∃ out, extractKw kw kp kq = .ok (lookup kp kw, out) ∧ ∀ k, lookup k out = restKw kw kp kq k := by
  have hq : lookup kq (kw.filter (fun e => e.1 != kp)) = none := by rw [lookup_filter_ne]; simp [hne, h]
  exact ⟨_, by simp only [extractKw, hq], lookup_rest kw kp kq⟩

/-- a `params` table: its entries win over the section's own options of the same name (`dict.update`), `provider` and
`params` themselves are gone unless `params` brings them back -/
theorem extractKw_params (kw : Tbl) (kp kq : Nat) (ps : Tbl) (hne : kq ≠ kp) (h : lookup kq kw = some (.table ps)) :
    ∃ out, extractKw kw kp kq = .ok (lookup kp kw, out) ∧
      ∀ k, lookup k out = match lookup k ps with
        | some v => some v
        | none => restKw kw kp kq k := by
  have hq : lookup kq (kw.filter (fun e => e.1 != kp)) = some (.table ps) := by rw [lookup_filter_ne]; simp [hne, h]
  refine ⟨_, by simp only [extractKw, hq]; rfl, fun k => ?_⟩
  rw [lookup_append, lookup_filter_absent, lookup_rest]
  cases lookup k ps with
  | some v => simp
  | none => cases restKw kw kp kq k <;> rfl

/-- `params` that is not a table: the resolution fails, it never yields the remaining options only -/
theorem extractKw_malformed (kw : Tbl) (kp kq : Nat) (v : Cfg) (hne : kq ≠ kp) (h : lookup kq kw = some v)
    (hv : ∀ ps, v ≠ .table ps) : extractKw kw kp kq = .error .malformed := by
  have hq : lookup kq (kw.filter (fun e => e.1 != kp)) = some v := by rw [lookup_filter_ne]; simp [hne, h]
  cases v with
  | table ps => exact absurd rfl (hv ps)
  | scalar _ => simp only [extractKw, hq]
  | list _ => simp only [extractKw, hq]

end ForML.Conf
