/-
C01 — `flow.Segment(head, tail)` accepts every well-formed connected segment (`Segment.construct = .ok ()`): the head is
simple, the tail search of `Traversal.tail(expected)` (`existsE`: no global `seen` set, `Cyclic` when a subscriber is on
the current path, `any` stopping at the first hit) neither raises `Cyclic` nor misses the tail, and the tail is simple.
-/
import ForML.Lemmas.C01Traversal

namespace ForML.Flow
namespace Segment

theorem mem_mappers {g : Segment} {n m : Uid} :
    m ∈ g.mappers n ↔ ∃ w e, g.worker? n = some w ∧ e ∈ g.edges ∧ e.pub = w.uid ∧ e.pubPort < w.szout ∧ e.sub = m ∧
      g.trained m = false := by
  unfold mappers
  cases hw : g.worker? n with
  | none => simp
  | some w =>
    simp only [List.mem_filter, List.mem_map, mem_outEdges, Bool.not_eq_true']
    constructor
    · rintro ⟨⟨e, ⟨he, hp, hi⟩, rfl⟩, ht⟩
      exact ⟨w, e, rfl, he, hp, hi, rfl, ht⟩
    · rintro ⟨w', e, hw', he, hp, hi, rfl, ht⟩
      cases hw'
      exact ⟨⟨e, ⟨he, hp, hi⟩, rfl⟩, ht⟩

/-- a path along mapper subscriptions from `n` to `t` -/
inductive MPath (g : Segment) (t : Uid) : Uid → Prop where
  | here : MPath g t t
  | step {n m : Uid} : m ∈ g.mappers n → MPath g t m → MPath g t n

theorem anyE_ok {l : List Uid} {k : Uid → Except SErr Bool} (h : ∀ m ∈ l, ∃ b, k m = .ok b) :
    ∃ b, anyE l k = .ok b ∧ ((∃ m ∈ l, k m = .ok true) → b = true) := by
  induction l with
  | nil => exact ⟨false, rfl, fun ⟨_, hm, _⟩ => by cases hm⟩
  | cons x r ih =>
    obtain ⟨bx, hbx⟩ := h x (by simp)
    obtain ⟨br, hr, hrt⟩ := ih (fun m hm => h m (List.mem_cons_of_mem _ hm))
    cases bx with
    | true => exact ⟨true, by simp [anyE, hbx], fun _ => rfl⟩
    | false =>
      refine ⟨br, by simp [anyE, hbx, hr], ?_⟩
      rintro ⟨m, hm, hkm⟩
      rcases List.mem_cons.mp hm with rfl | hm
      · rw [hbx] at hkm; cases hkm
      · exact hrt ⟨m, hm, hkm⟩

/-- the path ranks below the current node and a subscriber above it, so no subscriber is on the path; a step spends one
unit of fuel and raises the bounded rank `cntW` by at least one, so `f + cntW rank n` stays above `workers.length` and
the fuel does not run out -/
theorem existsE_ok {g : Segment} {rank : Uid → Nat} (hw : WF g rank) (t : Uid) :
    ∀ (f : Nat) (path : List Uid) (n : Uid), (∀ x ∈ path, rank x < rank n) →
      g.workers.length < f + g.cntW rank n →
      ∃ b, g.existsE t f path n = .ok b ∧ (MPath g t n → b = true) := by
  intro f
  induction f with
  | zero =>
    intro path n _ hf
    have := cntW_le g rank n
    omega
  | succ f ih =>
    intro path n hpath hf
    simp only [existsE]
    by_cases hnt : n = t
    · rw [if_pos hnt]
      exact ⟨true, rfl, fun _ => rfl⟩
    · rw [if_neg hnt]
      have hk : ∀ m ∈ g.mappers n, ∃ b,
          (if (n :: path).contains m then Except.error SErr.cyclic else g.existsE t f (n :: path) m) = .ok b ∧
            (MPath g t m → b = true) := by
        intro m hm
        obtain ⟨w, e, hwn, he, hpub, _, hsub, _⟩ := mem_mappers.mp hm
        have hok := hw.edge e he
        have hnid : w.uid = n := (worker?_some hwn).2
        have hrk : rank n < rank m := by have := hok.rank; rw [hpub, hnid, hsub] at this; exact this
        obtain ⟨s, hs, _⟩ := hok.sub
        obtain ⟨hsm, hsid⟩ := worker?_some hs
        rw [hsub] at hsid
        have hnc : (n :: path).contains m = false := by
          cases hc : (n :: path).contains m with
          | false => rfl
          | true =>
            rcases List.mem_cons.mp (List.contains_iff_mem.mp hc) with h | h
            · rw [h] at hrk; omega
            · have := hpath m h; omega
        simp only [hnc]
        apply ih (n :: path) m
        · intro x hx
          rcases List.mem_cons.mp hx with rfl | hx
          · exact hrk
          · exact Nat.lt_trans (hpath x hx) hrk
        · have := cntW_lt (g := g) (rank := rank) hsm (p := n) (by rw [hsid]; exact hrk)
          rw [hsid] at this
          omega
      obtain ⟨b, hb, hbt⟩ := anyE_ok (l := g.mappers n)
        (k := fun m => if (n :: path).contains m then Except.error SErr.cyclic else g.existsE t f (n :: path) m)
        (fun m hm => let ⟨b, h1, _⟩ := hk m hm; ⟨b, h1⟩)
      refine ⟨b, hb, fun hp => ?_⟩
      cases hp with
      | here => exact absurd rfl hnt
      | @step _ m hm hp' =>
        obtain ⟨bm, h1, h2⟩ := hk m hm
        exact hbt ⟨m, hm, by rw [h1, h2 hp']⟩

/-- nothing but itself is reachable from a node without followed subscribers -/
theorem reach_of_no_followed {g : Segment} {a x : Uid} (h : g.followed a = []) (hr : Reach g.followed a x) : x = a := by
  induction hr with
  | refl => rfl
  | step _ hc ih => rw [ih, h] at hc; cases hc

/-- a trained head publishes nothing, so only the head is reachable from it, yet the publisher of its train port is a
reachable member ranking below it -/
theorem head_not_trained {g : Segment} {rank : Uid → Nat} (hw : WF g rank) (hc : g.connected = true) :
    g.trained g.head = false := by
  cases htr : g.trained g.head with
  | false => rfl
  | true =>
    exfalso
    obtain ⟨w, hwm, hid⟩ := mem_uids.mp hw.head
    have hok := hw.trainedOK hwm (by rw [hid]; exact htr)
    obtain ⟨x, hx⟩ := hok.train
    obtain ⟨hxe, hxs, _⟩ := publisher_some hx
    have hex := hw.edge x hxe
    obtain ⟨p, hp, _⟩ := hex.pub
    obtain ⟨hpm, hpid⟩ := worker?_some hp
    have hreach := reach_of_connected hw hc x.pub (mem_uids.mpr ⟨p, hpm, hpid⟩)
    have hnof : g.followed g.head = [] := by
      cases hf : g.followed g.head with
      | nil => rfl
      | cons m r =>
        have hm : m ∈ g.followed g.head := by rw [hf]; exact List.mem_cons_self
        obtain ⟨w', e, hw', he, hpub, _, _, _⟩ := mem_followed.mp hm
        have : w'.uid = g.head := (worker?_some hw').2
        exact absurd (by rw [hpub, this, hid]) (hok.noOut e he)
    have := reach_of_no_followed hnof hreach
    have hr := hex.rank
    rw [this, hxs, hid] at hr
    omega

theorem mpath_of_reach {g : Segment} {rank : Uid → Nat} (hw : WF g rank) (htt : g.trained g.tail = false) {a c : Uid}
    (hr : Reach g.followed a c) (hp : MPath g g.tail c) : MPath g g.tail a := by
  induction hr with
  | refl => exact hp
  | @step b c _ hc ih =>
    apply ih
    obtain ⟨w, e, hwb, he, hpub, hport, hsub, _⟩ := mem_followed.mp hc
    have hnt : g.trained c = false := by
      cases htr : g.trained c with
      | false => rfl
      | true =>
        exfalso
        cases hp with
        | here => rw [htt] at htr; cases htr
        | step hm _ =>
          obtain ⟨w', e', hw', he', hpub', _, _, _⟩ := mem_mappers.mp hm
          obtain ⟨hwm', hid'⟩ := worker?_some hw'
          exact (hw.trainedOK hwm' (by rw [hid']; exact htr)).noOut e' he' hpub'
    exact .step (mem_mappers.mpr ⟨w, e, hwb, he, hpub, hport, hsub, hnt⟩) hp

/-- **`flow.Segment(head, tail)` accepts every well-formed connected segment** -/
theorem construct_ok {g : Segment} {rank : Uid → Nat} (h : g.wf rank = true) (hc : g.connected = true) :
    g.construct = .ok () := by
  have hw := wf_WF h
  obtain ⟨t, ht, hszout, htt⟩ := wf_tail h
  obtain ⟨hd, hdm, hdid⟩ := mem_uids.mp hw.head
  have hhd : g.worker? g.head = some hd := by rw [← hdid]; exact worker?_of_mem hw.nodup hdm
  have hszin : hd.szin ≤ 1 := ((hw.appliedOK hdm (hdid ▸ head_not_trained hw hc)).head hdid).1
  have hmp : MPath g g.tail g.head :=
    mpath_of_reach hw htt (reach_of_connected hw hc g.tail hw.tail) .here
  obtain ⟨b, hb, hbt⟩ := existsE_ok hw g.tail (g.workers.length + 1) [] g.head (by simp) (by omega)
  have hbtrue := hbt hmp
  subst hbtrue
  simp only [construct, hhd, ht, hb]
  simp [Nat.not_lt.mpr hszin, Nat.not_lt.mpr hszout]

end Segment
end ForML.Flow
