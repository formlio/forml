/-
C03 — operators written against the public composition API (`Compose.ApiOp`): each realises its hand-written
denotation (`denoteApi`), for either value of the flag `full` of `Spec`.  The `extend` form is three optional one-path
steps, each `left.extend(<path>=worker)` with the two omitted segments kept as they are (tails included);
`left.use(<path>=left.<path>.extend(worker))` is the same construction.
-/
import ForML.Lemmas.C03Body

namespace ForML.Compose

/-- `Trunk.use` of an extended segment is `Trunk.extend` with that segment alone supplied -/
theorem apiUnary_use (p : Path) (tag : Nat) (left : Trunk) : apiUnary p true tag left = apiUnary p false tag left := by
  funext g
  cases p <;>
    simp only [apiUnary, if_true, Bool.false_eq_true, if_false, Trunk.extend, Trunk.extendOpt, Trunk.use, Trunk.seg,
      bind_apply, pure_apply, Option.getD_some, Option.getD_none] <;>
    (repeat' split) <;> first | rfl | simp_all

theorem spec_apiUnary {full : Prop} {m : GraphM Trunk} {S : Scope} (hs : Spec full m S) (p : Path) (tag : Nat) :
    Spec full (do let left ← m; apiUnary p false tag left)
      (fun xa xt xl => (S xa xt xl).set p (.apply tag .none [(S xa xt xl).get p])) := by
  intro g W xa xt xl r hi hw hr
  obtain ⟨left, g1, W1, hrun1, h1⟩ := hs g W xa xt xl r hi hw hr
  have hgg := h1.frame.next_le
  have b1 := Body.start h1 hr (fun n => p = .apply ∧ n = g1.next)
  obtain ⟨g2, r2, n2, -, b2, c2, -⟩ := b1.newWorker rfl ⟨tag, false⟩ 1
  have hq : PubOk W1 (left.seg p).publisher (r + (g1.next - g.next)) ((S xa xt xl).get p) ∧ g.next ≤ (left.seg p).tail := by
    cases p
    · exact ⟨(b2.tails h1).1, h1.tails_ge.1⟩
    · exact ⟨(b2.tails h1).2.1, h1.tails_ge.2.1⟩
    · exact ⟨(b2.tails h1).2.2, h1.tails_ge.2.2⟩
  obtain ⟨-, b3, c3⟩ := b2.push c2 (Nat.le_refl _) (left.seg p).publisher (b2.old_lt hq.1.live) hq.2
    (fun h => by obtain ⟨rfl, -⟩ := h; exact Reach.refl)
    (fun h => by
      cases p
      · exact absurd ⟨rfl, rfl⟩ h
      · exact Or.inl rfl
      · exact Or.inr (Or.inl rfl))
  obtain ⟨W2, b4, ad⟩ := b3.mkLive c3 (Nat.le_refl _) (Nat.le_succ _) (r + (g1.next - g.next))
    (by show _ < r + (g2.next - g.next); omega) .none (.stateless rfl)
    (v := fun _ => (S xa xt xl).get p) (fun k hk => by obtain rfl := Nat.lt_one_iff.mp hk; exact hq.1)
  have hnew : W2.live g1.next ∧ W2.σ ⟨g1.next, 0⟩ = .apply tag .none [(S xa xt xl).get p] :=
    ⟨(ad.pub 0).live, (ad.pub 0).val⟩
  have hfree := c2.free 0 (Nat.le_refl _)
  refine ⟨left.withTail p g1.next, _, W2, Run.bind hrun1 ?_,
    b4.finishPath h1 p hnew (Nat.le_refl _) (fun _ h => nomatch h) _ (by cases p <;> exact (List.append_nil _).symm)
      (fun n _ h => h.2 ▸ hnew.1) (fun e => by subst e; exact Reach.one Reach.refl (c3.filled 0 (Nat.lt_succ_self 0)))
      (fun h ha => h ha.1)⟩
  unfold apiUnary
  refine Run.bind r2 ?_
  simp only [Bool.false_eq_true, if_false]
  cases p
  · exact run_trunk_extend (run_extendOpt_seg _ _ _ hfree) (run_extendOpt_none _ _) (run_extendOpt_none _ _)
  · exact run_trunk_extend (run_extendOpt_none _ _) (run_extendOpt_seg _ _ _ hfree) (run_extendOpt_none _ _)
  · exact run_trunk_extend (run_extendOpt_none _ _) (run_extendOpt_none _ _) (run_extendOpt_seg _ _ _ hfree)

theorem spec_monitor {full : Prop} {m : GraphM Trunk} {S : Scope} (hs : Spec full m S) (a : Actor) (ha : a.stateful = true) :
    Spec full (composeApi (.monitor a) m) (denoteApi (.monitor a) S) := by
  intro g W xa xt xl r hi hw hr
  obtain ⟨left, g1, W1, hrun1, h1⟩ := hs g W xa xt xl r hi hw hr
  have b1 := Body.start h1 hr (fun _ => False)
  obtain ⟨g2, r2, n2, -, b2, -, hnt⟩ := b1.newWorker rfl a 1
  obtain ⟨r3, b3⟩ := b2.train g1.next (g1.next + 1) a 1 1 left.train.publisher left.label.publisher ha (Nat.le_succ _)
    (by omega) hnt (fun n hn hl => absurd (h1.inv.liveLt n hl).1 (Nat.not_lt.mpr hn))
  refine ⟨left, _, W1, ?_, b3.finish h1 left rfl rfl rfl _ h1.ta h1.tt h1.tl
    (fun x hx => by rw [List.mem_singleton.mp hx]; exact ⟨h1.tt.1, h1.tl.1⟩) ?_ h1.tails_ge (fun _ _ h => h.elim)
    Reach.refl (Or.inl rfl) (Or.inl rfl)⟩
  · unfold composeApi
    exact Run.bind hrun1 (Run.bind r2 (Run.bind r3 (Run.pure _ _)))
  show _ ++ [(a.tag, trainedState a _ _)] = _ ++ [(a.tag, Val.state a.tag .none (W1.σ left.train.publisher) (W1.σ left.label.publisher))]
  rw [trainedState, if_pos ha, ← h1.tt.2, ← h1.tl.2]
  rfl

theorem spec_tee {full : Prop} {m : GraphM Trunk} {S : Scope} (hs : Spec full m S) (tag : Nat) :
    Spec full (composeApi (.tee tag) m) (denoteApi (.tee tag) S) := by
  intro g W xa xt xl r hi hw hr
  obtain ⟨left, g1, W1, hrun1, h1⟩ := hs g W xa xt xl r hi hw hr
  have b1 := Body.start h1 hr (fun _ => False)
  obtain ⟨g2, r2, n2, -, b2, c2, -⟩ := b1.newWorker rfl ⟨tag, false⟩ 1
  obtain ⟨r3, b3, -⟩ := b2.push c2 (Nat.le_refl _) left.train.publisher (b2.old_lt h1.tt.1) h1.tails_ge.2.1
    (fun h => h.elim) (fun _ => Or.inl rfl)
  refine ⟨left, _, W1, ?_, b3.finish h1 left rfl rfl rfl _ h1.ta h1.tt h1.tl (fun _ h => nomatch h)
    (List.append_nil _).symm h1.tails_ge
    (fun _ _ h => h.elim) Reach.refl (Or.inl rfl) (Or.inl rfl)⟩
  unfold composeApi
  exact Run.bind hrun1 (Run.bind r2 (Run.bind r3 (Run.pure _ _)))

theorem spec_labelMix {full : Prop} {m : GraphM Trunk} {S : Scope} (hs : Spec full m S) (tag : Nat) :
    Spec full (composeApi (.labelMix tag) m) (denoteApi (.labelMix tag) S) := by
  intro g W xa xt xl r hi hw hr
  obtain ⟨left, g1, W1, hrun1, h1⟩ := hs g W xa xt xl r hi hw hr
  have hgg := h1.frame.next_le
  have ne10 : g1.next + 1 ≠ g1.next := Nat.succ_ne_self _
  have b1 := Body.start h1 hr (fun _ => False)
  obtain ⟨g2, r2, n2, -, b2, kH, frH, nlH⟩ := b1.newFuture rfl
  obtain ⟨g3, r3, n3, f3, b3, c3, -⟩ := b2.newWorker (u := g1.next + 1) n2 ⟨tag, false⟩ 2
  obtain ⟨r4, b4, c4⟩ := b3.push c3 (Nat.le_succ _) ⟨g1.next, 0⟩ (by show g1.next < g3.next; omega) hgg (fun h => h.elim)
    (fun _ => Or.inr (Or.inr ⟨Nat.le_refl _, id⟩))
  obtain ⟨r5, b5, c5⟩ := b4.push c4 (Nat.le_succ _) left.train.publisher (b4.old_lt h1.tt.1) h1.tails_ge.2.1
    (fun h => h.elim) (fun _ => Or.inl rfl)
  have kH3 : g3.kindOf g1.next = some .future := (f3.kind _ (by omega)).trans kH
  have frH5 : ((g3.pushEdge ⟨g1.next + 1, 0, ⟨g1.next, 0⟩⟩).pushEdge ⟨g1.next + 1, 1, left.train.publisher⟩).inputOf
      g1.next 0 = none :=
    (inputOf_pushEdge_ne ne10 0).trans ((inputOf_pushEdge_ne ne10 0).trans ((f3.input _ _ (by omega)).trans (frH 0)))
  -- `left.extend(label=Segment(head, mixer))` binds the head to the label tail
  obtain ⟨-, b6⟩ := b5.edge (Nat.le_refl _) nlH (by show g1.next < g3.next; omega) frH5 left.label.publisher
    (b5.old_lt h1.tl.1) h1.tails_ge.2.2 (fun h => h.elim) (fun _ => Or.inr (Or.inl rfl))
  have pl := (b6.tails h1).2.2
  obtain ⟨W2, b7, adH⟩ := b6.liveFuture (Nat.le_refl _) nlH kH3 (inputOf_pushEdge_self frH5) (r + (g1.next - g.next))
    (by show _ < r + (g3.next - g.next); omega) ⟨pl.live, pl.rank⟩
  have pt := (b7.tails h1).2.1
  obtain ⟨W3, b8, adM⟩ := b7.mkLive ((c5.pushEdge ⟨g1.next, 0, left.label.publisher⟩ ne10).adds adH ne10) (Nat.le_succ _)
    (Nat.le_add_right _ 2) (r + (g1.next - g.next) + 1) (by show _ < r + (g3.next - g.next); omega) .none (.stateless rfl)
    (v := fun k => if k = 0 then (S xa xt xl).label else (S xa xt xl).train) (fun k hk => by
      match k, hk with
      | 0, _ => exact pl.val ▸ adH.pub 0
      | 1, _ => exact pt.mono (Nat.le_succ _))
  refine ⟨⟨left.apply, left.train, ⟨left.label.head, g1.next + 1⟩⟩, _, W3, ?_,
    b8.finishPath h1 .label (v := .apply tag .none [(S xa xt xl).label, (S xa xt xl).train])
      ⟨(adM.pub 0).live, (adM.pub 0).val⟩ (Nat.le_succ _) (fun _ h => nomatch h) _ (List.append_nil _).symm
      (fun _ _ h => h.elim) nofun (fun _ => id)⟩
  · unfold composeApi
    exact Run.bind hrun1 (Run.bind r2 (Run.bind r3 (Run.bind r4 (Run.bind r5 (run_trunk_extend (run_extendOpt_none _ _)
      (run_extendOpt_none _ _) (run_extendOpt_seg _ ⟨g1.next, g1.next + 1⟩ _ frH5))))))

/-- one optional `extend(<path>=worker)` on top of a scope -/
def mapPath (p : Path) (o : Option Nat) (S : Scope) : Scope := fun xa xt xl =>
  match o with
  | none => S xa xt xl
  | some t => (S xa xt xl).set p (.apply t .none [(S xa xt xl).get p])

theorem spec_apiUnaryOpt {full : Prop} {m : GraphM Trunk} {S : Scope} (hs : Spec full m S) (p : Path) (via : Bool)
    (o : Option Nat) : Spec full (m >>= apiUnaryOpt p via o) (mapPath p o S) := by
  cases o with
  | none =>
    have : (m >>= apiUnaryOpt p via none) = m := GraphM.bind_pure' m
    rw [this]
    exact hs
  | some t =>
    have h := spec_apiUnary hs p t
    cases via with
    | false => exact h
    | true =>
      have : (m >>= apiUnaryOpt p true (some t)) = (m >>= apiUnaryOpt p false (some t)) := by
        congr 1
        funext left
        exact apiUnary_use p t left
      rw [this]
      exact h

theorem denoteApi_extend (oa ot ol : Option Nat) (via : Bool) (S : Scope) :
    denoteApi (.extend oa ot ol via) S = mapPath .label ol (mapPath .train ot (mapPath .apply oa S)) := by
  funext xa xt xl
  cases oa <;> cases ot <;> cases ol <;> rfl

theorem composeApi_extend (oa ot ol : Option Nat) (via : Bool) (m : GraphM Trunk) :
    composeApi (.extend oa ot ol via) m =
      ((m >>= apiUnaryOpt .apply via oa) >>= apiUnaryOpt .train via ot) >>= apiUnaryOpt .label via ol := by
  rw [GraphM.bind_assoc', GraphM.bind_assoc']
  rfl

/-- **every operator of the family realises its denotation** (`monitor`: a trained actor is stateful) -/
theorem spec_api {full : Prop} {m : GraphM Trunk} {S : Scope} (hs : Spec full m S) (op : ApiOp)
    (hop : ∀ a, op = .monitor a → a.stateful = true) : Spec full (composeApi op m) (denoteApi op S) := by
  cases op with
  | extend oa ot ol via =>
    rw [composeApi_extend, denoteApi_extend]
    exact spec_apiUnaryOpt (spec_apiUnaryOpt (spec_apiUnaryOpt hs .apply via oa) .train via ot) .label via ol
  | labelMix tag => exact spec_labelMix hs tag
  | monitor a => exact spec_monitor hs a (hop a rfl)
  | tee tag => exact spec_tee hs tag

theorem trunk_extend_omitted (t : Trunk) (a tr l : Option Segment) (g : Graph) (t' : Trunk) (g' : Graph)
    (h : Run (t.extend a tr l) g t' g') :
    (a = none → t'.apply = t.apply) ∧ (tr = none → t'.train = t.train) ∧ (l = none → t'.label = t.label) := by
  unfold Trunk.extend at h
  obtain ⟨s1, g1, h1, h⟩ := h.bind_inv
  obtain ⟨s2, g2, h2, h⟩ := h.bind_inv
  obtain ⟨s3, g3, h3, h⟩ := h.bind_inv
  cases h
  -- an omitted segment: `extendOpt s none` is `pure s`
  exact ⟨fun e => by subst e; cases h1; rfl, fun e => by subst e; cases h2; rfl, fun e => by subst e; cases h3; rfl⟩

end ForML.Compose
