/-
What a registry call may change, on any tree: its footprint (`x` and `fs` agree outside `H`: `EqOff H x fs`).  What a fresh
reader rests on (`Protected`): a tree that `Keeps` it shows everything that was visible (`Keeps.grows`), and the same view
where no package and no tag is new (`Keeps.viewEq`).
-/
import ForML.Lemmas.C05WF
import ForML.Model.Registry

namespace ForML.Registry
open ForML.Fs

/-- indistinguishable for a fresh reader -/
def ViewEq (a b : Fs) : Prop := ∀ k, vis a k = vis b k

theorem ViewEq.refl (a : Fs) : ViewEq a a := fun _ => rfl
theorem ViewEq.symm {a b : Fs} (h : ViewEq a b) : ViewEq b a := fun k => (h k).symm
theorem ViewEq.trans {a b c : Fs} (h1 : ViewEq a b) (h2 : ViewEq b c) : ViewEq a c := fun k => (h1 k).trans (h2 k)

def EqOff (H : Path → Prop) (x fs : Fs) : Prop := ∀ key, ¬ H key → get x key = get fs key

theorem EqOff.refl (H : Path → Prop) (fs : Fs) : EqOff H fs fs := fun _ _ => rfl

theorem EqOff.mono {H H' : Path → Prop} {x fs : Fs} (h : EqOff H x fs) (hH : ∀ key, H key → H' key) : EqOff H' x fs :=
  fun key hk => h key fun hh => hk (hH key hh)

theorem EqOff.trans {H : Path → Prop} {x m fs : Fs} (h1 : EqOff H x m) (h2 : EqOff H m fs) : EqOff H x fs :=
  fun key hk => (h1 key hk).trans (h2 key hk)

theorem mem_mkdirP (fs : Fs) (path : Path) (op : Op) (h : op ∈ mkdirP fs path) :
    ∃ q ∈ prefixes path, op = .mkdir q ∧ get fs q = none := by
  simp only [mkdirP, List.mem_filterMap] at h
  obtain ⟨q, hq, hop⟩ := h
  split at hop <;> cases hop
  exact ⟨q, hq, rfl, by assumption⟩

theorem mem_prefixes {q path : Path} (h : q ∈ prefixes path) : q <+: path := by
  induction path generalizing q with
  | nil => cases h
  | cons s r ih =>
    rcases List.mem_cons.mp h with rfl | h
    · exact ⟨r, rfl⟩
    · obtain ⟨q', hq', rfl⟩ := List.mem_map.mp h
      exact List.cons_prefix_cons.mpr ⟨rfl, ih hq'⟩

/-- what `mkdir -p path` creates on `fs`: the missing directories at and above `path` -/
def Missing (fs : Fs) (path key : Path) : Prop := key ∈ prefixes path ∧ get fs key = none

theorem mkdirP_foot {fs : Fs} {path : Path} {op : Op} {key : Path} (h : op ∈ mkdirP fs path) (hk : touches op key) :
    Missing fs path key := by
  obtain ⟨q, hq, rfl, hn⟩ := mem_mkdirP _ _ _ h
  cases hk
  exact ⟨hq, hn⟩

theorem Missing.prefix {fs : Fs} {path key : Path} (h : Missing fs path key) : key <+: path := mem_prefixes h.1

theorem Missing.below {fs : Fs} {a b c : Seg} {key : Path} (h : Missing fs [a, b, c] key) :
    Missing fs [a, b] key ∨ key = [a, b, c] := by
  obtain ⟨hq, hn⟩ := h
  simp only [prefixes, List.map_cons, List.map_nil, List.mem_cons, List.not_mem_nil, or_false] at hq
  rcases hq with rfl | rfl | rfl
  · exact Or.inl ⟨by simp [prefixes], hn⟩
  · exact Or.inl ⟨by simp [prefixes], hn⟩
  · exact Or.inr rfl

theorem Missing.release {fs : Fs} {p v : Nat} {key : Path} (h : Missing fs (releaseP p v) key) :
    (key = projectP p ∨ key = releaseP p v) ∧ get fs key = none := by
  obtain ⟨hq, hn⟩ := h
  simp only [releaseP, prefixes, List.map_cons, List.map_nil, List.mem_cons, List.not_mem_nil, or_false] at hq
  exact ⟨hq, hn⟩

/-- `mkdir -p` of a release directory makes nothing below the release directory -/
theorem Missing.shallow {fs : Fs} {p v : Nat} {a b c : Seg} {r : Path} : ¬ Missing fs (releaseP p v) (a :: b :: c :: r) :=
  fun h => by rcases h.release.1 with e | e <;> simp [projectP, releaseP] at e

theorem Missing.carry {H : Path → Prop} {m fs0 : Fs} {path key : Path} (h0 : EqOff H m fs0) (h : Missing m path key)
    (hH : ∀ key, Missing fs0 path key → H key) : H key := by
  refine Classical.byContradiction fun hk => hk (hH key ⟨h.1, ?_⟩)
  rw [← h0 key hk]; exact h.2

theorem mem_tagWriteOps {impl : Impl} {p v g : Nat} {t : Tag} {op : Op} (h : op ∈ tagWriteOps impl p v g t) :
    op = .createEmpty (tagTmpP p v g) ∨ op = .append (tagTmpP p v g) (encodeTag t)
      ∨ op = .rename (tagTmpP p v g) (tagP p v g)
      ∨ op = .createEmpty (tagP p v g) ∨ op = .append (tagP p v g) (encodeTag t) := by
  unfold tagWriteOps at h
  split at h <;> simp only [List.mem_cons, List.not_mem_nil, or_false] at h
  · rcases h with h | h | h <;> simp [h]
  · rcases h with h | h <;> simp [h]

theorem tagWriteOps_touches {impl : Impl} {p v g : Nat} {t : Tag} {op : Op} {key : Path}
    (hop : op ∈ tagWriteOps impl p v g t) (hk : touches op key) : generationP p v g <+: key := by
  have tmp : generationP p v g <+: tagTmpP p v g := ⟨[.tagTmp], rfl⟩
  have tag : generationP p v g <+: tagP p v g := ⟨[.tag], rfl⟩
  rcases mem_tagWriteOps hop with rfl | rfl | rfl | rfl | rfl
  · cases hk; exact tmp
  · cases hk; exact tmp
  · exact hk.elim tmp.trans tag.trans
  · cases hk; exact tag
  · cases hk; exact tag

/-- the paths `Registry.close` of generation `g` may change, on any tree -/
def closeFoot (fs : Fs) (p v g : Nat) (sids : List Nat) (key : Path) : Prop :=
  Missing fs (releaseP p v) key ∨ generationP p v g <+: key ∨ ∃ s ∈ sids, stagedStateP p v s <+: key

theorem closeOps_foot (impl : Impl) (fs : Fs) (p v g : Nat) (t : Tag) :
    ∀ op ∈ closeOps impl fs p v g t, ∀ key, touches op key → closeFoot fs p v g t.sids key := by
  intro op hop key hk
  simp only [closeOps, List.mem_append, List.mem_map] at hop
  rcases hop with (hop | ⟨s, hs, rfl⟩) | hop
  · rcases (mkdirP_foot hop hk).below with h | rfl
    · exact Or.inl h
    · exact Or.inr (Or.inl (List.prefix_refl _))
  · exact hk.elim (fun h => Or.inr (Or.inr ⟨s, hs, h⟩))
      (fun h => Or.inr (Or.inl (List.IsPrefix.trans ⟨[.state s], rfl⟩ h)))
  · exact Or.inr (Or.inl (tagWriteOps_touches hop hk))

/-- the paths `Registry.write` may change, on any tree -/
def writeFoot (fs : Fs) (p v sid : Nat) (key : Path) : Prop :=
  Missing fs (releaseP p v) key ∨ key = stageP p v ∨ key = stagedStateP p v sid

theorem writeOps_foot (fs : Fs) (p v sid : Nat) (b : Bytes) :
    ∀ op ∈ writeOps fs p v sid b, ∀ key, touches op key → writeFoot fs p v sid key := by
  intro op hop key hk
  simp only [writeOps, List.mem_append, List.mem_cons, List.not_mem_nil, or_false] at hop
  rcases hop with hop | rfl | rfl
  · rcases (mkdirP_foot hop hk).below with h | rfl
    · exact Or.inl h
    · exact Or.inr (Or.inl rfl)
  · cases hk; exact Or.inr (Or.inr rfl)
  · cases hk; exact Or.inr (Or.inr rfl)

/-- the moves of `Registry.close`: one `source.rename(target)` per state id of the tag, from the stage directory into the
generation directory (the middle part of `closeOps`) -/
def renOps (p v g : Nat) (sids : List Nat) : List Op :=
  sids.map (fun s => Op.rename (stagedStateP p v s) (stateP p v g s))

theorem closePrefix_not_tag (fs : Fs) (p v g : Nat) (sids : List Nat) (extra : List Op)
    (hx : ∀ op ∈ extra, ¬ touches op (tagP p v g)) :
    ∀ op ∈ mkdirP fs (generationP p v g) ++ renOps p v g sids ++ extra, ¬ touches op (tagP p v g) := by
  intro op hop
  simp only [renOps, List.mem_append, List.mem_map] at hop
  rcases hop with (hop | ⟨s, _, rfl⟩) | hop
  · intro hk
    have := (mkdirP_foot hop hk).prefix.length_le
    simp [tagP, generationP] at this
  · simp [touches, tagP, stagedStateP, stateP]
  · exact hx op hop

theorem releaseP_prefix {p v p' v' : Nat} {r : Path} :
    releaseP p' v' <+: .proj p :: .rel v :: r ↔ p' = p ∧ v' = v := by
  simp [releaseP]

theorem generationP_prefix {p v g p' v' g' : Nat} {r : Path} :
    generationP p' v' g' <+: .proj p :: .rel v :: .gen g :: r ↔ p' = p ∧ v' = v ∧ g' = g := by
  simp [generationP]

theorem relListed_congr {a b : Fs} {p v : Nat} (h1 : get a (projectP p) = get b (projectP p))
    (h2 : get a (releaseP p v) = get b (releaseP p v)) (h3 : get a (packageP p v) = get b (packageP p v)) :
    relListed a p v = relListed b p v := by
  simp only [relListed, isDir, h1, h2, h3]

theorem relListed_dirs (fs : Fs) (p v : Nat) (h : relListed fs p v = true) :
    get fs (projectP p) ≠ none ∧ get fs (releaseP p v) ≠ none := by
  simp only [relListed, Bool.and_eq_true, isDir, beq_iff_eq] at h
  exact ⟨by rw [h.1.1]; simp, by rw [h.1.2]; simp⟩

theorem genValid_congr {a b : Fs} {p v g : Nat} (h1 : get a (generationP p v g) = get b (generationP p v g))
    (h2 : get a (tagP p v g) = get b (tagP p v g)) : genValid a p v g = genValid b p v g := by
  simp only [genValid, isDir, h1, h2]

theorem tagOf_congr {a b : Fs} {p v g : Nat} (h : get a (tagP p v g) = get b (tagP p v g)) :
    tagOf a p v g = tagOf b p v g := by
  simp only [tagOf, h]

theorem vis_some {fs : Fs} {key : Path} {n : Node} (h : vis fs key = some n) :
    get fs key = some n ∧ Seg.stage ∉ key ∧ Seg.pkgTmp ∉ key ∧
      ∀ p v, releaseP p v <+: key → relListed fs p v = true ∧
        ∀ g, generationP p v g <+: key → genValid fs p v g = true := by
  unfold vis at h
  split at h
  · obtain ⟨hl, hg⟩ := Option.ite_none_right_eq_some.mp h
    refine ⟨hg, by simp, by simp, fun p' v' hk => ?_⟩
    obtain ⟨rfl, rfl⟩ := releaseP_prefix.mp hk
    exact ⟨hl, fun g hg => by simp [generationP] at hg⟩
  · obtain ⟨hl, hg⟩ := Option.ite_none_right_eq_some.mp h
    refine ⟨hg, by simp, by simp, fun p' v' hk => ?_⟩
    obtain ⟨rfl, rfl⟩ := releaseP_prefix.mp hk
    exact ⟨hl, fun g hg => by simp [generationP] at hg⟩
  · obtain ⟨hl, hg⟩ := Option.ite_none_right_eq_some.mp h
    simp only [genListed, Bool.and_eq_true] at hl
    refine ⟨hg, by simp, by simp, fun p' v' hk => ?_⟩
    obtain ⟨rfl, rfl⟩ := releaseP_prefix.mp hk
    refine ⟨hl.1, fun g' hg => ?_⟩
    obtain ⟨_, _, rfl⟩ := generationP_prefix.mp hg
    exact hl.2
  · obtain ⟨hl, hg⟩ := Option.ite_none_right_eq_some.mp h
    simp only [genListed, Bool.and_eq_true] at hl
    refine ⟨hg, by simp, by simp, fun p' v' hk => ?_⟩
    obtain ⟨rfl, rfl⟩ := releaseP_prefix.mp hk
    refine ⟨hl.1.1, fun g' hg => ?_⟩
    obtain ⟨_, _, rfl⟩ := generationP_prefix.mp hg
    exact hl.1.2
  · cases h

theorem vis_state {fs : Fs} {p v g s : Nat} {t : Tag} (hl : genListed fs p v g = true) (ht : tagOf fs p v g = some t)
    (hs : s ∈ t.sids) : vis fs (stateP p v g s) = get fs (stateP p v g s) := by
  simp only [vis, stateP, hl, ht, List.contains_iff_mem.mpr hs, Bool.and_self, if_true]

theorem vis_hidden (fs : Fs) (key : Path) (h : Seg.stage ∈ key ∨ Seg.pkgTmp ∈ key) : vis fs key = none := by
  cases hv : vis fs key with
  | none => rfl
  | some n => exact h.elim (fun h => absurd h (vis_some hv).2.1) (fun h => absurd h (vis_some hv).2.2.1)

theorem vis_unlisted_rel (fs : Fs) (p v : Nat) (h : relListed fs p v = false) :
    ∀ key, releaseP p v <+: key → vis fs key = none := by
  intro key hkey
  cases hv : vis fs key with
  | none => rfl
  | some n => rw [((vis_some hv).2.2.2 p v hkey).1] at h; cases h

theorem vis_invalid_gen (fs : Fs) (p v g : Nat) (h : genValid fs p v g = false) :
    ∀ key, generationP p v g <+: key → vis fs key = none := by
  intro key hkey
  cases hv : vis fs key with
  | none => rfl
  | some n =>
    rw [((vis_some hv).2.2.2 p v (List.IsPrefix.trans ⟨[.gen g], rfl⟩ hkey)).2 g hkey] at h; cases h

/-- a generation directory without `tag.toml` is invisible, whatever else it holds -/
theorem vis_hidden_gen (a : Fs) (p v g : Nat) (ht : get a (tagP p v g) = none) :
    ∀ key, generationP p v g <+: key → vis a key = none :=
  vis_invalid_gen a p v g (by simp [genValid, ht])

/-- the paths a reader of `fs` rests on -/
def Protected (fs : Fs) (key : Path) : Prop :=
  (∃ p v, get fs (packageP p v) ≠ none ∧ (key = projectP p ∨ key = releaseP p v ∨ packageP p v <+: key))
  ∨ ∃ p v g, get fs (tagP p v g) ≠ none ∧ generationP p v g <+: key

theorem Protected.below {fs : Fs} {p v : Nat} {c : Seg} {key : Path} (h : Protected fs key)
    (hc : [.proj p, .rel v, c] <+: key) :
    (c = .pkg ∧ get fs (packageP p v) ≠ none) ∨ ∃ g, c = .gen g ∧ get fs (tagP p v g) ≠ none := by
  rcases h with ⟨p', v', hp, rfl | rfl | hk⟩ | ⟨p', v', g', ht, hk⟩
  · have := hc.length_le; simp [projectP] at this
  · have := hc.length_le; simp [releaseP] at this
  · have := List.prefix_of_prefix_length_le hk hc (Nat.le_refl 3)
    simp only [packageP, List.cons_prefix_cons, Seg.proj.injEq, Seg.rel.injEq] at this
    obtain ⟨rfl, rfl, rfl, _⟩ := this
    exact Or.inl ⟨rfl, hp⟩
  · have := List.prefix_of_prefix_length_le hk hc (Nat.le_refl 3)
    simp only [generationP, List.cons_prefix_cons, Seg.proj.injEq, Seg.rel.injEq] at this
    obtain ⟨rfl, rfl, rfl, _⟩ := this
    exact Or.inr ⟨g', rfl, ht⟩

-- argument order: `Keeps old new`, whereas `EqOff H new old`, `ViewEq new old` and `QuietPub new old` name the new tree first
def Keeps (fs x : Fs) : Prop := ∀ key, Protected fs key → get x key = get fs key

theorem Keeps.refl (fs : Fs) : Keeps fs fs := fun _ _ => rfl

theorem Keeps.of_frame {H : Path → Prop} {fs x : Fs} (h : EqOff H x fs)
    (hH : ∀ key, H key → ¬ Protected fs key) : Keeps fs x :=
  fun key hk => h key fun hh => hH key hh hk

/-- a package and a tag are themselves at protected paths -/
theorem Keeps.stays {a b : Fs} (h : Keeps a b) {key : Path} (hk : Protected a key) : Protected b key := by
  rcases hk with ⟨p, v, hp, hk⟩ | ⟨p, v, g, ht, hk⟩
  · exact Or.inl ⟨p, v, by rw [h (packageP p v) (Or.inl ⟨p, v, hp, Or.inr (Or.inr (List.prefix_refl _))⟩)]; exact hp, hk⟩
  · exact Or.inr ⟨p, v, g, by rw [h (tagP p v g) (Or.inr ⟨p, v, g, ht, ⟨[.tag], rfl⟩⟩)]; exact ht, hk⟩

theorem Keeps.trans {a b c : Fs} (h1 : Keeps a b) (h2 : Keeps b c) : Keeps a c :=
  fun key hk => (h2 key (h1.stays hk)).trans (h1 key hk)

theorem vis_congr (a b : Fs) (key : Path)
    (h : ∀ p v, releaseP p v <+: key → relListed a p v = relListed b p v
      ∧ (packageP p v <+: key → get a key = get b key)
      ∧ ∀ g, generationP p v g <+: key →
          genValid a p v g = genValid b p v g ∧ tagOf a p v g = tagOf b p v g ∧ get a key = get b key) :
    vis a key = vis b key := by
  unfold vis
  split
  · rename_i p v
    obtain ⟨h1, h2, _⟩ := h p v ⟨[.pkg], rfl⟩
    simp only [packageP, h1, h2 (List.prefix_refl _)]
  · rename_i p v i
    obtain ⟨h1, h2, _⟩ := h p v ⟨[.pkg, .member i], rfl⟩
    simp only [packageP, List.cons_append, List.nil_append, h1, h2 ⟨[.member i], rfl⟩]
  · rename_i p v g
    obtain ⟨h1, _, h3⟩ := h p v ⟨[.gen g, .tag], rfl⟩
    obtain ⟨h4, _, h6⟩ := h3 g ⟨[.tag], rfl⟩
    simp only [genListed, tagP, h1, h4, h6]
    rfl
  · rename_i p v g s
    obtain ⟨h1, _, h3⟩ := h p v ⟨[.gen g, .state s], rfl⟩
    obtain ⟨h4, h5, h6⟩ := h3 g ⟨[.state s], rfl⟩
    simp only [genListed, stateP, h1, h4, h5, h6]
    rfl
  · rfl

/-- where a reader of `fs` can look -/
def Listed (fs : Fs) (key : Path) : Prop :=
  ∀ p v, releaseP p v <+: key → get fs (packageP p v) ≠ none
    ∧ ∀ g, generationP p v g <+: key → get fs (tagP p v g) ≠ none

theorem tagged_of_valid {fs : Fs} {p v g : Nat} (h : genValid fs p v g = true) : get fs (tagP p v g) ≠ none := by
  simp only [genValid, Bool.and_eq_true, Option.isSome_iff_ne_none] at h
  exact h.2

theorem listed_of_vis {fs : Fs} {key : Path} {n : Node} (h : vis fs key = some n) : Listed fs key := by
  intro p v hk
  obtain ⟨hl, hg⟩ := (vis_some h).2.2.2 p v hk
  simp only [relListed, Bool.and_eq_true, Option.isSome_iff_ne_none] at hl
  exact ⟨hl.2, fun g hgk => tagged_of_valid (hg g hgk)⟩

theorem Keeps.vis_listed {fs x : Fs} (h : Keeps fs x) {key : Path} (ha : Listed fs key) :
    vis x key = vis fs key := by
  refine vis_congr x fs key fun p v hk => ?_
  obtain ⟨hp, hg⟩ := ha p v hk
  have rel : ∀ k, k = projectP p ∨ k = releaseP p v ∨ packageP p v <+: k → get x k = get fs k :=
    fun k hk => h k (Or.inl ⟨p, v, hp, hk⟩)
  refine ⟨relListed_congr (rel _ (Or.inl rfl)) (rel _ (Or.inr (Or.inl rfl))) (rel _ (Or.inr (Or.inr (List.prefix_refl _)))),
    fun hpk => rel _ (Or.inr (Or.inr hpk)), fun g hgk => ?_⟩
  have gen : ∀ k, generationP p v g <+: k → get x k = get fs k := fun k hk => h k (Or.inr ⟨p, v, g, hg g hgk, hk⟩)
  exact ⟨genValid_congr (gen _ (List.prefix_refl _)) (gen _ ⟨[.tag], rfl⟩), tagOf_congr (gen _ ⟨[.tag], rfl⟩), gen _ hgk⟩

theorem Keeps.grows {fs x : Fs} (h : Keeps fs x) {key : Path} {n : Node} (hv : vis fs key = some n) :
    vis x key = some n := by
  rw [h.vis_listed (listed_of_vis hv), hv]

theorem Keeps.vis_eq {fs x : Fs} (h : Keeps fs x) (key : Path)
    (hnew : ∀ p v, releaseP p v <+: key → (get fs (packageP p v) = none → get x (packageP p v) = none)
      ∧ ∀ g, generationP p v g <+: key → get fs (tagP p v g) = none → get x (tagP p v g) = none) :
    vis x key = vis fs key := by
  cases hx : vis x key with
  | none =>
    cases hf : vis fs key with
    | none => rfl
    | some n => rw [h.grows hf] at hx; cases hx
  | some n =>
    have ha := listed_of_vis hx
    rw [← hx]
    refine h.vis_listed fun p v hk => ?_
    exact ⟨fun e => (ha p v hk).1 ((hnew p v hk).1 e), fun g hgk e => (ha p v hk).2 g hgk ((hnew p v hk).2 g hgk e)⟩

theorem Keeps.viewEq {fs x : Fs} (h : Keeps fs x)
    (hp : ∀ p v, get fs (packageP p v) = none → get x (packageP p v) = none)
    (ht : ∀ p v g, get fs (tagP p v g) = none → get x (tagP p v g) = none) : ViewEq x fs :=
  fun key => h.vis_eq key fun p v _ => ⟨hp p v, fun g _ => ht p v g⟩

/-- what the dumps of a training of release `p/v` may change -/
def dumpFoot (fs : Fs) (p v : Nat) (key : Path) : Prop := Missing fs (releaseP p v) key ∨ stageP p v <+: key

/-- … and what the whole training, committing generation `g`, may change -/
def trainFoot (fs : Fs) (p v g : Nat) (key : Path) : Prop := dumpFoot fs p v key ∨ generationP p v g <+: key

theorem writeFoot.dump {fs : Fs} {p v sid : Nat} {key : Path} (h : writeFoot fs p v sid key) : dumpFoot fs p v key := by
  rcases h with h | rfl | rfl
  · exact Or.inl h
  · exact Or.inr (List.prefix_refl _)
  · exact Or.inr ⟨[.state sid], rfl⟩

theorem closeFoot.train {fs : Fs} {p v g : Nat} {sids : List Nat} {key : Path} (h : closeFoot fs p v g sids key) :
    trainFoot fs p v g key := by
  rcases h with h | h | ⟨s, _, h⟩
  · exact Or.inl (Or.inl h)
  · exact Or.inr h
  · exact Or.inl (Or.inr (List.IsPrefix.trans ⟨[.state s], rfl⟩ h))

theorem not_missing {fs : Fs} {p v : Nat} {key : Path} (hp : get fs (projectP p) ≠ none)
    (hv : get fs (releaseP p v) ≠ none) : ¬ Missing fs (releaseP p v) key := by
  intro h
  obtain ⟨rfl | rfl, hn⟩ := h.release
  · exact hp hn
  · exact hv hn

theorem dumpFoot_gen {fs : Fs} {p v p' v' g' : Nat} :
    ¬ dumpFoot fs p v (generationP p' v' g') ∧ ¬ dumpFoot fs p v (tagP p' v' g') := by
  constructor <;> rintro (hm | hm)
  · exact Missing.shallow hm
  · simp [stageP, generationP] at hm
  · exact Missing.shallow hm
  · simp [stageP, tagP] at hm

theorem trainFoot_gen_own {fs : Fs} {p v g p' v' g' : Nat} {key : Path}
    (h : trainFoot fs p v g key) (hk : generationP p' v' g' <+: key) : (p', v', g') = (p, v, g) := by
  rcases h with (h | h) | h
  · obtain ⟨r, rfl⟩ := hk
    exact absurd h Missing.shallow
  · have := List.prefix_of_prefix_length_le hk h (Nat.le_refl 3)
    simp [generationP, stageP] at this
  · obtain ⟨rfl, rfl, rfl⟩ := generationP_prefix.mp (List.prefix_of_prefix_length_le h hk (Nat.le_refl 3))
    rfl

/-- `hm` comes from `Missing.free` on a well-formed tree; where the release directory exists nothing is missing -/
theorem trainFoot_free {fs : Fs} {p v g : Nat} {key : Path}
    (hm : ∀ key, Missing fs (releaseP p v) key → ¬ Protected fs key) (ht : get fs (tagP p v g) = none)
    (h : trainFoot fs p v g key) : ¬ Protected fs key := by
  intro hP
  rcases h with (h | hs) | hg
  · exact hm key h hP
  · rcases hP.below hs with ⟨e, _⟩ | ⟨_, e, _⟩ <;> cases e
  · rcases hP.below hg with ⟨e, _⟩ | ⟨_, e, ht'⟩
    · cases e
    · cases e; exact ht' ht

theorem trained_genValid {fs x : Fs} {p v g p' v' g' : Nat} (h : EqOff (trainFoot fs p v g) x fs)
    (hne : (p', v', g') ≠ (p, v, g)) : genValid x p' v' g' = genValid fs p' v' g' :=
  genValid_congr (h _ fun hf => hne (trainFoot_gen_own hf (List.prefix_refl _)))
    (h _ fun hf => hne (trainFoot_gen_own hf ⟨[.tag], rfl⟩))

theorem trained_new {fs x : Fs} {p v g : Nat} (h : EqOff (trainFoot fs p v g) x fs) :
    (∀ p' v' g', get fs (tagP p' v' g') = none → get x (tagP p' v' g') ≠ none → (p', v', g') = (p, v, g))
    ∧ ∀ p' v', get fs (packageP p' v') = none → get x (packageP p' v') = none := by
  refine ⟨fun p' v' g' e hx => ?_, fun p' v' e => (h _ ?_).trans e⟩
  · exact Classical.byContradiction fun hne => hx ((h _ fun hf => hne (trainFoot_gen_own hf ⟨[.tag], rfl⟩)).trans e)
  · rintro ((hm | hm) | hm)
    · exact Missing.shallow hm
    · simp [stageP, packageP] at hm
    · simp [generationP, packageP] at hm

theorem trained_untagged {fs x : Fs} {p v g : Nat} (h : EqOff (trainFoot fs p v g) x fs)
    (ht : get x (tagP p v g) = none) : ∀ p' v' g', get fs (tagP p' v' g') = none → get x (tagP p' v' g') = none :=
  fun p' v' g' e => Classical.byContradiction fun hx => by cases (trained_new h).1 p' v' g' e hx; exact hx ht

theorem trained_relListed {fs x : Fs} {p v g : Nat} (hp : get fs (projectP p) ≠ none)
    (hv : get fs (releaseP p v) ≠ none) (h : EqOff (trainFoot fs p v g) x fs) (p' v' : Nat) :
    relListed x p' v' = relListed fs p' v' := by
  have out : ∀ k, k = projectP p' ∨ k = releaseP p' v' ∨ k = packageP p' v' → ¬ trainFoot fs p v g k := by
    rintro k hk ((hm | hm) | hm)
    · exact not_missing hp hv hm
    · rcases hk with rfl | rfl | rfl <;> simp [stageP, projectP, releaseP, packageP] at hm
    · rcases hk with rfl | rfl | rfl <;> simp [generationP, projectP, releaseP, packageP] at hm
  exact relListed_congr (h _ (out _ (Or.inl rfl))) (h _ (out _ (Or.inr (Or.inl rfl)))) (h _ (out _ (Or.inr (Or.inr rfl))))

theorem trained_genListed {fs x : Fs} {p v g : Nat} {n : Node} (hl : relListed fs p v = true) (hg : 1 ≤ g)
    (h : EqOff (trainFoot fs p v g) x fs) (hd : get x (generationP p v g) = some .dir)
    (ht : get x (tagP p v g) = some n) : genListed x p v g = true := by
  obtain ⟨hp, hv⟩ := relListed_dirs fs p v hl
  simp [genListed, (trained_relListed hp hv h p v).trans hl, genValid, isDir, hd, ht, hg]

theorem trained_viewEq {fs x : Fs} {p v g : Nat} (hm : ∀ key, Missing fs (releaseP p v) key → ¬ Protected fs key)
    (ht0 : get fs (tagP p v g) = none) (h : EqOff (trainFoot fs p v g) x fs) (ht : get x (tagP p v g) = none) :
    ViewEq x fs :=
  (Keeps.of_frame h fun _ => trainFoot_free hm ht0).viewEq (trained_new h).2 (trained_untagged h ht)

theorem mem_keys (fs : Fs) (k : Path) : k ∈ keys fs ↔ ∃ n, get fs k = some n := by
  simp only [keys, List.mem_eraseDups, List.mem_map]
  constructor
  · rintro ⟨e, he, rfl⟩
    exact get_of_mem fs e.1 e.2 he
  · rintro ⟨n, hn⟩
    exact ⟨(k, n), mem_of_get fs k n hn, rfl⟩

theorem mem_generationsOf (fs : Fs) (p v g : Nat) : g ∈ generationsOf fs p v ↔ genValid fs p v g = true := by
  simp only [generationsOf, List.mem_filterMap]
  constructor
  · rintro ⟨k, _, hk⟩
    split at hk
    · split at hk <;> cases hk
      rename_i hc
      obtain ⟨rfl, rfl, hval⟩ := hc
      exact hval
    · cases hk
  · intro hval
    refine ⟨generationP p v g, ?_, by simp [generationP, hval]⟩
    rw [mem_keys]
    simp only [genValid, Bool.and_eq_true, isDir, beq_iff_eq] at hval
    exact ⟨.dir, hval.1.2⟩

theorem mem_releasesOf (fs : Fs) (p w : Nat) : w ∈ releasesOf fs p ↔ relListed fs p w = true := by
  simp only [releasesOf, List.mem_filterMap]
  constructor
  · rintro ⟨k, _, hk⟩
    split at hk
    · split at hk <;> cases hk
      rename_i hc
      obtain ⟨rfl, hval⟩ := hc
      exact hval
    · cases hk
  · intro hval
    refine ⟨releaseP p w, ?_, by simp [releaseP, hval]⟩
    rw [mem_keys]
    simp only [relListed, Bool.and_eq_true, isDir, beq_iff_eq] at hval
    exact ⟨.dir, hval.1.2⟩

theorem unlisted_of_above (fs : Fs) (name v : Nat) (h : ∀ w ∈ releasesOf fs name, w < v) :
    relListed fs name v = false := by
  cases hl : relListed fs name v with
  | false => rfl
  | true => exact absurd (h v ((mem_releasesOf fs name v).mpr hl)) (Nat.lt_irrefl v)

theorem maxOf_spec (l : List Nat) :
    (maxOf l = none ∧ l = []) ∨ ∃ m, maxOf l = some m ∧ m ∈ l ∧ ∀ x ∈ l, x ≤ m := by
  induction l with
  | nil => exact Or.inl ⟨rfl, rfl⟩
  | cons y r ih =>
    right
    simp only [maxOf]
    rcases ih with ⟨hn, rfl⟩ | ⟨m, hm, hin, hle⟩
    · rw [hn]
      exact ⟨y, rfl, List.mem_cons_self, fun x hx => Nat.le_of_eq (List.mem_singleton.mp hx)⟩
    · rw [hm]
      refine ⟨max y m, rfl, ?_, fun x hx => ?_⟩
      · rcases Nat.le_total y m with h | h
        · rw [Nat.max_eq_right h]; exact List.mem_cons_of_mem _ hin
        · rw [Nat.max_eq_left h]; exact List.mem_cons_self
      · rcases List.mem_cons.mp hx with rfl | hx
        · exact Nat.le_max_left _ _
        · exact Nat.le_trans (hle x hx) (Nat.le_max_right _ _)

theorem le_maxOf (l : List Nat) (x : Nat) (hx : x ∈ l) : ∃ m, maxOf l = some m ∧ x ≤ m := by
  rcases maxOf_spec l with ⟨_, rfl⟩ | ⟨m, hm, _, hle⟩
  · cases hx
  · exact ⟨m, hm, hle x hx⟩

theorem mem_maxOf (l : List Nat) (hne : l ≠ []) : ∃ m, maxOf l = some m ∧ m ∈ l := by
  rcases maxOf_spec l with ⟨_, h⟩ | ⟨m, hm, hin, _⟩
  · exact absurd h hne
  · exact ⟨m, hm, hin⟩

theorem maxOf_some_mem (l : List Nat) (m : Nat) (h : maxOf l = some m) : m ∈ l := by
  rcases maxOf_spec l with ⟨hn, _⟩ | ⟨m', hm, hin, _⟩
  · rw [hn] at h; cases h
  · rw [hm] at h; cases h; exact hin

theorem latestRel_listed (fs : Fs) (p v : Nat) (h : latestRel fs p = some v) : relListed fs p v = true :=
  (mem_releasesOf fs p v).mp (maxOf_some_mem _ _ h)

theorem latestGen_valid (fs : Fs) (p v g : Nat) (h : latestGen fs p v = some g) : genValid fs p v g = true :=
  (mem_generationsOf fs p v g).mp (maxOf_some_mem _ _ h)

theorem projListed_of_relListed (fs : Fs) (p v : Nat) (h : relListed fs p v = true) : projListed fs p = true := by
  simp only [projListed, Bool.not_eq_true', List.isEmpty_eq_false_iff]
  intro e
  have := (mem_releasesOf fs p v).mpr h
  rw [e] at this; cases this

theorem maxOf_congr {l l' : List Nat} (h : ∀ x, x ∈ l ↔ x ∈ l') : maxOf l = maxOf l' := by
  rcases maxOf_spec l with ⟨_, rfl⟩ | ⟨m, hm, hin, hle⟩
  · rcases maxOf_spec l' with ⟨_, rfl⟩ | ⟨m', _, hin', _⟩
    · rfl
    · cases (h m').mpr hin'
  · rcases maxOf_spec l' with ⟨_, rfl⟩ | ⟨m', hm', hin', hle'⟩
    · cases (h m).mp hin
    · rw [hm, hm', Nat.le_antisymm (hle' m ((h m).mp hin)) (hle m' ((h m').mpr hin'))]

theorem nextGen_pos (fs : Fs) (p v : Nat) : 1 ≤ nextGen fs p v := by
  unfold nextGen
  split
  · exact Nat.le_refl 1
  · exact Nat.le_add_left 1 _

/-- `Release.put` numbers the new generation 1 for an empty listing and otherwise one above *every* listed
generation, the number below being listed -/
theorem nextGen_spec (fs : Fs) (p v : Nat) :
    (generationsOf fs p v = [] → nextGen fs p v = 1) ∧
    (∀ g ∈ generationsOf fs p v, g < nextGen fs p v) ∧
    (generationsOf fs p v ≠ [] → nextGen fs p v - 1 ∈ generationsOf fs p v) := by
  refine ⟨?_, ?_, ?_⟩
  · intro h; simp [nextGen, h, maxOf]
  · intro g hg
    obtain ⟨m, hm, hle⟩ := le_maxOf _ g hg
    simp only [nextGen, hm]; exact Nat.lt_succ_of_le hle
  · intro hne
    obtain ⟨m, hm, hin⟩ := mem_maxOf _ hne
    simp [nextGen, hm]; exact hin

theorem genValid_nextGen (fs : Fs) (p v : Nat) : genValid fs p v (nextGen fs p v) = false := by
  cases h : genValid fs p v (nextGen fs p v) with
  | false => rfl
  | true =>
    exact absurd ((nextGen_spec fs p v).2.1 _ ((mem_generationsOf fs p v _).mpr h)) (Nat.lt_irrefl _)

theorem nextGen_congr (a b : Fs) (p v : Nat) (h : ∀ g, genValid a p v g = genValid b p v g) :
    nextGen a p v = nextGen b p v := by
  have : ∀ g, g ∈ generationsOf a p v ↔ g ∈ generationsOf b p v := fun g => by
    rw [mem_generationsOf, mem_generationsOf, h]
  unfold nextGen
  rw [maxOf_congr this]

theorem decode_encode (t : Tag) : decodeTag (encodeTag t) = some t := by
  simp [encodeTag, decodeTag]

theorem tagOf_encoded {fs : Fs} {p v g : Nat} {t : Tag} (h : get fs (tagP p v g) = some (.file (encodeTag t))) :
    tagOf fs p v g = some t := by
  simp [tagOf, h, decode_encode]

theorem atomsAll_append (X Y : List Op) : atomsAll (X ++ Y) = atomsAll X ++ atomsAll Y :=
  List.flatMap_append

theorem mem_atoms {op a : Op} (h : a ∈ op.atoms) :
    (a = op ∧ op.atoms = [op]) ∨ ∃ p b, op = .copyFile p b ∧ (a = .createEmpty p ∨ a = .append p b) := by
  cases op <;> simp only [Op.atoms, List.mem_cons, List.not_mem_nil, or_false] at h
  case copyFile p b => exact Or.inr ⟨p, b, rfl, h⟩
  all_goals exact Or.inl ⟨h, rfl⟩

theorem atomsAll_touches (ops : List Op) (a : Op) (ha : a ∈ atomsAll ops) :
    ∃ op ∈ ops, ∀ key, touches a key → touches op key := by
  obtain ⟨op, hop, hin⟩ := List.mem_flatMap.mp ha
  refine ⟨op, hop, ?_⟩
  rcases mem_atoms hin with ⟨rfl, _⟩ | ⟨p, b, rfl, rfl | rfl⟩ <;> exact fun _ h => h

theorem atoms_atomic {op a : Op} (ha : a ∈ op.atoms) : a.atoms = [a] := by
  rcases mem_atoms ha with ⟨rfl, h⟩ | ⟨p, b, rfl, rfl | rfl⟩
  · exact h
  · rfl
  · rfl

theorem atomsAll_eq_self (l : List Op) (h : ∀ op ∈ l, op.atoms = [op]) : atomsAll l = l := by
  induction l with
  | nil => rfl
  | cons a r ih =>
    have hr := ih fun op hop => h op (List.mem_cons_of_mem _ hop)
    simp only [atomsAll, List.flatMap_cons] at hr ⊢
    rw [hr, h a List.mem_cons_self]
    rfl

theorem atomsAll_take_atoms (l : List Op) (j : Nat) : atomsAll ((atomsAll l).take j) = (atomsAll l).take j :=
  atomsAll_eq_self _ fun a ha => by
    obtain ⟨op, _, hin⟩ := List.mem_flatMap.mp (List.mem_of_mem_take ha)
    exact atoms_atomic hin

theorem atomsAll_closeOps (impl : Impl) (fs : Fs) (p v g : Nat) (t : Tag) :
    atomsAll (closeOps impl fs p v g t) = closeOps impl fs p v g t := by
  apply atomsAll_eq_self
  intro op hop
  simp only [closeOps, List.mem_append, List.mem_map] at hop
  rcases hop with (hop | ⟨s, _, rfl⟩) | hop
  · obtain ⟨q, _, rfl, _⟩ := mem_mkdirP _ _ _ hop
    rfl
  · rfl
  · rcases mem_tagWriteOps hop with rfl | rfl | rfl | rfl | rfl <;> rfl

theorem atomsAll_writeOps (fs : Fs) (p v sid : Nat) (b : Bytes) :
    atomsAll (writeOps fs p v sid b) = writeOps fs p v sid b := by
  apply atomsAll_eq_self
  intro op hop
  simp only [writeOps, List.mem_append, List.mem_cons, List.not_mem_nil, or_false] at hop
  rcases hop with hop | rfl | rfl
  · obtain ⟨q, _, rfl, _⟩ := mem_mkdirP _ _ _ hop
    rfl
  · rfl
  · rfl

end ForML.Registry
