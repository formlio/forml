/-
A lifecycle action performed on a fresh expansion (injectively renamed uids / gids) has
exactly the same effect on the registry and hands exactly the same states to the same actor occurrences as on the
original expansion: nothing but positions ties an expansion to the registry.
-/
import ForML.Lemmas.C04Rename
import ForML.Lemmas.ListFacts

namespace ForML.Persist

/-- `mapE` is `List.mapM` in `Except`: its lemmas are those of core and `ListFacts` -/
theorem mapE_eq {α β : Type} (f : α → Except Err β) (l : List α) : mapE f l = l.mapM f := by
  induction l with
  | nil => rfl
  | cons x r ih => rw [mapE, List.mapM_cons, ih]; cases f x <;> cases r.mapM f <;> rfl

theorem mapE_map {α β γ : Type} (f : β → Except Err γ) (g : α → β) (l : List α) :
    mapE f (l.map g) = mapE (fun x => f (g x)) l := by
  simp only [mapE_eq, List.mapM_map]
  rfl

theorem mapE_congr {α β : Type} (f g : α → Except Err β) (l : List α) (h : ∀ x ∈ l, f x = g x) :
    mapE f l = mapE g l := by
  simp only [mapE_eq, mapM_congr h]

theorem mapE_cons_ok {α β : Type} {f : α → Except Err β} {x : α} {xs : List α} {ys : List β}
    (h : mapE f (x :: xs) = .ok ys) : ∃ y ys', f x = .ok y ∧ mapE f xs = .ok ys' ∧ ys = y :: ys' := by
  rw [mapE_eq, mapM_eq_ok_iff_map, List.map_cons] at h
  cases ys with
  | nil => cases h
  | cons y ys' =>
    rw [List.map_cons, List.cons.injEq] at h
    exact ⟨y, ys', h.1, by rw [mapE_eq, mapM_eq_ok_iff_map]; exact h.2, rfl⟩

theorem mapE_ok_mem {α β : Type} {f : α → Except Err β} {l : List α} {ys : List β} (h : mapE f l = .ok ys) :
    ∀ y ∈ ys, ∃ x ∈ l, f x = .ok y := fun y hy => by
  have := mapM_eq_ok_iff_map.1 (mapE_eq f l ▸ h) ▸ List.mem_map_of_mem (f := Except.ok) hy
  simpa using this

theorem mapE_ok_map {α β γ : Type} {f : α → Except Err β} {l : List α} {ys : List β} (h : mapE f l = .ok ys)
    (p : β → γ) (q : α → γ) (hpq : ∀ x ∈ l, ∀ y, f x = .ok y → p y = q x) : ys.map p = l.map q := by
  induction l generalizing ys with
  | nil => cases h; rfl
  | cons x xs ih =>
    obtain ⟨y0, ys0, hx, hxs, rfl⟩ := mapE_cons_ok h
    rw [List.map_cons, List.map_cons, hpq x List.mem_cons_self y0 hx,
      ih hxs fun x' hx' => hpq x' (List.mem_cons_of_mem _ hx')]

section
variable {ρ σ : Nat → Nat}
variable (P : List Nat) (gen : Except Err (Option Generation))

theorem has_rename (hσ : Inj σ) (g : Nat) : (⟨P.map σ, gen⟩ : Assets).has (σ g) = (⟨P, gen⟩ : Assets).has g := by
  simp only [Assets.has, hσ.contains_map]

theorem load_rename (hσ : Inj σ) (g : Nat) : (⟨P.map σ, gen⟩ : Assets).load (σ g) = (⟨P, gen⟩ : Assets).load g := by
  simp only [Assets.load, hσ.contains_map, hσ.idxOf_map]

theorem prevOf_rename (hσ : Inj σ) (n : Node) : prevOf ⟨P.map σ, gen⟩ (n.rename ρ σ) = prevOf ⟨P, gen⟩ n := by
  simp only [prevOf, Node.rename_gid, has_rename P gen hσ, load_rename P gen hσ]

theorem newState_rename (hσ : Inj σ) (run hp : Nat) (n : Node) :
    newState ⟨P.map σ, gen⟩ run hp (n.rename ρ σ) = newState ⟨P, gen⟩ run hp n := by
  simp only [newState, prevOf_rename P gen hσ, Node.rename_tag]

theorem trainerOf_rename (hσ : Inj σ) (order : List Node) (g : Nat) :
    trainerOf (order.map (Node.rename ρ σ)) (σ g) = (trainerOf order g).map (Node.rename ρ σ) := by
  simp only [trainerOf, List.find?_map]
  congr 2
  funext m
  simp [Function.comp, hσ.beq]

theorem receive_rename (hρ : Inj ρ) (hσ : Inj σ) (c : Comp) (order : List Node) (run hp : Nat) (n : Node) :
    receive (c.rename ρ σ) (order.map (Node.rename ρ σ)) ⟨P.map σ, gen⟩ run hp (n.rename ρ σ)
      = receive c order ⟨P, gen⟩ run hp n := by
  simp only [receive, Node.rename_gid, has_rename P gen hσ, load_rename P gen hσ, Comp.derived_rename hρ hσ,
    trainerOf_rename hσ]
  cases trainerOf order n.gid with
  | none => rfl
  | some t => simp only [Option.map_some, newState_rename P gen hσ]

theorem observe_rename (hρ : Inj ρ) (hσ : Inj σ) (c : Comp) (order : List Node) (run hp : Nat) (n : Node) :
    observe (c.rename ρ σ) (order.map (Node.rename ρ σ)) ⟨P.map σ, gen⟩ run hp (n.rename ρ σ)
      = observe c order ⟨P, gen⟩ run hp n := by
  simp only [observe, Node.rename_stateful, Node.rename_trained, Node.rename_tag, prevOf_rename P gen hσ,
    receive_rename P gen hρ hσ]

theorem observeAll_rename (hρ : Inj ρ) (hσ : Inj σ) (c : Comp) (order : List Node) (run hp : Nat) :
    observeAll (c.rename ρ σ) (order.map (Node.rename ρ σ)) ⟨P.map σ, gen⟩ run hp
      = observeAll c order ⟨P, gen⟩ run hp := by
  simp only [observeAll, mapE_map]
  rw [mapE_congr _ (observe c order ⟨P, gen⟩ run hp) order (fun n _ => observe_rename P gen hρ hσ c order run hp n)]

theorem committedState_rename (hσ : Inj σ) (order : List Node) (run hp : Nat) (g : Nat) :
    committedState (order.map (Node.rename ρ σ)) ⟨P.map σ, gen⟩ run hp (σ g)
      = committedState order ⟨P, gen⟩ run hp g := by
  simp only [committedState, trainerOf_rename hσ]
  cases trainerOf order g with
  | none => rfl
  | some t => simp only [Option.map_some, newState_rename P gen hσ]

theorem commit_rename (hσ : Inj σ) (order : List Node) (run hp : Nat) :
    commit (order.map (Node.rename ρ σ)) ⟨P.map σ, gen⟩ run hp = commit order ⟨P, gen⟩ run hp := by
  simp only [commit, List.any_map, mapE_map]
  have hany : ((fun n : Node => n.stateful && n.trained && (⟨P.map σ, gen⟩ : Assets).has n.gid) ∘ Node.rename ρ σ)
      = (fun n : Node => n.stateful && n.trained && (⟨P, gen⟩ : Assets).has n.gid) := by
    funext n
    simp only [Function.comp, Node.rename_stateful, Node.rename_trained, Node.rename_gid, has_rename P gen hσ]
  rw [hany]
  rw [mapE_congr _ (committedState order ⟨P, gen⟩ run hp) P
    (fun g _ => committedState_rename P gen hσ order run hp g)]

end

theorem runSegment_rename {ρ σ : Nat → Nat} (hρ : Inj ρ) (hσ : Inj σ) (c : Comp) (h t : Nat)
    (reg : Registry) (a : Action) :
    runSegment (c.rename ρ σ) (ρ h) (ρ t) reg a = runSegment c h t reg a := by
  simp only [runSegment, Comp.persistent_rename hρ hσ, Comp.visitNodes_rename σ hρ,
    observeAll_rename _ _ hρ hσ, commit_rename _ _ hσ]

theorem step_rename {ρ σ : Nat → Nat} (hρ : Inj ρ) (hσ : Inj σ) (cs : Case) (reg : Registry) (a : Action) :
    step (cs.rename ρ σ) reg a = step cs reg a := by
  cases hk : a.kind with
  | train =>
    simp only [step, hk, Case.rename]
    cases select reg a.gen with
    | error e => rfl
    | ok g => exact runSegment_rename hρ hσ cs.plain _ _ reg a
  | apply | serve =>
    simp only [step, hk, Case.rename]
    exact runSegment_rename hρ hσ cs.plain _ _ reg a
  | perftrack =>
    simp only [step, hk, Case.rename]
    cases cs.perf with
    | error e => rfl
    | ok p => exact runSegment_rename hρ hσ p _ _ reg a

end ForML.Persist
