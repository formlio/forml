/-
The loop over the base models of `FullStack.Builder.build` (`basesLoop`): per base a `stacker`
and a `reducer` fork (`Worker.fgen`), to which the train / apply output collectors subscribe, then the per-fold loop; the
two forks become evaluable once all their ports are subscribed.
-/
import ForML.Lemmas.C03BaseFolds

namespace ForML.Compose

/-- prototype of `Worker.fgen`: all forks have the group, actor and shape of the first one -/
def ProtoOk (g : Graph) (a : Actor) (N lo : Nat) : Option WRef → Prop
  | none => True
  | some p => p.actor = a ∧ p.szin = N ∧ p.szout = 1 ∧ lo ≤ p.gid ∧ p.gid < g.next

theorem ProtoOk.mono {g g' : Graph} {a N lo p} (h : ProtoOk g a N lo p) (hn : g.next ≤ g'.next) : ProtoOk g' a N lo p := by
  cases p with
  | none => trivial
  | some p => obtain ⟨h1, h2, h3, h4, h5⟩ := h; exact ⟨h1, h2, h3, h4, by omega⟩

theorem fgenNext_spec {g : Graph} {W : World} (hi : Inv g W) (hw : Wired g) (sp : Option WRef) (a : Actor) (N lo : Nat)
    (hlo : lo ≤ g.next) (hp : ProtoOk g a N lo sp) :
    ∃ w g1, Run (fgenNext sp a N 1) g w g1 ∧ w.uid = g.next ∧ Inv g1 W ∧ Wired g1 ∧ Frame g g1 ∧ g.next < g1.next ∧
      lo ≤ w.gid ∧ Coll g1 W w.uid w.gid a N 0 (fun _ => default) ∧ ProtoOk g1 a N lo (some (sp.getD w)) ∧
      g1.trains = g.trains ∧ ∀ u k, g1.inputOf u k = g.inputOf u k := by
  cases sp with
  | none =>
    have h := newWorker_spec hi hw a N 1
    exact ⟨_, _, run_newWorker a N 1 g, rfl, h.inv, h.wired, h.frame, h.next_lt, Nat.le_succ_of_le hlo,
      h.coll hi.bounded rfl rfl rfl, ⟨rfl, rfl, rfl, Nat.le_succ_of_le hlo, Nat.lt_succ_self _⟩, rfl, fun _ _ => rfl⟩
  | some p =>
    obtain ⟨h1, h2, h3, h4, h5⟩ := hp
    have h := fork_spec hi hw p h5
    exact ⟨_, _, run_fork p g, rfl, h.inv, h.wired, h.frame, h.next_lt, h4, h.coll hi.bounded h1 h2 h3,
      ⟨h1, h2, h3, h4, Nat.lt_succ_of_lt h5⟩, rfl, fun _ _ => rfl⟩

theorem baseForks_spec {g : Graph} {W : World} (hi : Inv g W) (hw : Wired g) (sp rp : Option WRef) (aS aR : Actor)
    (N lo rr : Nat) (hlo : lo ≤ g.next) (hpS : ProtoOk g aS N lo sp) (hpR : ProtoOk g aR N lo rp) {tO aO : WRef}
    (hneO : tO.uid ≠ aO.uid) {aOut : Actor} {Nb i : Nat} {insT insA : Nat → PubRef}
    (hcT : Coll g W tO.uid tO.gid aOut Nb i insT) (hcA : Coll g W aO.uid aO.gid aOut Nb i insA) :
    ∃ wS wR g1 g2 g3 g4, Run (fgenNext sp aS N 1) g wS g1 ∧ Run (fgenNext rp aR N 1) g1 wR g2 ∧
      Run (subscribe tO.uid i ⟨wS.uid, 0⟩) g2 () g3 ∧ Run (subscribe aO.uid i ⟨wR.uid, 0⟩) g3 () g4 ∧
      (g.next ≤ wS.uid ∧ wS.uid < wR.uid ∧ wR.uid < g4.next) ∧ (lo ≤ wS.gid ∧ lo ≤ wR.gid) ∧
      LoopOk (fun u => u = tO.uid ∨ u = aO.uid) lo g g4 W W rr ∧
      Coll g4 W tO.uid tO.gid aOut Nb (i + 1) (fun k => if k = i then ⟨wS.uid, 0⟩ else insT k) ∧
      Coll g4 W aO.uid aO.gid aOut Nb (i + 1) (fun k => if k = i then ⟨wR.uid, 0⟩ else insA k) ∧
      Coll g4 W wS.uid wS.gid aS N 0 (fun _ => default) ∧ Coll g4 W wR.uid wR.gid aR N 0 (fun _ => default) ∧
      ProtoOk g4 aS N lo (some (sp.getD wS)) ∧ ProtoOk g4 aR N lo (some (rp.getD wR)) ∧ g4.trains = g.trains ∧
      ∀ s k, g.next ≤ s → g4.inputOf s k = none := by
  obtain ⟨wS, g1, rS, euS, hi1, hw1, hf1, hn1, hgS, cS1, hpS1, htr1, hin1⟩ := fgenNext_spec hi hw sp aS N lo hlo hpS
  obtain ⟨wR, g2, rR, euR, hi2, hw2, hf2, hn2, hgR, cR2, hpR2, htr2, hin2⟩ :=
    fgenNext_spec hi1 hw1 rp aR N lo (Nat.le_trans hlo hf1.next_le) (hpR.mono hf1.next_le)
  have f02 : Frame g g2 := hf1.trans hf2
  have hT := hcT.lt
  have hA := hcA.lt
  have huS : g.next ≤ wS.uid := Nat.le_of_eq euS.symm
  have huSR : wS.uid < wR.uid := by rw [euS, euR]; exact hn1
  have huR : g.next ≤ wR.uid := Nat.le_of_lt (Nat.lt_of_le_of_lt huS huSR)
  have ltR : wR.uid < g2.next := by rw [euR]; exact hn2
  have ltS : wS.uid < g2.next := Nat.lt_trans huSR ltR
  have old : ∀ {c u : Nat}, c < g.next → g.next ≤ u → u ≠ c := fun hc hu => Nat.ne_of_gt (Nat.lt_of_lt_of_le hc hu)
  have cT2 := hcT.frame f02 (Agree.refl _ _)
  have cA2 := hcA.frame f02 (Agree.refl _ _)
  obtain ⟨r3, hl3, cT3⟩ := (LoopOk.ofFrame (X := fun u => u = tO.uid ∨ u = aO.uid) (lo := lo) rr hi hi2 hw2 f02).push cT2
    (fun _ => Or.inl rfl) ⟨wS.uid, 0⟩ ltS
  have cA3 := cA2.pushEdge ⟨tO.uid, i, ⟨wS.uid, 0⟩⟩ hneO.symm
  obtain ⟨r4, hl4, cA4⟩ := hl3.push cA3 (fun _ => Or.inr rfl) ⟨wR.uid, 0⟩ ltR
  refine ⟨wS, wR, g1, g2, _, _, rS, rR, r3, r4, ⟨huS, huSR, ltR⟩, ⟨hgS, hgR⟩, hl4, cT3.pushEdge _ hneO, cA4,
    ((cS1.frame hf2 (Agree.refl _ _)).pushEdge _ (old hT huS)).pushEdge _ (old hA huS),
    (cR2.pushEdge _ (old hT huR)).pushEdge _ (old hA huR),
    hpS1.mono hf2.next_le, hpR2, htr2.trans htr1, ?_⟩
  intro s k hs
  rw [inputOf_pushEdge_ne (e := ⟨aO.uid, i, ⟨wR.uid, 0⟩⟩) (old hA hs).symm k,
    inputOf_pushEdge_ne (e := ⟨tO.uid, i, ⟨wS.uid, 0⟩⟩) (old hT hs).symm k,
    hin2, hin1]
  exact hi.bounded.inputOf_none hs k

/-- the train-mode value of one base: the held-out predictions of its fold models, stacked -/
def baseTrainVal (stacker N : Nat) (foldSem : Nat → Sem) (testV : Nat → Val) (B : Scope) : Val :=
  .apply stacker .none ((List.range N).map (fun k => (B (testV k) (foldSem k).train (foldSem k).label).apply))

/-- the apply-mode value of one base: the predictions of its fold models, reduced -/
def baseApplyVal (reducer N : Nat) (foldSem : Nat → Sem) (B : Scope) : Val :=
  .apply reducer .none ((List.range N).map (fun k => (B (foldSem k).apply (foldSem k).train (foldSem k).label).apply))

/-- the two forks of a base (uids in `[n, n4)`) rank one level above its fold models (uids `[n4, n5)`) -/
theorem forks_rank {n n4 n5 rr : Nat} (hrr : rr ≤ n) (h4 : n < n4) (h5 : n4 ≤ n5) :
    rr + (n5 - n4) < n5 ∧ rr + (n5 - n4) < rr + (n5 - n) := by
  omega

/-- `tO` / `aO` are `train_output` / `apply_output`, pending collectors with one port subscribed per base handled so far
(`insT` / `insA`); `Bs` lists the meanings of all bases, `done` those handled, `sp` / `rp` are the first `stacker` / `reducer` fork once there
is one, `n0` is where the first round began (ranks of the ports are bounded by the uids drawn since).  `gb`, `a`, `cc` as in
`baseFoldsLoop_spec`, here with the two output collectors between `gb.next` and `cc`. -/
theorem basesLoop_spec (folds : List Fold) (stacker reducer : Nat) (tO aO : WRef) (hneO : tO.uid ≠ aO.uid) (aOut : Actor)
    (Nb rr lo : Nat) (foldSem : Nat → Sem) (testV : Nat → Val) (lfuid : Nat) (gb : Graph) (a cc : Nat)
    (hTu : gb.next ≤ tO.uid ∧ tO.uid < cc) (hAu : gb.next ≤ aO.uid ∧ aO.uid < cc)
    (hfolds : ∀ f ∈ folds, FoldReach gb a lo f) (hnf : 0 < folds.length) (Bs : List Scope) :
    ∀ (pairs : List (GraphM Trunk × Scope)), (∀ p ∈ pairs, Spec True p.1 p.2 ∧ p.2.Indep) →
    ∀ (done : List Scope) (g : Graph) (W : World) (sp rp : Option WRef) (insT insA : Nat → PubRef) (n0 : Nat),
      Bs = done ++ pairs.map (·.2) → Track a lo cc rr gb g W → n0 ≤ g.next →
      FoldsVal W rr foldSem testV lfuid 0 folds →
      Coll g W tO.uid tO.gid aOut Nb done.length insT → Coll g W aO.uid aO.gid aOut Nb done.length insA →
      ProtoOk g ⟨stacker, false⟩ folds.length lo sp → ProtoOk g ⟨reducer, false⟩ folds.length lo rp →
      Ports a cc g W (rr + (g.next - n0)) done.length insT insA
        (fun b => baseTrainVal stacker folds.length foldSem testV (Bs.getD b Scope.origin))
        (fun b => baseApplyVal reducer folds.length foldSem (Bs.getD b Scope.origin)) →
      ∃ g' W' insT' insA', Run (basesLoop folds ⟨stacker, false⟩ ⟨reducer, false⟩ tO aO done.length sp rp (pairs.map (·.1))) g () g' ∧
        LoopOk (fun u => u = tO.uid ∨ u = aO.uid) lo g g' W W' rr ∧
        Coll g' W' tO.uid tO.gid aOut Nb (done.length + pairs.length) insT' ∧
        Coll g' W' aO.uid aO.gid aOut Nb (done.length + pairs.length) insA' ∧
        Ports a cc g' W' (rr + (g'.next - n0)) (done.length + pairs.length) insT' insA'
          (fun b => baseTrainVal stacker folds.length foldSem testV (Bs.getD b Scope.origin))
          (fun b => baseApplyVal reducer folds.length foldSem (Bs.getD b Scope.origin)) ∧
        Track a lo cc rr gb g' W' ∧
        Trained g g' W' ((pairs.map (·.2)).flatMap (fun B => (List.range folds.length).flatMap
          (fun k => (B (foldSem k).apply (foldSem k).train (foldSem k).label).states))) := by
  intro pairs
  induction pairs with
  | nil =>
    intro _ done g W sp rp insT insA n0 _ tr _ _ hcT hcA _ _ hp
    exact ⟨g, W, insT, insA, rfl, LoopOk.refl tr.inv tr.wired rr, hcT, hcA, hp, tr, Trained.nil W rfl⟩
  | cons pr rest ih =>
    intro hsp done g W sp rp insT insA n0 hBs tr hn0 hfv hcT hcA hpS hpR hp
    have hi := tr.inv
    obtain ⟨hspec, hindep⟩ := hsp pr List.mem_cons_self
    obtain ⟨base, B⟩ := pr
    have hXo : ∀ x, (x = tO.uid ∨ x = aO.uid) → gb.next ≤ x ∧ x < cc := by
      intro x hx; rcases hx with e | e <;> rw [e] <;> assumption
    have hnb := tr.frame.next_le
    obtain ⟨wS, wR, g1, g2, g3, g4, rS, rR, r3, r4, ⟨huS, huSR, huR⟩, ⟨hgS, hgR⟩, hl4, cT4, cA4, cS4, cR4, hpS4, hpR4, htr4,
        hin4⟩ := baseForks_spec hi tr.wired sp rp ⟨stacker, false⟩ ⟨reducer, false⟩ folds.length lo rr tr.hlo hpS hpR hneO hcT hcA
    have hn4 := hl4.next_le
    have huR' : g.next ≤ wR.uid := Nat.le_of_lt (Nat.lt_of_le_of_lt huS huSR)
    have hag : a < g.next := Nat.lt_of_lt_of_le tr.ha hnb
    obtain ⟨g5, W5, insS, insR, r5, hl5, cS5, cR5, hp5, tr5, htr5⟩ :=
      baseFoldsLoop_spec hspec hindep wS wR (Nat.ne_of_lt huSR) ⟨stacker, false⟩ ⟨reducer, false⟩ folds.length rr lo foldSem
        testV lfuid gb a g4.next ⟨Nat.le_trans hnb huS, Nat.lt_trans huSR huR⟩ ⟨Nat.le_trans hnb huR', huR⟩ folds 0
        g4 W _ _ g4.next
        ⟨tr.wb, tr.bb, tr.ha, hl4.inv, hl4.wired, Nat.le_trans tr.hrr hn4, Nat.le_trans tr.hlo hn4,
          hl4.frameFrom tr.frame (fun x hx => (hXo x hx).1), Nat.le_refl _,
          AReg.init hl4.inv.bounded (Nat.lt_of_lt_of_le hag hn4)⟩
        (Nat.le_refl _) hfv cS4 cR4 (fun k hk => absurd hk (Nat.not_lt_zero k)) hfolds
    simp only [Nat.zero_add] at cS5 cR5 hp5 htr5
    have hn5 := hl5.next_le
    have hl5' : LoopOk (fun u => u = tO.uid ∨ u = aO.uid) lo g g5 W W5 rr :=
      hl4.seq (hl5.weaken (fun _ h => h) (Nat.le_add_right _ _)) (fun u hu hx =>
        absurd hu (Nat.not_lt.mpr (hx.elim (fun e => e ▸ huS) (fun e => e ▸ huR'))))
    obtain ⟨hρ, hρb⟩ := forks_rank tr.hrr (Nat.lt_of_le_of_lt huR' huR) hn5
    have hρ0 := Nat.lt_of_lt_of_le hρb (Nat.add_le_add_left (Nat.sub_le_sub_left hn0 _) _)
    obtain ⟨W6, hl6, ad6⟩ := hl5'.mkLive cS5 rfl huS hgS hρ hρb (fun k hk => (hp5 k hk).valT)
    obtain ⟨W7, hl7, ad7⟩ := hl6.mkLive (cR5.adds ad6 (Nat.ne_of_lt huSR).symm) rfl huR' hgR hρ hρb
      (fun k hk => (hp5 k hk).valA.keeps ad6.keeps)
    have pS7 := (ad6.pub 0).keeps ad7.keeps
    have pR := ad7.pub 0
    have keep7 : Keeps W5 W7 := ad6.keeps.trans ad7.keeps
    have old7 : Keeps W W7 := (hl5'.keeps hi).trans keep7
    have collOut : ∀ {c : Nat} {gid i : Nat} {ins : Nat → PubRef}, c < g.next →
        Coll g4 W c gid aOut Nb i ins → Coll g5 W7 c gid aOut Nb i ins := by
      intro c gid i ins hc h
      have hS : c ≠ wS.uid := Nat.ne_of_lt (Nat.lt_of_lt_of_le hc huS)
      have hR : c ≠ wR.uid := Nat.ne_of_lt (Nat.lt_of_lt_of_le hc huR')
      exact ((h.loop hl5 (fun hx => hx.elim hS hR)).adds ad6 hS).adds ad7 hR
    have hlen : (done ++ [B]).length = done.length + 1 := by simp
    -- the `reducer` fork joins the apply side, the `stacker` fork stays off it
    obtain ⟨hareg7, hmid5⟩ := tr.areg.close (On := fun s => s = wR.uid) tr.frame tr.wb tr.wired hXo hl5'.input hl5'.inputMono
      hl7.agree tr.hcc hag hn4 tr5.areg (fun q hq => Or.inr hq)
      (by
        intro s h1 h2 k q hq
        by_cases eS : s = wS.uid
        · rw [eS] at hq
          obtain ⟨hk, e⟩ := cS5.input_full hq
          rw [e]
          exact ⟨Or.inl (hp5 k hk).geT, fun hr => absurd hr (hp5 k hk).offT,
            fun e' => absurd (eS.symm.trans e') (Nat.ne_of_lt huSR)⟩
        · by_cases eR : s = wR.uid
          · rw [eR] at hq
            obtain ⟨hk, e⟩ := cR5.input_full hq
            rw [e]
            exact ⟨Or.inl (hp5 k hk).geA, fun _ => eR, fun _ => (hp5 k hk).onA⟩
          · rw [hl5.input s k h2 (fun hx => hx.elim eS eR), hin4 s k h1] at hq; cases hq)
      (fun s _ _ e => ⟨e ▸ pR.live, 0, _, e ▸ cR5.filled 0 hnf⟩)
      (fun n _ hl => (keep7 ⟨n, 0⟩ hl).1)
    have rR5 : Reach g5 a wR.uid := (hmid5 _ huR' huR).mpr rfl
    have nS5 : ¬ Reach g5 a wS.uid := fun hr => Nat.ne_of_lt huSR ((hmid5 _ huS (Nat.lt_trans huSR huR)).mp hr)
    have hBd : Bs.getD done.length Scope.origin = B := by rw [hBs]; simp
    have hp7 := Ports.succ (fun b hb => (hp b hb).keep tr hXo hl7
        (Nat.add_le_add_left (Nat.sub_le_sub_right hl7.next_le _) _))
      (show PortOk a cc g5 W7 (rr + (g5.next - n0)) ⟨wS.uid, 0⟩ ⟨wR.uid, 0⟩ _ _ from
        hBd.symm ▸ ⟨pS7.mono hρ0, pR.mono hρ0, rR5, nS5, Nat.le_trans tr.hcc huR', Nat.le_trans tr.hcc huS⟩)
    obtain ⟨g', W', insT', insA', hrun, hl', cT', cA', hp', tr', htr'⟩ :=
      ih (fun p hp => hsp p (List.mem_cons_of_mem _ hp)) (done ++ [B]) g5 W7 (some (sp.getD wS)) (some (rp.getD wR)) _ _
        n0 (by rw [hBs]; simp) (tr.next hl7 (fun x hx => (hXo x hx).1) hareg7) (Nat.le_trans hn0 hl5'.next_le)
        (FoldsVal.mono (Nat.le_refl _) (fun q r v h => h.keeps old7) folds 0 hfv)
        (by rw [hlen]; exact collOut hcT.lt cT4) (by rw [hlen]; exact collOut hcA.lt cA4) (hpS4.mono hn5) (hpR4.mono hn5)
        (by rw [hlen]; exact hp7)
    rw [hlen] at hrun cT' cA' hp'
    have hlen' : done.length + (((base, B) :: rest) : List (GraphM Trunk × Scope)).length = done.length + 1 + rest.length := by
      rw [List.length_cons]; omega
    rw [hlen']
    refine ⟨g', W', insT', insA', ?_, hl7.trans hl', cT', cA', hp', tr', ?_⟩
    · simp only [List.map_cons]
      unfold basesLoop
      exact Run.bind rS (Run.bind rR (Run.bind r3 (Run.bind r4 (Run.bind r5 hrun))))
    · have h5 := htr5.start htr4
      have hlt7 : ∀ n, W7.live n → n < g5.next := fun n hn => (hl7.inv.liveLt n hn).1
      exact ((h5.keeps keep7).keeps (hl'.agree.keeps hlt7)).append htr'

end ForML.Compose
