/-
C18: the process level of ForML.Model.ManifestStore (`sys.path_importer_cache`) adds nothing to the
file level as long as no location changes its kind under a cached finder.
-/
import ForML.Lemmas.C18Store

namespace ForML.Store

/-- every cached finder fits what is at its location now -/
def Consistent (k : Memo) (s : Store) : Prop := ∀ p z e, k p = some z → s p = some e → z = isZip e

def isZipL : LEntry → Bool
  | .zip _ _ => true
  | .dir _ _ => false

theorem isZip_abs (e : Entry) : isZip e = isZipL (absE e) := by cases e <;> rfl

theorem consult_none (k : Memo) (s : Store) (p : Path) (h : s p = none) : consult k s p = (k, false) := by
  simp [consult, h]

theorem consult_ok (k : Memo) (s : Store) (p : Path) (e : Entry) (hc : Consistent k s) (h : s p = some e) :
    (consult k s p).2 = true ∧ Consistent (consult k s p).1 s := by
  unfold consult
  rw [h]
  cases hk : k p with
  | none =>
    refine ⟨rfl, ?_⟩
    intro q z e' hq hs
    simp only at hq
    split at hq
    · rename_i hqp; subst hqp; rw [h] at hs; cases hs; cases hq; rfl
    · exact hc q z e' hq hs
  | some z =>
    simp only
    rw [hc p z e hk h]
    exact ⟨by simp, hc⟩

theorem consult_cached (k : Memo) (s : Store) (p : Path) (z : Bool) (h : k p = some z) : (consult k s p).1 = k := by
  unfold consult
  cases s p with
  | none => rfl
  | some e => rw [h]

theorem consistent_consult (k : Memo) (s : Store) (p : Path) (hc : Consistent k s) : Consistent (consult k s p).1 s := by
  cases hs : s p with
  | none => rw [consult_none k s p hs]; exact hc
  | some e => exact (consult_ok k s p e hc hs).2

theorem kinds_readAt (bc : Bool) (s : Store) (p q : Path) : ((readAt bc s p).1 q).map isZip = (s q).map isZip := by
  rw [show isZip = isZipL ∘ absE from funext isZip_abs, ← Option.map_map, ← Option.map_map]
  exact congrArg _ (congrFun (readAt_abs bc s p) q)

theorem consistent_kinds (k : Memo) (s s' : Store) (hc : Consistent k s) (h : ∀ q, (s' q).map isZip = (s q).map isZip) :
    Consistent k s' := by
  intro q z e hk hs
  have hq := h q
  rw [hs] at hq
  cases hsq : s q with
  | none => rw [hsq] at hq; cases hq
  | some e0 =>
    rw [hsq] at hq
    simp only [Option.map, Option.some.injEq] at hq
    rw [hq]
    exact hc q z e0 hk hsq

theorem consistent_readAt (bc : Bool) (k : Memo) (s : Store) (p : Path) (hc : Consistent k s) :
    Consistent k (readAt bc s p).1 :=
  consistent_kinds k s _ hc (kinds_readAt bc s p)

theorem preadAt_spec (bc : Bool) (s : Store) (k : Memo) (p : Path) (hc : Consistent k s) :
    ∃ k', preadAt bc s k p = ((readAt bc s p).1, k', (readAt bc s p).2) ∧ Consistent k' (readAt bc s p).1 := by
  refine ⟨(consult k s p).1, ?_, consistent_readAt bc _ s p (consistent_consult k s p hc)⟩
  unfold preadAt
  cases hs : s p with
  | none =>
    rw [consult_none k s p hs]
    simp [readAt, hs]
  | some e =>
    rw [(consult_ok k s p e hc hs).1]
    rfl

theorem consistent_set (k : Memo) (s : Store) (p : Path) (e : Entry) (hc : Consistent k s)
    (h : ∀ z, k p = some z → z = isZip e) : Consistent k (s.set p e) := by
  intro q z e' hk hs
  rw [set_get] at hs
  split at hs
  · rename_i hq; subst hq; cases hs; exact h z hk
  · exact hc q z e' hk hs

theorem consistent_del (k : Memo) (s : Store) (p : Path) (hc : Consistent k s) : Consistent k (s.del p) := by
  intro q z e' hk hs
  rw [del_get] at hs
  split at hs
  · cases hs
  · exact hc q z e' hk hs

theorem consistent_empty : Consistent Memo.empty Store.empty := by
  intro p z e hk _
  cases hk

/-- `consult` leaves a finder that was cached for `p` as it is, so if the cache agrees with `e` afterwards, the finder
cached before (if any) fitted `e` too -/
theorem consistent_of_agree (k : Memo) (s : Store) (p : Path) (e : Entry) (hc : Consistent k s)
    (ha : agree (consult k (s.set p e) p).1 (s.set p e) p = true) :
    Consistent k (s.set p e) ∧ (consult k (s.set p e) p).2 = true := by
  have hget : (s.set p e) p = some e := by simp [set_get]
  have hcs : Consistent k (s.set p e) := by
    apply consistent_set k s p e hc
    intro z hz
    unfold agree at ha
    rw [consult_cached k _ p z hz, hz, hget] at ha
    simpa using ha
  exact ⟨hcs, (consult_ok k _ p e hcs hget).1⟩

theorem copyTo_get (s : Store) (src dst : Path) (t : Nat) (m : SM) (q : Path) (hq : q ≠ dst) :
    (copyTo s src dst t m).1 q = s q := by
  unfold copyTo
  split
  · split <;> simp [set_get, hq]
  · simp [set_get, hq]
  · rfl

theorem copyTo_cases (s : Store) (src dst : Path) (t : Nat) (m : SM) :
    ((copyTo s src dst t m).2 = .error .missing ∧ (copyTo s src dst t m).1 = s) ∨
    (∃ e tr, (copyTo s src dst t m).1 = s.set dst e ∧ (copyTo s src dst t m).2 = .installed m tr ∧ treeOf (some e) = tr) := by
  unfold copyTo
  split
  · split
    · exact Or.inr ⟨_, _, rfl, rfl, rfl⟩
    · exact Or.inr ⟨_, _, rfl, rfl, rfl⟩
  · exact Or.inr ⟨_, _, rfl, rfl, rfl⟩
  · exact Or.inl ⟨rfl, rfl⟩

theorem pcopyTo_eq (s : Store) (k : Memo) (src dst : Path) (t : Nat) (m : SM) (hc : Consistent k s)
    (ha : agree (pcopyTo s k src dst t m).2.1 (pcopyTo s k src dst t m).1 dst = true) :
    (pcopyTo s k src dst t m).1 = (copyTo s src dst t m).1 ∧ (pcopyTo s k src dst t m).2.2 = (copyTo s src dst t m).2 ∧
    Consistent (pcopyTo s k src dst t m).2.1 (pcopyTo s k src dst t m).1 := by
  rcases copyTo_cases s src dst t m with ⟨h1, h2⟩ | ⟨e, tr, h1, h2, h3⟩
  · have hp : pcopyTo s k src dst t m = ((copyTo s src dst t m).1, k, .error .missing) := by
      unfold pcopyTo; rw [h1]
    rw [hp]
    refine ⟨rfl, h1.symm, ?_⟩
    show Consistent k (copyTo s src dst t m).1
    rw [h2]; exact hc
  · have hp : pcopyTo s k src dst t m = pcomponents (s.set dst e) k dst m := by
      unfold pcopyTo; rw [h2, h1]
    rw [hp] at ha ⊢
    unfold pcomponents at ha ⊢
    simp only at ha ⊢
    obtain ⟨hcs, hok⟩ := consistent_of_agree k s dst e hc ha
    rw [hok, h1, h2]
    simp only [if_true, set_get, h3]
    exact ⟨trivial, trivial, consistent_consult k _ dst hcs⟩

theorem pcomponents_eq (s : Store) (k : Memo) (dst : Path) (m : SM) (hc : Consistent k s) :
    (pcomponents s k dst m).2.2 = .installed m (treeOf (s dst)) ∧ Consistent (pcomponents s k dst m).2.1 s := by
  refine ⟨?_, consistent_consult k s dst hc⟩
  unfold pcomponents
  -- nothing at `dst`: no finder serves it, and there is no content to find either
  cases hd : s dst with
  | none => rw [consult_none k s dst hd]; rfl
  | some e => rw [(consult_ok k s dst e hc hd).1]; rfl

theorem pinstallAt_refines (bc : Bool) (s : Store) (k : Memo) (src dst : Path) (t : Nat) (hc : Consistent k s)
    (hk : agree (pinstallAt bc s k src dst t).2.1 (pinstallAt bc s k src dst t).1 dst = true) :
    (pinstallAt bc s k src dst t).1 = (installAt bc s src dst t).1 ∧
    (pinstallAt bc s k src dst t).2.2 = (installAt bc s src dst t).2 ∧
    Consistent (pinstallAt bc s k src dst t).2.1 (pinstallAt bc s k src dst t).1 := by
  obtain ⟨k1, e1, c1⟩ := preadAt_spec bc s k src hc
  unfold pinstallAt installAt at *
  rw [e1] at hk ⊢
  generalize readAt bc s src = r1 at *
  obtain ⟨s1, res1⟩ := r1
  cases res1 with
  | error e => exact ⟨rfl, rfl, c1⟩
  | ok m =>
    simp only at c1 hk ⊢
    split
    · rename_i hsd
      subst hsd
      exact ⟨rfl, pcomponents_eq s1 k1 src m c1⟩
    · rename_i hsd
      rw [if_neg hsd] at hk
      obtain ⟨k2, e2, c2⟩ := preadAt_spec bc s1 k1 dst c1
      rw [e2] at hk ⊢
      generalize readAt bc s1 dst = r2 at *
      obtain ⟨s2, res2⟩ := r2
      cases res2 with
      | error e => exact pcopyTo_eq s2 k2 src dst t m c2 hk
      | ok m' =>
        simp only at c2 hk ⊢
        split
        · exact ⟨rfl, pcomponents_eq s2 k2 dst m c2⟩
        · rename_i hm
          rw [if_neg hm] at hk
          exact pcopyTo_eq s2 k2 src dst t m c2 hk

theorem pstep_create (bc : Bool) (s : Store) (k : Memo) (p : Path) (m : SM) (tr : Tree) (hc : Consistent k s)
    (hd : ∀ d, s p ≠ some (.dir d))
    (hk : agree (pstep bc s k (.create p m tr)).2.1 (pstep bc s k (.create p m tr)).1 p = true) :
    step bc s (.create p m tr) = (s.set p (.zip m tr), .manifest m) ∧
    ∃ k', pstep bc s k (.create p m tr) = (s.set p (.zip m tr), k', .manifest m) ∧ Consistent k' (s.set p (.zip m tr)) := by
  have e : step bc s (.create p m tr) = (s.set p (.zip m tr), .manifest m) ∧
      pstep bc s k (.create p m tr) =
        match preadAt bc (s.set p (.zip m tr)) k p with
        | (s1, k1, .ok m') => (s1, k1, .manifest m')
        | (s1, k1, .error e) => (s1, k1, .error e) := by
    match hs : s p with
    | some (.dir d) => exact absurd hs (hd d)
    | none | some (.zip _ _) => exact ⟨by simp only [step, hs], by simp only [pstep, hs]; rfl⟩
  refine ⟨e.1, ?_⟩
  rw [e.2] at hk ⊢
  have hz : readAt bc (s.set p (.zip m tr)) p = (s.set p (.zip m tr), .ok m) := by simp [readAt, set_get]
  unfold preadAt at hk ⊢
  rw [hz] at hk ⊢
  -- whether or not the finder fits, the cache and the store `agree` speaks of are these
  have hag : agree (consult k (s.set p (.zip m tr)) p).1 (s.set p (.zip m tr)) p = true := by
    cases hcc : (consult k (s.set p (.zip m tr)) p).2 <;> simpa [hcc] using hk
  obtain ⟨hcs, hok⟩ := consistent_of_agree k s p (.zip m tr) hc hag
  rw [hok]
  exact ⟨_, rfl, consistent_consult k _ p hcs⟩

/-- **one step with the finder cache**: from a consistent cache, an operation that leaves its target servable behaves
as at the file level and leaves the cache consistent -/
theorem pstep_refines (bc : Bool) (s : Store) (k : Memo) (op : Op) (hc : Consistent k s) (hk : okKind bc s k op = true) :
    (pstep bc s k op).1 = (step bc s op).1 ∧ (pstep bc s k op).2.2 = (step bc s op).2 ∧
    Consistent (pstep bc s k op).2.1 (pstep bc s k op).1 := by
  cases op with
  | write p m t =>
    refine ⟨rfl, rfl, ?_⟩
    simp only [okKind, target, pstep] at hk
    show Consistent k (step bc s (.write p m t)).1
    simp only [step] at hk ⊢
    cases hs : s p with
    | none =>
      rw [hs] at hk
      apply consistent_set k s p _ hc
      intro z hz
      simp only [agree, hz, set_get, if_true] at hk
      simpa using hk
    | some e =>
      cases e with
      | zip m0 tr => exact hc
      | dir d =>
        apply consistent_set k s p _ hc
        intro z hz
        exact hc p z (.dir d) hz hs
  | create p m tr =>
    simp only [okKind, target] at hk
    by_cases hd : ∃ d, s p = some (.dir d)
    · obtain ⟨d, hs⟩ := hd
      simp only [pstep, step, hs]
      exact ⟨trivial, trivial, hc⟩
    · obtain ⟨e1, k', e2, c⟩ := pstep_create bc s k p m tr hc (fun d hs => hd ⟨d, hs⟩) hk
      rw [e1, e2]
      exact ⟨rfl, rfl, c⟩
  | install src dst t =>
    simp only [okKind, target, pstep] at hk
    exact pinstallAt_refines bc s k src dst t hc hk
  | read p =>
    obtain ⟨k1, e1, c1⟩ := preadAt_spec bc s k p hc
    simp only [pstep, step]
    rw [e1]
    generalize readAt bc s p = r at c1
    obtain ⟨s1, res⟩ := r
    cases res with
    | ok m => exact ⟨rfl, rfl, c1⟩
    | error e => exact ⟨rfl, rfl, c1⟩
  | remove p => exact ⟨rfl, rfl, consistent_del k s p hc⟩

end ForML.Store
