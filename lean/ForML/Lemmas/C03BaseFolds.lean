/-
The per-base fold loop of `FullStack.Builder.build` (`baseFoldsLoop`): a base model is expanded
once per fold on that fold's three outputs; a copy of its apply segment is fed with the fold's held-out output
(`Fold.test.train`); the copy's output goes to the base's `stacker`, the fold model's own apply output to the base's
`reducer`.
-/
import ForML.Lemmas.C03Folds

namespace ForML.Compose

/-- `stacker` / `reducer` are the two forks of the base, pending collectors with their first `i` ports subscribed to
`insS` / `insR` (`i` = the number of the first fold of the list); they were created after the reference graph `gb` of
`AReg` and before the first tracked uid `cc`.  `n0` is where the first round of this loop began: the ranks of the
publishers on the ports are bounded by the uids drawn since. -/
theorem baseFoldsLoop_spec {base : GraphM Trunk} {B : Scope} (hb : Spec True base B) (hB : B.Indep)
    (stacker reducer : WRef) (hne : stacker.uid ≠ reducer.uid) (aS aR : Actor) (N : Nat) (rr lo : Nat)
    (foldSem : Nat → Sem) (testV : Nat → Val) (lfuid : Nat) (gb : Graph) (a cc : Nat)
    (hSu : gb.next ≤ stacker.uid ∧ stacker.uid < cc) (hRu : gb.next ≤ reducer.uid ∧ reducer.uid < cc) :
    ∀ (folds : List Fold) (i : Nat) (g : Graph) (W : World) (insS insR : Nat → PubRef) (n0 : Nat),
      Track a lo cc rr gb g W → n0 ≤ g.next → FoldsVal W rr foldSem testV lfuid i folds →
      Coll g W stacker.uid stacker.gid aS N i insS → Coll g W reducer.uid reducer.gid aR N i insR →
      Ports a cc g W (rr + (g.next - n0)) i insS insR (fun k => (B (testV k) (foldSem k).train (foldSem k).label).apply)
        (fun k => (B (foldSem k).apply (foldSem k).train (foldSem k).label).apply) →
      (∀ f ∈ folds, FoldReach gb a lo f) →
      ∃ g' W' insS' insR', Run (baseFoldsLoop base stacker reducer i folds) g () g' ∧
        LoopOk (fun u => u = stacker.uid ∨ u = reducer.uid) lo g g' W W' rr ∧
        Coll g' W' stacker.uid stacker.gid aS N (i + folds.length) insS' ∧
        Coll g' W' reducer.uid reducer.gid aR N (i + folds.length) insR' ∧
        Ports a cc g' W' (rr + (g'.next - n0)) (i + folds.length) insS' insR'
          (fun k => (B (testV k) (foldSem k).train (foldSem k).label).apply)
          (fun k => (B (foldSem k).apply (foldSem k).train (foldSem k).label).apply) ∧
        Track a lo cc rr gb g' W' ∧
        Trained g g' W' ((List.range folds.length).flatMap
          (fun j => (B (foldSem (i + j)).apply (foldSem (i + j)).train (foldSem (i + j)).label).states)) := by
  intro folds
  induction folds with
  | nil =>
    intro i g W insS insR n0 tr _ _ hcS hcR hp _
    exact ⟨g, W, insS, insR, rfl, LoopOk.refl tr.inv tr.wired rr, hcS, hcR, hp, tr, Trained.nil W rfl⟩
  | cons f rest ih =>
    intro i g W insS insR n0 tr hn0 hfv hcS hcR hp hfolds
    obtain ⟨fa, ft, fl, fx, _, hfrest⟩ := hfv
    obtain ⟨t, c, g1, g2, g3, g4, g5, g6, W6, r1, r2, r3, r4, r5, r6, hit, hext⟩ :=
      iterV2 hb hB tr.inv tr.wired rr tr.hrr fa ft fl fx
    have hl6 : LoopOk (fun u => u = stacker.uid ∨ u = reducer.uid) lo g g6 W W6 rr := hit.loop tr.hlo tr.inv
    have hn6 := hit.frame.next_le
    have hlt6 : ∀ n, W6.live n → n < g6.next := fun n hn => (hit.inv.liveLt n hn).1
    have hXr : ∀ x, (x = stacker.uid ∨ x = reducer.uid) → gb.next ≤ x ∧ x < cc := by
      intro x hx; rcases hx with e | e <;> rw [e] <;> assumption
    obtain ⟨ireg, tr6⟩ := tr.round (hfolds f List.mem_cons_self) hit hext
    have cS6 : Coll g6 W6 stacker.uid stacker.gid aS N i insS := hcS.frame hit.frame hit.agree
    have cR6 : Coll g6 W6 reducer.uid reducer.gid aR N i insR := hcR.frame hit.frame hit.agree
    obtain ⟨r7, hl7, cS7⟩ := (LoopOk.refl (X := fun u => u = stacker.uid ∨ u = reducer.uid) (lo := lo) hit.inv hit.wired rr).push
      cS6 (fun _ => Or.inl rfl) c.publisher (hlt6 _ hit.tc.1)
    have tr7 := tr6.pushEdge hl7 (fun x hx => (hXr x hx).1) hSu
    have cR7 := cR6.pushEdge ⟨stacker.uid, i, c.publisher⟩ hne.symm
    obtain ⟨r8, hl78, cR8⟩ := (LoopOk.refl (X := fun u => u = stacker.uid ∨ u = reducer.uid) (lo := lo) tr7.inv tr7.wired rr).push
      cR7 (fun _ => Or.inr rfl) t.apply.publisher (by show t.apply.tail < g6.next; exact hlt6 _ hit.ta.1)
    have tr8 := tr7.pushEdge hl78 (fun x hx => (hXr x hx).1) hRu
    have cS8 := cS7.pushEdge ⟨reducer.uid, i, t.apply.publisher⟩ hne
    have hl68 := hl7.trans hl78
    obtain ⟨g8, hg8⟩ : ∃ x, x = (g6.pushEdge ⟨stacker.uid, i, c.publisher⟩).pushEdge ⟨reducer.uid, i, t.apply.publisher⟩ :=
      ⟨_, rfl⟩
    have hn8 : g8.next = g6.next := by rw [hg8]; rfl
    rw [← hg8] at hl68 cR8 cS8 r8 tr8
    have hl8 := hl6.trans hl68
    have hfv8 : FoldsVal W6 rr foldSem testV lfuid (i + 1) rest :=
      FoldsVal.mono (Nat.le_refl _) (fun q r v h => h.keeps (hl6.keeps tr.inv)) rest (i + 1) hfrest
    have hrk : rr + (g6.next - g.next) ≤ rr + (g8.next - n0) := hn8 ▸ Nat.add_le_add_left (Nat.sub_le_sub_left hn0 _) _
    have hp8 := Ports.succ (fun k hk => (hp k hk).keep tr hXr hl8
        (Nat.add_le_add_left (Nat.sub_le_sub_right hl8.next_le _) _))
      ⟨⟨hit.tc.1, Nat.lt_of_lt_of_le (hit.rank _ hit.tails_ge.2.2.2 hit.tc.1) hrk, hit.tc.2⟩,
        ⟨hit.ta.1, Nat.lt_of_lt_of_le (hit.rank _ hit.tails_ge.1 hit.ta.1) hrk, hit.ta.2⟩, ireg.ta.mono hl68.inputMono,
        fun hre => ireg.tc (tr6.areg.stable tr6.frame tr6.wb tr6.wired hXr hl68.input (hlt6 _ hit.tc.1)
          (Nat.le_trans tr.hcc hit.tails_ge.2.2.2) hre),
        Nat.le_trans tr.hcc hit.tails_ge.1, Nat.le_trans tr.hcc hit.tails_ge.2.2.2⟩
    obtain ⟨g', W', insS', insR', hrun, hl', cS', cR', hp', tr', htr'⟩ :=
      ih (i + 1) g8 W6 _ _ n0 tr8 (hn8 ▸ Nat.le_trans hn0 hn6) hfv8 cS8 cR8 hp8
        (fun f' hf' => hfolds f' (List.mem_cons_of_mem _ hf'))
    have hlen : i + (f :: rest).length = i + 1 + rest.length := by rw [List.length_cons]; omega
    rw [hlen]
    refine ⟨g', W', insS', insR', ?_, hl8.trans hl', cS', cR', hp', tr', ?_⟩
    · unfold baseFoldsLoop
      exact Run.bind r1 (Run.bind r2 (Run.bind r3 (Run.bind r4 (Run.bind r5 (Run.bind r6 (Run.bind r7 (Run.bind r8 hrun)))))))
    · have hlt8 : ∀ n, W6.live n → n < g8.next := fun n hn => by rw [hn8]; exact hlt6 n hn
      have h6 : Trained g g8 W6 (B (foldSem i).apply (foldSem i).train (foldSem i).label).states := by
        rw [hg8]; exact hit.trains
      have h := (h6.keeps (hl'.agree.keeps hlt8)).append htr'
      have e : ∀ j, i + 1 + j = i + (j + 1) := fun j => by omega
      simp only [e] at h
      rw [List.length_cons, List.range_succ_eq_map, List.flatMap_cons, List.flatMap_map]
      exact h

end ForML.Compose
