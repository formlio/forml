/-
C07: the mutual induction over scripts.  For a `normal`, `tame` script evaluated with structural equality:
`construct` succeeds exactly on the well-formed ones and stores the script itself, and where the script is `resolvable`
a rejection is the grammar error.  Every constructor is a sequence of steps — operands, then the checks of the node —
each of which succeeds under a condition, then returns a known value, and fails in a known way (`Judges`); a case of
the induction composes the facts of its steps (`Judges.bind`), the conditions adding up to `wf`.
-/
import ForML.Model.Grammar
import ForML.Lemmas.C07Nodes

namespace ForML.Dsl

theorem Feature.operable_of_not_alias (f : Feature) (h : f.isAlias = false) : f.operable = f := by
  cases f <;> simp_all [Feature.operable, Feature.isAlias]

theorem Source.inst_of_not_ref (s : Source) (h : s.isRef = false) : s.inst = s := by
  cases s <;> simp_all [Source.inst, Source.isRef]

theorem Source.statement_of_isStatement (s : Source) (h : s.isStatement = true) : s.statement = s := by
  simp [Source.statement, h]

mutual
theorem Feature.construct_spec : (f : Feature) → f.normal = true → f.tame = true → (g : Prop) →
    (g → f.resolvable = true) → Judges g (Feature.construct structEqv f) f (f.wf = true)
  | .lit v, _, _, _, _ => by
    refine Judges.congr (Judges.ok rfl) ?_
    simp only [Feature.wf]
  | .elem o n, hn, ht, g, hr => by
    simp only [Feature.normal] at hn
    simp only [Feature.tame, Bool.and_eq_true] at ht
    simp only [Feature.resolvable, Bool.and_eq_true] at hr
    refine Judges.congr (Judges.bind (Source.construct_spec o hn ht.1 g fun h => (hr h).1) fun _ => Judges.ok rfl) ?_
    simp only [Feature.wf, and_true]
  | .alias f n, hn, ht, g, hr => by
    simp only [Feature.normal, Bool.and_eq_true, Bool.not_eq_true'] at hn
    simp only [Feature.tame] at ht
    refine Judges.congr (Judges.bind (Feature.construct_spec f hn.2 ht g hr) fun _ =>
      Judges.ok (by rw [Feature.operable_of_not_alias f hn.1])) ?_
    simp only [Feature.wf, and_true]
  | .cast f k, hn, ht, g, hr => by
    simp only [Feature.normal] at hn
    simp only [Feature.tame] at ht
    refine Judges.congr (Judges.bind (Feature.construct_spec f hn ht g hr) fun _ => Judges.ok rfl) ?_
    simp only [Feature.wf, and_true]
  | .expr op args, hn, ht, g, hr => by
    simp only [Feature.normal] at hn
    simp only [Feature.tame] at ht
    simp only [Feature.resolvable, Bool.and_eq_true, decide_eq_true_eq, bne_iff_ne, ne_eq] at hr
    refine Judges.congr (Judges.bind (Features.construct_spec args hn ht g fun h => (hr h).1.1) fun hw =>
      Judges.bind (checkExpr_spec op args hw ht hr) fun _ => Judges.ok rfl) ?_
    simp only [Feature.wf, Bool.and_eq_true, and_true, and_assoc]
  | .window fn ps os, hn, ht, g, hr => by
    simp only [Feature.normal, Bool.and_eq_true] at hn
    simp only [Feature.tame, Bool.and_eq_true] at ht
    simp only [Feature.resolvable, Bool.and_eq_true] at hr
    have hfn : Judges g (if fn == .expr .rownumber .nil then Except.ok fn else Feature.construct structEqv fn) fn
        ((fn == .expr .rownumber .nil || fn.wf) = true) := by
      cases hb : fn == .expr .rownumber .nil with
      | true => exact Judges.congr (Judges.ok rfl) (by simp only [Bool.true_or])
      | false =>
        exact Judges.congr (Feature.construct_spec fn hn.1.1 ht.1.1 g fun h => by
          simpa only [hb, Bool.false_or] using (hr h).1.1) (by simp only [Bool.false_or])
    refine Judges.congr (Judges.bind hfn fun _ =>
      Judges.bind (Features.construct_spec ps hn.1.2 ht.1.2 g fun h => (hr h).1.2) fun _ =>
      Judges.bind (Orderings.construct_spec os hn.2 ht.2 g fun h => (hr h).2) fun _ => Judges.ok rfl) ?_
    simp only [Feature.wf, Bool.and_eq_true, and_true, and_assoc]
theorem Features.construct_spec : (fs : Features) → fs.normal = true → fs.tame = true → (g : Prop) →
    (g → fs.resolvable = true) → Judges g (Features.construct structEqv fs) fs (fs.wf = true)
  | .nil, _, _, _, _ => by
    refine Judges.congr (Judges.ok rfl) ?_
    simp only [Features.wf]
  | .cons f fs, hn, ht, g, hr => by
    simp only [Features.normal, Bool.and_eq_true] at hn
    simp only [Features.tame, Bool.and_eq_true] at ht
    simp only [Features.resolvable, Bool.and_eq_true] at hr
    refine Judges.congr (Judges.bind (Feature.construct_spec f hn.1 ht.1 g fun h => (hr h).1) fun _ =>
      Judges.bind (Features.construct_spec fs hn.2 ht.2 g fun h => (hr h).2) fun _ => Judges.ok rfl) ?_
    simp only [Features.wf, Bool.and_eq_true, and_true]
theorem FeatureOpt.construct_spec : (c : FeatureOpt) → c.normal = true → c.tame = true → (g : Prop) →
    (g → c.resolvable = true) → Judges g (FeatureOpt.construct structEqv c) c (c.wf = true)
  | .none, _, _, _, _ => by
    refine Judges.congr (Judges.ok rfl) ?_
    simp only [FeatureOpt.wf]
  | .some f, hn, ht, g, hr => by
    simp only [FeatureOpt.normal] at hn
    simp only [FeatureOpt.tame] at ht
    refine Judges.congr (Judges.bind (Feature.construct_spec f hn ht g hr) fun _ => Judges.ok rfl) ?_
    simp only [FeatureOpt.wf, and_true]
theorem Ordering.construct_spec : (o : Ordering) → o.normal = true → o.tame = true → (g : Prop) →
    (g → o.resolvable = true) → Judges g (Ordering.construct structEqv o) o (o.wf = true)
  | .mk f d, hn, ht, g, hr => by
    simp only [Ordering.normal] at hn
    simp only [Ordering.tame] at ht
    refine Judges.congr (Judges.bind (Feature.construct_spec f hn ht g hr) fun _ => Judges.ok rfl) ?_
    simp only [Ordering.wf, and_true]
theorem Orderings.construct_spec : (os : Orderings) → os.normal = true → os.tame = true → (g : Prop) →
    (g → os.resolvable = true) → Judges g (Orderings.construct structEqv os) os (os.wf = true)
  | .nil, _, _, _, _ => by
    refine Judges.congr (Judges.ok rfl) ?_
    simp only [Orderings.wf]
  | .cons o os, hn, ht, g, hr => by
    simp only [Orderings.normal, Bool.and_eq_true] at hn
    simp only [Orderings.tame, Bool.and_eq_true] at ht
    simp only [Orderings.resolvable, Bool.and_eq_true] at hr
    refine Judges.congr (Judges.bind (Ordering.construct_spec o hn.1 ht.1 g fun h => (hr h).1) fun _ =>
      Judges.bind (Orderings.construct_spec os hn.2 ht.2 g fun h => (hr h).2) fun _ => Judges.ok rfl) ?_
    simp only [Orderings.wf, Bool.and_eq_true, and_true]
theorem Source.construct_spec : (s : Source) → s.normal = true → s.tame = true → (g : Prop) →
    (g → s.resolvable = true) → Judges g (Source.construct structEqv s) s (s.wf = true)
  | .table n fs, _, _, _, _ => by
    refine Judges.congr (Judges.ok rfl) ?_
    simp only [Source.wf]
  | .ref i n, hn, ht, g, hr => by
    simp only [Source.normal, Bool.and_eq_true, Bool.not_eq_true'] at hn
    simp only [Source.tame, Bool.and_eq_true] at ht
    refine Judges.congr (Judges.bind (Source.construct_spec i hn.2 ht.1 g hr) fun _ =>
      Judges.ok (by rw [Source.inst_of_not_ref i hn.1])) ?_
    simp only [Source.wf, and_true]
  | .join l r k c, hn, ht, g, hr => by
    simp only [Source.normal, Bool.and_eq_true] at hn
    simp only [Source.tame, Bool.and_eq_true] at ht
    simp only [Source.resolvable, Bool.and_eq_true] at hr
    refine Judges.congr (Judges.bind (Source.construct_spec l hn.1.1 ht.1.1 g fun h => (hr h).1.1) fun _ =>
      Judges.bind (Source.construct_spec r hn.1.2 ht.1.2 g fun h => (hr h).1.2) fun _ =>
      Judges.bind (FeatureOpt.construct_spec c hn.2 ht.2 g fun h => (hr h).2) fun hwc =>
      Judges.bind (checkJoin_spec l r k c ht.1.1 ht.1.2 hwc ht.2 fun h => (hr h).2) fun _ => Judges.ok rfl) ?_
    simp only [Source.wf, Bool.and_eq_true, and_true, and_assoc]
  | .set l r k, hn, ht, g, hr => by
    simp only [Source.normal, Bool.and_eq_true] at hn
    simp only [Source.tame, Bool.and_eq_true] at ht
    simp only [Source.resolvable, Bool.and_eq_true] at hr
    refine Judges.congr (Judges.bind (Source.construct_spec l hn.1.2 ht.1.1.1 g fun h => (hr h).1) fun hwl =>
      Judges.bind (Source.construct_spec r hn.2 ht.1.1.2 g fun h => (hr h).2) fun hwr =>
      Judges.bind (checkSet_spec l r hwl hwr ht.1.1.1 ht.1.1.2 ht.1.2 ht.2) fun _ =>
      Judges.ok (by rw [Source.statement_of_isStatement l hn.1.1.1, Source.statement_of_isStatement r hn.1.1.2])) ?_
    simp only [Source.wf, Bool.and_eq_true, and_true, and_assoc]
  | .query s sel pre grp post ord rows, hn, ht, g, hr => by
    simp only [Source.normal, Bool.and_eq_true] at hn
    simp only [Source.tame, Bool.and_eq_true] at ht
    simp only [Source.resolvable, Bool.and_eq_true] at hr
    obtain ⟨⟨⟨⟨⟨hns, hnsel⟩, hnpre⟩, hngrp⟩, hnpost⟩, hnord⟩ := hn
    obtain ⟨⟨⟨⟨⟨hts, htsel⟩, htpre⟩, htgrp⟩, htpost⟩, htord⟩ := ht
    refine Judges.congr (Judges.bind (Source.construct_spec s hns hts g fun h => (hr h).1.1.1.1.1) fun _ =>
      Judges.bind (Features.construct_spec sel hnsel htsel g fun h => (hr h).1.1.1.1.2) fun _ =>
      Judges.bind (FeatureOpt.construct_spec pre hnpre htpre g fun h => (hr h).1.1.1.2) fun hwpre =>
      Judges.bind (Features.construct_spec grp hngrp htgrp g fun h => (hr h).1.1.2) fun _ =>
      Judges.bind (FeatureOpt.construct_spec post hnpost htpost g fun h => (hr h).1.2) fun hwpost =>
      Judges.bind (Orderings.construct_spec ord hnord htord g fun h => (hr h).2) fun _ =>
      Judges.bind (checkQuery_spec s sel pre grp post ord hts hwpre htpre (fun h => (hr h).1.1.1.2) hwpost htpost
        fun h => (hr h).1.2) fun _ =>
      Judges.ok rfl) ?_
    simp only [Source.wf, Bool.and_eq_true, and_true, and_assoc]
end

theorem Feature.construct_iff : (f : Feature) → f.normal = true → f.tame = true →
    ∀ f', Feature.construct structEqv f = Except.ok f' ↔ (f' = f ∧ f.wf = true)
  | f, hn, ht => (Feature.construct_spec f hn ht False False.elim).gives

theorem Ordering.construct_iff : (o : Ordering) → o.normal = true → o.tame = true →
    ∀ o', Ordering.construct structEqv o = Except.ok o' ↔ (o' = o ∧ o.wf = true)
  | o, hn, ht => (Ordering.construct_spec o hn ht False False.elim).gives

theorem Source.construct_iff : (s : Source) → s.normal = true → s.tame = true →
    ∀ s', Source.construct structEqv s = Except.ok s' ↔ (s' = s ∧ s.wf = true)
  | s, hn, ht => (Source.construct_spec s hn ht False False.elim).gives

theorem Feature.construct_gonly : (f : Feature) → f.normal = true → f.tame = true → f.resolvable = true →
    GOnly (Feature.construct structEqv f)
  | f, hn, ht, hr => (Feature.construct_spec f hn ht True fun _ => hr).gonly trivial

theorem Features.construct_gonly : (fs : Features) → fs.normal = true → fs.tame = true → fs.resolvable = true →
    GOnly (Features.construct structEqv fs)
  | fs, hn, ht, hr => (Features.construct_spec fs hn ht True fun _ => hr).gonly trivial

theorem FeatureOpt.construct_gonly : (c : FeatureOpt) → c.normal = true → c.tame = true → c.resolvable = true →
    GOnly (FeatureOpt.construct structEqv c)
  | c, hn, ht, hr => (FeatureOpt.construct_spec c hn ht True fun _ => hr).gonly trivial

theorem Ordering.construct_gonly : (o : Ordering) → o.normal = true → o.tame = true → o.resolvable = true →
    GOnly (Ordering.construct structEqv o)
  | o, hn, ht, hr => (Ordering.construct_spec o hn ht True fun _ => hr).gonly trivial

theorem Orderings.construct_gonly : (os : Orderings) → os.normal = true → os.tame = true → os.resolvable = true →
    GOnly (Orderings.construct structEqv os)
  | os, hn, ht, hr => (Orderings.construct_spec os hn ht True fun _ => hr).gonly trivial

theorem Source.construct_gonly : (s : Source) → s.normal = true → s.tame = true → s.resolvable = true →
    GOnly (Source.construct structEqv s)
  | s, hn, ht, hr => (Source.construct_spec s hn ht True fun _ => hr).gonly trivial

end ForML.Dsl
