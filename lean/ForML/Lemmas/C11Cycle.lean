/-
A successful auto-trace (`Traversal.tail()` = `scan`) means that no walk over mapper
subscriptions starting at the head ever comes back to a node it has already passed.
-/
import ForML.Model.Graph

namespace ForML.Graph

/-- the step function of `scan`'s fold -/
def scanStep (fuel : Nat) (g : G) (members : List Nat) (acc : Except Err (List (List Nat))) (n : Nat) :
    Except Err (List (List Nat)) :=
  match acc with
  | .ok ls =>
    if memNode g n members then .error .cyclic
    else match scan fuel g n (n :: members) with
      | .ok ls' => .ok (ls ++ ls')
      | .error e => .error e
  | e => e

theorem scan_fold (fuel : Nat) (g : G) (p : Nat) (ms : List Nat) (ls : List (List Nat))
    (h : scan (fuel + 1) g p ms = .ok ls) :
    ∃ l, (mappers g p none).foldl (scanStep fuel g ms) (.ok []) = .ok l := by
  unfold scan at h
  split at h
  · rename_i h'; exact ⟨_, h'⟩
  · exact ⟨ls, h⟩

theorem scanStep_ok (fuel : Nat) (g : G) (ms : List Nat) (acc : Except Err (List (List Nat))) (n : Nat)
    (l1 : List (List Nat)) (h : scanStep fuel g ms acc n = .ok l1) :
    (∃ l0, acc = .ok l0) ∧ memNode g n ms = false ∧ ∃ ls', scan fuel g n (n :: ms) = .ok ls' := by
  unfold scanStep at h
  cases acc with
  | error e => simp at h
  | ok l0 =>
    simp only at h
    by_cases hm : memNode g n ms = true
    · simp [hm] at h
    · simp only [hm, Bool.false_eq_true, ↓reduceIte] at h
      cases hs : scan fuel g n (n :: ms) with
      | error e => simp [hs] at h
      | ok ls' => exact ⟨⟨l0, rfl⟩, by simpa using hm, ls', rfl⟩

theorem scanFold_ok (fuel : Nat) (g : G) (ms : List Nat) : ∀ (ns : List Nat) (acc : Except Err (List (List Nat)))
    (ls : List (List Nat)), ns.foldl (scanStep fuel g ms) acc = .ok ls →
    (∃ l0, acc = .ok l0) ∧ ∀ n ∈ ns, memNode g n ms = false ∧ ∃ ls', scan fuel g n (n :: ms) = .ok ls' := by
  intro ns
  induction ns with
  | nil => intro acc ls h; exact ⟨⟨ls, h⟩, by simp⟩
  | cons n ns ih =>
    intro acc ls h
    simp only [List.foldl_cons] at h
    obtain ⟨⟨l1, h1⟩, h2⟩ := ih _ ls h
    obtain ⟨a, b, c⟩ := scanStep_ok fuel g ms acc n l1 h1
    refine ⟨a, ?_⟩
    intro x hx
    rcases List.mem_cons.mp hx with rfl | hx
    · exact ⟨b, c⟩
    · exact h2 x hx

/-- `[y1, …, yk]` is a walk over mapper subscriptions starting at `p` -/
def Trail (g : G) : Nat → List Nat → Prop
  | _, [] => True
  | p, y :: ys => y ∈ mappers g p none ∧ Trail g y ys

instance : (g : G) → (p : Nat) → (ys : List Nat) → Decidable (Trail g p ys)
  | _, _, [] => isTrue trivial
  | g, _, y :: ys =>
    have := instDecidableTrail g y ys
    by unfold Trail; infer_instance

theorem not_mem_of_memNode {g : G} {n : Nat} {ms : List Nat} (h : memNode g n ms = false) : n ∉ ms := by
  intro hm
  unfold memNode at h
  have := List.any_eq_false.mp h n hm
  simp at this

theorem scan_trail {g : G} : ∀ (ys : List Nat) (fuel p : Nat) (ms : List Nat) (ls : List (List Nat)),
    scan fuel g p ms = .ok ls → Trail g p ys → (∀ y ∈ ys, y ∉ ms) ∧ ys.Nodup := by
  intro ys
  induction ys with
  | nil => intros; exact ⟨by simp, List.nodup_nil⟩
  | cons y ys ih =>
    intro fuel p ms ls h ht
    cases fuel with
    | zero => simp [scan] at h
    | succ k =>
      obtain ⟨l, hl⟩ := scan_fold k g p ms ls h
      obtain ⟨h1, ls', h2⟩ := (scanFold_ok k g ms _ _ l hl).2 y ht.1
      obtain ⟨a, b⟩ := ih k y (y :: ms) ls' h2 ht.2
      refine ⟨?_, List.nodup_cons.mpr ⟨fun hy => (a y hy) List.mem_cons_self, b⟩⟩
      intro x hx
      rcases List.mem_cons.mp hx with rfl | hx
      · exact not_mem_of_memNode h1
      · exact fun hm => a x hx (List.mem_cons_of_mem _ hm)

end ForML.Graph
