/-
C01 — the table a segment denotes (`Segment.specTable`), symbol by symbol; the rank `keyRank` under which it is acyclic
for a well-formed segment; `Denotes g A t` (`t` has exactly the symbols of `specTable g A`) and, for such a table, the
fix-point equation of the reference interpreter at each kind of symbol.
-/
import ForML.Model.GraphEval
import ForML.Lemmas.C01Interp
import ForML.Lemmas.C01Wf
import ForML.Lemmas.ListFacts

namespace ForML.Flow
namespace Segment

theorem mem_specTable {g : Segment} {A : Option Assets} {s : Symbol} :
    s ∈ g.specTable A ↔
      (∃ w ∈ g.workers, s = g.functorSym A w) ∨ (∃ w ∈ g.workers, s ∈ g.getterSyms w) ∨
      s ∈ g.loaderSyms A ∨ s ∈ g.dumperSyms A ∨ s ∈ g.committerSyms A := by
  simp only [specTable, List.mem_append, List.mem_map, List.mem_flatMap, or_assoc, @eq_comm _ s]

theorem mem_getterSyms {g : Segment} {w : Worker} {s : Symbol} :
    s ∈ g.getterSyms w ↔
      g.trained w.uid = false ∧ w.szout ≠ 1 ∧
        ∃ i, i < w.szout ∧ (g.subscribers w.uid i) ≠ [] ∧ s = ⟨.getter w.uid i, .getter i, [.uid w.uid]⟩ := by
  unfold getterSyms
  split
  · rename_i h
    simp only [Bool.or_eq_true, decide_eq_true_eq] at h
    constructor
    · intro h'; cases h'
    · rintro ⟨h1, h2, _⟩
      rcases h with h | h
      · simp [h] at h1
      · exact absurd h h2
  · rename_i h
    simp only [Bool.or_eq_true, decide_eq_true_eq, not_or, Bool.not_eq_true] at h
    simp only [List.mem_map, List.mem_filter, List.mem_range, Bool.not_eq_eq_eq_not, Bool.not_true,
      List.isEmpty_eq_false_iff]
    constructor
    · rintro ⟨i, ⟨hi, hne⟩, rfl⟩
      exact ⟨h.1, h.2, i, hi, hne, rfl⟩
    · rintro ⟨_, _, i, hi, hne, rfl⟩
      exact ⟨i, ⟨hi, hne⟩, rfl⟩

theorem mem_loaderSyms {g : Segment} {A : Option Assets} {s : Symbol} :
    s ∈ g.loaderSyms A ↔
      ∃ As γ, A = some As ∧ γ ∈ As.persistent ∧ (∃ w ∈ g.workers, w.stateful = true ∧ w.gid = γ) ∧
        s = ⟨.loader γ, .loader γ, []⟩ := by
  cases A with
  | none => simp [loaderSyms]
  | some As =>
    simp only [loaderSyms, List.mem_map, List.mem_filter, List.any_eq_true, Bool.and_eq_true, decide_eq_true_eq,
      Option.some.injEq, exists_and_left, exists_eq_left']
    constructor
    · rintro ⟨γ, ⟨hγ, w, hw, hst, hg⟩, rfl⟩
      exact ⟨γ, hγ, ⟨w, hw, hst, hg⟩, rfl⟩
    · rintro ⟨γ, hγ, ⟨w, hw, hst, hg⟩, rfl⟩
      exact ⟨γ, ⟨hγ, w, hw, hst, hg⟩, rfl⟩

theorem mem_dumperSyms {g : Segment} {A : Option Assets} {s : Symbol} :
    s ∈ g.dumperSyms A ↔
      ∃ w ∈ g.workers, g.isTrainer w = true ∧ persistentW A w = true ∧ s = ⟨.dumper w.uid, .dumper, [.uid w.uid]⟩ := by
  simp only [dumperSyms, List.mem_map, List.mem_filter, Bool.and_eq_true, and_assoc, @eq_comm _ s]

theorem mem_committerSyms {g : Segment} {A : Option Assets} {s : Symbol} :
    s ∈ g.committerSyms A ↔
      ∃ As, A = some As ∧ (∃ w ∈ g.workers, g.isTrainer w = true ∧ persistentW A w = true) ∧
        s = ⟨.committer, .committer,
              As.persistent.filterMap (fun γ => (g.trainerOf γ).map (fun t => Key.dumper t.uid))⟩ := by
  cases A with
  | none => simp [committerSyms]
  | some As =>
    simp only [committerSyms, Option.some.injEq, exists_eq_left']
    split
    · rename_i h
      simp only [List.any_eq_true, Bool.and_eq_true] at h
      simp only [List.mem_singleton]
      constructor
      · rintro rfl; exact ⟨h, rfl⟩
      · rintro ⟨_, rfl⟩; rfl
    · rename_i h
      simp only [List.any_eq_true, Bool.and_eq_true] at h
      constructor
      · intro h'; cases h'
      · rintro ⟨h', _⟩; exact absurd h' h

theorem spec_by_id {g : Segment} {A : Option Assets} {s : Symbol} (hs : s ∈ g.specTable A) :
    match s.id with
    | .uid n => ∃ w ∈ g.workers, w.uid = n ∧ s = g.functorSym A w
    | .getter n i => s = ⟨.getter n i, .getter i, [.uid n]⟩
    | .loader γ => s = ⟨.loader γ, .loader γ, []⟩
    | .dumper n => s = ⟨.dumper n, .dumper, [.uid n]⟩
    | .committer => s ∈ g.committerSyms A
    | .gid _ => False := by
  rcases mem_specTable.mp hs with ⟨w, hw, rfl⟩ | ⟨w, _, h⟩ | h | h | h
  · exact ⟨w, hw, rfl, rfl⟩
  · obtain ⟨_, _, i, _, _, rfl⟩ := mem_getterSyms.mp h
    rfl
  · obtain ⟨_, γ, _, _, _, rfl⟩ := mem_loaderSyms.mp h
    rfl
  · obtain ⟨w, _, _, _, rfl⟩ := mem_dumperSyms.mp h
    rfl
  · obtain ⟨_, _, _, rfl⟩ := mem_committerSyms.mp h
    exact h

theorem spec_loader {g : Segment} {A : Option Assets} {s : Symbol} {γ : Gid} (hs : s ∈ g.specTable A)
    (hid : s.id = .loader γ) : s = ⟨.loader γ, .loader γ, []⟩ := by
  have := spec_by_id hs
  rwa [hid] at this

theorem spec_committer {g : Segment} {A : Option Assets} {s : Symbol} (hs : s ∈ g.specTable A)
    (hid : s.id = .committer) : s ∈ g.committerSyms A := by
  have := spec_by_id hs
  rwa [hid] at this

def maxRank (g : Segment) (rank : Uid → Nat) : Nat := (g.workers.map (fun w => rank w.uid)).foldl max 0

theorem le_maxRank {g : Segment} (rank : Uid → Nat) {w : Worker} (hw : w ∈ g.workers) : rank w.uid ≤ g.maxRank rank :=
  le_foldl_max (Or.inr (List.mem_map.mpr ⟨w, hw, rfl⟩))

/-- rank of an instruction derived from the topological numbering of the segment -/
def keyRank (g : Segment) (rank : Uid → Nat) : Key → Nat
  | .uid n => 2 * rank n + 1
  | .getter n _ => 2 * rank n + 2
  | .dumper n => 2 * rank n + 2
  | .committer => 2 * g.maxRank rank + 3
  | .loader _ => 0
  | .gid _ => 0

theorem portKey_rank {g : Segment} {rank : Uid → Nat} (e : Edge) : g.keyRank rank (g.portKey e) ≤ 2 * rank e.pub + 2 := by
  unfold portKey
  split
  · split <;> simp [keyRank]
  · simp [keyRank]

/-- the state source is a loader, or the group's trainer, which the numbering puts first -/
theorem stateSrc_rank {g : Segment} {rank : Uid → Nat} (h : WF g rank) {w : Worker} (hw : w ∈ g.workers) :
    g.keyRank rank (g.stateSrc w) < g.keyRank rank (.uid w.uid) := by
  unfold stateSrc
  split
  · exact Nat.succ_pos _
  · rename_i hnt
    cases htr : g.trainerOf w.gid with
    | none => exact Nat.succ_pos _
    | some t =>
      obtain ⟨htw, htg, htt⟩ := trainerOf_some htr
      have hne : t.uid ≠ w.uid := fun heq => by
        have hg := h.group t htw w hw htg
        rw [isTrainer, ← hg.2.1, (h.trainedOK htw htt).stateful, ← heq, htt] at hnt
        exact hnt rfl
      have := ((h.group t htw w hw htg).2.2 htt hne).2
      simp only [keyRank]
      omega

theorem dataArgs_rank {g : Segment} {rank : Uid → Nat} (h : WF g rank) {w : Worker} {a : Key} (ha : a ∈ g.dataArgs w) :
    g.keyRank rank a < g.keyRank rank (.uid w.uid) := by
  have hpub : ∀ p e, g.publisher w.uid p = some e → g.keyRank rank (g.portKey e) < g.keyRank rank (.uid w.uid) := by
    intro p e he
    obtain ⟨h1, h2, _⟩ := publisher_some he
    have h3 := (h.edge e h1).rank
    have h4 := portKey_rank (g := g) (rank := rank) e
    rw [h2] at h3
    simp only [keyRank] at h4 ⊢
    omega
  unfold dataArgs at ha
  split at ha
  · simp only [List.mem_map, List.mem_append, Option.mem_toList] at ha
    obtain ⟨e, he | he, rfl⟩ := ha
    · exact hpub _ e he
    · exact hpub _ e he
  · simp only [List.mem_filterMap, List.mem_range, Option.map_eq_some_iff] at ha
    obtain ⟨i, _, e, he, rfl⟩ := ha
    exact hpub _ e he

theorem specTable_ranked {g : Segment} {A : Option Assets} {rank : Uid → Nat} (h : WF g rank) :
    Table.Ranked (g.specTable A) (g.keyRank rank) := by
  intro s hs a ha
  rcases mem_specTable.mp hs with ⟨w, hw, rfl⟩ | ⟨w, _, h'⟩ | h' | h' | h'
  · rcases List.mem_append.mp ha with ha | ha
    · split at ha
      · rw [List.mem_singleton.mp ha]
        exact stateSrc_rank h hw
      · cases ha
    · exact dataArgs_rank h ha
  · obtain ⟨_, _, i, _, _, rfl⟩ := mem_getterSyms.mp h'
    rw [List.mem_singleton.mp ha]
    exact Nat.lt_succ_self _
  · obtain ⟨_, γ, _, _, _, rfl⟩ := mem_loaderSyms.mp h'
    cases ha
  · obtain ⟨w, _, _, _, rfl⟩ := mem_dumperSyms.mp h'
    rw [List.mem_singleton.mp ha]
    exact Nat.lt_succ_self _
  · obtain ⟨As, _, _, rfl⟩ := mem_committerSyms.mp h'
    simp only [List.mem_filterMap, Option.map_eq_some_iff] at ha
    obtain ⟨γ, _, t, ht, rfl⟩ := ha
    have := le_maxRank rank (trainerOf_some ht).1
    simp only [keyRank]; omega

theorem exec_apply_preset (A : Option Assets) (a : Actor) (L : Val) (xs : List Val) :
    exec A (.functor a .apply [.setState]) (L :: xs) = .apply a L.asState xs := by
  simp [exec, execFunctor, reducePresets, Val.asState]

/-- with or without the state preset: a functor built for a preset takes the state first, and skips a falsy one -/
theorem exec_train_opt (A : Option Assets) (a : Actor) (p : Bool) (L X Y : Val) :
    exec A (.functor a .train (if p then [.setState] else [])) ((if p then [L] else []) ++ [X, Y]) =
      .state a (if p then L.asState else .none) X Y := by
  cases p <;> simp [exec, execFunctor, reducePresets, Val.asState]

theorem exec_apply_opt (A : Option Assets) (a : Actor) (p : Bool) (L : Val) (xs : List Val) :
    exec A (.functor a .apply (if p then [.setState] else [])) ((if p then [L] else []) ++ xs) =
      .apply a (if p then L.asState else .none) xs := by
  cases p <;> simp [exec, execFunctor, reducePresets, Val.asState]

theorem persistentW_true {A : Option Assets} {w : Worker} (h : persistentW A w = true) :
    w.stateful = true ∧ ∃ As, A = some As ∧ As.contains w.gid = true := by
  unfold persistentW at h
  cases A with
  | none => simp at h
  | some As => simp only [Bool.and_eq_true] at h; exact ⟨h.1, As, rfl, h.2⟩

theorem storedState_persistent {A : Option Assets} {As : Assets} {γ : Gid} (hA : A = some As)
    (hc : As.contains γ = true) : storedState A γ = As.load γ := by
  subst hA; simp [storedState, hc]

theorem storedState_not_persistent {A : Option Assets} {w : Worker} (hst : w.stateful = true)
    (h : persistentW A w = false) : storedState A w.gid = .none := by
  unfold persistentW at h
  cases A with
  | none => rfl
  | some As => simp only [hst, Bool.true_and] at h; simp [storedState, h]

theorem derived_trainer {g : Segment} {rank : Uid → Nat} (h : WF g rank) {w : Worker} (hw : w ∈ g.workers)
    (htr : g.trained w.uid = true) : g.derived w = false := by
  unfold derived
  have h1 : g.trainedElsewhere.contains w.gid = false := by
    cases hc : g.trainedElsewhere.contains w.gid with
    | false => rfl
    | true => have := (h.elsewhere w hw hc).1; rw [htr] at this; cases this
  have h2 : (g.workers.any fun o => o.gid = w.gid && o.uid != w.uid && g.trained o.uid) = false := by
    rw [List.any_eq_false]
    intro o ho hcon
    simp only [Bool.and_eq_true, decide_eq_true_eq, bne_iff_ne, ne_eq] at hcon
    obtain ⟨⟨hg, hne⟩, hto⟩ := hcon
    have := ((h.group w hw o ho hg.symm).2.2 htr (fun e => hne e.symm)).1
    rw [hto] at this; cases this
  rw [h1, h2]; simp

theorem derived_fork {g : Segment} {w t : Worker} (hst : w.stateful = true) (ht : g.trainerOf w.gid = some t)
    (hne : t.uid ≠ w.uid) : g.derived w = true := by
  obtain ⟨htw, htg, htt⟩ := trainerOf_some ht
  unfold derived
  have : (g.workers.any fun o => o.gid = w.gid && o.uid != w.uid && g.trained o.uid) = true := by
    rw [List.any_eq_true]
    exact ⟨t, htw, by simp [htg, hne, htt]⟩
  simp [hst, this]

theorem derived_no_trainer {g : Segment} {w : Worker} (ht : g.trainerOf w.gid = none) :
    g.derived w = (w.stateful && g.trainedElsewhere.contains w.gid) := by
  unfold derived
  have : (g.workers.any fun o => o.gid = w.gid && o.uid != w.uid && g.trained o.uid) = false := by
    rw [List.any_eq_false]
    intro o ho hcon
    simp only [Bool.and_eq_true, decide_eq_true_eq] at hcon
    have := trainerOf_none ht o ho hcon.1.1
    rw [hcon.2] at this; cases this
  simp [this]

/-- the trainer of a group has its state preset exactly when the group is persistent -/
theorem hasPreset_trained {g : Segment} {A : Option Assets} {rank : Uid → Nat} (h : WF g rank) {w : Worker}
    (hw : w ∈ g.workers) (htr : g.trained w.uid = true) : g.hasPreset A w = persistentW A w := by
  simp [hasPreset, derived_trainer h hw htr, (h.trainedOK hw htr).stateful]

/-- so has a stateful member of a group without trainer in the segment (a group trained elsewhere is persistent) -/
theorem hasPreset_no_trainer {g : Segment} {A : Option Assets} (hA : AssetsOK g A) {w : Worker} (hw : w ∈ g.workers)
    (hst : w.stateful = true) (htO : g.trainerOf w.gid = none) : g.hasPreset A w = persistentW A w := by
  rw [hasPreset, hst, derived_no_trainer htO, hst, Bool.true_and, Bool.true_and]
  cases hc : g.trainedElsewhere.contains w.gid with
  | false => exact Bool.or_false _
  | true => rw [hA.elsewhere w hw hst hc]; rfl

/-- `t` has exactly the symbols of the table denoted by the segment -/
def Denotes (g : Segment) (A : Option Assets) (t : Table) : Prop := ∀ s, s ∈ t ↔ s ∈ g.specTable A

theorem Denotes.ranked {g : Segment} {A : Option Assets} {t : Table} {rank : Uid → Nat} (hd : Denotes g A t)
    (h : WF g rank) : t.Ranked (g.keyRank rank) :=
  fun s hs a ha => specTable_ranked h s ((hd s).mp hs) a ha

theorem spec_id_inj {g : Segment} {A : Option Assets} {rank : Uid → Nat} (h : WF g rank) {s s' : Symbol}
    (hs : s ∈ g.specTable A) (hs' : s' ∈ g.specTable A) (hid : s.id = s'.id) : s = s' := by
  have h1 := spec_by_id hs
  have h2 := spec_by_id hs'
  rw [hid] at h1
  cases hk : s'.id <;> rw [hk] at h1 h2 <;> simp only at h1 h2
  · obtain ⟨w, hw, hu, rfl⟩ := h1
    obtain ⟨w', hw', hu', rfl⟩ := h2
    rw [worker_eq_of_uid h.nodup hw hw' (hu.trans hu'.symm)]
  · exact h1.trans h2.symm
  · exact h1.trans h2.symm
  · exact h1.trans h2.symm
  · obtain ⟨As, hA, _, rfl⟩ := mem_committerSyms.mp h1
    obtain ⟨As', hA', _, rfl⟩ := mem_committerSyms.mp h2
    cases hA.symm.trans hA'
    rfl

theorem Denotes.value_sym {g : Segment} {A : Option Assets} {t : Table} {rank : Uid → Nat} (hd : Denotes g A t)
    (h : WF g rank) {s₀ : Symbol} (hs₀ : s₀ ∈ g.specTable A) :
    Table.value A t t.fuel s₀.id = exec A s₀.instr (s₀.args.map (Table.value A t t.fuel)) := by
  obtain ⟨s, hfind⟩ := Option.isSome_iff_exists.mp (Table.find_isSome_of_mem ((hd s₀).mpr hs₀))
  obtain ⟨hst, hid⟩ := Table.find_some hfind
  cases spec_id_inj h ((hd s).mp hst) hs₀ hid
  exact Table.value_unfold A (hd.ranked h) hfind

theorem Denotes.value_functor {g : Segment} {A : Option Assets} {t : Table} {rank : Uid → Nat} (hd : Denotes g A t)
    (h : WF g rank) {w : Worker} (hw : w ∈ g.workers) :
    Table.value A t t.fuel (.uid w.uid) =
      exec A (g.functorSym A w).instr ((g.functorSym A w).args.map (Table.value A t t.fuel)) :=
  hd.value_sym h (mem_specTable.mpr (Or.inl ⟨w, hw, rfl⟩))

theorem Denotes.value_getter {g : Segment} {A : Option Assets} {t : Table} {rank : Uid → Nat} (hd : Denotes g A t)
    (h : WF g rank) {n : Uid} {i : Nat} (hs : (⟨.getter n i, .getter i, [.uid n]⟩ : Symbol) ∈ g.specTable A) :
    Table.value A t t.fuel (.getter n i) = .proj i (Table.value A t t.fuel (.uid n)) := by
  simpa [exec] using hd.value_sym h hs

theorem Denotes.value_loader {g : Segment} {A : Option Assets} {t : Table} {rank : Uid → Nat} (hd : Denotes g A t)
    (h : WF g rank) {As : Assets} (hA : A = some As) {γ : Gid}
    (hs : (⟨.loader γ, .loader γ, []⟩ : Symbol) ∈ g.specTable A) :
    Table.value A t t.fuel (.loader γ) = As.load γ := by
  subst hA
  simpa [exec] using hd.value_sym h hs

theorem Denotes.value_dumper {g : Segment} {A : Option Assets} {t : Table} {rank : Uid → Nat} (hd : Denotes g A t)
    (h : WF g rank) {As : Assets} (hA : A = some As) {n : Uid}
    (hs : (⟨.dumper n, .dumper, [.uid n]⟩ : Symbol) ∈ g.specTable A) :
    Table.value A t t.fuel (.dumper n) = .dumped (Table.value A t t.fuel (.uid n)) := by
  subst hA
  simpa [exec] using hd.value_sym h hs

/-- the model's `indexOf` is core's `List.idxOf?` -/
theorem indexOf_eq (γ : Gid) (l : List Gid) : indexOf γ l = l.idxOf? γ := by
  induction l <;> simp [indexOf, List.idxOf?_cons, *]

theorem indexOf_isSome_iff (γ : Gid) (l : List Gid) : (indexOf γ l).isSome = true ↔ γ ∈ l := by
  rw [indexOf_eq, List.isSome_idxOf?]

end Segment

theorem indexOf_get {γ : Gid} {l : List Gid} {j : Nat} (h : indexOf γ l = some j) : l[j]? = some γ := by
  obtain ⟨hj, he, _⟩ := List.idxOf?_eq_some_iff.1 (Segment.indexOf_eq γ l ▸ h)
  rw [List.getElem?_eq_getElem hj, he]

theorem indexOf_inj {γ γ' : Gid} {l : List Gid} {i : Nat} (h : indexOf γ l = some i) (h' : indexOf γ' l = some i) :
    γ = γ' :=
  Option.some.inj ((indexOf_get h).symm.trans (indexOf_get h'))

theorem indexOf_of_get {γ : Gid} {l : List Gid} (hnd : l.Nodup) {j : Nat} (h : l[j]? = some γ) : indexOf γ l = some j := by
  obtain ⟨hj, he⟩ := List.getElem?_eq_some_iff.1 h
  rw [Segment.indexOf_eq, List.idxOf?_eq_some_iff]
  exact ⟨hj, he, fun i hi e => by
    have := (List.getElem_inj (h₀ := Nat.lt_trans hi hj) (h₁ := hj) hnd).1 (e.trans he.symm); omega⟩

namespace Segment

theorem persistentW_of_mem {A : Option Assets} {As : Assets} {w : Worker} (hA : A = some As) (hst : w.stateful = true)
    (hγ : w.gid ∈ As.persistent) : persistentW A w = true := by
  subst hA
  simp only [persistentW, hst, Bool.true_and, Assets.contains]
  exact (indexOf_isSome_iff _ _).mpr hγ

/-- a trainer of a persistent group (the witness the committer symbol needs) -/
theorem persistent_trainer {g : Segment} {A : Option Assets} {rank : Uid → Nat} (h : WF g rank) {As : Assets}
    (hAs : A = some As) {γ : Gid} (hγ : γ ∈ As.persistent) {tw : Worker} (ht : g.trainerOf γ = some tw) :
    tw ∈ g.workers ∧ g.isTrainer tw = true ∧ persistentW A tw = true := by
  obtain ⟨htm, htg, htt⟩ := trainerOf_some ht
  exact ⟨htm, isTrainer_of_trained h htm htt, persistentW_of_mem hAs (h.trainedOK htm htt).stateful (htg.symm ▸ hγ)⟩

theorem AssetsOK.all_trained_of_trainer {g : Segment} {A : Option Assets} {rank : Uid → Nat} (hA : AssetsOK g A)
    (h : WF g rank) {As : Assets} (hAs : A = some As)
    {w : Worker} (hw : w ∈ g.workers) (hT : g.isTrainer w = true) (hP : persistentW A w = true) :
    ∀ γ ∈ As.persistent, (g.trainerOf γ).isSome := by
  obtain ⟨_, As', hAs', hc⟩ := persistentW_true hP
  rw [hAs] at hAs'; cases hAs'
  exact hA.all_trained hAs ((indexOf_isSome_iff _ _).mp hc) (by rw [trainerOf_trainer h hw hT]; rfl)

theorem loaderSym_mem {g : Segment} {A : Option Assets} {w : Worker} (hw : w ∈ g.workers)
    (hp : persistentW A w = true) : (⟨.loader w.gid, .loader w.gid, []⟩ : Symbol) ∈ g.specTable A := by
  obtain ⟨hst, As, hA, hc⟩ := persistentW_true hp
  exact mem_specTable.mpr (Or.inr (Or.inr (Or.inl (mem_loaderSyms.mpr
    ⟨As, w.gid, hA, (indexOf_isSome_iff _ _).mp hc, ⟨w, hw, hst, rfl⟩, rfl⟩))))

/-- the loader of a persistent group yields the stored state; a group that is not persistent has none -/
theorem Denotes.preset_stored {g : Segment} {A : Option Assets} {t : Table} {rank : Uid → Nat} (hd : Denotes g A t)
    (h : WF g rank) {w : Worker} (hw : w ∈ g.workers) (hst : w.stateful = true) :
    (if persistentW A w then (Table.value A t t.fuel (.loader w.gid)).asState else .none) =
      (storedState A w.gid).asState := by
  cases hp : persistentW A w with
  | true =>
    obtain ⟨_, As, hAs, hc⟩ := persistentW_true hp
    rw [if_pos rfl, hd.value_loader h hAs (loaderSym_mem hw hp), storedState_persistent hAs hc]
  | false => rw [if_neg Bool.false_ne_true, storedState_not_persistent hst hp]; rfl

end Segment
end ForML.Flow
