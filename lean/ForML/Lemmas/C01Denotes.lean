/-
C01 — the list `Table.__iter__` emits on the final state (`emitted`) has exactly the symbols of `specTable g A`
(`Final.emitted_denotes`), every identity once (`Final.emitted_nodup`): for every well-formed segment, compatible asset
accessor, and *every* visit order covering the members once.
-/
import ForML.Lemmas.C01Emit

namespace ForML.Flow
open CState Segment

theorem nodup_filterMap_ids {α : Type} (l : List α) (f : α → Key) (E : α → Option Symbol)
    (hE : ∀ x ∈ l, ∀ y, E x = some y → y.id = f x) (hnd : (l.map f).Nodup) : ((l.filterMap E).map (·.id)).Nodup := by
  induction l with
  | nil => simp
  | cons x r ih =>
    simp only [List.map_cons, List.nodup_cons] at hnd
    have ih := ih (fun x' hx' => hE x' (List.mem_cons_of_mem _ hx')) hnd.2
    simp only [List.filterMap_cons]
    cases hx : E x with
    | none => exact ih
    | some y =>
      simp only [List.map_cons, List.nodup_cons]
      refine ⟨?_, ih⟩
      intro hmem
      simp only [List.mem_map, List.mem_filterMap] at hmem
      obtain ⟨y', ⟨x', hx', hE'⟩, hid⟩ := hmem
      apply hnd.1
      rw [← hE x List.mem_cons_self y hx, ← hid, hE x' (List.mem_cons_of_mem _ hx') y' hE']
      exact List.mem_map.mpr ⟨x', hx', rfl⟩

section
variable {g : Segment} {A : Option Assets} {rank : Uid → Nat} {order : List Uid} {s : CState}

theorem Final.mem_emitted (hf : Final g A rank order s) {s' : Symbol} :
    s' ∈ emitted g A s ↔ ∃ k o, aget k s.index = some o ∧ (stubsOf s).contains o.id = false ∧ s' = symOf g A o := by
  have hfun := hf.functionalIds
  simp only [emitted, List.mem_filterMap]
  constructor
  · rintro ⟨⟨o, ks⟩, hg, hE⟩
    obtain ⟨hne, hmem⟩ := groupRuns_sound s.index hfun (o, ks) hg
    obtain ⟨k, hk⟩ := List.exists_mem_of_ne_nil _ hne
    simp only at hE
    split at hE
    · cases hE
    · rename_i hst
      cases hE
      exact ⟨k, o, aget_of_mem_nodup hf.idx.keys (hmem k hk), by simpa using hst, rfl⟩
  · rintro ⟨k, o, hko, hst, rfl⟩
    obtain ⟨ks, hg, _⟩ := groupRuns_complete s.index hfun (k, o) (mem_of_aget hko)
    exact ⟨(o, ks), hg, by simp only [hst]; rfl⟩

theorem Final.emitted_denotes (hf : Final g A rank order s) :
    Denotes g A (emitted g A s) := by
  intro s'
  rw [hf.mem_emitted]
  constructor
  · rintro ⟨k, o, hko, hst, rfl⟩
    have hform := hf.obj_form hko
    have hnst : ¬ (stubsOf s).contains o.id = true := by rw [hst]; simp
    rw [hf.stub_iff hform] at hnst
    apply mem_specTable.mpr
    cases hform with
    | functor w hw => left; exact ⟨w, hw, symOf_functor hf.wf hw⟩
    | loader γ w hw hg hP =>
      subst hg
      have := loaderSym_mem (g := g) hw hP
      exact mem_specTable.mp this
    | getter w i hw htr hne hi =>
      right; left
      refine ⟨w, hw, mem_getterSyms.mpr ⟨htr, hne, i, hi, ?_, rfl⟩⟩
      intro hnil
      exact hnst ⟨w, i, hw, htr, hne, hi, rfl, hnil⟩
    | dumper w hw hT hP =>
      right; right; right; left
      exact mem_dumperSyms.mpr ⟨w, hw, hT, hP, rfl⟩
    | committer w hw hT hP =>
      right; right; right; right
      obtain ⟨_, As, hAs, _⟩ := persistentW_true hP
      refine mem_committerSyms.mpr ⟨As, hAs, ⟨w, hw, hT, hP⟩, ?_⟩
      simp [symOf, hAs]
  · intro hs'
    have notstub : ∀ o : Obj, (∀ n i, o.id ≠ Key.getter n i) → ObjForm g A o → (stubsOf s).contains o.id = false := by
      intro o hid hform
      cases hc : (stubsOf s).contains o.id with
      | false => rfl
      | true =>
        obtain ⟨w, i, _, _, _, _, rfl, _⟩ := (hf.stub_iff hform).mp hc
        exact absurd rfl (hid w.uid i)
    rcases mem_specTable.mp hs' with ⟨w, hw, rfl⟩ | ⟨w, hw, hgs⟩ | hls | hds | hcs
    · have hko := hf.ix_uid hw
      exact ⟨_, _, hko, notstub _ (by simp [functorObj]) (.functor w hw), (symOf_functor hf.wf hw).symm⟩
    · obtain ⟨htr, hne, i, hi, hsub, rfl⟩ := mem_getterSyms.mp hgs
      have hko := hf.ix_getter hw htr hne hi
      refine ⟨_, _, hko, ?_, rfl⟩
      cases hc : (stubsOf s).contains (getterObj w.uid i).id with
      | false => rfl
      | true =>
        obtain ⟨w', i', _, _, _, _, heq, hnil⟩ := (hf.stub_iff (.getter w i hw htr hne hi)).mp hc
        simp only [getterObj, Obj.mk.injEq, Key.getter.injEq] at heq
        rw [← heq.1.1, ← heq.1.2] at hnil
        exact absurd hnil hsub
    · obtain ⟨As, γ, hAs, hγ, ⟨w, hw, hst, hg⟩, rfl⟩ := mem_loaderSyms.mp hls
      have hP : persistentW A w = true := persistentW_of_mem hAs hst (hg.symm ▸ hγ)
      have hform : ObjForm g A (loaderObj γ) := .loader γ w hw hg hP
      cases htO : g.trainerOf γ with
      | some t =>
        obtain ⟨htm, hTt, hPt⟩ := persistent_trainer hf.wf hAs hγ htO
        have hko := hf.ix_loader htm hTt hPt
        rw [(trainerOf_some htO).2.1] at hko
        exact ⟨_, _, hko, notstub _ (by simp) hform, rfl⟩
      | none =>
        have hko := hf.ix_gid_loader hw hP (hg ▸ htO)
        rw [hg] at hko
        exact ⟨_, _, hko, notstub _ (by simp) hform, rfl⟩
    · obtain ⟨w, hw, hT, hP, rfl⟩ := mem_dumperSyms.mp hds
      have hko := hf.ix_dumper hw hT hP
      exact ⟨_, _, hko, notstub _ (by simp) (.dumper w hw hT hP), rfl⟩
    · obtain ⟨As, hAs, ⟨w, hw, hT, hP⟩, rfl⟩ := mem_committerSyms.mp hcs
      have hko := hf.ix_committer hw hT hP
      exact ⟨_, _, hko, notstub _ (by simp) (.committer w hw hT hP), by simp [symOf, hAs]⟩

theorem Final.emitted_nodup (hf : Final g A rank order s) :
    ((emitted g A s).map (·.id)).Nodup := by
  have hfun := hf.functionalIds
  apply nodup_filterMap_ids _ (fun grp : Obj × List Key => grp.1.id) _ _ (groupRuns_nodup s.index hf.idx.contig)
  intro grp hgrp y hE
  obtain ⟨o, ks⟩ := grp
  obtain ⟨hne, hmem⟩ := groupRuns_sound s.index hfun (o, ks) hgrp
  obtain ⟨k, hk⟩ := List.exists_mem_of_ne_nil _ hne
  have hform := hf.obj_form (aget_of_mem_nodup hf.idx.keys (hmem k hk))
  simp only at hE
  split at hE
  · cases hE
  · cases hE
    exact (hf.obj_args hform).2.1

end

end ForML.Flow
