/-
C14 — query contexts are independent: hints and rows only depend on the registered fields and factors, never on a
pending error (`run_core`), and a statement (query / set of queries) builds its contexts from scratch (`stmt_indep`).
-/
import ForML.Lemmas.C14Cols

namespace ForML.PushDown
open ForML.Dsl

/-- the registered fields and factors: all of the state but a pending error -/
def core (st : Segs) : List (Source × String) × List (Source × Feature) := (st.fields, st.factors)

theorem hintOf_congr {st st' : Segs} (h : core st = core st') (k t : Source) : hintOf st k t = hintOf st' k t := by
  simp only [core, Prod.mk.injEq] at h
  simp only [hintOf, h.1, h.2]

theorem filterOpt_core {fix len : Bool} {st st' : Segs} (c : FeatureOpt) (ex : List Source) (h : core st = core st') :
    core (st.filterOpt fix len c ex) = core (st'.filterOpt fix len c ex) := by
  simp only [core, Prod.mk.injEq] at h
  cases c with
  | none => simp only [Segs.filterOpt, core, h.1, h.2]
  | some c =>
    simp only [Segs.filterOpt, Segs.filter, Segs.select, core, h.1, h.2]
    split <;> rfl

theorem joinCtx_core {fix len : Bool} {st st' : Segs} (l r : Source) (k : JoinKind) (c : FeatureOpt)
    (h : core st = core st') : core (joinCtx fix len st l r k c) = core (joinCtx fix len st' l r k c) := by
  simp only [core, Prod.mk.injEq] at h
  exact filterOpt_core c _ (by simp only [core, Segs.release, h.1, h.2])

/-- the context of a query is built from scratch: only a pending error is carried into it -/
theorem queryCtx_core (fix len : Bool) (e e' : Option Err) (src : Source) (sel : Features) (pre : FeatureOpt)
    (grp : Features) (post : FeatureOpt) (ord : Orderings) :
    core (queryCtx fix len e src sel pre grp post ord) = core (queryCtx fix len e' src sel pre grp post ord) := by
  have h := filterOpt_core (fix := fix) (len := len)
    (st := ({ err := e } : Segs).select fix (if sel.isEmpty then features src else sel.toList))
    (st' := ({ err := e' } : Segs).select fix (if sel.isEmpty then features src else sel.toList)) pre [] rfl
  simp only [core, Prod.mk.injEq] at h
  simp only [queryCtx, core, select_fields, select_factors, h.1, h.2]

theorem run_core (fix len : Bool) (S : Sem) (B : Backend) (db : Db) :
    ∀ (s : Source) (st st' : Segs), core st = core st' →
      (run fix len S B db s st).hints = (run fix len S B db s st').hints ∧
      (run fix len S B db s st).envs = (run fix len S B db s st').envs ∧
      core (run fix len S B db s st).st = core (run fix len S B db s st').st
  | .table n fs, st, st', h => by
    simp only [run]
    rw [hintOf_congr h]
    exact ⟨rfl, rfl, h⟩
  | .ref i nm, st, st', h => by
    simp only [run]
    split
    · rw [hintOf_congr h]
      exact ⟨rfl, rfl, h⟩
    · have ih := run_core fix len S B db i st st' h
      exact ⟨ih.1, by rw [ih.2.1], ih.2.2⟩
  | .join l r k c, st, st', h => by
    simp only [run]
    have ha := run_core fix len S B db l _ _ (joinCtx_core (fix := fix) (len := len) l r k c h)
    have hb := run_core fix len S B db r _ _ ha.2.2
    exact ⟨by rw [ha.1, hb.1], by rw [ha.2.1, hb.2.1], hb.2.2⟩
  | .set l r k, st, st', h => by
    simp only [run]
    have ha := run_core fix len S B db l _ _ h
    have hb := run_core fix len S B db r _ _ ha.2.2
    exact ⟨by rw [ha.1, hb.1], by rw [ha.2.1, hb.2.1], hb.2.2⟩
  | .query src sel pre grp post ord rows, st, st', h => by
    simp only [run]
    have ha := run_core fix len S B db src _ _ (queryCtx_core fix len st.err st'.err src sel pre grp post ord)
    exact ⟨ha.1, by rw [ha.2.1], h⟩

/-- a statement offers the same hints and yields the same rows whatever has been registered before it is visited -/
theorem stmt_indep (fix len : Bool) (S : Sem) (B : Backend) (db : Db) :
    ∀ (q : Source) (st st' : Segs), isStmt q = true → shaped q = true →
      (run fix len S B db q st).hints = (run fix len S B db q st').hints ∧
      (run fix len S B db q st).envs = (run fix len S B db q st').envs
  | .table _ _, _, _, h, _ => by simp [isStmt] at h
  | .ref _ _, _, _, h, _ => by simp [isStmt] at h
  | .join _ _ _ _, _, _, h, _ => by simp [isStmt] at h
  | .set l r k, st, st', _, hw => by
    simp only [shaped, Bool.and_eq_true] at hw
    simp only [run]
    have ha := stmt_indep fix len S B db l st st' hw.1.1.1 hw.1.2
    have hb := stmt_indep fix len S B db r (run fix len S B db l st).st (run fix len S B db l st').st hw.1.1.2 hw.2
    exact ⟨by rw [ha.1, hb.1], by rw [ha.2, hb.2]⟩
  | .query src sel pre grp post ord rows, st, st', _, _ => by
    simp only [run]
    have ha := run_core fix len S B db src _ _ (queryCtx_core fix len st.err st'.err src sel pre grp post ord)
    exact ⟨ha.1, by rw [ha.2.1]⟩

end ForML.PushDown
