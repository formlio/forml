/-
`LoopOk`: the summary of a stretch of construction (a loop of the ensemble, the body of a single operator) that its
continuation works from, how such stretches compose (`seq`, `trans`), and the steps inside one: a node becomes evaluable
(`addsNode`, `adds`), a pending collector gets a port subscribed (`pushColl`, `push`) or becomes evaluable (`mkLive`).
-/
import ForML.Lemmas.C03Coll

namespace ForML.Compose

/-- what a stretch of construction — a loop of the ensemble, the body of a single operator — leaves behind, relative to
the graph `g` it started from.  `X`: the older collector nodes whose input ports the stretch subscribes; everything else
older is untouched.  `rr`: the rank all rounds of a loop start from (a new evaluable node ranks below `rr` plus the number
of uids drawn since `g`). -/
structure LoopOk (X : Nat → Prop) (lo : Nat) (g g' : Graph) (W W' : World) (rr : Nat) : Prop where
  inv : Inv g' W'
  wired : Wired g'
  next_le : g.next ≤ g'.next
  kind : ∀ u, u < g.next → g'.kindOf u = g.kindOf u
  input : ∀ u k, u < g.next → ¬ X u → g'.inputOf u k = g.inputOf u k
  inputMono : ∀ u k q, g.inputOf u k = some q → g'.inputOf u k = some q
  trainer : ∀ gid, gid < g.next → g'.trainerOf gid = g.trainerOf gid
  agree : Agree g.next W W'
  rank : ∀ n, g.next ≤ n → W'.live n → W'.h n < rr + (g'.next - g.next)
  /-- the new evaluable workers belong to groups created since `lo` (the start of the whole operator) -/
  fresh : ∀ n, g.next ≤ n → W'.live n → ∀ gid a i o, g'.kindOf n = some (.worker gid a i o) → lo ≤ gid
  noOpen : ∀ n, g.next ≤ n → W'.live n → ¬ g'.isOpen n

theorem LoopOk.ofFrame {X : Nat → Prop} {lo : Nat} {g g' : Graph} {W : World} (rr : Nat) (hi : Inv g W) (hi' : Inv g' W)
    (hw' : Wired g') (hf : Frame g g') : LoopOk X lo g g' W W rr :=
  ⟨hi', hw', hf.next_le, hf.kind, fun u k hu _ => hf.input u k hu, hf.input_mono hi.bounded, hf.trainer, Agree.refl _ _,
    fun n hn hl => by have := (hi.liveLt n hl).1; omega, fun n hn hl => by have := (hi.liveLt n hl).1; omega,
    fun n hn hl => by have := (hi.liveLt n hl).1; omega⟩

theorem LoopOk.refl {X : Nat → Prop} {lo : Nat} {g : Graph} {W : World} (hi : Inv g W) (hw : Wired g) (rr : Nat) :
    LoopOk X lo g g W W rr :=
  LoopOk.ofFrame rr hi hi hw (Frame.refl g)

theorem LoopOk.weaken {X X' : Nat → Prop} {lo : Nat} {g g' : Graph} {W W' : World} {rr rr' : Nat}
    (h : LoopOk X lo g g' W W' rr) (hX : ∀ u, X u → X' u) (hr : rr ≤ rr') : LoopOk X' lo g g' W W' rr' :=
  ⟨h.inv, h.wired, h.next_le, h.kind, fun u k hu hx => h.input u k hu (fun hx' => hx (hX u hx')), h.inputMono, h.trainer, h.agree,
    fun n hn hl => by have := h.rank n hn hl; omega, h.fresh, h.noOpen⟩

/-- a loop followed by one whose rounds start on the ranks the first one has reached -/
theorem LoopOk.seq {X X' : Nat → Prop} {lo : Nat} {g1 g2 g3 : Graph} {W1 W2 W3 : World} {rr : Nat}
    (h12 : LoopOk X lo g1 g2 W1 W2 rr) (h23 : LoopOk X' lo g2 g3 W2 W3 (rr + (g2.next - g1.next)))
    (hX : ∀ u, u < g1.next → X' u → X u) : LoopOk X lo g1 g3 W1 W3 rr := by
  have n12 := h12.next_le
  have n23 := h23.next_le
  refine ⟨h23.inv, h23.wired, by omega, fun u hu => by rw [h23.kind u (by omega), h12.kind u hu],
    fun u k hu hx => by rw [h23.input u k (by omega) (fun h => hx (hX u hu h)), h12.input u k hu hx],
    fun u k q h => h23.inputMono u k q (h12.inputMono u k q h),
    fun gid hg => by rw [h23.trainer gid (by omega), h12.trainer gid hg], h12.agree.trans h23.agree n12, ?_, ?_, ?_⟩
  · intro n hn hl
    by_cases h2 : n < g2.next
    · have := h12.rank n hn (((h23.agree n h2).1).mp hl)
      rw [(h23.agree n h2).2.1]; omega
    · have := h23.rank n (by omega) hl; omega
  · intro n hn hl gid a i o hk
    by_cases h2 : n < g2.next
    · rw [h23.kind n h2] at hk
      exact h12.fresh n hn (((h23.agree n h2).1).mp hl) gid a i o hk
    · exact h23.fresh n (by omega) hl gid a i o hk
  · intro n hn hl ho
    by_cases h2 : n < g2.next
    · exact h12.noOpen n hn (((h23.agree n h2).1).mp hl) (ho.of_mono (h23.kind n h2) (h23.inputMono n 0))
    · exact h23.noOpen n (by omega) hl ho

theorem LoopOk.trans {X : Nat → Prop} {lo : Nat} {g1 g2 g3 : Graph} {W1 W2 W3 : World} {rr : Nat}
    (h12 : LoopOk X lo g1 g2 W1 W2 rr) (h23 : LoopOk X lo g2 g3 W2 W3 rr) : LoopOk X lo g1 g3 W1 W3 rr :=
  h12.seq (h23.weaken (fun _ h => h) (Nat.le_add_right _ _)) (fun _ _ h => h)

theorem LoopOk.addsNode {X : Nat → Prop} {lo : Nat} {g g' : Graph} {W W' W'' : World} {rr u ρ : Nat} {v : Nat → Val}
    (h : LoopOk X lo g g' W W' rr) (ha : Adds W' W'' u ρ v) (hinv : Inv g' W'') (hu : g.next ≤ u)
    (hρ : ρ < rr + (g'.next - g.next)) (hgid : ∀ gid a i o, g'.kindOf u = some (.worker gid a i o) → lo ≤ gid)
    (hno : ¬ g'.isOpen u) : LoopOk X lo g g' W W'' rr := by
  have old : ∀ n, W''.live n → n ≠ u → W'.live n := fun n hl hne => ((ha.live n).mp hl).elim (fun e => absurd e hne) id
  refine ⟨hinv, h.wired, h.next_le, h.kind, h.input, h.inputMono, h.trainer, ha.agree h.agree hu, ?_, ?_, ?_⟩
  · intro n hn hl
    by_cases e : n = u
    · rw [e, ha.rank]; exact hρ
    · rw [(ha.keep ⟨n, 0⟩ e).2]; exact h.rank n hn (old n hl e)
  · intro n hn hl gid a i o hk
    by_cases e : n = u
    · exact hgid gid a i o (e ▸ hk)
    · exact h.fresh n hn (old n hl e) gid a i o hk
  · intro n hn hl ho
    by_cases e : n = u
    · exact hno (e ▸ ho)
    · exact h.noOpen n hn (old n hl e) ho

theorem LoopOk.adds {X : Nat → Prop} {lo : Nat} {g g' : Graph} {W W' W'' : World} {rr u ρ : Nat} {v : Nat → Val}
    (h : LoopOk X lo g g' W W' rr) (ha : Adds W' W'' u ρ v) (hinv : Inv g' W'') (hu : g.next ≤ u)
    (hρ : ρ < rr + (g'.next - g.next)) {gid : Nat} {a : Actor} {i o : Nat} (hk : g'.kindOf u = some (.worker gid a i o))
    (hgid : lo ≤ gid) : LoopOk X lo g g' W W'' rr :=
  h.addsNode ha hinv hu hρ (fun _ _ _ _ hk' => by rw [hk] at hk'; cases hk'; exact hgid)
    fun ho => nomatch hk.symm.trans ho.1

theorem Coll.loop {X : Nat → Prop} {lo : Nat} {g g' : Graph} {W W' : World} {rr : Nat} {col gid a N i ins}
    (h : Coll g W col gid a N i ins) (hl : LoopOk X lo g g' W W' rr) (hx : ¬ X col) : Coll g' W' col gid a N i ins :=
  h.same (hl.kind _ h.lt) (fun k => hl.input _ k h.lt hx) hl.next_le (fun hl' => ((hl.agree _ h.lt).1).mp hl')

/-- a loop that subscribes no older collector is a frame -/
theorem LoopOk.toFrame {lo : Nat} {g g' : Graph} {W W' : World} {rr : Nat} (h : LoopOk (fun _ => False) lo g g' W W' rr) :
    Frame g g' :=
  ⟨h.next_le, h.kind, fun u k hu => h.input u k hu (fun x => x), h.trainer⟩

/-- a loop whose collectors were created after `gb` leaves `gb` untouched -/
theorem LoopOk.frameFrom {X : Nat → Prop} {lo : Nat} {gb g g' : Graph} {W W' : World} {rr : Nat} (h : LoopOk X lo g g' W W' rr)
    (hf : Frame gb g) (hX : ∀ x, X x → gb.next ≤ x) : Frame gb g' := by
  have h1 := hf.next_le
  have h2 := h.next_le
  refine ⟨by omega, ?_, ?_, ?_⟩
  · intro u hu; rw [h.kind u (by omega), hf.kind u hu]
  · intro u k hu
    rw [h.input u k (by omega) (fun hx => by have := hX u hx; omega), hf.input u k hu]
  · intro gid hg; rw [h.trainer gid (by omega), hf.trainer gid hg]

theorem LoopOk.keeps {X : Nat → Prop} {lo : Nat} {g g' : Graph} {W W' : World} {rr : Nat} (hl : LoopOk X lo g g' W W' rr)
    (hi : Inv g W) : Keeps W W' :=
  hl.agree.keeps fun n hn => (hi.liveLt n hn).1

/-- subscribing a port of a collector inside a loop -/
theorem LoopOk.pushColl {X : Nat → Prop} {lo : Nat} {g g' : Graph} {W W' : World} {rr : Nat} (h : LoopOk X lo g g' W W' rr) (e : Edge)
    (hX : e.sub < g.next → X e.sub) (hnl : ¬ W'.live e.sub) (hlt : e.sub < g'.next) (hfree : g'.inputOf e.sub e.port = none)
    (hp : e.pub.node < g'.next) : LoopOk X lo g (g'.pushEdge e) W W' rr := by
  have mono : ∀ u k q, g'.inputOf u k = some q → (g'.pushEdge e).inputOf u k = some q := by
    intro u k q hq; rw [inputOf_pushEdge, hq]; rfl
  refine ⟨h.inv.pushEdge_notLive e hnl hlt, h.wired.pushEdge e hp hfree, h.next_le, fun u hu => by simpa using h.kind u hu, ?_,
    fun u k q hq => mono _ _ _ (h.inputMono u k q hq), fun gid hg => by simpa using h.trainer gid hg, h.agree,
    fun n hn hl => by simpa using h.rank n hn hl, fun n hn hl gid a i o hk => h.fresh n hn hl gid a i o (by simpa using hk), ?_⟩
  · intro u k hu hx
    have hne : u ≠ e.sub := fun e' => by subst e'; exact hx (hX hu)
    rw [inputOf_pushEdge_ne hne.symm k, h.input u k hu hx]
  · exact fun n hn hl ho => h.noOpen n hn hl (ho.of_mono (kindOf_pushEdge _ _ _) (mono n 0))

theorem LoopOk.push {X : Nat → Prop} {lo : Nat} {g g' : Graph} {W W' : World} {rr : Nat} (h : LoopOk X lo g g' W W' rr)
    {col gid : Nat} {a : Actor} {N i : Nat} {ins : Nat → PubRef} (c : Coll g' W' col gid a N i ins) (hX : col < g.next → X col)
    (q : PubRef) (hq : q.node < g'.next) :
    Run (subscribe col i q) g' () (g'.pushEdge ⟨col, i, q⟩) ∧ LoopOk X lo g (g'.pushEdge ⟨col, i, q⟩) W W' rr ∧
      Coll (g'.pushEdge ⟨col, i, q⟩) W' col gid a N (i + 1) (fun k => if k = i then q else ins k) :=
  have p := c.push h.inv h.wired q hq
  ⟨p.1, h.pushColl ⟨col, i, q⟩ hX c.notLive c.lt (c.free i (Nat.le_refl _)) hq, p.2.2.2⟩

theorem LoopOk.mkLive {X : Nat → Prop} {lo : Nat} {g g' : Graph} {W W' : World} {rr : Nat} (h : LoopOk X lo g g' W W' rr)
    {col gid : Nat} {a : Actor} {N : Nat} {ins : Nat → PubRef} (c : Coll g' W' col gid a N N ins) (hs : a.stateful = false)
    (hu : g.next ≤ col) (hgid : lo ≤ gid) {ρ : Nat} (hρ : ρ < g'.next) (hρb : ρ < rr + (g'.next - g.next)) {v : Nat → Val}
    (hins : ∀ k, k < N → PubOk W' (ins k) ρ (v k)) :
    ∃ W'', LoopOk X lo g g' W W'' rr ∧ Adds W' W'' col ρ (fun _ => .apply a.tag .none ((List.range N).map v)) := by
  obtain ⟨W'', hi, ad⟩ := c.mkLive h.inv hs ρ hρ fun k hk => ⟨(hins k hk).live, (hins k hk).rank⟩
  rw [List.map_congr_left fun k hk => (hins k (List.mem_range.mp hk)).val] at ad
  exact ⟨W'', h.adds ad hi hu hρb c.kind hgid, ad⟩

end ForML.Compose
