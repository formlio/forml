/-
Transient I/O faults (`Ev.fault`): the micro-operations a faulted step still performs (`faultAtoms`) are a crash prefix —
plus, inside `copytree`, copies of other package members below the invisible temporary name — and never contain the
operation that makes the new item visible.
-/
import ForML.Lemmas.C05Hist

namespace ForML.Registry
open ForML.Fs

/-- no write below a package-member name -/
def NoMember : Op → Prop
  | .createEmpty p => isMemberPath p = false
  | .append p _ => isMemberPath p = false
  | _ => True

/-- outside `copytree` a fault simply stops the step: the performed micro-operations are a crash prefix -/
theorem faultAtoms_take (atoms : List Op) (j : Nat) (h : ∀ op ∈ atoms, NoMember op) :
    faultAtoms atoms j = atoms.take j := by
  unfold faultAtoms
  cases hj : atoms[j]? with
  | none => simp
  | some op =>
    have hm := h op (List.mem_of_getElem? hj)
    cases op <;> simp only [NoMember] at hm <;> simp [hm]

theorem memberRest_mem (p : Path) (rest : List Op) (op : Op) (h : op ∈ memberRest p rest) :
    op ∈ rest ∧ ((∃ q, op = .createEmpty q) ∨ ∃ q b, op = .append q b) := by
  simp only [memberRest, List.mem_filter] at h
  refine ⟨h.1, ?_⟩
  cases op with
  | createEmpty q => exact Or.inl ⟨q, rfl⟩
  | append q b => exact Or.inr ⟨q, b, rfl⟩
  | mkdir q => simp at h
  | rename a b => simp at h
  | copyFile q b => simp at h
  | rmtree q => simp at h

theorem mem_faultAtoms {atoms : List Op} {j : Nat} {op : Op} (h : op ∈ faultAtoms atoms j) :
    op ∈ atoms.take j
      ∨ (op ∈ atoms.drop (j + 1) ∧ ((∃ q, op = .createEmpty q) ∨ ∃ q b, op = .append q b)) := by
  unfold faultAtoms at h
  rcases List.mem_append.mp h with h | h
  · exact Or.inl h
  · right
    split at h
    · split at h
      · exact memberRest_mem _ _ _ h
      · cases h
    · split at h
      · exact memberRest_mem _ _ _ h
      · cases h
    · cases h

/-- whatever a faulted step performs is among its micro-operations … -/
theorem faultAtoms_mem (atoms : List Op) (j : Nat) : ∀ op ∈ faultAtoms atoms j, op ∈ atoms := by
  intro op hop
  rcases mem_faultAtoms hop with h | ⟨h, _⟩
  · exact List.mem_of_mem_take h
  · exact List.mem_of_mem_drop h

/-- … and never the final `rename`, when the fault hits before the end -/
theorem faultAtoms_take_init (A : List Op) (p q : Path) (n j : Nat)
    (hj : j < ((A ++ [Op.rename p q]).take n).length) :
    ∀ op ∈ faultAtoms ((A ++ [Op.rename p q]).take n) j, op ∈ A := by
  intro op hop
  rcases mem_faultAtoms hop with h | ⟨h, hk⟩
  · have hjA : j ≤ A.length := by
      have := Nat.lt_of_lt_of_le hj (List.length_take_le' n _)
      rw [List.length_append] at this
      exact Nat.le_of_lt_succ this
    rw [List.take_take, List.take_append_of_le_length (Nat.le_trans (Nat.min_le_left j n) hjA)] at h
    exact List.mem_of_mem_take h
  · rcases List.mem_append.mp (List.mem_of_mem_take (List.mem_of_mem_drop h)) with h1 | h1
    · exact h1
    · cases List.mem_singleton.mp h1
      rcases hk with ⟨_, hk⟩ | ⟨_, _, hk⟩ <;> cases hk

theorem faultAtoms_all (atoms : List Op) (j : Nat) (hj : atoms.length ≤ j) : faultAtoms atoms j = atoms := by
  unfold faultAtoms
  rw [List.take_of_length_le hj, List.getElem?_eq_none hj]
  simp

theorem runCalls_atoms_mem (cs : List (Fs → List Op)) (fs : Fs) :
    ∀ a ∈ atomsAll (runCalls fs cs).calls.flatten, ∃ c ∈ cs, ∃ f, a ∈ atomsAll (c f) := by
  induction cs generalizing fs with
  | nil => intro a ha; simp [runCalls, atomsAll] at ha
  | cons c rest ih =>
    intro a ha
    simp only [runCalls] at ha
    split at ha
    · rename_i fs' _
      simp only [List.flatten_cons, atomsAll_append] at ha
      rcases List.mem_append.mp ha with h | h
      · exact ⟨c, by simp, fs, h⟩
      · obtain ⟨c', hc', f, hf⟩ := ih fs' a h
        exact ⟨c', by simp [hc'], f, hf⟩
    · simp only [List.flatten_cons, List.flatten_nil, List.append_nil, atomsAll_take_atoms] at ha
      exact ⟨c, by simp, fs, List.mem_of_mem_take ha⟩

theorem writeOps_noMember (fs : Fs) (p v sid : Nat) (b : Bytes) : ∀ a ∈ writeOps fs p v sid b, NoMember a := by
  intro a ha
  simp only [writeOps, List.mem_append, List.mem_cons, List.not_mem_nil, or_false] at ha
  rcases ha with ha | rfl | rfl
  · obtain ⟨q, _, rfl, _⟩ := mem_mkdirP _ _ _ ha; trivial
  · simp [NoMember, isMemberPath, stagedStateP]
  · simp [NoMember, isMemberPath, stagedStateP]

theorem closeOps_noMember (impl : Impl) (fs : Fs) (p v g : Nat) (t : Tag) : ∀ a ∈ closeOps impl fs p v g t, NoMember a := by
  intro a ha
  simp only [closeOps, List.mem_append, List.mem_map] at ha
  rcases ha with (ha | ⟨s, _, rfl⟩) | ha
  · obtain ⟨q, _, rfl, _⟩ := mem_mkdirP _ _ _ ha; trivial
  · trivial
  · rcases mem_tagWriteOps ha with rfl | rfl | rfl | rfl | rfl
    · simp [NoMember, isMemberPath, tagTmpP]
    · simp [NoMember, isMemberPath, tagTmpP]
    · trivial
    · simp [NoMember, isMemberPath, tagP]
    · simp [NoMember, isMemberPath, tagP]

theorem trainCalls_noMember (impl : Impl) (p v ord : Nat) (sts : List (Nat × Bytes)) :
    ∀ c ∈ trainCalls impl p v ord sts, ∀ f, ∀ a ∈ atomsAll (c f), NoMember a := by
  intro c hc f a ha
  rw [trainCalls_eq] at hc
  rcases List.mem_append.mp hc with hc | hc
  · obtain ⟨s, _, rfl⟩ := List.mem_map.mp hc
    exact writeOps_noMember f p v s.1 s.2 a (by rwa [atomsAll_writeOps] at ha)
  · cases List.mem_singleton.mp hc
    exact closeOps_noMember impl f p v _ _ a (by rwa [closeCall, atomsAll_closeOps] at ha)

/-- a fault inside a training is a process death at that point, observed by a process that lives on -/
theorem faultIn_train (impl : Impl) (fs : Fs) (p v ord : Nat) (sts : List (Nat × Bytes)) (j : Nat) :
    faultIn impl fs (.train p v ord sts) j = crashIn impl fs (.train p v ord sts) j none := by
  simp only [faultIn, crashIn, crashOps_none]
  congr 2
  apply faultAtoms_take
  intro a ha
  cases hg : trainGuard fs p v with
  | some e => simp [exec, hg, atomsAll] at ha
  | none =>
    simp only [exec, hg] at ha
    obtain ⟨c, hc, f, hf⟩ := runCalls_atoms_mem _ fs a ha
    exact trainCalls_noMember impl p v ord sts c hc f a hf

end ForML.Registry
