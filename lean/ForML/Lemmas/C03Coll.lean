/-
A worker between its creation and the moment it becomes evaluable (`Coll`): it is recorded first, gets its input ports
subscribed one by one while the publishers are being built, and becomes evaluable at the end.  It is named after the
collector nodes of the stacking ensemble (`label_output`, `train_output`, `apply_output`, the per-base `stacker` / `reducer`
forks); every worker a single operator creates goes through the same stages (`Lemmas/C03Body.lean`).
-/
import ForML.Lemmas.C03Ops

namespace ForML.Compose

/-- `col` is a recorded, not yet evaluable `N:1` worker whose ports `0..i-1` are subscribed to `ins` -/
structure Coll (g : Graph) (W : World) (col gid : Nat) (a : Actor) (N i : Nat) (ins : Nat → PubRef) : Prop where
  kind : g.kindOf col = some (.worker gid a N 1)
  notLive : ¬ W.live col
  lt : col < g.next
  filled : ∀ k, k < i → g.inputOf col k = some (ins k)
  free : ∀ k, i ≤ k → g.inputOf col k = none

/-- a step that leaves the collector's own lookups alone -/
theorem Coll.same {g g' : Graph} {W W' : World} {col gid a N i ins} (h : Coll g W col gid a N i ins)
    (hk : g'.kindOf col = g.kindOf col) (hin : ∀ k, g'.inputOf col k = g.inputOf col k) (hn : g.next ≤ g'.next)
    (hl : W'.live col → W.live col) : Coll g' W' col gid a N i ins :=
  ⟨by rw [hk]; exact h.kind, fun x => h.notLive (hl x), by have := h.lt; omega, fun k hk' => by rw [hin]; exact h.filled k hk',
    fun k hk' => by rw [hin]; exact h.free k hk'⟩

theorem Coll.frame {g g' : Graph} {W W' : World} {col gid a N i ins} (h : Coll g W col gid a N i ins) (hf : Frame g g')
    (ha : Agree g.next W W') : Coll g' W' col gid a N i ins :=
  h.same (hf.kind col h.lt) (fun k => hf.input col k h.lt) hf.next_le (fun hl => ((ha col h.lt).1).mp hl)

/-- `g'` is `g` with one more recorded worker `w` under the next uid: not evaluable yet, no port subscribed, every
lookup of `g` as it was -/
structure NewWorker (g g' : Graph) (W : World) (w : WRef) : Prop where
  uid : w.uid = g.next
  inv : Inv g' W
  wired : Wired g'
  frame : Frame g g'
  next_lt : g.next < g'.next
  kind : g'.kindOf w.uid = some (.worker w.gid w.actor w.szin w.szout)
  notLive : ¬ W.live w.uid
  trains : g'.trains = g.trains
  input : ∀ u k, g'.inputOf u k = g.inputOf u k
  trainer : ∀ gid, g'.trainerOf gid = g.trainerOf gid

theorem newWorker_spec {g : Graph} {W : World} (hi : Inv g W) (hw : Wired g) (a : Actor) (i o : Nat) :
    NewWorker g (g.bump.bump.pushNode ⟨g.next, .worker (g.next + 1) a i o⟩) W ⟨g.next, g.next + 1, a, i, o⟩ := by
  have hf : Frame g (g.bump.bump.pushNode ⟨g.next, .worker (g.next + 1) a i o⟩) :=
    (Frame.refl g).bump.bump.pushNode _ (Nat.le_refl _)
  exact ⟨rfl, hi.ofFrame hf (hi.bounded.bump.bump.pushNode _ (Nat.lt_succ_of_lt (Nat.lt_succ_self _))
      (fun _ _ _ _ h => by cases h; exact Nat.lt_succ_self _)), hw.bump.bump.pushNode _, hf,
    Nat.lt_succ_of_lt (Nat.lt_succ_self _), kindOf_pushNode_self (hi.bounded.kindOf_none (Nat.le_refl _)),
    fun h => absurd (hi.liveLt _ h).1 (Nat.lt_irrefl _), rfl, fun _ _ => rfl, fun _ => rfl⟩

theorem fork_spec {g : Graph} {W : World} (hi : Inv g W) (hw : Wired g) (p : WRef) (hp : p.gid < g.next) :
    NewWorker g (g.bump.pushNode ⟨g.next, .worker p.gid p.actor p.szin p.szout⟩) W { p with uid := g.next } := by
  have hf : Frame g (g.bump.pushNode ⟨g.next, .worker p.gid p.actor p.szin p.szout⟩) :=
    (Frame.refl g).bump.pushNode _ (Nat.le_refl _)
  exact ⟨rfl, hi.ofFrame hf (hi.bounded.bump.pushNode _ (Nat.lt_succ_self _)
      (fun _ _ _ _ h => by cases h; exact Nat.lt_succ_of_lt hp)), hw.bump.pushNode _, hf, Nat.lt_succ_self _,
    kindOf_pushNode_self (hi.bounded.kindOf_none (Nat.le_refl _)),
    fun h => absurd (hi.liveLt _ h).1 (Nat.lt_irrefl _), rfl, fun _ _ => rfl, fun _ => rfl⟩

theorem NewWorker.free {g g' : Graph} {W : World} {w : WRef} (h : NewWorker g g' W w) (hb : Bounded g) (k : Nat) :
    g'.inputOf w.uid k = none := by
  rw [h.input, h.uid]; exact hb.inputOf_none (Nat.le_refl _) k

theorem NewWorker.coll {g g' : Graph} {W : World} {w : WRef} (h : NewWorker g g' W w) (hb : Bounded g) {a : Actor} {N : Nat}
    (ha : w.actor = a) (hN : w.szin = N) (ho : w.szout = 1) : Coll g' W w.uid w.gid a N 0 (fun _ => default) :=
  ⟨by rw [h.kind, ha, hN, ho], h.notLive, by rw [h.uid]; exact h.next_lt, fun k hk => absurd hk (Nat.not_lt_zero k),
    fun k _ => h.free hb k⟩

theorem Coll.pushEdge {g : Graph} {W : World} {col gid a N i ins} (h : Coll g W col gid a N i ins) (e : Edge)
    (hne : col ≠ e.sub) : Coll (g.pushEdge e) W col gid a N i ins :=
  h.same (by simp) (inputOf_pushEdge_ne hne.symm) (by simp) id

theorem Coll.pushTrain {g : Graph} {W : World} {col gid a N i ins} (h : Coll g W col gid a N i ins) (T : Training) :
    Coll (g.pushTrain T) W col gid a N i ins :=
  h.same rfl (fun _ => rfl) (Nat.le_refl _) id

theorem Coll.trainIf {g : Graph} {W : World} {col gid a N i ins} (h : Coll g W col gid a N i ins) (c : Bool) (w : WRef)
    (tr lb : PubRef) : Coll (ForML.Compose.trainIf c w tr lb g) W col gid a N i ins :=
  h.same (trainIf_kindOf col (Nat.ne_of_lt h.lt)) (fun k => trainIf_inputOf c w tr lb g col k) (trainIf_next_ge _ _ _ _ _) id

theorem Coll.adds {g : Graph} {W W' : World} {col gid a N i ins} (h : Coll g W col gid a N i ins) {u ρ : Nat}
    {v : Nat → Val} (ha : Adds W W' u ρ v) (hne : col ≠ u) : Coll g W' col gid a N i ins :=
  h.same rfl (fun _ => rfl) (Nat.le_refl _) (fun hl => ((ha.live _).mp hl).elim (fun e => absurd e hne) id)

/-- the inputs of a complete collector are exactly its recorded publishers -/
theorem Coll.input_full {g : Graph} {W : World} {col gid a N ins} (h : Coll g W col gid a N N ins) {k : Nat} {q : PubRef}
    (hq : g.inputOf col k = some q) : k < N ∧ q = ins k := by
  by_cases hk : k < N
  · rw [h.filled k hk] at hq; exact ⟨hk, (Option.some.inj hq).symm⟩
  · rw [h.free k (by omega)] at hq; cases hq

theorem Coll.push {g : Graph} {W : World} {col gid a N i ins} (h : Coll g W col gid a N i ins) (hi : Inv g W) (hw : Wired g)
    (q : PubRef) (hq : q.node < g.next) :
    Run (subscribe col i q) g () (g.pushEdge ⟨col, i, q⟩) ∧ Inv (g.pushEdge ⟨col, i, q⟩) W ∧
      Wired (g.pushEdge ⟨col, i, q⟩) ∧
      Coll (g.pushEdge ⟨col, i, q⟩) W col gid a N (i + 1) (fun k => if k = i then q else ins k) := by
  have hfree := h.free i (Nat.le_refl _)
  refine ⟨run_subscribe col i q g hfree, hi.pushEdge_notLive _ h.notLive h.lt, hw.pushEdge _ hq hfree, ?_⟩
  refine ⟨by simpa using h.kind, h.notLive, by simpa using h.lt, ?_, ?_⟩
  · intro k hk
    rw [inputOf_pushEdge]
    by_cases hki : k = i
    · subst hki; rw [hfree]; simp
    · rw [h.filled k (by omega)]; simp [hki]
  · intro k hk
    rw [inputOf_pushEdge, h.free k (by omega)]
    have : ¬ i = k := by omega
    simp [this]

theorem Inv.addWorker {g : Graph} {W : World} (hi : Inv g W) (u gid : Nat) (a : Actor) (szin szout : Nat) (ins : Nat → PubRef)
    (r : Nat) (st : Val) (hk : g.kindOf u = some (.worker gid a szin szout)) (hnl : ¬ W.live u) (hr : r < g.next)
    (hins : ∀ k, k < szin → g.inputOf u k = some (ins k) ∧ RefOk W (ins k) r) (hst : StateFor g W gid a r st) :
    ∃ W', Inv g W' ∧
      Adds W W' u r (fun i => portVal szout i (.apply a.tag st ((List.range szin).map (fun k => W.σ (ins k))))) :=
  ⟨_, hi.liveWorker u gid a szin szout ins r st hk hnl hr hins hst, Adds.set hnl _ _⟩

theorem Coll.mkLive {g : Graph} {W : World} {col gid a N ins} (h : Coll g W col gid a N N ins) (hi : Inv g W)
    (hs : a.stateful = false) (R : Nat) (hR : R < g.next) (hins : ∀ k, k < N → RefOk W (ins k) R) :
    ∃ W', Inv g W' ∧ Adds W W' col R (fun _ => .apply a.tag .none ((List.range N).map (fun k => W.σ (ins k)))) :=
  hi.addWorker col gid a N 1 ins R .none h.kind h.notLive hR (fun k hk => ⟨h.filled k hk, hins k hk⟩)
    (StateFor.stateless hs)

theorem map_σ_update {β : Type} {W W' : World} {ins : Nat → PubRef} {q : PubRef} {l : List β} {f : β → Val} {x : β}
    (hv : (List.range l.length).map (fun b => W.σ (ins b)) = l.map f)
    (hk : ∀ b, b < l.length → W'.σ (ins b) = W.σ (ins b)) (hq : W'.σ q = f x) :
    (List.range (l ++ [x]).length).map (fun b => W'.σ ((fun k => if k = l.length then q else ins k) b)) =
      (l ++ [x]).map f := by
  rw [List.length_append, List.length_singleton, List.map_append, ← hv]
  have : (fun b => W'.σ (if b = l.length then q else ins b)) =
      (fun b => if b = l.length then W'.σ q else W'.σ (ins b)) := by
    funext b; split <;> rfl
  rw [this, range_map_update, hq]
  congr 1
  exact List.map_congr_left (fun b hb => hk b (List.mem_range.mp hb))

/-- `spec_stack` reads the list of the bases' values off the ports of the output collectors, which are indexed by number -/
theorem map_range_getD {α β} (f : α → β) (d : α) : ∀ (l : List α), (List.range l.length).map (fun i => f (l.getD i d)) = l.map f := by
  intro l
  induction l with
  | nil => rfl
  | cons x xs ih =>
    rw [List.length_cons, List.range_succ_eq_map, List.map_cons, List.map_map, List.map_cons]
    congr 1

end ForML.Compose
