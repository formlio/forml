/- C17: what `Latest` has to resolve to (`Spec`: unique and, with no release configured, what `pickLatest` returns), and
the registry operations `publishRel` / `commitRel` as one walk `alterRel` that keeps listings well formed and loses
nothing listed. -/
import ForML.Model.StrategyLatest
import ForML.Lemmas.ListFacts

namespace ForML.Strategy

/-- listings as `Level.Listing` yields them: release keys strictly ascending, generation keys strictly ascending -/
def WF (rels : Rels) : Prop :=
  rels.Pairwise (fun a b => a.1 < b.1) ∧ ∀ x ∈ rels, x.2.Pairwise (· < ·)

/-- `g` is the newest generation of release `r` -/
def NewestOf (rels : Rels) (r g : Nat) : Prop :=
  ∃ gs, (r, gs) ∈ rels ∧ g ∈ gs ∧ ∀ x ∈ gs, x ≤ g

/-- the property text: the newest generation of the highest release that has any generation -/
def Newest (rels : Rels) (r g : Nat) : Prop :=
  NewestOf rels r g ∧ ∀ x ∈ rels, x.2 ≠ [] → x.1 ≤ r

/-- what the latest-strategy has to resolve to: "(or of the configured release)" -/
def Spec (cfg : Option Nat) (rels : Rels) (r g : Nat) : Prop :=
  match cfg with
  | none => Newest rels r g
  | some c => c = r ∧ NewestOf rels r g

theorem WF.tail {x : Nat × List Nat} {rels : Rels} (h : WF (x :: rels)) : WF rels :=
  ⟨(List.pairwise_cons.mp h.1).2, fun y hy => h.2 y (List.mem_cons_of_mem _ hy)⟩

theorem wf_cons {k : Nat} {gs : List Nat} {rest : Rels} :
    WF ((k, gs) :: rest) ↔ (∀ y ∈ rest, k < y.1) ∧ gs.Pairwise (· < ·) ∧ WF rest :=
  ⟨fun h => ⟨(List.pairwise_cons.mp h.1).1, h.2 _ List.mem_cons_self, h.tail⟩,
    fun ⟨hk, hgs, hr⟩ => ⟨List.pairwise_cons.mpr ⟨hk, hr.1⟩, List.forall_mem_cons.mpr ⟨hgs, hr.2⟩⟩⟩

/-- `Release.list()` is the look-up of the release key -/
theorem gensOf_eq_lookup (rels : Rels) (r : Nat) : gensOf rels r = rels.lookup r :=
  lookup_eq_of_eqns (f := fun r rels => gensOf rels r) (fun _ => rfl) (fun _ _ _ _ => rfl) r rels

theorem gensOf_mem {rels : Rels} {r : Nat} {gs : List Nat} (h : gensOf rels r = some gs) : (r, gs) ∈ rels :=
  mem_of_lookup (gensOf_eq_lookup rels r ▸ h)

theorem gensOf_of_mem {rels : Rels} (hwf : WF rels) {r : Nat} {gs : List Nat} (h : (r, gs) ∈ rels) :
    gensOf rels r = some gs :=
  (gensOf_eq_lookup rels r).trans (lookup_of_mem (List.pairwise_map.mpr (hwf.1.imp Nat.ne_of_lt)) h)

theorem sorted_le_last {gs : List Nat} (hs : gs.Pairwise (· < ·)) {g : Nat} (h : gs.getLast? = some g) :
    ∀ x ∈ gs, x ≤ g :=
  fun x hx => (pairwise_getLast? hs h x hx).elim Nat.le_of_eq Nat.le_of_lt

theorem newestOf_last {rels : Rels} (hwf : WF rels) {r : Nat} {gs : List Nat} {g : Nat}
    (hm : (r, gs) ∈ rels) (hl : gs.getLast? = some g) : NewestOf rels r g :=
  ⟨gs, hm, List.mem_of_getLast? hl, sorted_le_last (hwf.2 _ hm) hl⟩

theorem mem_unique {rels : Rels} (hwf : WF rels) {r : Nat} {gs gs' : List Nat}
    (h : (r, gs) ∈ rels) (h' : (r, gs') ∈ rels) : gs = gs' := by
  have := gensOf_of_mem hwf h
  rw [gensOf_of_mem hwf h'] at this
  cases this; rfl

theorem newestOf_unique {rels : Rels} (hwf : WF rels) {r g g' : Nat}
    (h : NewestOf rels r g) (h' : NewestOf rels r g') : g = g' := by
  obtain ⟨gs, hm, hg, hmax⟩ := h
  obtain ⟨gs', hm', hg', hmax'⟩ := h'
  have := mem_unique hwf hm hm'; subst this
  have := hmax g' hg'; have := hmax' g hg; omega

theorem newest_unique {rels : Rels} (hwf : WF rels) {r g r' g' : Nat}
    (h : Newest rels r g) (h' : Newest rels r' g') : r = r' ∧ g = g' := by
  obtain ⟨gs, hm, hg, _⟩ := h.1
  obtain ⟨gs', hm', hg', _⟩ := h'.1
  have h1 := h.2 (r', gs') hm' (by intro e; have e' : gs' = [] := e; subst e'; simp at hg')
  have h2 := h'.2 (r, gs) hm (by intro e; have e' : gs = [] := e; subst e'; simp at hg)
  have : r = r' := by simp only at h1 h2; omega
  subst this
  exact ⟨rfl, newestOf_unique hwf h.1 h'.1⟩

theorem spec_unique {cfg : Option Nat} {rels : Rels} (hwf : WF rels) {r g r' g' : Nat}
    (h : Spec cfg rels r g) (h' : Spec cfg rels r' g') : r = r' ∧ g = g' := by
  cases cfg with
  | none => exact newest_unique hwf h h'
  | some c =>
    obtain ⟨rfl, h⟩ := h
    obtain ⟨rfl, h'⟩ := h'
    exact ⟨rfl, newestOf_unique hwf h h'⟩

theorem pickLatest_none_iff (rels : Rels) : pickLatest rels = none ↔ ∀ x ∈ rels, x.2 = [] := by
  induction rels with
  | nil => exact ⟨fun _ _ h => (nomatch h), fun _ => rfl⟩
  | cons x rest ih =>
    obtain ⟨k, gs⟩ := x
    rw [List.forall_mem_cons, ← ih]
    simp only [pickLatest]
    cases pickLatest rest with
    | some y => exact ⟨nofun, fun h => nomatch h.2⟩
    | none =>
      rw [← List.getLast?_eq_none_iff]
      cases gs.getLast? <;> simp

theorem pickLatest_some {rels : Rels} {r g : Nat} (h : pickLatest rels = some (r, g)) :
    ∃ pre post gs, rels = pre ++ (r, gs) :: post ∧ gs.getLast? = some g ∧ ∀ x ∈ post, x.2 = [] := by
  fun_induction pickLatest rels with
  | case1 => cases h
  | case2 k gs rest y hp ih =>
    obtain ⟨pre, post, gs', rfl, hg, hall⟩ := ih (hp.trans h)
    exact ⟨(k, gs) :: pre, post, gs', rfl, hg, hall⟩
  | case3 k gs rest hp g' hg =>
    cases h
    exact ⟨[], rest, gs, rfl, hg, (pickLatest_none_iff rest).mp hp⟩
  | case4 k gs rest hp hg => cases h

theorem pickLatest_newest {rels : Rels} (hwf : WF rels) {r g : Nat} (h : pickLatest rels = some (r, g)) :
    Newest rels r g := by
  obtain ⟨pre, post, gs, rfl, hg, hpost⟩ := pickLatest_some h
  refine ⟨newestOf_last hwf (by simp) hg, fun y hy hne => ?_⟩
  rcases List.mem_append.mp hy with hy | hy
  · exact Nat.le_of_lt ((List.pairwise_append.mp hwf.1).2.2 y hy (r, gs) List.mem_cons_self)
  · rcases List.mem_cons.mp hy with rfl | hy
    · exact Nat.le_refl _
    · exact absurd (hpost y hy) hne

theorem pickLatest_of_newest {rels : Rels} (hwf : WF rels) {r g : Nat} (h : Newest rels r g) :
    pickLatest rels = some (r, g) := by
  cases hp : pickLatest rels with
  | none =>
    obtain ⟨gs, hm, hg, _⟩ := h.1
    have := (pickLatest_none_iff rels).mp hp (r, gs) hm
    simp only at this; subst this; simp at hg
  | some y =>
    obtain ⟨r', g'⟩ := y
    obtain ⟨rfl, rfl⟩ := newest_unique hwf (pickLatest_newest hwf hp) h
    rfl

/-- `publishRel` and `commitRel` are the same walk along the release keys -/
def alterRel (r : Nat) (new : List Nat) (upd : List Nat → List Nat) : Rels → Rels
  | [] => [(r, new)]
  | (x, gs) :: rest =>
    if r < x then (r, new) :: (x, gs) :: rest
    else if r = x then (x, upd gs) :: rest
    else (x, gs) :: alterRel r new upd rest

theorem publishRel_eq (r : Nat) (rels : Rels) : publishRel r rels = alterRel r [] id rels := by
  induction rels with
  | nil => rfl
  | cons x rest ih => obtain ⟨k, gs⟩ := x; simp only [publishRel, alterRel, ih, id]

theorem commitRel_eq (r : Nat) (rels : Rels) :
    commitRel r rels = alterRel r [1] (fun gs => gs ++ [nextGen gs]) rels := by
  induction rels with
  | nil => rfl
  | cons x rest ih => obtain ⟨k, gs⟩ := x; simp only [commitRel, alterRel, ih]

theorem alterRel_keys (r : Nat) (new : List Nat) (upd : List Nat → List Nat) (rels : Rels) :
    ∀ y ∈ alterRel r new upd rels, y ∈ rels ∨ y.1 = r := by
  fun_induction alterRel r new upd rels with
  | case1 => exact List.forall_mem_cons.mpr ⟨Or.inr rfl, nofun⟩
  | case2 x gs rest _ => exact List.forall_mem_cons.mpr ⟨Or.inr rfl, fun _ => Or.inl⟩
  | case3 gs rest _ => exact List.forall_mem_cons.mpr ⟨Or.inr rfl, fun _ hy => Or.inl (List.mem_cons_of_mem _ hy)⟩
  | case4 x gs rest _ _ ih =>
    exact List.forall_mem_cons.mpr
      ⟨Or.inl List.mem_cons_self, fun y hy => (ih y hy).imp_left (List.mem_cons_of_mem _)⟩

theorem alterRel_wf (r : Nat) {new : List Nat} {upd : List Nat → List Nat} (hnew : new.Pairwise (· < ·))
    (hupd : ∀ gs, gs.Pairwise (· < ·) → (upd gs).Pairwise (· < ·)) {rels : Rels} (hwf : WF rels) :
    WF (alterRel r new upd rels) := by
  fun_induction alterRel r new upd rels with
  | case1 => exact wf_cons.mpr ⟨nofun, hnew, hwf⟩
  | case2 x gs rest hlt =>
    exact wf_cons.mpr
      ⟨List.forall_mem_cons.mpr ⟨hlt, fun y hy => Nat.lt_trans hlt ((wf_cons.mp hwf).1 y hy)⟩, hnew, hwf⟩
  | case3 gs rest _ =>
    obtain ⟨hk, hgs, hrest⟩ := wf_cons.mp hwf
    exact wf_cons.mpr ⟨hk, hupd gs hgs, hrest⟩
  | case4 x gs rest _ _ ih =>
    obtain ⟨hk, hgs, hrest⟩ := wf_cons.mp hwf
    -- the keys after `x` are the old ones and `r`
    exact wf_cons.mpr
      ⟨fun y hy => (alterRel_keys r new upd rest y hy).elim (hk y) fun h => by omega, hgs, ih hrest⟩

theorem gensOf_key_ge {k : Nat} {ks : List Nat} {rest : Rels} (hwf : WF ((k, ks) :: rest)) {c : Nat} {gs : List Nat}
    (h : gensOf ((k, ks) :: rest) c = some gs) : k ≤ c := by
  rcases List.mem_cons.mp (gensOf_mem h) with h | h
  · cases h; exact Nat.le_refl _
  · exact Nat.le_of_lt ((wf_cons.mp hwf).1 _ h)

theorem gensOf_alterRel {rels : Rels} (hwf : WF rels) (r : Nat) (new : List Nat) (upd : List Nat → List Nat) {c : Nat}
    {gs : List Nat} (h : gensOf rels c = some gs) :
    gensOf (alterRel r new upd rels) c = some (if c = r then upd gs else gs) := by
  fun_induction alterRel r new upd rels with
  | case1 => cases h
  | case2 x ks rest hlt =>
    -- inserted in front of `x ≤ c`
    have hrc : r < c := Nat.lt_of_lt_of_le hlt (gensOf_key_ge hwf h)
    rw [gensOf, if_neg (Nat.ne_of_lt hrc), if_neg (Nat.ne_of_gt hrc)]
    exact h
  | case3 ks rest _ =>
    simp only [gensOf] at h ⊢
    by_cases hc : r = c
    · rw [if_pos hc] at h ⊢
      cases h
      rw [if_pos hc.symm]
    · rw [if_neg hc] at h ⊢
      rw [if_neg (Ne.symm hc)]
      exact h
  | case4 x ks rest _ hne ih =>
    simp only [gensOf] at h ⊢
    by_cases hc : x = c
    · rw [if_pos hc] at h ⊢
      cases h
      rw [if_neg (hc ▸ Ne.symm hne)]
    · rw [if_neg hc] at h ⊢
      exact ih hwf.tail h

theorem lt_nextGen {gs : List Nat} (hs : gs.Pairwise (· < ·)) : ∀ x ∈ gs, x < nextGen gs := by
  intro x hx
  unfold nextGen
  cases hg : gs.getLast? with
  | none => have : gs = [] := List.getLast?_eq_none_iff.mp hg; subst this; simp at hx
  | some g => have := sorted_le_last hs hg x hx; simp only; omega

theorem publishRel_wf (r : Nat) {rels : Rels} (hwf : WF rels) : WF (publishRel r rels) :=
  publishRel_eq r rels ▸ alterRel_wf r List.Pairwise.nil (fun _ h => h) hwf

theorem commitRel_wf (r : Nat) {rels : Rels} (hwf : WF rels) : WF (commitRel r rels) :=
  commitRel_eq r rels ▸ alterRel_wf r (List.pairwise_singleton _ _)
    (fun _ hs => List.pairwise_append.mpr ⟨hs, List.pairwise_singleton _ _,
      fun a ha _ hb => List.mem_singleton.mp hb ▸ lt_nextGen hs a ha⟩) hwf

theorem gensOf_publishRel {rels : Rels} (hwf : WF rels) (r : Nat) {c : Nat} {gs : List Nat}
    (h : gensOf rels c = some gs) : gensOf (publishRel r rels) c = some gs := by
  rw [publishRel_eq, gensOf_alterRel hwf r _ _ h]
  split <;> rfl

theorem gensOf_commitRel {rels : Rels} (hwf : WF rels) (r : Nat) {c : Nat} {gs : List Nat}
    (h : gensOf rels c = some gs) : ∃ gs', gensOf (commitRel r rels) c = some gs' ∧ ∀ g ∈ gs, g ∈ gs' := by
  refine ⟨_, commitRel_eq r rels ▸ gensOf_alterRel hwf r _ _ h, fun g hg => ?_⟩
  split
  · exact List.mem_append_left _ hg
  · exact hg

/-- the release a commit goes to has a generation afterwards -/
theorem gensOf_commitRel_self (r : Nat) (rels : Rels) :
    ∃ gs g, gensOf (commitRel r rels) r = some gs ∧ g ∈ gs := by
  fun_induction commitRel r rels with
  | case1 => exact ⟨[1], 1, if_pos rfl, List.mem_singleton_self 1⟩
  | case2 x ks rest _ => exact ⟨[1], 1, if_pos rfl, List.mem_singleton_self 1⟩
  | case3 ks rest _ => exact ⟨_, nextGen ks, if_pos rfl, List.mem_append_right _ (List.mem_singleton_self _)⟩
  | case4 x ks rest _ hne ih =>
    obtain ⟨gs, g, h, hg⟩ := ih
    exact ⟨gs, g, (if_neg (Ne.symm hne)).trans h, hg⟩

end ForML.Strategy
