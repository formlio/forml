/-
C10 — trainings chained through committed tags tile the ordinal axis; apply and train drivers of
one `Feed.load` select by the same window; shipping and the result cache are invisible to a sequence
of trainings.
-/
import ForML.Props.C10
import ForML.Lemmas.C10Ship
import ForML.Lemmas.C10Cache
import ForML.Model.OrdinalChain

set_option linter.unusedSectionVars false

namespace ForML.Ordinal
open Std

/-- only a `Decimal` changes its class when a tag is committed and read back, and no kind refuses a `float`.
(Value classes of plain Python types; a `pandas.Timestamp` or a numpy scalar, which TOML writes as
its `repr`, is outside `tomlClass`.) -/
theorem C10_toml_castable : ∀ (k : Kind) (t : PyT), castRule k t ≠ .err → castRule k (tomlClass t) ≠ .err := by
  intro k t h
  cases t with
  | decimal => cases k <;> decide
  | _ => exact h

/-- … also when an integral `Decimal` reads back as an `int` instead of a `float` -/
theorem C10_toml_castable_int : ∀ k : Kind, castRule k .decimal ≠ .err →
    castRule k .int ≠ .err ∧ castRule k .float ≠ .err := by
  intro k; cases k <;> decide

/-- committing a tag changes neither the point its ordinal denotes nor its truth value -/
theorem C10_persist_point {α : Type} (r : Raw α) :
    (persistRaw r).pt = r.pt ∧ (persistRaw r).truthy = r.truthy := ⟨rfl, rfl⟩

section chain
variable {α : Type}

/-- each training extracts `(its explicit lower bound, or else the ordinal committed with the
generation it starts from — i.e. the previous training's upper bound —, its upper bound)` -/
theorem C10_train_seq_windows (commit : Raw α → Raw α) (tag : Option (Raw α)) (u : Raw α)
    (r : List (Option (Raw α) × Raw α)) :
    (∀ l : Raw α, trainSeqVia commit tag ((some l, u) :: r)
      = (some l, some u) :: trainSeqVia commit (some (commit u)) r) ∧
    trainSeqVia commit tag ((none, u) :: r) = (tag, some u) :: trainSeqVia commit (some (commit u)) r :=
  ⟨fun _ => rfl, rfl⟩

/-- without explicit lower bounds a sequence of trainings is the chain -/
theorem C10_train_seq_chain (commit : Raw α → Raw α) (tag : Option (Raw α)) (us : List (Raw α)) :
    trainSeqVia commit tag (us.map (fun u => (none, u))) = trainChainVia commit tag us := by
  induction us generalizing tag with
  | nil => rfl
  | cons u r ih => simp only [List.map_cons, trainSeqVia, trainChainVia, ih]

/-- a tag that is handed over in memory (`commit = id`) gives the chain of Model/Ordinal -/
theorem C10_train_chain_via_id (tag : Option (Raw α)) (us : List (Raw α)) :
    trainChainVia id tag us = trainChain tag us := by
  induction us generalizing tag with
  | nil => rfl
  | cons u r ih => simp only [trainChainVia, trainChain, id, ih]

/-- the points denoted by the windows' bounds -/
def winPts (w : Option (Raw α) × Option (Raw α)) : Option α × Option α := (w.1.map (·.pt), w.2.map (·.pt))

/-- committing the tags in between does not move any bound: as long as `commit` keeps the denoted
point, the chain through the registry covers the same windows as the chain in memory -/
theorem C10_committed_chain_points (commit : Raw α → Raw α) (hp : ∀ r, (commit r).pt = r.pt)
    (tag tag' : Option (Raw α)) (ht : tag.map (·.pt) = tag'.map (·.pt)) (us : List (Raw α)) :
    (trainChainVia commit tag us).map winPts = (trainChain tag' us).map winPts := by
  induction us generalizing tag tag' with
  | nil => rfl
  | cons u r ih =>
    simp only [trainChainVia, trainChain, List.map_cons, winPts, trainLower, ht]
    rw [ih (some (commit u)) (some u) (by simp [hp])]

/-- … and every bound stays castable -/
theorem C10_committed_chain_castable (k : Kind) (commit : Raw α → Raw α)
    (hc : ∀ r, castRule k r.ty ≠ .err → castRule k (commit r).ty ≠ .err)
    (tag : Option (Raw α)) (htag : Castable k tag) (us : List (Raw α))
    (hus : ∀ q ∈ us, castRule k q.ty ≠ .err) :
    ∀ w ∈ trainChainVia commit tag us, Castable k w.1 ∧ Castable k w.2 := by
  induction us generalizing tag with
  | nil => intro w hw; simp [trainChainVia] at hw
  | cons u r ih =>
    intro w hw
    simp only [trainChainVia, List.mem_cons] at hw
    rcases hw with e | hw
    · subst e
      refine ⟨?_, ?_⟩
      · simpa [trainLower] using htag
      · intro q hq; cases hq; exact hus u (by simp)
    · refine ih (some (commit u)) ?_ (fun q hq => hus q (List.mem_cons_of_mem u hq)) w hw
      intro q hq; cases hq; exact hc u (hus u (by simp))

end chain

section counts
variable {α : Type} [LE α] [LT α] [DecidableLE α] [DecidableLT α] [DecidableEq α]

/-- trainings chained through *committed* tags (every tag written to the registry and read back
before the next training) are accepted exactly like the chain in memory and deliver every record the
same number of times. -/
theorem C10_committed_chain_counts (sem : Once) (k : Kind) (commit : Raw α → Raw α)
    (hp : ∀ r, (commit r).pt = r.pt)
    (hcm : ∀ r, castRule k r.ty ≠ .err → castRule k (commit r).ty ≠ .err)
    (us : List (Raw α)) (hc : ∀ q ∈ us, castRule k q.ty ≠ .err) (data : List α) :
    ∃ ls ls', launches (some (k, sem)) (trainChainVia commit none us) data = .ok ls ∧
      launches (some (k, sem)) (trainChain none us) data = .ok ls' ∧
      ls.length = ls'.length ∧ ∀ i, timesDelivered ls i = timesDelivered ls' i := by
  have hnone : Castable k (none : Option (Raw α)) := fun q hq => by cases hq
  obtain ⟨ls, hls, hlen, hin, hout⟩ := C10_history sem k (trainChainVia commit none us)
    (C10_committed_chain_castable k commit hcm none hnone us hc) data
  have hplain := C10_committed_chain_castable k id (fun r h => h) none hnone us hc
  rw [C10_train_chain_via_id] at hplain
  obtain ⟨ls', hls', hlen', hin', hout'⟩ := C10_history sem k (trainChain none us) hplain data
  have hpts := C10_committed_chain_points commit hp none none rfl us
  refine ⟨ls, ls', hls, hls', ?_, fun i => ?_⟩
  · rw [hlen, hlen', ← List.length_map winPts, hpts, List.length_map]
  · by_cases h : i < data.length
    · rw [hin i h, hin' i h]
      exact congrArg (hits sem · data[i]) hpts
    · rw [hout i (Nat.le_of_not_lt h), hout' i (Nat.le_of_not_lt h)]

end counts

section tiling
variable {α : Type} [LE α] [LT α] [DecidableLE α] [DecidableLT α] [DecidableEq α]
  [IsLinearOrder α] [LawfulOrderLT α]

/-- the statement of `C10_incremental_training` for the lifecycle as it runs in practice — every
training a launch of its own, the ordinal it starts from read back from the tag committed by the
previous one (TOML: a `Decimal` comes back as a `float`). From scratch with `u₀ < … < uₙ` and any
data, over the whole history: exactly-once delivers a record once iff `x < uₙ`, at-most-once once
iff `x ≤ uₙ`, at-least-once at least once iff `x ≤ uₙ`, at most twice, twice only at an earlier
upper bound. -/
theorem C10_incremental_training_committed (sem : Once) (k : Kind) (u0 : Raw α) (us : List (Raw α))
    (hc : ∀ q ∈ u0 :: us, castRule k q.ty ≠ .err)
    (hinc : StrictInc ((u0 :: us).map (·.pt))) (data : List α) :
    ∃ ls, launches (some (k, sem)) (trainChainVia persistRaw none (u0 :: us)) data = .ok ls ∧
      ls.length = (u0 :: us).length ∧
      ∀ i (h : i < data.length),
        let x := data[i]
        let c := timesDelivered ls i
        let hi := last u0.pt (us.map (·.pt))
        (sem = .exactly → c = if x < hi then 1 else 0) ∧
        (sem = .atmost → c = if x ≤ hi then 1 else 0) ∧
        (sem = .atleast → (x ≤ hi → 1 ≤ c) ∧ (hi < x → c = 0) ∧ c ≤ 2 ∧
          (2 ≤ c → x ∈ (u0 :: us).map (·.pt) ∧ x < hi)) := by
  obtain ⟨ls, ls', hls, hls', hlen, hcnt⟩ := C10_committed_chain_counts sem k persistRaw
    (fun r => rfl) (fun r h => C10_toml_castable k r.ty h) (u0 :: us) hc data
  obtain ⟨ls'', hls'', hlen'', hcl⟩ := C10_incremental_training sem k u0 us hc hinc data
  rw [hls'] at hls''
  cases hls''
  refine ⟨ls, hls, hlen.trans hlen'', fun i h => ?_⟩
  rw [hcnt i]
  exact hcl i h

/-- incremental training continued from a generation whose tag records the ordinal `t`
(`t < u₀ < … < uₙ`, no explicit lower bounds): the trainings extract the consecutive windows
`(t,u₀), (u₀,u₁), …` and every record obeys all clauses of `C10_records` with `t` as the first bound.
(The chain in memory, `trainChain`; that committing the tags in between changes no window is
`C10_committed_chain_points`.) -/
theorem C10_training_from_tag (sem : Once) (k : Kind) (t u0 : Raw α) (us : List (Raw α))
    (hc : ∀ q ∈ t :: u0 :: us, castRule k q.ty ≠ .err)
    (hinc : StrictInc ((t :: u0 :: us).map (·.pt))) (data : List α) :
    ∃ ls, launches (some (k, sem)) (trainChain (some t) (u0 :: us)) data = .ok ls ∧
      ∀ i (h : i < data.length),
        let x := data[i]
        let c := timesDelivered ls i
        let lo := t.pt
        let hi := last u0.pt (us.map (·.pt))
        let pts := (t :: u0 :: us).map (·.pt)
        (sem = .exactly → c = if lo ≤ x ∧ x < hi then 1 else 0) ∧
        (sem = .atmost → c ≤ 1 ∧ (lo < x ∧ x ≤ hi → c = 1)) ∧
        (sem = .atleast → (lo ≤ x ∧ x ≤ hi → 1 ≤ c) ∧ c ≤ 2) ∧
        (x < lo ∨ hi < x → c = 0) ∧
        (lo < x → x < hi → x ∉ pts → c = 1) ∧
        (lo ≤ x → x ≤ hi → c ≠ 1 → x ∈ pts) := by
  rw [(C10_train_chain u0 us).2 t]
  exact C10_records sem k t u0 us hc hinc data

end tiling

section modes
variable {α : Type} [LE α] [LT α] [DecidableLE α] [DecidableLT α] [DecidableEq α]

/-- the apply driver and the train driver built by one `Feed.load` carry the same ordinal specs and
the same bounds, hence the same window predicate (or the same refusal), whatever the two base
statements are and whether label columns are appended -/
theorem C10_load_same_window (kindOf : Nat → Kind) (e : ExtractM) (lo hi : Option (Raw α)) :
    (feedLoad e lo hi).1.terms kindOf = (feedLoad e lo hi).2.terms kindOf ∧
    (feedLoad e lo hi).1.terms kindOf = prepared (toOrd kindOf e.ordinal) lo hi := ⟨rfl, rfl⟩

/-- each driver delivers the launch of that window over the records its own base statement denotes -/
theorem C10_load_rows (kindOf : Nat → Kind) (dataOf : Nat × Bool → List α) (e : ExtractM)
    (lo hi : Option (Raw α)) :
    (feedLoad e lo hi).1.rows kindOf dataOf = launch (toOrd kindOf e.ordinal) lo hi (dataOf (e.apply, false)) ∧
    (feedLoad e lo hi).2.rows kindOf dataOf = launch (toOrd kindOf e.ordinal) lo hi (dataOf (e.train, e.labels)) :=
  ⟨rfl, rfl⟩

/-- `Runner.apply` never consults the tag; `Runner.train` does so only for a missing lower bound:
with an explicit lower bound both modes extract the same window -/
theorem C10_apply_train_lower (lo tag : Option (Raw α)) :
    applyLower lo tag = lo ∧ (lo.isSome → trainLower lo tag = applyLower lo tag) ∧
    trainLower none tag = tag := by
  refine ⟨rfl, ?_, rfl⟩
  intro h
  cases lo with
  | none => cases h
  | some l => rfl

end modes

/-- **the transport is invisible to a sequence of trainings**: whether the extraction components
are shipped (any number of round trips) and whether the windows are read through the feed's result
cache, a sequence of trainings hands the same bounds to `Feed.load` and gets the same rows -/
theorem C10_source_trainings_transport {α : Type} [LE α] [LT α] [DecidableLE α] [DecidableLT α] [DecidableEq α]
    (kindOf : Nat → Kind) (ordinal : Option Nat) (a : OnceArg) (ships : Nat) (cached : Bool)
    (commit : Raw α → Raw α) (tag : Option (Raw α)) (runs : List (Option (Raw α) × Raw α)) (data : List α) :
    sourceTrainings kindOf ordinal a ships cached commit tag runs data
      = sourceTrainings kindOf ordinal a 0 false commit tag runs data := by
  unfold sourceTrainings
  cases cached
  · simp only [Bool.false_eq_true, if_false, C10_shipped_windows kindOf ordinal a ships]
  · simp only [if_true, Bool.false_eq_true, if_false, C10_source_cached, C10_shipped_windows kindOf ordinal a ships]

example : trainSeqVia persistRaw none
    [(none, (⟨.int, (1 : Int), true⟩ : Raw Int)), (none, ⟨.decimal, 3, true⟩), (some ⟨.int, 2, true⟩, ⟨.int, 5, true⟩)]
    = [(none, some ⟨.int, 1, true⟩), (some ⟨.int, 1, true⟩, some ⟨.decimal, 3, true⟩),
       (some ⟨.int, 2, true⟩, some ⟨.int, 5, true⟩)] := by decide +kernel
example : trainChainVia persistRaw none [(⟨.decimal, (1 : Int), true⟩ : Raw Int), ⟨.int, 3, true⟩]
    = [(none, some ⟨.decimal, 1, true⟩), (some ⟨.float, 1, true⟩, some ⟨.int, 3, true⟩)] := by decide +kernel
example : launches (some (.integer, .atleast))
    (trainChainVia persistRaw none [(⟨.decimal, (1 : Int), true⟩ : Raw Int), ⟨.int, 3, true⟩]) [0, 1, 2, 3, 4]
    = .ok [[0, 1], [1, 2, 3]] := by decide +kernel
example : castRule .date .decimal = .err ∧ castRule .date (tomlClass .decimal) = .conv := by decide +kernel

end ForML.Ordinal
