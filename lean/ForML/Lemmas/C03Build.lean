/-
C03 — `build(builder)` of `wrap.Operator.compose`.

`groups` is the local dict `id(builder) ↦ prototype worker`.  A builder seen for the first time gets a new group
(the prototype), the returned worker is a fork of it and — when the actor is stateful — a further fork is trained
on `(left.train, label publisher)`; a builder seen again yields a fork of the existing group, which is `derived`
when stateful, so nothing more is trained.
-/
import ForML.Lemmas.C03Body
import ForML.Lemmas.ListFacts

namespace ForML.Compose

/-- what is recorded about a freshly built, not yet subscribed worker -/
structure Built (gL : Graph) (lt : PubRef) (g : Graph) (w : WRef) (lp : PubRef) : Prop where
  uid_ge : gL.next ≤ w.uid
  uid_lt : w.uid < g.next
  gid_lt : w.gid < g.next
  gid_ge : gL.next ≤ w.gid
  kind : g.kindOf w.uid = some (.worker w.gid w.actor 1 1)
  free : ∀ k, g.inputOf w.uid k = none
  trained : w.actor.stateful = true → ∃ t, g.trainerOf w.gid = some t ∧ t.train = lt ∧ t.label = lp

/-- an entry `id(builder) ↦ prototype` of the dict `groups`: the prototype's group was created after `gL`, and when the
actor is stateful the group is trained on `(lt, lpOf tag)` — `lpOf` gives, per builder, the label publisher its group is
trained with -/
structure GroupOk (gL : Graph) (lt : PubRef) (lpOf : Nat → PubRef) (g : Graph) (e : Nat × WRef) : Prop where
  tag : e.2.actor.tag = e.1
  szin : e.2.szin = 1
  szout : e.2.szout = 1
  gid_ge : gL.next ≤ e.2.gid
  gid_lt : e.2.gid < g.next
  trained : e.2.actor.stateful = true →
    ∃ t, g.trainerOf e.2.gid = some t ∧ t.node < g.next ∧ t.train = lt ∧ t.label = lpOf e.1

def GroupsOk (gL : Graph) (lt : PubRef) (lpOf : Nat → PubRef) (g : Graph) (groups : List (Nat × WRef)) : Prop :=
  ∀ e ∈ groups, GroupOk gL lt lpOf g e

theorem GroupOk.frame {gL lt lpOf g g' e} (h : GroupOk gL lt lpOf g e) (hf : Frame g g') : GroupOk gL lt lpOf g' e := by
  have := hf.next_le
  refine ⟨h.tag, h.szin, h.szout, h.gid_ge, by have := h.gid_lt; omega, ?_⟩
  intro hs
  obtain ⟨t, h1, h2, h3, h4⟩ := h.trained hs
  exact ⟨t, by rw [hf.trainer _ h.gid_lt]; exact h1, by omega, h3, h4⟩

theorem GroupsOk.frame {gL lt lpOf g g' groups} (h : GroupsOk gL lt lpOf g groups) (hf : Frame g g') :
    GroupsOk gL lt lpOf g' groups := fun e he => (h e he).frame hf

/-- the dict after `build(builder)` run with next uid `n` -/
def buildGroups (groups : List (Nat × WRef)) (a : Actor) (n : Nat) : List (Nat × WRef) :=
  match groups.lookup a.tag with
  | some _ => groups
  | none => groups ++ [(a.tag, ⟨n, n + 1, a, 1, 1⟩)]

/-- the actor of the worker `build(builder)` returns -/
def buildActor (groups : List (Nat × WRef)) (a : Actor) : Actor :=
  match groups.lookup a.tag with
  | some p => p.actor
  | none => a

/-- the trainings `build(builder)` records when run with next uid `n` -/
def buildTrains (groups : List (Nat × WRef)) (a : Actor) (n : Nat) (lt lp : PubRef) : List Training :=
  match groups.lookup a.tag with
  | some _ => []
  | none => if a.stateful then [⟨n + 1, n + 3, a, lt, lp⟩] else []

/-- what `Worker.derived` asks of the trainings (is there one of the group by another node), read off the group's trainer -/
theorem derived_of_untrained {g : Graph} {gid uid : Nat} (h : g.trainerOf gid = none) :
    g.trains.any (fun t => t.gid == gid && t.node != uid) = false :=
  List.any_eq_false.mpr fun t ht => by simp [show ¬ t.gid = gid by simpa using List.find?_eq_none.mp h t ht]

theorem derived_of_trained {g : Graph} {gid uid : Nat} {t : Training} (h : g.trainerOf gid = some t) (hn : t.node ≠ uid) :
    g.trains.any (fun t => t.gid == gid && t.node != uid) = true :=
  List.any_eq_true.mpr ⟨t, (trainerOf_eq_some h).1, by simp [(trainerOf_eq_some h).2, hn]⟩

theorem build_spec {g g1 g2 : Graph} {W1 W2 : World} {left : Trunk} {r : Nat} {A : Nat → Prop} {ts : List Training}
    (b : Body g g1 W1 left r A g2 W2 ts) (hnew : ∀ n, g1.next ≤ n → ¬ W2.live n) (lt lp : PubRef) (lpOf : Nat → PubRef)
    (groups : List (Nat × WRef)) (a : Actor) (hG : GroupsOk g1 lt lpOf g2 groups)
    (hlp : groups.lookup a.tag = none → lp = lpOf a.tag) :
    ∃ w g3, Run (build groups a lt lp) g2 (w, buildGroups groups a g2.next) g3 ∧ Frame g2 g3 ∧
      g2.next + 3 ≤ g3.next ∧
      Body g g1 W1 left r A g3 W2 (ts ++ buildTrains groups a g2.next lt lp) ∧
      Built g1 lt g3 w (lpOf a.tag) ∧ w.uid = g2.next + 2 ∧ w.actor = buildActor groups a ∧
      GroupsOk g1 lt lpOf g3 (buildGroups groups a g2.next) := by
  have hgL := b.loop.next_le
  -- the default worker of `setdefault`, built eagerly
  obtain ⟨ga, ra, na, fa, ba, -, hta⟩ := b.newWorker rfl a 1
  cases hlk : groups.lookup a.tag with
  | none =>
    let w : WRef := ⟨g2.next + 2, g2.next + 1, a, 1, 1⟩
    obtain ⟨g', rf, nf, ff, b2, cw⟩ := ba.fork (u := g2.next + 2) na g2.next (g2.next + 1) a 1 (by omega)
    have hnt : g'.trainerOf (g2.next + 1) = none := (ff.trainer _ (by omega)).trans hta
    have hany : g'.trains.any (fun t => t.gid == w.gid && t.node != w.uid) = false := derived_of_untrained hnt
    let c := w.actor.stateful && !(w.actor.stateful && g'.trains.any (fun t => t.gid == w.gid && t.node != w.uid))
    have hc : c = a.stateful := by simp [c, hany, w]
    have b3 := b2.trainIf c w lt lp (fun h => by rw [hc] at h; exact h) (by show g1.next ≤ g2.next + 1; omega)
      (by show g2.next + 1 < g'.next; omega) hnt (fun n hn hl => absurd hl (hnew n hn))
    have hn3 := trainIf_next c w lt lp g'
    have hf3 : Frame g2 (trainIf c w lt lp g') := trainIf_frame (fa.trans ff) (Nat.le_succ _)
    have hT : c = true → (trainIf c w lt lp g').trainerOf (g2.next + 1) = some ⟨g2.next + 1, g2.next + 3, a, lt, lp⟩ := by
      intro hct
      rw [trainIf_trainerOf, hnt, nf]
      simp [hct, w]
    have cw3 := cw.trainIf c w lt lp
    refine ⟨w, trainIf c w lt lp g', ?_, hf3, by rw [hn3]; omega, ?_, ?_, rfl, by simp [buildActor, hlk, w], ?_⟩
    · have hrun : Run (build groups a lt lp) g2 (w, groups ++ [(a.tag, ⟨g2.next, g2.next + 1, a, 1, 1⟩)])
          (trainIf c w lt lp g') := by
        unfold build
        refine Run.bind ra ?_
        simp only [hlk]
        refine Run.bind rf (Run.bind (run_derived w g') ?_)
        exact run_trainIf c w lt lp g' _ _ _ (fun h => by rw [hc] at h; exact h) (fun _ => hnt) (Run.pure _ _)
      simpa [buildGroups, hlk] using hrun
    · simpa [buildTrains, hlk, hc, nf, w] using b3
    · exact ⟨by show g1.next ≤ g2.next + 2; omega, by rw [hn3]; show g2.next + 2 < _; omega,
        by rw [hn3]; show g2.next + 1 < _; omega, by show g1.next ≤ g2.next + 1; omega, cw3.kind,
        fun k => cw3.free k (Nat.zero_le _), fun hs => ⟨_, hT (by rw [hc]; exact hs), rfl, hlp hlk⟩⟩
    · intro e he
      simp only [buildGroups, hlk, List.mem_append, List.mem_singleton] at he
      rcases he with he | he
      · exact (hG e he).frame hf3
      · subst he
        refine ⟨rfl, rfl, rfl, by show g1.next ≤ g2.next + 1; omega, by rw [hn3]; show g2.next + 1 < _; omega, ?_⟩
        intro hs
        have hct : c = true := by rw [hc]; exact hs
        refine ⟨_, hT hct, ?_, rfl, hlp hlk⟩
        rw [hn3]; simp [hct]; omega
  | some p =>
    have hp := hG _ (mem_of_lookup hlk)
    obtain ⟨pu, pg, pa, pi, po⟩ := p
    obtain rfl : pi = 1 := hp.szin
    obtain rfl : po = 1 := hp.szout
    have hpg : pg < g2.next := hp.gid_lt
    let w : WRef := ⟨g2.next + 2, pg, pa, 1, 1⟩
    obtain ⟨g', rf, nf, ff, b2, cw⟩ := ba.fork (u := g2.next + 2) na pu pg pa 1 (by omega)
    have hf2 : Frame g2 g' := fa.trans ff
    -- a stateful actor of a builder seen before is `derived`: its group is trained already
    let c := w.actor.stateful && !(w.actor.stateful && g'.trains.any (fun t => t.gid == w.gid && t.node != w.uid))
    have hc : c = false := by
      by_cases hs : pa.stateful = true
      · obtain ⟨t, h1, h2, _, _⟩ := hp.trained hs
        have hany : g'.trains.any (fun t => t.gid == w.gid && t.node != w.uid) = true :=
          derived_of_trained ((hf2.trainer _ hpg).trans h1) (Nat.ne_of_lt (Nat.lt_add_right 2 h2))
        simp [c, hany]
      · have : pa.stateful = false := by simpa using hs
        simp [c, w, this]
    refine ⟨w, g', ?_, hf2, by omega, ?_, ?_, rfl, by simp [buildActor, hlk, w], ?_⟩
    · have hrun : Run (build groups a lt lp) g2 (w, groups) g' := by
        unfold build
        refine Run.bind ra ?_
        simp only [hlk]
        refine Run.bind rf (Run.bind (run_derived w g') ?_)
        exact run_trainIf c w lt lp g' (fun _ => (pure (w, groups) : GraphM (WRef × List (Nat × WRef)))) (w, groups) g'
          (by intro h; rw [hc] at h; cases h) (by intro h; rw [hc] at h; cases h) (by rw [hc]; exact Run.pure _ _)
      simpa [buildGroups, hlk] using hrun
    · simpa [buildTrains, hlk] using b2
    · refine ⟨by show g1.next ≤ g2.next + 2; omega, by show g2.next + 2 < g'.next; omega, by show pg < g'.next; omega,
        hp.gid_ge, cw.kind, fun k => cw.free k (Nat.zero_le _), fun hs => ?_⟩
      obtain ⟨t, h1, _, h3, h4⟩ := hp.trained hs
      exact ⟨t, (hf2.trainer _ hpg).trans h1, h3, h4⟩
    · simp only [buildGroups, hlk]
      exact hG.frame hf2

end ForML.Compose
