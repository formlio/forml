/-
The fuel of the traversal model never runs out — `Comp.fuel` steps always empty the
stack, and more fuel does not change the result (so `Comp.visit` is the complete `Traversal.each` order).
-/
import ForML.Model.Persist

namespace ForML.Persist

namespace Comp

/-- potential: pending stack entries + subscriptions of publishers not yet visited -/
def potential (c : Comp) (stack seen : List Nat) : Nat :=
  stack.length + (c.edges.filter (fun e => !seen.contains e.1)).length

theorem next_length_le (c : Comp) (t u : Nat) : (c.next t u).length ≤ (c.subs u).length := by
  simp only [next]
  split
  · exact List.length_filter_le _ _
  · exact Nat.le_refl _

theorem filter_unseen_split (c : Comp) (seen : List Nat) (u : Nat) (hu : seen.contains u = false) :
    (c.edges.filter (fun e => !seen.contains e.1)).length
      = (c.edges.filter (fun e => !(seen ++ [u]).contains e.1)).length + (c.subs u).length := by
  -- the subscriptions of unseen publishers: those of `u`, and those of the publishers still unseen after `u`
  rw [List.length_eq_countP_add_countP (fun e => e.1 == u), List.countP_filter, List.countP_filter, Nat.add_comm]
  simp only [subs, List.length_map, ← List.countP_eq_length_filter]
  congr 1
  · apply List.countP_congr
    intro e _
    by_cases h : e.1 = u <;> simp [h]
  · apply List.countP_congr
    intro e _
    by_cases h : e.1 = u
    · have hu' : u ∉ seen := by simpa using hu
      simp [h, hu']
    · simp [h]

/-- one step on an unseen node lowers the potential -/
theorem potential_push (c : Comp) (t u : Nat) (rest seen : List Nat) (hu : seen.contains u = false) :
    c.potential (c.next t u ++ rest) (seen ++ [u]) + 1 ≤ c.potential (u :: rest) seen := by
  have h1 := filter_unseen_split c seen u hu
  have h2 := next_length_le c t u
  simp only [potential, List.length_append, List.length_cons]
  omega

theorem dfs_fuel_add (c : Comp) (t f : Nat) (stack seen : List Nat) (hp : c.potential stack seen ≤ f) (k : Nat) :
    c.dfs t (f + k) stack seen = c.dfs t f stack seen := by
  fun_induction dfs c t f stack seen with
  | case1 stack seen =>
    obtain rfl : stack = [] := List.eq_nil_of_length_eq_zero (by simp only [potential] at hp; omega)
    cases k <;> simp [dfs]
  | case2 => rw [Nat.succ_add, dfs]
  | case3 f u rest seen hu ih =>
    rw [Nat.succ_add, dfs, if_pos hu]
    exact ih (by simp only [potential, List.length_cons] at hp ⊢; omega)
  | case4 f u rest seen hu ih =>
    rw [Nat.succ_add, dfs, if_neg hu]
    exact ih (by have := potential_push c t u rest seen (by simpa using hu); omega)

theorem potential_init (c : Comp) (h : Nat) : c.potential [h] [] ≤ c.fuel := by
  simp only [potential, fuel, List.length_cons, List.length_nil]
  have := List.length_filter_le (fun e : Nat × Nat => !([] : List Nat).contains e.1) c.edges
  omega

theorem visit_fuel (c : Comp) (h t k : Nat) : c.dfs t (c.fuel + k) [h] [] = c.visit h t :=
  dfs_fuel_add c t c.fuel [h] [] (potential_init c h) k

end Comp

end ForML.Persist
