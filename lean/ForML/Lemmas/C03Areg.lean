/-
Bookkeeping of the *apply side* of a graph under construction, as the stacking ensemble needs it
to certify its own apply path as a copyable region again.

`a` is the apply head of the ensemble.  While the loops of the ensemble run, older *collector* nodes (`X`: the stacker /
reducer forks and the output collectors) are still being subscribed port by port; everything else is finished once its
round is over, and what was then not reachable from `a` stays so (`AReg.stable`).
-/
import ForML.Lemmas.C03Region

namespace ForML.Compose

theorem reach_split {g g' : Graph} {X : Nat → Prop} (hw : Wired g)
    (hin : ∀ u k, u < g.next → ¬ X u → g'.inputOf u k = g.inputOf u k) {a n : Nat} (h : Reach g' a n) :
    n < g.next → Reach g a n ∨ ∃ x, X x ∧ x < g.next ∧ Reach g x n := by
  induction h with
  | refl => intro _; exact Or.inl Reach.refl
  | step hp he ih =>
    rename_i p s k i
    intro hs
    by_cases hx : X s
    · exact Or.inr ⟨s, hx, hs, Reach.refl⟩
    · rw [hin s k hs hx] at he
      have hp' : p < g.next := hw.pub_lt he
      rcases ih hp' with h | ⟨x, hxx, hxl, h⟩
      · exact Or.inl (Reach.step h he)
      · exact Or.inr ⟨x, hxx, hxl, Reach.step h he⟩

theorem no_back {gb g : Graph} (hf : Frame gb g) (hwb : Wired gb) {x p : Nat} (hx : gb.next ≤ x) (hp : p < gb.next) :
    ¬ Reach g x p := by
  intro h
  have h1 := Reach.old hf hwb hp h
  have := Reach.new (Frame.refl gb) hwb hx h1
  omega

/-- a tracked node (uid `≥ c`) is not reachable from an untracked node created after `gb` -/
theorem new_unreach {gb g : Graph} (hf : Frame gb g) (hwb : Wired gb) {lo c : Nat}
    (es : ∀ s k q, c ≤ s → g.inputOf s k = some q → c ≤ q.node ∨ (lo ≤ q.node ∧ q.node < gb.next))
    {x n : Nat} (hx : gb.next ≤ x) (hxc : x < c) (h : Reach g x n) : n < c :=
  Nat.lt_of_not_le fun hn => Reach.side (A := fun _ => False) hxc (fun s k q hs _ hq =>
    (es s k q hs hq).elim (fun h => Or.inr ⟨h, id⟩) fun h => Or.inl (no_back hf hwb hx h.2)) h hn

structure AReg (a lo b c : Nat) (g : Graph) (W : World) : Prop where
  /-- tracked nodes subscribe to tracked nodes or to the given older publishers -/
  es : ∀ s k q, c ≤ s → g.inputOf s k = some q → c ≤ q.node ∨ (lo ≤ q.node ∧ q.node < b)
  /-- a tracked node reachable from `a` is evaluable and fed from the apply side only -/
  reg : ∀ n, c ≤ n → Reach g a n → W.live n ∧ ∀ k q, g.inputOf n k = some q → Reach g a q.node

/-- nothing is tracked yet -/
theorem AReg.init {a lo b : Nat} {g : Graph} {W : World} (hb : Bounded g) (ha : a < g.next) : AReg a lo b g.next g W :=
  ⟨fun s k q hs hq => (by rw [hb.inputOf_none hs k] at hq; cases hq),
    fun n hn hre => absurd hre (not_reach_of_no_input (hb.inputOf_none hn) (by omega))⟩

theorem AReg.stable {a lo c : Nat} {gb g g' : Graph} {W : World} {X : Nat → Prop} (h : AReg a lo gb.next c g W)
    (hf : Frame gb g) (hwb : Wired gb) (hw : Wired g) (hX : ∀ x, X x → gb.next ≤ x ∧ x < c)
    (hin : ∀ u k, u < g.next → ¬ X u → g'.inputOf u k = g.inputOf u k) {a' n : Nat} (hn : n < g.next) (hc : c ≤ n)
    (hre : Reach g' a' n) : Reach g a' n := by
  rcases reach_split hw hin hre hn with h' | ⟨x, hx, _, h'⟩
  · exact h'
  · have := new_unreach hf hwb h.es (hX x hx).1 (hX x hx).2 h'
    omega

/-- one round: the older tracked nodes are finished, the new ones come with their own certificate -/
theorem AReg.step {a lo c : Nat} {gb g g' : Graph} {W W' : World} {X : Nat → Prop} (h : AReg a lo gb.next c g W)
    (hf : Frame gb g) (hwb : Wired gb) (hw : Wired g)
    (hX : ∀ x, X x → gb.next ≤ x ∧ x < c)
    (hin : ∀ u k, u < g.next → ¬ X u → g'.inputOf u k = g.inputOf u k)
    (hmono : ∀ u k q, g.inputOf u k = some q → g'.inputOf u k = some q)
    (hag : Agree g.next W W')
    (esNew : ∀ s k q, g.next ≤ s → g'.inputOf s k = some q → c ≤ q.node ∨ (lo ≤ q.node ∧ q.node < gb.next))
    (regNew : ∀ n, g.next ≤ n → Reach g' a n → W'.live n ∧ ∀ k q, g'.inputOf n k = some q → Reach g' a q.node) :
    AReg a lo gb.next c g' W' := by
  have notX : ∀ s, c ≤ s → ¬ X s := fun s hs hx => by have := (hX s hx).2; omega
  refine ⟨?_, ?_⟩
  · intro s k q hs hq
    by_cases hlt : s < g.next
    · rw [hin s k hlt (notX s hs)] at hq
      exact h.es s k q hs hq
    · exact esNew s k q (by omega) hq
  · intro n hn hre
    by_cases hlt : n < g.next
    · have hre0 : Reach g a n := h.stable hf hwb hw hX hin hlt hn hre
      obtain ⟨hl, hall⟩ := h.reg n hn hre0
      refine ⟨((hag n hlt).1).mpr hl, ?_⟩
      intro k q hq
      rw [hin n k hlt (notX n hn)] at hq
      exact (hall k q hq).mono hmono
    · exact regNew n (by omega) hre

/-- a subscription of an untracked collector created after `gb` -/
theorem AReg.pushEdge {a lo c : Nat} {gb g : Graph} {W : World} (h : AReg a lo gb.next c g W) (hf : Frame gb g) (hwb : Wired gb)
    (hw : Wired g) (hb : Bounded g) (ha : a < g.next) (hcg : c ≤ g.next) (e : Edge) (hs : gb.next ≤ e.sub ∧ e.sub < c) :
    AReg a lo gb.next c (g.pushEdge e) W := by
  refine h.step (X := fun u => u = e.sub) hf hwb hw (fun x hx => by rw [hx]; exact hs)
    (fun u k _ hx => inputOf_pushEdge_ne (Ne.symm hx) k) (fun u k q hq => inputOf_pushEdge_old hq) (Agree.refl _ _) ?_ ?_
  · intro s k q hs' hq
    rw [inputOf_pushEdge_ne (by omega) k, hb.inputOf_none hs' k] at hq; cases hq
  · intro n hn hre
    exact absurd hre (not_reach_of_no_input (fun k => (inputOf_pushEdge_ne (by omega) k).trans (hb.inputOf_none hn k)) (by omega))

/-- The end of a level.  Since `g` a block of collectors was created (uids `[g.next, c4)`), then the nodes tracked by `h5`
(uids `≥ c4`) were built and the collectors subscribed to them; `On` marks the collectors on the apply side. -/
theorem AReg.close {a lo b' cc c4 : Nat} {gb g g5 : Graph} {W W5 W7 : World} {X On : Nat → Prop} (h : AReg a lo gb.next cc g W)
    (hf : Frame gb g) (hwb : Wired gb) (hw : Wired g) (hX : ∀ x, X x → gb.next ≤ x ∧ x < cc)
    (hin : ∀ u k, u < g.next → ¬ X u → g5.inputOf u k = g.inputOf u k)
    (hmono : ∀ u k q, g.inputOf u k = some q → g5.inputOf u k = some q) (hag : Agree g.next W W7) (hcc : cc ≤ g.next)
    (ha : a < g.next) (hc4 : g.next ≤ c4) (h5 : AReg a lo b' c4 g5 W5) (hb' : ∀ q, q < b' → cc ≤ q ∨ q < gb.next)
    (mid : ∀ s, g.next ≤ s → s < c4 → ∀ k q, g5.inputOf s k = some q →
      (c4 ≤ q.node ∨ (lo ≤ q.node ∧ q.node < gb.next)) ∧ (Reach g5 a q.node ↔ On s))
    (on : ∀ s, g.next ≤ s → s < c4 → On s → W7.live s ∧ ∃ k q, g5.inputOf s k = some q)
    (live5 : ∀ n, c4 ≤ n → W5.live n → W7.live n) :
    AReg a lo gb.next cc g5 W7 ∧ ∀ s, g.next ≤ s → s < c4 → (Reach g5 a s ↔ On s) := by
  have reachMid : ∀ s, g.next ≤ s → s < c4 → (Reach g5 a s ↔ On s) := by
    intro s h1 h2
    refine ⟨fun hre => ?_, fun ho => ?_⟩
    · rcases hre.inv with e | ⟨k, q, hq, hr⟩
      · omega
      · exact (mid s h1 h2 k q hq).2.mp hr
    · obtain ⟨k, q, hq⟩ := (on s h1 h2 ho).2
      exact Reach.one ((mid s h1 h2 k q hq).2.mpr ho) hq
  refine ⟨h.step hf hwb hw hX hin hmono hag ?_ ?_, reachMid⟩
  · intro s k q hs hq
    by_cases h4 : s < c4
    · rcases (mid s hs h4 k q hq).1 with h' | h'
      · exact Or.inl (by omega)
      · exact Or.inr h'
    · rcases h5.es s k q (Nat.le_of_not_lt h4) hq with h' | h'
      · exact Or.inl (by omega)
      · exact (hb' _ h'.2).imp id fun h'' => ⟨h'.1, h''⟩
  · intro n hn hre
    by_cases h4 : n < c4
    · have ho := (reachMid n hn h4).mp hre
      exact ⟨(on n hn h4 ho).1, fun k q hq => (mid n hn h4 k q hq).2.mpr ho⟩
    · obtain ⟨l5, i5⟩ := h5.reg n (Nat.le_of_not_lt h4) hre
      exact ⟨live5 n (Nat.le_of_not_lt h4) l5, i5⟩

/-- what one round adds to the apply side: the new nodes reachable from `a` are evaluable and fed from the apply side
only; the apply tail of the expansion is on the apply side; its train and label tails and the tail of the copy are not -/
structure IterReg (a : Nat) (g g6 : Graph) (W' : World) (t : Trunk) (c : Segment) : Prop where
  reg : ∀ n, g.next ≤ n → Reach g6 a n → W'.live n ∧ ∀ k q, g6.inputOf n k = some q → Reach g6 a q.node
  ta : Reach g6 a t.apply.tail
  tt : ¬ Reach g6 a t.train.tail
  tl : ¬ Reach g6 a t.label.tail
  tc : ¬ Reach g6 a c.tail

/-- the graph side of one round (`g` before, `g6` after; the values are in `IterOk`, `Lemmas/C03Iter.lean`) -/
structure IterExt (g g6 : Graph) (W' : World) (t : Trunk) (c : Segment) (pa pt pl px : PubRef) : Prop where
  closed : ∀ s k q, g.next ≤ s → g6.inputOf s k = some q → g.next ≤ q.node ∨ q = pa ∨ q = pt ∨ q = pl ∨ q = px
  areg : ∀ a, a < g.next → Reach g a pa.node → ¬ Reach g a pt.node → ¬ Reach g a pl.node → ¬ Reach g a px.node →
    IterReg a g g6 W' t c

/-- `g1` is the graph after the expansion (trunk `t`), `g6` the graph after the round.  A path from `a` can enter the new
nodes only through `pa`, and behind the apply head it stays in the region the expansion certified (`new`, by `Reach.side`). -/
theorem iter_reach {g g1 g6 : Graph} {W W1 W' : World} {t : Trunk} {c : Segment} {pa pt pl px : PubRef} {xa xt xl : Val}
    {r : Nat} {s : Sem} (hw : Wired g) (hb : Bounded g) (hf6 : Frame g g6) (ok : TrunkOk True g g1 W W1 t xa xt xl r s)
    (hkeep : ∀ n, W1.live n → W'.live n)
    (hin6 : ∀ s k q, g6.inputOf s k = some q →
      (s < g1.next ∧ g1.inputOf s k = some q) ∨ (g1.next ≤ s ∧ g1.next ≤ q.node) ∨ (s = t.apply.head ∧ q = pa) ∨
      (s = t.train.head ∧ q = pt) ∨ (s = t.label.head ∧ q = pl) ∨ (g1.next ≤ s ∧ q = px))
    (hmono : ∀ s k q, g1.inputOf s k = some q → g6.inputOf s k = some q)
    (hia : g6.inputOf t.apply.head 0 = some pa) (htc : g1.next ≤ c.tail)
    (hpt : pt.node < g.next) (hpl : pl.node < g.next) (hpx : px.node < g.next) :
    IterExt g g6 W' t c pa pt pl px := by
  have hhead : g.next ≤ t.apply.head ∧ t.apply.head < g1.next := ⟨ok.ha.ge, (ok.inv.liveLt _ ok.ha.live).1⟩
  have hcl1 := ok.closed trivial
  obtain ⟨d1, d2, _⟩ := ok.distinct
  have hnt : ¬ Reach g1 t.apply.head t.train.head := not_reach_of_no_input ok.ht.free (Ne.symm d1)
  have hnl : ¬ Reach g1 t.apply.head t.label.head := not_reach_of_no_input ok.hl.free (Ne.symm d2)
  have hsep := ok.sep trivial
  refine ⟨?_, ?_⟩
  · intro s k q hs hq
    rcases hin6 s k q hq with ⟨_, h⟩ | ⟨_, h⟩ | ⟨_, h⟩ | ⟨_, h⟩ | ⟨_, h⟩ | ⟨_, h⟩
    · exact Or.inl (hcl1 s k q hs h)
    · exact Or.inl (by omega)
    · exact Or.inr (Or.inl h)
    · exact Or.inr (Or.inr (Or.inl h))
    · exact Or.inr (Or.inr (Or.inr (Or.inl h)))
    · exact Or.inr (Or.inr (Or.inr (Or.inr h)))
  intro a ha ra rt rl rx
  have mono0 : ∀ s k q, g.inputOf s k = some q → g6.inputOf s k = some q := hf6.input_mono hb
  have rhead : Reach g6 a t.apply.head := Reach.one (ra.mono mono0) hia
  have bwd : ∀ n, Reach g1 t.apply.head n → Reach g6 a n := fun n h => rhead.trans (h.mono hmono)
  -- the new nodes reachable from `a` lie in the apply region of the expansion: any other new node is fed from others of its
  -- kind, from the copy, or from `pt`, `pl`, `px`
  have new : ∀ n, g.next ≤ n → Reach g6 a n → n < g1.next ∧ Reach g1 t.apply.head n := fun n hn hre =>
    Reach.side (A := fun n => n < g1.next ∧ Reach g1 t.apply.head n) ha (fun n k q hn hna hq => by
      rcases hin6 n k q hq with ⟨h1, h2⟩ | ⟨_, h2⟩ | ⟨h1, _⟩ | ⟨_, h2⟩ | ⟨_, h2⟩ | ⟨_, h2⟩
      · exact Or.inr ⟨hcl1 n k q hn h2, fun hq' => hna ⟨h1, Reach.one hq'.2 h2⟩⟩
      · exact Or.inr ⟨Nat.le_trans (Nat.le_of_lt (Nat.lt_of_le_of_lt hhead.1 hhead.2)) h2,
          fun hq' => absurd hq'.1 (Nat.not_lt.mpr h2)⟩
      · exact absurd ⟨h1 ▸ hhead.2, h1 ▸ Reach.refl⟩ hna
      · exact Or.inl fun hr => rt (Reach.old hf6 hw hpt (h2 ▸ hr))
      · exact Or.inl fun hr => rl (Reach.old hf6 hw hpl (h2 ▸ hr))
      · exact Or.inl fun hr => rx (Reach.old hf6 hw hpx (h2 ▸ hr))) hre hn
  refine ⟨?_, bwd _ (ok.regTail trivial), fun h => hsep.1 (new _ ok.tails_ge.2.1 h).2,
    fun h => hsep.2 (new _ ok.tails_ge.2.2 h).2, ?_⟩
  · intro n hn hre
    obtain ⟨hlt, hre1⟩ := new n hn hre
    refine ⟨hkeep n (if e : n = t.apply.head then e ▸ ok.ha.live else (ok.reg trivial n hre1 e).1), ?_⟩
    intro k q hq
    rcases hin6 n k q hq with ⟨_, h2⟩ | ⟨h1, _⟩ | ⟨_, h2⟩ | ⟨h1, _⟩ | ⟨h1, _⟩ | ⟨h1, _⟩
    · by_cases hh : n = t.apply.head
      · rw [hh, ok.ha.free k] at h2; cases h2
      · exact bwd _ ((ok.reg trivial n hre1 hh).2 k q h2)
    · omega
    · rw [h2]; exact ra.mono mono0
    · exact absurd (h1 ▸ hre1) hnt
    · exact absurd (h1 ▸ hre1) hnl
    · omega
  · intro h
    have := (new _ (by omega) h).1
    omega

end ForML.Compose
