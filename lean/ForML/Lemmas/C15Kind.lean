/-
`kind.cast` and `kind.reflect` at the value level (Model/EntryKind.lean), for any native-type table and any ranks.
-/
import ForML.Model.EntryKind
namespace ForML.Entry

theorem mem_kindAll (k : Kind) : k ∈ Kind.all := List.mem_of_elem_eq_true (by cases k <;> rfl)

theorem mem_vclassAll (c : VClass) : c ∈ VClass.all := List.mem_of_elem_eq_true (by cases c <;> rfl)

/-- the class of the values the constructor behind `k._cast` returns (`bool(…)`, `int(…)`, `float(…)`,
`decimal.Decimal(…)`, `str(…)`, `….date()`, `pandas.to_datetime(…)`) -/
def ctorClass : Kind → VClass
  | .boolean => .bool | .integer => .int | .float => .float | .decimal => .decimal | .string => .str
  | .date => .date | .timestamp => .datetime

/-- what the theorems need of the native-type table: what the constructor of a kind returns is an instance of the
kind's native type -/
def TypeTable (isinst : Kind → VClass → Bool) : Prop := ∀ k, isinst k (ctorClass k) = true

theorem rawCast_class (k : Kind) (v w : PyVal) (h : rawCast k v = some w) : classOf w = ctorClass k := by
  cases k with
  | boolean | string => cases h; rfl
  | _ => obtain ⟨_, _, rfl⟩ := Option.map_eq_some_iff.mp h; rfl

theorem pcast_hasKind (isinst : Kind → VClass → Bool) (ht : TypeTable isinst) (k : Kind) (v w : PyVal)
    (h : pcast isinst k v = some w) : hasKind isinst k w = true := by
  unfold pcast at h
  split at h
  · cases h; assumption
  · rw [hasKind, rawCast_class k v w h]; exact ht k

theorem pcast_shortcut (isinst : Kind → VClass → Bool) (k : Kind) (v : PyVal) (h : hasKind isinst k v = true) :
    pcast isinst k v = some v :=
  if_pos h

theorem pcast_none (isinst : Kind → VClass → Bool) (k : Kind) (v : PyVal) :
    pcast isinst k v = none ↔ hasKind isinst k v = false ∧ rawCast k v = none := by
  unfold pcast hasKind
  cases isinst k (classOf v) <;> simp

/-- the loop of `kind.reflect` once it holds a candidate `b` -/
theorem foldl_least {κ : Type} (rank : κ → Nat) (step : Option κ → κ → Option κ)
    (hstep : ∀ b k, step (some b) k = if rank k < rank b then some k else some b)
    (l : List κ) (b k : κ) (h : l.foldl step (some b) = some k) : k ∈ b :: l ∧ ∀ k' ∈ b :: l, rank k ≤ rank k' := by
  induction l generalizing b with
  | nil => cases h; exact ⟨List.mem_cons_self, fun _ hk => by cases List.mem_singleton.mp hk; exact Nat.le_refl _⟩
  | cons x l ih =>
    rw [List.foldl_cons, hstep] at h
    by_cases hlt : rank x < rank b
    · rw [if_pos hlt] at h
      obtain ⟨hm, hl⟩ := ih x h
      exact ⟨List.mem_cons_of_mem _ hm,
        List.forall_mem_cons.mpr ⟨Nat.le_trans (hl x List.mem_cons_self) (Nat.le_of_lt hlt), hl⟩⟩
    · rw [if_neg hlt] at h
      obtain ⟨hm, hl⟩ := ih b h
      have hb := hl b List.mem_cons_self
      refine ⟨(List.mem_cons.mp hm).elim (· ▸ List.mem_cons_self) fun m => List.mem_cons_of_mem _ (List.mem_cons_of_mem _ m),
        List.forall_mem_cons.mpr ⟨hb, List.forall_mem_cons.mpr ⟨Nat.le_trans hb (Nat.le_of_not_lt hlt), fun k' m =>
          hl k' (List.mem_cons_of_mem _ m)⟩⟩⟩

theorem reflectClass_spec (isinst : Kind → VClass → Bool) (rank : Kind → Nat) (c : VClass) (k : Kind)
    (h : reflectClass isinst rank c = some k) :
    isinst k c = true ∧ ∀ k', isinst k' c = true → rank k ≤ rank k' := by
  unfold reflectClass at h
  cases hf : Kind.all.filter (isinst · c) with
  | nil => rw [hf] at h; cases h
  | cons b l =>
    rw [hf] at h
    obtain ⟨hm, hl⟩ := foldl_least rank _ (fun _ _ => rfl) l b k h
    rw [← hf] at hm hl
    exact ⟨(List.mem_filter.mp hm).2, fun k' h' => hl k' (List.mem_filter.mpr ⟨mem_kindAll k', h'⟩)⟩

theorem den_pyStr (v : PyVal) : den (.str (pyStr v)) = den v := by cases v <;> rfl

theorem pyInt_den {v : PyVal} {i : Int} (h : pyInt v = some i) : denAs .integer (den v) = some (.num i) := by
  cases v with
  | str t => cases t <;> cases h <;> rfl
  | _ => cases h <;> rfl

theorem pyFloat_den {v : PyVal} {i : Int} (h : pyFloat v = some i) : denAs .float (den v) = some (.num i) := by
  cases v with
  | str t => cases t <;> cases h <;> rfl
  | _ => cases h <;> rfl

theorem pyDecimal_den {v : PyVal} {i : Int} (h : pyDecimal v = some i) : denAs .decimal (den v) = some (.num i) := by
  cases v with
  | str t => cases t <;> cases h <;> rfl
  | _ => cases h <;> rfl

/-- the second case: `pandas.to_datetime` reads a number as nanoseconds since the epoch -/
theorem pyToDatetime_den {v : PyVal} {p : Int × Nat} (h : pyToDatetime v = some p) :
    den v = .moment p.1 p.2 ∨ ∃ i, den v = .num i := by
  cases v with
  | str t => cases t <;> cases h <;> exact .inl rfl
  | int i | float i | npint i | npfloat i => exact .inr ⟨i, rfl⟩
  | _ => cases h <;> exact .inl rfl

/-- the constructors keep what the value denotes, as far as the kind can express it (all kinds but `Boolean`) -/
theorem rawCast_den (k : Kind) (hk : k ≠ .boolean) (v w : PyVal) (x : Den)
    (hd : denAs k (den v) = some x) (h : rawCast k v = some w) : denAs k (den w) = some x := by
  cases k with
  | boolean => exact absurd rfl hk
  | integer =>
    obtain ⟨i, hi, rfl⟩ := Option.map_eq_some_iff.mp h
    exact (pyInt_den hi).symm.trans hd
  | float =>
    obtain ⟨i, hi, rfl⟩ := Option.map_eq_some_iff.mp h
    exact (pyFloat_den hi).symm.trans hd
  | decimal =>
    obtain ⟨i, hi, rfl⟩ := Option.map_eq_some_iff.mp h
    exact (pyDecimal_den hi).symm.trans hd
  | string => cases h; rw [← den_pyStr v] at hd; exact hd
  | date | timestamp =>
    obtain ⟨p, hp, rfl⟩ := Option.map_eq_some_iff.mp h
    -- a number has no day or moment as a denotation, so `hd` rules the nanosecond reading out
    rcases pyToDatetime_den hp with hm | ⟨i, hi⟩
    · rw [hm] at hd; exact hd
    · rw [hi] at hd; cases hd

theorem pcast_den (isinst : Kind → VClass → Bool) (k : Kind) (hk : k ≠ .boolean) (v w : PyVal) (x : Den)
    (hd : denAs k (den v) = some x) (h : pcast isinst k v = some w) : denAs k (den w) = some x := by
  unfold pcast at h
  split at h
  · cases h; exact hd
  · exact rawCast_den k hk v w x hd h

end ForML.Entry
