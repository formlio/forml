/-
C01 — one `Table.add` preserves the index invariant (for any next node of a well-formed segment), hence the index
invariant holds after the whole traversal.
-/
import ForML.Lemmas.C01IdxInv
import ForML.Lemmas.C01Fold

namespace ForML.Flow
open CState Segment

theorem mem_getterEntries {g : Segment} {w : Worker} {k : Key} {o : Obj} :
    (k, o) ∈ getterEntries g w ↔
      ∃ i, i < w.szout ∧ g.trained w.uid = false ∧ w.szout ≠ 1 ∧ k = Key.getter w.uid i ∧ o = getterObj w.uid i := by
  unfold getterEntries
  split
  · rename_i hc
    simp only [Bool.or_eq_true, decide_eq_true_eq] at hc
    simp only [List.not_mem_nil, false_iff, not_exists, not_and]
    intro i _ htr hne
    rcases hc with hc | hc
    · rw [htr] at hc; cases hc
    · exact absurd hc hne
  · rename_i hc
    simp only [Bool.or_eq_true, decide_eq_true_eq, not_or, Bool.not_eq_true] at hc
    simp only [List.mem_map, List.mem_range, Prod.mk.injEq]
    constructor
    · rintro ⟨i, hi, rfl, rfl⟩; exact ⟨i, hi, hc.1, hc.2, rfl, rfl⟩
    · rintro ⟨i, hi, _, _, rfl, rfl⟩; exact ⟨i, hi, rfl, rfl⟩

theorem getterEntries_ids (g : Segment) (w : Worker) :
    (getterEntries g w).map (·.2.id) = (getterEntries g w).map (·.1) := by
  unfold getterEntries
  split
  · rfl
  · simp [List.map_map, Function.comp, getterObj]

theorem getterEntries_keys_nodup (g : Segment) (w : Worker) : ((getterEntries g w).map (·.1)).Nodup := by
  unfold getterEntries
  split
  · exact List.nodup_nil
  · rw [List.map_map, List.Nodup, List.pairwise_map]
    exact List.nodup_range.imp (fun hne heq => hne (by simpa using heq))

/-- keys, and identities, of what a mapper registers: at most one key of the group, the uid, the getters -/
theorem nodup_opt_uid_getters (g : Segment) (w : Worker) {a : Key} {l : List Key} (hl : l.Sublist [a])
    (hu : ∀ n, a ≠ Key.uid n) (hg : ∀ n i, a ≠ Key.getter n i) :
    (l ++ ([Key.uid w.uid] ++ (getterEntries g w).map (·.1))).Nodup := by
  have hget : ∀ x ∈ (getterEntries g w).map (·.1), ∃ i, x = Key.getter w.uid i := by
    intro x hx
    obtain ⟨⟨k, o⟩, hm, rfl⟩ := List.mem_map.mp hx
    obtain ⟨i, _, _, _, rfl, _⟩ := mem_getterEntries.mp hm
    exact ⟨i, rfl⟩
  refine nodup_opt_append hl (List.nodup_cons.mpr ⟨fun hm => ?_, getterEntries_keys_nodup g w⟩) (fun hm => ?_)
  · obtain ⟨i, hi⟩ := hget _ hm
    cases hi
  · rcases List.mem_cons.mp hm with hm | hm
    · exact hu _ hm
    · obtain ⟨i, hi⟩ := hget _ hm
      exact hg _ _ hi

section
variable {g : Segment} {A : Option Assets} {rank : Uid → Nat} {vis : List Uid} {I : List (Key × Obj)} {c : Option Key}

theorem fresh_uid (inv : IdxInv g A vis (I, c)) {n : Uid} (hv : n ∉ vis) : aget (Key.uid n) I = none :=
  inv.fresh (by rintro o ⟨t, _, htv, rfl, _⟩; exact hv htv)

theorem fresh_getter (inv : IdxInv g A vis (I, c)) {n : Uid} (hv : n ∉ vis) (i : Nat) : aget (Key.getter n i) I = none :=
  inv.fresh (by rintro o ⟨t, _, htv, rfl, _⟩; exact hv htv)

theorem fresh_dumper (inv : IdxInv g A vis (I, c)) {n : Uid} (hv : n ∉ vis) : aget (Key.dumper n) I = none :=
  inv.fresh (by rintro o ⟨t, _, htv, rfl, _⟩; exact hv htv)

theorem fresh_committer (inv : IdxInv g A vis (I, c)) (hc : c = none) : aget Key.committer I = none := by
  refine inv.fresh ?_
  rintro o ⟨t, ht, htv, _, hT, hP⟩
  rcases inv.comm with ⟨_, hno⟩ | ⟨hs, _⟩
  · exact hno t ht htv hT hP
  · rw [hc] at hs; cases hs

theorem idx_step_mapper (h : WF g rank) (inv : IdxInv g A vis (I, c)) {w : Worker} (hw : w ∈ g.workers)
    (hv : w.uid ∉ vis) (hT : g.isTrainer w = false) (htr : g.trained w.uid = false) :
    ∃ ic', idxRun (I, c) (prog g A w) = some ic' ∧ IdxInv g A (vis ++ [w.uid]) ic' := by
  have hu := fresh_uid inv hv
  have hgt := fresh_getter inv hv
  refine ⟨_, idx_mapper hT htr hu hgt, ?_⟩
  have hnoT : aget (Key.gid w.gid) I = none → ∀ t ∈ g.workers, t.gid = w.gid → g.isTrainer t = true →
      t.uid ∉ vis ++ [w.uid] := by
    intro hnone t ht hg hTt hm
    rcases List.mem_append.mp hm with hm | hm
    · have := inv.complete (k := Key.gid t.gid) ⟨t, ht, hm, rfl, Or.inl ⟨hTt, rfl⟩⟩
      rw [hg, hnone] at this; cases this
    · have : t = w := worker_eq_of_uid h.nodup ht hw (List.mem_singleton.mp hm)
      subst this; rw [hT] at hTt; cases hTt
  generalize hL : (if persistentW A w = true ∧ aget (Key.gid w.gid) I = none
    then [(Key.gid w.gid, loaderObj w.gid)] else []) = Lopt
  have hLsub : Lopt.Sublist [(Key.gid w.gid, loaderObj w.gid)] := hL ▸ ite_singleton_sublist _ _
  have hLmem : ∀ x ∈ Lopt, x = (Key.gid w.gid, loaderObj w.gid) ∧ persistentW A w = true ∧ aget (Key.gid w.gid) I = none :=
    fun x hx => (mem_ite_singleton.mp (hL ▸ hx)).symm
  have hLhas : persistentW A w = true → aget (Key.gid w.gid) I = none → (Key.gid w.gid, loaderObj w.gid) ∈ Lopt := by
    intro hP hnone; rw [← hL, if_pos ⟨hP, hnone⟩]; exact List.mem_singleton_self _
  rw [List.append_assoc, List.append_assoc]
  refine inv.extend h hw hv (by simp [hT]) inv.keys inv.contig ?_ ?_ ?_ ?_ ?_ (by simp [hT])
  · rw [List.map_append, List.map_append]
    exact nodup_opt_uid_getters g w (hLsub.map _) (by simp) (by simp)
  · -- identities: as the keys, with the loader in place of the alias
    apply Contig.of_nodup
    rw [List.map_append, List.map_append, getterEntries_ids]
    exact nodup_opt_uid_getters g w (hLsub.map _) (by simp) (by simp)
  · intro ⟨k, o⟩ hx
    rcases List.mem_append.mp hx with hx | hx
    · obtain ⟨he, _, hnone⟩ := hLmem _ hx; cases he; exact hnone
    · rcases List.mem_append.mp hx with hx | hx
      · cases List.mem_singleton.mp hx; exact hu
      · obtain ⟨i, _, _, _, rfl, _⟩ := mem_getterEntries.mp hx; exact hgt i
  · intro k o hm
    rcases List.mem_append.mp hm with hm | hm
    · obtain ⟨he, hP, hnone⟩ := hLmem _ hm
      cases he
      exact ⟨rfl, Or.inr ⟨hP, rfl, hnoT hnone⟩⟩
    · rcases List.mem_append.mp hm with hm | hm
      · cases List.mem_singleton.mp hm; exact ⟨rfl, rfl⟩
      · obtain ⟨i, hi, htr', hne, rfl, rfl⟩ := mem_getterEntries.mp hm
        exact ⟨rfl, rfl, htr', hne, hi⟩
  · -- what `w` registers is new, or the loader alias left by an earlier member of the group
    intro k o hc
    cases k with
    | uid n => obtain ⟨rfl, rfl⟩ := hc; exact Or.inl (by simp)
    | gid γ =>
      obtain ⟨rfl, ⟨hTw, _⟩ | ⟨hP, rfl, hno⟩⟩ := hc
      · rw [hT] at hTw; cases hTw
      · cases hgid : aget (Key.gid w.gid) I with
        | none => exact Or.inl (List.mem_append_left _ (hLhas hP hgid))
        | some o' =>
          right
          obtain ⟨t, ht, htv, hg, ⟨hTt, _⟩ | ⟨_, rfl, _⟩⟩ := inv.sound _ _ hgid
          · exact absurd (List.mem_append_left _ htv) (hno t ht hg.symm hTt)
          · exact mem_of_aget hgid
    | loader γ => obtain ⟨_, _, hTw, _⟩ := hc; rw [hT] at hTw; cases hTw
    | getter n i =>
      obtain ⟨rfl, rfl, htr', hne, hi⟩ := hc
      exact Or.inl (List.mem_append_right _ (List.mem_append_right _ (mem_getterEntries.mpr ⟨i, hi, htr', hne, rfl, rfl⟩)))
    | dumper n => obtain ⟨_, _, hTw, _⟩ := hc; rw [hT] at hTw; cases hTw
    | committer => obtain ⟨_, hTw, _⟩ := hc; rw [hT] at hTw; cases hTw

theorem idx_step_trainer (h : WF g rank) (inv : IdxInv g A vis (I, c)) {w : Worker} (hw : w ∈ g.workers)
    (hv : w.uid ∉ vis) (hT : g.isTrainer w = true) :
    ∃ ic', idxRun (I, c) (prog g A w) = some ic' ∧ IdxInv g A (vis ++ [w.uid]) ic' := by
  have hu := fresh_uid inv hv
  have hnotv : ∀ t ∈ g.workers, t.gid = w.gid → g.isTrainer t = true → t.uid ∉ vis :=
    fun t ht hg hTt htv => hv (trainer_unique h ht hw hg hTt hT ▸ htv)
  have hgid : ∀ o, aget (Key.gid w.gid) I = some o → o = loaderObj w.gid ∧ persistentW A w = true := by
    intro o hg
    obtain ⟨t, ht, htv, hgt, ⟨hTt, _⟩ | ⟨hP, rfl, _⟩⟩ := inv.sound _ _ hg
    · exact absurd htv (hnotv t ht hgt.symm hTt)
    · exact ⟨rfl, persistent_group h ht hw hgt.symm hP⟩
  have hids : Contig [Key.uid w.uid, Key.uid w.uid] := ⟨⟨trivial, fun h => by cases h⟩, fun _ => rfl⟩
  cases hP : persistentW A w with
  | false =>
    have hgn : aget (Key.gid w.gid) I = none := by
      cases hg : aget (Key.gid w.gid) I with
      | none => rfl
      | some o => rw [(hgid o hg).2] at hP; cases hP
    refine ⟨_, idx_trainer_np hT hP hu hgn, ?_⟩
    refine inv.extend h hw hv ?_ inv.keys inv.contig (by simp) hids ?_ ?_ ?_ (by simp [hP])
    · intro k o
      refine ⟨fun hm => ⟨hm, ?_⟩, fun hm => hm.1⟩
      rintro ⟨_, rfl⟩
      exact not_mem_of_aget_none hgn hm
    · intro x hx
      simp only [List.mem_cons, List.mem_nil_iff, or_false] at hx
      rcases hx with rfl | rfl
      · exact hu
      · exact hgn
    · intro k o hm
      simp only [List.mem_cons, List.mem_nil_iff, or_false, Prod.mk.injEq] at hm
      rcases hm with ⟨rfl, rfl⟩ | ⟨rfl, rfl⟩
      · exact ⟨rfl, rfl⟩
      · exact ⟨rfl, Or.inl ⟨hT, rfl⟩⟩
    · intro k o hc
      left
      cases k with
      | uid n => obtain ⟨rfl, rfl⟩ := hc; simp
      | gid γ =>
        obtain ⟨rfl, ⟨_, rfl⟩ | ⟨_, _, hno⟩⟩ := hc
        · simp
        · exact absurd (by simp) (hno w hw rfl hT)
      | loader γ => obtain ⟨_, _, _, hPw⟩ := hc; rw [hP] at hPw; cases hPw
      | getter n i =>
        obtain ⟨rfl, _, htr, _⟩ := hc
        rw [trained_of_isTrainer hT] at htr; cases htr
      | dumper n => obtain ⟨_, _, _, hPw⟩ := hc; rw [hP] at hPw; cases hPw
      | committer => obtain ⟨_, _, hPw⟩ := hc; rw [hP] at hPw; cases hPw
  | true =>
    have hd := fresh_dumper inv hv
    have hl : aget (Key.loader w.gid) I = none :=
      inv.fresh (by rintro o ⟨t, ht, htv, hg, _, hTt, _⟩; exact hnotv t ht hg.symm hTt htv)
    have hgid' : aget (Key.gid w.gid) I = none ∨ aget (Key.gid w.gid) I = some (loaderObj w.gid) := by
      cases hg : aget (Key.gid w.gid) I with
      | none => exact Or.inl rfl
      | some o => rw [(hgid o hg).1]; exact Or.inr rfl
    have hcn := fun hcn => fresh_committer inv hcn
    have hcomm : CommOK c := inv.comm.imp (·.1) (·.1)
    refine ⟨_, idx_trainer_p hT hP inv.keys hu hgid' hl hd hcn hcomm, ?_⟩
    generalize hB : adel (Key.gid w.gid) I = B
    have hBmem : ∀ k o, (k, o) ∈ B ↔ (k, o) ∈ I ∧ ¬ (g.isTrainer w = true ∧ k = Key.gid w.gid) := by
      intro k o
      rw [← hB]
      constructor
      · refine fun hm => ⟨mem_adel hm, ?_⟩
        rintro ⟨_, rfl⟩
        exact not_mem_of_aget_none (aget_adel_self inv.keys) hm
      · exact fun ⟨hm, hne⟩ => mem_adel_of_ne hm (fun he => hne ⟨hT, he⟩)
    have hBget : ∀ k, k ≠ Key.gid w.gid → aget k B = aget k I := fun k hk => hB ▸ aget_adel_ne (Ne.symm hk) I
    generalize hC : (if c = none then [(Key.committer, committerObj)] else []) = Copt
    have hCsub : Copt.Sublist [(Key.committer, committerObj)] := hC ▸ ite_singleton_sublist _ _
    have hCmem : ∀ x ∈ Copt, x = (Key.committer, committerObj) ∧ c = none := fun x hx => (mem_ite_singleton.mp (hC ▸ hx)).symm
    rw [List.append_assoc]
    refine inv.extend h hw hv hBmem ?_ ?_ ?_ ?_ ?_ ?_ ?_ (by simp [hT, hP])
    · rw [← hB]; exact inv.keys.sublist (adel_keys_sublist _ _)
    · rw [← hB]
      exact inv.contig.sublist ((adel_sublist _ _).map _)
    · rw [List.map_append]
      exact nodup_opt_append (hCsub.map _) (by simp) (by simp)
    · have : (Copt ++ [(Key.dumper w.uid, dumperObj w.uid), (Key.loader w.gid, loaderObj w.gid),
          (Key.uid w.uid, functorObj g A w), (Key.gid w.gid, functorObj g A w)]).map (·.2.id) =
          (Copt.map (·.2.id) ++ [Key.dumper w.uid, Key.loader w.gid]) ++ [Key.uid w.uid, Key.uid w.uid] := by
        simp [functorObj]
      rw [this]
      refine Contig.append (Contig.of_nodup ?_) hids ?_
      · exact nodup_opt_append (hCsub.map _) (by simp) (by simp)
      · intro x hx hx'
        simp only [List.mem_cons, List.mem_nil_iff, or_false, or_self] at hx'
        subst hx'
        rcases List.mem_append.mp hx with hx | hx
        · obtain ⟨y, hy, he⟩ := List.mem_map.mp hx
          rw [(hCmem y hy).1] at he; cases he
        · simp at hx
    · intro x hx
      rcases List.mem_append.mp hx with hx | hx
      · obtain ⟨rfl, hc⟩ := hCmem x hx
        rw [hBget _ (by simp)]; exact hcn hc
      · simp only [List.mem_cons, List.mem_nil_iff, or_false] at hx
        rcases hx with rfl | rfl | rfl | rfl
        · rw [hBget _ (by simp)]; exact hd
        · rw [hBget _ (by simp)]; exact hl
        · rw [hBget _ (by simp)]; exact hu
        · rw [← hB]; exact aget_adel_self inv.keys
    · intro k o hm
      rcases List.mem_append.mp hm with hm | hm
      · cases (hCmem _ hm).1; exact ⟨rfl, hT, hP⟩
      · simp only [List.mem_cons, List.mem_nil_iff, or_false, Prod.mk.injEq] at hm
        rcases hm with ⟨rfl, rfl⟩ | ⟨rfl, rfl⟩ | ⟨rfl, rfl⟩ | ⟨rfl, rfl⟩
        · exact ⟨rfl, rfl, hT, hP⟩
        · exact ⟨rfl, rfl, hT, hP⟩
        · exact ⟨rfl, rfl⟩
        · exact ⟨rfl, Or.inl ⟨hT, rfl⟩⟩
    · intro k o hc
      cases k with
      | uid n => obtain ⟨rfl, rfl⟩ := hc; exact Or.inl (by simp)
      | gid γ =>
        obtain ⟨rfl, ⟨_, rfl⟩ | ⟨_, _, hno⟩⟩ := hc
        · exact Or.inl (by simp)
        · exact absurd (by simp) (hno w hw rfl hT)
      | loader γ => obtain ⟨rfl, rfl, _⟩ := hc; exact Or.inl (by simp)
      | getter n i =>
        obtain ⟨rfl, _, htr, _⟩ := hc
        rw [trained_of_isTrainer hT] at htr; cases htr
      | dumper n => obtain ⟨rfl, rfl, _⟩ := hc; exact Or.inl (by simp)
      | committer =>
        obtain ⟨rfl, _⟩ := hc
        -- registered by this visit, or by the first persistent trainer visited
        rcases inv.comm with ⟨hc0, _⟩ | ⟨_, t, ht, htv, hTt, hPt⟩
        · left
          apply List.mem_append_left
          rw [← hC, if_pos hc0]; exact List.mem_singleton_self _
        · exact Or.inr ((hBmem _ _).mpr ⟨(inv.mem Key.committer _).mpr ⟨t, ht, htv, rfl, hTt, hPt⟩, by simp⟩)

theorem idx_all (h : WF g rank) (order : List Uid) (hnd : order.Nodup) (hw : ∀ n ∈ order, (g.worker? n).isSome) :
    ∃ ic, idxRun ([], none) (allProg g A order) = some ic ∧ IdxInv g A order ic := by
  refine allProg_induction (P := fun vis ops => ∃ ic, idxRun ([], none) ops = some ic ∧ IdxInv g A vis ic)
    ⟨([], none), rfl, IdxInv.init g A⟩ (fun vis w hwn hn ⟨⟨I, c⟩, hrun, inv⟩ => ?_) order hnd hw
  have hw := (worker?_some hwn).1
  rw [idxRun_append, hrun]
  simp only [Option.bind_some]
  cases hT : g.isTrainer w with
  | false =>
    have htr : g.trained w.uid = false :=
      Bool.eq_false_iff.mpr fun htr => by rw [isTrainer_of_trained h hw htr] at hT; cases hT
    exact idx_step_mapper h inv hw hn hT htr
  | true => exact idx_step_trainer h inv hw hn hT

end

end ForML.Flow
