/-
What a construction call can do to the graph.  `Move`: the four elementary changes - a node is created, a
subscription is published to a worker, a publisher is registered on a placeholder, a region is copied.  Every call of
the model takes a well-formed state to one reached by a sequence of moves (a refused call, or a refused stage of a
several-step call, makes none), so what the calls keep is shown once per move.  `Wire` is for the calls built on
`subscribe`: `Segment.extend`, `Trunk.extend`, `flow.Composition`.
-/
import ForML.Lemmas.C11Copy

namespace ForML.Graph

theorem wf_nodes (g : G) (nd : Node) (k : Nat) (hw : Wf g) :
    Wf { g with nodes := g.nodes ++ [nd], ngroups := k } :=
  wf_grow (ns := [nd]) (N := []) (P := []) (R := []) hw rfl (List.append_nil _).symm (List.append_nil _).symm
    (List.append_nil _).symm nofun nofun nofun

theorem closed_nodes (g : G) (nd : Node) (k : Nat) (hw : Wf g) (hc : Closed g) :
    Closed { g with nodes := g.nodes ++ [nd], ngroups := k } :=
  closed_grow (ns := [nd]) (N := []) (R := []) hw rfl (List.append_nil _).symm (List.append_nil _).symm hc nofun nofun

/-- one elementary change of the graph; registrations only when `reg` is set -/
inductive Move : Bool → G → G → Prop
  | node {reg : Bool} (g : G) (nd : Node) (k : Nat) : Move reg g { g with nodes := g.nodes ++ [nd], ngroups := k }
  | published {reg : Bool} {g : G} {p pi : Nat} {s : Sub} {L : List Edge} :
      Published g p pi s L → Move reg g (g.published s L)
  | registered {g : G} {f i p pi : Nat} {L : List Edge} :
      Registered g f i p pi L → Move true g (g.registered ⟨f, i, p, pi⟩ L)
  | copied {reg : Bool} {g : G} {region : List Nat} {es : List Edge} :
      CopyOK g region es → Move reg g (copied g region es)

namespace Move
variable {reg : Bool} {g a : G}

theorem wf (h : Move reg g a) (hw : Wf g) : Wf a := by
  cases h with
  | node g nd k => exact wf_nodes g nd k hw
  | published hL => exact hL.wf hw
  | registered hL => exact hL.wf hw
  | copied ok => exact copied_wf _ _ _ hw ok

theorem closed (h : Move reg g a) (hw : Wf g) (hc : Closed g) : Closed a := by
  cases h with
  | node g nd k => exact closed_nodes g nd k hw hc
  | published hL => exact closed_publish hL hw hc
  | registered hL => exact closed_register hL hw hc
  | copied ok => exact copied_closed _ _ _ hw hc

theorem regs_eq (h : Move false g a) : a.regs = g.regs := by
  cases h <;> rfl

theorem rooted (h : Move reg g a) (hw : Wf g) (hr : Rooted g) : Rooted a := by
  cases h with
  | node g nd k =>
    exact rooted_grow (g := g) (N := []) (R := []) (List.append_nil _).symm (List.append_nil _).symm hr nofun
  | published hL => exact rooted_publish hL hr
  | registered hL => exact rooted_register hL hr
  | copied ok => exact copied_rooted _ _ _ hw ok hr

end Move

inductive Moves (reg : Bool) : G → G → Prop
  | refl (g : G) : Moves reg g g
  | head {g a g' : G} : Move reg g a → Moves reg a g' → Moves reg g g'

namespace Moves
variable {reg : Bool} {g g' : G}

theorem one {a : G} (h : Move reg g a) : Moves reg g a := .head h (.refl a)

theorem trans {a : G} (h1 : Moves reg g a) (h2 : Moves reg a g') : Moves reg g g' := by
  induction h1 with
  | refl => exact h2
  | head m _ ih => exact .head m (ih h2)

theorem lift (h : Moves reg g g') : Moves true g g' := by
  induction h with
  | refl => exact .refl _
  | head m _ ih =>
    refine .head ?_ ih
    cases m with
    | node _ nd k => exact .node _ nd k
    | published hL => exact .published hL
    | registered hL => exact .registered hL
    | copied ok => exact .copied ok

theorem keeps {P : G → Prop} (hP : ∀ g a, Move reg g a → Wf g → P g → P a) (h : Moves reg g g') (hw : Wf g)
    (hp : P g) : Wf g' ∧ P g' := by
  induction h with
  | refl => exact ⟨hw, hp⟩
  | head m _ ih => exact ih (m.wf hw) (hP _ _ m hw hp)

theorem wf (h : Moves reg g g') (hw : Wf g) : Wf g' := (h.keeps (P := fun _ => True) (fun _ _ _ _ _ => trivial) hw trivial).1

theorem closed (h : Moves reg g g') (hw : Wf g) (hc : Closed g) : Closed g' := (h.keeps (fun _ _ m => m.closed) hw hc).2

theorem rooted (h : Moves reg g g') (hw : Wf g) (hr : Rooted g) : Rooted g' := (h.keeps (fun _ _ m => m.rooted) hw hr).2

theorem regs_eq (h : Moves false g g') : g'.regs = g.regs := by
  induction h with
  | refl => rfl
  | head m _ ih => rw [ih, m.regs_eq]

end Moves

namespace Route
variable {g : G} {p pi : Nat} {s : Sub} {r : G × Res}

theorem moves (h : Route g p pi s r) : Moves true g r.1 := by
  cases h with
  | refused => exact .refl g
  | published L hL => exact .one (.published hL)
  | registered L hL => exact .one (.registered hL)

theorem keyNodup (h : Route g p pi s r) (hk : KeyNodup g)
    (hno : isFuture g s.node = true → ∀ r ∈ g.regs, ¬(r.fut = s.node ∧ r.idx = s.port.index)) : KeyNodup r.1 := by
  cases h with
  | refused => exact hk
  | published => exact hk
  | registered L hL =>
    unfold KeyNodup at hk ⊢
    simp only [List.map_append, List.map_cons, List.map_nil]
    refine nodup_snoc.mpr ⟨hk, fun ha => ?_⟩
    obtain ⟨r, hr, hab⟩ := List.mem_map.mp ha
    exact hno hL.future r hr ⟨congrArg Prod.fst hab, congrArg Prod.snd hab⟩

end Route

theorem subscribe_atomic (g : G) (s j p pi : Nat) (hw : Wf g) (he : (subscribe g s j p pi).2.isErr = true) :
    (subscribe g s j p pi).1 = g :=
  (subscribe_route g s j p pi hw).atomic he

/-- `g'` is reached from `g` by subscriptions that were all accepted -/
inductive Wire : G → G → Prop
  | refl (g : G) : Wire g g
  | sub {g g' : G} (s j p pi : Nat) : (subscribe g s j p pi).2 = .ok → Wire (subscribe g s j p pi).1 g' → Wire g g'

theorem Wire.trans {a b c : G} (h1 : Wire a b) (h2 : Wire b c) : Wire a c := by
  induction h1 with
  | refl => exact h2
  | sub s j p pi hok _ ih => exact .sub s j p pi hok (ih h2)

theorem Wire.moves {g g' : G} (h : Wire g g') (hw : Wf g) : Moves true g g' := by
  induction h with
  | refl => exact .refl _
  | sub s j p pi _ _ ih =>
    have hm := (subscribe_route _ s j p pi hw).moves
    exact hm.trans (ih (hm.wf hw))

theorem Wire.wf {g g' : G} (h : Wire g g') (hw : Wf g) : Wf g' := (h.moves hw).wf hw

theorem Wire.nodes {g g' : G} (h : Wire g g') (hw : Wf g) : g'.nodes = g.nodes := by
  induction h with
  | refl => rfl
  | sub s j p pi _ _ ih => rw [ih ((subscribe_route _ s j p pi hw).moves.wf hw), (subscribe_route _ s j p pi hw).nodes]

theorem Wire.closed {g g' : G} (h : Wire g g') (hw : Wf g) (hc : Closed g) : Closed g' := (h.moves hw).closed hw hc

theorem segExtend_fst (g : G) (h tl rh nt : Nat) : (segExtend g h tl rh nt).1 = (subscribe g rh 0 tl 0).1 := by
  unfold segExtend
  rcases subscribe g rh 0 tl 0 with ⟨g1, r⟩
  cases r <;> rfl

theorem segExtend_wire (g : G) (h tl rh nt : Nat) (hw : Wf g) : Wire g (segExtend g h tl rh nt).1 := by
  rw [segExtend_fst]
  rcases (subscribe_route g rh 0 tl 0 hw).res with ⟨e, he⟩ | hok
  · rw [he]; exact .refl g
  · exact .sub rh 0 tl 0 hok (.refl _)

theorem extend_wire (g : G) (h : Nat) (t : Option Nat) (right : Option (Nat × Option Nat)) (xt : Option Nat)
    (hw : Wf g) : Wire g (extend g h t right xt).1 := by
  unfold extend
  split
  · split
    · split
      · exact segExtend_wire g _ _ _ _ hw
      · exact .refl g
    · split
      · exact .refl g
      · split <;> exact .refl g
  · exact .refl g

theorem modeExtend_wire (g : G) (c : Nat × Nat) (r : Option (Nat × Nat)) (hw : Wf g) :
    Wire g (modeExtend g c r).1 := by
  cases r with
  | none => exact .refl g
  | some r =>
    have hst : (modeExtend g c (some r)).1 = (segExtend g c.1 c.2 r.1 r.2).1 := by
      simp only [modeExtend]
      rcases segExtend g c.1 c.2 r.1 r.2 with ⟨g1, r⟩
      cases r <;> rfl
    rw [hst]; exact segExtend_wire g c.1 c.2 r.1 r.2 hw

theorem trunkExtend_wire (g : G) (c : Trunk3) (ea et el : Option (Nat × Nat)) (hw : Wf g) :
    Wire g (trunkExtend g c ea et el).1 := by
  unfold trunkExtend
  have h1 := modeExtend_wire g c.apply ea hw
  generalize modeExtend g c.apply ea = m1 at h1 ⊢
  obtain ⟨g1, _ | a⟩ := m1
  · exact h1
  simp only at h1 ⊢
  have h2 := modeExtend_wire g1 c.train et (h1.wf hw)
  generalize modeExtend g1 c.train et = m2 at h2 ⊢
  obtain ⟨g2, _ | t⟩ := m2
  · exact h1.trans h2
  simp only at h2 ⊢
  have h3 := modeExtend_wire g2 c.label el (h2.wf (h1.wf hw))
  generalize modeExtend g2 c.label el = m3 at h3 ⊢
  obtain ⟨g3, _ | l⟩ := m3 <;> exact (h1.trans h2).trans h3

theorem textend_wire (g : G) (b : TrunkSpec) (ea et el : Option (Nat × Option Nat)) (hw : Wf g) :
    Wire g (textend g b ea et el).1 := by
  unfold textend
  rcases hb : resolveTrunk g b with e | c
  · exact .refl g
  · rcases ha : resolveOpt g ea with e | ra
    · exact .refl g
    · rcases ht : resolveOpt g et with e | rt
      · exact .refl g
      · rcases hl : resolveOpt g el with e | rl
        · exact .refl g
        · simp only
          have := trunkExtend_wire g c ra rt rl hw
          generalize trunkExtend g c ra rt rl = m at this ⊢
          obtain ⟨g1, _ | c1⟩ := m <;> exact this

theorem composeLoop_wire : ∀ (ts : List TrunkSpec) (g : G) (c : Trunk3), Wf g → Wire g (composeLoop g c ts).1 := by
  intro ts
  induction ts with
  | nil => intro g c _; exact .refl g
  | cons s rest ih =>
    intro g c hw
    simp only [composeLoop]
    split
    · exact .refl g
    · rename_i r _
      have := trunkExtend_wire g c (some r.apply) (some r.train) (some r.label) hw
      split
      · rename_i g1 c1 heq
        rw [heq] at this
        exact this.trans (ih g1 c1 (this.wf hw))
      · rename_i g1 e heq
        rw [heq] at this
        exact this

theorem compose_wire (g : G) (ts : List TrunkSpec) (hw : Wf g) : Wire g (compose g ts).1 := by
  cases ts with
  | nil => exact .refl g
  | cons s rest =>
    simp only [compose]
    split
    · exact .refl g
    · exact composeLoop_wire rest g _ hw

end ForML.Graph
