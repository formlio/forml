/-
C06 — feature level: the generated operator table is sound, and `compileF` succeeds on supported features and preserves
their meaning when origins are addressed by injective names; the same for feature lists, optional features, orderings.
-/
import ForML.Model.ParserWF
import ForML.Model.DslDenote

namespace ForML.C06
open ForML.Dsl ForML.Rel ForML.Parser ForML.Denote

/-- `cases h` evaluates the table row of each class; the meanings then agree by computation on each shape of the
operand list -/
theorem exprOp_sound (op : Op) (sop : SqlOp) (h : exprOp op = some sop) (hr : sop ≠ .raises) :
    sop.isAgg = op.isAggregate ∧ (∀ vs, sqlAgg sop vs = dslAgg op vs) ∧ (∀ vs, sqlScalar sop vs = dslScalar op vs) := by
  cases op <;> cases h <;>
    first
    | exact absurd rfl hr
    | exact ⟨rfl, fun _ => rfl, fun vs => by rcases vs with _ | ⟨a, _ | ⟨b, _ | ⟨c, t⟩⟩⟩ <;> rfl⟩

/-- DSL column label ↦ SQL column label -/
def phi (srcs : Sources) : Option (Source × String) → Option (String × String) :=
  Option.map (fun p => (qualD srcs p.1, p.2))

/-- the origins in `scope` are addressed by pairwise different names -/
def InjOn (srcs : Sources) (scope : List Source) : Prop :=
  ∀ a ∈ scope, ∀ b ∈ scope, qualD srcs a = qualD srcs b → a = b

/-- every labelled column belongs to an origin of `scope` -/
def LabelsIn (labels : Labels) (scope : List Source) : Prop :=
  ∀ o n, some (o, n) ∈ labels → o ∈ scope

@[simp] theorem phi_none (srcs : Sources) : phi srcs none = none := rfl
@[simp] theorem phi_some (srcs : Sources) (o : Source) (n : String) :
    phi srcs (some (o, n)) = some (qualD srcs o, n) := rfl

theorem idx_agree (srcs : Sources) (scope : List Source) (hinj : InjOn srcs scope) (o : Source) (n : String)
    (ho : o ∈ scope) : ∀ (labels : Labels), LabelsIn labels scope →
    idxOf? (some (qualD srcs o, n)) (labels.map (phi srcs)) = idxOf? (some (o, n)) labels
  | [], _ => rfl
  | l :: ls, hin => by
    have ih := idx_agree srcs scope hinj o n ho ls (fun o' n' h => hin o' n' (List.mem_cons_of_mem _ h))
    cases l with
    | none => simp only [List.map_cons, phi_none, idxOf?, ih]; simp
    | some p =>
      obtain ⟨o', n'⟩ := p
      have ho' : o' ∈ scope := hin o' n' (List.mem_cons_self ..)
      simp only [List.map_cons, phi_some, idxOf?, ih]
      by_cases hEq : o' = o ∧ n' = n
      · obtain ⟨rfl, rfl⟩ := hEq
        simp
      · have hne : ¬ (some (qualD srcs o', n') = some (qualD srcs o, n)) := by
          intro h
          injection h with h
          injection h with h1 h2
          exact hEq ⟨hinj o' ho' o ho h1, h2⟩
        have hne' : ¬ (some (o', n') = some (o, n)) := by
          intro h
          injection h with h
          injection h with h1 h2
          exact hEq ⟨h1, h2⟩
        rw [if_neg hne, if_neg hne']

theorem qualD_of_qual {srcs : Sources} {o : Source} {q : String} (h : qual srcs o = some q) : qualD srcs o = q := by
  simp [qualD, h]

theorem supportedF_expr {scope : List Source} {op : Op} {args : Features}
    (hs : supportedF scope (.expr op args) = true) :
    (∃ sop, exprOp op = some sop ∧ sop ≠ .raises) ∧ featuresLength args = op.arity ∧
      (op.arity = 1 ∨ op.arity = 2) ∧ supportedFs scope args = true := by
  simp only [supportedF, Bool.and_eq_true, Bool.or_eq_true, beq_iff_eq] at hs
  obtain ⟨⟨⟨hop, har⟩, h12⟩, hfs⟩ := hs
  refine ⟨?_, har, h12, hfs⟩
  cases hop' : exprOp op with
  | none => simp [hop'] at hop
  | some sop => exact ⟨sop, rfl, by simpa [hop'] using hop⟩

theorem supportedF_bin {scope : List Source} {op : Op} {a b : Feature}
    (h : supportedF scope (.expr op (.cons a (.cons b .nil))) = true) :
    supportedF scope a = true ∧ supportedF scope b = true := by
  simpa [supportedFs] using (supportedF_expr h).2.2.2

theorem arity_two_not_agg {op : Op} (h : op.arity = 2) : op.isAggregate = false := by
  cases op <;> first | rfl | exact absurd h (by decide)

theorem compileF_un {op : Op} {sop : SqlOp} (srcs : Sources) (h : exprOp op = some sop) (hr : sop ≠ .raises)
    (f1 : Feature) : compileF srcs (.expr op (.cons f1 .nil)) = (compileF srcs f1).map (.un sop) := by
  simp only [compileF, compileFs, h]
  cases compileF srcs f1 <;> simp [hr]

theorem compileF_bin {op : Op} {sop : SqlOp} (srcs : Sources) (h : exprOp op = some sop) (hr : sop ≠ .raises)
    (f1 f2 : Feature) :
    compileF srcs (.expr op (.cons f1 (.cons f2 .nil))) =
      (compileF srcs f1).bind (fun a => (compileF srcs f2).map (.bin sop a)) := by
  simp only [compileF, compileFs, h]
  cases compileF srcs f1 <;> cases compileF srcs f2 <;> simp [hr]

theorem compileF_induction {srcs : Sources} {scope : List Source} {P : Feature → SqlExpr → Prop}
    (lit : ∀ v, P (.lit v) (.lit v))
    (elem : ∀ o n q, o ∈ scope → qual srcs o = some q → P (.elem o n) (.col q n))
    (alias : ∀ f n e, P f e → P (.alias f n) (.label e n))
    (un : ∀ op sop f a, exprOp op = some sop → sop ≠ .raises → P f a → P (.expr op (.cons f .nil)) (.un sop a))
    (bin : ∀ op sop f1 f2 a b, exprOp op = some sop → sop ≠ .raises → op.isAggregate = false → P f1 a → P f2 b →
      P (.expr op (.cons f1 (.cons f2 .nil))) (.bin sop a b)) :
    ∀ (f : Feature) (e : SqlExpr), supportedF scope f = true → compileF srcs f = some e → P f e
  | .lit v, e, _, hc => by
    simp only [compileF, Option.some.injEq] at hc
    exact hc ▸ lit v
  | .elem o n, e, hs, hc => by
    simp only [compileF, Option.map_eq_some_iff] at hc
    obtain ⟨q, hq, rfl⟩ := hc
    exact elem o n q (by simpa [supportedF] using hs) hq
  | .alias f n, e, hs, hc => by
    simp only [compileF, Option.map_eq_some_iff] at hc
    obtain ⟨e', he', rfl⟩ := hc
    exact alias f n e' (compileF_induction lit elem alias un bin f e' (by simpa [supportedF] using hs) he')
  | .expr op .nil, e, _, hc => by simp [compileF, compileFs] at hc
  | .expr op (.cons f1 .nil), e, hs, hc => by
    obtain ⟨⟨sop, hop, hr⟩, _, _, hfs⟩ := supportedF_expr hs
    simp only [supportedFs, Bool.and_true] at hfs
    rw [compileF_un srcs hop hr, Option.map_eq_some_iff] at hc
    obtain ⟨a, h1, rfl⟩ := hc
    exact un op sop f1 a hop hr (compileF_induction lit elem alias un bin f1 a hfs h1)
  | .expr op (.cons f1 (.cons f2 .nil)), e, hs, hc => by
    obtain ⟨⟨sop, hop, hr⟩, har, _, _⟩ := supportedF_expr hs
    obtain ⟨hs1, hs2⟩ := supportedF_bin hs
    rw [compileF_bin srcs hop hr, Option.bind_eq_some_iff] at hc
    obtain ⟨a, h1, hc⟩ := hc
    rw [Option.map_eq_some_iff] at hc
    obtain ⟨b, h2, rfl⟩ := hc
    exact bin op sop f1 f2 a b hop hr (arity_two_not_agg har.symm)
      (compileF_induction lit elem alias un bin f1 a hs1 h1) (compileF_induction lit elem alias un bin f2 b hs2 h2)
  | .expr op (.cons f1 (.cons f2 (.cons f3 r))), e, hs, _ => by
    obtain ⟨_, har, h12, _⟩ := supportedF_expr hs
    simp only [featuresLength] at har
    omega
  | .cast _ _, e, hs, _ => by simp [supportedF] at hs
  | .window _ _ _, e, hs, _ => by simp [supportedF] at hs

theorem evalS_compileF (srcs : Sources) (scope : List Source) (labels : Labels) (hinj : InjOn srcs scope)
    (hin : LabelsIn labels scope) :
    ∀ (f : Feature) (e : SqlExpr), supportedF scope f = true → compileF srcs f = some e →
      evalS (labels.map (phi srcs)) e = evalF labels f := by
  refine compileF_induction (P := fun f e => evalS (labels.map (phi srcs)) e = evalF labels f) ?_ ?_ ?_ ?_ ?_
  · intro v
    funext g row; simp [evalS, evalF]
  · intro o n q ho hq
    funext g row
    simp only [evalS, evalF]
    rw [← qualD_of_qual hq, idx_agree srcs scope hinj o n ho labels hin]
  · intro f n e ih
    funext g row
    simp only [evalS, evalF, ih]
  · intro op sop f a hop hr ih
    obtain ⟨hI, hA, hS⟩ := exprOp_sound op sop hop hr
    funext g row
    simp only [evalS, evalF, evalFs, hI, ih, funext hA]
    cases op.isAggregate
    · cases evalF labels f g row <;> simp [hS]
    · rfl
  · intro op sop f1 f2 a b hop hr hna ih1 ih2
    funext g row
    simp only [evalS, evalF, evalFs, ih1, ih2, hna]
    cases evalF labels f1 g row <;> cases evalF labels f2 g row <;>
      simp [(exprOp_sound op sop hop hr).2.2]

theorem hasAgg_compileF (srcs : Sources) (scope : List Source) :
    ∀ (f : Feature) (e : SqlExpr), supportedF scope f = true → compileF srcs f = some e → e.hasAgg = hasAggF f := by
  refine compileF_induction (P := fun f e => e.hasAgg = hasAggF f) ?_ ?_ ?_ ?_ ?_
  · intro v; rfl
  · intro o n q _ _; rfl
  · intro f n e ih
    simpa [SqlExpr.hasAgg, hasAggF] using ih
  · intro op sop f a hop hr ih
    simp only [SqlExpr.hasAgg, hasAggF, hasAggFs, Bool.or_false, (exprOp_sound op sop hop hr).1, ih]
  · intro op sop f1 f2 a b _ _ hna ih1 ih2
    simp only [SqlExpr.hasAgg, hasAggF, hasAggFs, Bool.or_false, Bool.false_or, hna, ih1, ih2]

theorem outName_compileF (srcs : Sources) (f : Feature) (e : SqlExpr) (hc : compileF srcs f = some e) :
    e.outName = selName f := by
  cases f with
  | lit v => simp [compileF] at hc; subst hc; rfl
  | elem o n =>
    simp only [compileF, Option.map_eq_some_iff] at hc
    obtain ⟨q, _, rfl⟩ := hc; rfl
  | alias f n =>
    simp only [compileF, Option.map_eq_some_iff] at hc
    obtain ⟨e', _, rfl⟩ := hc; rfl
  | expr op args =>
    simp only [compileF] at hc
    split at hc
    · split at hc <;> simp at hc <;> subst hc <;> rfl
    · split at hc <;> simp at hc <;> subst hc <;> rfl
    · simp at hc
  | cast f k => simp [compileF] at hc
  | window a b c => simp [compileF] at hc

theorem compileF_some (srcs : Sources) (scope : List Source) (hq : ∀ o ∈ scope, (qual srcs o).isSome = true) :
    ∀ (f : Feature), supportedF scope f = true → ∃ e, compileF srcs f = some e
  | .lit v, _ => ⟨_, rfl⟩
  | .elem o n, hs => by
    have ho : o ∈ scope := by simpa [supportedF] using hs
    obtain ⟨q, hq'⟩ := Option.isSome_iff_exists.mp (hq o ho)
    exact ⟨.col q n, by simp [compileF, hq']⟩
  | .alias f n, hs => by
    obtain ⟨e, he⟩ := compileF_some srcs scope hq f (by simpa [supportedF] using hs)
    exact ⟨.label e n, by simp [compileF, he]⟩
  | .expr op .nil, hs => by
    obtain ⟨_, har, h12, _⟩ := supportedF_expr hs
    simp only [featuresLength] at har
    omega
  | .expr op (.cons f1 .nil), hs => by
    obtain ⟨⟨sop, hop, hr⟩, _, _, hfs⟩ := supportedF_expr hs
    simp only [supportedFs, Bool.and_true] at hfs
    obtain ⟨a, ha⟩ := compileF_some srcs scope hq f1 hfs
    exact ⟨.un sop a, by rw [compileF_un srcs hop hr, ha]; rfl⟩
  | .expr op (.cons f1 (.cons f2 .nil)), hs => by
    obtain ⟨⟨sop, hop, hr⟩, _, _, hfs⟩ := supportedF_expr hs
    simp only [supportedFs, Bool.and_eq_true, Bool.and_true] at hfs
    obtain ⟨a, ha⟩ := compileF_some srcs scope hq f1 hfs.1
    obtain ⟨b, hb⟩ := compileF_some srcs scope hq f2 hfs.2
    exact ⟨.bin sop a b, by rw [compileF_bin srcs hop hr, ha, hb]; rfl⟩
  | .expr op (.cons f1 (.cons f2 (.cons f3 r))), hs => by
    obtain ⟨_, har, h12, _⟩ := supportedF_expr hs
    simp only [featuresLength] at har
    omega
  | .cast _ _, hs => by simp [supportedF] at hs
  | .window _ _ _, hs => by simp [supportedF] at hs

theorem compileFs_cons (srcs : Sources) (f : Feature) (fs : Features) :
    compileFs srcs (.cons f fs) = (compileF srcs f).bind fun e => (compileFs srcs fs).map (e :: ·) := by
  rw [compileFs]
  cases compileF srcs f <;> cases compileFs srcs fs <;> rfl

theorem orderOf_dirOf (d : Dir) : orderOf d = some (dirOf d) := by
  cases d <;> decide +kernel

theorem compileOrd_cons (srcs : Sources) (f : Feature) (d : Dir) (os : Orderings) :
    compileOrd srcs (.cons (.mk f d) os) =
      (compileF srcs f).bind fun e => (compileOrd srcs os).map ((e, dirOf d) :: ·) := by
  rw [compileOrd, orderOf_dirOf d]
  cases compileF srcs f <;> cases compileOrd srcs os <;> rfl

theorem compileFs_isEmpty (srcs : Sources) (fs : Features) (es : List SqlExpr) (h : compileFs srcs fs = some es) :
    es.isEmpty = fs.isEmpty := by
  cases fs with
  | nil => cases h; rfl
  | cons f fs =>
    simp only [compileFs_cons, Option.bind_eq_some_iff, Option.map_eq_some_iff] at h
    obtain ⟨e, _, es', _, rfl⟩ := h
    rfl

theorem compileFs_some (srcs : Sources) (scope : List Source) (hq : ∀ o ∈ scope, (qual srcs o).isSome = true) :
    ∀ (fs : Features), supportedFs scope fs = true → ∃ es, compileFs srcs fs = some es
  | .nil, _ => ⟨[], rfl⟩
  | .cons f fs, hs => by
    simp only [supportedFs, Bool.and_eq_true] at hs
    obtain ⟨e, he⟩ := compileF_some srcs scope hq f hs.1
    obtain ⟨es, hes⟩ := compileFs_some srcs scope hq fs hs.2
    exact ⟨e :: es, by rw [compileFs_cons, he, hes]; rfl⟩

theorem compileFO_some (srcs : Sources) (scope : List Source) (hq : ∀ o ∈ scope, (qual srcs o).isSome = true) :
    ∀ (fo : FeatureOpt), supportedFO scope fo = true → ∃ eo, compileFO srcs fo = some eo
  | .none, _ => ⟨none, rfl⟩
  | .some f, hs => by
    obtain ⟨e, he⟩ := compileF_some srcs scope hq f hs
    exact ⟨some e, by rw [compileFO, he]; rfl⟩

theorem compileOrd_some (srcs : Sources) (scope : List Source) (hq : ∀ o ∈ scope, (qual srcs o).isSome = true) :
    ∀ (os : Orderings), supportedOrd scope os = true → ∃ eos, compileOrd srcs os = some eos
  | .nil, _ => ⟨[], rfl⟩
  | .cons (.mk f d) os, hs => by
    simp only [supportedOrd, Bool.and_eq_true] at hs
    obtain ⟨e, he⟩ := compileF_some srcs scope hq f hs.1.1
    obtain ⟨eos, heos⟩ := compileOrd_some srcs scope hq os hs.2
    exact ⟨(e, dirOf d) :: eos, by rw [compileOrd_cons srcs f d os, he, heos]; rfl⟩

theorem compileFs_spec (srcs : Sources) (scope : List Source) (labels : Labels) (hinj : InjOn srcs scope)
    (hin : LabelsIn labels scope) :
    ∀ (fs : Features) (es : List SqlExpr), supportedFs scope fs = true → compileFs srcs fs = some es →
      es.map (evalS (labels.map (phi srcs))) = evsOf labels fs ∧ es.map (·.outName) = selNames fs ∧
        es.any (·.hasAgg) = hasAggFs fs
  | .nil, es, _, h => by cases h; exact ⟨rfl, rfl, rfl⟩
  | .cons f fs, es, hs, h => by
    simp only [supportedFs, Bool.and_eq_true] at hs
    simp only [compileFs_cons, Option.bind_eq_some_iff, Option.map_eq_some_iff] at h
    obtain ⟨e, he, es', hes, rfl⟩ := h
    obtain ⟨h1, h2, h3⟩ := compileFs_spec srcs scope labels hinj hin fs es' hs.2 hes
    refine ⟨?_, ?_, ?_⟩
    · simp [evsOf, h1, evalS_compileF srcs scope labels hinj hin f e hs.1 he]
    · simp [selNames, h2, outName_compileF srcs f e he]
    · simp [hasAggFs, h3, hasAgg_compileF srcs scope f e hs.1 he]

theorem compileFO_spec (srcs : Sources) (scope : List Source) (labels : Labels) (hinj : InjOn srcs scope)
    (hin : LabelsIn labels scope) :
    ∀ (fo : FeatureOpt) (eo : Option SqlExpr), supportedFO scope fo = true → compileFO srcs fo = some eo →
      eo.map (evalS (labels.map (phi srcs))) = evOfOpt labels fo ∧ (eo.map (·.hasAgg)).getD false = hasAggFO fo
  | .none, eo, _, h => by cases h; exact ⟨rfl, rfl⟩
  | .some f, eo, hs, h => by
    simp only [compileFO, Option.map_eq_some_iff] at h
    obtain ⟨e, he, rfl⟩ := h
    exact ⟨by simp [evOfOpt, evalS_compileF srcs scope labels hinj hin f e hs he],
      by simp [hasAggFO, hasAgg_compileF srcs scope f e hs he]⟩

theorem compileOrd_spec (srcs : Sources) (scope : List Source) (labels : Labels) (hinj : InjOn srcs scope)
    (hin : LabelsIn labels scope) :
    ∀ (os : Orderings) (eos : List (SqlExpr × SortDir)), supportedOrd scope os = true →
      compileOrd srcs os = some eos →
      eos.map (fun e => (evalS (labels.map (phi srcs)) e.1, e.2)) = evsOfOrd labels os ∧
        eos.any (·.1.hasAgg) = hasAggOrd os
  | .nil, eos, _, h => by cases h; exact ⟨rfl, rfl⟩
  | .cons (.mk f d) os, eos, hs, h => by
    simp only [supportedOrd, Bool.and_eq_true] at hs
    simp only [compileOrd_cons srcs f d os, Option.bind_eq_some_iff, Option.map_eq_some_iff] at h
    obtain ⟨e, he, eos', heos, rfl⟩ := h
    obtain ⟨h1, h2⟩ := compileOrd_spec srcs scope labels hinj hin os eos' hs.2 heos
    exact ⟨by simp [evsOfOrd, h1, evalS_compileF srcs scope labels hinj hin f e hs.1.1 he],
      by simp [hasAggOrd, h2, hasAgg_compileF srcs scope f e hs.1.1 he]⟩

end ForML.C06
