/-
`ensemble.FullStack` (`Ensembler.compose` + `FullStack.Builder.build`) realises `denoteStack`.

The region certificate (`Spec True`) of the scope and of every base model is consumed (`Segment.copy`) and re-established
for the trunk of the ensemble itself: the nodes reachable from the ensemble's apply head — fold expansions of the scope,
fold expansions of the bases, reducer forks, `apply_output` — are evaluable and fed from the apply side only; the held-out
copies, the stacker forks, `train_output` and `label_output` are not reachable from it.  Hence a stacking ensemble may sit
in the scope or among the base models of another one.  The head (the trunk's holes, the trained splitter and its forks:
`stack_trunk`, a `Body` on the origin) is a trunk like that of any scope; the fold rounds, the collectors and the base rounds
are one body on it.
-/
import ForML.Lemmas.C03Bases
import ForML.Lemmas.C03Body

namespace ForML.Compose

/-- `label_output[fold_idx].subscribe(pipeline_fold.test.label)`, for every fold: `label_output` is fed from the odd
ports of the label fork of the splitter -/
theorem subscribeLabels_spec (lO : WRef) (aL : Actor) (N lo rr : Nat) (R : Nat) (foldSem : Nat → Sem) (testV : Nat → Val)
    (lfuid : Nat) :
    ∀ (folds : List Fold) (i : Nat) (g : Graph) (W : World) (ins : Nat → PubRef), Inv g W → Wired g →
      FoldsVal W R foldSem testV lfuid i folds → lfuid < g.next → Coll g W lO.uid lO.gid aL N i ins →
      (∀ k, k < i → ins k = ⟨lfuid, 2 * k + 1⟩) →
      ∃ g' ins', Run (subscribeLabels lO i folds) g () g' ∧ LoopOk (fun u => u = lO.uid) lo g g' W W rr ∧
        Coll g' W lO.uid lO.gid aL N (i + folds.length) ins' ∧ (∀ k, k < i + folds.length → ins' k = ⟨lfuid, 2 * k + 1⟩) ∧
        g'.next = g.next ∧ g'.trains = g.trains := by
  intro folds
  induction folds with
  | nil =>
    intro i g W ins hi hw _ _ hc hins
    exact ⟨g, ins, rfl, LoopOk.refl hi hw rr, by simpa using hc, by simpa using hins, rfl, rfl⟩
  | cons f rest ih =>
    intro i g W ins hi hw hfv hlf' hc hins
    obtain ⟨_, _, _, _, hlab, hrest⟩ := hfv
    obtain ⟨r1, hl1, c1⟩ := (LoopOk.refl (X := fun u => u = lO.uid) (lo := lo) hi hw rr).push hc (fun _ => rfl) f.testLabel
      (by rw [hlab]; exact hlf')
    obtain ⟨g', ins', hrun, hl', c', hins', hn', htr'⟩ := ih (i + 1) _ W _ hl1.inv hl1.wired hrest (by simpa using hlf') c1 (by
      intro k hk
      by_cases e : k = i
      · subst e; simp [hlab]
      · simp only [e, if_false]; exact hins k (by omega))
    refine ⟨g', ins', ?_, hl1.trans hl', ?_, ?_, by rw [hn']; rfl, by rw [htr']; rfl⟩
    · unfold subscribeLabels
      exact Run.bind r1 hrun
    · have : i + (f :: rest).length = i + 1 + rest.length := by simp; omega
      rw [this]; exact c'
    · intro k hk
      exact hins' k (by simp at hk; omega)

/-- the splitter has `2 * n` output ports, never one: an output port of its forks carries a projection (`portVal`) -/
theorem two_mul_ne_one (n : Nat) : (2 * n == 1) = false := by
  have : 2 * n ≠ 1 := by omega
  simpa using this

/-- what the head of the ensemble (the trunk's three holes, the trained splitter and its two forks) provides -/
structure StackHead (g g9 : Graph) (W W9 : World) (head : Trunk) (ff lf : WRef) (splitter n : Nat) (xa xt xl : Val) (r : Nat) :
    Prop where
  inv : Inv g9 W9
  wired : Wired g9
  frame : Frame g g9
  agree : Agree g.next W W9
  next : g9.next = g.next + 7
  ha : HeadOk g g9 W9 head.apply.head xa r
  ht : HeadOk g g9 W9 head.train.head xt r
  hl : HeadOk g g9 W9 head.label.head xl r
  distinct : head.apply.head ≠ head.train.head ∧ head.apply.head ≠ head.label.head ∧ head.train.head ≠ head.label.head
  tails : head.apply.tail = head.apply.head ∧ head.train.tail = head.train.head ∧ head.label.tail = head.label.head
  ffuid : g.next ≤ ff.uid ∧ ff.uid < g9.next
  lfuid : g.next ≤ lf.uid ∧ lf.uid < g9.next
  pubs : SplitPubs W9 head ff.uid lf.uid (r + 2) xa
    (.apply splitter (.state splitter .none xt xl) [xt]) (.apply splitter (.state splitter .none xt xl) [xl])
  trains : ∃ T, g9.trains = g.trains ++ [T] ∧ W9.live T.train.node ∧ W9.live T.label.node ∧
    trainedUnder W9 T = (splitter, .state splitter .none xt xl)
  rank : ∀ n', g.next ≤ n' → W9.live n' → W9.h n' < r + 3
  fresh : ∀ n', g.next ≤ n' → W9.live n' → ∀ gid a i o, g9.kindOf n' = some (.worker gid a i o) → g.next ≤ gid
  opens : ∀ n', g.next ≤ n' → W9.live n' → g9.isOpen n' →
    n' = head.apply.head ∨ n' = head.train.head ∨ n' = head.label.head
  /-- nothing is subscribed to the apply head yet -/
  reach : ∀ m, Reach g9 head.apply.head m → m = head.apply.head
  ffne : ff.uid ≠ head.apply.head ∧ lf.uid ≠ head.apply.head
  closed : ∀ s k q, g.next ≤ s → g9.inputOf s k = some q → g.next ≤ q.node

/-- The statements of `Ensembler.compose` in front of its fold loop — the trunk, the trained `1 : 2n` splitter, its two
forks on the train and the label hole — as a body on the origin: a trunk like that of any scope, with one more training.
The run is stated with a continuation `k` (the block is a prefix of `composeStack`, which `spec_stack` unfolds once). -/
theorem stack_trunk {g : Graph} {W : World} (hi : Inv g W) (hw : Wired g) (xa xt xl : Val) (r : Nat) (hr : r ≤ g.next)
    (splitter n : Nat) :
    ∃ head g9 W9 ff lf, (∀ {β : Type} (k : Trunk → WRef → WRef → GraphM β) (b : β) (g' : Graph),
        Run (k head ff lf) g9 b g' → Run (do
          let head ← Trunk.new
          let inputSplitter ← newWorker ⟨splitter, true⟩ 1 (2 * n)
          train inputSplitter head.train.publisher head.label.publisher
          let featureFolds ← fork inputSplitter
          subscribe featureFolds.uid 0 head.train.publisher
          let labelFolds ← fork inputSplitter
          subscribe labelFolds.uid 0 head.label.publisher
          k head featureFolds labelFolds) g b g') ∧
      TrunkOk True g g9 W W9 head xa xt xl r ⟨xa, xt, xl, [(splitter, .state splitter .none xt xl)]⟩ ∧
      g9.next = g.next + 7 ∧
      SplitPubs W9 head ff.uid lf.uid (r + 2) xa (.apply splitter (.state splitter .none xt xl) [xt])
        (.apply splitter (.state splitter .none xt xl) [xl]) ∧
      ∀ i j k, FoldReach g9 head.apply.head g.next ⟨head.apply.publisher, ⟨ff.uid, i⟩, ⟨lf.uid, j⟩, ⟨ff.uid, k⟩, default⟩ := by
  obtain ⟨head, g3, W3, hrun0, h0⟩ := spec_new (full := True) g W xa xt xl r hi hw hr
  obtain ⟨eh, eg⟩ := run_det hrun0 (run_trunk_new g)
  have hn3 : g3.next = g.next + 3 := by rw [eg]; rfl
  obtain ⟨ea, et, el⟩ : head.apply.tail = head.apply.head ∧ head.train.tail = head.train.head ∧
      head.label.tail = head.label.head := by rw [eh]; exact ⟨rfl, rfl, rfl⟩
  have hlt3 : ∀ u, W3.live u → u < g3.next := fun u hu => (h0.inv.liveLt u hu).1
  -- the three holes rank `r`
  have pa : PubOk W3 head.apply.publisher (r + 1) xa :=
    ⟨h0.ta.1, by show W3.h head.apply.tail < r + 1; rw [ea, h0.ha.rank]; exact Nat.lt_succ_self _, h0.ta.2⟩
  have pt : PubOk W3 head.train.publisher (r + 1) xt :=
    ⟨h0.tt.1, by show W3.h head.train.tail < r + 1; rw [et, h0.ht.rank]; exact Nat.lt_succ_self _, h0.tt.2⟩
  have pl : PubOk W3 head.label.publisher (r + 1) xl :=
    ⟨h0.tl.1, by show W3.h head.label.tail < r + 1; rw [el, h0.hl.rank]; exact Nat.lt_succ_self _, h0.tl.2⟩
  have b0 := Body.start h0 hr (fun _ => False)
  have nw1 := newWorker_spec b0.inv b0.loop.wired ⟨splitter, true⟩ 1 (2 * n)
  have hnt := (nw1.trainer (g3.next + 1)).trans (h0.inv.bounded.trainerOf_none (Nat.le_succ _))
  obtain ⟨r2, b2⟩ := (b0.node nw1).train g3.next (g3.next + 1) ⟨splitter, true⟩ 1 (2 * n) head.train.publisher
    head.label.publisher rfl (Nat.le_succ _) (Nat.lt_succ_self _) hnt
    (fun u hu hl => absurd (hlt3 u hl) (Nat.not_lt.mpr hu))
  have hT := show (Graph.pushTrain _ ⟨g3.next + 1, g3.next, ⟨splitter, true⟩, head.train.publisher,
      head.label.publisher⟩).trainerOf (g3.next + 1) = some ⟨g3.next + 1, g3.next, ⟨splitter, true⟩, head.train.publisher,
      head.label.publisher⟩ by rw [trainerOf_pushTrain, hnt, if_pos rfl]; rfl
  obtain ⟨WF, runF, bF, adF, inF⟩ := b2.trainedFork ⟨g3.next, g3.next + 1, ⟨splitter, true⟩, 1, 2 * n⟩ head.train.publisher
    (ρ := r + 1) rfl rfl (Nat.le_succ _) (Nat.lt_succ_self _) hT ⟨pt.live, pt.rank⟩ ⟨pl.live, pl.rank⟩ ⟨pt.live, pt.rank⟩
    h0.tails_ge.2.1 (fun h => h) (Or.inl rfl) (by show r + 1 < r + (g3.next + 1 + 1 + 1 - g.next); omega)
  have adF : Adds W3 WF (g3.next + 1 + 1) (r + 1) _ := adF
  have kF : Keeps W3 WF := adF.keeps
  obtain ⟨W9, runL, bL, adL, inL⟩ := bF.trainedFork ⟨g3.next, g3.next + 1, ⟨splitter, true⟩, 1, 2 * n⟩ head.label.publisher
    (ρ := r + 1) rfl rfl (Nat.le_succ _) (Nat.lt_succ_of_lt (Nat.lt_succ_self _)) hT
    (RefOk.keeps ⟨pt.live, pt.rank⟩ kF) (RefOk.keeps ⟨pl.live, pl.rank⟩ kF) (RefOk.keeps ⟨pl.live, pl.rank⟩ kF)
    h0.tails_ge.2.2 (fun h => h) (Or.inr (Or.inl rfl)) (by show r + 1 < r + (g3.next + 1 + 1 + 1 + 1 - g.next); omega)
  have adL : Adds WF W9 (g3.next + 1 + 1 + 1) (r + 1) _ := adL
  have k9 : Keeps W3 W9 := kF.trans adL.keeps
  have T9 := bL.finish h0 head rfl rfl rfl ⟨xa, xt, xl, [(splitter, .state splitter .none xt xl)]⟩
    ⟨(pa.keeps k9).live, (pa.keeps k9).val⟩ ⟨(pt.keeps k9).live, (pt.keeps k9).val⟩ ⟨(pl.keeps k9).live, (pl.keeps k9).val⟩
    (fun x hx => by rw [List.mem_singleton.mp hx]; exact ⟨(pt.keeps k9).live, (pl.keeps k9).live⟩)
    (by
      show [_] = [] ++ [(splitter, Val.state splitter .none (W9.σ head.train.publisher) (W9.σ head.label.publisher))]
      rw [(pt.keeps k9).val, (pl.keeps k9).val]; rfl)
    h0.tails_ge (fun _ _ h => h.elim) Reach.refl (Or.inl rfl) (Or.inl rfl)
  have hge2 : g.next ≤ g3.next + 1 + 1 := by omega
  -- the feature fork hangs on the train hole, the label fork on the label hole: neither is reachable from the apply head
  have offF : ¬ Reach _ head.apply.head (g3.next + 1 + 1) := fun hre =>
    (T9.sep trivial).1 ((T9.reg trivial _ hre (Nat.ne_of_gt (Nat.lt_of_lt_of_le (hlt3 _ h0.ha.live)
      (Nat.le_succ_of_le (Nat.le_succ _))))).2 0 head.train.publisher (inputOf_pushEdge_old inF))
  have offL : ¬ Reach _ head.apply.head (g3.next + 1 + 1 + 1) := fun hre =>
    (T9.sep trivial).2 ((T9.reg trivial _ hre (Nat.ne_of_gt (Nat.lt_of_lt_of_le (hlt3 _ h0.ha.live)
      (Nat.le_succ_of_le (Nat.le_succ_of_le (Nat.le_succ _)))))).2 0 head.label.publisher inL)
  refine ⟨head, _, W9, ⟨g3.next + 1 + 1, g3.next + 1, ⟨splitter, true⟩, 1, 2 * n⟩,
    ⟨g3.next + 1 + 1 + 1, g3.next + 1, ⟨splitter, true⟩, 1, 2 * n⟩,
    fun k b g' hk => Run.bind hrun0 (Run.bind (run_newWorker _ 1 (2 * n) g3) (Run.bind r2 (runF _ b g' (runL _ b g' hk)))),
    T9, by show g3.next + 1 + 1 + 1 + 1 = _; omega, ⟨(pa.keeps k9).mono (Nat.le_succ _), ?_, ?_⟩, fun _ _ _ =>
    ⟨ea ▸ Reach.refl, offF, offL, offF, ⟨h0.tails_ge.1, hge2, Nat.le_succ_of_le hge2, hge2⟩,
      ⟨Nat.lt_of_lt_of_le (hlt3 _ h0.ta.1) (by show g3.next ≤ g3.next + 1 + 1 + 1 + 1; omega),
        Nat.lt_succ_of_lt (Nat.lt_succ_self _), Nat.lt_succ_self _, Nat.lt_succ_of_lt (Nat.lt_succ_self _)⟩⟩⟩
  · intro i
    have p := (adF.pub i).keeps adL.keeps
    exact ⟨p.live, p.rank, by rw [p.val]; simp [portVal, two_mul_ne_one, pt.val, pl.val]⟩
  · intro i
    have p := adL.pub i
    exact ⟨p.live, p.rank, by rw [p.val, (kF _ pt.live).2.1, (kF _ pl.live).2.1]; simp [portVal, two_mul_ne_one, pt.val, pl.val]⟩

/-- the three output collectors of `FullStack.Builder.build`: `label_output`, `train_output` and its fork `apply_output` -/
theorem stackOutputs_spec {g : Graph} {W : World} (hi : Inv g W) (hw : Wired g) (aS aP : Actor) (n N lo : Nat)
    (hlo : lo ≤ g.next) :
    ∃ lO tO aO g1 g2 g3, Run (newWorker aS n 1) g lO g1 ∧ Run (newWorker aP N 1) g1 tO g2 ∧ Run (fork tO) g2 aO g3 ∧
      (g.next ≤ lO.uid ∧ lO.uid < tO.uid ∧ tO.uid < aO.uid ∧ aO.uid < g3.next) ∧
      (lo ≤ lO.gid ∧ lo ≤ tO.gid ∧ lo ≤ aO.gid) ∧ Inv g3 W ∧ Wired g3 ∧ Frame g g3 ∧
      Coll g3 W lO.uid lO.gid aS n 0 (fun _ => default) ∧ Coll g3 W tO.uid tO.gid aP N 0 (fun _ => default) ∧
      Coll g3 W aO.uid aO.gid aP N 0 (fun _ => default) ∧ g3.trains = g.trains ∧
      ∀ u k, g3.inputOf u k = g.inputOf u k := by
  have h1 := newWorker_spec hi hw aS n 1
  have h2 := newWorker_spec h1.inv h1.wired aP N 1
  have h3 := fork_spec h2.inv h2.wired ⟨g.next + 2, g.next + 3, aP, N, 1⟩ (Nat.lt_succ_self _)
  have hlo2 : lo ≤ g.next + 3 := Nat.le_trans hlo (Nat.le_add_right _ 3)
  exact ⟨_, _, _, _, _, _, run_newWorker aS n 1 g, run_newWorker aP N 1 _, run_fork _ _,
    ⟨Nat.le_refl _, h1.next_lt, h2.next_lt, h3.next_lt⟩, ⟨Nat.le_succ_of_le hlo, hlo2, hlo2⟩, h3.inv, h3.wired,
    (h1.frame.trans h2.frame).trans h3.frame,
    (h1.coll hi.bounded rfl rfl rfl).frame (h2.frame.trans h3.frame) (Agree.refl _ _),
    (h2.coll h1.inv.bounded rfl rfl rfl).frame h3.frame (Agree.refl _ _), h3.coll h2.inv.bounded rfl rfl rfl, rfl,
    fun _ _ => rfl⟩

/-- uids of the ensemble by phase: the head draws `[n0, n9)` (at least two uids), the fold rounds `[n9, nF)`, the three
output collectors lie in `[nF, nO)`, the base rounds follow; `RF` is the rank the fold rounds may reach -/
theorem stack_uids {n0 n9 nF nO r RF lO tO aO : Nat} (hr : r ≤ n0) (h9 : n0 + 2 ≤ n9) (hF : n9 ≤ nF)
    (hRF : RF = r + 2 + (nF - n9)) (hc : nF ≤ lO ∧ lO < tO ∧ tO < aO ∧ aO < nO) :
    (∀ x, x = lO ∨ x = tO ∨ x = aO → nF ≤ x ∧ x < nO) ∧ (lO ≠ tO ∧ lO ≠ aO ∧ tO ≠ aO) ∧
      RF ≤ nO ∧ n0 ≤ nF ∧ n0 ≤ nO ∧ n9 ≤ nO ∧ nF < nO := by
  refine ⟨?_, by omega, by omega, by omega, by omega, by omega, by omega⟩
  intro x hx
  rcases hx with e | e | e
  · omega
  · omega
  · omega

/-- ranks of the ensemble: the base rounds (uids `[nL, nB)`) start on the rank `RF` of the fold rounds and may reach `RO`;
everything stays within one level per uid drawn since `n0` -/
theorem stack_ranks {n0 n9 nF nL nB r RF RO : Nat} (hr : r ≤ n0) (h9 : n0 + 2 ≤ n9) (hF : n9 ≤ nF) (hL : nF < nL)
    (hB : nL ≤ nB) (hRF : RF = r + 2 + (nF - n9)) (hRO : RO = RF + (nB - nL)) :
    RO < nB ∧ RO < r + 2 + (nB - n9) ∧ r + 2 < nB ∧ r + 2 < r + 2 + (nB - n9) ∧
      ∀ h, h < r + 2 + (nB - n9) → h < r + (nB - n0) := by
  refine ⟨by omega, by omega, by omega, by omega, ?_⟩
  intro h hh; omega

theorem spec_stack {scope : GraphM Trunk} {S : Scope} (hs : Spec True scope S) (hS : S.Indep)
    (pairs : List (GraphM Trunk × Scope)) (hp : ∀ p ∈ pairs, Spec True p.1 p.2 ∧ p.2.Indep) (hpne : pairs ≠ [])
    (n splitter appender stacker reducer : Nat) (hn : 0 < n) :
    Spec True (composeStack (pairs.map (·.1)) n splitter appender stacker reducer scope)
      (denoteStack (pairs.map (·.2)) n splitter appender stacker reducer S) := by
  intro g W xa xt xl r hi hw hr
  obtain ⟨head, g9, W9, ff, lf, hrunH, T9, hn9, Hpubs, hfr⟩ := stack_trunk hi hw xa xt xl r hr splitter n
  obtain ⟨feats, hfeats⟩ : ∃ x, x = Val.apply splitter (.state splitter .none xt xl) [xt] := ⟨_, rfl⟩
  obtain ⟨labs, hlabs⟩ : ∃ x, x = Val.apply splitter (.state splitter .none xt xl) [xl] := ⟨_, rfl⟩
  rw [← hfeats, ← hlabs] at Hpubs
  obtain ⟨foldSem, hfoldSem⟩ : ∃ f : Nat → Sem, f = fun k => S xa (.proj (2 * k) feats) (.proj (2 * k) labs) := ⟨_, rfl⟩
  obtain ⟨testV, htestV⟩ : ∃ f : Nat → Val,
    f = fun k => (S (.proj (2 * k + 1) feats) (.proj (2 * k) feats) (.proj (2 * k) labs)).apply := ⟨_, rfl⟩
  have hg9 := T9.frame.next_le
  have h29 : g.next + 2 ≤ g9.next := by rw [hn9]; exact Nat.add_le_add_left (by decide) _
  obtain ⟨a, hadef⟩ : ∃ x, x = head.apply.head := ⟨_, rfl⟩
  rw [← hadef] at hfr
  have hlf : g.next ≤ lf.uid ∧ lf.uid < g9.next := ⟨(hfr 0 0 0).ge.2.2.1, (hfr 0 0 0).lt.2.2.1⟩
  have hlt9 : ∀ u, W9.live u → u < g9.next := fun u hu => (T9.inv.liveLt u hu).1
  have ha9 : a < g9.next := by rw [hadef]; exact hlt9 _ T9.ha.live
  obtain ⟨folds, gF, WF, rF, hlF, hlenF, hfvF, trF, hfrF, htrF⟩ :=
    foldsLoop_spec hs hS head ff lf (r + 2) g.next xa feats labs g9 a hfr n 0 g9 W9
      ⟨T9.wired, T9.inv.bounded, ha9, T9.inv, T9.wired, by omega, by omega, Frame.refl g9, Nat.le_refl _,
        AReg.init T9.inv.bounded ha9⟩ Hpubs
  rw [← hfoldSem, ← htestV] at hfvF
  have hnF := hlF.next_le
  obtain ⟨RF, hRF⟩ : ∃ x, x = r + 2 + (gF.next - g9.next) := ⟨_, rfl⟩
  rw [← hRF] at hfvF
  have hltF : ∀ u, WF.live u → u < gF.next := fun u hu => (hlF.inv.liveLt u hu).1
  have hbF := hlF.inv.bounded
  obtain ⟨lO, tO, aO, gO1, gO2, gO, rO1, rO2, rO3, ⟨huL, huLT, huTA, huA⟩, ⟨hgL, hgT, hgA⟩, hiO, hwO, hfO, cL0, cT0, cA0,
      htrO, hinO⟩ := stackOutputs_spec hlF.inv hlF.wired ⟨stacker, false⟩ ⟨appender, false⟩ n (pairs.map (·.1)).length
    g.next (by omega)
  have hlO : LoopOk (fun u => u = lO.uid ∨ u = tO.uid ∨ u = aO.uid) g.next gF gO WF WF RF :=
    LoopOk.ofFrame RF hlF.inv hiO hwO hfO
  obtain ⟨gL, insL, rL, hlL, cL, hinsL, hnL, htrL⟩ :=
    subscribeLabels_spec lO ⟨stacker, false⟩ n g.next RF RF foldSem testV lf.uid folds 0 gO WF _ hiO hwO hfvF
      (by have := hlf.2; have := hfO.next_le; omega) cL0 (fun k hk => absurd hk (Nat.not_lt_zero k))
  rw [Nat.zero_add, hlenF] at cL hinsL
  obtain ⟨hX3, ⟨hne_lt, hne_la, hne_ta⟩, hRFle, hgF, hgL', h9L, hFL⟩ :=
    stack_uids hr h29 hnF hRF ⟨huL, huLT, huTA, hnL ▸ huA⟩
  have hxL := hX3 _ (Or.inl rfl)
  have hxT := hX3 _ (Or.inr (Or.inl rfl))
  have hxA := hX3 _ (Or.inr (Or.inr rfl))
  have cTL := cT0.loop hlL (fun e => hne_lt e.symm)
  have cAL := cA0.loop hlL (fun e => hne_la e.symm)
  have hfFL : Frame gF gL := hlL.frameFrom hfO (fun x hx => hx ▸ huL)
  obtain ⟨gB, WB, insT, insA, rB, hlB, cT, cA, hpB, trB, htrB⟩ :=
    basesLoop_spec folds stacker reducer tO aO hne_ta ⟨appender, false⟩ (pairs.map (·.1)).length RF g.next foldSem testV lf.uid
      gF a gL.next hxT hxA
      hfrF (by rw [hlenF]; exact hn) (pairs.map (·.2)) pairs hp []
      gL WF none none _ _ gL.next rfl
      ⟨hlF.wired, hbF, Nat.lt_of_lt_of_le ha9 hnF, hlL.inv, hlL.wired, hRFle, hgL', hfFL, Nat.le_refl _,
        AReg.init hlL.inv.bounded (Nat.lt_of_lt_of_le ha9 h9L)⟩
      (Nat.le_refl _) hfvF cTL cAL trivial trivial (fun b hb => absurd hb (Nat.not_lt_zero b))
  simp only [List.length_nil, Nat.zero_add] at cT cA hpB rB
  have hnB := hlB.next_le
  have hlenP : (pairs.map (·.1)).length = pairs.length := List.length_map _
  rw [← hlenP] at cT cA
  have cLB := cL.loop hlB (fun hx => hx.elim hne_lt hne_la)
  have hmid : LoopOk (fun u => u = lO.uid ∨ u = tO.uid ∨ u = aO.uid) g.next gF gB WF WB RF :=
    (hlO.trans (hlL.weaken (fun _ h => Or.inl h) (Nat.le_refl _))).trans (hlB.weaken (fun _ h => Or.inr h) (Nat.le_refl _))
  have hAll : LoopOk (fun u => u = lO.uid ∨ u = tO.uid ∨ u = aO.uid) g.next g9 gB W9 WB (r + 2) :=
    (hlF.weaken (fun _ h => h.elim) (Nat.le_refl _)).seq (hRF ▸ hmid) (fun _ _ h => h)
  have pubL : ∀ k, PubOk WB ⟨lf.uid, k⟩ (r + 2) (.proj k labs) := fun k =>
    (Hpubs.lab k).keeps (hAll.agree.keeps hlt9)
  obtain ⟨RO, hRO⟩ : ∃ x, x = RF + (gB.next - gL.next) := ⟨_, rfl⟩
  obtain ⟨hROlt, hROb, hr2, hr2b, rkB⟩ := stack_ranks hr h29 hnF hFL hnB hRF hRO
  rw [← hRO, ← hlenP] at hpB
  obtain ⟨W1, hAll1, ad1⟩ := hAll.mkLive cLB rfl (Nat.le_trans hnF hxL.1) hgL hr2 hr2b
    (v := fun k => .proj (2 * k + 1) labs) (fun k hk => by rw [hinsL k hk]; exact pubL _)
  obtain ⟨W2, hAll2, ad2⟩ := hAll1.mkLive (cT.adds ad1 hne_lt.symm) rfl (Nat.le_trans hnF hxT.1)
    hgT hROlt hROb (fun b hb => (hpB b hb).valT.keeps ad1.keeps)
  obtain ⟨W3, hAll3, ad3⟩ := hAll2.mkLive ((cA.adds ad1 hne_la.symm).adds ad2 hne_ta.symm) rfl
    (Nat.le_trans hnF hxA.1) hgA hROlt hROb (fun b hb => ((hpB b hb).valA.keeps ad1.keeps).keeps ad2.keeps)
  have pA := ad3.pub 0
  have pT3 := (ad2.pub 0).keeps ad3.keeps
  have pL3 := ((ad1.pub 0).keeps ad2.keeps).keeps ad3.keeps
  have keepB : Keeps WB W3 := (ad1.keeps.trans ad2.keeps).trans ad3.keeps
  have hrun : Run (composeStack (pairs.map (·.1)) n splitter appender stacker reducer scope) g
      ⟨⟨head.apply.head, aO.uid⟩, ⟨head.train.head, tO.uid⟩, ⟨head.label.head, lO.uid⟩⟩ gB := by
    unfold composeStack
    exact hrunH _ _ _ (Run.bind rF (Run.bind rO1 (Run.bind rO2 (Run.bind rO3 (Run.bind rL (Run.bind rB (Run.pure _ _)))))))
  have hF9B : Frame g9 gB := hAll.frameFrom (Frame.refl g9) (fun x hx => Nat.le_trans hnF (hX3 x hx).1)
  have hFFB : Frame gF gB := hmid.frameFrom (Frame.refl gF) (fun x hx => (hX3 x hx).1)
  have hlenpos : 0 < pairs.length := List.length_pos_iff.mpr hpne
  have hget : ∀ f : Scope → Val, (List.range (pairs.map (·.1)).length).map
      (fun b => f ((pairs.map (·.2)).getD b Scope.origin)) = (pairs.map (·.2)).map f := fun f => by
    have := map_range_getD f Scope.origin (pairs.map (·.2))
    rwa [List.length_map, ← hlenP] at this
  -- of the three collectors only `apply_output` is on the apply side
  obtain ⟨haregAll, hmidR⟩ := trF.areg.close (X := fun _ => False) (On := fun s => s = aO.uid) hlF.toFrame T9.wired hlF.wired
    (fun _ hx => hx.elim) (fun u k hu _ => hFFB.input u k hu) (hFFB.input_mono hbF)
    (ad3.agree (ad2.agree (ad1.agree hmid.agree hxL.1) hxT.1) hxA.1)
    hnF (Nat.lt_of_lt_of_le ha9 hnF) (Nat.le_of_lt hFL) trB.areg (fun q _ => (Nat.lt_or_ge q g9.next).symm)
    (by
      intro s h1 h2 k q hq
      by_cases eL : s = lO.uid
      · rw [eL] at hq
        obtain ⟨hk, e⟩ := cLB.input_full hq
        have eq : q.node = lf.uid := by rw [e, hinsL k hk]
        exact ⟨Or.inr ⟨eq ▸ hlf.1, eq ▸ hlf.2⟩, fun hr => absurd (Reach.old hF9B T9.wired hlf.2 (eq ▸ hr)) (hfr 0 0 0).tl,
          fun e' => absurd (eL.symm.trans e') hne_la⟩
      · by_cases eT : s = tO.uid
        · rw [eT] at hq
          obtain ⟨hk, e⟩ := cT.input_full hq
          exact ⟨Or.inl (e ▸ (hpB k hk).geT), fun hr => absurd hr (e ▸ (hpB k hk).offT),
            fun e' => absurd (eT.symm.trans e') hne_ta⟩
        · by_cases eA : s = aO.uid
          · rw [eA] at hq
            obtain ⟨hk, e⟩ := cA.input_full hq
            exact ⟨Or.inl (e ▸ (hpB k hk).geA), fun _ => eA, fun _ => e ▸ (hpB k hk).onA⟩
          · exfalso
            rw [hlB.input s k h2 (fun hx => hx.elim eT eA), hlL.input s k (by omega) eL, hinO,
              hbF.inputOf_none h1 k] at hq
            cases hq)
    (fun s _ _ e => ⟨e ▸ pA.live, 0, _, e ▸ cA.filled 0 (by rw [hlenP]; exact hlenpos)⟩)
    (fun n _ hl => (keepB ⟨n, 0⟩ hl).1)
  have rA : Reach gB a aO.uid := (hmidR _ hxA.1 hxA.2).mpr rfl
  have nT : ¬ Reach gB a tO.uid := fun hr => hne_ta ((hmidR _ hxT.1 hxT.2).mp hr)
  have nL : ¬ Reach gB a lO.uid := fun hr => hne_la ((hmidR _ hxL.1 hxL.2).mp hr)
  have hB := ((htrF.keeps (hmid.agree.keeps hltF)).append (htrB.start (htrL.trans htrO))).keeps keepB
  subst hadef
  refine ⟨_, gB, W3, hrun, T9.step hAll3.inv hF9B hAll3.agree hAll3.noOpen
    ⟨⟨head.apply.head, aO.uid⟩, ⟨head.train.head, tO.uid⟩, ⟨head.label.head, lO.uid⟩⟩ rfl rfl rfl
    (denoteStack (pairs.map (·.2)) n splitter appender stacker reducer S xa xt xl)
    ⟨pA.live, ?_⟩ ⟨pT3.live, ?_⟩ ⟨pL3.live, ?_⟩ hB ?_ hAll3.fresh
    ⟨hlB.wired, ⟨Nat.le_trans hgF hxA.1, Nat.le_trans hgF hxT.1, Nat.le_trans hgF hxL.1⟩,
      fun n' hn' hl' => rkB _ (hAll3.rank n' hn' hl'),
      fun _ m hm hre _ => haregAll.reg m hm hre, fun _ => rA, fun _ => ⟨nT, nL⟩,
      fun _ s k q hs hq => (haregAll.es s k q hs hq).elim (Nat.le_trans hg9) (fun h => h.1)⟩⟩
  · rw [pA.val, hget]
    subst hfoldSem hfeats hlabs
    simp only [denoteStack, hlenF, List.map_map]
    rfl
  · rw [pT3.val, hget]
    subst hfoldSem htestV hfeats hlabs
    simp only [denoteStack, hlenF, List.map_map]
    rfl
  · rw [pL3.val]
    subst hlabs
    simp only [denoteStack]
  · subst hfoldSem hfeats hlabs
    simp only [denoteStack, hlenF, Nat.zero_add, List.map_map]
    rfl

end ForML.Compose
