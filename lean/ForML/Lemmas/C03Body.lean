/-
An operator body in progress on top of its scope: `Body … g2 W2 ts` is the certified extension (`LoopOk`) of the scope's
graph `g1` reached so far, the trainings `ts` recorded since and the two-sides discipline of `StepOk.ofSides`
kept subscription by subscription; one lemma per primitive of the composition API, closed by `Body.finish`
(= `TrunkOk.step` + `StepOk.ofSides`).  A training may be recorded before its publishers are evaluable
(`wrap.Operator` trains on the output of its label worker, which is subscribed last): what the trainings produce is asked
for at `Body.finish`.
-/
import ForML.Lemmas.C03Loop

namespace ForML.Compose

/-- `g`: the graph the scope was expanded from, `r` its head rank (those of `TrunkOk`); `g1`, `W1`, `left`: graph,
valuation and trunk the scope left behind; `g2`, `W2`: graph and valuation the body has reached; `ts`: the trainings it
has recorded; `A`: which of its nodes (uid ≥ `g1.next`) lie on the apply side. -/
structure Body (g g1 : Graph) (W1 : World) (left : Trunk) (r : Nat) (A : Nat → Prop) (g2 : Graph) (W2 : World)
    (ts : List Training) : Prop where
  le : g.next ≤ g1.next
  hr : r ≤ g.next
  inv1 : Inv g1 W1
  loop : LoopOk (fun _ => False) g1.next g1 g2 W1 W2 (r + (g1.next - g.next))
  trains : g2.trains = g1.trains ++ ts
  sideA : ∀ n k q, g1.next ≤ n → A n → g2.inputOf n k = some q → g.next ≤ q.node ∧ Reach g2 left.apply.tail q.node
  sideB : ∀ n k q, g1.next ≤ n → ¬ A n → g2.inputOf n k = some q → g.next ≤ q.node ∧
    (q = left.train.publisher ∨ q = left.label.publisher ∨ (g1.next ≤ q.node ∧ ¬ A q.node))

namespace Body

variable {full : Prop} {g g1 g2 : Graph} {W W1 W2 : World} {left : Trunk} {xa xt xl : Val} {r : Nat} {s : Sem}
  {A : Nat → Prop} {ts : List Training}

theorem start (h1 : TrunkOk full g g1 W W1 left xa xt xl r s) (hr : r ≤ g.next) (A : Nat → Prop) :
    Body g g1 W1 left r A g1 W1 [] :=
  ⟨h1.frame.next_le, hr, h1.inv, LoopOk.refl h1.inv h1.wired _, (List.append_nil _).symm,
    fun _ k _ hn _ hq => (nomatch (h1.inv.bounded.inputOf_none hn k).symm.trans hq),
    fun _ k _ hn _ hq => (nomatch (h1.inv.bounded.inputOf_none hn k).symm.trans hq)⟩

theorem inv (b : Body g g1 W1 left r A g2 W2 ts) : Inv g2 W2 := b.loop.inv

theorem old_lt (b : Body g g1 W1 left r A g2 W2 ts) {n : Nat} (h : W1.live n) : n < g2.next :=
  Nat.lt_of_lt_of_le (b.inv1.liveLt n h).1 b.loop.next_le

/-- a node of the body that subscribes to a tail of the scope can take the rank `r + (g1.next - g.next)` -/
theorem tails (b : Body g g1 W1 left r A g2 W2 ts) (h1 : TrunkOk full g g1 W W1 left xa xt xl r s) :
    PubOk W2 ⟨left.apply.tail, 0⟩ (r + (g1.next - g.next)) s.apply ∧
      PubOk W2 ⟨left.train.tail, 0⟩ (r + (g1.next - g.next)) s.train ∧
      PubOk W2 ⟨left.label.tail, 0⟩ (r + (g1.next - g.next)) s.label :=
  have tail {u : Nat} {v : Val} (hu : g.next ≤ u) (h : W1.live u ∧ W1.σ ⟨u, 0⟩ = v) : PubOk W2 ⟨u, 0⟩ _ v :=
    (⟨h.1, h1.rank u hu h.1, h.2⟩ : PubOk W1 ⟨u, 0⟩ _ v).keeps (b.loop.keeps b.inv1)
  ⟨tail h1.tails_ge.1 h1.ta, tail h1.tails_ge.2.1 h1.tt, tail h1.tails_ge.2.2 h1.tl⟩

theorem rank_bounds (b : Body g g1 W1 left r A g2 W2 ts) {ρ : Nat} (hρ : ρ < r + (g2.next - g.next)) :
    ρ < g2.next ∧ ρ < r + (g1.next - g.next) + (g2.next - g1.next) := by
  have := b.loop.next_le
  have := b.le
  have := b.hr
  omega

theorem node (b : Body g g1 W1 left r A g2 W2 ts) {g3 : Graph} {w : WRef} (nw : NewWorker g2 g3 W2 w) :
    Body g g1 W1 left r A g3 W2 ts := by
  have mono : ∀ s k q, g2.inputOf s k = some q → g3.inputOf s k = some q := fun s k q h => by rw [nw.input]; exact h
  refine ⟨b.le, b.hr, b.inv1, b.loop.trans (LoopOk.ofFrame _ b.loop.inv nw.inv nw.wired nw.frame), nw.trains.trans b.trains,
    ?_, ?_⟩
  · intro n k q hn ha hq
    rw [nw.input] at hq
    exact ⟨(b.sideA n k q hn ha hq).1, (b.sideA n k q hn ha hq).2.mono mono⟩
  · intro n k q hn ha hq
    rw [nw.input] at hq
    exact b.sideB n k q hn ha hq

/-- `flow.Worker(a, i, 1)`; the caller names the uid it gets -/
theorem newWorker (b : Body g g1 W1 left r A g2 W2 ts) {u : Nat} (hu : g2.next = u) (a : Actor) (i : Nat) :
    ∃ g3, Run (newWorker a i 1) g2 ⟨u, u + 1, a, i, 1⟩ g3 ∧ g3.next = u + 2 ∧ Frame g2 g3 ∧
      Body g g1 W1 left r A g3 W2 ts ∧ Coll g3 W2 u (u + 1) a i 0 (fun _ => default) ∧ g3.trainerOf (u + 1) = none := by
  subst hu
  have nw := newWorker_spec b.inv b.loop.wired a i 1
  exact ⟨_, run_newWorker a i 1 g2, rfl, nw.frame, b.node nw, nw.coll b.inv.bounded rfl rfl rfl,
    b.inv.bounded.trainerOf_none (Nat.le_succ _)⟩

/-- `p.fork()` -/
theorem fork (b : Body g g1 W1 left r A g2 W2 ts) {u : Nat} (hu : g2.next = u) (uid gid : Nat) (a : Actor) (i : Nat)
    (hp : gid < g2.next) :
    ∃ g3, Run (fork ⟨uid, gid, a, i, 1⟩) g2 ⟨u, gid, a, i, 1⟩ g3 ∧ g3.next = u + 1 ∧ Frame g2 g3 ∧
      Body g g1 W1 left r A g3 W2 ts ∧ Coll g3 W2 u gid a i 0 (fun _ => default) := by
  subst hu
  have nw := fork_spec b.inv b.loop.wired ⟨uid, gid, a, i, 1⟩ hp
  exact ⟨_, run_fork _ g2, rfl, nw.frame, b.node nw, nw.coll b.inv.bounded rfl rfl rfl⟩

/-- a subscription of a pending node of the body: the one place where the two sides are checked -/
theorem edge (b : Body g g1 W1 left r A g2 W2 ts) {u k : Nat} (hu : g1.next ≤ u) (hnl : ¬ W2.live u) (hlt : u < g2.next)
    (hfree : g2.inputOf u k = none) (q : PubRef) (hq : q.node < g2.next) (hge : g.next ≤ q.node)
    (hA : A u → Reach g2 left.apply.tail q.node)
    (hB : ¬ A u → q = left.train.publisher ∨ q = left.label.publisher ∨ (g1.next ≤ q.node ∧ ¬ A q.node)) :
    Run (subscribe u k q) g2 () (g2.pushEdge ⟨u, k, q⟩) ∧ Body g g1 W1 left r A (g2.pushEdge ⟨u, k, q⟩) W2 ts := by
  have mono : ∀ s k' p, g2.inputOf s k' = some p → (g2.pushEdge ⟨u, k, q⟩).inputOf s k' = some p :=
    fun _ _ _ h => inputOf_pushEdge_old h
  refine ⟨run_subscribe u k q g2 hfree, b.le, b.hr, b.inv1,
    b.loop.pushColl ⟨u, k, q⟩ (fun h => absurd h (Nat.not_lt.mpr hu)) hnl hlt hfree hq, b.trains, ?_, ?_⟩
  · intro n k' p hn ha hp
    rcases inputOf_pushEdge_cases hp with h | ⟨e1, _, e3⟩
    · exact ⟨(b.sideA n k' p hn ha h).1, (b.sideA n k' p hn ha h).2.mono mono⟩
    · have e1' : u = n := e1
      have e3' : q = p := e3
      subst e1' e3'
      exact ⟨hge, (hA ha).mono mono⟩
  · intro n k' p hn ha hp
    rcases inputOf_pushEdge_cases hp with h | ⟨e1, _, e3⟩
    · exact b.sideB n k' p hn ha h
    · have e1' : u = n := e1
      have e3' : q = p := e3
      subst e1' e3'
      exact ⟨hge, hB ha⟩

theorem push (b : Body g g1 W1 left r A g2 W2 ts) {col gid : Nat} {a : Actor} {N i : Nat} {ins : Nat → PubRef}
    (c : Coll g2 W2 col gid a N i ins) (hcol : g1.next ≤ col) (q : PubRef) (hq : q.node < g2.next) (hge : g.next ≤ q.node)
    (hA : A col → Reach g2 left.apply.tail q.node)
    (hB : ¬ A col → q = left.train.publisher ∨ q = left.label.publisher ∨ (g1.next ≤ q.node ∧ ¬ A q.node)) :
    Run (subscribe col i q) g2 () (g2.pushEdge ⟨col, i, q⟩) ∧ Body g g1 W1 left r A (g2.pushEdge ⟨col, i, q⟩) W2 ts ∧
      Coll (g2.pushEdge ⟨col, i, q⟩) W2 col gid a N (i + 1) (fun k => if k = i then q else ins k) :=
  have h := b.edge hcol c.notLive c.lt (c.free i (Nat.le_refl _)) q hq hge hA hB
  ⟨h.1, h.2, (c.push b.inv b.loop.wired q hq).2.2.2⟩

/-- `w.train(tr, lb)` -/
theorem train (b : Body g g1 W1 left r A g2 W2 ts) (uid gid : Nat) (a : Actor) (i o : Nat) (tr lb : PubRef)
    (hs : a.stateful = true) (hg : g1.next ≤ gid) (hlt : gid < g2.next) (hnt : g2.trainerOf gid = none)
    (hnl : ∀ n, g1.next ≤ n → W2.live n → ∀ a' i' o', g2.kindOf n ≠ some (.worker gid a' i' o')) :
    Run (ForML.Compose.train ⟨uid, gid, a, i, o⟩ tr lb) g2 () (g2.pushTrain ⟨gid, uid, a, tr, lb⟩) ∧
      Body g g1 W1 left r A (g2.pushTrain ⟨gid, uid, a, tr, lb⟩) W2 (ts ++ [⟨gid, uid, a, tr, lb⟩]) := by
  have hi3 : Inv (g2.pushTrain ⟨gid, uid, a, tr, lb⟩) W2 := b.inv.pushTrain _ hlt fun n hl a' i' o' hk => by
    by_cases hn : n < g1.next
    · exact absurd (b.inv1.bounded.gid_lt ((b.loop.kind n hn).symm.trans hk)) (Nat.not_lt.mpr hg)
    · exact hnl n (Nat.le_of_not_lt hn) hl a' i' o' hk
  refine ⟨run_train ⟨uid, gid, a, i, o⟩ tr lb g2 hs hnt, b.le, b.hr, b.inv1,
    ⟨hi3, b.loop.wired.pushTrain _, b.loop.next_le, b.loop.kind, b.loop.input, b.loop.inputMono,
      fun gid' hgid => (trainerOf_pushTrain_ne (Nat.ne_of_gt (Nat.lt_of_lt_of_le hgid hg))).trans (b.loop.trainer gid' hgid),
      b.loop.agree, b.loop.rank, b.loop.fresh, b.loop.noOpen⟩,
    by rw [pushTrain_trains, b.trains, List.append_assoc],
    fun n k q hn ha hq => ⟨(b.sideA n k q hn ha hq).1, Reach.mono (g := g2) (fun _ _ _ h => h) (b.sideA n k q hn ha hq).2⟩,
    b.sideB⟩

/-- `if c then w.fork().train(tr, lb)` -/
theorem trainIf (b : Body g g1 W1 left r A g2 W2 ts) (c : Bool) (w : WRef) (tr lb : PubRef)
    (hs : c = true → w.actor.stateful = true) (hg : g1.next ≤ w.gid) (hlt : w.gid < g2.next)
    (hnt : g2.trainerOf w.gid = none)
    (hnl : ∀ n, g1.next ≤ n → W2.live n → ∀ a' i' o', g2.kindOf n ≠ some (.worker w.gid a' i' o')) :
    Body g g1 W1 left r A (ForML.Compose.trainIf c w tr lb g2) W2
      (ts ++ if c then [⟨w.gid, g2.next, w.actor, tr, lb⟩] else []) := by
  cases c
  · simpa [ForML.Compose.trainIf] using b
  · have nw := fork_spec b.inv b.loop.wired w hlt
    exact ((b.node nw).train g2.next w.gid w.actor w.szin w.szout tr lb (hs rfl) hg (Nat.lt_succ_of_lt hlt)
      ((nw.trainer _).trans hnt) (fun n hn hl a' i' o' hk => by
        have hlt' : n < g2.next := (b.inv.liveLt n hl).1
        rw [nw.frame.kind n hlt'] at hk
        exact hnl n hn hl a' i' o' hk)).2

theorem live (b : Body g g1 W1 left r A g2 W2 ts) {u gid : Nat} {a : Actor} {N o : Nat} (ins : Nat → PubRef)
    (hk : g2.kindOf u = some (.worker gid a N o)) (hnl : ¬ W2.live u) (hu : g1.next ≤ u) (hgid : g1.next ≤ gid) (ρ : Nat)
    (hρ : ρ < r + (g2.next - g.next)) (st : Val) (hst : StateFor g2 W2 gid a ρ st)
    (hins : ∀ k, k < N → g2.inputOf u k = some (ins k) ∧ RefOk W2 (ins k) ρ) :
    ∃ W3, Body g g1 W1 left r A g2 W3 ts ∧
      Adds W2 W3 u ρ (fun i => portVal o i (.apply a.tag st ((List.range N).map (fun k => W2.σ (ins k))))) := by
  obtain ⟨W3, hi3, ad⟩ := b.inv.addWorker u gid a N o ins ρ st hk hnl (b.rank_bounds hρ).1 hins hst
  exact ⟨W3, ⟨b.le, b.hr, b.inv1, b.loop.adds ad hi3 hu (b.rank_bounds hρ).2 hk hgid, b.trains, b.sideA, b.sideB⟩, ad⟩

/-- a subscribed unary worker of the body whose group — when its actor is stateful — is trained on `(lt, lp)` becomes
evaluable: it applies the actor, in the state trained on what `lt` and `lp` carry, to what its publisher carries -/
theorem liveUnary (b : Body g g1 W1 left r A g2 W2 ts) {u gid : Nat} {m : Actor} {q lt lp : PubRef} {x vt vl : Val}
    (hk : g2.kindOf u = some (.worker gid m 1 1)) (hin : g2.inputOf u 0 = some q) (hnl : ¬ W2.live u) (hu : g1.next ≤ u)
    (hgid : g1.next ≤ gid) (htr : m.stateful = true → ∃ t, g2.trainerOf gid = some t ∧ t.train = lt ∧ t.label = lp)
    (ρ : Nat) (hρ : ρ < r + (g2.next - g.next)) (hq : PubOk W2 q ρ x) (ht : PubOk W2 lt ρ vt) (hl : PubOk W2 lp ρ vl) :
    ∃ W3, Body g g1 W1 left r A g2 W3 ts ∧ Adds W2 W3 u ρ (fun _ => applied m (trainedState m vt vl) x) := by
  have hst : StateFor g2 W2 gid m ρ (trainedState m vt vl) := by
    by_cases hsf : m.stateful = true
    · obtain ⟨t, e, x1, x2⟩ := htr hsf
      rw [trainedState, if_pos hsf, ← ht.val, ← hl.val, ← x1, ← x2]
      exact .trained e hsf (by rw [x1]; exact ⟨ht.live, ht.rank⟩) (by rw [x2]; exact ⟨hl.live, hl.rank⟩)
    · rw [trainedState, if_neg hsf]
      exact .stateless (by simpa using hsf)
  obtain ⟨W3, b', ad⟩ := b.live (fun _ => q) hk hnl hu hgid ρ hρ _ hst
    (fun k hk => by rw [Nat.lt_one_iff.mp hk]; exact ⟨hin, hq.live, hq.rank⟩)
  exact ⟨W3, b', hq.val ▸ ad⟩

theorem mkLive (b : Body g g1 W1 left r A g2 W2 ts) {col gid : Nat} {a : Actor} {N : Nat} {ins : Nat → PubRef}
    (c : Coll g2 W2 col gid a N N ins) (hcol : g1.next ≤ col) (hgid : g1.next ≤ gid) (ρ : Nat)
    (hρ : ρ < r + (g2.next - g.next)) (st : Val) (hst : StateFor g2 W2 gid a ρ st) {v : Nat → Val}
    (hins : ∀ k, k < N → PubOk W2 (ins k) ρ (v k)) :
    ∃ W3, Body g g1 W1 left r A g2 W3 ts ∧ Adds W2 W3 col ρ (fun _ => .apply a.tag st ((List.range N).map v)) := by
  obtain ⟨W3, b', ad⟩ := b.live ins c.kind c.notLive hcol hgid ρ hρ st hst fun k hk =>
    ⟨c.filled k hk, (hins k hk).live, (hins k hk).rank⟩
  rw [List.map_congr_left fun k hk => (hins k (List.mem_range.mp hk)).val] at ad
  exact ⟨W3, b', ad⟩

/-- `f = w.fork(); f[0].subscribe(p)` for a worker `w` of a group the body has trained (`T`), off the apply side: the fork
becomes evaluable on the state its group is trained to, at rank `ρ`, above its three publishers (those of `T`, and `p`) -/
theorem trainedFork (b : Body g g1 W1 left r A g2 W2 ts) (w : WRef) (p : PubRef) {T : Training} {ρ : Nat} (hsz : w.szin = 1)
    (hs : w.actor.stateful = true) (hg : g1.next ≤ w.gid) (hlt : w.gid < g2.next) (hT : g2.trainerOf w.gid = some T)
    (rt : RefOk W2 T.train ρ) (rl : RefOk W2 T.label ρ) (rp : RefOk W2 p ρ) (hge : g.next ≤ p.node) (hna : ¬ A g2.next)
    (hB : p = left.train.publisher ∨ p = left.label.publisher ∨ (g1.next ≤ p.node ∧ ¬ A p.node))
    (hρ : ρ < r + (g2.next + 1 - g.next)) :
    ∃ W3, (∀ {β : Type} (k : WRef → GraphM β) (x : β) (g' : Graph),
        Run (k { w with uid := g2.next }) ((g2.bump.pushNode ⟨g2.next, .worker w.gid w.actor w.szin w.szout⟩).pushEdge
          ⟨g2.next, 0, p⟩) x g' →
        Run (do let f ← ForML.Compose.fork w; subscribe f.uid 0 p; k f) g2 x g') ∧
      Body g g1 W1 left r A ((g2.bump.pushNode ⟨g2.next, .worker w.gid w.actor w.szin w.szout⟩).pushEdge ⟨g2.next, 0, p⟩) W3
        ts ∧
      Adds W2 W3 g2.next ρ (fun i => portVal w.szout i
        (.apply w.actor.tag (.state w.actor.tag .none (W2.σ T.train) (W2.σ T.label)) [W2.σ p])) ∧
      ((g2.bump.pushNode ⟨g2.next, .worker w.gid w.actor w.szin w.szout⟩).pushEdge ⟨g2.next, 0, p⟩).inputOf g2.next 0 = some p := by
  have nw := fork_spec b.inv b.loop.wired w hlt
  have fr := nw.free b.inv.bounded 0
  obtain ⟨r2, b2⟩ := (b.node nw).edge (Nat.le_trans b.loop.next_le (Nat.le_refl _)) nw.notLive (Nat.lt_succ_self _) fr p
    (Nat.lt_succ_of_lt (b.inv.liveLt _ rp.1).1) hge (fun h => absurd h hna) (fun _ => hB)
  obtain ⟨W3, b3, ad⟩ := b2.live (fun _ => p) (by simpa using nw.kind) nw.notLive b.loop.next_le hg ρ hρ
    (.state w.actor.tag .none (W2.σ T.train) (W2.σ T.label)) (StateFor.trained (t := T) hT hs rt rl)
    (fun k hk => by
      obtain rfl : k = 0 := by omega
      exact ⟨inputOf_pushEdge_self fr, rp⟩)
  rw [hsz] at ad
  exact ⟨W3, fun k x g' hk => Run.bind (run_fork w g2) (Run.bind (run_subscribe _ 0 p _ fr) hk), b3, ad,
    inputOf_pushEdge_self fr⟩

/-- which of the uids not drawn yet lie on the apply side is still open -/
theorem relabelFresh (b : Body g g1 W1 left r A g2 W2 ts) (A' : Nat → Prop) (h : ∀ n, n < g2.next → (A' n ↔ A n)) :
    Body g g1 W1 left r A' g2 W2 ts := by
  have old : ∀ {n k q}, g2.inputOf n k = some q → n < g2.next ∧ q.node < g2.next := fun hq =>
    ⟨b.inv.edgesLt _ (inputOf_mem hq), b.loop.wired.pub_lt hq⟩
  refine ⟨b.le, b.hr, b.inv1, b.loop, b.trains, fun n k q hn ha hq => b.sideA n k q hn ((h n (old hq).1).mp ha) hq,
    fun n k q hn ha hq => ?_⟩
  obtain ⟨h1, h2⟩ := b.sideB n k q hn (fun x => ha ((h n (old hq).1).mpr x)) hq
  exact ⟨h1, h2.imp id (Or.imp id fun ⟨e1, e2⟩ => ⟨e1, fun x => e2 ((h _ (old hq).2).mp x)⟩)⟩

theorem finish (b : Body g g1 W1 left r A g2 W2 ts) (h1 : TrunkOk full g g1 W W1 left xa xt xl r s) (t' : Trunk)
    (hha : t'.apply.head = left.apply.head) (hht : t'.train.head = left.train.head) (hhl : t'.label.head = left.label.head)
    (s' : Sem) (ta : W2.live t'.apply.tail ∧ W2.σ ⟨t'.apply.tail, 0⟩ = s'.apply)
    (tt : W2.live t'.train.tail ∧ W2.σ ⟨t'.train.tail, 0⟩ = s'.train)
    (tl : W2.live t'.label.tail ∧ W2.σ ⟨t'.label.tail, 0⟩ = s'.label) (htr : ∀ t ∈ ts, W2.live t.train.node ∧ W2.live t.label.node)
    (hst : s'.states = s.states ++ ts.map (trainedUnder W2))
    (tge : g.next ≤ t'.apply.tail ∧ g.next ≤ t'.train.tail ∧ g.next ≤ t'.label.tail)
    (liveA : ∀ n, g1.next ≤ n → A n → W2.live n) (tailA : Reach g2 left.apply.tail t'.apply.tail)
    (tailT : t'.train.tail = left.train.tail ∨ (g1.next ≤ t'.train.tail ∧ ¬ A t'.train.tail))
    (tailL : t'.label.tail = left.label.tail ∨ (g1.next ≤ t'.label.tail ∧ ¬ A t'.label.tail)) :
    TrunkOk full g g2 W W2 t' xa xt xl r s' := by
  have n12 := b.loop.next_le
  have hle := b.le
  refine h1.step b.inv b.loop.toFrame b.loop.agree b.loop.noOpen t' hha hht hhl s' ta tt tl ⟨ts, b.trains, htr, rfl⟩ hst
    (fun n hn hl gid a i o hk => Nat.le_trans hle (b.loop.fresh n hn hl gid a i o hk))
    (StepOk.ofSides h1 b.loop.toFrame b.loop.wired A tge ?_ ?_ ?_ (fun _ re => re.trans tailA) (fun _ => tailT) (fun _ => tailL))
  · exact fun n hn hl => rank_step hle n12 ▸ b.loop.rank n hn hl
  · intro _ re n hn ha
    exact ⟨liveA n hn ha, fun k q hq => ⟨(b.sideA n k q hn ha hq).1, re.trans (b.sideA n k q hn ha hq).2⟩⟩
  · intro _ n hn hna k q hq
    exact b.sideB n k q hn hna hq

def _root_.ForML.Compose.Sem.get (s : Sem) : Path → Val
  | .apply => s.apply
  | .train => s.train
  | .label => s.label

def _root_.ForML.Compose.Sem.set (s : Sem) (p : Path) (v : Val) : Sem :=
  match p with
  | .apply => ⟨v, s.train, s.label, s.states⟩
  | .train => ⟨s.apply, v, s.label, s.states⟩
  | .label => ⟨s.apply, s.train, v, s.states⟩

def _root_.ForML.Compose.Trunk.withTail (t : Trunk) (p : Path) (u : Nat) : Trunk :=
  match p with
  | .apply => ⟨⟨t.apply.head, u⟩, t.train, t.label⟩
  | .train => ⟨t.apply, ⟨t.train.head, u⟩, t.label⟩
  | .label => ⟨t.apply, t.train, ⟨t.label.head, u⟩⟩

/-- the body is complete and has extended the one path `p`, to a node `u` of its own carrying `v` -/
theorem finishPath (b : Body g g1 W1 left r A g2 W2 ts) (h1 : TrunkOk full g g1 W W1 left xa xt xl r s) (p : Path) {u : Nat}
    {v : Val} (hu : W2.live u ∧ W2.σ ⟨u, 0⟩ = v) (hge : g1.next ≤ u)
    (htr : ∀ t ∈ ts, W2.live t.train.node ∧ W2.live t.label.node) (states : List (Nat × Val))
    (hst : states = s.states ++ ts.map (trainedUnder W2)) (liveA : ∀ n, g1.next ≤ n → A n → W2.live n)
    (hA : p = .apply → Reach g2 left.apply.tail u) (hB : p ≠ .apply → ¬ A u) :
    TrunkOk full g g2 W W2 (left.withTail p u) xa xt xl r
      ⟨(s.set p v).apply, (s.set p v).train, (s.set p v).label, states⟩ := by
  obtain ⟨pa, pt, pl⟩ := b.tails h1
  have hgu := Nat.le_trans b.le hge
  cases p
  · exact b.finish h1 (left.withTail .apply u) rfl rfl rfl ⟨v, s.train, s.label, states⟩ hu ⟨pt.live, pt.val⟩ ⟨pl.live, pl.val⟩ htr hst
      ⟨hgu, h1.tails_ge.2.1, h1.tails_ge.2.2⟩
      liveA (hA rfl) (Or.inl rfl) (Or.inl rfl)
  · exact b.finish h1 (left.withTail .train u) rfl rfl rfl ⟨s.apply, v, s.label, states⟩ ⟨pa.live, pa.val⟩ hu ⟨pl.live, pl.val⟩ htr hst
      ⟨h1.tails_ge.1, hgu, h1.tails_ge.2.2⟩
      liveA Reach.refl (Or.inr ⟨hge, hB nofun⟩) (Or.inl rfl)
  · exact b.finish h1 (left.withTail .label u) rfl rfl rfl ⟨s.apply, s.train, v, states⟩ ⟨pa.live, pa.val⟩ ⟨pt.live, pt.val⟩ hu htr hst
      ⟨h1.tails_ge.1, h1.tails_ge.2.1, hgu⟩
      liveA Reach.refl (Or.inl rfl) (Or.inr ⟨hge, hB nofun⟩)

/-- `flow.Future()` -/
theorem newFuture (b : Body g g1 W1 left r A g2 W2 ts) {u : Nat} (hu : g2.next = u) :
    ∃ g3, Run newFuture g2 u g3 ∧ g3.next = u + 1 ∧ Frame g2 g3 ∧ Body g g1 W1 left r A g3 W2 ts ∧
      g3.kindOf u = some .future ∧ (∀ k, g3.inputOf u k = none) ∧ ¬ W2.live u := by
  subst hu
  have hb := b.inv.bounded
  have hf : Frame g2 (g2.bump.pushNode ⟨g2.next, .future⟩) := (Frame.refl g2).bump.pushNode _ (Nat.le_refl _)
  have hi3 := b.inv.ofFrame hf (hb.bump.pushNode _ (Nat.lt_succ_self _) nofun)
  refine ⟨_, run_newFuture g2, rfl, hf, ⟨b.le, b.hr, b.inv1,
    b.loop.trans (LoopOk.ofFrame _ b.loop.inv hi3 (b.loop.wired.bump.pushNode _) hf), b.trains,
    fun n k q hn ha hq => ⟨(b.sideA n k q hn ha hq).1, Reach.mono (g := g2) (fun _ _ _ h => h) (b.sideA n k q hn ha hq).2⟩,
    b.sideB⟩, kindOf_pushNode_self (hb.kindOf_none (Nat.le_refl _)), fun k => hb.inputOf_none (Nat.le_refl _) k,
    fun h => absurd (b.inv.liveLt _ h).1 (Nat.lt_irrefl _)⟩

theorem liveFuture (b : Body g g1 W1 left r A g2 W2 ts) {u : Nat} {q : PubRef} (hu : g1.next ≤ u) (hnl : ¬ W2.live u)
    (hk : g2.kindOf u = some .future) (hin : g2.inputOf u 0 = some q) (ρ : Nat) (hρ : ρ < r + (g2.next - g.next))
    (hq : RefOk W2 q ρ) :
    ∃ W3, Body g g1 W1 left r A g2 W3 ts ∧ Adds W2 W3 u ρ (fun _ => W2.σ q) := by
  have ad : Adds W2 (W2.set u (fun _ => W2.σ q) ρ) u ρ (fun _ => W2.σ q) := Adds.set hnl _ _
  have hi3 : Inv g2 (W2.set u (fun _ => W2.σ q) ρ) :=
    b.inv.setLive u _ ρ hnl (b.inv.bounded.uid_lt hk) (b.rank_bounds hρ).1
      (.bound hk hin (by rw [set_h_self]; exact (hq.set hnl _ _).1) fun i => by
        rw [set_σ_self]; exact (hq.set hnl _ _).2.symm)
  exact ⟨_, ⟨b.le, b.hr, b.inv1, b.loop.addsNode ad hi3 hu (b.rank_bounds hρ).2 (fun _ _ _ _ hk' => nomatch hk.symm.trans hk')
    (fun ho => nomatch ho.2.symm.trans hin), b.trains, b.sideA, b.sideB⟩, ad⟩

end Body

/-- `payload.Dump.compose` / `payload.Sniff.compose` -/
theorem spec_debug {full : Prop} {scope : GraphM Trunk} {S : Scope} (hs : Spec full scope S) (a t : Actor)
    (htr : t.stateful = true) : Spec full (composeDebug a t scope) (denoteDebug a t S) := by
  intro g W xa xt xl r hi hw hr
  obtain ⟨left, g1, W1, hrun1, h1⟩ := hs g W xa xt xl r hi hw hr
  have hgg := h1.frame.next_le
  have b1 := Body.start h1 hr (fun n => n = g1.next)
  obtain ⟨g2, r2, n2, f2, b2, cA, htA⟩ := b1.newWorker rfl a 1
  obtain ⟨g3, r3, n3, f3, b3, -, hnt⟩ := b2.newWorker rfl t 1
  obtain ⟨r4, b4⟩ := b3.train g2.next (g2.next + 1) t 1 1 left.train.publisher left.label.publisher htr
    (by omega) (by omega) hnt (fun n hn hl => absurd (h1.inv.liveLt n hl).1 (Nat.not_lt.mpr hn))
  have cA4 := (cA.frame f3 (Agree.refl _ _)).pushTrain ⟨g2.next + 1, g2.next, t, left.train.publisher, left.label.publisher⟩
  have pa := (b4.tails h1).1
  obtain ⟨-, b5, cA5⟩ := b4.push cA4 (Nat.le_refl _) left.apply.publisher (b4.old_lt h1.ta.1) h1.tails_ge.1
    (fun _ => Reach.refl) (fun h => absurd rfl h)
  -- the apply dumper's group is not trained
  have htA5 : ((g3.pushTrain ⟨g2.next + 1, g2.next, t, left.train.publisher, left.label.publisher⟩).pushEdge
      ⟨g1.next, 0, left.apply.publisher⟩).trainerOf (g1.next + 1) = none :=
    (trainerOf_pushTrain_ne (by show g2.next + 1 ≠ g1.next + 1; omega)).trans ((f3.trainer _ (by omega)).trans htA)
  obtain ⟨W2, b6, ad⟩ := b5.mkLive cA5 (Nat.le_refl _) (Nat.le_succ _) (r + (g1.next - g.next))
    (by show _ < r + (g3.next - g.next); omega) .none (.untrained htA5)
    (v := fun _ => (S xa xt xl).apply) (fun k hk => by obtain rfl := Nat.lt_one_iff.mp hk; exact pa)
  obtain ⟨-, pt, pl⟩ := b6.tails h1
  have pA := ad.pub 0
  refine ⟨⟨⟨left.apply.head, g1.next⟩, left.train, left.label⟩, _, W2,
    Run.bind hrun1 (Run.bind r2 (Run.bind r3 (Run.bind r4 (run_trunk_extend
      (run_extendOpt_seg _ _ _ (cA4.free 0 (Nat.le_refl _))) (run_extendOpt_none _ _) (run_extendOpt_none _ _))))),
    b6.finishPath h1 .apply (v := applied a .none (S xa xt xl).apply) ⟨pA.live, pA.val⟩ (Nat.le_refl _)
      (fun x hx => by rw [List.mem_singleton.mp hx]; exact ⟨pt.live, pl.live⟩) _ ?_ (fun n _ e => e ▸ pA.live)
      (fun _ => Reach.one Reach.refl (cA5.filled 0 (Nat.lt_succ_self 0))) (fun h => absurd rfl h)⟩
  · have e1 : W2.σ left.train.publisher = (S xa xt xl).train := pt.val
    have e2 : W2.σ left.label.publisher = (S xa xt xl).label := pl.val
    show _ ++ [(t.tag, trainedState t _ _)] = _ ++ [(t.tag, Val.state t.tag .none (W2.σ left.train.publisher) (W2.σ left.label.publisher))]
    rw [trainedState, if_pos htr, e1, e2]

end ForML.Compose
