/-
Completeness of the collapse — a subscription held by an output port is held by every publisher registered
(transitively) on that port (`Closed`), whatever the order of the calls.
-/
import ForML.Lemmas.C11Chain

namespace ForML.Graph

/-- the subscription `s` is held by output `idx` of `n` and by everything registered upstream of it -/
inductive HoldsUp (g : G) (s : Sub) : Nat → Nat → Prop
  | mk (n idx : Nat) : (⟨n, idx, s⟩ : Edge) ∈ g.edges →
      (isFuture g n = true → ∀ t ∈ pubsAt g n idx, HoldsUp g s t.1 t.2) → HoldsUp g s n idx

def Closed (g : G) : Prop := ∀ e ∈ g.edges, HoldsUp g e.sub e.pub e.out

theorem HoldsUp.edge {g : G} {s : Sub} {n i : Nat} (h : HoldsUp g s n i) : (⟨n, i, s⟩ : Edge) ∈ g.edges := by
  cases h with
  | mk _ _ he _ => exact he

theorem holdsUp_reg (g g' : G) (R : List Reg) (hr : g'.regs = g.regs ++ R) (he : ∀ e ∈ g.edges, e ∈ g'.edges)
    (hF : ∀ e ∈ g.edges, isFuture g' e.pub = isFuture g e.pub)
    (hnew : ∀ r ∈ R, ∀ s, (⟨r.fut, r.idx, s⟩ : Edge) ∈ g.edges → HoldsUp g' s r.pub r.out)
    {s : Sub} {n i : Nat} (h : HoldsUp g s n i) : HoldsUp g' s n i := by
  induction h with
  | mk n idx hedge _ ih =>
    refine .mk n idx (he _ hedge) ?_
    intro hf t ht
    obtain ⟨r0, hr0, h1, h2, h3, h4⟩ := mem_pubsAt.mp ht
    rw [hr] at hr0
    rcases List.mem_append.mp hr0 with hr0 | hr0
    · exact ih (by rw [← hF _ hedge]; exact hf) t (mem_pubsAt.mpr ⟨r0, hr0, h1, h2, h3, h4⟩)
    · have := hnew r0 hr0 s (by rw [h1, h2]; exact hedge)
      rw [h3, h4] at this
      exact this

theorem holdsUp_same (g g' : G) (hs : Same g g') (he : ∀ e ∈ g.edges, e ∈ g'.edges) {s : Sub} {n i : Nat}
    (h : HoldsUp g s n i) : HoldsUp g' s n i :=
  holdsUp_reg g g' [] (by rw [hs.2.1, List.append_nil]) he (fun e _ => hs.isFuture e.pub) nofun h

theorem publishTo_holds : ∀ (fuel : Nat) (g : G) (n idx : Nat) (s : Sub),
    (publishTo fuel g n idx s).2 = .ok → HoldsUp (publishTo fuel g n idx s).1 s n idx := by
  refine publishTo_cases (P := fun _ _ n idx s r => r.2 = .ok → HoldsUp r.1 s n idx)
    (fun _ _ _ _ h => nomatch h) (fun _ _ _ _ _ _ h => nomatch h) ?_ ?_
  · intro k g n idx s hf _ _ _
    refine .mk n idx (addEdge_mem g _) ?_
    intro hfut
    rw [(addEdge_above g ⟨n, idx, s⟩).1.isFuture, hf] at hfut
    cases hfut
  · intro k g n idx s _ _ ih hok
    have hab := foldl_repub_above (k := k) ((pubsAt g n idx).map (fun t => (t.1, t.2, s)))
      (addEdge g ⟨n, idx, s⟩, .ok)
    refine .mk n idx (hab.2 _ (addEdge_mem g _)) ?_
    intro _ t ht
    rw [((addEdge_above g ⟨n, idx, s⟩).1.trans hab.1).pubsAt] at ht
    -- the publisher `t` was served at some point of the loop, and what it got then is still there
    obtain ⟨g0, _, h1, h2⟩ := foldl_repub_each _ _ hok (t.1, t.2, s) (List.mem_map.mpr ⟨t, ht, rfl⟩)
    exact holdsUp_same _ _ h2.1 h2.2 (ih g0 t h1)

theorem holdsUp_up {g : G} (i8 : I8 g) {s : Sub} {a x : Nat × Nat} (hu : Up g a x) :
    HoldsUp g s a.1 a.2 → HoldsUp g s x.1 x.2 := by
  induction hu with
  | refl => exact fun h => h
  | step hst _ ih =>
    intro h
    apply ih
    obtain ⟨r, hr, h1, h2, h3, h4⟩ := hst
    cases h with
    | mk _ _ _ hup =>
      have hf : isFuture g _ = true := h1 ▸ (i8 r hr).1
      have := hup hf (r.pub, r.out) (mem_pubsAt.mpr ⟨r, hr, h1, h2, rfl, rfl⟩)
      rw [← h3, ← h4]; exact this

/-- `Closed` is kept when nodes, edges and registrations are appended, the publisher of every new registration
holds all the way up whatever the placeholder port held, and every new edge holds all the way up -/
theorem closed_grow {g g' : G} {ns : List Node} {N : List Edge} {R : List Reg} (hw : Wf g)
    (hn : g'.nodes = g.nodes ++ ns) (he : g'.edges = g.edges ++ N) (hr : g'.regs = g.regs ++ R) (hc : Closed g)
    (hR : ∀ r ∈ R, ∀ s, (⟨r.fut, r.idx, s⟩ : Edge) ∈ g.edges → HoldsUp g' s r.pub r.out)
    (hN : ∀ e ∈ N, HoldsUp g' e.sub e.pub e.out) : Closed g' := by
  intro e h
  rw [he] at h
  rcases List.mem_append.mp h with h | h
  · exact holdsUp_reg g g' R hr (fun x hx => by rw [he]; exact List.mem_append_left _ hx)
      (fun x hx => isFuture_nodes hn (hw.i7 x hx).1) hR (hc e h)
  · exact hN e h

theorem closed_publish {g : G} {p pi : Nat} {s : Sub} {L : List Edge} (h : Published g p pi s L) (hw : Wf g)
    (hc : Closed g) : Closed (g.published s L) := by
  have hold := publishTo_holds (fuelOf g) (withPort g s) p pi s (by rw [h.run])
  rw [h.run] at hold
  refine closed_grow (ns := []) (R := []) hw (List.append_nil _).symm rfl (List.append_nil _).symm hc nofun ?_
  intro e he
  rw [(h.edge e he).1]
  exact holdsUp_up (h.wf hw).i8
    (Up.mono (g := g) (g' := g.published s L) (fun _ h => h) (tree_up g _ p pi _ (h.along e he))) hold

theorem register_holds {g : G} {f i p pi : Nat} {L : List Edge} (h : Registered g f i p pi L) :
    ∀ s ∈ out g f i, HoldsUp (g.registered ⟨f, i, p, pi⟩ L) s p pi := by
  intro s hs
  have hok := congrArg Prod.snd h.loop
  obtain ⟨g0, _, h1, h2⟩ := foldl_repub_each _ _ hok (p, pi, s) (List.mem_map.mpr ⟨s, hs, rfl⟩)
  rw [h.loop] at h2
  exact holdsUp_same _ _ h2.1 h2.2 (publishTo_holds _ g0 p pi s h1)

theorem closed_register {g : G} {f i p pi : Nat} {L : List Edge} (h : Registered g f i p pi L) (hw : Wf g)
    (hc : Closed g) : Closed (g.registered ⟨f, i, p, pi⟩ L) := by
  have hold := register_holds h
  refine closed_grow (ns := []) hw (List.append_nil _).symm rfl rfl hc ?_ ?_
  · intro r hr s hs
    rw [List.mem_singleton.mp hr] at hs ⊢
    exact hold s (mem_out.mpr hs)
  · intro e he
    obtain ⟨h1, _, _, _, ht⟩ := h.edge e he
    exact holdsUp_up (h.wf hw).i8
      (Up.mono (g := { g with regs := g.regs ++ [⟨f, i, p, pi⟩] }) (g' := g.registered ⟨f, i, p, pi⟩ L) (fun _ h => h)
        (tree_up _ _ p pi _ ht)) (hold e.sub (mem_out.mpr h1))

end ForML.Graph
