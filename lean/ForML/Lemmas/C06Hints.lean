/-
C06 — the visitor with the per-table segments (`visitSourceH`: `Context.tables`, the hint features `visit_table`
generates code for) runs in lockstep with the visitor without them (`visitSource`) on well-formed statements: the
generation of the hint features never fails and leaves the parser state as it was.
-/
import ForML.Lemmas.C06Parse
import ForML.Model.ParserHints
import ForML.Lemmas.ListFacts

namespace ForML.C06
open ForML.Dsl ForML.Rel ForML.Parser ForML.Denote ForML.Parser.Hints

theorem visit_ref_tail (srcs : Sources) (inst : Source) (name : String) (st : PState) :
    visitSource srcs (.ref inst name) st = visitSource srcs inst st >>= refTail inst name := by
  rw [visitSource]; rfl

theorem visit_join_tail (srcs : Sources) (l r : Source) (k : JoinKind) (c : FeatureOpt) (st : PState) :
    visitSource srcs (.join l r k c) st =
      visitSource srcs l st >>= fun st => visitSource srcs r st >>= joinTail srcs l r k c := by
  rw [visitSource]; rfl

theorem visit_set_tail (srcs : Sources) (l r : Source) (k : SetKind) (st : PState) :
    visitSource srcs (.set l r k) st =
      visitSource srcs l st >>= fun st => visitSource srcs r st >>= setTail srcs l r k := by
  rw [visitSource]; rfl

theorem visit_query_tail (srcs : Sources) (src : Source) (sel : Features) (pre : FeatureOpt) (grp : Features)
    (post : FeatureOpt) (ord : Orderings) (rows : Option Rows) (st : PState) :
    visitSource srcs (.query src sel pre grp post ord rows) st =
      visitSource srcs src (enter st) >>= queryTail srcs src sel pre grp post ord rows := by
  rw [visitSource]; rfl

mutual
theorem supportedF_restrict (scope : List Source) (o : Source) :
    ∀ (f : Feature), supportedF scope f = true → (∀ e ∈ elems f, e.1 = o) → supportedF [o] f = true
  | .lit _, _, _ => by simp [supportedF]
  | .elem o' n, _, he => by
    have := he (o', n) (by simp [elems])
    simp only at this
    subst this
    simp [supportedF]
  | .alias f _, hs, he => by
    simp only [supportedF] at hs ⊢
    exact supportedF_restrict scope o f hs (by simpa [elems] using he)
  | .expr op args, hs, he => by
    simp only [supportedF, Bool.and_eq_true] at hs ⊢
    exact ⟨hs.1, supportedFs_restrict scope o args hs.2 (by simpa [elems] using he)⟩
  | .cast _ _, hs, _ => by simp [supportedF] at hs
  | .window _ _ _, hs, _ => by simp [supportedF] at hs
theorem supportedFs_restrict (scope : List Source) (o : Source) :
    ∀ (fs : Features), supportedFs scope fs = true → (∀ e ∈ elemsL fs, e.1 = o) → supportedFs [o] fs = true
  | .nil, _, _ => by simp [supportedFs]
  | .cons f fs, hs, he => by
    simp only [supportedFs, Bool.and_eq_true] at hs ⊢
    exact ⟨supportedF_restrict scope o f hs.1 (fun e h => he e (by simp [elemsL, h])),
      supportedFs_restrict scope o fs hs.2 (fun e h => he e (by simp [elemsL, h]))⟩
end

/-- every entry is a feature over the entry's table alone, built from supported expression classes -/
def FOk (m : FMap) : Prop := ∀ p ∈ m, supportedF [p.1] p.2 = true

theorem primitive_ok (scope : List Source) (f : Feature) (h : supportedF scope f = true) : FOk (primitive f) := by
  intro p hp
  unfold primitive at hp
  cases he : elems f with
  | nil => simp [he] at hp
  | cons e rest =>
    obtain ⟨o, n⟩ := e
    simp only [he] at hp
    by_cases hc : (isTableS o && rest.all (fun e => e.1 == o)) = true
    · simp only [hc, if_true, List.mem_singleton] at hp
      subst hp
      simp only [Bool.and_eq_true, List.all_eq_true, beq_iff_eq] at hc
      apply supportedF_restrict scope o f h
      intro e hm
      rw [he] at hm
      rcases List.mem_cons.mp hm with rfl | hm
      · rfl
      · exact hc.2 e hm
    · simp [hc] at hp

theorem binop_ok (o : Source) (op : Op) (hop : op = .and ∨ op = .or) (a b : Feature) (ha : supportedF [o] a = true)
    (hb : supportedF [o] b = true) : supportedF [o] (binop op a b) = true := by
  rcases hop with rfl | rfl <;>
    simp only [binop, supportedF, supportedFs, featuresLength, ha, hb] <;> decide +kernel

theorem mergeF_ok (op : Op) (hop : op = .and ∨ op = .or) (l r : FMap) (hl : FOk l) (hr : FOk r) : FOk (mergeF op l r) := by
  intro p hp
  simp only [mergeF, List.mem_append, List.mem_map, List.mem_filter] at hp
  rcases hp with ⟨kv, hkv, rfl⟩ | ⟨hp, _⟩
  · cases hb : r.lookup kv.1 with
    | none => simpa using hl kv hkv
    | some b =>
      simp only []
      by_cases he : kv.2 = b
      · simpa [he] using hl kv hkv
      · simp only [he, if_false]
        exact binop_ok kv.1 op hop kv.2 b (hl kv hkv) (hr (kv.1, b) (mem_of_lookup hb))
  · exact hr p hp

theorem orF_ok (l r : FMap) (hl : FOk l) (hr : FOk r) : FOk (orF l r) := by
  intro p hp
  simp only [orF, List.mem_filterMap] at hp
  obtain ⟨kv, hkv, hp⟩ := hp
  cases hb : r.lookup kv.1 with
  | none => simp [hb] at hp
  | some b =>
    simp only [hb, Option.some.injEq] at hp
    subst hp
    by_cases he : kv.2 = b
    · simpa [he] using hl kv hkv
    · simp only [he, if_false]
      exact binop_ok kv.1 .or (Or.inr rfl) kv.2 b (hl kv hkv) (hr (kv.1, b) (mem_of_lookup hb))

/-- the atoms of the skeleton are supported features -/
def PredOk (scope : List Source) : Pred → Prop
  | .atom f => supportedF scope f = true
  | .and a b => PredOk scope a ∧ PredOk scope b
  | .or a b => PredOk scope a ∧ PredOk scope b
  | .other _ => True

theorem factorsP_ok (scope : List Source) : ∀ (p : Pred), PredOk scope p → FOk (factorsP p)
  | .atom f, h => primitive_ok scope f h
  | .and a b, h => mergeF_ok .and (Or.inl rfl) _ _ (factorsP_ok scope a h.1) (factorsP_ok scope b h.2)
  | .or a b, h => orF_ok _ _ (factorsP_ok scope a h.1) (factorsP_ok scope b h.2)
  | .other _, _ => by intro p hp; simp [factorsP] at hp

theorem toPred_ok (scope : List Source) (f : Feature) (h : supportedF scope f = true) : PredOk scope (toPred f) := by
  fun_induction toPred f with
  | case1 a b iha ihb => exact ⟨iha (supportedF_bin h).1, ihb (supportedF_bin h).2⟩
  | case2 a b iha ihb => exact ⟨iha (supportedF_bin h).1, ihb (supportedF_bin h).2⟩
  | case3 => exact h
  | case4 => exact h
  | case5 => trivial
  | case6 => trivial

theorem factorsOf_ok (scope : List Source) (f : Feature) (h : supportedF scope f = true) : FOk (factorsOf f) :=
  factorsP_ok scope _ (toPred_ok scope f h)

def SegsOk (sg : Segs) : Prop := FOk sg.factors

theorem select_ok (sg : Segs) (fs : List Feature) (h : SegsOk sg) : SegsOk (sg.select fs) := h

theorem filter_ok (scope : List Source) (sg : Segs) (e : Feature) (h : SegsOk sg) (he : supportedF scope e = true) :
    SegsOk (sg.filter e) := by
  intro p hp
  simp only [Segs.filter, Segs.select] at hp
  rcases mem_foldl_addNew.mp hp with h1 | h1
  · exact h p h1
  · exact factorsOf_ok scope e he p h1

theorem filterOpt_ok (scope : List Source) (sg : Segs) (c : FeatureOpt) (h : SegsOk sg) (hc : supportedFO scope c = true) :
    SegsOk (sg.filterOpt c) := by
  cases c with
  | none => exact h
  | some e => exact filter_ok scope sg e h (by simpa [supportedFO] using hc)

theorem queryCtx_ok (scope : List Source) (src : Source) (sel : Features) (pre : FeatureOpt) (grp : Features)
    (post : FeatureOpt) (ord : Orderings) (hpre : supportedFO scope pre = true) :
    SegsOk (queryCtx src sel pre grp post ord) := by
  unfold queryCtx
  apply select_ok; apply select_ok; apply select_ok
  apply filterOpt_ok scope _ pre _ hpre
  apply select_ok
  intro p hp
  simp at hp

theorem foldl_or_ok (t : Source) : ∀ (ps : List Feature) (p : Feature), supportedF [t] p = true →
    (∀ x ∈ ps, supportedF [t] x = true) → supportedF [t] (ps.foldl (binop .or) p) = true
  | [], p, hp, _ => by simpa using hp
  | x :: ps, p, hp, hx => by
    simp only [List.foldl]
    exact foldl_or_ok t ps _ (binop_ok t .or (Or.inr rfl) p x hp (hx x (List.mem_cons_self ..)))
      (fun y hy => hx y (List.mem_cons_of_mem _ hy))

theorem hintFeatures_ok (sg : Segs) (t : Source) (h : SegsOk sg) : ∀ f ∈ hintFeatures sg t, supportedF [t] f = true := by
  intro f hf
  simp only [hintFeatures, List.mem_append, List.mem_map, List.mem_filter] at hf
  rcases hf with ⟨kv, _, rfl⟩ | hf
  · simp [supportedF]
  · have hall : ∀ x ∈ (sg.factors.filter (fun kv => kv.1 = t)).map (·.2), supportedF [t] x = true := by
      intro x hx
      simp only [List.mem_map, List.mem_filter, decide_eq_true_eq] at hx
      obtain ⟨kv, ⟨hm, hk⟩, rfl⟩ := hx
      have := h kv hm
      rwa [hk] at this
    cases hps : (sg.factors.filter (fun kv => kv.1 = t)).map (·.2) with
    | nil => simp [hps] at hf
    | cons p ps =>
      rw [hps] at hall
      simp only [hps, List.mem_singleton] at hf
      subst hf
      exact foldl_or_ok t ps p (hall p (List.mem_cons_self ..)) (fun y hy => hall y (List.mem_cons_of_mem _ hy))

/-- generating the code of the hint features of a provisioned table succeeds and leaves the parser state as it was -/
theorem genHints_ok (srcs : Sources) (t : Source) (pn : String) (hq : qual srcs t = some pn) :
    ∀ (fs : List Feature), (∀ f ∈ fs, supportedF [t] f = true) →
      ∀ (syms : List Sym) (origs : List (Source × String)) (stk : List (Option Ctx)), origs.lookup t = some pn →
        genHints fs ⟨some ⟨syms, origs⟩, stk⟩ = .ok ⟨some ⟨syms, origs⟩, stk⟩
  | [], _, _, _, _, _ => rfl
  | f :: fs, hfs, syms, origs, stk, ho => by
    have hreg : Registered srcs origs [t] := by
      intro o hm
      simp only [List.mem_singleton] at hm
      subst hm
      rw [ho, hq]
    have hqs : ∀ o ∈ [t], (qual srcs o).isSome = true := by
      intro o hm
      simp only [List.mem_singleton] at hm
      subst hm
      simp [hq]
    have hs := hfs f (List.mem_cons_self ..)
    obtain ⟨e, he⟩ := compileF_some srcs [t] hqs f hs
    simp only [genHints, genFeature_spec srcs [t] origs hreg f e hs he syms stk, bind, Except.bind]
    exact genHints_ok srcs t pn hq fs (fun g hg => hfs g (List.mem_cons_of_mem _ hg)) syms origs stk ho

/-- the visit with the segments does what the visit without them does, and hands on well-behaved segments -/
def VisitHOk (srcs : Sources) (s : Source) (q : SqlSel) : Prop :=
  ∀ sg, SegsOk sg → ∃ sg', SegsOk sg' ∧
    ∀ (syms : List Sym) (origs : List (Source × String)) (stk : List (Option Ctx)),
      visitSourceH srcs s (⟨some ⟨syms, origs⟩, stk⟩, sg) =
        .ok (⟨some ⟨.src q :: syms, regOrigins srcs s ++ origs⟩, stk⟩, sg')

/-- the visit with the segments `sg` is, on every parser state (failing ones included), the visit without them, with
well-behaved segments paired on -/
def Lockstep (srcs : Sources) (s : Source) : Prop :=
  ∀ sg, SegsOk sg → ∃ sg', SegsOk sg' ∧
    ∀ st, visitSourceH srcs s (st, sg) = (fun st' => (st', sg')) <$> visitSource srcs s st

/-- the one place where the segments are used, the hint code of a table, is inert (`genHints_ok`) -/
theorem visitH_lockstep (srcs : Sources) : ∀ s,
    (wfFrom srcs s = true → isOrigin s = true → Lockstep srcs s) ∧ (wfOut srcs s = true → Lockstep srcs s) := by
  have ref : ∀ inst name, Lockstep srcs inst → Lockstep srcs (.ref inst name) := by
    intro inst name ih sg hsg
    obtain ⟨sg', hsg', hH⟩ := ih sg hsg
    refine ⟨sg', hsg', fun st => ?_⟩
    -- by the monad laws both sides are the same chain: the visits of the parts, the tail, the segments paired on
    rw [visitSourceH]
    simp only [hH, visit_ref_tail, map_eq_pure_bind, bind_assoc, pure_bind]
  refine wf_induction srcs ?_ (fun _ _ name _ _ ih => ref _ name ih) (fun inst name _ _ ih => ref inst name ih) ?_ ?_ ?_
  · intro n fields pn hpn sg hsg
    refine ⟨sg, hsg, fun st => ?_⟩
    rw [visitSourceH, visitSource, hpn]
    obtain ⟨_ | ⟨syms, origs⟩, stk⟩ := st
    · rfl
    · have hg := genHints_ok srcs (.table n fields) pn (by simp [qual, hpn]) (hintFeatures sg (.table n fields))
        (hintFeatures_ok sg _ hsg) syms ((.table n fields, pn) :: origs) stk (by simp [List.lookup])
      simp only [setOrigin_ok, bind, Except.bind, hg]
      rfl
  · intro l r k c hwf ihl ihr sg hsg
    have hc : supportedFO (leaves l ++ leaves r) c = true := by
      cases c with
      | none => rfl
      | some f => exact (wfFrom_join hwf).2.2.2.2.2.2
    obtain ⟨sg1, hsg1, hH1⟩ := ihl (sg.filterOpt c) (filterOpt_ok _ sg c hsg hc)
    obtain ⟨sg2, hsg2, hH2⟩ := ihr sg1 hsg1
    refine ⟨sg2, hsg2, fun st => ?_⟩
    rw [visitSourceH]
    simp only [hH1, hH2, visit_join_tail, map_eq_pure_bind, bind_assoc, pure_bind]
  · intro l r k _ _ ihl ihr sg hsg
    obtain ⟨sg1, hsg1, hH1⟩ := ihl sg hsg
    obtain ⟨sg2, hsg2, hH2⟩ := ihr sg1 hsg1
    refine ⟨sg2, hsg2, fun st => ?_⟩
    rw [visitSourceH]
    simp only [hH1, hH2, visit_set_tail, map_eq_pure_bind, bind_assoc, pure_bind]
  · intro src sel pre grp post ord rows hwf ih sg hsg
    obtain ⟨sg1, _, hH1⟩ := ih (queryCtx src sel pre grp post ord)
      (queryCtx_ok _ src sel pre grp post ord (wfOut_query hwf).2.2.2.2.1)
    refine ⟨sg, hsg, fun st => ?_⟩
    rw [visitSourceH]
    simp only [hH1, visit_query_tail, map_eq_pure_bind, bind_assoc, pure_bind]

theorem visitHOk_of_lockstep {srcs : Sources} {s : Source} {q : SqlSel} (h : Lockstep srcs s) (hv : VisitOk srcs s q) :
    VisitHOk srcs s q := fun sg hsg =>
  (h sg hsg).imp fun sg' h' => ⟨h'.1, fun syms origs stk => by rw [h'.2, hv syms origs stk]; rfl⟩

theorem visitH_from (srcs : Sources) (hT : OnlyTables srcs = true) :
    ∀ (s : Source), wfFrom srcs s = true → isOrigin s = true → ∀ q, compile srcs s = some q → VisitHOk srcs s q :=
  fun s hwf ho q hq => visitHOk_of_lockstep ((visitH_lockstep srcs s).1 hwf ho) ((visit_ok srcs hT s).1 hwf ho q hq)

/-- parsing with the complete `visit_table` (segments, hint features) is parsing without it -/
theorem parseH_eq_parse (srcs : Sources) (s : Source) (h : WF srcs s = true) : parseH srcs s = parse srcs s := by
  simp only [WF, Bool.and_eq_true] at h
  obtain ⟨sg', _, hH⟩ := (visitH_lockstep srcs s).2 h.2 {} (by intro p hp; simp at hp)
  unfold parseH parse
  simp only [hH, map_eq_pure_bind, bind_assoc, pure_bind]
  rfl

end ForML.C06
