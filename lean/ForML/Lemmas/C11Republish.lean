/-
Re-publishing is idempotent, hence `Future._collapse()` — which re-publishes *every*
(registered publisher, held subscription) pair — changes nothing for the pairs that were published before.
This is the justification of `publishTo` forwarding the new subscription only (Model/Graph.lean, `publishTo`).
-/
import ForML.Lemmas.C11Closure

namespace ForML.Graph

theorem foldl_repub_noop_or_depth {k : Nat} {g : G} (l : List (Nat × Nat × Sub))
    (hp : ∀ p ∈ l, publishTo k g p.1 p.2.1 p.2.2 = (g, .ok) ∨ publishTo k g p.1 p.2.1 p.2.2 = (g, .err .recursion)) :
    l.foldl (repub k) (g, .ok) = (g, .ok) ∨ l.foldl (repub k) (g, .ok) = (g, .err .recursion) := by
  refine foldl_repub_inv (P := fun a => a = (g, .ok) ∨ a = (g, .err .recursion)) l _ ?_ (.inl rfl)
  intro a q hq hok ha
  rcases ha with rfl | rfl
  · exact hp q hq
  · cases hok

theorem foldl_repub_noop {k : Nat} {g : G} (l : List (Nat × Nat × Sub))
    (hp : ∀ p ∈ l, publishTo k g p.1 p.2.1 p.2.2 = (g, .ok)) : l.foldl (repub k) (g, .ok) = (g, .ok) :=
  foldl_repub_inv (P := fun a => a = (g, .ok)) l _ (fun _ q hq _ ha => by subst ha; exact hp q hq) rfl

theorem publishTo_again : ∀ (fuel : Nat) (g : G) (n idx : Nat) (s : Sub) (h : G),
    (publishTo fuel g n idx s).2 = .ok → Above (publishTo fuel g n idx s).1 h →
    publishTo fuel h n idx s = (h, .ok) := by
  refine publishTo_cases
    (P := fun fuel _ n idx s r => ∀ h : G, r.2 = .ok → Above r.1 h → publishTo fuel h n idx s = (h, .ok))
    (fun _ _ _ _ _ h => nomatch h) (fun _ _ _ _ _ _ _ h => nomatch h) ?_ ?_
  · intro k g n idx s hf ht hn h _ hab
    have hs : Same g h := (addEdge_above g _).1.trans hab.1
    rw [publishTo_worker_ok k h n idx s ((hs.isFuture n).trans hf) ((hs.trained n).trans ht) hn,
      addEdge_noop (hab.2 _ (addEdge_mem g _))]
  · intro k g n idx s hf hn ih h hok hab
    have hfin := foldl_repub_above (k := k) ((pubsAt g n idx).map (fun t => (t.1, t.2, s)))
      (addEdge g ⟨n, idx, s⟩, .ok)
    have hs : Same g h := ((addEdge_above g _).1.trans hfin.1).trans hab.1
    rw [publishTo_future k h n idx s ((hs.isFuture n).trans hf) hn, hs.pubsAt,
      addEdge_noop (hab.2 _ (hfin.2 _ (addEdge_mem g _)))]
    apply foldl_repub_noop
    intro q hq
    -- `q` was published successfully at some point of the first loop; what it reached is below `h`
    obtain ⟨g0, _, h1, h2⟩ := foldl_repub_each _ _ hok q hq
    obtain ⟨t, _, rfl⟩ := List.mem_map.mp hq
    exact ih g0 t h h1 (h2.trans hab)

/-- the loop of `Future._collapse()` as the code has it: every registration of `f`, every subscription its port holds,
re-published by `repub`; the first exception stops it -/
def collapse (k : Nat) (g : G) (f : Nat) : G × Res :=
  ((g.regs.filter (fun r => r.fut = f)).flatMap
      (fun r => (out g f r.idx).map (fun s => (r.pub, r.out, s)))).foldl (repub k) (g, .ok)

/-- `_collapse()` changes nothing and raises nothing in a state in which every (registered publisher, held
subscription) pair of the placeholder has been published successfully before (in any earlier state `g0`) -/
theorem collapse_noop (k : Nat) (g : G) (f : Nat)
    (hpub : ∀ r ∈ g.regs, r.fut = f → ∀ s ∈ out g f r.idx,
      ∃ g0, (publishTo k g0 r.pub r.out s).2 = .ok ∧ Above (publishTo k g0 r.pub r.out s).1 g) :
    collapse k g f = (g, .ok) := by
  unfold collapse
  apply foldl_repub_noop
  intro p hp
  obtain ⟨r, hr, hp⟩ := List.mem_flatMap.mp hp
  obtain ⟨s, hs, rfl⟩ := List.mem_map.mp hp
  obtain ⟨hr1, hr2⟩ := List.mem_filter.mp hr
  obtain ⟨g0, h1, h2⟩ := hpub r hr1 (by simpa using hr2) s hs
  exact publishTo_again k g0 r.pub r.out s g h1 h2

/-- in a well-formed state, re-publishing a subscription to an output port that holds it together with everything
upstream (`HoldsUp`) changes nothing; the answer is success, or the depth guard of the model when the fuel given is
smaller than the registration tree -/
theorem publishTo_held (g : G) (hw : Wf g) (s : Sub) : ∀ (fuel n idx : Nat), HoldsUp g s n idx →
    publishTo fuel g n idx s = (g, .ok) ∨ publishTo fuel g n idx s = (g, .err .recursion) := by
  obtain ⟨i2, _, _, i5, i6, _, _⟩ := hw
  intro fuel
  induction fuel with
  | zero => intro n idx _; exact .inr rfl
  | succ k ih =>
    intro n idx hu
    cases hu with
    | mk _ _ hedge hup =>
      have hne : n ≠ s.node := i2 _ hedge
      cases hf : isFuture g n
      · cases ht : trained g n
        · rw [publishTo_worker_ok k g n idx s hf ht hne, addEdge_noop hedge]; exact .inl rfl
        · exfalso
          unfold trained at ht
          obtain ⟨p, hp, hpa⟩ := List.any_eq_true.mp ht
          have hq : (⟨n, p⟩ : Sub) ∈ g.ports := (mem_inputs g n p).mp hp
          obtain ⟨e, he, hes⟩ := i6.1 _ hq
          have h5 := i5 e he _ hedge (by rw [hes]; simpa using hpa)
          rw [hes] at h5
          exact h5 rfl
      · rw [publishTo_future k g n idx s hf hne, addEdge_noop hedge]
        refine foldl_repub_noop_or_depth _ ?_
        intro q hq
        obtain ⟨t, ht, rfl⟩ := List.mem_map.mp hq
        exact ih t.1 t.2 (hup hf t ht)

/-- `_collapse()` in a well-formed, upstream-closed state (= every state the construction calls reach): nothing
changes, nothing is raised (but the depth guard of the model when `k` is smaller than the registration tree) -/
theorem collapse_closed (k : Nat) (g : G) (f : Nat) (hw : Wf g) (hc : Closed g) :
    collapse k g f = (g, .ok) ∨ collapse k g f = (g, .err .recursion) := by
  unfold collapse
  apply foldl_repub_noop_or_depth
  intro p hp
  obtain ⟨r, hr, hp⟩ := List.mem_flatMap.mp hp
  obtain ⟨s, hs, rfl⟩ := List.mem_map.mp hp
  obtain ⟨hr1, hr2⟩ := List.mem_filter.mp hr
  have hrf : r.fut = f := by simpa using hr2
  have hedge := mem_out.mp hs
  have hF : isFuture g f = true := hrf ▸ (hw.i8 r hr1).1
  have hu := hc _ hedge
  cases hu with
  | mk _ _ _ hup =>
    apply publishTo_held g hw s k r.pub r.out
    exact hup hF (r.pub, r.out) (mem_pubsAt.mpr ⟨r, hr1, hrf, rfl, rfl, rfl⟩)

end ForML.Graph
