/-
Lookup in tables, ranked (valid) tables, fuel-independence of the denotation.

Names in the C02 lemma files: `x_spec` says what holds if `x` returned (or, for a Boolean test, answered `true`);
`x_ok` says that `x` returns, and what holds then.
-/
import ForML.Lemmas.C01Interp
import ForML.Model.TableWF
import ForML.Model.PyFunc

namespace ForML.Flow

theorem hasDup_eq_false_iff : ∀ {l : List Key}, hasDup l = false ↔ l.Nodup
  | [] => by simp [hasDup]
  | k :: r => by simp [hasDup, hasDup_eq_false_iff (l := r)]

theorem Table.find_of_mem_nodup {t : Table} (hn : (t.map (·.id)).Nodup) {s : Symbol} (hs : s ∈ t) :
    t.find s.id = some s := by
  obtain ⟨s', hf⟩ := Option.isSome_iff_exists.1 (Table.find_isSome_of_mem hs)
  have h := Table.find_some hf
  rw [hf, eq_of_nodup_map (·.id) hn h.1 hs h.2]

/-- Prop form of `Table.ranked`. Not C01Interp's `Table.Ranked t r` (ranks fall along the arguments, all that the shared
interpreter needs): that is the second half of the field `args` here -/
structure Ranked (t : Table) (r : Key → Nat) : Prop where
  nodup : (t.map (·.id)).Nodup
  bound : ∀ s ∈ t, r s.id < t.length
  args : ∀ s ∈ t, ∀ a ∈ s.args, (t.find a).isSome ∧ r a < r s.id

theorem ranked_spec {t : Table} {r : Key → Nat} (h : t.ranked r = true) : Ranked t r := by
  simp only [Table.ranked, Bool.and_eq_true, Bool.not_eq_true', List.all_eq_true, decide_eq_true_eq] at h
  exact ⟨hasDup_eq_false_iff.1 h.1, fun s hs => (h.2 s hs).1, fun s hs a ha => (h.2 s hs).2 a ha⟩

theorem Ranked.find_args {t : Table} {r : Key → Nat} (hr : Ranked t r) {k : Key} {s : Symbol}
    (hf : t.find k = some s) : ∀ a ∈ s.args, (t.find a).isSome ∧ r a < r k :=
  have h := Table.find_some hf
  h.2 ▸ hr.args s h.1

theorem Ranked.find_bound {t : Table} {r : Key → Nat} (hr : Ranked t r) {k : Key} {s : Symbol}
    (hf : t.find k = some s) : r k < t.length :=
  have h := Table.find_some hf
  h.2 ▸ hr.bound s h.1

theorem fuel_unfold {t : Table} {r : Key → Nat} (hr : Ranked t r) {V : Nat → Key → Val} {u : Val}
    {step : Key → Symbol → List Val → Val}
    (hV : ∀ f k, V (f + 1) k = match t.find k with | none => u | some s => step k s (s.args.map (V f)))
    {k : Key} {s : Symbol} (hf : t.find k = some s) : V t.fuel k = step k s (s.args.map (V t.fuel)) := by
  have hb := hr.find_bound hf
  rw [Table.fuel, hV, hf]
  refine congrArg (step k s) (List.map_congr_left fun a ha => ?_)
  have := (hr.find_args hf a ha).2
  exact fuel_stable (fun _ _ hf a ha => (hr.find_args hf a ha).2) hV _ _ a (by omega) (by omega)

/-- the denotation of instruction `k` -/
def den (A : Option Assets) (t : Table) (k : Key) : Val := Table.value A t t.fuel k

theorem den_unbound (A : Option Assets) {t : Table} {k : Key} (h : t.find k = none) :
    den A t k = .error .unbound :=
  Table.value_unbound A h

theorem den_eq (A : Option Assets) {t : Table} {r : Key → Nat} (hr : Ranked t r) {k : Key} {s : Symbol}
    (hf : t.find k = some s) : den A t k = exec A s.instr (s.args.map (den A t)) :=
  fuel_unfold hr (V := Table.value A t) (step := fun _ s vs => exec A s.instr vs) (fun _ _ => rfl) hf

theorem value_eq_den (A : Option Assets) {t : Table} {r : Key → Nat} (hr : Ranked t r) {k : Key} {f : Nat}
    (hf : r k < f) (hb : r k < t.length) : Table.value A t f k = den A t k :=
  fuel_stable (V := Table.value A t) (step := fun _ s vs => exec A s.instr vs)
    (fun _ _ hf a ha => (hr.find_args hf a ha).2) (fun _ _ => rfl) _ _ k hf
    (by simp [Table.fuel]; omega)

open PyFunc in
/-- the denotation of `k` when the head `h` receives `x` -/
def denIn (A : Option Assets) (t : Table) (h : Key) (x : Val) (k : Key) : Val := valueIn A t h x t.fuel k

open PyFunc in
theorem denIn_eq (A : Option Assets) {t : Table} {r : Key → Nat} (hr : Ranked t r) (h : Key) (x : Val) {k : Key}
    {s : Symbol} (hf : t.find k = some s) :
    denIn A t h x k = exec A s.instr (s.args.map (denIn A t h x) ++ (if k = h then [x] else [])) :=
  fuel_unfold hr (V := valueIn A t h x)
    (step := fun k s vs => exec A s.instr (vs ++ if k = h then [x] else [])) (fun _ _ => rfl) hf

end ForML.Flow
