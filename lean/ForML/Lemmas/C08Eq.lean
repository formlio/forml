/-
C08 — when a chain of `eqAnd` steps (`tuple.__eq__`, item by item) answers `True`.  Both equalities of the model,
`identEq` (ForML.Model.DslIdent) and the legacy `implEq` (ForML.Model.DslEq), are such chains; every proof about them
reads a chain through these three equivalences, left to right to take an equality apart, right to left to build one.
-/
import ForML.Model.DslEq

namespace ForML.Dsl

theorem eqAnd_eq_true {r : EqRes} {k : Unit → EqRes} : eqAnd r k = some true ↔ r = some true ∧ k () = some true := by
  unfold eqAnd
  split <;> simp

theorem eqAnd_decide_eq_true {r : EqRes} {p : Prop} [Decidable p] :
    (eqAnd r fun _ => some (decide p)) = some true ↔ r = some true ∧ p := by
  simp [eqAnd_eq_true]

theorem classTest_eq_true {c : Prop} [Decidable c] {r : EqRes} :
    (if c then r else some false) = some true ↔ c ∧ r = some true := by
  split <;> simp [*]

end ForML.Dsl
