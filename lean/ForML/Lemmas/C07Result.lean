/-
C07: facts about the exception monad `R` of the constructors' model: when `>>=` and `guardG` succeed, and `okOf`, a result
with the exception forgotten, through which two computations are compared up to the exception they raise.
-/
import ForML.Model.Grammar

namespace ForML.Dsl

theorem bind_eq_ok {α β : Type} (x : R α) (f : α → R β) (b : β) :
    (x >>= f) = Except.ok b ↔ ∃ a, x = Except.ok a ∧ f a = Except.ok b := by
  cases x <;> simp [bind, Except.bind]

theorem ok_bind {α β : Type} (a : α) (f : α → R β) : ((Except.ok a : R α) >>= f) = f a := rfl

theorem bind_unit_eq_ok {β : Type} (x : R Unit) (y : R β) (b : β) :
    (x >>= fun _ => y) = Except.ok b ↔ x = Except.ok () ∧ y = Except.ok b := by
  cases x <;> simp [bind, Except.bind]

theorem exists_unit (p : Unit → Prop) : (∃ a, p a) ↔ p () := ⟨fun ⟨(), h⟩ => h, fun h => ⟨(), h⟩⟩

theorem guardG_eq_ok (b : Bool) : guardG b = Except.ok () ↔ b = true := by
  unfold guardG
  cases b <;> simp

theorem map_eq_ok {α β : Type} (g : α → β) (x : R α) (b : β) :
    (g <$> x) = Except.ok b ↔ ∃ a, x = Except.ok a ∧ g a = b := by
  cases x <;> simp [Functor.map, Except.map]

theorem isOk_bind_congr {α β γ : Type} {x : R α} {f : α → R β} {g : α → R γ} (h : ∀ a, (f a).isOk = (g a).isOk) :
    (x >>= f).isOk = (x >>= g).isOk := by
  cases x with
  | error e => rfl
  | ok a => exact h a

/-- success and result of a computation, the exception forgotten -/
def okOf {α : Type} : R α → Option α
  | .ok a => some a
  | .error _ => none

theorem okOf_eq_some {α : Type} (x : R α) (a : α) : okOf x = some a ↔ x = Except.ok a := by
  cases x <;> simp [okOf]

theorem okOf_bind {α β : Type} (x : R α) (f : α → R β) : okOf (x >>= f) = (okOf x).bind fun a => okOf (f a) := by
  cases x <;> rfl

theorem okOf_ext {α : Type} (x y : R α) (h : ∀ a, x = Except.ok a ↔ y = Except.ok a) : okOf x = okOf y := by
  cases x with
  | ok a => exact ((okOf_eq_some y a).mpr ((h a).mp rfl)).symm
  | error e =>
    cases y with
    | ok b => exact absurd ((h b).mpr rfl) (by simp)
    | error _ => rfl

theorem okOf_bind_congr {α β : Type} (x : R α) (f g : α → R β) (h : ∀ a, x = Except.ok a → okOf (f a) = okOf (g a)) :
    okOf (x >>= f) = okOf (x >>= g) := by
  cases x with
  | error e => rfl
  | ok a => exact h a rfl

theorem okOf_bind_left {α β : Type} (x y : R α) (f : α → R β) (h : okOf x = okOf y) : okOf (x >>= f) = okOf (y >>= f) := by
  rw [okOf_bind, okOf_bind, h]

end ForML.Dsl
