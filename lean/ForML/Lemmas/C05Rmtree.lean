/-
The unlink / rmdir sequence INSIDE `shutil.rmtree(staged, ignore_errors=True)` (posix.Registry.push, the left-over
temporary package of an interrupted publish).  `Fs.step (.rmtree p)` removes the subtree in one step; here the removal is
split into its system calls (`os.unlink` of a file, `os.rmdir` of an EMPTY directory, in any order the walk may choose), and a
process may die after any number of them.
-/
import ForML.Lemmas.C05Reg

namespace ForML.Fs

/-- nothing strictly below `k` (what `os.rmdir` demands; trivially true of a file in a well-formed tree) -/
def leaf (fs : Fs) (k : Path) : Bool := fs.all (fun e => !(k <+: e.1) || e.1 == k)

/-- one `os.unlink` / `os.rmdir` issued by `shutil.rmtree p`: an existing file or EMPTY directory at or below `p` -/
def unlinkStep (fs : Fs) (p k : Path) : Option Fs :=
  if p <+: k ∧ (get fs k).isSome ∧ leaf fs k = true then some (del fs k) else none

/-- the first `ks.length` system calls of an `rmtree p` (a process death after them leaves this tree) -/
def runUnlinks (fs : Fs) (p : Path) : List Path → Option Fs
  | [] => some fs
  | k :: r => match unlinkStep fs p k with
    | some fs' => runUnlinks fs' p r
    | none => none

theorem unlinkStep_inv {fs fs' : Fs} {p k : Path} (h : unlinkStep fs p k = some fs') :
    fs' = del fs k ∧ p <+: k ∧ (get fs k).isSome ∧ leaf fs k = true := by
  unfold unlinkStep at h
  split at h <;> cases h
  rename_i c
  exact ⟨rfl, c⟩

theorem unlinkStep_frame (fs fs' : Fs) (p k q : Path) (h : unlinkStep fs p k = some fs') (hq : ¬ p <+: q) :
    get fs' q = get fs q := by
  obtain ⟨rfl, hpk, _⟩ := unlinkStep_inv h
  have : q ≠ k := fun e => hq (e ▸ hpk)
  rw [get_del, if_neg this]

theorem unlinkStep_sub (fs fs' : Fs) (p k q : Path) (n : Node) (h : unlinkStep fs p k = some fs')
    (hq : get fs' q = some n) : get fs q = some n := by
  obtain ⟨rfl, _⟩ := unlinkStep_inv h
  rw [get_del] at hq
  split at hq
  · cases hq
  · exact hq

theorem unlinkStep_filter (fs fs' : Fs) (p k : Path) (h : unlinkStep fs p k = some fs') :
    fs'.filter (fun e => !(p <+: e.1)) = fs.filter (fun e => !(p <+: e.1)) := by
  obtain ⟨rfl, hpk, _⟩ := unlinkStep_inv h
  simp only [del, List.filter_filter]
  apply List.filter_congr
  intro e _
  by_cases he : e.1 = k
  · have : p <+: e.1 := he ▸ hpk
    simp [this]
  · simp [he]

theorem unlinkStep_wf (fs fs' : Fs) (p k : Path) (h : unlinkStep fs p k = some fs') (w : WF fs) : WF fs' := by
  obtain ⟨rfl, _, _, hl⟩ := unlinkStep_inv h
  intro e he
  simp only [del, List.mem_filter, bne_iff_ne, ne_eq] at he
  refine (w e he.1).imp_right fun h1 => ?_
  -- the removed path is a leaf: it is not the parent of an entry that stays
  have hne : parent e.1 ≠ k := by
    intro hk
    simp only [leaf, List.all_eq_true] at hl
    have := hl e he.1
    have hp : k <+: e.1 := hk ▸ List.dropLast_prefix e.1
    simp [hp] at this
    exact he.2 this
  rw [get_del, if_neg hne]; exact h1

theorem runUnlinks_cons_some {fs x : Fs} {p k : Path} {r : List Path} :
    runUnlinks fs p (k :: r) = some x ↔ ∃ m, unlinkStep fs p k = some m ∧ runUnlinks m p r = some x := by
  simp only [runUnlinks]
  cases unlinkStep fs p k <;> simp

theorem runUnlinks_rel (R : Fs → Fs → Prop) (p : Path) (hrefl : ∀ fs, R fs fs)
    (htrans : ∀ a b c, R a b → R b c → R a c) (hstep : ∀ fs fs' k, unlinkStep fs p k = some fs' → R fs fs') :
    ∀ (ks : List Path) (fs fs' : Fs), runUnlinks fs p ks = some fs' → R fs fs'
  | [], fs, fs', h => by cases h; exact hrefl fs
  | k :: r, fs, fs', h => by
    obtain ⟨m, h1, h2⟩ := runUnlinks_cons_some.mp h
    exact htrans _ _ _ (hstep fs m k h1) (runUnlinks_rel R p hrefl htrans hstep r m fs' h2)

theorem runUnlinks_frame (p q : Path) (hq : ¬ p <+: q) :
    ∀ (ks : List Path) (fs fs' : Fs), runUnlinks fs p ks = some fs' → get fs' q = get fs q :=
  runUnlinks_rel (fun fs fs' => get fs' q = get fs q) p (fun _ => rfl) (fun _ _ _ h1 h2 => h2.trans h1)
    (fun fs fs' k h => unlinkStep_frame fs fs' p k q h hq)

theorem runUnlinks_sub (p q : Path) (n : Node) :
    ∀ (ks : List Path) (fs fs' : Fs), runUnlinks fs p ks = some fs' → get fs' q = some n → get fs q = some n :=
  runUnlinks_rel (fun fs fs' => get fs' q = some n → get fs q = some n) p (fun _ h => h)
    (fun _ _ _ h1 h2 h => h1 (h2 h)) (fun fs fs' k h => unlinkStep_sub fs fs' p k q n h)

theorem runUnlinks_filter (p : Path) :
    ∀ (ks : List Path) (fs fs' : Fs), runUnlinks fs p ks = some fs' →
      fs'.filter (fun e => !(p <+: e.1)) = fs.filter (fun e => !(p <+: e.1)) :=
  runUnlinks_rel (fun fs fs' => fs'.filter (fun e => !(p <+: e.1)) = fs.filter (fun e => !(p <+: e.1))) p
    (fun _ => rfl) (fun _ _ _ h1 h2 => h2.trans h1) (fun fs fs' k h => unlinkStep_filter fs fs' p k h)

theorem runUnlinks_wf (p : Path) :
    ∀ (ks : List Path) (fs fs' : Fs), runUnlinks fs p ks = some fs' → WF fs → WF fs' :=
  runUnlinks_rel (fun fs fs' => WF fs → WF fs') p (fun _ h => h) (fun _ _ _ h1 h2 h => h2 (h1 h))
    (fun fs fs' k h => unlinkStep_wf fs fs' p k h)

/-- the walk's last call, `rmdir p` itself, is accepted only when everything below is gone: the result is the
one-step `rmtree` -/
theorem unlinkStep_self (fs fs' : Fs) (p : Path) (h : unlinkStep fs p p = some fs') :
    fs' = fs.filter (fun e => !(p <+: e.1)) := by
  obtain ⟨rfl, _, _, hl⟩ := unlinkStep_inv h
  simp only [leaf, List.all_eq_true] at hl
  simp only [del]
  apply List.filter_congr
  intro e he
  have := hl e he
  by_cases hep : e.1 = p
  · simp [hep]
  · simp [hep] at this
    simp [hep, this]

/-- once `p` itself is gone the walk is over and the tree is exactly that of the one-step `rmtree p` -/
theorem runUnlinks_done (p : Path) :
    ∀ (ks : List Path) (fs fs' : Fs), runUnlinks fs p ks = some fs' → get fs p = some .dir → get fs' p = none →
      fs' = fs.filter (fun e => !(p <+: e.1))
  | [], fs, fs', h, hd, hn => by cases h; rw [hd] at hn; cases hn
  | k :: r, fs, fs', h, hd, hn => by
    obtain ⟨m, h1, h⟩ := runUnlinks_cons_some.mp h
    by_cases hk : k = p
    · subst hk
      have hm := unlinkStep_self fs m k h1
      cases r with
      | nil => cases h; exact hm
      | cons k' r' =>
        -- nothing at or below `k` is left: no further call is accepted
        obtain ⟨_, h2, _⟩ := runUnlinks_cons_some.mp h
        obtain ⟨_, hkk', hsome, _⟩ := unlinkStep_inv h2
        rw [hm, get_rmtree, if_pos hkk'] at hsome
        cases hsome
    · have hmd : get m p = some .dir := by
        rw [(unlinkStep_inv h1).1, get_del, if_neg (Ne.symm hk)]; exact hd
      rw [runUnlinks_done p r m fs' h hmd hn, unlinkStep_filter fs m p k h1]

/-- the retry's `rmtree p` on a partly removed left-over gives the tree of the undisturbed `rmtree p` -/
theorem rmtree_resume (fs fs' : Fs) (p : Path) (ks : List Path) (h : runUnlinks fs p ks = some fs')
    (hp : p ≠ []) (hd : get fs' p = some .dir) : step fs' (.rmtree p) = step fs (.rmtree p) := by
  have hd0 := runUnlinks_sub p p .dir ks fs fs' h hd
  simp [step, hd, hd0, runUnlinks_filter p ks fs fs' h, hp]

end ForML.Fs

namespace ForML.Registry
open ForML.Fs

/-- nothing below the temporary package name is `Protected`, so this holds on any tree (no `WF`) -/
theorem vis_frame_tmp (a b : Fs) (p v : Nat)
    (hf : ∀ key, ¬ (packageTmpP p v <+: key) → get a key = get b key) : ViewEq a b := by
  refine (Keeps.of_frame hf fun k hk hP => ?_).viewEq (fun p' v' e => (hf _ (by simp [packageTmpP, packageP])).trans e)
    fun p' v' g' e => (hf _ (by simp [packageTmpP, tagP])).trans e
  rcases hP.below hk with ⟨e, _⟩ | ⟨_, e, _⟩ <;> cases e

end ForML.Registry
