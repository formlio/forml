/-
C06 — the rendered text of a statement (`ForML.Render.sel`, the key of the result cache before hashing) determines the
SQL tree.  Proved as unique readability of a prefix: if `sel q ++ t = sel q' ++ t'` then `q = q'` and `t = t'`.
Consequently a result cache keyed by the rendered text stays sound when an entry is put in front (`cache_cons_sound`):
the step the cache invariants of the alchemy and of the lazy feeds share.
-/
import ForML.Model.FeedCache

namespace ForML.Render
open ForML.Dsl ForML.Rel ForML.Parser

theorem expr_prefix : ∀ (e e' : SqlExpr) (t t' : Text), expr e ++ t = expr e' ++ t' → e = e' ∧ t = t' := by
  intro e
  induction e with
  | lit v =>
    intro e' t t' h
    cases e' <;> simp [expr] at h
    exact ⟨by rw [h.1], h.2⟩
  | col q n =>
    intro e' t t' h
    cases e' <;> simp [expr] at h
    obtain ⟨h1, h2, h3⟩ := h
    exact ⟨by rw [h1, h2], h3⟩
  | label e n ih =>
    intro e' t t' h
    cases e' with
    | label e2 n2 =>
      simp [expr] at h
      obtain ⟨h1, h2⟩ := h
      obtain ⟨h3, h4⟩ := ih e2 t t' h2
      exact ⟨by rw [h1, h3], h4⟩
    | _ => simp [expr] at h
  | un o a ih =>
    intro e' t t' h
    cases e' with
    | un o2 a2 =>
      simp [expr] at h
      obtain ⟨h1, h2⟩ := h
      obtain ⟨h3, h4⟩ := ih a2 t t' h2
      exact ⟨by rw [h1, h3], h4⟩
    | _ => simp [expr] at h
  | bin o a b iha ihb =>
    intro e' t t' h
    cases e' with
    | bin o2 a2 b2 =>
      simp [expr] at h
      obtain ⟨h1, h2⟩ := h
      obtain ⟨h3, h4⟩ := iha a2 (expr b ++ t) (expr b2 ++ t') h2
      obtain ⟨h5, h6⟩ := ihb b2 t t' h4
      exact ⟨by rw [h1, h3, h5], h6⟩
    | _ => simp [expr] at h

theorem exprsBody_prefix : ∀ (es es' : List SqlExpr) (t t' : Text), es.length = es'.length →
    exprsBody es ++ t = exprsBody es' ++ t' → es = es' ∧ t = t'
  | [], [], t, t', _, h => by simpa [exprsBody] using h
  | [], _ :: _, _, _, hl, _ => by simp at hl
  | _ :: _, [], _, _, hl, _ => by simp at hl
  | e :: es, e' :: es', t, t', hl, h => by
    simp only [exprsBody, List.append_assoc] at h
    obtain ⟨h1, h2⟩ := expr_prefix e e' _ _ h
    obtain ⟨h3, h4⟩ := exprsBody_prefix es es' t t' (by simpa using hl) h2
    exact ⟨by rw [h1, h3], h4⟩

theorem exprs_prefix (es es' : List SqlExpr) (t t' : Text) (h : exprs es ++ t = exprs es' ++ t') :
    es = es' ∧ t = t' := by
  simp only [exprs, List.cons_append, List.cons.injEq, Tok.count.injEq] at h
  exact exprsBody_prefix es es' t t' h.1 h.2

theorem optExpr_prefix (a a' : Option SqlExpr) (t t' : Text) (h : optExpr a ++ t = optExpr a' ++ t') :
    a = a' ∧ t = t' := by
  cases a <;> cases a' <;> simp [optExpr] at h
  · exact ⟨rfl, h⟩
  · obtain ⟨h1, h2⟩ := expr_prefix _ _ _ _ h
    exact ⟨by rw [h1], h2⟩

theorem ordsBody_prefix : ∀ (os os' : List (SqlExpr × SortDir)) (t t' : Text), os.length = os'.length →
    ordsBody os ++ t = ordsBody os' ++ t' → os = os' ∧ t = t'
  | [], [], t, t', _, h => by simpa [ordsBody] using h
  | [], _ :: _, _, _, hl, _ => by simp at hl
  | _ :: _, [], _, _, hl, _ => by simp at hl
  | (e, d) :: os, (e', d') :: os', t, t', hl, h => by
    simp only [ordsBody, List.append_assoc, List.cons_append] at h
    obtain ⟨h1, h2⟩ := expr_prefix e e' _ _ h
    simp only [List.cons.injEq, Tok.dir.injEq] at h2
    obtain ⟨h3, h4⟩ := ordsBody_prefix os os' t t' (by simpa using hl) h2.2
    exact ⟨by rw [h1, h2.1, h3], h4⟩

theorem ords_prefix (os os' : List (SqlExpr × SortDir)) (t t' : Text) (h : ords os ++ t = ords os' ++ t') :
    os = os' ∧ t = t' := by
  simp only [ords, List.cons_append, List.cons.injEq, Tok.count.injEq] at h
  exact ordsBody_prefix os os' t t' h.1 h.2

theorem optNum_prefix (a a' : Option Int) (t t' : Text) (h : optNum a ++ t = optNum a' ++ t') :
    a = a' ∧ t = t' := by
  cases a <;> cases a' <;> simp [optNum] at h
  · exact ⟨rfl, h⟩
  · exact ⟨by rw [h.1], h.2⟩

theorem sel_prefix : ∀ (q q' : SqlSel) (t t' : Text), sel q ++ t = sel q' ++ t' → q = q' ∧ t = t' := by
  intro q
  induction q with
  | table n =>
    intro q' t t' h
    cases q' <;> simp [sel] at h
    exact ⟨by rw [h.1], h.2⟩
  | «alias» i n ih =>
    intro q' t t' h
    cases q' with
    | «alias» i2 n2 =>
      simp [sel] at h
      obtain ⟨h1, h2⟩ := h
      obtain ⟨h3, h4⟩ := ih i2 t t' h2
      exact ⟨by rw [h1, h3], h4⟩
    | _ => simp [sel] at h
  | join l r on full isouter ihl ihr =>
    intro q' t t' h
    cases q' with
    | join l2 r2 on2 full2 isouter2 =>
      simp only [sel, List.cons_append, List.append_assoc, List.cons.injEq, Tok.present.injEq, true_and] at h
      obtain ⟨hf, ho, h⟩ := h
      obtain ⟨h1, h⟩ := ihl l2 _ _ h
      obtain ⟨h2, h⟩ := ihr r2 _ _ h
      simp only [List.cons.injEq, true_and] at h
      obtain ⟨h3, h4⟩ := expr_prefix _ _ _ _ h
      exact ⟨by rw [hf, ho, h1, h2, h3], h4⟩
    | _ => simp [sel] at h
  | select items frm whr grp hav ord lim off ih =>
    intro q' t t' h
    cases q' with
    | select items2 frm2 whr2 grp2 hav2 ord2 lim2 off2 =>
      simp only [sel, List.cons_append, List.append_assoc, List.cons.injEq, true_and] at h
      obtain ⟨h1, h⟩ := exprs_prefix _ _ _ _ h
      simp only [List.cons.injEq, true_and] at h
      obtain ⟨h2, h⟩ := ih frm2 _ _ h
      simp only [List.cons.injEq, true_and] at h
      obtain ⟨h3, h⟩ := optExpr_prefix _ _ _ _ h
      simp only [List.cons.injEq, true_and] at h
      obtain ⟨h4, h⟩ := exprs_prefix _ _ _ _ h
      simp only [List.cons.injEq, true_and] at h
      obtain ⟨h5, h⟩ := optExpr_prefix _ _ _ _ h
      simp only [List.cons.injEq, true_and] at h
      obtain ⟨h6, h⟩ := ords_prefix _ _ _ _ h
      simp only [List.cons.injEq, true_and] at h
      obtain ⟨h7, h⟩ := optNum_prefix _ _ _ _ h
      simp only [List.cons.injEq, true_and] at h
      obtain ⟨h8, h9⟩ := optNum_prefix _ _ _ _ h
      exact ⟨by rw [h1, h2, h3, h4, h5, h6, h7, h8], h9⟩
    | _ => simp [sel] at h
  | compound o l r ihl ihr =>
    intro q' t t' h
    cases q' with
    | compound o2 l2 r2 =>
      simp only [sel, List.cons_append, List.append_assoc, List.cons.injEq, Tok.setop.injEq, true_and] at h
      obtain ⟨ho, h⟩ := h
      obtain ⟨h1, h⟩ := ihl l2 _ _ h
      obtain ⟨h2, h3⟩ := ihr r2 _ _ h
      exact ⟨by rw [ho, h1, h2], h3⟩
    | _ => simp [sel] at h

theorem sel_injective (q q' : SqlSel) (h : sel q = sel q') : q = q' :=
  (sel_prefix q q' [] [] (by simpa using h)).1

/-- in particular two statements that differ in a literal value render differently -/
example : sel (.select [.col "t" "x"] (.table "t") (some (.bin .gt (.col "t" "x") (.lit (.int 25)))) [] none [] none none) ≠
    sel (.select [.col "t" "x"] (.table "t") (some (.bin .gt (.col "t" "x") (.lit (.int 45)))) [] none [] none none) := by
  decide

end ForML.Render

namespace ForML.C06
open ForML.Rel ForML.Parser
open ForML.FeedCache (keyOf)

theorem lookup_cons_sound {α β : Type} [BEq α] [LawfulBEq α] (P : α → β → Prop) (k : α) (v : β) (l : List (α × β))
    (hl : ∀ k' v', l.lookup k' = some v' → P k' v') (hk : P k v) (k' : α) (v' : β)
    (h : ((k, v) :: l).lookup k' = some v') : P k' v' := by
  rw [List.lookup_cons] at h
  cases hb : k' == k with
  | true =>
    rw [hb] at h
    cases h
    exact (eq_of_beq hb) ▸ hk
  | false =>
    rw [hb] at h
    exact hl k' v' h

/-- the key determines the statement (`Render.sel_injective`), so the new entry answers for no other statement -/
theorem cache_cons_sound (P : SqlSel → ORel → Prop) (q : SqlSel) (v : ORel) (l : List (FeedCache.Key × ORel))
    (hl : ∀ q' v', l.lookup (keyOf q') = some v' → P q' v') (hq : P q v) (q' : SqlSel) (v' : ORel)
    (h : ((keyOf q, v) :: l).lookup (keyOf q') = some v') : P q' v' :=
  lookup_cons_sound (fun key w => ∀ q'', keyOf q'' = key → P q'' w) (keyOf q) v l
    (fun _ w hw q'' e => hl q'' w (e ▸ hw)) (fun q'' e => Render.sel_injective q'' q e ▸ hq) (keyOf q') v' h q' rfl

end ForML.C06
