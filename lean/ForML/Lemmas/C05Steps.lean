/-
One history step of the repaired code (`Impl.repaired`) on a good tree: every tree it can leave (at its end, where it
raises, where the process dies, or after a transient I/O fault) is good, keeps what the reader rested on (`Keeps`) and
shows the previous view or the complete new item; whole histories follow by induction over the events.
-/
import ForML.Lemmas.C05Fault

namespace ForML.Registry
open ForML.Fs

theorem exec_publish {impl : Impl} {fs : Fs} {dp name v : Nat} (pkg : Pkg) (hg : publishGuard impl fs dp name v = none) :
    exec impl fs (.publish dp name v pkg) = runCalls fs [fun f => pushOps impl f name v pkg] := by
  simp only [exec, hg]

theorem exec_train (impl : Impl) {fs : Fs} {p v : Nat} (ord : Nat) (sts : List (Nat × Bytes))
    (hg : trainGuard fs p v = none) :
    exec impl fs (.train p v ord sts) = runCalls fs (trainCalls impl p v ord sts) := by
  simp only [exec, hg]

theorem trainGuard_none (fs : Fs) (p v : Nat) (h : trainGuard fs p v = none) :
    relListed fs p v = true ∧ get fs (projectP p) ≠ none ∧ get fs (releaseP p v) ≠ none := by
  unfold trainGuard at h
  split at h
  · rename_i hc
    simp only [Bool.and_eq_true] at hc
    exact ⟨hc.2, relListed_dirs fs p v hc.2⟩
  · cases h

/-- what `Project.put` checks with the project key compared first (`Impl.keyFirst`), as a function of whether the
project is listed and of its listed releases: the common shape of `publishGuard` and of `vPublishGuard` of the volatile
registry -/
def keyFirstGuard (listed : Bool) (rels : List Nat) (dp name v : Nat) : Option Err :=
  -- `true &&` stands for `Impl.repaired.keyFirst`: with it `publishGuard_repaired` / `vPublishGuard_repaired` hold by `rfl`
  if true && name != dp then some .mismatch
  else if listed then
    match maxOf rels with
    | none => none
    | some prev => if name ≠ dp then some .mismatch else if prev < v then none else some .invalid
  else none

theorem publishGuard_repaired (fs : Fs) (dp name v : Nat) :
    publishGuard Impl.repaired fs dp name v = keyFirstGuard (projListed fs dp) (releasesOf fs dp) dp name v := rfl

theorem keyFirstGuard_none {listed : Bool} {rels : List Nat} {dp name v : Nat} (hl : rels ≠ [] → listed = true)
    (h : keyFirstGuard listed rels dp name v = none) : dp = name ∧ ∀ w ∈ rels, w < v := by
  unfold keyFirstGuard at h
  by_cases hn : name = dp
  · subst hn
    refine ⟨rfl, fun w hw => ?_⟩
    obtain ⟨m, hm, hle⟩ := le_maxOf _ w hw
    have : m < v := by simpa [hm, hl (List.ne_nil_of_mem hw)] using h
    exact Nat.lt_of_le_of_lt hle this
  · simp [hn] at h

theorem publishGuard_none (fs : Fs) (dp name v : Nat) (h : publishGuard Impl.repaired fs dp name v = none) :
    dp = name ∧ (∀ w ∈ releasesOf fs name, w < v) ∧ relListed fs name v = false := by
  rw [publishGuard_repaired] at h
  obtain ⟨rfl, hmono⟩ := keyFirstGuard_none (fun hne => by simp [projListed, hne]) h
  exact ⟨rfl, hmono, unlisted_of_above fs _ v hmono⟩

/-- the trees a step can leave: where it ends (or raises), or where the process dies -/
def LeftBy (fs : Fs) (s : Step) (x : Fs) : Prop :=
  x = (exec Impl.repaired fs s).fs ∨ ∃ k cut, x = crashIn Impl.repaired fs s k cut

theorem crashIn_nil (impl : Impl) (fs : Fs) (s : Step) (k : Nat) (cut : Option Nat)
    (h : (exec impl fs s).calls = []) : crashIn impl fs s k cut = fs := by
  simp [crashIn, h, atomsAll, crashOps, runSome]

theorem leftBy_refused {fs x : Fs} {s : Step} {e : Err} (hx : LeftBy fs s x)
    (hex : exec Impl.repaired fs s = ⟨fs, [], some e⟩) : x = fs := by
  rcases hx with rfl | ⟨k, cut, rfl⟩
  · rw [hex]
  · exact crashIn_nil _ _ _ _ _ (by rw [hex])

theorem leftBy_tree {fs x : Fs} {s : Step} {cs : List (Fs → List Op)} (hx : LeftBy fs s x)
    (hex : exec Impl.repaired fs s = runCalls fs cs) : CrashTree fs cs x :=
  runCalls_left_tree fs cs x (by simpa only [LeftBy, crashIn, hex] using hx)

theorem full_done {fs x : Fs} {s : Step} {cs : List (Fs → List Op)} (hex : exec Impl.repaired fs s = runCalls fs cs)
    (hfull : FullTree fs cs x) : (exec Impl.repaired fs s).err = none ∧ x = (exec Impl.repaired fs s).fs := by
  rw [hex]; exact ⟨hfull.runCalls.1, hfull.runCalls.2.symm⟩

theorem step_left (fs : Fs) (gd : Good fs) (s : Step) (x : Fs) (hx : LeftBy fs s x) :
    Good x ∧ Keeps fs x
      ∧ (ViewEq x fs ∨ ((exec Impl.repaired fs s).err = none ∧ x = (exec Impl.repaired fs s).fs)) := by
  cases s with
  | publish dp name v pkg =>
    cases hg : publishGuard Impl.repaired fs dp name v with
    | some e =>
      cases leftBy_refused (e := e) hx (by simp [exec, hg])
      exact ⟨gd, Keeps.refl _, Or.inl (ViewEq.refl _)⟩
    | none =>
      obtain ⟨_, _, hnl⟩ := publishGuard_none fs dp name v hg
      have hb := package_absent fs name v gd.wf hnl
      have hex := exec_publish pkg hg
      have htree := leftBy_tree hx hex
      have h := publish_foot true fs x name v pkg htree
      exact ⟨(pushed_good gd (htree.wf gd.wf) hb h.1).1, pushed_keeps gd.wf hb h.1,
        h.2.imp (pushed_viewEq gd.wf hb) (full_done hex)⟩
  | train p v ord sts =>
    cases hg : trainGuard fs p v with
    | some e =>
      cases leftBy_refused (e := e) hx (by simp [exec, hg])
      exact ⟨gd, Keeps.refl _, Or.inl (ViewEq.refl _)⟩
    | none =>
      have hex := exec_train Impl.repaired ord sts hg
      obtain ⟨gx, h, hv⟩ := train_left true fs x gd p v ord sts (leftBy_tree hx hex)
      exact ⟨gx, trained_keeps gd h, hv.imp (·.2) (full_done hex)⟩

/-- a publish hit by a transient I/O fault: it stops like a process death at that point, or — inside `copytree` — goes
on below the invisible temporary name only -/
theorem fault_publish_cases (fs : Fs) (dp name v : Nat) (pkg : Pkg) (j : Nat) :
    faultIn Impl.repaired fs (.publish dp name v pkg) j = crashIn Impl.repaired fs (.publish dp name v pkg) j none
    ∨ (relListed fs name v = false
        ∧ EqOff (pushFoot fs name v) (faultIn Impl.repaired fs (.publish dp name v pkg) j) fs) := by
  by_cases hq : faultAtoms (atomsAll (exec Impl.repaired fs (.publish dp name v pkg)).calls.flatten) j
      = (atomsAll (exec Impl.repaired fs (.publish dp name v pkg)).calls.flatten).take j
  · left; simp only [faultIn, crashIn, crashOps_none, hq]
  · right
    cases hg : publishGuard Impl.repaired fs dp name v with
    | some e => exfalso; apply hq; simp [exec, hg, atomsAll, faultAtoms]
    | none =>
      obtain ⟨_, _, hnl⟩ := publishGuard_none fs dp name v hg
      have hex := exec_publish pkg hg
      obtain ⟨A, hsplit, hA⟩ := pushOps_atoms true fs name v pkg
      obtain ⟨n, hat⟩ := runCalls_single_atoms (fun f => pushOps Impl.repaired f name v pkg) fs
      rw [show atomsAll (pushOps Impl.repaired fs name v pkg) = _ from hsplit] at hat
      refine ⟨hnl, ?_⟩
      simp only [faultIn]
      rw [hex] at hq ⊢
      rw [hat] at hq ⊢
      have hlt : j < ((A ++ [Op.rename (packageTmpP name v) (packageP name v)]).take n).length := by
        rcases Nat.lt_or_ge j ((A ++ [Op.rename (packageTmpP name v) (packageP name v)]).take n).length with h | h
        · exact h
        · exfalso; apply hq; rw [faultAtoms_all _ j h, List.take_of_length_le h]
      obtain ⟨m, hm⟩ := runSome_prefix (faultAtoms ((A ++ [Op.rename (packageTmpP name v) (packageP name v)]).take n) j) fs
      exact run_eqOff (fun op hop => hA op (faultAtoms_take_init A _ _ n j hlt op (List.mem_of_mem_take hop))) hm

/-- a step hit by a transient I/O fault at its `j`-th atomic micro-operation (it raises, the process lives on) leaves a
good tree that shows the previous content — unless the fault came after the last micro-operation of a step that had
completed: then the tree is the complete result -/
theorem fault_left (fs : Fs) (gd : Good fs) (s : Step) (j : Nat) :
    Good (faultIn Impl.repaired fs s j) ∧ Keeps fs (faultIn Impl.repaired fs s j)
      ∧ (ViewEq (faultIn Impl.repaired fs s j) fs
        ∨ ((exec Impl.repaired fs s).err = none ∧ faultIn Impl.repaired fs s j = (exec Impl.repaired fs s).fs)) := by
  cases s with
  | train p v ord sts =>
    rw [faultIn_train]
    exact step_left fs gd _ _ (Or.inr ⟨j, none, rfl⟩)
  | publish dp name v pkg =>
    rcases fault_publish_cases fs dp name v pkg j with h | ⟨hnl, hq⟩
    · rw [h]; exact step_left fs gd _ _ (Or.inr ⟨j, none, rfl⟩)
    · have hb := package_absent fs name v gd.wf hnl
      have h := hq.mono (H' := pubFoot fs name v) fun _ => Or.inl
      exact ⟨(pushed_good gd (runSome_wf _ fs gd.wf) hb h).1, pushed_keeps gd.wf hb h, Or.inl (pushed_viewEq gd.wf hb hq)⟩

theorem train_ok (fs : Fs) (gd : Good fs) (p v ord : Nat) (sts : List (Nat × Bytes))
    (h : (exec Impl.repaired fs (.train p v ord sts)).err = none) :
    relListed fs p v = true
    ∧ genListed (exec Impl.repaired fs (.train p v ord sts)).fs p v (nextGen fs p v) = true
    ∧ tagOf (exec Impl.repaired fs (.train p v ord sts)).fs p v (nextGen fs p v) = some ⟨ord, sts.map (·.1)⟩
    ∧ (sts.map (·.1)).Nodup
    ∧ (∀ sb ∈ sts, vis (exec Impl.repaired fs (.train p v ord sts)).fs (stateP p v (nextGen fs p v) sb.1)
        = some (.file sb.2))
    ∧ (∀ key, ¬ (generationP p v (nextGen fs p v) <+: key) →
        vis (exec Impl.repaired fs (.train p v ord sts)).fs key = vis fs key) := by
  cases hg : trainGuard fs p v with
  | some e => simp [exec, hg] at h
  | none =>
    have hrl := (trainGuard_none fs p v hg).1
    have hex := exec_train Impl.repaired ord sts hg
    rw [hex] at h ⊢
    have hfull := runCalls_full _ fs h
    generalize (runCalls fs (trainCalls Impl.repaired p v ord sts)).fs = x at hfull ⊢
    obtain ⟨c2, c3, c4, c5⟩ := train_full true fs x p v ord sts hfull
    obtain ⟨_, hfoot, _⟩ := train_left true fs x gd p v ord sts hfull.crashTree
    have hgl := trained_genListed hrl (nextGen_pos fs p v) hfoot c2 c3
    have htag := tagOf_encoded c3
    refine ⟨hrl, hgl, htag, c4, fun sb hsb => ?_,
      (trained_full gd (hfull.crashTree.wf gd.wf) hfoot c3 fun s hs => ?_).2⟩
    · exact (vis_state hgl htag (List.mem_map.mpr ⟨sb, hsb, rfl⟩)).trans (c5 sb hsb)
    · obtain ⟨sb, hsb, rfl⟩ := List.mem_map.mp hs
      exact ⟨sb.2, c5 sb hsb⟩

theorem publish_ok (fs : Fs) (gd : Good fs) (dp name v : Nat) (pkg : Pkg)
    (h : (exec Impl.repaired fs (.publish dp name v pkg)).err = none) :
    dp = name ∧ (∀ w ∈ releasesOf fs name, w < v)
    ∧ relListed (exec Impl.repaired fs (.publish dp name v pkg)).fs name v = true
    ∧ pkg.placedAs (vis (exec Impl.repaired fs (.publish dp name v pkg)).fs (packageP name v))
    ∧ (∀ ms, pkg = .dir ms → (ms.map (·.1)).Nodup → ∀ m ∈ ms,
        vis (exec Impl.repaired fs (.publish dp name v pkg)).fs (packageP name v ++ [.member m.1]) = some (.file m.2))
    ∧ (∀ key, ¬ (releaseP name v <+: key) →
        vis (exec Impl.repaired fs (.publish dp name v pkg)).fs key = vis fs key) := by
  cases hg : publishGuard Impl.repaired fs dp name v with
  | some e => simp [exec, hg] at h
  | none =>
    obtain ⟨hdp, hmono, hnl⟩ := publishGuard_none fs dp name v hg
    have hex := exec_publish pkg hg
    rw [hex] at h ⊢
    have hfull := runCalls_full _ fs h
    have wx := hfull.crashTree.wf gd.wf
    generalize (runCalls fs [fun f => pushOps Impl.repaired f name v pkg]).fs = x at hfull wx ⊢
    cases hfull with
    | call _ _ _ fs' _ hr hrest =>
      cases hrest
      obtain ⟨hrel, hpkg, hmem⟩ := push_content true fs x name v pkg hr
      have hproj : get x (projectP name) = some .dir :=
        wx.parent_dir (releaseP name v) .dir hrel (by simp [releaseP])
      have hrl : relListed x name v = true := by
        cases pkg <;> simp [Pkg.placedAs] at hpkg <;> simp [relListed, isDir, hproj, hrel, hpkg]
      have hvis : vis x (packageP name v) = get x (packageP name v) := by simp [vis, packageP, hrl]
      refine ⟨hdp, hmono, hrl, by rw [hvis]; exact hpkg, fun ms hms hnd m hm => ?_,
        (pushed_good gd wx (package_absent fs name v gd.wf hnl) (push_full_frame true fs x name v pkg hr)).2⟩
      rw [← hmem ms hms hnd m hm]
      simp [vis, packageP, hrl]

theorem play_append (impl : Impl) (fs : Fs) (evs evs' : List Ev) :
    play impl fs (evs ++ evs') = play impl (play impl fs evs) evs' := by
  induction evs generalizing fs with
  | nil => rfl
  | cons e r ih => simp only [List.cons_append, play]; exact ih _

theorem apply_left (fs : Fs) (gd : Good fs) (ev : Ev) :
    ∃ s, Good (apply Impl.repaired fs ev) ∧ Keeps fs (apply Impl.repaired fs ev)
      ∧ (ViewEq (apply Impl.repaired fs ev) fs
        ∨ ((exec Impl.repaired fs s).err = none ∧ apply Impl.repaired fs ev = (exec Impl.repaired fs s).fs)) := by
  cases ev with
  | step s => exact ⟨s, step_left fs gd s _ (Or.inl rfl)⟩
  | crash s k cut => exact ⟨s, step_left fs gd s _ (Or.inr ⟨k, cut, rfl⟩)⟩
  | fault s j => exact ⟨s, fault_left fs gd s j⟩

theorem play_left (evs : List Ev) : ∀ fs, Good fs →
    Good (play Impl.repaired fs evs) ∧ Keeps fs (play Impl.repaired fs evs) := by
  induction evs with
  | nil => intro fs gd; exact ⟨gd, Keeps.refl _⟩
  | cons e r ih =>
    intro fs gd
    obtain ⟨s, g1, k1, _⟩ := apply_left fs gd e
    exact ⟨(ih _ g1).1, k1.trans (ih _ g1).2⟩

theorem history_good (evs : List Ev) : Good (play Impl.repaired Fs.empty evs) := (play_left evs _ empty_good).1

end ForML.Registry
