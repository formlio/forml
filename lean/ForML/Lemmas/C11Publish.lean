/-
What `publishTo` / `unpublishTo` / `publishable` do to a state: `publishTo` only appends edges carrying the
published subscription, along the registration tree of the publisher; `unpublishTo` removes exactly those; a passing
dry run means `publishTo` succeeds.  Every forwarding loop (`Future._publish` and `Future.register` of the model,
`collapse` of `C11Republish`) is a left fold of `repub`, so the loops are reasoned about once, here.
-/
import ForML.Model.Graph

namespace ForML.Graph

/-- the output ports visited by `_publish` / `_unpublish` / `_publishable` starting at `(n, idx)` -/
def tree : Nat → G → Nat → Nat → List (Nat × Nat)
  | 0, _, _, _ => []
  | fuel + 1, g, n, idx =>
    (n, idx) :: (if isFuture g n then (pubsAt g n idx).flatMap (fun t => tree fuel g t.1 t.2) else [])

theorem tree_congr {g g' : G} (h1 : g'.nodes = g.nodes) (h2 : g'.regs = g.regs) :
    ∀ fuel n i, tree fuel g' n i = tree fuel g n i := by
  intro fuel
  induction fuel with
  | zero => intros; rfl
  | succ k ih =>
    intro n i
    have hf : isFuture g' n = isFuture g n := by unfold isFuture; rw [h1]
    have hp : pubsAt g' n i = pubsAt g n i := by unfold pubsAt; rw [h2]
    simp only [tree, hf, hp, ih]

/-- same nodes, registrations, `_PORTS` and group counter (only the edges may differ) -/
def Same (g g' : G) : Prop := g'.nodes = g.nodes ∧ g'.regs = g.regs ∧ g'.ports = g.ports ∧ g'.ngroups = g.ngroups

theorem Same.refl (g : G) : Same g g := ⟨rfl, rfl, rfl, rfl⟩

theorem Same.trans {a b c : G} (h1 : Same a b) (h2 : Same b c) : Same a c :=
  ⟨h2.1.trans h1.1, h2.2.1.trans h1.2.1, h2.2.2.1.trans h1.2.2.1, h2.2.2.2.trans h1.2.2.2⟩

theorem Same.isFuture {g g' : G} (h : Same g g') (n : Nat) : isFuture g' n = isFuture g n := by
  unfold Graph.isFuture; rw [h.1]

theorem Same.pubsAt {g g' : G} (h : Same g g') (n i : Nat) : pubsAt g' n i = pubsAt g n i := by
  unfold Graph.pubsAt; rw [h.2.1]

theorem Same.tree {g g' : G} (h : Same g g') : ∀ fuel n i, tree fuel g' n i = tree fuel g n i :=
  tree_congr h.1 h.2.1

theorem Same.edges (g : G) (E : List Edge) : Same g { g with edges := E } := ⟨rfl, rfl, rfl, rfl⟩

theorem Same.isWorker {g g' : G} (h : Same g g') (n : Nat) : isWorker g' n = isWorker g n := by
  unfold Graph.isWorker; rw [h.1]

theorem Same.trained {g g' : G} (h : Same g g') (n : Nat) : trained g' n = trained g n := by
  unfold Graph.trained inputs; rw [h.2.2.1]

theorem eq_of_same {g g' : G} (h : Same g g') (he : g'.edges = g.edges) : g' = g := by
  cases g; cases g'
  obtain ⟨h1, h2, h3, h4⟩ := h
  simp only at h1 h2 h3 h4 he
  rw [h1, h2, h3, h4, he]

theorem mem_pubsAt {g : G} {n idx : Nat} {t : Nat × Nat} :
    t ∈ pubsAt g n idx ↔ ∃ r ∈ g.regs, r.fut = n ∧ r.idx = idx ∧ r.pub = t.1 ∧ r.out = t.2 := by
  unfold pubsAt
  simp only [List.mem_map, List.mem_filter, decide_eq_true_eq]
  constructor
  · rintro ⟨r, ⟨hr, h1, h2⟩, rfl⟩; exact ⟨r, hr, h1, h2, rfl, rfl⟩
  · rintro ⟨r, hr, h1, h2, h3, h4⟩; exact ⟨r, ⟨hr, h1, h2⟩, Prod.ext h3 h4⟩

theorem mem_tree_of_pubsAt {g : G} {n idx : Nat} (hf : isFuture g n = true) {t : Nat × Nat} (ht : t ∈ pubsAt g n idx)
    (k : Nat) {x : Nat × Nat} (hx : x ∈ tree k g t.1 t.2) : x ∈ tree (k + 1) g n idx := by
  simp only [tree, hf, ↓reduceIte, List.mem_cons, List.mem_flatMap]
  exact .inr ⟨t, ht, hx⟩

theorem tree_root (k : Nat) (g : G) (n idx : Nat) : (n, idx) ∈ tree (k + 1) g n idx := List.mem_cons_self

theorem tree_lt {g : G} (hr : ∀ r ∈ g.regs, r.pub < g.nodes.length) : ∀ (fuel n idx : Nat), n < g.nodes.length →
    ∀ x ∈ tree fuel g n idx, x.1 < g.nodes.length := by
  intro fuel
  induction fuel with
  | zero => intro n idx _ x hx; cases hx
  | succ k ih =>
    intro n idx hn x hx
    simp only [tree, List.mem_cons] at hx
    rcases hx with rfl | hx
    · exact hn
    · split at hx
      · obtain ⟨t, ht, hxt⟩ := List.mem_flatMap.mp hx
        obtain ⟨r, hrm, _, _, h3, _⟩ := mem_pubsAt.mp ht
        exact ih t.1 t.2 (h3 ▸ hr r hrm) x hxt
      · cases hx

/-- `h` has the nodes, registrations and `_PORTS` of `g` and holds every subscription `g` holds -/
def Above (g h : G) : Prop := Same g h ∧ ∀ e ∈ g.edges, e ∈ h.edges

namespace Above

theorem refl (g : G) : Above g g := ⟨Same.refl g, fun _ h => h⟩

theorem trans {a b c : G} (h1 : Above a b) (h2 : Above b c) : Above a c :=
  ⟨h1.1.trans h2.1, fun e he => h2.2 e (h1.2 e he)⟩

end Above

theorem addEdge_above (g : G) (e : Edge) : Above g (addEdge g e) := by
  unfold addEdge; split
  · exact Above.refl g
  · exact ⟨Same.edges g _, fun x hx => List.mem_append_left _ hx⟩

theorem addEdge_mem (g : G) (e : Edge) : e ∈ (addEdge g e).edges := by
  unfold addEdge; split
  · rename_i h; exact h
  · simp

theorem addEdge_noop {h : G} {e : Edge} (he : e ∈ h.edges) : addEdge h e = h := by
  unfold addEdge; rw [if_pos he]

/-- an edge `_publish` may append -/
def Good (g : G) (e : Edge) : Prop :=
  e.pub ≠ e.sub.node ∧ (isFuture g e.pub = true ∨ trained g e.pub = false)

theorem Good.same {g g' : G} (h : Same g g') {e : Edge} (hg : Good g' e) : Good g e := by
  obtain ⟨a, b⟩ := hg
  rw [h.isFuture, h.trained] at b
  exact ⟨a, b⟩

/-- what publishing the subscriptions `ss` along the output ports `T` does to `g` (`publishTo_spec`) -/
def Grown (g : G) (ss : List Sub) (T : List (Nat × Nat)) (g' : G) : Prop :=
  Same g g' ∧ ∃ L, g'.edges = g.edges ++ L ∧ ∀ e ∈ L, e.sub ∈ ss ∧ (e.pub, e.out) ∈ T ∧ Good g e

namespace Grown

theorem refl (g : G) (ss : List Sub) (T : List (Nat × Nat)) : Grown g ss T g :=
  ⟨Same.refl g, [], by simp, fun _ h => nomatch h⟩

theorem append {g a b : G} {ss ss' : List Sub} {T T' : List (Nat × Nat)} (h1 : Grown g ss T a)
    (h2 : Grown a ss' T' b) (hs : ∀ s ∈ ss', s ∈ ss) (hT : ∀ x ∈ T', x ∈ T) : Grown g ss T b := by
  obtain ⟨s1, L1, e1, f1⟩ := h1
  obtain ⟨s2, L2, e2, f2⟩ := h2
  refine ⟨s1.trans s2, L1 ++ L2, by rw [e2, e1, List.append_assoc], ?_⟩
  intro e he
  rcases List.mem_append.mp he with he | he
  · exact f1 e he
  · obtain ⟨a1, a2, a3⟩ := f2 e he
    exact ⟨hs _ a1, hT _ a2, a3.same s1⟩

theorem above {g g' : G} {ss : List Sub} {T : List (Nat × Nat)} (h : Grown g ss T g') : Above g g' := by
  obtain ⟨s1, L, e1, _⟩ := h
  exact ⟨s1, fun e he => e1 ▸ List.mem_append_left _ he⟩

end Grown

theorem addEdge_grown (g : G) (e : Edge) (hg : Good g e) : Grown g [e.sub] [(e.pub, e.out)] (addEdge g e) := by
  unfold addEdge; split
  · exact Grown.refl g _ _
  · refine ⟨Same.edges g _, [e], rfl, ?_⟩
    intro x hx
    rw [List.mem_singleton.mp hx]
    exact ⟨List.mem_singleton.mpr rfl, List.mem_singleton.mpr rfl, hg⟩

/-- the body of every forwarding loop: `publishTo` (one subscription, every publisher registered on the port),
`register` (one publisher, every subscription held), and `Future._collapse()` as written — `for publisher,
subscription in ((p, s) for p, i in self._input.items() for s in self._output[i]): publisher.republish(subscription)`,
stopping at the first exception (`collapse` in `C11Republish`). -/
def repub (k : Nat) (acc : G × Res) (p : Nat × Nat × Sub) : G × Res :=
  match acc.2 with
  | .ok => publishTo k acc.1 p.1 p.2.1 p.2.2
  | _ => acc

theorem repub_ok {k : Nat} {acc : G × Res} (h : acc.2 = .ok) (p : Nat × Nat × Sub) :
    repub k acc p = publishTo k acc.1 p.1 p.2.1 p.2.2 := by
  unfold repub; rw [h]

theorem repub_err {k : Nat} {acc : G × Res} (h : acc.2 ≠ .ok) (p : Nat × Nat × Sub) : repub k acc p = acc := by
  unfold repub; split
  · rename_i h'; exact absurd h' h
  · rfl

theorem foldl_repub_err {k : Nat} : ∀ (l : List (Nat × Nat × Sub)) {acc : G × Res}, acc.2 ≠ .ok →
    l.foldl (repub k) acc = acc := by
  intro l
  induction l with
  | nil => intros; rfl
  | cons p l ih => intro acc h; rw [List.foldl_cons, repub_err h]; exact ih h

theorem foldl_repub_ok {k : Nat} {l : List (Nat × Nat × Sub)} {acc : G × Res}
    (h : (l.foldl (repub k) acc).2 = .ok) : acc.2 = .ok := by
  by_cases hacc : acc.2 = .ok
  · exact hacc
  · rw [foldl_repub_err l hacc] at h; exact h

theorem foldl_repub_inv {k : Nat} {P : G × Res → Prop} : ∀ (l : List (Nat × Nat × Sub)) (acc : G × Res),
    (∀ a, ∀ q ∈ l, a.2 = .ok → P a → P (publishTo k a.1 q.1 q.2.1 q.2.2)) → P acc → P (l.foldl (repub k) acc) := by
  intro l
  induction l with
  | nil => intro acc _ h; exact h
  | cons p l ih =>
    intro acc hstep h
    rw [List.foldl_cons]
    apply ih _ (fun a q hq => hstep a q (List.mem_cons_of_mem _ hq))
    by_cases hacc : acc.2 = .ok
    · rw [repub_ok hacc]; exact hstep acc p List.mem_cons_self hacc h
    · rw [repub_err hacc]; exact h

theorem publishTo_future_self (k : Nat) (g : G) (n idx : Nat) (s : Sub) (hf : isFuture g n = true)
    (hn : n = s.node) : publishTo (k + 1) g n idx s = (g, .err .self) := by
  unfold publishTo; rw [if_pos hf, if_pos hn]

theorem publishTo_future (k : Nat) (g : G) (n idx : Nat) (s : Sub) (hf : isFuture g n = true)
    (hn : n ≠ s.node) :
    publishTo (k + 1) g n idx s =
      ((pubsAt g n idx).map (fun t => (t.1, t.2, s))).foldl (repub k) (addEdge g ⟨n, idx, s⟩, .ok) := by
  unfold publishTo; rw [if_pos hf, if_neg hn, List.foldl_map]; rfl

theorem publishTo_worker_trained (k : Nat) (g : G) (n idx : Nat) (s : Sub) (hf : isFuture g n = false)
    (ht : trained g n = true) : publishTo (k + 1) g n idx s = (g, .err .trainedPublishing) := by
  unfold publishTo; rw [if_neg (by simp [hf]), if_pos ht]

theorem publishTo_worker_self (k : Nat) (g : G) (n idx : Nat) (s : Sub) (hf : isFuture g n = false)
    (ht : trained g n = false) (hn : n = s.node) : publishTo (k + 1) g n idx s = (g, .err .self) := by
  unfold publishTo; rw [if_neg (by simp [hf]), if_neg (by simp [ht]), if_pos hn]

theorem publishTo_worker_ok (k : Nat) (g : G) (n idx : Nat) (s : Sub) (hf : isFuture g n = false)
    (ht : trained g n = false) (hn : n ≠ s.node) :
    publishTo (k + 1) g n idx s = (addEdge g ⟨n, idx, s⟩, .ok) := by
  unfold publishTo; rw [if_neg (by simp [hf]), if_neg (by simp [ht]), if_neg hn]

/-- induction over the fuel along the branches of `publishTo`; `err` covers its three refusals -/
theorem publishTo_cases {P : Nat → G → Nat → Nat → Sub → G × Res → Prop}
    (zero : ∀ g n idx s, P 0 g n idx s (g, .err .recursion))
    (err : ∀ k g n idx s e, P (k + 1) g n idx s (g, .err e))
    (worker : ∀ k g n idx s, isFuture g n = false → trained g n = false → n ≠ s.node →
      P (k + 1) g n idx s (addEdge g ⟨n, idx, s⟩, .ok))
    (future : ∀ k g n idx s, isFuture g n = true → n ≠ s.node → (∀ g' (t : Nat × Nat), P k g' t.1 t.2 s (publishTo k g' t.1 t.2 s)) →
      P (k + 1) g n idx s
        (((pubsAt g n idx).map (fun t => (t.1, t.2, s))).foldl (repub k) (addEdge g ⟨n, idx, s⟩, .ok))) :
    ∀ fuel g n idx s, P fuel g n idx s (publishTo fuel g n idx s) := by
  intro fuel
  induction fuel with
  | zero => intro g n idx s; exact zero g n idx s
  | succ k ih =>
    intro g n idx s
    cases hf : isFuture g n
    · cases ht : trained g n
      · by_cases hn : n = s.node
        · rw [publishTo_worker_self k g n idx s hf ht hn]; exact err ..
        · rw [publishTo_worker_ok k g n idx s hf ht hn]; exact worker k g n idx s hf ht hn
      · rw [publishTo_worker_trained k g n idx s hf ht]; exact err ..
    · by_cases hn : n = s.node
      · rw [publishTo_future_self k g n idx s hf hn]; exact err ..
      · rw [publishTo_future k g n idx s hf hn]
        exact future k g n idx s hf hn (fun g' t => ih g' t.1 t.2 s)

theorem publishTo_res (fuel : Nat) (g : G) (n idx : Nat) (s : Sub) :
    (publishTo fuel g n idx s).2 = .ok ∨ ∃ e, (publishTo fuel g n idx s).2 = .err e := by
  refine publishTo_cases (P := fun _ _ _ _ _ r => r.2 = .ok ∨ ∃ e, r.2 = .err e)
    (fun _ _ _ _ => .inr ⟨_, rfl⟩) (fun _ _ _ _ _ e => .inr ⟨e, rfl⟩) (fun _ _ _ _ _ _ _ _ => .inl rfl) ?_ fuel g n idx s
  intro k g n idx s _ _ ih
  refine foldl_repub_inv (P := fun a => a.2 = .ok ∨ ∃ e, a.2 = .err e) _ _ ?_ (.inl rfl)
  intro a q hq _ _
  obtain ⟨t, _, rfl⟩ := List.mem_map.mp hq
  exact ih a.1 t

theorem publishTo_spec (fuel : Nat) (g : G) (n idx : Nat) (s : Sub) :
    Grown g [s] (tree fuel g n idx) (publishTo fuel g n idx s).1 := by
  refine publishTo_cases (P := fun fuel g n idx s r => Grown g [s] (tree fuel g n idx) r.1)
    (fun _ _ _ _ => Grown.refl ..) (fun _ _ _ _ _ _ => Grown.refl ..) ?_ ?_ fuel g n idx s
  · intro k g n idx s hf ht hn
    exact (Grown.refl g _ _).append (addEdge_grown g ⟨n, idx, s⟩ ⟨hn, .inr ht⟩) (fun _ h => h)
      (fun _ hx => List.mem_singleton.mp hx ▸ tree_root k g n idx)
  · intro k g n idx s hf hn ih
    apply foldl_repub_inv (P := fun a => Grown g [s] (tree (k + 1) g n idx) a.1)
    · intro a q hq _ ha
      obtain ⟨t, ht, rfl⟩ := List.mem_map.mp hq
      refine ha.append (ih a.1 t) (fun _ h => h) ?_
      intro x hx
      rw [ha.1.tree] at hx
      exact mem_tree_of_pubsAt hf ht k hx
    · exact (Grown.refl g _ _).append (addEdge_grown g ⟨n, idx, s⟩ ⟨hn, .inl hf⟩) (fun _ h => h)
        (fun _ hx => List.mem_singleton.mp hx ▸ tree_root k g n idx)

/-- `_publish` never removes anything, whatever it answers -/
theorem publishTo_above : ∀ (fuel : Nat) (g : G) (n idx : Nat) (s : Sub), Above g (publishTo fuel g n idx s).1 :=
  fun fuel g n idx s => (publishTo_spec fuel g n idx s).above

theorem foldl_repub_above {k : Nat} (l : List (Nat × Nat × Sub)) (acc : G × Res) :
    Above acc.1 (l.foldl (repub k) acc).1 :=
  foldl_repub_inv (P := fun a => Above acc.1 a.1) l acc
    (fun a q _ _ h => h.trans (publishTo_above k a.1 q.1 q.2.1 q.2.2)) (Above.refl _)

theorem foldl_repub_each {k : Nat} : ∀ (l : List (Nat × Nat × Sub)) (acc : G × Res),
    (l.foldl (repub k) acc).2 = .ok → ∀ q ∈ l, ∃ g0, Above acc.1 g0 ∧ (publishTo k g0 q.1 q.2.1 q.2.2).2 = .ok ∧
      Above (publishTo k g0 q.1 q.2.1 q.2.2).1 (l.foldl (repub k) acc).1 := by
  intro l
  induction l with
  | nil => intro _ _ q hq; cases hq
  | cons p l ih =>
    intro acc hok q hq
    have hacc : acc.2 = .ok := foldl_repub_ok hok
    rw [List.foldl_cons] at hok ⊢
    have hstep : (repub k acc p).2 = .ok := foldl_repub_ok hok
    rcases List.mem_cons.mp hq with rfl | hq
    · refine ⟨acc.1, Above.refl _, ?_, ?_⟩
      · rw [← repub_ok hacc]; exact hstep
      · rw [← repub_ok hacc]; exact foldl_repub_above l _
    · obtain ⟨g0, h0, h1, h2⟩ := ih _ hok q hq
      refine ⟨g0, ?_, h1, h2⟩
      rw [repub_ok hacc] at h0
      exact (publishTo_above k acc.1 p.1 p.2.1 p.2.2).trans h0

theorem publishTo_ok_mem (fuel : Nat) (g : G) (n idx : Nat) (s : Sub) :
    (publishTo fuel g n idx s).2 = .ok → (⟨n, idx, s⟩ : Edge) ∈ (publishTo fuel g n idx s).1.edges := by
  refine publishTo_cases (P := fun _ _ n idx s r => r.2 = .ok → (⟨n, idx, s⟩ : Edge) ∈ r.1.edges)
    (fun _ _ _ _ h => nomatch h) (fun _ _ _ _ _ _ h => nomatch h) (fun _ g _ _ _ _ _ _ _ => addEdge_mem g _) ?_
    fuel g n idx s
  intro k g n idx s _ _ _ _
  exact (foldl_repub_above _ _).2 _ (addEdge_mem g _)

/-- the edges `unpublishTo … s` keeps -/
def keep (s : Sub) (T : List (Nat × Nat)) (e : Edge) : Bool := !(decide (e.sub = s) && decide ((e.pub, e.out) ∈ T))

theorem delEdge_spec (g : G) (n idx : Nat) (s : Sub) :
    (delEdge g ⟨n, idx, s⟩).edges = g.edges.filter (keep s [(n, idx)]) := by
  unfold delEdge
  apply List.filter_congr
  intro e _
  cases e
  simp only [keep, List.mem_singleton, Prod.mk.injEq, ne_eq, Edge.mk.injEq, decide_not, Bool.decide_and,
    Bool.and_comm, Bool.and_assoc]

theorem keep_append (s : Sub) (T1 T2 : List (Nat × Nat)) (e : Edge) :
    (keep s T1 e && keep s T2 e) = keep s (T1 ++ T2) e := by
  simp only [keep, List.mem_append, Bool.decide_or, Bool.and_or_distrib_left, Bool.not_or]

theorem unpublishTo_spec : ∀ (fuel : Nat) (g : G) (n idx : Nat) (s : Sub),
    Same g (unpublishTo fuel g n idx s) ∧
    (unpublishTo fuel g n idx s).edges = g.edges.filter (keep s (tree fuel g n idx)) := by
  intro fuel
  induction fuel with
  | zero =>
    intro g n idx s
    refine ⟨Same.refl g, ?_⟩
    simp only [unpublishTo, tree]
    exact (List.filter_eq_self.mpr (fun e _ => by simp [keep])).symm
  | succ k ih =>
    intro g n idx s
    unfold unpublishTo
    by_cases hf : isFuture g n = true
    · simp only [hf, ↓reduceIte]
      have key : ∀ (ps : List (Nat × Nat)) (acc : G) (T : List (Nat × Nat)),
          Same g acc → acc.edges = g.edges.filter (keep s T) →
          Same g (ps.foldl (fun (acc : G) t => unpublishTo k acc t.1 t.2 s) acc) ∧
          (ps.foldl (fun (acc : G) t => unpublishTo k acc t.1 t.2 s) acc).edges =
            g.edges.filter (keep s (T ++ ps.flatMap (fun t => tree k g t.1 t.2))) := by
        intro ps
        induction ps with
        | nil => intro acc T h1 h2; simpa using ⟨h1, h2⟩
        | cons t ps ihp =>
          intro acc T h1 h2
          simp only [List.foldl_cons, List.flatMap_cons]
          obtain ⟨s1, s2⟩ := ih acc t.1 t.2 s
          have := ihp (unpublishTo k acc t.1 t.2 s) (T ++ tree k g t.1 t.2) (h1.trans s1) (by
            rw [s2, h2, h1.tree, List.filter_filter]
            apply List.filter_congr
            intro e _
            rw [Bool.and_comm, keep_append])
          rw [List.append_assoc] at this
          exact this
      have h0 := key (pubsAt g n idx) (delEdge g ⟨n, idx, s⟩) [(n, idx)] (Same.edges g _) (delEdge_spec g n idx s)
      simpa [tree, hf] using h0
    · have hf' : isFuture g n = false := by simpa using hf
      simp only [hf', Bool.false_eq_true, ↓reduceIte]
      refine ⟨Same.edges g _, ?_⟩
      rw [delEdge_spec]
      simp [tree, hf']

/-- withdrawing a subscription that was fresh before it was published restores the state, whether the
publishing succeeded or stopped half-way -/
theorem unpublish_undo (fuel : Nat) (g : G) (n idx : Nat) (s : Sub) (hfresh : ∀ e ∈ g.edges, e.sub ≠ s) :
    unpublishTo fuel (publishTo fuel g n idx s).1 n idx s = g := by
  obtain ⟨hsame, L, hL, hgood⟩ := publishTo_spec fuel g n idx s
  obtain ⟨u1, u2⟩ := unpublishTo_spec fuel (publishTo fuel g n idx s).1 n idx s
  apply eq_of_same (hsame.trans u1)
  rw [u2, hL, hsame.tree, List.filter_append]
  have h1 : g.edges.filter (keep s (tree fuel g n idx)) = g.edges := by
    apply List.filter_eq_self.mpr
    intro e he
    simp [keep, hfresh e he]
  have h2 : L.filter (keep s (tree fuel g n idx)) = [] := by
    apply List.filter_eq_nil_iff.mpr
    intro e he
    obtain ⟨hs, ht, _⟩ := hgood e he
    simp [keep, List.mem_singleton.mp hs, ht]
  rw [h1, h2, List.append_nil]

/-- the "first error wins" fold of the dry runs (`publishable`, `register`) is `List.findSome?` -/
theorem foldl_first_eq {α : Type} (f : α → Option Err) (l : List α) (acc : Option Err) :
    l.foldl (fun (acc : Option Err) t => match acc with
      | none => f t
      | e => e) acc = acc.or (l.findSome? f) := by
  induction l generalizing acc with
  | nil => cases acc <;> rfl
  | cons t l ih => rw [List.foldl_cons, ih, List.findSome?_cons]; cases acc <;> cases f t <;> simp

/-- a passing dry run means the publishing succeeds, also once a publisher `r` has been registered on a placeholder
that `n` does not follow (the upstream of `n` does not contain it, so the dry run did not miss it): this is why
`Future.register` may make its dry run before it records the publisher.  `g'` has the nodes and `_PORTS` of `g` and
the registrations of `g` and `r`. -/
theorem publishable_ok (r : Reg) : ∀ (fuel : Nat) (g g' : G) (n idx : Nat) (s : Sub),
    Same { g with regs := g.regs ++ [r] } g' → (isFuture g n = true → follows fuel g n r.fut = false) →
    publishable fuel g n idx s = none → (publishTo fuel g' n idx s).2 = .ok := by
  intro fuel
  induction fuel with
  | zero => intro g g' n idx s _ _ h; simp [publishable] at h
  | succ k ih =>
    intro g g' n idx s hsame hfol h
    have hF : isFuture g' n = isFuture g n := hsame.isFuture n
    have hT : trained g' n = trained g n := hsame.trained n
    unfold publishable at h
    cases hf : isFuture g n
    · rw [hf] at h
      simp only [Bool.false_eq_true, ↓reduceIte] at h
      cases ht : trained g n
      · rw [ht] at h
        simp only [Bool.false_eq_true, ↓reduceIte] at h
        by_cases hs : n = s.node
        · simp [hs] at h
        · rw [publishTo_worker_ok k g' n idx s (hF.trans hf) (hT.trans ht) hs]
      · simp [ht] at h
    · rw [hf] at h
      simp only [↓reduceIte] at h
      by_cases hs : n = s.node
      · simp [hs] at h
      · simp only [hs, ↓reduceIte] at h
        have hall := List.findSome?_eq_none_iff.mp
          ((foldl_first_eq (fun (t : Nat × Nat) => publishable k g t.1 t.2 s) _ none).symm.trans h)
        -- `n` is not the placeholder of `r`, and no placeholder registered on `n` follows it
        have hfo := hfol hf
        unfold follows at hfo
        simp only [Bool.or_eq_false_iff, beq_eq_false_iff_ne, ne_eq] at hfo
        obtain ⟨hne, hany⟩ := hfo
        have hpubs : pubsAt g' n idx = pubsAt g n idx := by
          rw [hsame.pubsAt]
          unfold pubsAt
          have : List.filter (fun r' : Reg => decide (r'.fut = n ∧ r'.idx = idx)) [r] = [] := by
            simp [Ne.symm hne]
          simp only [List.filter_append, this, List.append_nil]
        rw [publishTo_future k g' n idx s (hF.trans hf) hs, hpubs]
        refine (foldl_repub_inv (P := fun a => Same { g with regs := g.regs ++ [r] } a.1 ∧ a.2 = .ok) _ _ ?_
          ⟨hsame.trans (addEdge_above g' _).1, rfl⟩).2
        intro a q hq _ ha
        obtain ⟨t, ht, rfl⟩ := List.mem_map.mp hq
        refine ⟨ha.1.trans (publishTo_spec ..).1, ih g a.1 t.1 t.2 s ha.1 ?_ (hall t ht)⟩
        intro hft
        obtain ⟨r', hr', h1, _, h3, _⟩ := mem_pubsAt.mp ht
        have := List.any_eq_false.mp hany r' (by simp [List.mem_filter, hr', h1])
        rw [h3] at this
        simpa [hft] using this

end ForML.Graph
