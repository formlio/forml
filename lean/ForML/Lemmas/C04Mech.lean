/-
The copy as `Traversal.copy` produces it (`Comp.copiedMech`, Model/PersistTraverse.lean) is a `Comp.withCopy`, and
`Comp.copyFaithful` (decidable) is what the lemmas about `withCopy` ask for.  Hence perftrack on the evaluation's
composition binds as batch apply does.
-/
import ForML.Lemmas.C04Copy

namespace ForML.Persist

namespace Comp

variable {ρ : Nat → Nat} {c : Comp}

/-- `copiedMech` is `withCopy` of the region and the re-created subscriptions -/
theorem copiedMech_eq_withCopy {pe : List PEdge} {m : Comp} (h : c.copiedMech ρ pe = .ok m) :
    ∃ paths, c.mpaths = .ok paths ∧
      m = c.withCopy ρ (c.region paths).contains (mechEdges (c.region paths) (copySubscriptions pe paths)) := by
  simp only [copiedMech] at h
  cases hp : c.mpaths with
  | error e => rw [hp] at h; cases h
  | ok paths =>
    rw [hp] at h
    simp only at h
    split at h
    · cases h
      exact ⟨paths, rfl, rfl⟩
    · cases h

theorem copiedMech_of_perfMech {closed : Bool} {pe : List PEdge} {m : Comp} (h : c.perfMech ρ closed pe = .ok m) :
    c.copiedMech ρ pe = .ok m := by
  simp only [perfMech] at h
  split at h
  · exact h
  · cases h

theorem copyFaithful_spec {pe : List PEdge} {paths : List (List Nat)} (hp : c.mpaths = .ok paths)
    (h : c.copyFaithful pe = true) :
    EdgesFaithful c (c.region paths).contains (mechEdges (c.region paths) (copySubscriptions pe paths)) := by
  simp only [copyFaithful, hp, List.all_eq_true, Bool.and_eq_true, beq_iff_eq] at h
  intro u hu
  exact ⟨(h u hu).1, fun hut => (h u hu).2.trans (next_of_ne c hut)⟩

end Comp

theorem ok_perfMech {ρ : Nat → Nat} {c : Comp} (closed : Bool) (pe : List PEdge) (hf : FreshFor ρ c)
    (hwf : c.wfPlain = true) (htail : c.tailClean = true) (hcf : c.copyFaithful pe = true) :
    (⟨c, c.perfMech ρ closed pe⟩ : Case).Ok := by
  refine ⟨hwf, fun m hm => ?_⟩
  obtain ⟨paths, hp, rfl⟩ := Comp.copiedMech_eq_withCopy (Comp.copiedMech_of_perfMech hm)
  exact perfOk_withCopy hf hwf htail (Comp.copyFaithful_spec hp hcf) _ rfl

end ForML.Persist
