/-
In `⟦e⟧` the train-mode output, the labels and the trained states do not depend on the
apply-mode input (semantic counterpart of "the apply path feeds neither the train nor the label path").
Needed where a scope is expanded once and its apply path re-used on other data (`Segment.copy`).
-/
import ForML.Model.Denote

namespace ForML.Compose

/-- train output, label output and trained states are independent of the apply-mode input -/
def Scope.Indep (S : Scope) : Prop :=
  ∀ xa xa' xt xl, (S xa xt xl).train = (S xa' xt xl).train ∧ (S xa xt xl).label = (S xa' xt xl).label ∧
    (S xa xt xl).states = (S xa' xt xl).states

theorem flatMap_congr' {α β} {f g : α → List β} (l : List α) (h : ∀ a ∈ l, f a = g a) : l.flatMap f = l.flatMap g := by
  rw [List.flatMap_def, List.flatMap_def, List.map_congr_left h]

theorem indep_origin : Scope.Indep Scope.origin := fun _ _ _ _ => ⟨rfl, rfl, rfl⟩

theorem indep_stack (bases : List Scope) (hB : ∀ B ∈ bases, B.Indep) (n sp ap st rd : Nat) (S : Scope) (hS : S.Indep) :
    (denoteStack bases n sp ap st rd S).Indep := by
  intro xa xa' xt xl
  -- a fold of the scope: only its apply output depends on the apply input, and the bases do not read that for training
  have hf := fun k => hS xa xa' (.proj (2 * k) (.apply sp (.state sp .none xt xl) [xt]))
    (.proj (2 * k) (.apply sp (.state sp .none xt xl) [xl]))
  unfold denoteStack
  simp only
  refine ⟨?_, trivial, ?_⟩
  · simp only [fun k => (hf k).1, fun k => (hf k).2.1]
  · simp only [fun k => (hf k).1, fun k => (hf k).2.1, fun k => (hf k).2.2]
    congr 1
    exact flatMap_congr' _ fun B hBm => flatMap_congr' _ fun k _ => (hB B hBm _ _ _ _).2.2

mutual
  theorem indep_denoteC : ∀ (e : Expr) (S : Scope), S.Indep → (denoteC e S).Indep
    | .wrap lab app trn, S, hS => fun xa xa' xt xl => by
      obtain ⟨e1, e2, e3⟩ := hS xa xa' xt xl
      simp only [denoteC, denoteWrap, e1, e2, e3, and_self]
    | .mapreduce ms r, S, hS => fun xa xa' xt xl => by
      obtain ⟨e1, e2, e3⟩ := hS xa xa' xt xl
      simp only [denoteC, denoteMapReduce, e1, e2, e3, and_self]
    | .debug a t, S, hS => fun xa xa' xt xl => by
      obtain ⟨e1, e2, e3⟩ := hS xa xa' xt xl
      simp only [denoteC, denoteDebug, e1, e2, e3, and_self]
    | .api op, S, hS => fun xa xa' xt xl => by
      obtain ⟨e1, e2, e3⟩ := hS xa xa' xt xl
      cases op <;> simp only [denoteC, denoteApi, e1, e2, e3, and_self]
    | .stack bases n s a k r, S, hS => by
      rw [denoteC]; exact indep_stack _ (indep_denoteAll bases) n s a k r S hS
    | .seq l r, S, hS => by
      rw [denoteC]
      have hT := indep_denoteC r _ (indep_denoteC l _ indep_origin)
      intro xa xa' xt xl
      obtain ⟨e1, e2, e3⟩ := hS xa xa' xt xl
      simp only [e1, e2, e3]
      obtain ⟨t1, t2, t3⟩ := hT (S xa xt xl).apply (S xa' xt xl).apply (S xa' xt xl).train (S xa' xt xl).label
      exact ⟨t1, t2, by rw [t3]⟩

  theorem indep_denoteAll : ∀ (bs : List Expr), ∀ B ∈ denoteAll bs, B.Indep
    | [], B, hB => by simp [denoteAll] at hB
    | b :: bs, B, hB => by
      rw [denoteAll] at hB
      rcases List.mem_cons.mp hB with h | h
      · rw [h]; exact indep_denoteC b _ indep_origin
      · exact indep_denoteAll bs B h
end

end ForML.Compose
