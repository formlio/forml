/-
C01 — `Table.__iter__` on the final state: the stub getters are exactly the getters of unused output ports, the merged
argument list of every registered object resolves to the arguments of its symbol (`symOf`), hence `emit` succeeds and
returns one `symOf` per object that is not a stub (`Final.emit_ok`).
-/
import ForML.Lemmas.C01Leaves
import ForML.Lemmas.C01Args
import ForML.Lemmas.ListFacts

namespace ForML.Flow
open CState Segment

def Obj.isGetter (o : Obj) : Bool := match o.instr with | .getter _ => true | _ => false

section
variable {g : Segment} {A : Option Assets} {rank : Uid → Nat} {order : List Uid} {s : CState}

inductive ObjForm (g : Segment) (A : Option Assets) : Obj → Prop where
  | functor (w : Worker) : w ∈ g.workers → ObjForm g A (functorObj g A w)
  | loader (γ : Gid) (w : Worker) : w ∈ g.workers → w.gid = γ → persistentW A w = true → ObjForm g A (loaderObj γ)
  | getter (w : Worker) (i : Nat) : w ∈ g.workers → g.trained w.uid = false → w.szout ≠ 1 → i < w.szout →
      ObjForm g A (getterObj w.uid i)
  | dumper (w : Worker) : w ∈ g.workers → g.isTrainer w = true → persistentW A w = true → ObjForm g A (dumperObj w.uid)
  | committer (w : Worker) : w ∈ g.workers → g.isTrainer w = true → persistentW A w = true → ObjForm g A committerObj

theorem Final.obj_form (hf : Final g A rank order s) {k : Key} {o : Obj} (hko : aget k s.index = some o) : ObjForm g A o := by
  obtain ⟨w, hw, _, hc⟩ := hf.idx.sound k o hko
  cases k with
  | uid n => obtain ⟨_, rfl⟩ := hc; exact .functor w hw
  | gid γ =>
    obtain ⟨hg, ⟨_, rfl⟩ | ⟨hP, rfl, _⟩⟩ := hc
    · exact .functor w hw
    · exact .loader γ w hw hg.symm hP
  | loader γ => obtain ⟨hg, rfl, _, hP⟩ := hc; exact .loader γ w hw hg.symm hP
  | getter n i => obtain ⟨rfl, rfl, htr, hne, hi⟩ := hc; exact .getter w i hw htr hne hi
  | dumper n => obtain ⟨rfl, rfl, hT, hP⟩ := hc; exact .dumper w hw hT hP
  | committer => obtain ⟨rfl, hT, hP⟩ := hc; exact .committer w hw hT hP

/-- a getter object is registered under its own key only -/
theorem Final.getter_key (hf : Final g A rank order s) {k : Key} {o : Obj} (hko : aget k s.index = some o)
    (hg : o.isGetter = true) : ∃ n i, k = .getter n i ∧ o = getterObj n i := by
  cases hf.obj_form hko with
  | getter w i =>
    rcases (hf.idx.sound k _ hko).id_cases with ⟨h1, _⟩ | ⟨γ, _, h2⟩ | ⟨γ, t, _, _, _, h2⟩
    · exact ⟨_, _, h1.symm, rfl⟩
    · cases h2
    · simp [getterObj, functorObj] at h2
  | _ => simp [Obj.isGetter, functorObj, functorSym] at hg

/-- the getter of port `i` of `w` is a leaf iff the port has no subscriber -/
theorem Final.getter_leaf (hf : Final g A rank order s) {w : Worker} (hw : w ∈ g.workers)
    (htr : g.trained w.uid = false) (hne : w.szout ≠ 1) {i : Nat} (hi : i < w.szout) :
    Key.getter w.uid i ∈ s.leaves ↔ g.subscribers w.uid i = [] := by
  unfold CState.leaves
  simp only [List.mem_filter, Bool.not_eq_eq_eq_not, Bool.not_true, List.contains_eq_mem, decide_eq_false_iff_not]
  have hkey : Key.getter w.uid i ∈ s.absolute.map (·.1) ++ s.prefixed.map (·.1) :=
    List.mem_append_left _ (mem_keys_of_slot ((hf.slot_iff _ 0 _).mpr ⟨w, hw, LinkSpec.getter i htr hne hi⟩))
  constructor
  · rintro ⟨_, hnp⟩
    cases hsub : g.subscribers w.uid i with
    | nil => rfl
    | cons e r =>
      exfalso
      apply hnp
      have he : e ∈ g.subscribers w.uid i := by rw [hsub]; exact List.mem_cons_self
      obtain ⟨he1, he2, he3⟩ := mem_subscribers.mp he
      apply (hf.parent_iff _).mpr
      left
      have := LinkSpec.edge (A := A) e htr he1 he2 (by omega)
      simp only [hne, if_false, he3] at this
      exact ⟨w, hw, _, _, this⟩
  · intro hnil
    refine ⟨hkey, ?_⟩
    intro hpar
    rcases (hf.parent_iff _).mp hpar with ⟨w', hw', k', j, hl⟩ | ⟨w', _, _, hk⟩
    · rcases linkSpec_inv hl with ⟨_, _, ha, _⟩ | ⟨_, ha, _⟩ | ⟨i', _, _, ha, _⟩ | ⟨e, _, _, ha, _, he, hpub, _⟩
      · cases ha
      · cases ha
      · cases ha
      · split at ha
        · cases ha
        · simp only [Key.getter.injEq] at ha
          have : e ∈ g.subscribers w.uid i := mem_subscribers.mpr ⟨he, by rw [hpub, ← ha.1], ha.2.symm⟩
          rw [hnil] at this; cases this
    · unfold stateKey at hk
      split at hk <;> cases hk

/-- `self._index[a]` for an argument slot (a gap or an unknown key fails) -/
def resolve (s : CState) (a : Option Key) : Option Key := a.bind (fun k => (aget k s.index).map (·.id))

theorem mapM_resolve {s : CState} (l : List Key) (h : ∀ k ∈ l, resolve s (some k) = some k) :
    (l.map some).mapM (resolve s) = some l := by
  induction l with
  | nil => rfl
  | cons k r ih =>
    rw [List.map_cons, List.mapM_cons, h k List.mem_cons_self, ih (fun k' hk' => h k' (List.mem_cons_of_mem _ hk'))]
    rfl

theorem Final.resolve_port (hf : Final g A rank order s) {e : Edge} (he : e ∈ g.edges) :
    resolve s (some (g.portKey e)) = some (g.portKey e) := by
  obtain ⟨p, hp, hlt⟩ := (hf.wf.edge e he).pub
  obtain ⟨hpm, hpu⟩ := worker?_some hp
  unfold portKey resolve
  rw [hp]
  simp only [Option.bind_some]
  split
  · rw [← hpu, hf.ix_uid hpm]; rfl
  · rename_i hne
    rw [← hpu, hf.ix_getter hpm (publisher_untrained hf.wf he hp) hne hlt]; rfl

theorem Final.resolve_data (hf : Final g A rank order s) {w : Worker} {k : Key}
    (hk : k ∈ g.dataArgs w) : resolve s (some k) = some k := by
  unfold dataArgs at hk
  split at hk
  · simp only [List.mem_map, List.mem_append, Option.mem_toList] at hk
    obtain ⟨e, he | he, rfl⟩ := hk
    · exact hf.resolve_port (publisher_some he).1
    · exact hf.resolve_port (publisher_some he).1
  · simp only [List.mem_filterMap, List.mem_range, Option.map_eq_some_iff] at hk
    obtain ⟨i, _, e, he, rfl⟩ := hk
    exact hf.resolve_port (publisher_some he).1

theorem Final.resolve_state (hf : Final g A rank order s)
    {w : Worker} (hw : w ∈ g.workers) (hp : g.hasPreset A w = true) :
    resolve s (some (stateKey g A w)) = some (g.stateSrc w) := by
  unfold resolve
  simp only [Option.bind_some]
  cases hT : g.isTrainer w with
  | true =>
    have htr := trained_of_isTrainer hT
    have hP : persistentW A w = true := (hasPreset_trained hf.wf hw htr).symm.trans hp
    simp only [stateKey, stateSrc, hT, hP, Bool.and_self, if_true]
    rw [hf.ix_loader hw hT hP]; rfl
  | false =>
    have hst : w.stateful = true := by simp only [hasPreset, Bool.and_eq_true] at hp; exact hp.1
    have htr : g.trained w.uid = false := by simp only [isTrainer, hst, Bool.true_and] at hT; exact hT
    simp only [stateKey, stateSrc, hT, Bool.false_and, Bool.false_eq_true, if_false]
    cases htO : g.trainerOf w.gid with
    | some t =>
      obtain ⟨htm, htg, htt⟩ := trainerOf_some htO
      simp only
      rw [← htg, hf.ix_gid_trainer htm (isTrainer_of_trained hf.wf htm htt)]; rfl
    | none =>
      have hP : persistentW A w = true := (hasPreset_no_trainer hf.assets hw hst htO).symm.trans hp
      simp only
      rw [hf.ix_gid_loader hw hP htO]; rfl

theorem Final.functor_args (hf : Final g A rank order s)
    {w : Worker} (hw : w ∈ g.workers) :
    (s.link (.uid w.uid)).mapM (resolve s) = some (g.functorSym A w).args := by
  have hdata := mapM_resolve (g.dataArgs w) (fun k hk => hf.resolve_data hk)
  rw [CState.link_eq, hf.pf_uid hw, hf.ab_uid hw]
  simp only [functorSym]
  split
  · rename_i hp
    simp only [List.reverse_cons, List.reverse_nil, List.nil_append, List.map_cons, List.map_nil, List.singleton_append,
      List.mapM_cons, hf.resolve_state hw hp, hdata]
    rfl
  · simp only [List.reverse_nil, List.map_nil, List.nil_append, hdata]

theorem Final.link_nolink (hf : Final g A rank order s) {k : Key}
    (hk : (∃ γ, k = Key.gid γ) ∨ (∃ γ, k = Key.loader γ)) : s.link k = [] := by
  rw [CState.link_eq, hf.ab_nolink hk, hf.pf_other (by rcases hk with ⟨γ, rfl⟩ | ⟨γ, rfl⟩ <;> simp)]
  rfl

theorem Final.link_nouid (hf : Final g A rank order s) {k : Key} (hk : ∀ n, k ≠ Key.uid n) : s.link k = s.ab k := by
  rw [CState.link_eq, hf.pf_other hk]; rfl

/-- objects of the final index are determined by their identity -/
theorem objForm_inj (h : WF g rank) {o o' : Obj} (ho : ObjForm g A o) (ho' : ObjForm g A o') (hid : o.id = o'.id) :
    o = o' := by
  cases ho with
  | functor w hw =>
    cases ho' with
    | functor w' hw' =>
      have : w = w' := worker_eq_of_uid h.nodup hw hw'
        (by simpa [functorObj] using hid)
      rw [this]
    | _ => simp [functorObj] at hid
  | loader γ w hw hg hP =>
    cases ho' with
    | loader γ' _ _ _ _ => simp only [Key.loader.injEq] at hid; rw [hid]
    | _ => simp [functorObj] at hid
  | getter w i hw htr hne hi =>
    cases ho' with
    | getter w' i' _ _ _ _ => simp only [Key.getter.injEq] at hid; rw [hid.1, hid.2]
    | _ => simp [functorObj] at hid
  | dumper w hw hT hP =>
    cases ho' with
    | dumper w' _ _ _ => simp only [Key.dumper.injEq] at hid; rw [hid]
    | _ => simp [functorObj] at hid
  | committer w hw hT hP =>
    cases ho' with
    | committer _ _ _ _ => rfl
    | _ => simp [functorObj] at hid

theorem Final.functionalIds (hf : Final g A rank order s) : FunctionalIds s.index := by
  intro x hx y hy hid
  exact objForm_inj hf.wf (hf.obj_form (aget_of_mem_nodup hf.idx.keys hx)) (hf.obj_form (aget_of_mem_nodup hf.idx.keys hy)) hid

/-- the symbol the object `o` of the final index is emitted as -/
def symOf (g : Segment) (A : Option Assets) (o : Obj) : Symbol :=
  match o.id with
  | .uid n => match g.worker? n with
    | some w => g.functorSym A w
    | none => ⟨o.id, o.instr, []⟩
  | .getter n _ => ⟨o.id, o.instr, [.uid n]⟩
  | .dumper n => ⟨o.id, o.instr, [.uid n]⟩
  | .committer => ⟨o.id, o.instr, match A with
    | some As => As.persistent.filterMap (fun γ => (g.trainerOf γ).map (fun t => Key.dumper t.uid))
    | none => []⟩
  | _ => ⟨o.id, o.instr, []⟩

theorem symOf_functor (h : WF g rank) {w : Worker} (hw : w ∈ g.workers) : symOf g A (functorObj g A w) = g.functorSym A w := by
  simp [symOf, functorObj, worker?_of_mem h.nodup hw]

theorem Final.obj_args (hf : Final g A rank order s) {o : Obj}
    (hform : ObjForm g A o) :
    (s.link o.id).mapM (resolve s) = some (symOf g A o).args ∧ (symOf g A o).id = o.id ∧ (symOf g A o).instr = o.instr := by
  cases hform with
  | functor w hw =>
    rw [symOf_functor hf.wf hw]
    exact ⟨hf.functor_args hw, rfl, rfl⟩
  | loader γ w hw hg hP =>
    refine ⟨?_, rfl, rfl⟩
    simp only [symOf]
    rw [hf.link_nolink (Or.inr ⟨γ, rfl⟩)]; rfl
  | getter w i hw htr hne hi =>
    refine ⟨?_, rfl, rfl⟩
    simp only [symOf]
    rw [hf.link_nouid (by simp), hf.ab_getter hw htr hne hi]
    simp only [List.mapM_cons, List.mapM_nil, resolve, Option.bind_some]
    rw [hf.ix_uid hw]; rfl
  | dumper w hw hT hP =>
    refine ⟨?_, rfl, rfl⟩
    simp only [symOf]
    rw [hf.link_nouid (by simp), hf.ab_dumper hw hT hP]
    simp only [List.mapM_cons, List.mapM_nil, resolve, Option.bind_some]
    rw [hf.ix_uid hw]; rfl
  | committer w hw hT hP =>
    refine ⟨?_, rfl, rfl⟩
    obtain ⟨_, As, hAs, _⟩ := persistentW_true hP
    simp only [symOf, hAs]
    rw [hf.link_nouid (by simp), hf.ab_committer hAs hw hT hP]
    refine mapM_resolve _ (fun k hk => ?_)
    simp only [List.mem_filterMap, Option.map_eq_some_iff] at hk
    obtain ⟨γ, hγ, t, htO, rfl⟩ := hk
    obtain ⟨htm, hTt, hPt⟩ := persistent_trainer hf.wf hAs hγ htO
    simp only [resolve, Option.bind_some]
    rw [hf.ix_dumper htm hTt hPt]; rfl

/-- one iteration of the loop of `__iter__` on a group of the final index -/
theorem Final.emitGroup_eq (hf : Final g A rank order s)
    (stubs : List Key) {o : Obj} {ks : List Key} (hg : (o, ks) ∈ groupRuns s.index) :
    emitGroup s stubs (o, ks) = .ok (if stubs.contains o.id then none else some (symOf g A o)) := by
  have hfun := hf.functionalIds
  obtain ⟨hne, hmem⟩ := groupRuns_sound s.index hfun (o, ks) hg
  have hnd := groupRuns_keys_nodup s.index hfun hf.idx.keys (o, ks) hg
  simp only at hne hmem hnd
  obtain ⟨k0, ks', rfl⟩ : ∃ k0 ks', ks = k0 :: ks' := by
    cases ks with
    | nil => exact absurd rfl hne
    | cons a b => exact ⟨a, b, rfl⟩
  have hget : ∀ k ∈ k0 :: ks', aget k s.index = some o := fun k hk => aget_of_mem_nodup hf.idx.keys (hmem k hk)
  have hform : ObjForm g A o := hf.obj_form (hget k0 List.mem_cons_self)
  -- aliases carry no arguments
  have hempty : ∀ k ∈ k0 :: ks', k ≠ o.id → s.link k = [] := by
    intro k hk hkne
    rcases (hf.idx.sound k o (hget k hk)).id_cases with ⟨h1, _⟩ | ⟨γ, rfl, _⟩ | ⟨γ, t, rfl, _⟩
    · exact absurd h1.symm hkne
    · exact hf.link_nolink (Or.inl ⟨γ, rfl⟩)
    · exact hf.link_nolink (Or.inl ⟨γ, rfl⟩)
  -- an object that is not registered under its own identity is a loader standing under the group alias
  have hnotin : o.id ∉ k0 :: ks' → s.link o.id = [] := by
    intro hni
    rcases (hf.idx.sound k0 o (hget k0 List.mem_cons_self)).id_cases with ⟨h1, _⟩ | ⟨γ, _, rfl⟩ | ⟨γ, t, _, ht, _, rfl⟩
    · exact absurd (h1 ▸ List.mem_cons_self) hni
    · exact hf.link_nolink (Or.inr ⟨γ, rfl⟩)
    · exfalso
      apply hni
      have := mem_of_aget (hf.ix_uid ht)
      exact groupRuns_all_keys s.index hfun hf.idx.contig hg this
  have hmerged : ks'.foldl (fun acc k' => acc.bind (fun a => mergeArgs a (s.link k'))) (some (s.link k0))
      = some (s.link o.id) := by
    have := merge_fold s.link o.id (k0 :: ks') [] hempty hnd (fun _ => rfl)
    simp only [List.foldl_cons, Option.bind_some, mergeArgs_nil_left] at this
    rw [this]
    split
    · rfl
    · rename_i hni; rw [hnotin hni]
  obtain ⟨hargs, hid, hinstr⟩ := hf.obj_args hform
  unfold emitGroup
  simp only
  split
  · rfl
  · simp only [hmerged]
    have : (s.link o.id).mapM (fun a => a.bind (fun k => (aget k s.index).map (·.id))) = some (symOf g A o).args := hargs
    rw [this]
    simp only
    congr 2
    rw [← hid, ← hinstr]

/-- `emit` when its three fallible steps succeed -/
theorem emit_eq_of (s : CState) (hl : s.leaves ≠ [] ∨ s.parents = []) (objs : List Obj)
    (hobjs : s.leaves.mapM (fun n => match aget n s.index with
      | some o => (pure o : Except CErr Obj) | none => throw CErr.keyError) = .ok objs)
    (syms : List (Option Symbol))
    (hsyms : (groupRuns s.index).mapM (emitGroup s ((objs.filter Obj.isGetter).map (·.id))) = .ok syms) :
    emit s = .ok (syms.filterMap id) := by
  unfold emit
  have : (s.leaves.isEmpty && !s.parents.isEmpty) = false := by
    rcases hl with hl | hl
    · cases hs : s.leaves with
      | nil => exact absurd hs hl
      | cons _ _ => rfl
    · rw [hl]; simp
  simp only [this, Bool.false_eq_true, if_false]
  erw [hobjs]
  simp only [bind, Except.bind]
  erw [hsyms]
  rfl

def objOf (s : CState) (k : Key) : Obj := (aget k s.index).getD default

/-- `stubs` of `__iter__`: identities of the getter instructions among the leaves -/
def stubsOf (s : CState) : List Key := ((s.leaves.map (objOf s)).filter Obj.isGetter).map (·.id)

/-- the stub getters are exactly the getters of output ports nobody subscribed to -/
theorem Final.stub_iff (hf : Final g A rank order s) {o : Obj} (hform : ObjForm g A o) :
    (stubsOf s).contains o.id = true ↔
      ∃ w i, w ∈ g.workers ∧ g.trained w.uid = false ∧ w.szout ≠ 1 ∧ i < w.szout ∧ o = getterObj w.uid i ∧
        g.subscribers w.uid i = [] := by
  simp only [stubsOf, List.contains_iff_mem, List.mem_map, List.mem_filter]
  constructor
  · rintro ⟨o', ⟨⟨k, hk, rfl⟩, hg⟩, hid⟩
    obtain ⟨o'', hko⟩ := hf.leaf_registered hk
    have hobj : objOf s k = o'' := by simp [objOf, hko]
    rw [hobj] at hg hid
    obtain ⟨n, i, rfl, rfl⟩ := hf.getter_key hko hg
    obtain ⟨w, hwm, _, rfl, _, htr, hne, hi⟩ := hf.idx.sound _ _ hko
    have ho2 : o = getterObj w.uid i := objForm_inj hf.wf hform (hf.obj_form hko) hid.symm
    exact ⟨w, i, hwm, htr, hne, hi, ho2, (hf.getter_leaf hwm htr hne hi).mp hk⟩
  · rintro ⟨w, i, hw, htr, hne, hi, rfl, hnil⟩
    have hk := (hf.getter_leaf hw htr hne hi).mpr hnil
    have hko := hf.ix_getter hw htr hne hi
    refine ⟨getterObj w.uid i, ⟨⟨_, hk, by simp [objOf, hko]⟩, rfl⟩, rfl⟩

def emitted (g : Segment) (A : Option Assets) (s : CState) : Table :=
  (groupRuns s.index).filterMap (fun grp => if (stubsOf s).contains grp.1.id then none else some (symOf g A grp.1))

theorem Final.emit_ok (hf : Final g A rank order s) :
    emit s = .ok (emitted g A s) := by
  have h1 := emit_eq_of s (hf.leaves_ok) (s.leaves.map (objOf s))
    (mapM_eq_pure (g := objOf s) (by
      intro k hk
      obtain ⟨o, hko⟩ := hf.leaf_registered hk
      simp [objOf, hko]))
    ((groupRuns s.index).map (fun grp => if (stubsOf s).contains grp.1.id then none else some (symOf g A grp.1)))
    (mapM_eq_pure (by
      intro grp hgrp
      obtain ⟨o, ks⟩ := grp
      exact hf.emitGroup_eq _ hgrp))
  rw [h1, List.filterMap_map]
  rfl

end

end ForML.Flow
