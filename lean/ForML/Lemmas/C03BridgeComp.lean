/-
C03 ↔ C01 bridge: the graph of `flow.Composition(source, e)` — the source operator's three workers and two `Future`
tails, the expansion of `e` on top of them, its three heads bound to the source's tails — carries a certified valuation
without open holes whose tails hold `⟦e⟧` of the source's outputs.
-/
import ForML.Lemmas.C03Ops
import ForML.Model.ComposeSegment

namespace ForML.Compose

/-- the graph `extract.Operator.compose(Origin())` builds from scratch -/
def sourceGraph (src : Source) : Graph :=
  { next := 8
    nodes := [⟨0, .worker 1 ⟨src.apply, false⟩ 0 1⟩, ⟨2, .worker 3 ⟨src.train, false⟩ 0 1⟩, ⟨4, .future⟩, ⟨5, .future⟩,
      ⟨6, .worker 7 ⟨src.label, false⟩ 1 2⟩]
    edges := [⟨6, 0, ⟨2, 0⟩⟩, ⟨4, 0, ⟨6, 0⟩⟩, ⟨5, 0, ⟨6, 1⟩⟩]
    trains := [] }

def sourceTrunk : Trunk := ⟨⟨0, 0⟩, ⟨2, 4⟩, ⟨2, 5⟩⟩

theorem run_composeSource (src : Source) : Run (composeSource src) {} sourceTrunk (sourceGraph src) := rfl

/-- the label extractor's output -/
def Source.extracted (src : Source) : Val := .apply src.label .none [.apply src.train .none []]

def sourceWorld (src : Source) : World :=
  { σ := fun p =>
      if p.node = 0 then src.xa
      else if p.node = 2 then .apply src.train .none []
      else if p.node = 6 then .proj p.idx src.extracted
      else if p.node = 4 then src.xt
      else if p.node = 5 then src.xl
      else .none
    h := fun n => if n = 6 then 1 else if n = 4 ∨ n = 5 then 2 else 0
    live := fun n => n = 0 ∨ n = 2 ∨ n = 4 ∨ n = 5 ∨ n = 6 }

theorem source_kind0 (src : Source) : (sourceGraph src).kindOf 0 = some (.worker 1 ⟨src.apply, false⟩ 0 1) := rfl
theorem source_kind2 (src : Source) : (sourceGraph src).kindOf 2 = some (.worker 3 ⟨src.train, false⟩ 0 1) := rfl
theorem source_kind4 (src : Source) : (sourceGraph src).kindOf 4 = some .future := rfl
theorem source_kind5 (src : Source) : (sourceGraph src).kindOf 5 = some .future := rfl
theorem source_kind6 (src : Source) : (sourceGraph src).kindOf 6 = some (.worker 7 ⟨src.label, false⟩ 1 2) := rfl
theorem source_in4 (src : Source) : (sourceGraph src).inputOf 4 0 = some ⟨6, 0⟩ := rfl
theorem source_in5 (src : Source) : (sourceGraph src).inputOf 5 0 = some ⟨6, 1⟩ := rfl
theorem source_in6 (src : Source) : (sourceGraph src).inputOf 6 0 = some ⟨2, 0⟩ := rfl

theorem source_bounded (src : Source) : Bounded (sourceGraph src) := by
  constructor
  · intro n hn
    simp only [sourceGraph, List.mem_cons, List.mem_nil_iff, or_false] at hn
    rcases hn with h | h | h | h | h <;> subst h <;> simp [sourceGraph]
  · intro n hn gid a i o hk
    simp only [sourceGraph, List.mem_cons, List.mem_nil_iff, or_false] at hn
    rcases hn with h | h | h | h | h <;> subst h <;> cases hk <;> simp [sourceGraph]
  · intro e he
    simp only [sourceGraph, List.mem_cons, List.mem_nil_iff, or_false] at he
    rcases he with h | h | h <;> subst h <;> simp [sourceGraph]
  · intro t ht
    simp [sourceGraph] at ht

theorem source_wired (src : Source) : Wired (sourceGraph src) := by
  refine ⟨?_, ?_, ?_⟩
  · intro e he
    simp only [sourceGraph, List.mem_cons, List.mem_nil_iff, or_false] at he
    rcases he with h | h | h <;> subst h <;> simp [sourceGraph]
  · intro e he
    simp only [sourceGraph, List.mem_cons, List.mem_nil_iff, or_false] at he
    rcases he with h | h | h <;> subst h <;> rfl
  · simp [sourceGraph]

theorem source_inv (src : Source) : Inv (sourceGraph src) (sourceWorld src) := by
  have hb := source_bounded src
  refine ⟨hb.nodesLt, hb.gidsLt, hb.edgesLt, hb.trainsLt, ?_, ?_⟩
  · rintro n (h | h | h | h | h) <;> subst h <;> exact ⟨of_decide_eq_true rfl, of_decide_eq_true rfl⟩
  · intro n hl
    rcases hl with h | h | h | h | h <;> subst h
    · exact .worker (source_kind0 src) (fun _ => default) (fun k hk => absurd hk (Nat.not_lt_zero k)) (.stateless rfl)
        fun _ => rfl
    · exact .worker (source_kind2 src) (fun _ => default) (fun k hk => absurd hk (Nat.not_lt_zero k)) (.stateless rfl)
        fun _ => rfl
    · exact .bound (source_kind4 src) (source_in4 src) ⟨.inr (.inr (.inr (.inr rfl))), of_decide_eq_true rfl⟩ fun _ => rfl
    · exact .bound (source_kind5 src) (source_in5 src) ⟨.inr (.inr (.inr (.inr rfl))), of_decide_eq_true rfl⟩ fun _ => rfl
    · refine .worker (source_kind6 src) (fun _ => ⟨2, 0⟩) (fun k hk => ?_) (.stateless rfl) fun _ => rfl
      obtain rfl : k = 0 := Nat.lt_one_iff.mp hk
      exact ⟨source_in6 src, .inr (.inl rfl), of_decide_eq_true rfl⟩

/-- what the composed graph of `flow.Composition(source, e)` provides -/
structure CompOk (src : Source) (s : Sem) (t : Trunk) (g : Graph) (W : World) : Prop where
  inv : Inv g W
  wired : Wired g
  noOpen : ∀ n, W.live n → ¬ g.isOpen n
  frame : Frame (sourceGraph src) g
  heads : t.apply.head = 0 ∧ t.train.head = 2
  ta : W.live t.apply.tail ∧ W.σ ⟨t.apply.tail, 0⟩ = s.apply
  tt : W.live t.train.tail ∧ W.σ ⟨t.train.tail, 0⟩ = s.train
  trains : (∀ T ∈ g.trains, W.live T.train.node ∧ W.live T.label.node) ∧ g.trains.map (trainedUnder W) = s.states

theorem composition_spec (src : Source) {m : GraphM Trunk} {S : Scope} (hm : Spec True m S) :
    ∃ t g W, Run (do let s ← composeSource src; let t ← m; s.extendTrunk t) {} t g ∧
      CompOk src (S src.xa src.xt src.xl) t g W := by
  have hiS := source_inv src
  obtain ⟨t, g1, W1, hr1, ok⟩ := hm (sourceGraph src) (sourceWorld src) src.xa src.xt src.xl 3 hiS (source_wired src)
    (of_decide_eq_true rfl)
  have old : ∀ q : PubRef, (sourceWorld src).live q.node → PubOk W1 q 3 ((sourceWorld src).σ q) := fun q hq =>
    PubOk.agree ⟨hq, by rcases hq with h | h | h | h | h <;> rw [h] <;> exact of_decide_eq_true rfl, rfl⟩ ok.agree
      (hiS.liveLt _ hq).1
  obtain ⟨g4, hr4, hi4, hw4, f4, -, tr4, k4, in4, noOpen⟩ := ok.bindHeads sourceTrunk (old ⟨0, 0⟩ (.inl rfl))
    (old ⟨4, 0⟩ (.inr (.inr (.inl rfl)))) (old ⟨5, 0⟩ (.inr (.inr (.inr (.inl rfl)))))
  refine ⟨_, g4, W1, Run.bind (run_composeSource src) (Run.bind hr1 hr4), hi4, hw4, ?_, f4, ⟨rfl, rfl⟩, ok.ta, ok.tt, ?_⟩
  · -- no evaluable hole is open: the source has none, and the heads of the expansion are bound
    intro n hl ho
    by_cases hn : n < 8
    · have hl0 : (sourceWorld src).live n := ((ok.agree n hn).1).mp hl
      have ho0 : (sourceGraph src).isOpen n :=
        (ok.frame.isOpen hn).mp (ho.of_mono (k4 n) fun _ h => (in4 _ _ _).mpr (.inl h))
      rcases hl0 with h | h | h | h | h <;> subst h
      · rw [Graph.isOpen, source_kind0] at ho0; cases ho0.1
      · rw [Graph.isOpen, source_kind2] at ho0; cases ho0.1
      · rw [Graph.isOpen, source_in4] at ho0; cases ho0.2
      · rw [Graph.isOpen, source_in5] at ho0; cases ho0.2
      · rw [Graph.isOpen, source_kind6] at ho0; cases ho0.1
    · exact noOpen n (Nat.le_of_not_lt hn) hl ho
  · obtain ⟨ts, hts, hlive, hmap⟩ := ok.trains
    rw [tr4, hts]
    exact ⟨hlive, hmap⟩

end ForML.Compose
