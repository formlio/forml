/-
C07: the argument-handling layer (Model/GrammarApi).  The rank-sorted scan of `kind.reflect` finds the documented kind
for every iteration order of `Primitive.__subkinds__`; the spellings of an ordering list make the same orderings;
`Query.__new__` on made orderings is `checkQuery`.
-/
import ForML.Model.GrammarApi
import ForML.Lemmas.C07Result
import ForML.Lemmas.ListFacts

namespace ForML.Dsl

theorem insRank_isInsert : IsInsert insRank (fun x y => decide (x.rank ≤ y.rank)) :=
  ⟨fun _ => rfl, fun _ _ _ => by simp [insRank]⟩

theorem isort_perm (l : List Kind) : (isort l).Perm l := insRank_isInsert.foldr_perm l

theorem isort_sorted (l : List Kind) : (isort l).Pairwise (fun a b => a.rank ≤ b.rank) :=
  insRank_isInsert.foldr_pairwise (fun _ _ h => of_decide_eq_true h)
    (fun _ _ h => Nat.le_of_lt (Nat.lt_of_not_le (of_decide_eq_false h))) (fun _ _ _ => Nat.le_trans) l

/-- the kind the documentation gives a value of each python type -/
def PyTag.kind : PyTag → Option Kind
  | .bool => some .boolean | .int => some .integer | .float => some .float | .str => some .string
  | .decimal => some .decimal | .date => some .date | .datetime => some .timestamp
  | .none => Option.none | .seq => Option.none

/-- the finite facts about the seven primitives: among the kinds whose `__type__` matches a python type, the
documented one has the strictly smallest rank (and no kind matches `None` or a sequence) -/
def primOk (t : PyTag) : Bool :=
  match t.kind with
  | some k0 => primitiveKinds.contains k0 && t.isa k0 &&
      primitiveKinds.all (fun k => !t.isa k || k == k0 || decide (k0.rank < k.rank))
  | none => primitiveKinds.all (fun k => !t.isa k)

theorem primOk_all (t : PyTag) : primOk t = true := by cases t <;> decide +kernel

theorem find_primitive (order : List Kind) (hp : order.Perm primitiveKinds) (t : PyTag) :
    (isort order).find? (t.isa ·) = t.kind := by
  have hperm : (isort order).Perm primitiveKinds := (isort_perm order).trans hp
  have hsorted := isort_sorted order
  have hmem : ∀ k, k ∈ isort order ↔ k ∈ primitiveKinds := fun k => hperm.mem_iff
  have hok := primOk_all t
  unfold primOk at hok
  cases hk : t.kind with
  | none =>
    rw [hk] at hok
    rw [List.find?_eq_none]
    intro k hkm
    have := List.all_eq_true.mp hok k ((hmem k).mp hkm)
    simpa using this
  | some k0 =>
    rw [hk] at hok
    simp only [Bool.and_eq_true, List.contains_iff_mem, List.all_eq_true, Bool.or_eq_true, Bool.not_eq_true',
      beq_iff_eq, decide_eq_true_eq] at hok
    obtain ⟨⟨h1, h2⟩, h3⟩ := hok
    apply find?_of_pairwise hsorted ((hmem k0).mpr h1) h2
    intro k hkm hpk
    rcases h3 k ((hmem k).mp hkm) with (h | h) | h
    · rw [hpk] at h
      cases h
    · exact Or.inl h
    · exact Or.inr (Nat.not_le_of_gt h)

theorem reflectWith_spec (order : List Kind) (hp : order.Perm primitiveKinds) (v : PyVal) :
    reflectWith order v = match v.kindSpec with
      | some k => Except.ok k
      | none => Except.error CtorErr.illtyped := by
  induction v with
  | seq x ih =>
    simp only [reflectWith, find_primitive order hp, PyTag.kind, ih, PyVal.kindSpec]
    cases x.kindSpec <;> simp [bind, Except.bind]
  | _ => simp [reflectWith, find_primitive order hp, PyVal.tag, PyTag.kind, PyVal.kindSpec]

theorem reflect_spec (v : PyVal) : reflect v = match v.kindSpec with
    | some k => Except.ok k
    | none => Except.error CtorErr.illtyped :=
  reflectWith_spec primitiveKinds (List.Perm.refl _) v

/-- the step the inductions `makeOrderings_terms/_pairs/_flat` share: `X` is the made tail, in whichever spelling -/
theorem makeOrderings_step_eq_guard (f : Feature) (d : Dir) (X : R (List Ordering)) (os : List Ordering) (c : Bool)
    (hX : X = (do guardG c; Except.ok os)) :
    (do let o ← mkOrdering f d; let os' ← X; (Except.ok (o :: os') : R (List Ordering))) =
      (do guardG (!f.isAlias && c); Except.ok (Ordering.mk f d :: os)) := by
  subst hX
  unfold mkOrdering
  cases f.isAlias <;> cases c <;> rfl

theorem makeOrderings_terms : (os : List Ordering) →
    makeOrderings (os.map Ordering.term) = (do guardG (os.all (fun o => !o.feature.isAlias)); Except.ok os)
  | [] => rfl
  | .mk f d :: os => by
    simp only [List.map_cons, Ordering.term, makeOrderings]
    exact makeOrderings_step_eq_guard f d _ os _ (makeOrderings_terms os)

theorem makeOrderings_pairs : (os : List Ordering) →
    makeOrderings (os.map (fun o => OTerm.pair o.feature (.enum o.dir))) =
      (do guardG (os.all (fun o => !o.feature.isAlias)); Except.ok os)
  | [] => rfl
  | .mk f d :: os => by
    simp only [List.map_cons, makeOrderings]
    exact makeOrderings_step_eq_guard f d _ os _ (makeOrderings_pairs os)

theorem makeOrderings_flat : (os : List Ordering) →
    makeOrderings (os.flatMap (fun o => [OTerm.feat o.feature, .dir (.enum o.dir)])) =
      (do guardG (os.all (fun o => !o.feature.isAlias)); Except.ok os)
  | [] => rfl
  | .mk f d :: os => by
    simp only [List.flatMap_cons, List.cons_append, List.nil_append, makeOrderings]
    exact makeOrderings_step_eq_guard f d _ os _ (makeOrderings_flat os)

theorem mkOrdering_cons_operable (f : Feature) (d : Dir) (X : R (List Ordering)) (os : List Ordering)
    (ih : ∀ os', X = Except.ok os' → os'.all (fun o => !o.feature.isAlias) = true)
    (h : (do let o ← mkOrdering f d; let os' ← X; (Except.ok (o :: os') : R (List Ordering))) = Except.ok os) :
    os.all (fun o => !o.feature.isAlias) = true := by
  simp only [bind_eq_ok, Except.ok.injEq] at h
  obtain ⟨o, ho, os', hos, rfl⟩ := h
  unfold mkOrdering at ho
  cases hf : f.isAlias <;> simp [hf, guardG, bind, Except.bind] at ho
  subst ho
  rw [List.all_cons, ih os' hos]
  simp [Ordering.feature, hf]

theorem makeOrderings_operable : (ts : List OTerm) → (os : List Ordering) → makeOrderings ts = Except.ok os →
    os.all (fun o => !o.feature.isAlias) = true := by
  intro ts
  induction ts using makeOrderings.induct with
  | case1 => intro os h; simp only [makeOrderings, Except.ok.injEq] at h; subst h; rfl
  | case2 f e rest ih =>
    intro os h
    rw [makeOrderings] at h
    exact mkOrdering_cons_operable f e _ os ih h
  | case3 f s rest ih =>
    intro os h
    rw [makeOrderings, bind_eq_ok] at h
    obtain ⟨d, _, h⟩ := h
    exact mkOrdering_cons_operable f d _ os ih h
  | case4 f rest h1 h2 ih =>
    intro os h
    rw [makeOrderings.eq_4 f rest h1 h2] at h
    exact mkOrdering_cons_operable f .asc _ os ih h
  | case5 f a rest ih =>
    intro os h
    rw [makeOrderings, bind_eq_ok] at h
    obtain ⟨d, _, h⟩ := h
    exact mkOrdering_cons_operable f d _ os ih h
  | case6 f d rest ih =>
    intro os h
    rw [makeOrderings] at h
    exact mkOrdering_cons_operable f d _ os ih h
  | case7 s tail hs => intro os h; simp [makeOrderings, hs] at h
  | case8 s tail hs => intro os h; simp [makeOrderings, hs] at h
  | case9 a tail ha =>
    intro os h
    cases a with
    | str s => exact absurd rfl (ha s)
    | enum _ | none => simp [makeOrderings] at h
  | case10 tail => intro os h; simp [makeOrderings] at h

/-- what `Ordering.make` yields is made again unchanged from the `Ordering` instances (the chained interface hands
the stored orderings to `Query.__new__` again) -/
theorem makeOrderings_idem (ts : List OTerm) (os : List Ordering) (h : makeOrderings ts = Except.ok os) :
    makeOrderings (os.map Ordering.term) = Except.ok os := by
  rw [makeOrderings_terms, makeOrderings_operable ts os h]
  rfl

theorem Features.ofList_toList : (fs : Features) → Features.ofList fs.toList = fs
  | .nil => rfl
  | .cons f fs => by simp [Features.toList, Features.ofList, Features.ofList_toList fs]

theorem FeatureOpt.ofOption_toOption : (c : FeatureOpt) → FeatureOpt.ofOption c.toOption = c
  | .none => rfl
  | .some _ => rfl

theorem FeatureOpt.toOption_ofOption : (c : Option Feature) → (FeatureOpt.ofOption c).toOption = c
  | Option.none => rfl
  | Option.some _ => rfl

theorem Orderings.ofList_toList : (os : Orderings) → Orderings.ofList os.toList = os
  | .nil => rfl
  | .cons o os => by simp [Orderings.toList, Orderings.ofList, Orderings.ofList_toList os]

theorem queryNew_terms (eqv : Feature → Feature → Bool) (s : Source) (sel : List Feature) (pre : Option Feature)
    (grp : List Feature) (post : Option Feature) (ord : List Ordering) (rows : Option Rows) :
    queryNew eqv s sel pre grp post (ord.map Ordering.term) rows =
      (do checkQuery eqv s sel pre grp post ord
          Except.ok (.query s (Features.ofList sel) (FeatureOpt.ofOption pre) (Features.ofList grp)
            (FeatureOpt.ofOption post) (Orderings.ofList ord) rows)) := by
  simp only [queryNew, checkQuery, makeOrderings_terms]
  -- `features` is read twice on the left: once its value is known the two sides are the same sequence of steps
  cases s.featuresOf with
  | error e => rfl
  | ok feats =>
    simp only [ok_bind, bind_assoc, List.all_nil, List.map_nil, guardG, dissectAll, List.foldl_nil, subsetBy, if_true]

theorem JoinKind.ofWire_wire (k : JoinKind) : JoinKind.ofWire k.wire = some k := by
  cases k <;> rfl

end ForML.Dsl
