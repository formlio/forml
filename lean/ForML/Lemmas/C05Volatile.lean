/-
The volatile registry (C05): the temporary directory holds generations only; project and release
directories appear with the first write / commit — which is why the footprints of `write` / `close` (`trainFoot`,
`train_left`) are stated on any tree, with the directories `mkdir -p` finds missing.
-/
import ForML.Lemmas.C05Handles
import ForML.Model.RegistryVolatile

namespace ForML.Registry
open ForML.Fs

theorem vtrain_left (kf : Bool) (fs x : Fs) (g2 : Good2 fs) (p v ord : Nat) (sts : List (Nat × Bytes))
    (hx : CrashTree fs (trainCalls ⟨true, kf⟩ p v ord sts) x) :
    Good2 x ∧ EqOff (trainFoot fs p v (nextGen fs p v)) x fs
      ∧ (get x (tagP p v (nextGen fs p v)) = none ∨ FullTree fs (trainCalls ⟨true, kf⟩ p v ord sts) x) := by
  have sfx := hx.stateFiles g2.sf (by
    intro c hc f op hop
    rw [trainCalls_eq] at hc
    rcases List.mem_append.mp hc with hc | hc
    · simp only [writeCalls, List.mem_map] at hc
      obtain ⟨s, _, rfl⟩ := hc
      exact writeOps_opSF f p v s.1 s.2 op hop
    · simp only [List.mem_cons, List.not_mem_nil, or_false] at hc; subst hc
      exact closeOps_opSF _ f p v _ _ op hop)
  obtain ⟨gx, h, hc⟩ := train_left kf fs x g2.good p v ord sts hx
  exact ⟨⟨gx, sfx⟩, h, hc.imp_left (·.1)⟩

def VViewEq (a b : VReg) : Prop := ∀ k, vVis a k = vVis b k

theorem vVis_congr (a b : VReg) (key : Path)
    (h : ∀ p v g, generationP p v g <+: key → vGenListed a p v g = vGenListed b p v g
      ∧ tagOf a.fs p v g = tagOf b.fs p v g ∧ get a.fs key = get b.fs key) : vVis a key = vVis b key := by
  unfold vVis
  split
  · next p v g =>
    obtain ⟨h1, _, h3⟩ := h p v g ⟨[.tag], rfl⟩
    have h3 : get a.fs (tagP p v g) = get b.fs (tagP p v g) := h3
    rw [h1, h3]
  · next p v g s =>
    obtain ⟨h1, h2, h3⟩ := h p v g ⟨[.state s], rfl⟩
    have h3 : get a.fs (stateP p v g s) = get b.fs (stateP p v g s) := h3
    rw [h1, h2, h3]
  · rfl

/-- what the reader of the volatile registry finds lies below a listed generation -/
theorem vVis_some {a : VReg} {key : Path} {n : Node} (h : vVis a key = some n) :
    ∃ p v g, generationP p v g <+: key ∧ vGenListed a p v g = true := by
  unfold vVis at h
  split at h
  · next p v g => exact ⟨p, v, g, ⟨[.tag], rfl⟩, (Option.ite_none_right_eq_some.mp h).1⟩
  · next p v g s => exact ⟨p, v, g, ⟨[.state s], rfl⟩, (Bool.and_eq_true _ _ ▸ (Option.ite_none_right_eq_some.mp h).1).1⟩
  · cases h

/-- below a generation directory that had its tag, under a release listed as before, the reader finds what it found -/
theorem vVis_kept {a b : VReg} (hk : Keeps a.fs b.fs) {p v g : Nat} {key : Path} (hkey : generationP p v g <+: key)
    (ht : get a.fs (tagP p v g) ≠ none) (hl : vRelListed b p v = vRelListed a p v) : vVis b key = vVis a key := by
  refine vVis_congr b a key fun p' v' g' hk' => ?_
  obtain ⟨rfl, rfl, rfl⟩ : p' = p ∧ v' = v ∧ g' = g := by
    simpa [generationP] using List.prefix_of_prefix_length_le hk' hkey (Nat.le_refl 3)
  have same : ∀ k, generationP p' v' g' <+: k → get b.fs k = get a.fs k := fun k hp => hk k (Or.inr ⟨_, _, _, ht, hp⟩)
  exact ⟨by simp only [vGenListed, hl, hk.valid_eq ht], tagOf_congr (same _ ⟨[.tag], rfl⟩), same key hkey⟩

theorem vVis_grows {a b : VReg} (hk : Keeps a.fs b.fs) (ha : ∀ p v, vRelListed a p v = true → vRelListed b p v = true)
    {key : Path} {n : Node} (h : vVis a key = some n) : vVis b key = some n := by
  obtain ⟨p, v, g, hkey, hl⟩ := vVis_some h
  simp only [vGenListed, Bool.and_eq_true] at hl
  rw [vVis_kept hk hkey (tagged_of_valid hl.2) ((ha p v hl.1).trans hl.1.symm), h]

/-- the reader finds the same at `key` when the listing is the same and the generation above `key` has no new tag -/
theorem vVis_eq {a b : VReg} (hk : Keeps a.fs b.fs) (harts : b.arts = a.arts) (key : Path)
    (hnew : ∀ p v g, generationP p v g <+: key → get a.fs (tagP p v g) = none → get b.fs (tagP p v g) = none) :
    vVis b key = vVis a key := by
  have rel : ∀ p v, vRelListed b p v = vRelListed a p v := fun p v => by simp only [vRelListed, harts]
  cases hb : vVis b key with
  | none =>
    cases ha : vVis a key with
    | none => rfl
    | some n => rw [vVis_grows hk (fun p v h => (rel p v).trans h) ha] at hb; cases hb
  | some n =>
    obtain ⟨p, v, g, hkey, hl⟩ := vVis_some hb
    simp only [vGenListed, Bool.and_eq_true] at hl
    rw [← hb]
    exact vVis_kept hk hkey (fun e => tagged_of_valid hl.2 (hnew p v g hkey e)) (rel p v)

/-- generation directories with a tag exist only under listed releases -/
def GensListed (st : VReg) : Prop := ∀ p v g, genValid st.fs p v g = true → vRelListed st p v = true

structure VGood (st : VReg) : Prop where
  g2 : Good2 st.fs
  listed : GensListed st

theorem vTrainGuard_none (st : VReg) (p v : Nat) (h : vTrainGuard st p v = none) : vRelListed st p v = true := by
  unfold vTrainGuard at h
  split at h
  · rename_i hc; simp only [Bool.and_eq_true] at hc; exact hc.2
  · cases h

theorem mem_vReleasesOf (st : VReg) (p w : Nat) : w ∈ vReleasesOf st p ↔ vRelListed st p w = true := by
  simp only [vReleasesOf, vRelListed, List.mem_filterMap, List.contains_iff_mem]
  constructor
  · rintro ⟨e, he, h⟩
    split at h
    · rename_i hp; cases h; obtain ⟨e1, e2⟩ := e; simp only at hp; subst hp; exact he
    · cases h
  · intro h; exact ⟨(p, w), h, by simp⟩

theorem vPublishGuard_repaired (st : VReg) (dp name v : Nat) :
    vPublishGuard Impl.repaired st dp name v = keyFirstGuard (vProjListed st dp) (vReleasesOf st dp) dp name v := rfl

theorem vPublishGuard_none (st : VReg) (dp name v : Nat) (h : vPublishGuard Impl.repaired st dp name v = none) :
    dp = name ∧ ∀ w ∈ vReleasesOf st name, w < v := by
  have hl : vReleasesOf st dp ≠ [] → vProjListed st dp = true := by
    intro hne
    obtain ⟨w, hw⟩ := List.exists_mem_of_ne_nil _ hne
    have := (mem_vReleasesOf st dp w).mp hw
    simp only [vRelListed, List.contains_iff_mem] at this
    simp only [vProjListed, List.any_eq_true]
    exact ⟨(dp, w), this, by simp⟩
  rw [vPublishGuard_repaired] at h
  obtain ⟨rfl, hmono⟩ := keyFirstGuard_none hl h
  exact ⟨rfl, hmono⟩

theorem vExec_left (st : VReg) (gd : VGood st) (s : Step) :
    VGood (vExec Impl.repaired st s).st ∧ Keeps st.fs (vExec Impl.repaired st s).st.fs
      ∧ ∀ p v, vRelListed st p v = true → vRelListed (vExec Impl.repaired st s).st p v = true := by
  cases s with
  | publish dp name v pkg =>
    simp only [vExec]
    split
    · exact ⟨gd, Keeps.refl _, fun _ _ h => h⟩
    · have more : ∀ p' v', vRelListed st p' v' = true → vRelListed
          { st with arts := if st.arts.contains (name, v) then st.arts else st.arts ++ [(name, v)] } p' v' = true := by
        intro p' v' h
        simp only [vRelListed, List.contains_iff_mem] at h ⊢
        split
        · exact h
        · exact List.mem_append_left _ h
      exact ⟨⟨gd.g2, fun p' v' g' hv => more p' v' (gd.listed p' v' g' hv)⟩, Keeps.refl _, more⟩
  | train p v ord sts =>
    simp only [vExec]
    split
    · exact ⟨gd, Keeps.refl _, fun _ _ h => h⟩
    · rename_i hg
      have hl := vTrainGuard_none st p v hg
      obtain ⟨g2x, hf, _⟩ := vtrain_left true st.fs (runCalls st.fs (trainCalls Impl.repaired p v ord sts)).fs gd.g2 p v ord sts
        (runCalls_tree _ _)
      refine ⟨⟨g2x, ?_⟩, trained_keeps gd.g2.good hf, fun _ _ h => h⟩
      intro p' v' g' hv
      show vRelListed st p' v' = true
      by_cases hne : (p', v', g') = (p, v, nextGen st.fs p v)
      · cases hne; exact hl
      · rw [trained_genValid hf hne] at hv
        exact gd.listed p' v' g' hv

theorem vEmpty_good : VGood VReg.empty :=
  ⟨empty_good2, by intro p v g h; simp [VReg.empty, genValid, isDir, Fs.empty, Fs.get, generationP] at h⟩

theorem vPlay_left (steps : List Step) : ∀ st, VGood st → VGood (vPlay Impl.repaired st steps)
    ∧ ∀ key n, vVis st key = some n → vVis (vPlay Impl.repaired st steps) key = some n := by
  induction steps with
  | nil => intro st g; exact ⟨g, fun _ _ h => h⟩
  | cons s r ih =>
    intro st g
    obtain ⟨g1, k1, a1⟩ := vExec_left st g s
    exact ⟨(ih _ g1).1, fun key n h => (ih _ g1).2 key n (vVis_grows k1 a1 h)⟩

theorem vPlay_good (steps : List Step) : VGood (vPlay Impl.repaired VReg.empty steps) :=
  (vPlay_left steps _ vEmpty_good).1

theorem vPlay_append (impl : Impl) (st : VReg) (a b : List Step) :
    vPlay impl st (a ++ b) = vPlay impl (vPlay impl st a) b := by
  induction a generalizing st with
  | nil => rfl
  | cons s r ih => simp only [List.cons_append, vPlay]; exact ih _

theorem vExec_view (st : VReg) (gd : VGood st) (s : Step) :
    let o := vExec Impl.repaired st s
    (o.err ≠ none → VViewEq o.st st ∧ o.st.arts = st.arts) ∧
    (o.err = none → match s with
      | .publish dp name v _ =>
        dp = name ∧ (∀ w ∈ vReleasesOf st name, w < v) ∧ vRelListed st name v = false ∧ vRelListed o.st name v = true
          ∧ o.st.fs = st.fs ∧ (∀ p' v', (p', v') ≠ (name, v) → vRelListed o.st p' v' = vRelListed st p' v')
          ∧ (∀ g, vGenListed o.st name v g = false) ∧ VViewEq o.st st
      | .train p v ord sts =>
        vRelListed st p v = true ∧ o.st.arts = st.arts
          ∧ vGenListed o.st p v (nextGen st.fs p v) = true
          ∧ tagOf o.st.fs p v (nextGen st.fs p v) = some ⟨ord, sts.map (·.1)⟩
          ∧ (sts.map (·.1)).Nodup
          ∧ (∀ sb ∈ sts, vVis o.st (stateP p v (nextGen st.fs p v) sb.1) = some (.file sb.2))
          ∧ (∀ key, ¬ (generationP p v (nextGen st.fs p v) <+: key) → vVis o.st key = vVis st key)) := by
  cases s with
  | publish dp name v pkg =>
    cases hg : vPublishGuard Impl.repaired st dp name v with
    | some e =>
      simp only [vExec, hg]
      exact ⟨fun _ => ⟨fun _ => rfl, trivial⟩, nofun⟩
    | none =>
      obtain ⟨hdp, hmono⟩ := vPublishGuard_none st dp name v hg
      have hnl : vRelListed st name v = false := by
        cases hl : vRelListed st name v with
        | false => rfl
        | true => exact absurd (hmono v ((mem_vReleasesOf st name v).mpr hl)) (Nat.lt_irrefl v)
      have hnc : st.arts.contains (name, v) = false := hnl
      simp only [vExec, hg, hnc, Bool.false_eq_true, if_false]
      refine ⟨fun h => absurd rfl h, fun _ => ?_⟩
      have hnew : vRelListed { st with arts := st.arts ++ [(name, v)] } name v = true := by
        simp [vRelListed]
      have hoth : ∀ p' v', (p', v') ≠ (name, v) →
          vRelListed { st with arts := st.arts ++ [(name, v)] } p' v' = vRelListed st p' v' := by
        intro p' v' hne
        by_cases hin : (p', v') ∈ st.arts
        · simp [vRelListed, hin]
        · simp [vRelListed, hin, hne]
      have hnog : ∀ g, vGenListed { st with arts := st.arts ++ [(name, v)] } name v g = false := by
        intro g
        cases hv : genValid st.fs name v g with
        | false => simp [vGenListed, hv]
        | true => have := gd.listed name v g hv; rw [hnl] at this; cases this
      refine ⟨hdp, hmono, hnl, hnew, trivial, hoth, hnog, ?_⟩
      refine fun key => vVis_congr _ _ key fun p' v' g' _ => ⟨?_, rfl, rfl⟩
      by_cases hne : (p', v') = (name, v)
      · cases hne
        rw [hnog g']; simp [vGenListed, hnl]
      · simp only [vGenListed, hoth p' v' hne]
  | train p v ord sts =>
    cases hg : vTrainGuard st p v with
    | some e =>
      simp only [vExec, hg]
      exact ⟨fun _ => ⟨fun _ => rfl, trivial⟩, nofun⟩
    | none =>
      have hl := vTrainGuard_none st p v hg
      obtain ⟨_, hf, hcase⟩ := vtrain_left true st.fs (runCalls st.fs (trainCalls Impl.repaired p v ord sts)).fs gd.g2 p v ord sts
        (runCalls_tree _ _)
      have hcase : get (runCalls st.fs (trainCalls Impl.repaired p v ord sts)).fs (tagP p v (nextGen st.fs p v)) = none
          ∨ (runCalls st.fs (trainCalls Impl.repaired p v ord sts)).err = none := hcase.imp id fun h => h.runCalls.1
      have hfull := runCalls_full (trainCalls Impl.repaired p v ord sts) st.fs
      simp only [vExec, hg]
      generalize runCalls st.fs (trainCalls Impl.repaired p v ord sts) = r at hf hcase hfull ⊢
      have hkeep := trained_keeps gd.g2.good hf
      constructor
      · intro herr
        refine ⟨fun key => ?_, trivial⟩
        rcases hcase with ht | hok
        · exact vVis_eq (b := { st with fs := r.fs }) hkeep rfl key fun p' v' g' _ => trained_untagged hf ht p' v' g'
        · exact absurd hok herr
      · intro herr
        obtain ⟨c2, c3, c4, c5⟩ := train_full true st.fs _ p v ord sts (hfull herr)
        have hgl : vGenListed { st with fs := r.fs } p v (nextGen st.fs p v) = true := by
          have : vRelListed { st with fs := r.fs } p v = true := hl
          simp [vGenListed, this, genValid, isDir, c2, c3, nextGen_pos]
        have htag := tagOf_encoded c3
        refine ⟨hl, trivial, hgl, htag, c4, fun sb hsb => ?_, fun key hkey =>
          vVis_eq (b := { st with fs := r.fs }) hkeep rfl key fun p' v' g' hk e => Classical.byContradiction fun hx => by
            cases (trained_new hf).1 p' v' g' e hx; exact hkey hk⟩
        have hin : (sts.map (·.1)).contains sb.1 = true := by
          simp only [List.contains_iff_mem]; exact List.mem_map.mpr ⟨sb, hsb, rfl⟩
        simp only [vVis, stateP, hgl, htag, hin, Bool.and_self, if_true]
        exact c5 sb hsb

end ForML.Registry
