/-
C12 — the default reducers of ForML/Model/CrossValReduce.lean: their equations, and that whatever is computed row by row
across folds of one shape commutes with picking rows (`pick_rowwise`).
-/
import ForML.Model.CrossValReduce
import ForML.Lemmas.ListFacts

namespace ForML.CrossVal

theorem sum_set_add (xs : List Int) (i : Nat) (h : i < xs.length) (δ : Int) :
    (xs.set i (xs[i] + δ)).sum = xs.sum + δ := by
  induction xs generalizing i with
  | nil => cases h
  | cons x xs ih =>
    cases i with
    | zero => exact Int.add_right_comm x δ xs.sum
    | succ i =>
      have h' : i < xs.length := Nat.lt_of_succ_lt_succ h
      show x + (xs.set i (xs[i] + δ)).sum = x + xs.sum + δ
      rw [ih i h', Int.add_assoc]

theorem sum_perm {xs ys : List Int} (h : xs.Perm ys) : xs.sum = ys.sum :=
  h.foldr_eq' (fun x _ y _ z => Int.add_left_comm y x z) 0

theorem meanReducer_of_ne_nil (d : Nat) {xs : List Int} (h : xs ≠ []) :
    meanReducer d xs = some ⟨xs.sum, d * xs.length⟩ := by
  cases xs with
  | nil => exact absurd rfl h
  | cons _ _ => rfl

theorem stackReduce_of_shape (d : Nat) (f : List Int) (rest : List (List Int))
    (hshape : ∀ g ∈ rest, g.length = f.length) :
    stackReduce d (f :: rest)
      = .ok ((List.range f.length).map fun i => ⟨(rowAcross i (f :: rest)).sum, d * (f :: rest).length⟩) := by
  have : rest.all (·.length == f.length) = true := List.all_eq_true.mpr fun g hg => beq_iff_eq.mpr (hshape g hg)
  rw [stackReduce, if_pos this]

theorem rowAcross_eq_map (folds : List (List Int)) (m i : Nat) (hm : ∀ f ∈ folds, f.length = m) (hi : i < m) :
    rowAcross i folds = folds.map (·.getD i 0) :=
  filterMap_eq_map fun f hf => by
    rw [List.getD_eq_getElem?_getD, List.getElem?_eq_getElem (hm f hf ▸ hi)]
    rfl

theorem rowAcross_length (folds : List (List Int)) (m i : Nat) (hm : ∀ f ∈ folds, f.length = m) (hi : i < m) :
    (rowAcross i folds).length = folds.length := by
  rw [rowAcross_eq_map folds m i hm hi, List.length_map]

theorem pick_length {α : Type} (ps : List Nat) (xs : List α) (h : ∀ p ∈ ps, p < xs.length) :
    (pick ps xs).length = ps.length :=
  (filterMap_total (xs[·]?) ps fun p hp => List.getElem?_eq_getElem (h p hp) ▸ rfl).1

theorem pick_getElem? {α : Type} (ps : List Nat) (xs : List α) (h : ∀ p ∈ ps, p < xs.length) (j : Nat) :
    (pick ps xs)[j]? = (ps[j]?).bind (xs[·]?) :=
  (filterMap_total (xs[·]?) ps fun p hp => List.getElem?_eq_getElem (h p hp) ▸ rfl).2 j

theorem rowAcross_pick (folds : List (List Int)) (m : Nat) (hm : ∀ f ∈ folds, f.length = m) (ps : List Nat)
    (hps : ∀ p ∈ ps, p < m) (j : Nat) (hj : j < ps.length) :
    rowAcross j (folds.map (pick ps)) = rowAcross ps[j] folds := by
  induction folds with
  | nil => rfl
  | cons f rest ih =>
    have hf : ∀ p ∈ ps, p < f.length := fun p hp => hm f List.mem_cons_self ▸ hps p hp
    rw [rowAcross, List.map_cons, List.filterMap_cons, pick_getElem? ps f hf j, List.getElem?_eq_getElem hj,
      Option.bind_some, ← rowAcross, ih fun g hg => hm g (List.mem_cons_of_mem _ hg)]
    rfl

theorem pick_rowwise {α : Type} (R : List Int → α) (folds : List (List Int)) (m : Nat)
    (hm : ∀ f ∈ folds, f.length = m) (ps : List Nat) (hps : ∀ p ∈ ps, p < m) :
    (List.range ps.length).map (fun j => R (rowAcross j (folds.map (pick ps))))
      = pick ps ((List.range m).map fun i => R (rowAcross i folds)) := by
  refine List.ext_getElem? fun j => ?_
  rw [pick_getElem? ps _ (by rw [List.length_map, List.length_range]; exact hps) j, List.getElem?_map]
  by_cases hj : j < ps.length
  · rw [List.getElem?_range hj, List.getElem?_eq_getElem hj, Option.bind_some, List.getElem?_map,
      List.getElem?_range (hps _ (List.getElem_mem hj)), Option.map_some, Option.map_some,
      rowAcross_pick folds m hm ps hps j hj]
  · rw [List.getElem?_eq_none (by rw [List.length_range]; exact Nat.le_of_not_lt hj),
      List.getElem?_eq_none (Nat.le_of_not_lt hj)]
    rfl

end ForML.CrossVal
