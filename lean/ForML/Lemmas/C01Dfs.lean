/-
C01 — correctness of depth first search with a global `seen` list over an arbitrary successor function (`Segment.gdfs`),
for *any* finite graph (cyclic or not): started at an unseen node of a successor-closed universe `U` with fuel at least
the number of unseen nodes of `U`, it appends to `seen`, keeps it duplicate free and stays inside `U`; stated in the
usual closure form (`DfsOK`): every appended node has all its successors in the result and is reachable from a root.
Over an empty `seen` the result is therefore exactly the set of reachable nodes (`gdfs_reach`).
-/
import ForML.Model.Traversal
import ForML.Lemmas.C01List

namespace ForML.Flow
namespace Segment

def unseenCnt (U seen : List Uid) : Nat := U.countP (fun x => !decide (x ∈ seen))

theorem unseenCnt_mono {U a b : List Uid} (h : ∀ x ∈ a, x ∈ b) : unseenCnt U b ≤ unseenCnt U a := by
  unfold unseenCnt
  apply List.countP_mono_left
  intro x _ hx
  simp only [Bool.not_eq_true', decide_eq_false_iff_not] at hx ⊢
  exact fun hxa => hx (h x hxa)

theorem unseenCnt_lt {U a : List Uid} {n : Uid} (hn : n ∈ U) (ha : n ∉ a) :
    unseenCnt U (a ++ [n]) < unseenCnt U a := by
  unfold unseenCnt
  refine countP_lt_of_imp _ _ U ?_ n hn ?_ ?_
  · intro x _ hx
    simp only [Bool.not_eq_true', decide_eq_false_iff_not] at hx ⊢
    exact fun hxa => hx (List.mem_append_left _ hxa)
  · simp [ha]
  · simp

theorem unseenCnt_nil (U : List Uid) : unseenCnt U [] = U.length := by
  unfold unseenCnt
  induction U with
  | nil => rfl
  | cons u r ih => simp

/-- `out` is `seen` extended by a search from `roots` -/
structure DfsOK (succ : Uid → List Uid) (U seen out roots : List Uid) : Prop where
  ext : ∃ new, out = seen ++ new
  nodup : seen.Nodup → out.Nodup
  univ : ∀ x ∈ out, x ∈ seen ∨ x ∈ U
  closed : ∀ x ∈ out, x ∉ seen → ∀ y ∈ succ x, y ∈ out
  rootsIn : ∀ m ∈ roots, m ∈ out
  sound : ∀ x ∈ out, x ∉ seen → ∃ m ∈ roots, Reach succ m x

theorem DfsOK.sub {succ U seen out roots} (h : DfsOK succ U seen out roots) : ∀ x ∈ seen, x ∈ out := by
  obtain ⟨new, rfl⟩ := h.ext
  exact fun x hx => List.mem_append_left _ hx

theorem DfsOK.skip {succ U seen roots} (hr : ∀ m ∈ roots, m ∈ seen) : DfsOK succ U seen seen roots :=
  ⟨⟨[], by simp⟩, id, fun _ hx => Or.inl hx, fun _ hx hn => absurd hx hn, hr, fun _ hx hn => absurd hx hn⟩

theorem DfsOK.trans {succ U a b c r₁ r₂} (h₁ : DfsOK succ U a b r₁) (h₂ : DfsOK succ U b c r₂) :
    DfsOK succ U a c (r₁ ++ r₂) := by
  refine ⟨?_, fun h => h₂.nodup (h₁.nodup h), ?_, ?_, ?_, ?_⟩
  · obtain ⟨n₁, rfl⟩ := h₁.ext
    obtain ⟨n₂, rfl⟩ := h₂.ext
    exact ⟨n₁ ++ n₂, by simp⟩
  · intro x hx
    rcases h₂.univ x hx with hb | hU
    · exact h₁.univ x hb
    · exact Or.inr hU
  · intro x hx hna y hy
    by_cases hb : x ∈ b
    · exact h₂.sub y (h₁.closed x hb hna y hy)
    · exact h₂.closed x hx hb y hy
  · intro m hm
    rcases List.mem_append.mp hm with h | h
    · exact h₂.sub m (h₁.rootsIn m h)
    · exact h₂.rootsIn m h
  · intro x hx hna
    by_cases hb : x ∈ b
    · obtain ⟨m, hm, hr⟩ := h₁.sound x hb hna
      exact ⟨m, List.mem_append_left _ hm, hr⟩
    · obtain ⟨m, hm, hr⟩ := h₂.sound x hx hb
      exact ⟨m, List.mem_append_right _ hm, hr⟩

theorem Reach.head {succ} {a b c : Uid} (hab : b ∈ succ a) (h : Reach succ b c) : Reach succ a c := by
  induction h with
  | refl => exact .step .refl hab
  | step _ hc ih => exact .step ih hc

theorem reach_cases {succ : Uid → List Uid} {a x : Uid} (h : Reach succ a x) :
    x = a ∨ ∃ b, Reach succ a b ∧ x ∈ succ b := by
  cases h with
  | refl => exact Or.inl rfl
  | step hb hc => exact Or.inr ⟨_, hb, hc⟩

/-- from the search through the successors of `n` to the search from `n` -/
theorem DfsOK.node {succ U seen out} {n : Uid} (hU : n ∈ U) (hn : n ∉ seen)
    (h : DfsOK succ U (seen ++ [n]) out (succ n)) : DfsOK succ U seen out [n] := by
  have hnout : n ∈ out := h.sub n (by simp)
  refine ⟨?_, ?_, ?_, ?_, ?_, ?_⟩
  · obtain ⟨new, rfl⟩ := h.ext
    exact ⟨[n] ++ new, by simp⟩
  · intro hs
    exact h.nodup (nodup_snoc.mpr ⟨hs, hn⟩)
  · intro x hx
    rcases h.univ x hx with hs | hu
    · rcases List.mem_append.mp hs with hs | hs
      · exact Or.inl hs
      · rw [List.mem_singleton.mp hs]; exact Or.inr hU
    · exact Or.inr hu
  · intro x hx hns y hy
    by_cases hxn : x = n
    · subst hxn
      exact h.rootsIn y hy
    · exact h.closed x hx (by simp [hns, hxn]) y hy
  · intro m hm
    rw [List.mem_singleton.mp hm]
    exact hnout
  · intro x hx hns
    refine ⟨n, by simp, ?_⟩
    by_cases hxn : x = n
    · subst hxn
      exact .refl
    · obtain ⟨m, hm, hr⟩ := h.sound x hx (by simp [hns, hxn])
      exact Reach.head hm hr

/-- the search only ever appends (any graph, any fuel) -/
theorem gdfs_sub (succ : Uid → List Uid) : ∀ (f : Nat) (seen : List Uid) (n : Uid), ∀ x ∈ seen, x ∈ gdfs succ f seen n := by
  intro f
  induction f with
  | zero => intro seen n x hx; exact hx
  | succ f ih =>
    intro seen n x hx
    simp only [gdfs]
    have h0 : x ∈ seen ++ [n] := List.mem_append_left _ hx
    generalize seen ++ [n] = acc at h0
    induction succ n generalizing acc with
    | nil => exact h0
    | cons m l ihl =>
      simp only [List.foldl_cons]
      apply ihl
      split
      · exact h0
      · exact ih _ _ _ h0

theorem gdfs_ok {succ : Uid → List Uid} {U : List Uid} (hcl : ∀ n ∈ U, ∀ m ∈ succ n, m ∈ U) :
    ∀ (f : Nat) (seen : List Uid) (n : Uid), n ∈ U → n ∉ seen → unseenCnt U seen ≤ f →
      DfsOK succ U seen (gdfs succ f seen n) [n] := by
  intro f
  induction f with
  | zero =>
    intro seen n hU hn hf
    have := unseenCnt_lt hU hn
    omega
  | succ f ih =>
    intro seen n hU hn hf
    apply DfsOK.node hU hn
    have hacc : unseenCnt U (seen ++ [n]) ≤ f := by
      have := unseenCnt_lt hU hn
      omega
    have hsub : ∀ m ∈ succ n, m ∈ U := hcl n hU
    show DfsOK succ U (seen ++ [n])
      ((succ n).foldl (fun seen m => if seen.contains m then seen else gdfs succ f seen m) (seen ++ [n])) (succ n)
    generalize seen ++ [n] = acc at hacc
    generalize succ n = l at hsub
    induction l generalizing acc with
    | nil => exact DfsOK.skip fun _ hx => nomatch hx
    | cons m l ihl =>
      simp only [List.foldl_cons]
      have hm : m ∈ U := hsub m (by simp)
      have h1 : DfsOK succ U acc (if acc.contains m then acc else gdfs succ f acc m) [m] := by
        by_cases hc : m ∈ acc
        · simp only [List.contains_iff_mem, hc, if_true]
          exact DfsOK.skip fun x hx => List.mem_singleton.mp hx ▸ hc
        · simp only [List.contains_iff_mem, hc, if_false]
          exact ih acc m hm hc hacc
      have hacc' : unseenCnt U (if acc.contains m then acc else gdfs succ f acc m) ≤ f :=
        Nat.le_trans (unseenCnt_mono h1.sub) hacc
      have h2 := ihl _ hacc' (fun x hx => hsub x (List.mem_cons_of_mem _ hx))
      exact h1.trans h2

/-- the result of a complete search from `a` over an empty `seen`: duplicate free, inside the universe, exactly the
reachable nodes -/
theorem gdfs_reach {succ : Uid → List Uid} {U : List Uid} (hcl : ∀ n ∈ U, ∀ m ∈ succ n, m ∈ U) {a : Uid} (ha : a ∈ U)
    {f : Nat} (hf : U.length ≤ f) :
    (gdfs succ f [] a).Nodup ∧ (∀ x ∈ gdfs succ f [] a, x ∈ U) ∧ ∀ x, x ∈ gdfs succ f [] a ↔ Reach succ a x := by
  have h := gdfs_ok hcl f [] a ha (by simp) (by rw [unseenCnt_nil]; exact hf)
  refine ⟨h.nodup List.nodup_nil, fun x hx => (h.univ x hx).resolve_left (by simp), fun x => ⟨fun hx => ?_, fun hr => ?_⟩⟩
  · obtain ⟨m, hm, hr⟩ := h.sound x hx (by simp)
    rw [List.mem_singleton.mp hm] at hr
    exact hr
  · induction hr with
    | refl => exact h.rootsIn a (by simp)
    | step _ hc ih => exact h.closed _ ih (by simp) _ hc

end Segment
end ForML.Flow
