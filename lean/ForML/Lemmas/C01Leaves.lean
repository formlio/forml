/-
C01 — `Linkage.leaves` of the final state: which keys are somebody's argument (`Final.parent_iff`), the assertion
`children or not parents` (`'Not acyclic'`) holds on every well-formed segment, and every leaf is registered in the index.
-/
import ForML.Lemmas.C01Final

namespace ForML.Flow
open CState Segment

section
variable {g : Segment} {A : Option Assets} {rank : Uid → Nat} {order : List Uid} {s : CState}

/-- a link goes from a lower ranked instruction to a higher ranked one -/
theorem linkSpec_rank (h : WF g rank) {w : Worker} (hw : w ∈ g.workers) {k : Key} {j : Nat} {a : Key}
    (hl : LinkSpec g A w k j a) : g.keyRank rank a < g.keyRank rank k := by
  rcases linkSpec_inv hl with ⟨rfl, _, rfl, _⟩ | ⟨rfl, rfl, _⟩ | ⟨i, rfl, _, rfl, _⟩ | ⟨e, rfl, _, rfl, _, he, hpub, _⟩
  · simp [keyRank]
  · have := le_maxRank rank hw
    simp only [keyRank]; omega
  · simp [keyRank]
  · have h1 := (h.edge e he).rank
    rw [hpub] at h1
    split <;> simp only [keyRank] <;> omega

theorem Final.parent_iff (hf : Final g A rank order s) (k : Key) :
    (some k) ∈ (s.absolute.flatMap (·.2) ++ s.prefixed.flatMap (fun p => p.2.map some)) ↔
      (∃ w ∈ g.workers, ∃ k' j, LinkSpec g A w k' j k) ∨
      (∃ w ∈ g.workers, g.hasPreset A w = true ∧ k = stateKey g A w) := by
  have hnd : (s.absolute.map (·.1)).Nodup := hf.abs.nodup (by simp)
  simp only [List.mem_append, List.mem_flatMap, List.mem_map, Option.some.injEq, exists_eq_right]
  constructor
  · rintro (⟨⟨k', l⟩, hm, hin⟩ | ⟨⟨k', l⟩, hm, hin⟩)
    · left
      obtain ⟨j, hj, hget⟩ := List.getElem_of_mem hin
      have hag := aget_of_mem_nodup hnd hm
      have hs : slot s.absolute k' j = some k := by
        simp [slot, hag, List.getD_eq_getElem?_getD, List.getElem?_eq_getElem hj, hget]
      obtain ⟨w, hw, hl⟩ := (hf.slot_iff k' j k).mp hs
      exact ⟨w, hw, k', j, hl⟩
    · right
      have hag := aget_of_mem_nodup hf.pre.keys hm
      obtain ⟨w, h1, _, _, h4, h5⟩ := hf.pre.sound k' l hag
      subst h5
      simp only [List.mem_singleton] at hin
      exact ⟨w, (worker?_some h1).1, h4, hin⟩
  · rintro (⟨w, hw, k', j, hl⟩ | ⟨w, hw, hp, rfl⟩)
    · left
      have hs := (hf.slot_iff k' j k).mpr ⟨w, hw, hl⟩
      unfold slot at hs
      cases hag : aget k' s.absolute with
      | none => simp [hag] at hs
      | some l =>
        refine ⟨(k', l), mem_of_aget hag, ?_⟩
        simp only [hag, Option.getD_some, List.getD_eq_getElem?_getD] at hs
        cases hl' : l[j]? with
        | none => simp [hl'] at hs
        | some x =>
          simp only [hl', Option.getD_some] at hs
          subst hs
          exact List.mem_of_getElem? hl'
    · right
      have := hf.pre.complete w (worker?_of_mem hf.wf.nodup hw) (hf.ord.all w hw) hp
      exact ⟨(_, _), mem_of_aget this, by simp⟩

/-- `assert children or not parents, 'Not acyclic'` holds: with at least one linkage key the highest ranked key is a
leaf; without any key nothing is anybody's argument -/
theorem Final.leaves_ok (hf : Final g A rank order s) :
    s.leaves ≠ [] ∨ s.parents = [] := by
  by_cases hK : s.absolute.map (·.1) ++ s.prefixed.map (·.1) = []
  · right
    simp only [List.append_eq_nil_iff, List.map_eq_nil_iff] at hK
    simp [CState.parents, hK.1, hK.2]
  left
  obtain ⟨k, hk, hmax⟩ := exists_max (g.keyRank rank) _ hK
  -- the highest ranked key is nobody's argument
  intro hnil
  have : k ∈ s.leaves := by
    unfold CState.leaves
    simp only [List.mem_filter, Bool.not_eq_eq_eq_not, Bool.not_true, List.contains_eq_mem, decide_eq_false_iff_not]
    refine ⟨hk, ?_⟩
    intro hpar
    rcases (hf.parent_iff k).mp hpar with ⟨w, hw, k', j, hl'⟩ | ⟨w, hw, hp, rfl⟩
    · have hlt := linkSpec_rank hf.wf hw hl'
      have hk' : k' ∈ s.absolute.map (·.1) ++ s.prefixed.map (·.1) :=
        List.mem_append_left _ (mem_keys_of_slot ((hf.slot_iff k' j k).mpr ⟨w, hw, hl'⟩))
      have := hmax k' hk'
      omega
    · -- a state key ranks 0, below the functor it is preset to, whose key is in the prefixed linkage
      have hk' : Key.uid w.uid ∈ s.absolute.map (·.1) ++ s.prefixed.map (·.1) :=
        List.mem_append_right _ (List.mem_map.mpr
          ⟨_, mem_of_aget (hf.pre.complete w (worker?_of_mem hf.wf.nodup hw) (hf.ord.all w hw) hp), rfl⟩)
      have := hmax _ hk'
      have h0 : g.keyRank rank (stateKey g A w) = 0 := by
        unfold stateKey; split <;> rfl
      rw [h0] at this
      simp only [keyRank] at this
      omega
  rw [hnil] at this; cases this

/-- every leaf is a registered instruction -/
theorem Final.leaf_registered (hf : Final g A rank order s) {k : Key}
    (hk : k ∈ s.leaves) : ∃ o, aget k s.index = some o := by
  unfold CState.leaves at hk
  simp only [List.mem_filter, List.mem_append] at hk
  rcases hk.1 with hk | hk
  · rcases (hf.abs.keys k).mp hk with h0 | ⟨op, hop, j, ht⟩
    · cases h0
    obtain ⟨w, hw, _, hl⟩ := allProg_links hf.wf hf.ord.sub hop ht
    rcases linkSpec_inv hl with ⟨rfl, _, _, hT, hP⟩ | ⟨rfl, _, hT, hP, _⟩ | ⟨i, rfl, _, _, htr, hne, hi⟩ |
      ⟨e, rfl, _, _, _, he, _, _⟩
    · exact ⟨_, hf.ix_dumper hw hT hP⟩
    · exact ⟨_, hf.ix_committer hw hT hP⟩
    · exact ⟨_, hf.ix_getter hw htr hne hi⟩
    · obtain ⟨sw, hsw, _⟩ := (hf.wf.edge e he).sub
      obtain ⟨hswm, hswu⟩ := worker?_some hsw
      exact ⟨_, by rw [← hswu]; exact hf.ix_uid hswm⟩
  · cases hg : aget k s.prefixed with
    | none => exact absurd hk (aget_none_iff.mp hg)
    | some l =>
      obtain ⟨w, hw, rfl, _⟩ := hf.pre.sound k l hg
      exact ⟨_, hf.ix_uid (worker?_some hw).1⟩

end

end ForML.Flow
