/-
C06 — the Python operator sugar constructs the expression it is documented to mean: every operator its expression
class with the operands in the written order — up to the mirroring the interpreter itself performs for comparisons
(`5 < x` is dispatched as `x.__gt__(5)`, i.e. `GreaterThan(x, 5)`), which has the same meaning.
-/
import ForML.Model.DslSugar
import ForML.Model.DslDenote

namespace ForML.C06
open ForML.Dsl ForML.Rel ForML.Sugar ForML.Denote

/-- the comparison read from the other side -/
def mirrorOp : Op → Op
  | .lt => .gt | .le => .ge | .gt => .lt | .ge => .le
  | op => op

/-- an order / equality comparison -/
def isCmp : Op → Bool
  | .lt | .le | .gt | .ge | .eq | .ne => true
  | _ => false

theorem isCmp_dsl (op : PyOp) (h : op.isComparison = true) : isCmp op.dsl = true := by
  cases op <;> simp [PyOp.isComparison] at h <;> rfl

/-- what the table says of an operator method: the expression class its entry names, and the operand order -/
def sugarRow (method : String) : Option (Option Op × String) :=
  (Generated.C06.sugar.lookup method).map (fun r => (opOfClass r.1, r.2))

theorem applyMethod_of_row {method order : String} {op : Op} (self other : Feature)
    (h : sugarRow method = some (some op, order)) :
    applyMethod method self other =
      if order == "self-other" then some (.expr op (.cons self (.cons other .nil)))
      else if order == "other-self" then some (.expr op (.cons other (.cons self .nil)))
      else none := by
  unfold applyMethod
  cases hl : Generated.C06.sugar.lookup method with
  | none => simp [sugarRow, hl] at h
  | some r =>
    simp only [sugarRow, hl, Option.map_some, Option.some.injEq, Prod.mk.injEq] at h
    simp only [h.1, h.2]

theorem _root_.ForML.Sugar.PyOp.mem_all (op : PyOp) : op ∈ PyOp.all := by cases op <;> decide

theorem sugarRow_method : ∀ op ∈ PyOp.all, sugarRow op.method = some (some op.dsl, "self-other") := by
  decide +kernel

theorem sugarRow_reflected : ∀ op ∈ PyOp.all,
    sugarRow op.reflected =
      some (if op.isComparison then (some (mirrorOp op.dsl), "self-other") else (some op.dsl, "other-self")) := by
  decide +kernel

/-- `self.__op__(other)` builds the operator's class over (self, other) -/
theorem applyMethod_direct (op : PyOp) (x y : Feature) :
    applyMethod op.method x y = some (.expr op.dsl (.cons x (.cons y .nil))) :=
  applyMethod_of_row x y (sugarRow_method op op.mem_all)

/-- what the fall-back method of the right operand `y` builds for `x <op> y`: the operator's class over (x, y); for a
comparison the mirrored class over (y, x) -/
theorem applyMethod_reflected (op : PyOp) (x y : Feature) :
    applyMethod op.reflected y x =
      some (if op.isComparison then .expr (mirrorOp op.dsl) (.cons y (.cons x .nil))
            else .expr op.dsl (.cons x (.cons y .nil))) := by
  have h := sugarRow_reflected op op.mem_all
  cases hc : op.isComparison <;> simp only [hc, if_true, Bool.false_eq_true, if_false] at h ⊢ <;>
    exact applyMethod_of_row y x h

theorem invert_spec (a : Feature) : invert a = some (.expr .not (.cons a .nil)) := rfl

/-- `f` is `g` up to mirrored comparisons -/
inductive SugarEq : Feature → Feature → Prop where
  | refl (f : Feature) : SugarEq f f
  | bin (op : Op) (x x' y y' : Feature) : SugarEq x x' → SugarEq y y' →
      SugarEq (.expr op (.cons x (.cons y .nil))) (.expr op (.cons x' (.cons y' .nil)))
  | mirror (op : Op) (x x' y y' : Feature) : isCmp op = true → SugarEq x x' → SugarEq y y' →
      SugarEq (.expr (mirrorOp op) (.cons y (.cons x .nil))) (.expr op (.cons x' (.cons y' .nil)))
  | un (op : Op) (x x' : Feature) : SugarEq x x' → SugarEq (.expr op (.cons x .nil)) (.expr op (.cons x' .nil))

/-- every binary operator applied to operands of which at least one is a feature constructs a feature: its documented
expression, or (comparisons only) the mirrored one -/
theorem binary_spec (op : PyOp) (a b : Operand) (h : (∃ f, a = .feat f) ∨ (∃ f, b = .feat f)) :
    binary op a b = some (.expr op.dsl (.cons a.lift (.cons b.lift .nil))) ∨
      (op.isComparison = true ∧ binary op a b = some (.expr (mirrorOp op.dsl) (.cons b.lift (.cons a.lift .nil)))) := by
  cases a with
  | plain v =>
    cases b with
    | plain w => rcases h with ⟨f, hf⟩ | ⟨f, hf⟩ <;> cases hf
    | feat y =>
      simp only [binary, applyMethod_reflected, Operand.lift]
      by_cases hc : op.isComparison = true
      · exact Or.inr ⟨hc, by simp [hc]⟩
      · exact Or.inl (by simp [hc])
  | feat x =>
    cases b with
    | plain w => exact Or.inl (by simp only [binary, applyMethod_direct, Operand.lift])
    | feat y =>
      simp only [binary, Operand.lift]
      by_cases hr : (op.isComparison && isPlainElement x && isColumn y) = true
      · have hc : op.isComparison = true := by
          simp only [Bool.and_eq_true] at hr; exact hr.1.1
        refine Or.inr ⟨hc, ?_⟩
        rw [if_pos hr]
        simp only [applyMethod_reflected, hc, if_true]
      · have hr' : (op.isComparison && isPlainElement x && isColumn y) = false := by simpa using hr
        refine Or.inl ?_
        simp only [hr', Bool.false_eq_true, if_false, applyMethod_direct]

/-- whatever a Python expression evaluates to — a plain value or a feature — is, once featurized, the documented feature
up to mirrored comparisons -/
theorem eval_lift : ∀ (e : PyExpr) (x : Operand), e.eval = some x → SugarEq x.lift e.spec
  | .val v, x, h => by
    simp only [PyExpr.eval, Option.some.injEq] at h
    subst h; exact SugarEq.refl _
  | .feat g, x, h => by
    simp only [PyExpr.eval, Option.some.injEq] at h
    subst h; exact SugarEq.refl _
  | .bin op a b, z, h => by
    simp only [PyExpr.eval] at h
    cases ha : a.eval with
    | none => simp [ha] at h
    | some x =>
      cases hb : b.eval with
      | none => simp [ha, hb] at h
      | some y =>
        simp only [ha, hb, Option.map_eq_some_iff] at h
        obtain ⟨f', hf', rfl⟩ := h
        have hx := eval_lift a x ha
        have hy := eval_lift b y hb
        have hfeat : (∃ g, x = .feat g) ∨ (∃ g, y = .feat g) := by
          cases x with
          | feat g => exact Or.inl ⟨g, rfl⟩
          | plain v =>
            cases y with
            | feat g => exact Or.inr ⟨g, rfl⟩
            | plain w => simp [binary] at hf'
        rcases binary_spec op x y hfeat with h1 | ⟨hc, h1⟩
        · rw [hf'] at h1; injection h1 with h1; subst h1
          exact SugarEq.bin _ _ _ _ _ hx hy
        · rw [hf'] at h1; injection h1 with h1; subst h1
          exact SugarEq.mirror _ _ _ _ _ (isCmp_dsl op hc) hx hy
  | .inv a, z, h => by
    simp only [PyExpr.eval] at h
    cases ha : a.eval with
    | none => simp [ha] at h
    | some x =>
      cases x with
      | plain v => simp [ha] at h
      | feat g =>
        simp only [ha, invert_spec, Option.map_some, Option.some.injEq] at h
        subst h
        exact SugarEq.un _ _ _ (eval_lift a _ ha)

/-- the feature a Python expression constructs is the documented one up to mirrored comparisons -/
theorem eval_spec (e : PyExpr) (f : Feature) (h : e.eval = some (.feat f)) : SugarEq f e.spec :=
  eval_lift e _ h

theorem cmpVal_swap (a b : Val) : cmpVal b a = (cmpVal a b).map Ordering.swap := by
  cases a <;> cases b <;> first | rfl | exact congrArg some Std.OrientedOrd.eq_swap

theorem map_swap (t t' : _root_.Ordering → Bool) (h : ∀ o, t' o.swap = t o) (a b : Val) :
    (cmpVal b a).map (fun o => Val.bool (t' o)) = (cmpVal a b).map (fun o => Val.bool (t o)) := by
  rw [cmpVal_swap a b]
  cases cmpVal a b <;> simp [h]

theorem liftCmp_swap (t t' : _root_.Ordering → Bool) (h : ∀ o, t' o.swap = t o) (a b : Val) :
    liftCmp t' b a = liftCmp t a b := by
  cases a <;> cases b <;> simp only [liftCmp] <;> first | rfl | exact map_swap t t' h _ _

/-- a comparison read from the other side has the same value -/
theorem dslScalar_mirror (op : Op) (hc : isCmp op = true) (a b : Val) :
    dslScalar (mirrorOp op) [b, a] = dslScalar op [a, b] := by
  cases op <;> simp [isCmp] at hc <;> simp only [mirrorOp, dslScalar] <;>
    exact liftCmp_swap _ _ (by intro o; cases o <;> rfl) a b

theorem isCmp_not_agg (op : Op) (h : isCmp op = true) : op.isAggregate = false ∧ (mirrorOp op).isAggregate = false := by
  cases op <;> simp [isCmp] at h <;> exact ⟨rfl, rfl⟩

/-- features that are equal up to mirrored comparisons have the same value on every row -/
theorem sugarEq_sem {f f' : Feature} (h : SugarEq f f') :
    ∀ (labels : Labels) (g : List Row) (row : Row), evalF labels f g row = evalF labels f' g row := by
  induction h with
  | refl f => intro _ _ _; rfl
  | bin op x x' y y' _ _ ihx ihy =>
    intro labels g row
    simp only [evalF, evalFs, ihx labels g row, ihy labels g row]
  | mirror op x x' y y' hc _ _ ihx ihy =>
    intro labels g row
    obtain ⟨h1, h2⟩ := isCmp_not_agg op hc
    simp only [evalF, evalFs, h1, h2, Bool.false_eq_true, if_false, ihx labels g row, ihy labels g row]
    cases evalF labels x' g row <;> cases evalF labels y' g row <;> simp [dslScalar_mirror op hc]
  | un op x x' _ ih =>
    intro labels g row
    simp only [evalF, evalFs, ih labels g row]
    have : (fun r => evalF labels x [r] r) = (fun r => evalF labels x' [r] r) := by
      funext r; exact ih labels [r] r
    simp only [this]

end ForML.C06
