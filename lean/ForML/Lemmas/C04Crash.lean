/-
Of the micro-steps of a training run's commit (stage the state files, create the generation directory, move the files,
write the tag to a temporary file, rename it to `tag.toml`) only the last one changes what readers see: after any
proper prefix (= a crash) the registry reads as before, after all of them as before plus exactly the committed
generation.  Hence histories with crashes inside commits and with re-trainings racing with loads keep the registry
invariant and the binding.
-/
import ForML.Lemmas.C04Commit
import ForML.Lemmas.C04Modes

namespace ForML.Persist

/-- `filesFrom` numbers the states from `base + j`: a `map` over `zipIdx` -/
theorem filesFrom_eq (base : Nat) (os : List Origin) (j : Nat) :
    filesFrom base j os = (os.zipIdx j).map (fun p => (base + p.2, p.1)) := by
  induction os generalizing j <;> simp [filesFrom, List.zipIdx_cons, *]

theorem filesFrom_snd (base : Nat) (os : List Origin) (j : Nat) : (filesFrom base j os).map (·.2) = os := by
  simp [filesFrom_eq, Function.comp_def]

/-- the state ids of one generation are pairwise different: they are `base +` the indices, and those ascend -/
theorem filesFrom_pairwise (base : Nat) (os : List Origin) (j : Nat) :
    (filesFrom base j os).Pairwise (fun a b => a.1 ≠ b.1) := by
  rw [filesFrom_eq, List.pairwise_map, List.zipIdx_eq_zip_range']
  have h := List.pairwise_lt_range' (s := j) (n := os.length)
  rw [← List.zipIdx_map_snd j os, List.pairwise_map, List.zipIdx_eq_zip_range'] at h
  exact h.imp fun h => by dsimp only at h ⊢; omega

theorem entry_listed (k run : Nat) {fs : List (Nat × Origin)} (hp : fs.Pairwise (fun a b => a.1 ≠ b.1)) :
    (⟨k, fs, some (run, fs.map (·.1))⟩ : GenDir).entry = some (k, run, (fs.map (·.2)).map some) := by
  simp only [GenDir.entry, List.map_map]
  congr 3
  apply List.map_congr_left
  intro f hf
  have hfind : fs.find? (fun x => x.1 == f.1) = some f :=
    find?_of_pairwise hp hf (beq_self_eq_true _) fun _ _ hw => Or.inr (not_not_intro (beq_iff_eq.mp hw))
  simp only [Function.comp, GenDir.read, hfind, Option.map_some]

theorem genDirOf_entry (k : Nat) (g : Generation) :
    (genDirOf k g).entry = some (k, g.run, g.states.map some) := by
  rw [genDirOf, entry_listed k g.run (filesFrom_pairwise _ _ _), filesFrom_snd]

/-- `gensFrom` numbers the generations from `i + 1`: a `map` over `zipIdx` -/
theorem gensFrom_eq (i : Nat) (reg : Registry) :
    gensFrom i reg = (reg.zipIdx i).map (fun p => genDirOf (p.2 + 1) p.1) := by
  induction reg generalizing i <;> simp [gensFrom, List.zipIdx_cons, *]

/-- every directory of `gensFrom` is listed with its states (`genDirOf_entry`), so the view drops nothing -/
theorem registry_gensFrom (reg : Registry) (i : Nat) (st : List (Nat × Origin)) :
    (⟨st, gensFrom i reg⟩ : Store).registry = reg := by
  simp [Store.registry, Store.view, gensFrom_eq, List.filterMap_map, Function.comp_def, genDirOf_entry]

theorem registry_storeOf (reg : Registry) : (storeOf reg).registry = reg := registry_gensFrom reg 0 []

theorem gensFrom_keys (reg : Registry) (i : Nat) (d : GenDir) (h : d ∈ gensFrom i reg) :
    i < d.key ∧ d.key ≤ i + reg.length := by
  rw [gensFrom_eq, List.mem_map] at h
  obtain ⟨p, hp, rfl⟩ := h
  have := List.le_snd_of_mem_zipIdx hp
  have := List.snd_lt_add_of_mem_zipIdx hp
  show i < p.2 + 1 ∧ p.2 + 1 ≤ i + reg.length
  omega

theorem gensFrom_append (reg : Registry) (i : Nat) (g : Generation) :
    gensFrom i (reg ++ [g]) = gensFrom i reg ++ [genDirOf (i + reg.length + 1) g] := by
  simp [gensFrom_eq, List.zipIdx_append]

/-- the directories with key `k` are not listed -/
def Unlisted (k : Nat) (s : Store) : Prop := ∀ g ∈ s.gens, g.key = k → g.tag = none

theorem entry_none_of_tag {g : GenDir} (h : g.tag = none) : g.entry = none := by
  simp [GenDir.entry, h]

theorem view_updGen_files (k : Nat) (f : Nat × Origin) :
    ∀ (gens : List GenDir), (∀ g ∈ gens, g.key = k → g.tag = none) →
      (updGen k (fun g => { g with files := g.files ++ [f] }) gens).filterMap GenDir.entry
        = gens.filterMap GenDir.entry := by
  intro gens
  induction gens with
  | nil => intro _; rfl
  | cons g gs ih =>
    intro h
    have hrest := ih (fun g' hg' => h g' (List.mem_cons_of_mem _ hg'))
    simp only [updGen, List.map_cons, List.filterMap_cons] at hrest ⊢
    by_cases hk : g.key = k
    · have ht := h g List.mem_cons_self hk
      have hb : (g.key == k) = true := by simpa using hk
      have e1 : ({ g with files := g.files ++ [f] } : GenDir).entry = none := entry_none_of_tag ht
      simp only [hb, if_true, e1, entry_none_of_tag ht]
      exact hrest
    · have hb : (g.key == k) = false := by simpa using hk
      simp only [hb, Bool.false_eq_true, if_false]
      rw [hrest]

theorem applyOp_view_prep {k : Nat} {s s' : Store} {op : Op} (hop : Op.prepFor k op = true) (hu : Unlisted k s)
    (h : applyOp s op = some s') : s'.view = s.view ∧ Unlisted k s' := by
  unfold Unlisted Store.view
  rcases applyOp_prepFor hop h with e | e | ⟨f, e⟩ <;> rw [e]
  · exact ⟨rfl, hu⟩
  · -- a new directory has no tag
    refine ⟨(List.filterMap_append ..).trans (List.append_nil _), fun g hg hgk => ?_⟩
    rcases List.mem_append.mp hg with hg | hg
    · exact hu g hg hgk
    · rw [List.mem_singleton.mp hg]
  · -- the directories that get the file are not listed, before and after
    refine ⟨view_updGen_files k f s.gens hu, fun g hg hgk => ?_⟩
    obtain ⟨g0, hg0, rfl⟩ := List.mem_map.mp hg
    split at hgk
    · rename_i hb
      rw [if_pos hb]
      exact hu g0 hg0 (by simpa using hb)
    · rename_i hb
      rw [if_neg hb]
      exact hu g0 hg0 hgk

theorem runOps_view_prep {k : Nat} (ops : List Op) (s : Store) (hall : ∀ op ∈ ops, Op.prepFor k op = true)
    (hu : Unlisted k s) : (runOps s ops).view = s.view :=
  (runOps_inv (P := fun s' => s'.view = s.view ∧ Unlisted k s') ops s
    (fun op hop _ _ hs h => have h' := applyOp_view_prep (hall op hop) hs.2 h; ⟨h'.1.trans hs.1, h'.2⟩) ⟨rfl, hu⟩).1

theorem runAll_stages (gens : List GenDir) :
    ∀ (xs st : List (Nat × Origin)),
      runAll ⟨st, gens⟩ (xs.map (fun f => Op.stage f.1 f.2)) = some ⟨st ++ xs, gens⟩ := by
  intro xs
  induction xs with
  | nil => intro st; simp [runAll]
  | cons x xs ih =>
    intro st
    simp only [List.map_cons, runAll, applyOp]
    rw [ih (st ++ [x])]
    simp

theorem updGen_last (k : Nat) (f : GenDir → GenDir) (old : List GenDir) (d : GenDir)
    (hold : ∀ g ∈ old, g.key ≠ k) (hd : d.key = k) : updGen k f (old ++ [d]) = old ++ [f d] := by
  simp only [updGen, List.map_append, List.map_cons, List.map_nil]
  have hb : (d.key == k) = true := by simpa using hd
  simp only [hb, if_true]
  congr 1
  have : ∀ g ∈ old, (if (g.key == k) = true then f g else g) = g := by
    intro g hg
    have : (g.key == k) = false := by simpa using hold g hg
    simp [this]
  rw [List.map_congr_left this, List.map_id']

theorem runAll_moves (k : Nat) (old : List GenDir) (hold : ∀ g ∈ old, g.key ≠ k) :
    ∀ (rest done : List (Nat × Origin)), rest.Pairwise (fun a b => a.1 ≠ b.1) →
      runAll ⟨rest, old ++ [⟨k, done, none⟩]⟩ (rest.map (fun f => Op.move k f.1))
        = some ⟨[], old ++ [⟨k, done ++ rest, none⟩]⟩ := by
  intro rest
  induction rest with
  | nil => intro done _; simp [runAll]
  | cons x xs ih =>
    intro done hp
    have hx : ∀ b ∈ xs, x.1 ≠ b.1 := fun b hb => List.rel_of_pairwise_cons hp hb
    have hxs := List.Pairwise.of_cons hp
    have hfilter : (x :: xs).filter (fun f' => f'.1 != x.1) = xs := by
      simp only [List.filter_cons, bne_self_eq_false, Bool.false_eq_true, if_false]
      apply List.filter_eq_self.mpr
      intro b hb
      simp only [bne_iff_ne, ne_eq]
      exact fun e => hx b hb e.symm
    simp only [List.map_cons, runAll, applyOp, List.find?_cons, beq_self_eq_true, hfilter]
    rw [updGen_last k _ old ⟨k, done, none⟩ hold rfl]
    have := ih (done ++ [x]) hxs
    simp only [List.append_assoc, List.singleton_append] at this
    exact this

theorem runAll_commit (reg : Registry) (g : Generation) :
    runAll (storeOf reg) (commitOps reg g) = some (storeOf (reg ++ [g])) := by
  have hold : ∀ d ∈ gensFrom 0 reg, d.key ≠ reg.length + 1 := by
    intro d hd
    have := gensFrom_keys reg 0 d hd
    omega
  simp only [commitOps, trainOps, prepareOps, storeOf]
  rw [runAll_append, runAll_append, runAll_append, runAll_append, runAll_stages]
  simp only [Option.bind_some, List.nil_append, runAll, applyOp]
  have hng : (⟨filesFrom (1000 * (reg.length + 1)) 0 g.states, gensFrom 0 reg⟩ : Store).hasGen (reg.length + 1) = false := by
    simp only [Store.hasGen]
    apply List.any_eq_false.mpr
    intro d hd
    simpa using hold d hd
  simp only [hng, Bool.false_eq_true, if_false, Option.bind_some]
  rw [runAll_moves (reg.length + 1) (gensFrom 0 reg) hold _ [] (filesFrom_pairwise _ _ _)]
  simp only [Option.bind_some, List.nil_append]
  rw [updGen_last (reg.length + 1) _ (gensFrom 0 reg) _ hold rfl, gensFrom_append]
  simp [genDirOf]

theorem storeOf_unlisted (reg : Registry) : Unlisted (reg.length + 1) (storeOf reg) := by
  intro d hd hk
  have := gensFrom_keys reg 0 d hd
  omega

/-- **A complete commit** is read as the registry plus exactly the committed generation. -/
theorem crashedCommit_complete (reg : Registry) (g : Generation) (n : Nat) (h : (commitOps reg g).length ≤ n) :
    crashedCommit reg g n = reg ++ [g] := by
  simp only [crashedCommit, List.take_of_length_le h, runOps_of_runAll _ _ _ (runAll_commit reg g), registry_storeOf]

/-- **A crashed commit** (any proper prefix of the micro-steps) is not visible at all. -/
theorem crashedCommit_crashed (reg : Registry) (g : Generation) (n : Nat) (h : n < (commitOps reg g).length) :
    crashedCommit reg g n = reg := by
  have hlen : n ≤ (prepareOps (reg.length + 1) (filesFrom (1000 * (reg.length + 1)) 0 g.states)).length := by
    simp only [commitOps, trainOps, List.length_append, List.length_cons, List.length_nil] at h
    omega
  have hview : (runOps (storeOf reg) ((commitOps reg g).take n)).view = (storeOf reg).view := by
    simp only [commitOps, trainOps]
    rw [List.take_append_of_le_length hlen]
    exact runOps_view_prep _ _ (fun op hop => prepareOps_prepFor _ _ op (List.mem_of_mem_take hop)) (storeOf_unlisted reg)
  have := registry_storeOf reg
  simp only [crashedCommit, Store.registry, hview] at this ⊢
  exact this

theorem crashedCommit_cases (reg : Registry) (g : Generation) (n : Nat) :
    crashedCommit reg g n = reg ∨ crashedCommit reg g n = reg ++ [g] := by
  by_cases h : n < (commitOps reg g).length
  · exact Or.inl (crashedCommit_crashed reg g n h)
  · exact Or.inr (crashedCommit_complete reg g n (by omega))

/-- the expansions of the racing processes are fresh ones, too -/
def Fault.FreshOk (x : Fault) : Prop :=
  match x.race with
  | none => True
  | some (_, _, f) => Inj f.1 ∧ Inj f.2

theorem settle_inv {cs : Case} (hwf : cs.Ok) {reg reg' : Registry}
    (hreg : RegInv cs.plain.persistentTags reg) (hreg' : RegInv cs.plain.persistentTags reg') (x : Fault)
    (hx : x.FreshOk) : RegInv cs.plain.persistentTags (settle cs reg reg' x) := by
  have hcrash : RegInv cs.plain.persistentTags (match x.crash with
      | none => reg'
      | some k =>
        match reg'.drop reg.length with
        | [g] => crashedCommit reg g k
        | _ => reg') := by
    cases x.crash with
    | none => exact hreg'
    | some k =>
      simp only
      split
      · rename_i g hd
        have hg : g ∈ reg' := List.mem_of_mem_drop (by rw [hd]; exact List.mem_singleton_self g)
        cases crashedCommit_cases reg g k with
        | inl h => rw [h]; exact hreg
        | inr h => rw [h]; exact hreg.append (hreg' g hg)
      · exact hreg'
  simp only [settle]
  cases hr : x.race with
  | none => exact hcrash
  | some r =>
    obtain ⟨run, hp, f⟩ := r
    simp only [Fault.FreshOk, hr] at hx
    simp only [step_rename hx.1 hx.2]
    split
    · rename_i reg'' obs hs
      exact (step_ok hwf hcrash hs).1
    · exact hcrash

def FaultyFreshOk (hist : List (Action × Fresh × Fault)) : Prop :=
  ∀ e ∈ hist, Inj e.2.1.1 ∧ Inj e.2.1.2 ∧ e.2.2.FreshOk

theorem runFaulty_ok (cs : Case) (hwf : cs.Ok) :
    ∀ (hist : List (Action × Fresh × Fault)) (reg : Registry), RegInv cs.plain.persistentTags reg →
      FaultyFreshOk hist →
      ∀ entry ∈ runFaulty cs reg hist,
        RegInv cs.plain.persistentTags entry.2.1 ∧
        ∀ obs, entry.2.2 = .ok obs → ∀ o ∈ obs, obsOk entry.2.1 entry.1 o = true := by
  intro hist reg hreg hfresh
  refine history_inv (I := RegInv cs.plain.persistentTags) (run := runFaulty cs) (fun _ => rfl) ?_ hist reg hreg hfresh
  intro reg (a, f, flt) rest hreg hx
  rcases step_cases hwf hreg hx.1 hx.2.1 a with ⟨e, hs⟩ | ⟨reg', obs, hs, hinv, hobs⟩
  · exact ⟨(a, reg, .error e), settle cs reg reg flt, by simp only [runFaulty, hs], ⟨hreg, fun _ h => nomatch h⟩,
      settle_inv hwf hreg hreg flt hx.2.2⟩
  · exact ⟨(a, reg, .ok obs), settle cs reg reg' flt, by simp only [runFaulty, hs],
      ⟨hreg, fun _ h => by cases h; exact hobs⟩, settle_inv hwf hreg hinv flt hx.2.2⟩

end ForML.Persist
