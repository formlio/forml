/- C17: `ABTest.select` as the model has it (lemmas about Model/Strategy.lean): the sums of weights and counts, what one
hit changes, and the arithmetic behind the lower bound. -/
import ForML.Model.Strategy

namespace ForML.Strategy

theorem sumW_append (a b : List Slot) : sumW (a ++ b) = sumW a + sumW b := by
  induction a with
  | nil => simp only [List.nil_append, sumW, Nat.zero_add]
  | cons x r ih => obtain ⟨w, c⟩ := x; simp only [List.cons_append, sumW, ih, Nat.add_assoc]

theorem sumC_append (a b : List Slot) : sumC (a ++ b) = sumC a + sumC b := by
  induction a with
  | nil => simp only [List.nil_append, sumC, Nat.zero_add]
  | cons x r ih => obtain ⟨w, c⟩ := x; simp only [List.cons_append, sumC, ih, Nat.add_assoc]

theorem sumW_eq_sum (sl : List Slot) : sumW sl = (sl.map (·.1)).sum := by
  induction sl with
  | nil => rfl
  | cons x r ih => obtain ⟨w, c⟩ := x; simp only [sumW, List.map_cons, List.sum_cons, ih]

/-- one slot against all the others taken together -/
theorem mem_others {sl : List Slot} {x : Slot} (hx : x ∈ sl) :
    ∃ others, sumW sl = x.1 + sumW others ∧ sumC sl = x.2 + sumC others ∧ sl.length = others.length + 1 ∧
      ∀ y ∈ others, y ∈ sl := by
  obtain ⟨pre, post, rfl⟩ := List.append_of_mem hx
  obtain ⟨w, c⟩ := x
  refine ⟨pre ++ post, ?_, ?_, ?_, fun y hy => ?_⟩
  · simp only [sumW_append, sumW]; omega
  · simp only [sumC_append, sumC]; omega
  · simp only [List.length_append, List.length_cons]; omega
  · exact (List.mem_append.mp hy).elim (List.mem_append_left _) fun h => List.mem_append_right _ (List.mem_cons_of_mem _ h)

theorem mem_le_sumW {sl : List Slot} {x : Slot} (hx : x ∈ sl) : x.1 ≤ sumW sl := by
  obtain ⟨_, h, _⟩ := mem_others hx
  omega

theorem mem_le_sumC {sl : List Slot} {x : Slot} (hx : x ∈ sl) : x.2 ≤ sumC sl := by
  obtain ⟨_, _, h, _⟩ := mem_others hx
  omega

theorem hitFirst_some {W n : Nat} {sl sl' : List Slot} (h : hitFirst W n sl = some sl') :
    ∃ pre w c post, sl = pre ++ (w, c) :: post ∧ sl' = pre ++ (w, c + 1) :: post ∧ c * W < w * n := by
  fun_induction hitFirst W n sl generalizing sl' with
  | case1 => cases h
  | case2 w c r hlt => cases h; exact ⟨[], w, c, r, rfl, rfl, hlt⟩
  | case3 w c r _ ih =>
    obtain ⟨r', hr, rfl⟩ := Option.map_eq_some_iff.mp h
    obtain ⟨pre, w', c', post, rfl, rfl, hlt⟩ := ih hr
    exact ⟨(w, c) :: pre, w', c', post, rfl, rfl, hlt⟩

/-- pigeonhole: if no slot is eligible, the counts weigh at least as much as the targets -/
theorem none_eligible {W n : Nat} {sl : List Slot} (h : hitFirst W n sl = none) : sumW sl * n ≤ sumC sl * W := by
  fun_induction hitFirst W n sl with
  | case1 => simp [sumW, sumC]
  | case2 => cases h
  | case3 w c r hlt ih =>
    have := ih (Option.map_eq_none_iff.mp h)
    simp only [sumW, sumC, Nat.add_mul]
    omega

theorem step_some {s s' : State} (h : step s = some s') :
    s'.total = s.total + 1 ∧ ∃ pre w c post, s.slots = pre ++ (w, c) :: post ∧
      s'.slots = pre ++ (w, c + 1) :: post ∧ c * sumW s.slots < w * (s.total + 1) := by
  unfold step at h
  split at h
  · cases h
  · rename_i sl hsl
    cases h
    exact ⟨rfl, hitFirst_some hsl⟩

/-- progress and preservation in one induction -/
theorem run_all {P : Nat → State → Prop} {s0 : State} (h0 : P 0 s0)
    (hs : ∀ n s, P n s → ∃ s', step s = some s' ∧ P (n + 1) s') (n : Nat) : ∃ s, run s0 n = some s ∧ P n s := by
  induction n with
  | zero => exact ⟨s0, rfl, h0⟩
  | succ n ih =>
    obtain ⟨s, h, hp⟩ := ih
    obtain ⟨s', h', hp'⟩ := hs n s hp
    exact ⟨s', by simp only [run, h, h'], hp'⟩

/-- a slot `(w, c)` against all the others (`A`, `B`: their weights and counts summed, `m` their number): the requests
they are ahead by – less than one each – are all it can be behind -/
theorem behind_of_others {A B w c n W m : Nat} (hW : W = w + A) (hC : n = c + B)
    (hu : B * W + m ≤ A * n + m * W) (hm : 0 < m) : w * n < (c + m) * W := by
  have e1 : n * W = w * n + A * n := by rw [hW, Nat.mul_comm, Nat.add_mul]
  have e2 : n * W = c * W + B * W := by rw [hC, Nat.add_mul]
  rw [Nat.add_mul]
  omega

end ForML.Strategy
