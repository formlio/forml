/-
What the list primitives under `Dense`/`Frame` (Model/Entry.lean) and the two selections of `Mat` do, cell by cell.
-/
import ForML.Model.Entry
import ForML.Lemmas.ListFacts

namespace ForML.Entry

section matrix
variable {α β : Type}

theorem mapOpt_some {f : α → Option β} (xs : List α) (ys : List β) (h : mapOpt f xs = some ys) :
    ys.length = xs.length ∧ ∀ k : Nat, ys[k]? = xs[k]?.bind f := by
  induction xs generalizing ys with
  | nil => cases h; exact ⟨rfl, fun _ => rfl⟩
  | cons x r ih =>
    simp only [mapOpt] at h
    split at h
    · rename_i b bs hb hbs
      cases h
      obtain ⟨h1, h2⟩ := ih bs hbs
      refine ⟨congrArg (· + 1) h1, fun k => ?_⟩
      cases k with
      | zero => exact hb.symm
      | succ k => exact h2 k
    · cases h

theorem mapOpt_getElem {f : α → Option β} {xs : List α} {ys : List β} (h : mapOpt f xs = some ys) {k : Nat} {x : α}
    (hx : xs[k]? = some x) : ∃ y, f x = some y ∧ ys[k]? = some y := by
  obtain ⟨hl, hk⟩ := mapOpt_some xs ys h
  have hlt : k < ys.length := hl ▸ (List.getElem?_eq_some_iff.mp hx).1
  refine ⟨ys[k], ?_, List.getElem?_eq_getElem hlt⟩
  have := hk k
  rw [hx, List.getElem?_eq_getElem hlt] at this
  exact this.symm

theorem mapOpt_pure (xs : List α) : mapOpt some xs = some xs := by
  induction xs with
  | nil => rfl
  | cons x r ih => simp only [mapOpt, ih]

theorem mapOpt_none {f : α → Option β} (xs : List α) :
    mapOpt f xs = none ↔ ∃ x ∈ xs, f x = none := by
  induction xs with
  | nil => simp [mapOpt]
  | cons x r ih =>
    simp only [mapOpt, List.mem_cons, exists_eq_or_imp, ← ih]
    cases f x <;> cases mapOpt f r <;> simp

theorem normIdx_lt (n : Nat) (i : Int) (k : Nat) (h : normIdx n i = some k) : k < n := by
  unfold normIdx at h
  split at h
  · split at h
    · cases h; assumption
    · cases h
  · split at h
    · cases h; omega
    · cases h

theorem takeIdx_some (xs : List α) (is : List Int) (ys : List α) (h : takeIdx xs is = some ys) :
    ys.length = is.length ∧
    ∀ k : Nat, ys[k]? = is[k]?.bind (fun i => (normIdx xs.length i).bind (xs[·]?)) :=
  mapOpt_some is ys h

theorem takeIdx_none (xs : List α) (is : List Int) :
    takeIdx xs is = none ↔ ∃ i ∈ is, normIdx xs.length i = none := by
  unfold takeIdx
  rw [mapOpt_none]
  constructor
  · rintro ⟨i, hi, hn⟩
    refine ⟨i, hi, ?_⟩
    cases hk : normIdx xs.length i with
    | none => rfl
    | some k =>
      have := normIdx_lt _ _ _ hk
      simp [hk, this] at hn
  · rintro ⟨i, hi, hn⟩
    exact ⟨i, hi, by simp [hn]⟩

theorem takeIdx_mem (xs : List α) (is : List Int) (ys : List α) (h : takeIdx xs is = some ys) :
    ∀ y ∈ ys, y ∈ xs := by
  intro y hy
  obtain ⟨k, hk⟩ := List.getElem?_of_mem hy
  rw [(takeIdx_some xs is ys h).2 k] at hk
  obtain ⟨i, _, hi⟩ := Option.bind_eq_some_iff.mp hk
  obtain ⟨a, _, ha⟩ := Option.bind_eq_some_iff.mp hi
  exact List.mem_of_getElem? ha

theorem column_spec (xs : List (List α)) (n j : Nat) (hwf : ∀ r ∈ xs, r.length = n) (hj : j < n) :
    (xs.filterMap (·[j]?)).length = xs.length ∧
    ∀ i : Nat, (xs.filterMap (·[j]?))[i]? = xs[i]?.bind (·[j]?) :=
  filterMap_total (·[j]?) xs fun r hr =>
    Option.isSome_iff_exists.mpr ⟨_, List.getElem?_eq_getElem ((hwf r hr).symm ▸ hj)⟩

theorem transposeN_get (n : Nat) (xs : List (List α)) (j : Nat) :
    (transposeN n xs)[j]? = if j < n then some (xs.filterMap (·[j]?)) else none := by
  unfold transposeN
  by_cases h : j < n
  · simp [h]
  · simp [h]

theorem transposeN_length (n : Nat) (xs : List (List α)) : (transposeN n xs).length = n := by
  simp [transposeN]

theorem transposeN_wf (n : Nat) (xs : List (List α)) (hwf : ∀ r ∈ xs, r.length = n) :
    ∀ c ∈ transposeN n xs, c.length = xs.length := by
  intro c hc
  obtain ⟨j, hj⟩ := List.getElem?_of_mem hc
  rw [transposeN_get] at hj
  split at hj
  · rename_i hlt; cases hj; exact (column_spec xs n j hwf hlt).1
  · cases hj

/-- cell `(i, j)` of the matrix is cell `(j, i)` of its transpose -/
theorem transposeN_cell (n : Nat) (xs : List (List α)) (hwf : ∀ r ∈ xs, r.length = n) (i j : Nat) :
    (transposeN n xs)[j]?.bind (·[i]?) = xs[i]?.bind (·[j]?) := by
  rw [transposeN_get]
  split
  · rename_i hlt; simp only [Option.bind_some]; exact (column_spec xs n j hwf hlt).2 i
  · rename_i hge
    cases hi : xs[i]? with
    | none => simp
    | some r =>
      have := hwf r (List.mem_of_getElem? hi)
      simp only [Option.bind_none, Option.bind_some]
      symm; rw [List.getElem?_eq_none_iff]; omega

end matrix

namespace Mat
variable {α : Type}

theorem toMinor_cell (m : Mat α) (h : m.WF) (a b : Nat) :
    m.toMinor[b]?.bind (·[a]?) = m.cell a b := transposeN_cell m.minor m.major h a b

theorem takeMajor_spec (m : Mat α) (h : m.WF) (is : List Int) (t : Mat α)
    (ht : m.takeMajor is = some t) :
    t.WF ∧ t.major.length = is.length ∧ t.minor = m.minor ∧
    ∀ (k : Nat) (ι : Int) (a : Nat), is[k]? = some ι → normIdx m.major.length ι = some a →
      ∀ b, t.cell k b = m.cell a b := by
  obtain ⟨xs, hx, rfl⟩ := Option.map_eq_some_iff.mp ht
  obtain ⟨h1, h2⟩ := takeIdx_some m.major is xs hx
  refine ⟨fun r hr => h r (takeIdx_mem _ _ _ hx r hr), h1, rfl, ?_⟩
  intro k ι a hk ha b
  simp only [Mat.cell]
  rw [h2 k, hk]; simp [ha]

theorem takeMinor_spec (m : Mat α) (h : m.WF) (js : List Int) (t : Mat α)
    (ht : m.takeMinor js = some t) :
    t.WF ∧ t.minor = js.length ∧ t.major.length = m.major.length ∧
    ∀ (k : Nat) (ι : Int) (b : Nat), js[k]? = some ι → normIdx m.minor ι = some b →
      ∀ a, t.cell a k = m.cell a b := by
  obtain ⟨cs, hx, rfl⟩ := Option.map_eq_some_iff.mp ht
  obtain ⟨h1, h2⟩ := takeIdx_some _ js cs hx
  have hcs : ∀ c ∈ cs, c.length = m.major.length := fun c hc =>
    transposeN_wf m.minor m.major h c (takeIdx_mem _ _ _ hx c hc)
  refine ⟨fun r hr => (transposeN_wf m.major.length cs hcs r hr).trans h1, rfl, transposeN_length _ _, ?_⟩
  intro k ι b hk hb a
  simp only [Mat.cell]
  rw [transposeN_cell m.major.length cs hcs k a, h2 k, hk]
  simp only [Option.bind_some, transposeN_length, hb]
  exact transposeN_cell m.minor m.major h a b

end Mat

end ForML.Entry
