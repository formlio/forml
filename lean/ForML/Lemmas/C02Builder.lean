/-
Actor builders (`Model/Builder.lean`): `builder()` binds an explicitly passed keyword argument as given, whatever the
value (`None`, falsy, the default itself), and takes the constructor default for what is not passed;
`Spec.__getnewargs_ex__` / `Spec.__new__` rebuild every accepted builder exactly, so the `processes` scheduler executes
what the in-process schedulers execute; the driver's coding of instances is injective on the known instances.
-/
import ForML.Model.Builder
import ForML.Lemmas.ListFacts

namespace ForML.Flow

theorem mapOpt_eq (f : α → Option β) (l : List α) : mapOpt f l = l.mapM f := by
  induction l with
  | nil => rfl
  | cons x r ih => rw [mapOpt, List.mapM_cons, ih]; cases f x <;> cases r.mapM f <;> rfl

theorem mapOpt_id {f : α → Option α} {l : List α} (h : ∀ x ∈ l, f x = some x) : mapOpt f l = some l := by
  rw [mapOpt_eq, mapM_eq_some_iff_map]; exact List.map_congr_left h

theorem mapOpt_cons_some {f : α → Option β} {x : α} {r : List α} {l' : List β} (h : mapOpt f (x :: r) = some l') :
    ∃ y ys, f x = some y ∧ mapOpt f r = some ys ∧ l' = y :: ys := by
  simp only [mapOpt] at h
  split at h
  · cases h
  · rename_i y hy
    split at h
    · cases h
    · rename_i ys hys
      cases h
      exact ⟨y, ys, hy, hys, rfl⟩

theorem mapOpt_length {f : α → Option β} : ∀ {l : List α} {l' : List β}, mapOpt f l = some l' → l'.length = l.length :=
  fun {l _} h => by simpa using (congrArg List.length (mapM_eq_some_iff_map.1 (mapOpt_eq f l ▸ h))).symm

theorem mapOpt_mem {f : α → Option β} : ∀ {l : List α} {l' : List β}, mapOpt f l = some l' →
    ∀ y ∈ l', ∃ x ∈ l, f x = some y := fun {l _} h y hy => by
  have := mapM_eq_some_iff_map.1 (mapOpt_eq f l ▸ h) ▸ List.mem_map_of_mem (f := some) hy
  simpa using this

theorem newArgValues_map : ∀ l : List Hyper, newArgValues (l.map .value) = some l
  | [] => rfl
  | v :: r => by simp [newArgValues, newArgValues_map r]

/-- `pickle.loads(pickle.dumps(spec))` is `spec` for every builder that `Spec.__new__` accepts (and raises for the
others, which cannot exist) -/
theorem Spec.roundtrip_eq (s : Spec) : s.roundtrip = if s.valid then some s else none := by
  cases s with
  | mk c a k =>
    simp only [Spec.roundtrip, Spec.getnewargsEx, Spec.newobjEx, newArgValues_map, Spec.new, Spec.valid]
    rfl

theorem Spec.roundtrip_valid {s : Spec} (h : s.valid = true) : s.roundtrip = some s := by
  rw [Spec.roundtrip_eq, if_pos h]

theorem Spec.new_spec {c : ActorClass} {a : List Hyper} {k : Kwargs} {s : Spec} (h : Spec.new c a k = some s) :
    s = ⟨c, a, k⟩ ∧ s.valid = true := by
  unfold Spec.new at h
  split at h
  · rename_i hv
    cases h
    exact ⟨rfl, hv⟩
  · cases h

theorem PInstr.ship_valid {i : PInstr} (h : i.valid = true) : i.ship = some i := by
  cases i with
  | functor b act ps =>
    simp only [PInstr.valid] at h
    simp [PInstr.ship, Spec.roundtrip_valid h]
  | loader g => rfl
  | dumper => rfl
  | committer => rfl
  | getter i => rfl

/-- a table of accepted builders survives the process boundary unchanged -/
theorem PTable.ship_valid {T : PTable} (h : T.valid = true) : T.ship = some T := by
  simp only [PTable.valid, List.all_eq_true] at h
  exact mapOpt_id (fun s hs => by simp [PSymbol.ship, PInstr.ship_valid (h s hs)])

theorem runDaskProcesses_eq (code : Instance → Actor) (A : Option Assets) {T : PTable} (h : T.valid = true) :
    runDaskProcesses code A T = runDaskLocal code A T := by
  simp [runDaskProcesses, PTable.ship_valid h]

theorem Kwargs.get_of_mem : ∀ {kw : Kwargs} {n : Nat} {v : Hyper}, dupNames kw = false → (n, v) ∈ kw →
    kw.get n = some v
  | [], _, _, _, h => by cases h
  | (m, w) :: r, n, v, hd, h => by
    simp only [dupNames, Bool.or_eq_false_iff] at hd
    rcases List.mem_cons.1 h with h | h
    · cases h; simp [Kwargs.get]
    · by_cases hmn : m = n
      · subst hmn
        have : r.any (fun e => e.1 = m) = true := by
          simp only [List.any_eq_true, decide_eq_true_eq]
          exact ⟨(m, v), h, rfl⟩
        rw [this] at hd
        cases hd.1
      · simp only [Kwargs.get, hmn, if_false]
        exact Kwargs.get_of_mem hd.2 h

theorem fillRest_mem : ∀ {kw : Kwargs} {ps : List Param} {r : List (Nat × Hyper)}, fillRest kw ps = some r →
    ∀ p ∈ ps, ∃ v, (p.name, v) ∈ r ∧ (match kw.get p.name with | some w => some w | none => p.default) = some v
  | kw, [], r, h, p, hp => by cases hp
  | kw, q :: ps, r, h, p, hp => by
    simp only [fillRest] at h
    split at h
    · cases h
    · rename_i v hv
      split at h
      · cases h
      · rename_i r' hr'
        cases h
        rcases List.mem_cons.1 hp with rfl | hp
        · exact ⟨v, List.mem_cons_self .., hv⟩
        · obtain ⟨w, hw, hw'⟩ := fillRest_mem hr' p hp
          exact ⟨w, List.mem_cons_of_mem _ hw, hw'⟩

theorem bindCall_some {sig : List Param} {args : List Hyper} {kw : Kwargs} {ps : List (Nat × Hyper)}
    (h : bindCall sig args kw = some ps) : ∃ b rest r, bindPos sig args = some (b, rest) ∧ kwOk rest kw = true ∧
      fillRest kw rest = some r ∧ ps = b ++ r := by
  unfold bindCall at h
  split at h
  · cases h
  · rename_i b rest hb
    split at h
    · rename_i hk
      split at h
      · cases h
      · rename_i r hr
        cases h
        exact ⟨b, rest, r, hb, hk, hr, rfl⟩
    · cases h

/-- **an explicit keyword argument is bound as given**: if the actor can be built at all, every `name=value` of the
builder is part of the instance - also `value = None`, a falsy value, or the constructor default itself -/
theorem bindCall_kw {sig : List Param} {args : List Hyper} {kw : Kwargs} {ps : List (Nat × Hyper)}
    (h : bindCall sig args kw = some ps) {n : Nat} {v : Hyper} (hm : (n, v) ∈ kw) : (n, v) ∈ ps := by
  obtain ⟨b, rest, r, _, hk, hr, rfl⟩ := bindCall_some h
  simp only [kwOk, Bool.and_eq_true, List.all_eq_true, List.any_eq_true, decide_eq_true_eq,
    Bool.not_eq_eq_eq_not, Bool.not_true] at hk
  obtain ⟨p, hp, hpn⟩ := hk.1 (n, v) hm
  obtain ⟨w, hw, hw'⟩ := fillRest_mem hr p hp
  rw [hpn, Kwargs.get_of_mem hk.2 hm] at hw'
  cases hw'
  rw [hpn] at hw
  exact List.mem_append_right _ hw

/-- a parameter left over by the positional arguments that no keyword names takes its constructor default -/
theorem bindCall_default {sig : List Param} {args : List Hyper} {kw : Kwargs} {ps : List (Nat × Hyper)}
    (h : bindCall sig args kw = some ps) {b : List (Nat × Hyper)} {rest : List Param}
    (hb : bindPos sig args = some (b, rest)) {p : Param} (hp : p ∈ rest) (hk : kw.get p.name = none) :
    ∃ d, p.default = some d ∧ (p.name, d) ∈ ps := by
  obtain ⟨b', rest', r, hb', _, hr, rfl⟩ := bindCall_some h
  cases hb.symm.trans hb'
  obtain ⟨w, hw, hw'⟩ := fillRest_mem hr p hp
  rw [hk] at hw'
  exact ⟨w, hw', List.mem_append_right _ hw⟩

/-- positional arguments are bound to the leading parameters in order -/
theorem bindPos_spec : ∀ {sig : List Param} {args : List Hyper} {b : List (Nat × Hyper)} {rest : List Param},
    bindPos sig args = some (b, rest) →
      b = List.zip ((sig.take args.length).map (·.name)) args ∧ rest = sig.drop args.length ∧
        args.length ≤ sig.length
  | sig, [], b, rest, h => by simp only [bindPos] at h; cases h; simp
  | [], _ :: _, b, rest, h => by simp [bindPos] at h
  | p :: ps, v :: vs, b, rest, h => by
    simp only [bindPos] at h
    split at h
    · cases h
    · split at h
      · cases h
      · rename_i b' r' hb'
        cases h
        obtain ⟨h1, h2, h3⟩ := bindPos_spec hb'
        subst h1 h2
        simp
        omega

theorem fillRest_names : ∀ {kw : Kwargs} {ps : List Param} {r : List (Nat × Hyper)}, fillRest kw ps = some r →
    r.map (·.1) = ps.map (·.name)
  | kw, [], r, h => by cases h; rfl
  | kw, q :: ps, r, h => by
    simp only [fillRest] at h
    split at h
    · cases h
    · split at h
      · cases h
      · rename_i r' hr'
        cases h
        rw [List.map_cons, List.map_cons, fillRest_names hr']

/-- the instance of a builder lists every parameter of the class exactly once, in signature order -/
theorem bindCall_names {sig : List Param} {args : List Hyper} {kw : Kwargs} {ps : List (Nat × Hyper)}
    (h : bindCall sig args kw = some ps) : ps.map (·.1) = sig.map (·.name) := by
  obtain ⟨b, rest, r, hb, _, hr, rfl⟩ := bindCall_some h
  obtain ⟨rfl, rfl, h3⟩ := bindPos_spec hb
  rw [List.map_append, fillRest_names hr, List.map_fst_zip (by simp; omega), ← List.map_append,
    List.take_append_drop]

theorem indexIn_eq [DecidableEq α] (x : α) (l : List α) : indexIn x l = l.idxOf x := by
  induction l <;> simp [indexIn, List.idxOf_cons, *]

theorem indexIn_inj [DecidableEq α] {l : List α} {x y : α} (hx : x ∈ l) (hy : y ∈ l)
    (h : indexIn x l = indexIn y l) : x = y := by
  rw [indexIn_eq, indexIn_eq] at h
  exact idxOf_inj hx hy h

/-- the driver's coding tells any two known instances with constructor parameters apart -/
theorem internCode_inj {known : List Instance} {i j : Instance} (hi : i ∈ known) (hj : j ∈ known)
    (hpi : i.params.isEmpty = false) (hpj : j.params.isEmpty = false)
    (h : internCode known i = internCode known j) : i = j := by
  unfold internCode at h
  rw [hpi, hpj] at h
  simp only [Bool.false_eq_true, if_false] at h
  have key : ∀ a b x y : Nat, a % 4000 + 4000 * (1 + x) = b % 4000 + 4000 * (1 + y) → x = y := by
    intro a b x y h; omega
  exact indexIn_inj hi hj (key _ _ _ _ h)

/-- ... and an instance with parameters from every parameterless one whose class symbol is below 4000 -/
theorem internCode_sep {known : List Instance} {i j : Instance} (hpi : i.params.isEmpty = false)
    (hpj : j.params.isEmpty = true) (hs : j.sym < 4000) : internCode known i ≠ internCode known j := by
  unfold internCode
  rw [hpi, hpj]
  simp only [Bool.false_eq_true, if_false, if_true]
  have key : ∀ a b x : Nat, b < 4000 → a % 4000 + 4000 * (1 + x) ≠ b := by
    intro a b x h; omega
  exact key _ _ _ hs

end ForML.Flow
