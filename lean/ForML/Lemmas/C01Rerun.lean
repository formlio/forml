/-
C01 — re-execution: compiling reads only the persistent *list* of the accessor, never its generation; hence every
execution of a compiled table is the execution of a fresh compilation against the store of that moment.
-/
import ForML.Model.Rerun
import ForML.Lemmas.C01Compile

namespace ForML.Flow
open Segment

/-- same persistent list (or no accessor on both sides) -/
def SameP : Option Assets → Option Assets → Prop
  | none, none => True
  | some a, some b => a.persistent = b.persistent
  | _, _ => False

theorem sameP_iff {A B : Option Assets} : SameP A B ↔ A.map (·.persistent) = B.map (·.persistent) := by
  cases A <;> cases B <;> simp [SameP]

theorem SameP.refl (A : Option Assets) : SameP A A := sameP_iff.mpr rfl

theorem SameP.trans {A B C : Option Assets} (h1 : SameP A B) (h2 : SameP B C) : SameP A C :=
  sameP_iff.mpr ((sameP_iff.mp h1).trans (sameP_iff.mp h2))

theorem SameP.elim {motive : Option Assets → Option Assets → Prop} {A B : Option Assets} (h : SameP A B)
    (hn : motive none none) (hs : ∀ P p p', motive (some ⟨P, p⟩) (some ⟨P, p'⟩)) : motive A B := by
  match A, B, h with
  | none, none, _ => exact hn
  | some ⟨P, p⟩, some ⟨P', p'⟩, h =>
    simp only [SameP] at h
    subst h
    exact hs P p p'

theorem sameP_storeAfter (A : Option Assets) (m : Memo) : SameP A (storeAfter A m) := by
  unfold storeAfter
  split
  · simp [SameP]
  · exact SameP.refl _

theorem sameP_storeSeq (A : Option Assets) (t : Table) : ∀ j, SameP A (storeSeq A t j)
  | 0 => SameP.refl _
  | j + 1 => (sameP_storeSeq A t j).trans (sameP_storeAfter _ _)

theorem sameP_commitExternal (As : Assets) (vs : List Val) : SameP (some As) (some (commitExternal As vs)) := by
  unfold commitExternal
  split <;> simp [SameP]

/-- a commit with more or fewer states than persistent groups is refused: the store is unchanged -/
theorem commitExternal_refused (As : Assets) (vs : List Val) (h : vs.length ≠ As.persistent.length) :
    commitExternal As vs = As := by
  simp [commitExternal, Assets.commit, h]

/-- a commit with one state per persistent group replaces the previous generation -/
theorem commitExternal_accepted (As : Assets) (vs : List Val) (h : vs.length = As.persistent.length) :
    commitExternal As vs = { As with prev := vs.map undump } := by
  simp [commitExternal, Assets.commit, h]

/-- `Table.add` consults `assets.__contains__` and `assets.offset` only -/
theorem add_congr (g : Segment) {A B : Option Assets} (h : SameP A B) : add g A = add g B :=
  h.elim (motive := fun A B => add g A = add g B) rfl (fun _ _ _ => rfl)

theorem compile_congr (g : Segment) {A B : Option Assets} (h : SameP A B) (order : List Uid) :
    compile g A order = compile g B order := by
  unfold compile addAll
  rw [add_congr g h]

theorem assetsOK_congr (g : Segment) {A B : Option Assets} (h : SameP A B) : g.assetsOK A = g.assetsOK B :=
  h.elim (motive := fun A B => g.assetsOK A = g.assetsOK B) rfl (fun _ _ _ => rfl)

theorem linked_congr (g : Segment) {A B : Option Assets} (h : SameP A B) : g.linked A = g.linked B :=
  h.elim (motive := fun A B => g.linked A = g.linked B) rfl (fun _ _ _ => rfl)

end ForML.Flow
