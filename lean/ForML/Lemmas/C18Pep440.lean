/-
C18: the normalised text of a version (`Version.__str__`, `Keys.vstr`) is read back by the PEP 440 text
parser (`Keys.vparse`) as the same version — `Release.Key(str(k)) == k`.

The text is cut into the parts the groups of the pattern read; each group reads its own part and leaves the rest, given
what the rest may begin with (`noDigitHead`, `relStop`, `Tail`).
-/
import ForML.Model.KeysValue
import ForML.Lemmas.C18GenKey

namespace ForML.Keys

def epochPart (e : Nat) : List Nat := if e ≠ 0 then natStr e ++ [33] else []

/-- `.t` for every further component -/
def dotted : List (List Nat) → List Nat
  | [] => []
  | t :: r => 46 :: (t ++ dotted r)

def prePart : Option (Nat × Nat) → List Nat
  | some (k, n) => preLetter k ++ natStr n
  | none => []

def postPart : Option Nat → List Nat
  | some n => [46, 112, 111, 115, 116] ++ natStr n
  | none => []

def devPart : Option Nat → List Nat
  | some n => [46, 100, 101, 118] ++ natStr n
  | none => []

def segText : Seg → List Nat
  | .num n => natStr n
  | .str t => t

def locPart : Option (List Seg) → List Nat
  | some [] => [43]
  | some (s :: r) => 43 :: (segText s ++ dotted (r.map segText))
  | none => []

theorem joinWith_dotted (t : List Nat) (ts : List (List Nat)) : joinWith [46] (t :: ts) = t ++ dotted ts := by
  induction ts generalizing t with
  | nil => simp [joinWith, dotted]
  | cons u ts ih => simp [joinWith, ih u, dotted]

theorem segText_fun : (fun x : Seg => match x with | .num n => natStr n | .str t => t) = segText := by
  funext x; cases x <;> rfl

/-- each part is split off from the right, the version without it being the same text up to there (by unfolding, so no
`match` of `vstr` is ever written out) -/
theorem vstr_parts (e : Nat) (r0 : Nat) (rs : List Nat) (pre : Option (Nat × Nat)) (post dev : Option Nat) (loc : Option (List Seg)) :
    vstr ⟨e, r0 :: rs, pre, post, dev, loc⟩ =
      epochPart e ++ (natStr r0 ++ (dotted (rs.map natStr) ++ (prePart pre ++ (postPart post ++ (devPart dev ++ locPart loc))))) := by
  have hloc : vstr ⟨e, r0 :: rs, pre, post, dev, loc⟩ = vstr ⟨e, r0 :: rs, pre, post, dev, none⟩ ++ locPart loc := by
    cases loc with
    | none => exact (List.append_nil _).symm
    | some segs =>
      show vstr ⟨e, r0 :: rs, pre, post, dev, none⟩ ++ [43] ++ joinWith [46] (segs.map segText) = _
      cases segs with
      | nil => exact List.append_nil _
      | cons s r => rw [List.map_cons, joinWith_dotted, List.append_assoc]; rfl
  have hdev : vstr ⟨e, r0 :: rs, pre, post, dev, none⟩ = vstr ⟨e, r0 :: rs, pre, post, none, none⟩ ++ devPart dev := by
    cases dev with
    | none => exact (List.append_nil _).symm
    | some n => exact List.append_assoc _ _ _
  have hpost : vstr ⟨e, r0 :: rs, pre, post, none, none⟩ = vstr ⟨e, r0 :: rs, pre, none, none, none⟩ ++ postPart post := by
    cases post with
    | none => exact (List.append_nil _).symm
    | some n => exact List.append_assoc _ _ _
  have hpre : vstr ⟨e, r0 :: rs, pre, none, none, none⟩ = vstr ⟨e, r0 :: rs, none, none, none, none⟩ ++ prePart pre := by
    cases pre with
    | none => exact (List.append_nil _).symm
    | some kn => exact List.append_assoc _ _ _
  have hrel : vstr ⟨e, r0 :: rs, none, none, none, none⟩ = epochPart e ++ (natStr r0 ++ dotted (rs.map natStr)) := by
    simp only [vstr, epochPart, List.map_cons, joinWith_dotted]
    split <;> simp
  rw [hloc, hdev, hpost, hpre, hrel]
  simp only [List.append_assoc]

/-- the text does not go on with a digit -/
def noDigitHead (t : List Nat) : Prop := ∀ c, t.head? = some c → isDigit c = false

theorem spanDigits_append (ds rest : List Nat) (hd : ∀ c ∈ ds, isDigit c = true) (hr : noDigitHead rest) :
    spanDigits (ds ++ rest) = (ds, rest) := by
  induction ds with
  | nil =>
    cases rest with
    | nil => rfl
    | cons c r => simp [spanDigits, hr c rfl]
  | cons a ds ih =>
    have ha := hd a (by simp)
    have := ih (fun c hc => hd c (by simp [hc]))
    simp [spanDigits, ha, this]

theorem digitsNat_eq_valOf (ds : List Nat) : digitsNat ds = valOf 0 ds := rfl

theorem digitsNat_natStr (n : Nat) : digitsNat (natStr n) = n := (digitsNat_eq_valOf _).trans (natStr_spec n).2.2

theorem natStr_cons (n : Nat) : ∃ d ds, natStr n = d :: ds ∧ isDigit d = true ∧ (∀ c ∈ ds, isDigit c = true) ∧ valOf (d - 48) ds = n := by
  obtain ⟨h1, h2, h3⟩ := natStr_spec n
  cases hn : natStr n with
  | nil => exact absurd hn h1
  | cons d ds =>
    rw [hn] at h2 h3
    refine ⟨d, ds, rfl, h2 d (by simp), fun c hc => h2 c (by simp [hc]), ?_⟩
    simpa [valOf] using h3

theorem optNum_natStr (n : Nat) (rest : List Nat) (hr : noDigitHead rest) : optNum (natStr n ++ rest) = (some n, rest) := by
  obtain ⟨h1, h2, _⟩ := natStr_spec n
  unfold optNum
  rw [spanDigits_append _ _ h2 hr]
  cases hn : natStr n with
  | nil => exact absurd hn h1
  | cons d ds => simp only; rw [← hn, digitsNat_natStr]

theorem optNum_none (rest : List Nat) (hr : noDigitHead rest) : optNum rest = (none, rest) := by
  unfold optNum
  rw [show spanDigits rest = ([], rest) from spanDigits_append [] rest (by simp) hr]

theorem optSep_natStr (n : Nat) (rest : List Nat) : optSep (natStr n ++ rest) = natStr n ++ rest := by
  obtain ⟨d, ds, hn, hd, _, _⟩ := natStr_cons n
  have : isSep d = false := by
    rw [isDigit_iff] at hd
    simp only [isSep, Bool.or_eq_false_iff, beq_eq_false_iff_ne]
    omega
  rw [hn]
  simp [optSep, this]

/-- where `[0-9]+(\.[0-9]+)*` stops: not before a digit, not before a dot and a digit -/
def relStop : List Nat → Prop
  | [] => True
  | [c] => isDigit c = false
  | c :: d :: _ => isDigit c = false ∧ (c = 46 → isDigit d = false)

theorem relStop_cons (c : Nat) (r : List Nat) (h1 : isDigit c = false) (h2 : c ≠ 46) : relStop (c :: r) := by
  cases r with
  | nil => exact h1
  | cons d r => exact ⟨h1, fun e => absurd e h2⟩

theorem relStop.noDigit {t : List Nat} (h : relStop t) : noDigitHead t := by
  intro c hc
  match t, h, hc with
  | [_], h, rfl => exact h
  | _ :: _ :: _, h, rfl => exact h.1

theorem relGo_digits (ds rest : List Nat) (hd : ∀ c ∈ ds, isDigit c = true) :
    ∀ cur acc, relGo cur acc (ds ++ rest) = relGo (valOf cur ds) acc rest := by
  induction ds with
  | nil => intro _ _; rfl
  | cons a ds ih =>
    intro cur acc
    have ha := hd a (by simp)
    have e : relGo cur acc (a :: (ds ++ rest)) = relGo (cur * 10 + (a - 48)) acc (ds ++ rest) := by
      cases ds ++ rest <;> simp [relGo, ha]
    rw [List.cons_append, e, ih (fun c hc => hd c (by simp [hc]))]
    rfl

theorem relGo_stop (cur : Nat) (acc rest : List Nat) (h : relStop rest) : relGo cur acc rest = ((cur :: acc).reverse, rest) := by
  match rest, h with
  | [], _ => rfl
  | [c], h => by_cases hc : (c == 46) = true <;> simp [relGo, show isDigit c = false from h, hc]
  | c :: d :: r, h =>
    by_cases hc : c = 46
    · have hd := h.2 hc
      subst hc
      simp [relGo, hd, show isDigit 46 = false by decide]
    · have : (c == 46) = false := by simpa using hc
      simp [relGo, h.1, this]

theorem relGo_dotted (rs : List Nat) (rest : List Nat) (h : relStop rest) :
    ∀ cur acc, relGo cur acc (dotted (rs.map natStr) ++ rest) = (acc.reverse ++ cur :: rs, rest) := by
  induction rs with
  | nil =>
    intro cur acc
    rw [List.map_nil, dotted, List.nil_append, relGo_stop cur acc rest h, List.reverse_cons]
  | cons n rs ih =>
    intro cur acc
    obtain ⟨d, ds, hn, hd, hds, hv⟩ := natStr_cons n
    have e1 : dotted ((n :: rs).map natStr) ++ rest = 46 :: d :: (ds ++ (dotted (rs.map natStr) ++ rest)) := by
      simp [dotted, hn]
    have e2 : relGo cur acc (46 :: d :: (ds ++ (dotted (rs.map natStr) ++ rest))) =
        relGo (d - 48) (cur :: acc) (ds ++ (dotted (rs.map natStr) ++ rest)) := by
      simp [relGo, hd, show isDigit 46 = false by decide]
    rw [e1, e2, relGo_digits ds _ hds, hv, ih]
    simp

theorem release?_part (r0 : Nat) (rs : List Nat) (rest : List Nat) (h : relStop rest) :
    release? (natStr r0 ++ (dotted (rs.map natStr) ++ rest)) = some (r0 :: rs, rest) := by
  obtain ⟨d, ds, hn, hd, hds, hv⟩ := natStr_cons r0
  rw [hn]
  simp only [List.cons_append, release?, hd, if_true]
  rw [relGo_digits ds _ hds, hv, relGo_dotted rs rest h]
  rfl

theorem lower_of_not_upper (c : Nat) (h : ¬ (65 ≤ c ∧ c ≤ 90)) : lower c = c := by
  simp [lower, h]

theorem lower_digit (c : Nat) (h : isDigit c = true) : lower c = c :=
  lower_of_not_upper c (by rw [isDigit_iff] at h; omega)

theorem lit?_digit (w : Nat) (ws : List Nat) (d : Nat) (t : List Nat) (hd : isDigit d = true) (hw : isDigit w = false) :
    lit? (w :: ws) (d :: t) = none := by
  have : (d == w) = false := by
    rw [beq_eq_false_iff_ne]
    intro e
    rw [e, hw] at hd
    cases hd
  rw [lit?, lower_digit d hd, this]
  rfl

theorem lit?_ne (w : Nat) (ws : List Nat) (c : Nat) (t : List Nat) (h : (lower c == w) = false) :
    lit? (w :: ws) (c :: t) = none := by simp [lit?, h]

theorem lit?_eq (w : Nat) (ws : List Nat) (c : Nat) (t : List Nat) (h : (lower c == w) = true) :
    lit? (w :: ws) (c :: t) = lit? ws t := by simp [lit?, h]

theorem firstLit_none (w : List Nat) (k : Nat) (r : List (List Nat × Nat)) (t : List Nat) (h : lit? w t = none) :
    firstLit ((w, k) :: r) t = firstLit r t := by simp [firstLit, h]

theorem firstLit_some (w : List Nat) (k : Nat) (r : List (List Nat × Nat)) (t rest : List Nat) (h : lit? w t = some rest) :
    firstLit ((w, k) :: r) t = some (k, rest) := by simp [firstLit, h]

/-- after `a` / `b` the longer words `alpha` / `beta` are tried first and fail at the digit -/
theorem firstLit_pre (k n : Nat) (hk : k ≤ 2) (rest : List Nat) :
    firstLit preTable (preLetter k ++ (natStr n ++ rest)) = some (k, natStr n ++ rest) := by
  obtain ⟨d, ds, hn, hd, _, _⟩ := natStr_cons n
  rw [hn]
  match k, hk with
  | 0, _ =>
    show firstLit preTable (97 :: d :: (ds ++ rest)) = _
    unfold preTable
    rw [firstLit_none _ _ _ _ (by rw [lit?_eq _ _ _ _ (by decide), lit?_digit _ _ _ _ hd rfl])]
    exact firstLit_some _ _ _ _ _ rfl
  | 1, _ =>
    show firstLit preTable (98 :: d :: (ds ++ rest)) = _
    unfold preTable
    rw [firstLit_none _ _ _ _ (lit?_ne _ _ _ _ (by decide)), firstLit_none _ _ _ _ (lit?_ne _ _ _ _ (by decide)),
      firstLit_none _ _ _ _ (by rw [lit?_eq _ _ _ _ (by decide), lit?_digit _ _ _ _ hd rfl])]
    exact firstLit_some _ _ _ _ _ rfl
  | 2, _ => rfl

/-- what follows the pre-release part of `vstr` (the release itself when there is no pre-release): `.post…`, `.dev…`,
`+…` or the end -/
inductive Tail : List Nat → Prop
  | nil : Tail []
  | plus (r : List Nat) : Tail (43 :: r)
  | post (r : List Nat) : Tail (46 :: 112 :: 111 :: 115 :: 116 :: r)
  | dev (r : List Nat) : Tail (46 :: 100 :: 101 :: 118 :: r)

theorem letterNum_hit (table : List (List Nat × Nat)) (t : List Nat) (k n : Nat) (rest : List Nat)
    (h : firstLit table (optSep t) = some (k, natStr n ++ rest)) (hr : noDigitHead rest) :
    letterNum table t = (some (k, n), rest) := by
  unfold letterNum
  rw [h]
  simp only
  rw [optSep_natStr, optNum_natStr n rest hr]
  rfl

theorem Tail.relStop {t : List Nat} (h : Tail t) : relStop t := by
  cases h with
  | nil => trivial
  | plus r => exact relStop_cons _ _ rfl (by decide)
  | post r => exact ⟨rfl, fun _ => rfl⟩
  | dev r => exact ⟨rfl, fun _ => rfl⟩

theorem tail_post_dev_loc (post dev : Option Nat) (loc : Option (List Seg)) : Tail (postPart post ++ (devPart dev ++ locPart loc)) := by
  cases post with
  | some n => exact Tail.post _
  | none =>
    cases dev with
    | some n => exact Tail.dev _
    | none =>
      cases loc with
      | none => exact Tail.nil
      | some segs => cases segs <;> exact Tail.plus _

theorem pre?_part (pre : Option (Nat × Nat)) (hk : ∀ k n, pre = some (k, n) → k ≤ 2) (t : List Nat) (ht : Tail t) :
    pre? (prePart pre ++ t) = (pre, t) := by
  cases pre with
  | none => cases ht <;> rfl
  | some kn =>
    obtain ⟨k, n⟩ := kn
    have hk2 := hk k n rfl
    have hs : optSep (preLetter k ++ (natStr n ++ t)) = preLetter k ++ (natStr n ++ t) := by
      match k, hk2 with
      | 0, _ => rfl
      | 1, _ => rfl
      | 2, _ => rfl
    simp only [prePart, pre?, List.append_assoc]
    exact letterNum_hit _ _ k n t (by rw [hs]; exact firstLit_pre k n hk2 t) ht.relStop.noDigit

/- When a group is absent the parser meets the next part that is there, or the end: each of these texts begins with
a few known characters, on which the group's words fail by evaluation. -/

theorem post?_part (post dev : Option Nat) (loc : Option (List Seg)) :
    post? (postPart post ++ (devPart dev ++ locPart loc)) = (post, devPart dev ++ locPart loc) := by
  cases post with
  | some n =>
    show postL (46 :: 112 :: 111 :: 115 :: 116 :: (natStr n ++ (devPart dev ++ locPart loc))) = _
    unfold postL
    rw [letterNum_hit postTable _ 0 n _ rfl (tail_post_dev_loc none dev loc).relStop.noDigit]
    rfl
  | none =>
    cases dev with
    | some m => rfl
    | none =>
      cases loc with
      | none => rfl
      | some segs => cases segs <;> rfl

theorem dev?_part (dev : Option Nat) (loc : Option (List Seg)) : dev? (devPart dev ++ locPart loc) = (dev, locPart loc) := by
  cases dev with
  | some n =>
    show dev? (46 :: 100 :: 101 :: 118 :: (natStr n ++ locPart loc)) = _
    unfold dev?
    rw [letterNum_hit devTable _ 0 n _ rfl (tail_post_dev_loc none none loc).relStop.noDigit]
    rfl
  | none =>
    cases loc with
    | none => rfl
    | some segs => cases segs <;> rfl

theorem locGo_alnum (t rest : List Nat) (ht : ∀ c ∈ t, isAlnum c = true) :
    ∀ cur acc, locGo cur acc (t ++ rest) = locGo (t.reverse ++ cur) acc rest := by
  induction t with
  | nil => intro _ _; rfl
  | cons a t ih =>
    intro cur acc
    have ha := ht a (by simp)
    have e1 : locGo cur acc (a :: (t ++ rest)) = locGo (a :: cur) acc (t ++ rest) := by
      cases h : t ++ rest <;> simp [locGo, ha]
    rw [List.cons_append, e1, ih (fun c hc => ht c (by simp [hc]))]
    simp

theorem digit_alnum (c : Nat) (h : isDigit c = true) : isAlnum c = true := by simp [isAlnum, h]

theorem segText_wf (s : Seg) (h : wfSeg s = true) :
    (∃ a as, segText s = a :: as) ∧ (∀ c ∈ segText s, isAlnum c = true) ∧ segOf (segText s) = s := by
  cases s with
  | num n =>
    obtain ⟨d, ds, hn, _⟩ := natStr_cons n
    obtain ⟨_, h2, _⟩ := natStr_spec n
    refine ⟨⟨d, ds, hn⟩, fun c hc => digit_alnum c (h2 c hc), ?_⟩
    have : (natStr n).all isDigit = true := List.all_eq_true.mpr h2
    simp only [segText, segOf, this, if_true]
    rw [digitsNat_natStr]
  | str t =>
    simp only [wfSeg, Bool.and_eq_true, Bool.not_eq_true', List.all_eq_true, Bool.or_eq_true, decide_eq_true_eq] at h
    obtain ⟨⟨h1, h2⟩, h3⟩ := h
    refine ⟨?_, ?_, ?_⟩
    · cases t with
      | nil => simp at h1
      | cons a as => exact ⟨a, as, rfl⟩
    · intro c hc
      rcases h2 c hc with hd | hl
      · exact digit_alnum c hd
      · simp [isAlnum, hl]
    · have hlow : t.map lower = t := by
        refine (List.map_congr_left fun c hc => ?_).trans (List.map_id t)
        rcases h2 c hc with hd | hl
        · exact lower_digit c hd
        · exact lower_of_not_upper c (by omega)
      simp only [segText, segOf, h3, Bool.false_eq_true, if_false, hlow]

/-- the loop has read the first character `a` of part `s`: it reads the rest of `s` and every further `.part` -/
theorem locGo_segs (r : List Seg) (hr : ∀ s ∈ r, wfSeg s = true) :
    ∀ (s : Seg) (a : Nat) (as : List Nat) (acc : List Seg), wfSeg s = true → segText s = a :: as →
      locGo [a] acc (as ++ dotted (r.map segText)) = ((s :: acc).reverse ++ r, []) := by
  induction r with
  | nil =>
    intro s a as acc hs ht
    obtain ⟨_, hal, hseg⟩ := segText_wf s hs
    rw [ht] at hal hseg
    rw [locGo_alnum as _ (fun c hc => hal c (by simp [hc]))]
    simp [dotted, locGo, hseg]
  | cons s' r ih =>
    intro s a as acc hs ht
    obtain ⟨_, hal, hseg⟩ := segText_wf s hs
    rw [ht] at hal hseg
    obtain ⟨⟨a', as', ht'⟩, hal', _⟩ := segText_wf s' (hr s' (by simp))
    have ha' : isAlnum a' = true := hal' a' (by simp [ht'])
    have e1 : dotted ((s' :: r).map segText) = 46 :: a' :: (as' ++ dotted (r.map segText)) := by simp [dotted, ht']
    rw [locGo_alnum as _ (fun c hc => hal c (by simp [hc])), e1]
    -- the separator closes part `s`
    have e2 : ∀ cur rest, locGo cur acc (46 :: a' :: rest) = locGo [a'] (segOf cur.reverse :: acc) rest := by
      intro cur rest
      simp [locGo, ha', show isAlnum 46 = false by decide, show isSep 46 = true by decide]
    rw [e2, ih (fun x hx => hr x (by simp [hx])) s' a' as' _ (hr s' (by simp)) ht']
    simp [hseg]

theorem local?_part (loc : Option (List Seg)) (h : ∀ segs, loc = some segs → segs ≠ [] ∧ ∀ s ∈ segs, wfSeg s = true) :
    local? (locPart loc) = (loc, []) := by
  cases loc with
  | none => rfl
  | some segs =>
    obtain ⟨hne, hwf⟩ := h segs rfl
    cases segs with
    | nil => exact absurd rfl hne
    | cons s r =>
      obtain ⟨⟨a, as, hs⟩, hal, _⟩ := segText_wf s (hwf s (by simp))
      have ha : isAlnum a = true := hal a (by simp [hs])
      have e := locGo_segs r (fun x hx => hwf x (by simp [hx])) s a as [] (hwf s (by simp)) hs
      simp only [locPart, hs, List.cons_append, local?, beq_self_eq_true, ha, Bool.and_self, if_true, e]
      rfl

theorem optV_dropSpace_part (e n : Nat) (t : List Nat) :
    optV (dropSpace (epochPart e ++ (natStr n ++ t))) = epochPart e ++ (natStr n ++ t) := by
  have : ∃ d r, epochPart e ++ (natStr n ++ t) = d :: r ∧ isDigit d = true := by
    unfold epochPart
    split
    · obtain ⟨d, ds, hn, hd, _⟩ := natStr_cons e
      exact ⟨d, _, by rw [hn]; rfl, hd⟩
    · obtain ⟨d, ds, hn, hd, _⟩ := natStr_cons n
      exact ⟨d, _, by rw [hn]; rfl, hd⟩
  obtain ⟨d, r, h, hd⟩ := this
  have hl := lower_digit d hd
  rw [isDigit_iff] at hd
  have h1 : isSpaceU d = false := by
    simp only [isSpaceU, isSpace, Bool.or_eq_false_iff, Bool.and_eq_false_iff, beq_eq_false_iff_ne, decide_eq_false_iff_not]
    omega
  have h2 : (lower d == 118) = false := by
    rw [hl, beq_eq_false_iff_ne]; omega
  simp [h, dropSpace, optV, h1, h2]

/-- what follows the first number of the text when it is the first release component: it is not read as an epoch, and
the release stops before the pre-release letter -/
theorem after_first (rs : List Nat) (pre : Option (Nat × Nat)) (t : List Nat) (ht : Tail t) :
    noDigitHead (dotted (rs.map natStr) ++ (prePart pre ++ t)) ∧
    (∀ c, (dotted (rs.map natStr) ++ (prePart pre ++ t)).head? = some c → (c == 33) = false) ∧
    relStop (prePart pre ++ t) := by
  have hpre : relStop (prePart pre ++ t) ∧ ∀ c, (prePart pre ++ t).head? = some c → (c == 33) = false := by
    cases pre with
    | none => exact ⟨ht.relStop, fun c hc => by cases ht <;> cases hc <;> rfl⟩
    | some kn =>
      -- the text begins with the letter `a`, `b` or `r`
      have letter : ∀ (c : Nat) (r : List Nat), isDigit c = false → c ≠ 46 → (c == 33) = false →
          relStop (c :: r) ∧ ∀ c', (c :: r).head? = some c' → (c' == 33) = false :=
        fun c r h1 h2 h3 => ⟨relStop_cons c r h1 h2, fun c' hc => by cases hc; exact h3⟩
      match kn with
      | (0, n) => exact letter 97 _ rfl (by decide) rfl
      | (1, n) => exact letter 98 _ rfl (by decide) rfl
      | (_ + 2, n) => exact letter 114 _ rfl (by decide) rfl
  cases rs with
  | nil => exact ⟨hpre.1.noDigit, hpre.2, hpre.1⟩
  | cons m rs => exact ⟨fun c hc => by cases hc; rfl, fun c hc => by cases hc; rfl, hpre.1⟩

theorem epoch?_part (e n : Nat) (rest : List Nat) (h1 : noDigitHead rest) (h2 : ∀ c, rest.head? = some c → (c == 33) = false) :
    epoch? (epochPart e ++ (natStr n ++ rest)) = (e, natStr n ++ rest) := by
  unfold epochPart
  split
  · obtain ⟨d, ds, hn, _⟩ := natStr_cons e
    obtain ⟨_, hd, _⟩ := natStr_spec e
    rw [List.append_assoc]
    unfold epoch?
    rw [List.singleton_append, spanDigits_append _ _ hd (fun c hc => by cases hc; rfl)]
    simp only
    rw [hn]
    simp only [beq_self_eq_true, if_true]
    rw [← hn, digitsNat_natStr]
  · rename_i he
    obtain ⟨_, hd, _⟩ := natStr_spec n
    obtain ⟨d, ds, hn, _⟩ := natStr_cons n
    rw [Decidable.not_not.mp he, List.nil_append]
    unfold epoch?
    rw [spanDigits_append _ _ hd h1]
    simp only
    rw [hn]
    cases rest with
    | nil => rfl
    | cons c r => simp [h2 c rfl]

theorem vparse_stages {s t0 t1 t2 t3 t4 t5 rel : List Nat} {e : Nat} {pre : Option (Nat × Nat)} {post dev : Option Nat}
    {loc : Option (List Seg)} (h0 : epoch? (optV (dropSpace s)) = (e, t0)) (h1 : release? t0 = some (rel, t1))
    (h2 : pre? t1 = (pre, t2)) (h3 : post? t2 = (post, t3)) (h4 : dev? t3 = (dev, t4)) (h5 : local? t4 = (loc, t5))
    (h6 : t5.all isSpaceU = true) : vparse s = some ⟨e, rel, pre, post, dev, loc⟩ := by
  simp only [vparse, h0, h1, h2, h3, h4, h5, h6, if_true]

/-- **`Release.Key(str(v)) == v`**: the normalised text of every well-formed version parses back to the same fields -/
theorem vparse_vstr (v : Version) (h : wfVersion v = true) : vparse (vstr v) = some v := by
  obtain ⟨e, rel, pre, post, dev, loc⟩ := v
  simp only [wfVersion, Bool.and_eq_true, Bool.not_eq_true'] at h
  obtain ⟨⟨hrel, hpre⟩, hloc⟩ := h
  cases rel with
  | nil => simp at hrel
  | cons r0 rs =>
    have hk : ∀ k n, pre = some (k, n) → k ≤ 2 := by
      intro k n e; subst e; simpa using hpre
    have hl : ∀ segs, loc = some segs → segs ≠ [] ∧ ∀ s ∈ segs, wfSeg s = true := by
      intro segs e; subst e
      simp only [Bool.and_eq_true, Bool.not_eq_true', List.all_eq_true] at hloc
      exact ⟨by intro e; subst e; simp at hloc, hloc.2⟩
    have t1 := tail_post_dev_loc post dev loc
    obtain ⟨a1, a2, a3⟩ := after_first rs pre _ t1
    rw [vstr_parts]
    refine vparse_stages ?_ (release?_part r0 rs _ a3) (pre?_part pre hk _ t1) (post?_part post dev loc)
      (dev?_part dev loc) (local?_part loc hl) rfl
    rw [optV_dropSpace_part]
    exact epoch?_part e r0 _ a1 a2

end ForML.Keys
