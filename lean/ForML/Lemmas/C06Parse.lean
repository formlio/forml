/-
C06 — the stack machine (`visitF`, `visitSource`, `parse`) computes the plain translation `compile` on well-formed
statements and keeps the stack discipline: every visit pushes exactly one symbol onto the current context, leaves
the suspended contexts alone and registers exactly the visited origins.
-/
import ForML.Lemmas.C06Denote
import ForML.Lemmas.ListFacts

namespace ForML.C06
open ForML.Dsl ForML.Rel ForML.Parser ForML.Denote

/-- the origins in `scope` are registered in the context with the handle `compile` uses for them -/
def Registered (srcs : Sources) (origs : List (Source × String)) (scope : List Source) : Prop :=
  ∀ o ∈ scope, origs.lookup o = qual srcs o

theorem push_ok (x : Sym) (syms : List Sym) (origs : List (Source × String)) (stk : List (Option Ctx)) :
    push x ⟨some ⟨syms, origs⟩, stk⟩ = .ok ⟨some ⟨x :: syms, origs⟩, stk⟩ := rfl

theorem popFeat_ok (e : SqlExpr) (syms : List Sym) (origs : List (Source × String)) (stk : List (Option Ctx)) :
    popFeat ⟨some ⟨.feat e :: syms, origs⟩, stk⟩ = .ok (e, ⟨some ⟨syms, origs⟩, stk⟩) := rfl

theorem popSrc_ok (q : SqlSel) (syms : List Sym) (origs : List (Source × String)) (stk : List (Option Ctx)) :
    popSrc ⟨some ⟨.src q :: syms, origs⟩, stk⟩ = .ok (q, ⟨some ⟨syms, origs⟩, stk⟩) := rfl

theorem setOrigin_ok (o : Source) (h : String) (syms : List Sym) (origs : List (Source × String))
    (stk : List (Option Ctx)) :
    setOrigin o h ⟨some ⟨syms, origs⟩, stk⟩ = .ok ⟨some ⟨syms, (o, h) :: origs⟩, stk⟩ := rfl

/-- a feed provisions tables only, so no join, set or query is mapped: their `bypass(resolve_source)` is inert -/
theorem lookup_nontable (srcs : Sources) (hT : OnlyTables srcs = true) (s : Source) (hs : isTable s = false) :
    srcs.lookup s = none :=
  List.lookup_eq_none_iff.mpr fun p hp => bne_iff_ne.mpr fun h => by
    have := List.all_eq_true.mp hT p hp
    rw [← h, hs] at this
    cases this

theorem bypass_none {srcs : Sources} {s : Source} (h : srcs.lookup s = none) (st : PState) :
    bypass srcs s st = .ok st := by
  simp only [bypass, h]

theorem visitF_spec (srcs : Sources) (scope : List Source) (origs : List (Source × String))
    (hreg : Registered srcs origs scope) :
    ∀ (f : Feature) (e : SqlExpr), supportedF scope f = true → compileF srcs f = some e →
      ∀ (syms : List Sym) (stk : List (Option Ctx)),
        visitF f ⟨some ⟨syms, origs⟩, stk⟩ = .ok ⟨some ⟨.feat e :: syms, origs⟩, stk⟩ := by
  refine compileF_induction (P := fun f e => ∀ (syms : List Sym) (stk : List (Option Ctx)),
    visitF f ⟨some ⟨syms, origs⟩, stk⟩ = .ok ⟨some ⟨.feat e :: syms, origs⟩, stk⟩) ?_ ?_ ?_ ?_ ?_
  · intro v syms stk
    simp [visitF, push_ok]
  · intro o n q ho hq syms stk
    have hl := hreg o ho
    rw [hq] at hl
    simp [visitF, getOrigin, hl, push_ok, bind, Except.bind]
  · intro f n e ih syms stk
    simp [visitF, ih syms stk, popFeat_ok, push_ok, bind, Except.bind]
  · intro op sop f a hop hr ih syms stk
    simp [visitF, visitFs, ih syms stk, featuresLength, popFeats, popFeat_ok, genExpression, hop, hr, push_ok, bind,
      Except.bind, pure, Except.pure]
  · intro op sop f1 f2 a b hop hr _ ih1 ih2 syms stk
    simp [visitF, visitFs, ih1 syms stk, ih2 (.feat a :: syms) stk, featuresLength, popFeats, popFeat_ok,
      genExpression, hop, hr, push_ok, bind, Except.bind, pure, Except.pure]

theorem genFeature_spec (srcs : Sources) (scope : List Source) (origs : List (Source × String))
    (hreg : Registered srcs origs scope) (f : Feature) (e : SqlExpr) (hs : supportedF scope f = true)
    (hc : compileF srcs f = some e) (syms : List Sym) (stk : List (Option Ctx)) :
    genFeature f ⟨some ⟨syms, origs⟩, stk⟩ = .ok (e, ⟨some ⟨syms, origs⟩, stk⟩) := by
  simp [genFeature, visitF_spec srcs scope origs hreg f e hs hc syms stk, popFeat_ok, bind, Except.bind]

theorem genFeatures_spec (srcs : Sources) (scope : List Source) (origs : List (Source × String))
    (hreg : Registered srcs origs scope) :
    ∀ (fs : Features) (es : List SqlExpr), supportedFs scope fs = true → compileFs srcs fs = some es →
      ∀ (syms : List Sym) (stk : List (Option Ctx)),
        genFeatures fs ⟨some ⟨syms, origs⟩, stk⟩ = .ok (es, ⟨some ⟨syms, origs⟩, stk⟩)
  | .nil, es, _, hc, syms, stk => by
    simp [compileFs] at hc; subst hc
    simp [genFeatures, pure, Except.pure]
  | .cons f fs, es, hs, hc, syms, stk => by
    simp only [supportedFs, Bool.and_eq_true] at hs
    simp only [compileFs_cons, Option.bind_eq_some_iff, Option.map_eq_some_iff] at hc
    obtain ⟨e, h1, rest, h2, rfl⟩ := hc
    simp [genFeatures, genFeature_spec srcs scope origs hreg f e hs.1 h1 syms stk,
      genFeatures_spec srcs scope origs hreg fs rest hs.2 h2 syms stk, bind, Except.bind, pure, Except.pure]

theorem genFeatureOpt_spec (srcs : Sources) (scope : List Source) (origs : List (Source × String))
    (hreg : Registered srcs origs scope) :
    ∀ (fo : FeatureOpt) (eo : Option SqlExpr), supportedFO scope fo = true → compileFO srcs fo = some eo →
      ∀ (syms : List Sym) (stk : List (Option Ctx)),
        genFeatureOpt fo ⟨some ⟨syms, origs⟩, stk⟩ = .ok (eo, ⟨some ⟨syms, origs⟩, stk⟩)
  | .none, eo, _, hc, syms, stk => by
    simp [compileFO] at hc; subst hc
    simp [genFeatureOpt, pure, Except.pure]
  | .some f, eo, hs, hc, syms, stk => by
    simp only [compileFO, Option.map_eq_some_iff] at hc
    obtain ⟨e, he, rfl⟩ := hc
    simp [genFeatureOpt, genFeature_spec srcs scope origs hreg f e (by simpa [supportedFO] using hs) he syms stk,
      bind, Except.bind, pure, Except.pure]

theorem genOrderings_spec (srcs : Sources) (scope : List Source) (origs : List (Source × String))
    (hreg : Registered srcs origs scope) :
    ∀ (os : Orderings) (eos : List (SqlExpr × SortDir)), supportedOrd scope os = true →
      compileOrd srcs os = some eos → ∀ (syms : List Sym) (stk : List (Option Ctx)),
        genOrderings os ⟨some ⟨syms, origs⟩, stk⟩ = .ok (eos, ⟨some ⟨syms, origs⟩, stk⟩)
  | .nil, eos, _, hc, syms, stk => by
    simp [compileOrd] at hc; subst hc
    simp [genOrderings, pure, Except.pure]
  | .cons (.mk f d) os, eos, hs, hc, syms, stk => by
    simp only [supportedOrd, Bool.and_eq_true] at hs
    simp only [compileOrd_cons srcs f d os, Option.bind_eq_some_iff, Option.map_eq_some_iff] at hc
    obtain ⟨e, h1, rest, h2, rfl⟩ := hc
    simp [genOrderings, genFeature_spec srcs scope origs hreg f e hs.1.1 h1 syms stk, orderOf_dirOf d,
      genOrderings_spec srcs scope origs hreg os rest hs.2 h2 syms stk, bind, Except.bind, pure, Except.pure]

theorem genElems_spec (srcs : Sources) (scope : List Source) (origs : List (Source × String))
    (hreg : Registered srcs origs scope) :
    ∀ (els : List (Source × String)) (es : List SqlExpr), (∀ e ∈ els, e.1 ∈ scope) →
      els.mapM (fun e => (qual srcs e.1).map (fun q => SqlExpr.col q e.2)) = some es →
      ∀ (syms : List Sym) (stk : List (Option Ctx)),
        genElems els ⟨some ⟨syms, origs⟩, stk⟩ = .ok (es, ⟨some ⟨syms, origs⟩, stk⟩)
  | [], es, _, hc, syms, stk => by
    simp at hc; subst hc
    simp [genElems, pure, Except.pure]
  | (o, n) :: rest, es, hin, hc, syms, stk => by
    simp only [mapM_cons_option, Option.bind_eq_some_iff, Option.map_eq_some_iff] at hc
    obtain ⟨e, ⟨q, hq, rfl⟩, es', hes', rfl⟩ := hc
    have hl := hreg o (hin (o, n) (List.mem_cons_self ..))
    rw [hq] at hl
    simp [genElems, getOrigin, hl,
      genElems_spec srcs scope origs hreg rest es' (fun e he => hin e (List.mem_cons_of_mem _ he)) hes' syms stk,
      bind, Except.bind, pure, Except.pure]

/-- what a visit adds to `Context.origins` (latest first): a table and a reference register themselves, a reference
also what its instance registers (a nested statement registers into its own context, i.e. nothing here) -/
def regOrigins (srcs : Sources) : Source → List (Source × String)
  | .table n fields => [(.table n fields, qualD srcs (.table n fields))]
  | .ref inst name => (.ref inst name, name) :: regOrigins srcs inst
  | .join l r _ _ => regOrigins srcs r ++ regOrigins srcs l
  | _ => []

theorem regOrigins_out (srcs : Sources) (s : Source) (hs : wfOut srcs s = true) : regOrigins srcs s = [] := by
  cases s <;> first | rfl | cases hs

/-- every registered handle is the name the origin is addressed by -/
theorem regOrigins_handle (srcs : Sources) : ∀ (s : Source), ∀ p ∈ regOrigins srcs s, p.2 = qualD srcs p.1
  | .table n fields, p, hp => by
    simp only [regOrigins, List.mem_singleton] at hp
    rw [hp]
  | .ref inst name, p, hp => by
    rcases List.mem_cons.mp hp with rfl | hp
    · rfl
    · exact regOrigins_handle srcs inst p hp
  | .join l r _ _, p, hp => by
    rcases List.mem_append.mp hp with h | h
    · exact regOrigins_handle srcs r p h
    · exact regOrigins_handle srcs l p h
  | .set _ _ _, _, hp => by cases hp
  | .query _ _ _ _ _ _ _, _, hp => by cases hp

/-- after the visit of `s`, an origin of `s` that has a name resolves to it — whatever was registered before (`rest`)
and whichever side of a join registered it last -/
theorem lookup_regOrigins (srcs : Sources) (o : Source) (ho : (qual srcs o).isSome = true) :
    ∀ (s : Source) (rest : List (Source × String)), o ∈ leaves s → (regOrigins srcs s ++ rest).lookup o = qual srcs o
  | .join l r _ _, rest, hm => by
    simp only [regOrigins, List.append_assoc]
    rcases List.mem_append.mp hm with h | h
    · rw [List.lookup_append]
      cases hr : (regOrigins srcs r).lookup o with
      | none => exact lookup_regOrigins srcs o ho l rest h
      | some v =>
        have hv : v = qualD srcs o := regOrigins_handle srcs r (o, v) (mem_of_lookup hr)
        obtain ⟨q, hq⟩ := Option.isSome_iff_exists.mp ho
        simp [hv, qualD, hq]
    · exact lookup_regOrigins srcs o ho r _ h
  | .table n fields, rest, hm => by
    obtain rfl := List.mem_singleton.mp hm
    obtain ⟨q, hq⟩ := Option.isSome_iff_exists.mp ho
    simp [regOrigins, qualD, hq]
  | .ref inst name, rest, hm => by
    obtain rfl := List.mem_singleton.mp hm
    simp [regOrigins, qual]
  | .set _ _ _, rest, hm => by
    obtain rfl := List.mem_singleton.mp hm
    cases ho
  | .query _ _ _ _ _ _ _, rest, hm => by
    obtain rfl := List.mem_singleton.mp hm
    cases ho

theorem registered_of_reg (srcs : Sources) (s : Source) (hwf : wfFrom srcs s = true) (ho : isOrigin s = true)
    (rest : List (Source × String)) : Registered srcs (regOrigins srcs s ++ rest) (leaves s) :=
  fun o hm => lookup_regOrigins srcs o (leaves_qual_some srcs s hwf ho o hm) s rest hm

/-- from any context the visit of `s` pushes `q` (below always `compile srcs s`) and registers `regOrigins srcs s`;
nothing else changes -/
def VisitOk (srcs : Sources) (s : Source) (q : SqlSel) : Prop :=
  ∀ (syms : List Sym) (origs : List (Source × String)) (stk : List (Option Ctx)),
    visitSource srcs s ⟨some ⟨syms, origs⟩, stk⟩ = .ok ⟨some ⟨.src q :: syms, regOrigins srcs s ++ origs⟩, stk⟩

theorem visit_ok (srcs : Sources) (hT : OnlyTables srcs = true) : ∀ s,
    (wfFrom srcs s = true → isOrigin s = true → ∀ q, compile srcs s = some q → VisitOk srcs s q) ∧
    (wfOut srcs s = true → ∀ q, compile srcs s = some q → VisitOk srcs s q) := by
  have ref : ∀ inst name, (∀ q, compile srcs inst = some q → VisitOk srcs inst q) →
      ∀ q, compile srcs (.ref inst name) = some q → VisitOk srcs (.ref inst name) q := by
    intro inst name ih q hq
    simp only [compile, Option.map_eq_some_iff] at hq
    obtain ⟨qi, hqi, rfl⟩ := hq
    intro syms origs stk
    rw [visitSource]
    simp [ih qi hqi syms origs stk, popSrc_ok, setOrigin_ok, push_ok, bind, Except.bind, regOrigins]
  refine wf_induction srcs ?_ (fun _ _ name _ _ ih => ref _ name ih) (fun inst name _ _ ih => ref inst name ih) ?_ ?_ ?_
  · intro n fields pn hpn q hq
    simp only [compile, hpn, Option.map_some, Option.some.injEq] at hq
    subst hq
    intro syms origs stk
    simp [visitSource, hpn, setOrigin_ok, push_ok, bind, Except.bind, regOrigins, qualD, qual]
  · intro l r k c hwf hvL hvR q hq
    obtain ⟨_, _, _, _, _, hkc⟩ := wfFrom_join hwf
    rw [compile_join] at hq
    simp only [Option.bind_eq_some_iff, Option.some.injEq] at hq
    obtain ⟨L, hL, R, hR, on, hon, o, ho, rfl⟩ := hq
    replace hvL := hvL L hL
    replace hvR := hvR R hR
    have hby : srcs.lookup (.join l r k c) = none := lookup_nontable srcs hT _ rfl
    intro syms origs stk
    rw [visitSource]
    cases c with
    | none =>
      cases hon
      simp [hvL syms origs stk, hvR (.src L :: syms) (regOrigins srcs l ++ origs) stk, popSrc_ok, ho, push_ok,
        bypass_none hby, bind, Except.bind, pure, Except.pure, regOrigins, List.append_assoc]
    | some f =>
      have hsf := hkc.2
      have hreg : Registered srcs (regOrigins srcs r ++ (regOrigins srcs l ++ origs)) (leaves l ++ leaves r) := by
        intro x hx
        have := registered_of_reg srcs (.join l r k (.some f)) hwf rfl origs x (by simpa [leaves] using hx)
        simpa [regOrigins, List.append_assoc] using this
      simp [hvL syms origs stk, hvR (.src L :: syms) (regOrigins srcs l ++ origs) stk, popSrc_ok,
        genFeature_spec srcs _ _ hreg f on hsf hon syms stk, ho, push_ok, bypass_none hby, bind, Except.bind,
        regOrigins, List.append_assoc]
  · intro l r k hl hr hvL hvR q hq
    simp only [compile, Option.pure_def, Option.bind_eq_bind, Option.bind_eq_some_iff, Option.some.injEq] at hq
    obtain ⟨L, hL, R, hR, o, ho, rfl⟩ := hq
    replace hvL := hvL L hL
    replace hvR := hvR R hR
    have hby : srcs.lookup (.set l r k) = none := lookup_nontable srcs hT _ rfl
    intro syms origs stk
    have hvL' : visitSource srcs l ⟨some ⟨syms, origs⟩, stk⟩ = .ok ⟨some ⟨.src L :: syms, origs⟩, stk⟩ := by
      simpa [regOrigins_out srcs l hl] using hvL syms origs stk
    have hvR' : visitSource srcs r ⟨some ⟨.src L :: syms, origs⟩, stk⟩ = .ok ⟨some ⟨.src R :: .src L :: syms, origs⟩, stk⟩ := by
      simpa [regOrigins_out srcs r hr] using hvR (.src L :: syms) origs stk
    rw [visitSource]
    simp [hvL', hvR', popSrc_ok, ho, push_ok, bypass_none hby, bind, Except.bind, regOrigins]
  · intro src sel pre grp post ord rows hwf hvF q hq
    obtain ⟨hfrom, horig, _, hsel, hpre, hgrp, hpost, hord⟩ := wfOut_query hwf
    rw [compile_query] at hq
    simp only [Option.bind_eq_some_iff] at hq
    obtain ⟨frm, hfrm, items, hI, hq⟩ := hq
    cases hne : items.isEmpty with
    | true => simp [hne] at hq
    | false =>
      simp only [hne, Bool.false_eq_true, if_false, Option.bind_eq_some_iff, Option.some.injEq] at hq
      obtain ⟨whr, hW, g, hG, hav, hH, o, hO, rfl⟩ := hq
      replace hvF := hvF frm hfrm
      have hby : srcs.lookup (.query src sel pre grp post ord rows) = none := lookup_nontable srcs hT _ rfl
      have hreg : Registered srcs (regOrigins srcs src) (leaves src) := by
        simpa using registered_of_reg srcs src hfrom horig []
      intro syms origs stk
      rw [visitSource]
      simp only [enter]
      rw [show (visitSource srcs src ⟨some {}, some ⟨syms, origs⟩ :: stk⟩) =
        .ok ⟨some ⟨[.src frm], regOrigins srcs src⟩, some ⟨syms, origs⟩ :: stk⟩ from by
          simpa using hvF [] [] (some ⟨syms, origs⟩ :: stk)]
      simp only [bind, Except.bind]
      cases he : sel.isEmpty with
      | true =>
        simp only [he, if_true, compileElems, Option.bind_eq_bind, Option.bind_eq_some_iff] at hI
        obtain ⟨es, hoe, hes⟩ := hI
        simp only [if_true, hoe,
          genElems_spec srcs _ _ hreg es items (originElems_leaves src es hoe) hes [.src frm] (some ⟨syms, origs⟩ :: stk)]
        simp [hne, genFeatureOpt_spec srcs _ _ hreg pre whr hpre hW, genFeatures_spec srcs _ _ hreg grp g hgrp hG,
          genFeatureOpt_spec srcs _ _ hreg post hav hpost hH, genOrderings_spec srcs _ _ hreg ord o hord hO,
          popSrc_ok, exit, push_ok, bypass_none hby, regOrigins]
      | false =>
        simp only [he, Bool.false_eq_true, if_false] at hI
        simp only [Bool.false_eq_true, if_false,
          genFeatures_spec srcs _ _ hreg sel items (hsel he) hI [.src frm] (some ⟨syms, origs⟩ :: stk)]
        simp [hne, genFeatureOpt_spec srcs _ _ hreg pre whr hpre hW, genFeatures_spec srcs _ _ hreg grp g hgrp hG,
          genFeatureOpt_spec srcs _ _ hreg post hav hpost hH, genOrderings_spec srcs _ _ hreg ord o hord hO,
          popSrc_ok, exit, push_ok, bypass_none hby, regOrigins]

theorem visit_from (srcs : Sources) (hT : OnlyTables srcs = true) :
    ∀ (s : Source), wfFrom srcs s = true → isOrigin s = true →
      ∃ q, compile srcs s = some q ∧ VisitOk srcs s q :=
  fun s hwf ho => (compile_from_some srcs s hwf ho).imp fun q hq => ⟨hq, (visit_ok srcs hT s).1 hwf ho q hq⟩

theorem visit_out (srcs : Sources) (hT : OnlyTables srcs = true) :
    ∀ (s : Source), wfOut srcs s = true →
      ∃ q, compile srcs s = some q ∧ isStmtSql q = true ∧ VisitOk srcs s q :=
  fun s hwf => (compile_out_some srcs s hwf).imp fun q hq =>
    ⟨hq, isStmtSql_compile hwf hq, (visit_ok srcs hT s).2 hwf q hq⟩

end ForML.C06
