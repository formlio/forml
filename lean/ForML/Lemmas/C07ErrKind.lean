/-
C07: how a step of a constructor is described (`Judges`: when it succeeds, what it then returns, and — where the script
is `resolvable` — that it otherwise raises the grammar error, `GOnly`), and why `resolvable` matters: such a script has
kinds everywhere (`Source.kinded_of_resolvable`, no `wf` / `tame` needed), so every kind the constructors read exists
(`Feature.kindOf_read`) and the only way to fail is one of the `raise GrammarError` sites.
-/
import ForML.Model.Grammar
import ForML.Lemmas.C07Kinds

namespace ForML.Dsl

/-- the computation fails with the grammar error, if it fails -/
def GOnly {α : Type} (x : R α) : Prop := ∀ e, x = Except.error e → e = CtorErr.grammar

theorem GOnly.ok {α : Type} (a : α) : GOnly (Except.ok a : R α) := by
  intro e h
  cases h

theorem GOnly.guard (b : Bool) : GOnly (guardG b) := by
  intro e h
  unfold guardG at h
  split at h
  · cases h
  · cases h
    rfl

theorem GOnly.bind {α β : Type} {x : R α} {f : α → R β} (hx : GOnly x) (hf : ∀ a, x = Except.ok a → GOnly (f a)) :
    GOnly (x >>= f) := by
  intro e h
  cases hxx : x with
  | error e' =>
    rw [hxx] at h
    have h' : (Except.error e' : R β) = Except.error e := h
    cases h'
    exact hx _ hxx
  | ok a =>
    rw [hxx] at h
    exact hf a hxx e h

theorem GOnly.of_eq_ok {α : Type} {x : R α} {a : α} (h : x = Except.ok a) : GOnly x := by
  rw [h]
  exact GOnly.ok a

/-- `x` returns `a` exactly when `p` holds; where `g` holds, whatever else it does is to raise the grammar error -/
structure Judges {α : Type} (g : Prop) (x : R α) (a : α) (p : Prop) : Prop where
  gives : ∀ a', x = Except.ok a' ↔ (a' = a ∧ p)
  gonly : g → GOnly x

theorem Judges.ok {α : Type} {g : Prop} {a b : α} (h : a = b) : Judges g (Except.ok a : R α) b True :=
  ⟨fun a' => by rw [Except.ok.injEq, and_true, h, eq_comm], fun _ => GOnly.ok a⟩

theorem Judges.guard {g : Prop} (b : Bool) : Judges g (guardG b) () (b = true) :=
  ⟨fun _ => by rw [guardG_eq_ok, eq_self, true_and], fun _ => GOnly.guard b⟩

/-- a call that is no DSL script at all, which `g` rules out -/
theorem Judges.error {α : Type} {g : Prop} (hg : ¬ g) (e : CtorErr) (a : α) : Judges g (Except.error e : R α) a False :=
  ⟨fun _ => ⟨fun h => (nomatch h), fun h => h.2.elim⟩, fun h => absurd h hg⟩

theorem Judges.bind {α β : Type} {g : Prop} {x : R α} {f : α → R β} {a : α} {b : β} {p q : Prop}
    (hx : Judges g x a p) (hf : p → Judges g (f a) b q) : Judges g (x >>= f) b (p ∧ q) := by
  refine ⟨fun b' => ?_, fun hg => GOnly.bind (hx.gonly hg) fun a' ha => ?_⟩
  · cases h : x with
    | error e =>
      have : ¬ p := fun hp => by
        have := (hx.gives a).mpr ⟨rfl, hp⟩
        rw [h] at this
        cases this
      exact ⟨fun h' => (nomatch h'), fun h' => absurd h'.2.1 this⟩
    | ok a' =>
      obtain ⟨rfl, hp⟩ := (hx.gives a').mp h
      rw [ok_bind, (hf hp).gives b', and_iff_right hp]
  · obtain ⟨rfl, hp⟩ := (hx.gives a').mp ha
    exact (hf hp).gonly hg

theorem Judges.congr {α : Type} {g : Prop} {x : R α} {a : α} {p q : Prop} (h : Judges g x a p) (hpq : p ↔ q) :
    Judges g x a q :=
  ⟨fun a' => by rw [h.gives a', hpq], h.gonly⟩

/-- a read: `x` yields what `o` holds, if anything, and where `g` holds it yields something -/
theorem Judges.read {α β : Type} {g : Prop} {x : R α} {o : Option α} {f : α → R β} {b : β} {q : α → Prop}
    (hx : okOf x = o) (hs : g → o.isSome = true) (hf : ∀ a, o = some a → Judges g (f a) b (q a)) :
    Judges g (x >>= f) b (∃ a, o = some a ∧ q a) := by
  subst hx
  cases x with
  | error e => exact ⟨fun b' => ⟨fun h => (nomatch h), fun ⟨_, a, h, _⟩ => (nomatch h)⟩, fun hg => (nomatch hs hg)⟩
  | ok a => exact (hf a rfl).congr ⟨fun h => ⟨a, rfl, h⟩, fun ⟨a', e, h⟩ => by cases e; exact h⟩

theorem Op.arity_pos_of_arith (op : Op) : op.group = OpGroup.arith → 0 < op.arity := by
  cases op <;> decide

theorem sigLookup_some_of_any (n : String) : (sg : List (Option String × Option Kind)) →
    sg.all (fun p => p.2.isSome) = true → sg.any (fun p => p.1 == some n) = true → ∃ k, sigLookup n sg = some k
  | [], _, h => by simp at h
  | (m, k) :: rest, hk, h => by
    simp only [List.all_cons, Bool.and_eq_true] at hk
    simp only [List.any_cons, Bool.or_eq_true, beq_iff_eq] at h
    simp only [sigLookup]
    by_cases hm : m = some n
    · simp only [hm, if_true]
      exact Option.isSome_iff_exists.mp hk.1
    · simp only [hm, if_false]
      rcases h with h | h
      · exact absurd h hm
      · exact sigLookup_some_of_any n rest hk.2 h

mutual
theorem Feature.kindS_of_resolvable : (f : Feature) → f.resolvable = true → ∃ k, f.kindS = some k
  | .lit v, _ => ⟨_, rfl⟩
  | .elem o n, hr => by
    simp only [Feature.resolvable, Bool.and_eq_true] at hr
    simp only [Feature.kindS]
    exact sigLookup_some_of_any n o.sig (Source.kinded_of_resolvable o hr.1) hr.2
  | .alias f n, hr => by
    simp only [Feature.resolvable] at hr
    simp only [Feature.kindS]
    exact Feature.kindS_of_resolvable f hr
  | .cast f k, _ => ⟨k, rfl⟩
  | .window fn ps os, hr => by
    simp only [Feature.resolvable, Bool.and_eq_true, Bool.or_eq_true, beq_iff_eq] at hr
    simp only [Feature.kindS]
    by_cases h : fn = .expr .rownumber .nil
    · subst h
      exact ⟨.integer, by simp [Feature.kindS, Op.group]⟩
    · have h2 : fn.resolvable = true := by
        rcases hr.1.1 with h' | h'
        · exact absurd h' h
        · exact h'
      exact Feature.kindS_of_resolvable fn h2
  | .expr op args, hr => by
    simp only [Feature.resolvable, Bool.and_eq_true, decide_eq_true_eq] at hr
    cases hg : op.group <;> simp only [Feature.kindS, hg] <;> try exact ⟨_, rfl⟩
    obtain ⟨ks, hks, hlen⟩ := Features.kindsS_of_resolvable args hr.1.1
    have hpos := Op.arity_pos_of_arith op hg
    rw [hks, (mapM_id_iff _ ks).mpr rfl]
    cases ks with
    | nil =>
      simp only [List.length_nil] at hlen
      omega
    | cons k rest => exact ⟨rest.foldl maxRank k, by simp [largest_foldl]⟩
theorem Features.kindsS_of_resolvable : (fs : Features) → fs.resolvable = true →
    ∃ ks : List Kind, fs.kindsS = ks.map some ∧ ks.length = fs.toList.length
  | .nil, _ => ⟨[], rfl, rfl⟩
  | .cons f fs, hr => by
    simp only [Features.resolvable, Bool.and_eq_true] at hr
    obtain ⟨k, hk⟩ := Feature.kindS_of_resolvable f hr.1
    obtain ⟨ks, hks, hl⟩ := Features.kindsS_of_resolvable fs hr.2
    exact ⟨k :: ks, by simp [Features.kindsS, hk, hks], by simp [Features.toList, hl]⟩
theorem Features.sigOf_kinded : (fs : Features) → fs.resolvable = true → fs.sigOf.all (fun p => p.2.isSome) = true
  | .nil, _ => rfl
  | .cons f fs, hr => by
    simp only [Features.resolvable, Bool.and_eq_true] at hr
    obtain ⟨k, hk⟩ := Feature.kindS_of_resolvable f hr.1
    simp [Features.sigOf, hk, Features.sigOf_kinded fs hr.2]
theorem Source.kinded_of_resolvable : (s : Source) → s.resolvable = true → s.sig.all (fun p => p.2.isSome) = true
  | .table n fs, _ => by simp [Source.sig]
  | .ref i n, hr => by
    simp only [Source.resolvable] at hr
    simpa [Source.sig] using Source.kinded_of_resolvable i hr
  | .join l r k c, hr => by
    simp only [Source.resolvable, Bool.and_eq_true] at hr
    simp only [Source.sig, List.all_append, Bool.and_eq_true]
    exact ⟨Source.kinded_of_resolvable l hr.1.1, Source.kinded_of_resolvable r hr.1.2⟩
  | .set l r k, hr => by
    simp only [Source.resolvable, Bool.and_eq_true] at hr
    simpa [Source.sig] using Source.kinded_of_resolvable l hr.1
  | .query s sel pre grp post ord rows, hr => by
    simp only [Source.resolvable, Bool.and_eq_true] at hr
    simp only [Source.sig]
    split
    · exact Source.kinded_of_resolvable s hr.1.1.1.1.1
    · exact Features.sigOf_kinded sel hr.1.1.1.1.2
end

theorem Features.kindsS_some : (fs : Features) → fs.wf = true → fs.tame = true → fs.resolvable = true →
    ∃ ks : List Kind, fs.kindsS = ks.map some ∧ ks.length = fs.toList.length :=
  fun fs _ _ hr => Features.kindsS_of_resolvable fs hr

theorem Features.resolvable_iff : (fs : Features) → (fs.resolvable = true ↔ ∀ f ∈ fs.toList, f.resolvable = true)
  | .nil => by simp [Features.resolvable, Features.toList]
  | .cons f fs => by simp [Features.resolvable, Features.toList, Features.resolvable_iff fs]

/-- reading a kind: it is the documented one, if there is one; in a `resolvable` script there is -/
theorem Feature.kindOf_read {β : Type} {g : Prop} {f : Kind → R β} {b : β} {q : Kind → Prop} (p : Feature)
    (hw : p.wf = true) (ht : p.tame = true) (hr : g → p.resolvable = true)
    (hf : ∀ k, p.kindS = some k → Judges g (f k) b (q k)) :
    Judges g (p.kindOf >>= f) b (∃ k, p.kindS = some k ∧ q k) :=
  Judges.read (Feature.okOf_kindOf p hw ht) (fun h => by
    obtain ⟨k, hk⟩ := Feature.kindS_of_resolvable p (hr h)
    rw [hk]
    rfl) hf

end ForML.Dsl
