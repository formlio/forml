/-
Simulation between two actor machines (`Model/ActorMachine.lean`): if every interface operation takes related
instances / bytes / hyper-parameter dicts to related ones and gives the same answer (`Sim`), then from related
worlds every operation sequence produces the same observations on both machines (`sim_run`).  `memo_sim`: a
machine with a memo of the exported bytes simulates the machine itself when every operation that can change the
export drops the memo.
-/
import ForML.Model.ActorMachine

namespace ForML.Actor

variable {ω₁ ω₂ β₁ β₂ : Type}

/-! The platform functions over a machine are those of `Model/Actor.lean` on a flavour's machine. -/

theorem mkSpecSig_eq (f : Flavour σ) (args : List Int) (kw : PMap) : mkSpecSig f.specSig args kw = mkSpec f args kw := rfl

theorem toMach_call (f : Flavour σ) (g : Blob σ) (sp : Spec) (args : List Int) (kw : PMap) :
    (f.toMach g).call sp args kw = sp.call f args kw := rfl

theorem toMach_preset (f : Flavour σ) (g : Blob σ) (o : Obj σ) (b : Blob σ) :
    (f.toMach g).preset o b = presetState f o b := by
  cases b with
  | none => rfl
  | some pl =>
    simp only [Mach.preset, presetState, Flavour.toMach, Option.isNone_some, Bool.false_eq_true, if_false]
    cases f.setState o (some pl) <;> rfl

theorem toMach_functorApply (f : Flavour σ) (g : Blob σ) (sp : Spec) (b : Blob σ) (x : Int) :
    (f.toMach g).functorApply sp b x = functorApply f sp b x := by
  unfold Mach.functorApply functorApply
  rw [toMach_call]
  cases sp.call f [] [] with
  | error e => rfl
  | ok o =>
    simp only [toMach_preset]
    cases presetState f o b <;> rfl

theorem toMach_functorTrain (f : Flavour σ) (g : Blob σ) (sp : Spec) (b : Blob σ) (x y : Int) :
    (f.toMach g).functorTrain sp b x y = functorTrain f sp b x y := by
  unfold Mach.functorTrain functorTrain
  rw [toMach_call]
  cases sp.call f [] [] with
  | error e => rfl
  | ok o =>
    simp only [toMach_preset]
    cases presetState f o b with
    | error e => rfl
    | ok o' =>
      simp only [Flavour.toMach]
      cases f.train o' x y <;> rfl

/-- both fail with the same error, or both succeed with `R`-related results -/
def RelE (R : α → β → Prop) : Except Err α → Except Err β → Prop
  | .ok a, .ok b => R a b
  | .error e, .error e' => e = e'
  | _, _ => False

/-- both absent, or both present and `R`-related -/
def RelO (R : α → β → Prop) : Option α → Option β → Prop
  | some a, some b => R a b
  | none, none => True
  | _, _ => False

/-- one field per interface operation; `Ro` relates instances, `Rb` state bytes, `Rp` hyper-parameter dicts -/
structure Sim (m1 : Mach ω₁ β₁) (m2 : Mach ω₂ β₂) (Ro : ω₁ → ω₂ → Prop) (Rb : β₁ → β₂ → Prop)
    (Rp : PMap → PMap → Prop) : Prop where
  specSig : m1.specSig = m2.specSig
  isStateful : m1.isStateful = m2.isStateful
  build : ∀ a kw, RelE Ro (m1.build a kw) (m2.build a kw)
  apply : ∀ o1 o2 x, Ro o1 o2 → m1.apply o1 x = m2.apply o2 x
  train : ∀ o1 o2 x y, Ro o1 o2 → RelE Ro (m1.train o1 x y) (m2.train o2 x y)
  getState : ∀ o1 o2, Ro o1 o2 → Ro (m1.getState o1).1 (m2.getState o2).1 ∧ Rb (m1.getState o1).2 (m2.getState o2).2
  setState : ∀ o1 o2 b1 b2, Ro o1 o2 → Rb b1 b2 → RelE Ro (m1.setState o1 b1) (m2.setState o2 b2)
  /-- related hyper-parameter dicts have the same key→value content; a dict is related to itself -/
  look : ∀ kw1 kw2, Rp kw1 kw2 → ∀ k, pget kw1 k = pget kw2 k
  refl : ∀ kw, Rp kw kw
  getParams : ∀ o1 o2, Ro o1 o2 → Rp (m1.getParams o1) (m2.getParams o2)
  setParams : ∀ o1 o2 kw1 kw2, Ro o1 o2 → Rp kw1 kw2 → RelE Ro (m1.setParams o1 kw1) (m2.setParams o2 kw2)
  repickle : ∀ o1 o2, Ro o1 o2 → RelE Ro (m1.repickle o1) (m2.repickle o2)
  empty : Rb m1.empty m2.empty
  isEmpty : ∀ b1 b2, Rb b1 b2 → m1.isEmpty b1 = m2.isEmpty b2
  foreign : Rb m1.foreign m2.foreign

/-- the same builder, every register empty in both worlds or holding `Ro`-related instances, every slot `Rb`-related bytes -/
def RelW (Ro : ω₁ → ω₂ → Prop) (Rb : β₁ → β₂ → Prop) (w1 : World ω₁ β₁) (w2 : World ω₂ β₂) : Prop :=
  w1.builder = w2.builder ∧ (∀ r, RelO Ro (w1.regs r) (w2.regs r)) ∧ (∀ k, Rb (w1.blobs k) (w2.blobs k))

section
variable {m1 : Mach ω₁ β₁} {m2 : Mach ω₂ β₂} {Ro : ω₁ → ω₂ → Prop} {Rb : β₁ → β₂ → Prop} {Rp : PMap → PMap → Prop}

/-- stated for the literal `match` so that it unifies with the unfolded bodies of `Mach.preset`,
`Mach.functorApply`, `Mach.functorTrain` (likewise `withReg_sim` and `attempt_sim` for the shapes inside `stepW`,
`World.onReg`) -/
theorem relE_bind {R : α → β → Prop} {S : γ → δ → Prop} {r1 : Except Err α} {r2 : Except Err β}
    {f1 : α → Except Err γ} {f2 : β → Except Err δ} (h : RelE R r1 r2) (hf : ∀ a b, R a b → RelE S (f1 a) (f2 b)) :
    RelE S (match (generalizing := false) r1 with | .error e => .error e | .ok a => f1 a)
      (match (generalizing := false) r2 with | .error e => .error e | .ok b => f2 b) :=
  match r1, r2, h with
  | .ok a, .ok b, h => hf a b h
  | .error _, .error _, h => h

theorem relE_imp {R S : α → β → Prop} {r1 : Except Err α} {r2 : Except Err β} (h : RelE R r1 r2)
    (hi : ∀ a b, r1 = .ok a → R a b → S a b) : RelE S r1 r2 :=
  match r1, r2, h with
  | .ok a, .ok b, h => hi a b rfl h
  | .error _, .error _, h => h

theorem relE_eq {r1 r2 : Except Err α} (h : RelE Eq r1 r2) : r1 = r2 :=
  match r1, r2, h with
  | .ok _, .ok _, h => congrArg _ h
  | .error _, .error _, h => congrArg _ h

theorem relW_setReg {w1 : World ω₁ β₁} {w2 : World ω₂ β₂} (h : RelW Ro Rb w1 w2) (r : Nat) {o1 : ω₁} {o2 : ω₂}
    (ho : Ro o1 o2) : RelW Ro Rb (w1.setReg r o1) (w2.setReg r o2) := by
  refine ⟨h.1, fun i => ?_, h.2.2⟩
  simp only [World.setReg]
  split
  · exact ho
  · exact h.2.1 i

theorem relW_setBlob {w1 : World ω₁ β₁} {w2 : World ω₂ β₂} (h : RelW Ro Rb w1 w2) (k : Nat) {b1 : β₁} {b2 : β₂}
    (hb : Rb b1 b2) : RelW Ro Rb (w1.setBlob k b1) (w2.setBlob k b2) := by
  refine ⟨h.1, h.2.1, fun i => ?_⟩
  simp only [World.setBlob]
  split
  · exact hb
  · exact h.2.2 i

def StepRel (Ro : ω₁ → ω₂ → Prop) (Rb : β₁ → β₂ → Prop) (s1 : World ω₁ β₁ × Out) (s2 : World ω₂ β₂ × Out) : Prop :=
  s1.2 = s2.2 ∧ RelW Ro Rb s1.1 s2.1

theorem withReg_sim {w1 : World ω₁ β₁} {w2 : World ω₂ β₂} (h : RelW Ro Rb w1 w2) (r : Nat)
    {F1 : ω₁ → World ω₁ β₁ × Out} {F2 : ω₂ → World ω₂ β₂ × Out} (hF : ∀ o1 o2, Ro o1 o2 → StepRel Ro Rb (F1 o1) (F2 o2)) :
    StepRel Ro Rb (match (generalizing := false) w1.regs r with | none => (w1, .err .noObject) | some o => F1 o)
      (match (generalizing := false) w2.regs r with | none => (w2, .err .noObject) | some o => F2 o) :=
  match w1.regs r, w2.regs r, h.2.1 r with
  | none, none, _ => ⟨rfl, h⟩
  | some o1, some o2, hr => hF o1 o2 hr

theorem attempt_sim {R : α → β → Prop} {w1 : World ω₁ β₁} {w2 : World ω₂ β₂} (h : RelW Ro Rb w1 w2)
    {r1 : Except Err α} {r2 : Except Err β} (hr : RelE R r1 r2)
    {F1 : α → World ω₁ β₁ × Out} {F2 : β → World ω₂ β₂ × Out} (hF : ∀ a b, R a b → StepRel Ro Rb (F1 a) (F2 b)) :
    StepRel Ro Rb (match (generalizing := false) r1 with | .ok a => F1 a | .error e => (w1, .err e))
      (match (generalizing := false) r2 with | .ok b => F2 b | .error e => (w2, .err e)) :=
  match r1, r2, hr with
  | .ok a, .ok b, hr => hF a b hr
  | .error _, .error _, hr => ⟨congrArg Out.err hr, h⟩

theorem withBuilder_sim {R : α → β → Prop} {w1 : World ω₁ β₁} {w2 : World ω₂ β₂} (h : RelW Ro Rb w1 w2)
    {f1 : Spec → Except Err α} {f2 : Spec → Except Err β} (hf : ∀ sp, RelE R (f1 sp) (f2 sp)) :
    RelE R (withBuilder f1 w1.builder) (withBuilder f2 w2.builder) := by
  rw [h.1]
  cases w2.builder with
  | none => rfl
  | some sp => exact hf sp

theorem onReg_sim {w1 : World ω₁ β₁} {w2 : World ω₂ β₂} (h : RelW Ro Rb w1 w2) (r : Nat)
    (f1 : ω₁ → Except Err ω₁) (f2 : ω₂ → Except Err ω₂) (hf : ∀ o1 o2, Ro o1 o2 → RelE Ro (f1 o1) (f2 o2)) :
    StepRel Ro Rb (w1.onReg r f1) (w2.onReg r f2) :=
  withReg_sim h r fun o1 o2 ho => attempt_sim h (hf o1 o2 ho) fun _ _ ho' => ⟨rfl, relW_setReg h r ho'⟩

theorem readReg_sim {w1 : World ω₁ β₁} {w2 : World ω₂ β₂} (h : RelW Ro Rb w1 w2) (r : Nat)
    (g1 : ω₁ → Out) (g2 : ω₂ → Out) (hg : ∀ o1 o2, Ro o1 o2 → g1 o1 = g2 o2) :
    StepRel Ro Rb (w1.readReg r g1) (w2.readReg r g2) :=
  withReg_sim h r fun o1 o2 ho => ⟨hg o1 o2 ho, h⟩

theorem onBuilder_sim {w1 : World ω₁ β₁} {w2 : World ω₂ β₂} (h : RelW Ro Rb w1 w2)
    {f1 f2 : Option Spec → Except Err Spec} (hf : ∀ b, f1 b = f2 b) :
    StepRel Ro Rb (w1.onBuilder f1) (w2.onBuilder f2) := by
  unfold World.onBuilder
  rw [h.1, hf]
  cases f2 w2.builder with
  | ok sp => exact ⟨rfl, rfl, h.2.1, h.2.2⟩
  | error e => exact ⟨rfl, h⟩

theorem preset_sim (hs : Sim m1 m2 Ro Rb Rp) {o1 : ω₁} {o2 : ω₂} {b1 : β₁} {b2 : β₂} (ho : Ro o1 o2) (hb : Rb b1 b2) :
    RelE Ro (m1.preset o1 b1) (m2.preset o2 b2) := by
  unfold Mach.preset
  rw [hs.isEmpty b1 b2 hb]
  cases m2.isEmpty b2
  · exact relE_bind (hs.setState o1 o2 b1 b2 ho hb) fun _ _ h => hs.setParams _ _ _ _ h (hs.getParams o1 o2 ho)
  · exact ho

theorem functorApply_sim (hs : Sim m1 m2 Ro Rb Rp) (sp : Spec) {b1 : β₁} {b2 : β₂} (hb : Rb b1 b2) (x : Int) :
    RelE Eq (m1.functorApply sp b1 x) (m2.functorApply sp b2 x) :=
  relE_bind (hs.build _ _) fun _ _ ho => relE_bind (preset_sim hs ho hb) fun _ _ ho' => by
    rw [hs.apply _ _ x ho']; cases m2.apply _ x <;> rfl

theorem functorTrain_sim (hs : Sim m1 m2 Ro Rb Rp) (sp : Spec) {b1 : β₁} {b2 : β₂} (hb : Rb b1 b2) (x y : Int) :
    RelE Rb (m1.functorTrain sp b1 x y) (m2.functorTrain sp b2 x y) :=
  relE_bind (hs.build _ _) fun _ _ ho => relE_bind (preset_sim hs ho hb) fun _ _ ho' =>
    relE_bind (hs.train _ _ x y ho') fun _ _ ho'' => (hs.getState _ _ ho'').2

theorem sim_step (hs : Sim m1 m2 Ro Rb Rp) {w1 : World ω₁ β₁} {w2 : World ω₂ β₂} (h : RelW Ro Rb w1 w2) (op : MOp) :
    StepRel Ro Rb (stepW m1 w1 op) (stepW m2 w2 op) := by
  cases op with
  | spec | update | reset | bpickle => exact onBuilder_sim h fun _ => hs.specSig ▸ rfl
  | build r a kw =>
    exact attempt_sim h (withBuilder_sim h fun _ => hs.build _ _) fun _ _ ho => ⟨rfl, relW_setReg h r ho⟩
  | train r x y => exact onReg_sim h r _ _ (fun o1 o2 ho => hs.train o1 o2 x y ho)
  | apply r x => exact readReg_sim h r _ _ (fun o1 o2 ho => congrArg outInt (hs.apply o1 o2 x ho))
  | params r =>
    exact readReg_sim h r _ _ (fun o1 o2 ho => congrArg Out.params (funext (hs.look _ _ (hs.getParams o1 o2 ho))))
  | setParams r kw => exact onReg_sim h r _ _ (fun o1 o2 ho => hs.setParams o1 o2 kw kw ho (hs.refl kw))
  | stateful => exact ⟨congrArg Out.bool hs.isStateful, h⟩
  | forge k => exact ⟨rfl, relW_setBlob h k hs.foreign⟩
  | getState r k =>
    exact withReg_sim h r fun o1 o2 ho =>
      have hg := hs.getState o1 o2 ho
      ⟨congrArg (fun e => Out.blob (!e)) (hs.isEmpty _ _ hg.2), relW_setBlob (relW_setReg h r hg.1) k hg.2⟩
  | setState r k => exact onReg_sim h r _ _ (fun o1 o2 ho => hs.setState o1 o2 _ _ ho (h.2.2 k))
  | setEmpty r => exact onReg_sim h r _ _ (fun o1 o2 ho => hs.setState o1 o2 _ _ ho hs.empty)
  | preset r k => exact onReg_sim h r _ _ (fun o1 o2 ho => preset_sim hs ho (h.2.2 k))
  | pickle r => exact onReg_sim h r _ _ hs.repickle
  | fapply k x =>
    exact ⟨congrArg outInt (relE_eq (withBuilder_sim h fun sp => functorApply_sim hs sp (h.2.2 k) x)), h⟩
  | ftrain k x y j =>
    exact attempt_sim h (withBuilder_sim h fun sp => functorTrain_sim hs sp (h.2.2 k) x y) fun _ _ hb =>
      ⟨congrArg (fun e => Out.blob (!e)) (hs.isEmpty _ _ hb), relW_setBlob h j hb⟩

theorem sim_run (hs : Sim m1 m2 Ro Rb Rp) (ops : List MOp) {w1 : World ω₁ β₁} {w2 : World ω₂ β₂} (h : RelW Ro Rb w1 w2) :
    (runW m1 w1 ops).2 = (runW m2 w2 ops).2 ∧ RelW Ro Rb (runW m1 w1 ops).1 (runW m2 w2 ops).1 := by
  induction ops generalizing w1 w2 with
  | nil => exact ⟨rfl, h⟩
  | cons op rest ih =>
    have hstep := sim_step hs h op
    have := ih hstep.2
    simp only [runW]
    exact ⟨by rw [hstep.1, this.1], this.2⟩

theorem relW_init (hs : Sim m1 m2 Ro Rb Rp) : RelW Ro Rb (World.init m1) (World.init m2) :=
  ⟨rfl, fun _ => trivial, fun _ => hs.empty⟩

theorem sim_observe (hs : Sim m1 m2 Ro Rb Rp) (ops : List MOp) : observe m1 ops = observe m2 ops :=
  (sim_run hs ops (relW_init hs)).1

end

section
variable {ω β : Type}

/-- memoising instance ~ plain instance: same inner instance and the memo, if there is one, is what
`get_state` would produce now -/
def MemoRo (m : Mach ω β) (oc : ω × Option β) (o : ω) : Prop :=
  oc.1 = o ∧ (oc.2 = none ∨ oc.2 = some (m.getState o).2)

private theorem withMemo_rel (m : Mach ω β) (memo : Option β) (r : Except Err ω)
    (h : ∀ o', r = .ok o' → memo = none ∨ memo = some (m.getState o').2) :
    RelE (MemoRo m) (withMemo memo r) r := by
  cases r with
  | error e => rfl
  | ok o' => exact ⟨rfl, h o' rfl⟩

private theorem keepMemo_fresh {drop : Bool} {memo : Option β} {b b' : β} (h : memo = none ∨ memo = some b)
    (hd : drop = true ∨ b' = b) : keepMemo drop memo = none ∨ keepMemo drop memo = some b' := by
  cases drop with
  | true => exact Or.inl rfl
  | false =>
    cases hd with
    | inl hd => cases hd
    | inr hd => rw [hd]; exact h

/-- A memo of the exported bytes is invisible -- for every operation sequence -- provided `get_state`
itself does not change the instance, `train` and `set_state` drop the memo, and `set_params` / pickling
either drop it or cannot change what `get_state` returns. -/
theorem memo_sim (m : Mach ω β) (p : Policy) (hpure : ∀ o, (m.getState o).1 = o)
    (hT : p.onTrain = true) (hS : p.onSetState = true)
    (hP : p.onSetParams = true ∨ ∀ o kw o', m.setParams o kw = .ok o' → (m.getState o').2 = (m.getState o).2)
    (hK : p.onPickle = true ∨ ∀ o o', m.repickle o = .ok o' → (m.getState o').2 = (m.getState o).2) :
    Sim (memoMach m p) m (MemoRo m) Eq Eq where
  specSig := rfl
  isStateful := rfl
  build := fun a kw => withMemo_rel m none _ (fun _ _ => Or.inl rfl)
  apply := fun oc o x ho => by rw [← ho.1]; rfl
  train := fun oc o x y ⟨ho, hm⟩ => by
    subst ho
    exact withMemo_rel m _ _ fun _ _ => keepMemo_fresh hm (Or.inl hT)
  getState := fun oc o ⟨ho, hm⟩ => by
    subst ho
    simp only [memoMach]
    cases hc : oc.2 with
    | some b =>
      rw [hc] at hm
      cases hm with
      | inl h => cases h
      | inr h =>
        cases h
        exact ⟨⟨(hpure _).symm, Or.inr (by rw [hc, hpure])⟩, rfl⟩
    | none => exact ⟨⟨rfl, Or.inr (by rw [hpure])⟩, rfl⟩
  setState := fun oc o b1 b2 ⟨ho, hm⟩ hb => by
    subst ho hb
    exact withMemo_rel m _ _ fun _ _ => keepMemo_fresh hm (Or.inl hS)
  look := fun _ _ h _ => by rw [h]
  refl := fun _ => rfl
  getParams := fun oc o ho => by rw [← ho.1]; rfl
  setParams := fun oc o kw1 kw2 ⟨ho, hm⟩ hk => by
    subst ho hk
    exact withMemo_rel m _ _ fun o' ho' => keepMemo_fresh hm (hP.imp id fun h => h oc.1 kw1 o' ho')
  repickle := fun oc o ⟨ho, hm⟩ => by
    subst ho
    exact withMemo_rel m _ _ fun o' ho' => keepMemo_fresh hm (hK.imp id fun h => h oc.1 o' ho')
  empty := rfl
  isEmpty := fun b1 b2 hb => by rw [hb]; rfl
  foreign := rfl

end

end ForML.Actor
