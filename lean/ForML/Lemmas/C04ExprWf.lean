/-
The composition the model expands from an expression (`compOfExpr`) is well-formed
(`Comp.wfPlain`) and no trainer hangs off its apply tail (`Comp.tailClean`) — for every expression.  With
`visit_spec` (C04Reach) the conjuncts that speak about visited workers become statements about reachability:
the apply segment stays within the apply-path ids, and every trainer is reachable from the train head.
-/
import ForML.Lemmas.C04Expr
import ForML.Lemmas.C04Reach
import ForML.Lemmas.C04Copy
import ForML.Lemmas.ListFacts

namespace ForML.Persist

namespace Comp

/-- fresh uuids for any composition: shift beyond every id it mentions -/
def bound (c : Comp) : Nat := c.uids.foldl max 0 + 1

theorem freshFor_bound (c : Comp) : FreshFor (· + c.bound) c :=
  freshFor_add fun _ hv => Nat.lt_succ_of_le (le_foldl_max (a := 0) (Or.inr hv))

end Comp

theorem fragOf_ok (e : PExpr) : FragOk sourceCtx 8 (expand e sourceCtx 8) :=
  expand_ok e sourceCtx 8 (by decide) (by decide)

section
variable (e : PExpr)

theorem compOfExpr_nodes {x : Node} :
    x ∈ (compOfExpr e).nodes ↔ x ∈ sourceNodes ∨ x ∈ (expand e sourceCtx 8).nodes := by
  simp only [compOfExpr, List.mem_append]

theorem compOfExpr_edges {p : Nat × Nat} :
    p ∈ (compOfExpr e).edges ↔ p ∈ (expand e sourceCtx 8).applyEdges ∨ p = (2, 6)
      ∨ p ∈ (expand e sourceCtx 8).trainEdges ∨ p ∈ (expand e sourceCtx 8).labelEdges := by
  simp only [compOfExpr, List.mem_append, List.mem_cons, or_assoc]

theorem sourceNodes_ok : NodesOk 0 8 sourceNodes :=
  ⟨by decide, by decide, by decide, by decide, by decide⟩

theorem compOfExpr_nodesOk : NodesOk 0 (expand e sourceCtx 8).next (compOfExpr e).nodes :=
  sourceNodes_ok.append (fragOf_ok e).nodesOk (by decide) (Nat.le_of_lt (fragOf_ok e).lt)

theorem compOfExpr_trainer {x : Node} (hx : x ∈ (compOfExpr e).nodes) (hs : x.stateful = true) :
    ∃ t ∈ (expand e sourceCtx 8).nodes, t.gid = x.gid ∧ t.trained = true := by
  rcases (compOfExpr_nodes e).mp hx with h | h
  · have : ∀ y ∈ sourceNodes, y.stateful = false := by decide
    rw [this x h] at hs
    cases hs
  · exact (fragOf_ok e).trainer x h hs

/-- every publisher is older than the fresh ids that stand for dangling tails -/
theorem compOfExpr_edge_lt {p : Nat × Nat} (hp : p ∈ (compOfExpr e).edges) : p.1 < (expand e sourceCtx 8).next := by
  have ok := fragOf_ok e
  have lt8 {c : Nat} (h : c < 8) : c < (expand e sourceCtx 8).next := Nat.lt_trans h ok.lt
  rcases (compOfExpr_edges e).mp hp with h | rfl | h | h
  · exact Pub.lt (lt8 (by decide)) (ok.ea p h).1
  · exact lt8 (by decide)
  · exact Pub.lt (lt8 (by decide)) (ok.et p h).1
  · exact Pub.lt (lt8 (by decide)) (ok.el p h).1

/-- subscriptions of an apply-path worker stay on the apply path -/
theorem compOfExpr_edge_apply {p : Nat × Nat} (hp : p ∈ (compOfExpr e).edges) (h0 : p.1 % 4 = 0) : p.2 % 4 = 0 := by
  have ok := fragOf_ok e
  rcases (compOfExpr_edges e).mp hp with h | h | h | h
  · exact (ok.ea p h).2.2.2
  · rw [h] at h0; simp at h0
  · have := ok.et p h
    simp only [sourceCtx] at this
    omega
  · have := ok.el p h
    simp only [sourceCtx] at this
    omega

theorem compOfExpr_reach_apply {v : Nat} (h : Comp.Reach (compOfExpr e) (compOfExpr e).applyTail 0 v) : v % 4 = 0 := by
  induction h with
  | refl => rfl
  | step _ hv ih => exact compOfExpr_edge_apply e (Comp.mem_subs.mp (Comp.next_sub_subs hv)) ih

/-- the tail of a segment is the last worker the pipeline adds to the path, or (none added) the fresh id that stands
for the dangling trunk -/
theorem segmentTail_cases {c lo hi r t : Nat} (fresh : Nat) (hc : c < lo) (h : Pub c lo hi r t) :
    (segmentTail c t fresh = t ∧ lo ≤ t ∧ t % 4 = r) ∨ segmentTail c t fresh = fresh := by
  unfold segmentTail
  rcases h with rfl | ⟨h1, _, h3⟩
  · exact .inr (by simp)
  · have : (t == c) = false := by simp only [beq_eq_false_iff_ne, ne_eq]; omega
    exact .inl ⟨by simp [this], h1, h3⟩

theorem compOfExpr_trainTail :
    ((compOfExpr e).trainTail = (expand e sourceCtx 8).trainTail ∧ 8 ≤ (expand e sourceCtx 8).trainTail)
      ∨ (compOfExpr e).trainTail = (expand e sourceCtx 8).next + 2 :=
  (segmentTail_cases _ (by decide) (fragOf_ok e).tt).imp_left fun h => ⟨h.1, h.2.1⟩

/-- what the label extractor `6` reaches over the pipeline's train subscriptions (every train-path worker and every
trainer: `FragOk.path`), `Traversal.each` reaches from the train head `2` — also through the train tail, where it
follows trained subscribers only -/
theorem compOfExpr_reach_train {v : Nat} (h : TPath (expand e sourceCtx 8).trainEdges 6 v) :
    Comp.Reach (compOfExpr e) (compOfExpr e).trainTail 2 v := by
  have ok := fragOf_ok e
  have hlt := ok.lt
  have htail := compOfExpr_trainTail e
  induction h with
  | refl =>
    refine Comp.Reach.step Comp.Reach.refl ?_
    have hne : (2 : Nat) ≠ (compOfExpr e).trainTail := by omega
    rw [Comp.next_of_ne _ hne]
    exact Comp.mem_subs.mpr ((compOfExpr_edges e).mpr (Or.inr (Or.inl rfl)))
  | step _ he ih =>
    rename_i u w _
    refine Comp.Reach.step ih ?_
    have hedge : (u, w) ∈ (compOfExpr e).edges := (compOfExpr_edges e).mpr (Or.inr (Or.inr (Or.inl he)))
    have hult := compOfExpr_edge_lt e hedge
    by_cases hu : u = (compOfExpr e).trainTail
    · -- at the tail `each` follows the trained subscribers only: the subscriber is a trainer
      have hu' : u = (expand e sourceCtx 8).trainTail := by
        dsimp only at hult
        omega
      have hw : w % 4 = 1 := (ok.et (u, w) he).2.2.2.2 hu'
      obtain ⟨x, hx, hxu, hxt⟩ := ok.tnode (u, w) he hw
      rw [hu, Comp.next_tail]
      refine List.mem_filter.mpr ⟨Comp.mem_subs.mpr (hu ▸ hedge), ?_⟩
      simp only [Comp.isTrained, List.any_eq_true]
      exact ⟨x, (compOfExpr_nodes e).mpr (Or.inr hx), by simp [hxu, hxt]⟩
    · rw [Comp.next_of_ne _ hu]
      exact Comp.mem_subs.mpr hedge

theorem compOfExpr_derived {x : Node} (hx : x ∈ (compOfExpr e).nodes) (hs : x.stateful = true)
    (ht : x.trained = false) : (compOfExpr e).derived x = true := by
  obtain ⟨t, htn, hg, htt⟩ := compOfExpr_trainer e hx hs
  have htc : t ∈ (compOfExpr e).nodes := (compOfExpr_nodes e).mpr (Or.inr htn)
  simp only [Comp.derived, hs, Bool.true_and, List.any_eq_true]
  refine ⟨t, htc, ?_⟩
  have h1 := (((compOfExpr_nodesOk e).kind _ htc).1).mp htt
  have h2 : x.uid % 4 ≠ 1 := fun h => by
    have := (((compOfExpr_nodesOk e).kind _ hx).1).mpr h
    rw [ht] at this
    cases this
  have hne : t.uid ≠ x.uid := fun h => h2 (h ▸ h1)
  simp [hg, htt, hne]

theorem tagsConsistent_compOfExpr : (compOfExpr e).tagsConsistent = true := by
  simp only [Comp.tagsConsistent, List.all_eq_true, Bool.or_eq_true, bne_iff_ne, ne_eq, beq_iff_eq]
  intro x hx y hy
  by_cases h : x.gid = y.gid
  · exact Or.inr ((compOfExpr_nodesOk e).tags _ hx _ hy h)
  · exact Or.inl h

theorem uidsDistinct_compOfExpr : (compOfExpr e).uidsDistinct = true := by
  simp only [Comp.uidsDistinct, List.all_eq_true, Bool.or_eq_true, bne_iff_ne, ne_eq, beq_iff_eq]
  intro x hx y hy
  by_cases h : x.uid = y.uid
  · exact Or.inr ((compOfExpr_nodesOk e).uniq _ hx _ hy h)
  · exact Or.inl h

theorem trainedStateful_compOfExpr : (compOfExpr e).trainedStateful = true := by
  simp only [Comp.trainedStateful, List.all_eq_true, Bool.or_eq_true, Bool.not_eq_true']
  intro x hx
  cases ht : x.trained with
  | false => exact Or.inl rfl
  | true => exact Or.inr (((compOfExpr_nodesOk e).kind _ hx).2 ht)

theorem appliedDerived_compOfExpr (h t : Nat) : (compOfExpr e).appliedDerived h t = true := by
  simp only [Comp.appliedDerived, List.all_eq_true, Bool.or_eq_true, Bool.not_eq_true']
  intro x hx
  have hxn := Comp.mem_visitNodes hx
  cases hs : x.stateful with
  | false => exact Or.inl (Or.inl rfl)
  | true =>
    cases ht : x.trained with
    | true => exact Or.inl (Or.inr rfl)
    | false => exact Or.inr (compOfExpr_derived e hxn hs ht)

theorem noTrainer_compOfExpr : (compOfExpr e).noTrainer (compOfExpr e).applyHead (compOfExpr e).applyTail = true := by
  simp only [Comp.noTrainer, List.all_eq_true, Bool.not_eq_true']
  intro x hx
  obtain ⟨u, hu, hnode⟩ := Comp.mem_visitNodes_iff.mp hx
  obtain ⟨hxn, hxu⟩ := Comp.node?_some hnode
  have hreach := ((Comp.visit_spec (compOfExpr e) (compOfExpr e).applyHead (compOfExpr e).applyTail).2 u).mp hu
  have h0 : u % 4 = 0 := compOfExpr_reach_apply e hreach
  cases ht : x.trained with
  | false => rfl
  | true =>
    have := (((compOfExpr_nodesOk e).kind _ hxn).1).mp ht
    omega

theorem tailClean_compOfExpr : (compOfExpr e).tailClean = true := by
  simp only [Comp.tailClean, List.all_eq_true, Bool.not_eq_true']
  intro v hv
  have hedge := Comp.mem_subs.mp hv
  have hult := compOfExpr_edge_lt e hedge
  -- the apply tail is a worker of the apply path (a dangling tail publishes nothing)
  have h0 : (compOfExpr e).applyTail % 4 = 0 := by
    rcases segmentTail_cases (expand e sourceCtx 8).next (by decide) (fragOf_ok e).ta with h | h
    · exact (show (compOfExpr e).applyTail = _ from h.1) ▸ h.2.2
    · exact absurd hult (by rw [show (compOfExpr e).applyTail = _ from h]; exact Nat.lt_irrefl _)
  have hv0 : v % 4 = 0 := compOfExpr_edge_apply e hedge h0
  simp only [Comp.isTrained]
  apply List.any_eq_false.mpr
  intro x hx
  cases hu : (x.uid == v) with
  | false => simp
  | true =>
    have hxv : x.uid = v := by simpa using hu
    cases ht : x.trained with
    | false => simp
    | true =>
      have := (((compOfExpr_nodesOk e).kind _ hx).1).mp ht
      omega

theorem trainersVisited_compOfExpr : (compOfExpr e).trainersVisited = true := by
  simp only [Comp.trainersVisited, List.all_eq_true]
  intro g hg
  have hg' := mem_dedup _ g hg
  simp only [List.mem_map, List.mem_filter] at hg'
  obtain ⟨x, ⟨hx, hder⟩, hxg⟩ := hg'
  have hxn := Comp.mem_visitNodes hx
  have hs : x.stateful = true := by
    simp only [Comp.derived, Bool.and_eq_true] at hder
    exact hder.1
  obtain ⟨t, htn, htg, htt⟩ := compOfExpr_trainer e hxn hs
  have htc : t ∈ (compOfExpr e).nodes := (compOfExpr_nodes e).mpr (Or.inr htn)
  have h1 := (((compOfExpr_nodesOk e).kind _ htc).1).mp htt
  have hpath := (fragOf_ok e).path t htn (Or.inl h1)
  have hreach := compOfExpr_reach_train e hpath
  have hvis := ((Comp.visit_spec (compOfExpr e) (compOfExpr e).trainHead (compOfExpr e).trainTail).2 t.uid).mpr hreach
  -- the node found under the trainer's uid is the trainer
  have hnode : (compOfExpr e).node? t.uid = some t := by
    cases hf : (compOfExpr e).node? t.uid with
    | none =>
      have := List.find?_eq_none.mp hf t htc
      simp at this
    | some t' =>
      obtain ⟨ht'n, ht'u⟩ := Comp.node?_some hf
      rw [(compOfExpr_nodesOk e).uniq _ ht'n _ htc ht'u]
  have htv : t ∈ (compOfExpr e).visitNodes (compOfExpr e).trainHead (compOfExpr e).trainTail :=
    Comp.mem_visitNodes_iff.mpr ⟨t.uid, hvis, hnode⟩
  simp only [trainerOf]
  rw [List.find?_isSome]
  exact ⟨t, htv, by simp [((compOfExpr_nodesOk e).kind _ htc).2 htt, htt, htg, hxg]⟩

theorem wfPlain_compOfExpr : (compOfExpr e).wfPlain = true := by
  simp only [Comp.wfPlain, tagsConsistent_compOfExpr, uidsDistinct_compOfExpr, trainedStateful_compOfExpr,
    trainersVisited_compOfExpr, appliedDerived_compOfExpr, noTrainer_compOfExpr, Bool.and_self]

end

theorem wfPlain_compOf (e : PExpr) (sink : Bool) : (compOf e sink).wfPlain = true := wfPlain_compOfExpr _

theorem tailClean_compOf (e : PExpr) (sink : Bool) : (compOf e sink).tailClean = true := tailClean_compOfExpr _

end ForML.Persist
