/-
C07: the `Dissect` visitor with its accumulator computes exactly the filtered list of the nodes a feature is composed
of; membership with structural equality is list membership.
-/
import ForML.Model.Grammar

namespace ForML.Dsl

theorem visitFeature_eq (p : Feature → Bool) (f : Feature) (acc : List Feature) :
    visitFeature p f acc = ([f].filter p).reverse ++ acc := by
  unfold visitFeature
  by_cases h : p f <;> simp [h]

mutual
theorem Feature.dissect_eq (p : Feature → Bool) :
    (f : Feature) → (acc : List Feature) → f.dissect p acc = (f.nodes.filter p).reverse ++ acc
  | .lit v, acc => by simp [Feature.dissect, Feature.nodes, visitFeature_eq]
  | .elem o n, acc => by simp [Feature.dissect, Feature.nodes, visitFeature_eq]
  | .alias f n, acc => by
    simp [Feature.dissect, Feature.nodes, visitFeature_eq, Feature.dissect_eq p f acc, List.filter_append]
  | .expr op args, acc => by
    simp [Feature.dissect, Feature.nodes, visitFeature_eq, Features.dissect_eq p args acc, List.filter_append]
  | .cast f k, acc => by
    simp [Feature.dissect, Feature.nodes, visitFeature_eq, Feature.dissect_eq p f acc, List.filter_append]
  | .window fn ps os, acc => by simp [Feature.dissect, Feature.nodes, visitFeature_eq]
theorem Features.dissect_eq (p : Feature → Bool) :
    (fs : Features) → (acc : List Feature) → fs.dissect p acc = (fs.nodes.filter p).reverse ++ acc
  | .nil, acc => by simp [Features.dissect, Features.nodes]
  | .cons f fs, acc => by
    simp [Features.dissect, Features.nodes, Features.dissect_eq p fs, Feature.dissect_eq p f acc, List.filter_append]
end

theorem mem_dissect (p : Feature → Bool) (f e : Feature) : e ∈ f.dissect p [] ↔ e ∈ f.nodes ∧ p e = true := by
  simp [Feature.dissect_eq]

theorem dissect_isEmpty (p : Feature → Bool) (f : Feature) : (f.dissect p []).isEmpty = !f.nodes.any p := by
  rw [Feature.dissect_eq, List.append_nil, List.isEmpty_reverse, Bool.eq_iff_iff, List.isEmpty_iff, List.filter_eq_nil_iff,
    Bool.not_eq_true', List.any_eq_false]

/-- `cls.dissect(*features)` is the filtered, reversed list of the nodes of all the features -/
theorem dissectAll_eq (p : Feature → Bool) (fs : List Feature) :
    dissectAll p fs = ((fs.flatMap Feature.nodes).filter p).reverse := by
  simp [dissectAll, Feature.dissect_eq, List.flatMap, List.filter_flatten, List.reverse_flatten, Function.comp_def]

theorem mem_dissectAll (p : Feature → Bool) (fs : List Feature) (e : Feature) :
    e ∈ dissectAll p fs ↔ ∃ f ∈ fs, e ∈ f.nodes ∧ p e = true := by
  rw [dissectAll_eq, List.mem_reverse, List.mem_filter, List.mem_flatMap]
  exact ⟨fun ⟨⟨f, hf, he⟩, hp⟩ => ⟨f, hf, he, hp⟩, fun ⟨f, hf, he, hp⟩ => ⟨⟨f, hf, he⟩, hp⟩⟩

theorem memBy_struct (x : Feature) (ys : List Feature) : memBy structEqv x ys = true ↔ x ∈ ys := by
  unfold memBy structEqv
  simp only [List.any_eq_true, decide_eq_true_eq, exists_eq_right]

theorem subsetBy_struct (xs ys : List Feature) : subsetBy structEqv xs ys = true ↔ ∀ x ∈ xs, x ∈ ys := by
  unfold subsetBy
  simp only [List.all_eq_true, memBy_struct]

theorem mem_elements (f e : Feature) : e ∈ f.elements ↔ e ∈ f.nodes ∧ e.isElem = true := by
  simp [Feature.elements]

/-- the elements a list of features is composed of, as `Element.dissect(*features)` collects them -/
theorem mem_dissectAll_elem (fs : List Feature) (e : Feature) :
    e ∈ dissectAll Feature.isElem fs ↔ e ∈ fs.flatMap Feature.elements := by
  rw [mem_dissectAll]
  simp only [List.mem_flatMap, mem_elements]

theorem subset_dissect_within (f : Feature) (sup avail : List Feature) (h : ∀ e, e ∈ sup ↔ e ∈ avail) :
    subsetBy structEqv (f.dissect Feature.isElem []) sup = true ↔ f.within avail = true := by
  rw [subsetBy_struct]
  unfold Feature.within
  simp only [List.all_eq_true, List.contains_iff_mem, mem_dissect, ← mem_elements, h]

theorem subset_dissectAll_within (fs : List Feature) (sup avail : List Feature) (h : ∀ e, e ∈ sup ↔ e ∈ avail) :
    subsetBy structEqv (dissectAll Feature.isElem fs) sup = true ↔ ∀ f ∈ fs, f.within avail = true := by
  rw [subsetBy_struct]
  unfold Feature.within
  simp only [List.all_eq_true, List.contains_iff_mem, mem_dissectAll_elem, List.mem_flatMap, h]
  constructor
  · intro H f hf e he
    exact H e ⟨f, hf, he⟩
  · rintro H e ⟨f, hf, he⟩
    exact H f hf e he

end ForML.Dsl
