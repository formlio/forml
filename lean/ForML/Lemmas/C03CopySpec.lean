/-
`Segment.copy` of an apply region evaluates the region's function on another input: given an alternative valuation `Wx`
of the region (the same local equations — `GoodNode` in `W.alt Wx` —, the trainers' publishers carrying the values of the
actual valuation, another value at the head), the copies carry the values of `Wx` and keep the ranks and the groups of
their originals; the copy of the head is a fresh hole.
-/
import ForML.Lemmas.C03Closure
import ForML.Lemmas.C03Copy

namespace ForML.Compose

/-- `W` with the values of `Wx`: a region node is good in it when its local equation holds of the values of `Wx` with the
references and ranks of `W` -/
def World.alt (W Wx : World) : World := ⟨Wx.σ, W.h, W.live⟩

/-- the valuation after the copy: a copy carries the alternative value and the rank of its original -/
def copyWorld (W Wx : World) (copies : List (Nat × Nat)) : World :=
  { σ := fun p => match origOf copies p.node with
      | some u => Wx.σ ⟨u, p.idx⟩
      | none => W.σ p
    h := fun n => match origOf copies n with
      | some u => W.h u
      | none => W.h n
    live := fun n => (∃ u, copies.lookup u = some n) ∨ W.live n }

structure CopyOk (g g' : Graph) (W Wx W' : World) (seg c : Segment) : Prop where
  inv : Inv g' W'
  wired : Wired g'
  frame : Frame g g'
  agree : Agree g.next W W'
  trains : g'.trains = g.trains
  head_ge : g.next ≤ c.head
  head_open : g'.isOpen c.head
  head_free : ∀ k, g'.inputOf c.head k = none
  head_live : W'.live c.head
  head_rank : W'.h c.head = W.h seg.head
  head_val : ∀ i, W'.σ ⟨c.head, i⟩ = Wx.σ ⟨seg.head, i⟩
  tail_ge : g.next ≤ c.tail
  tail_live : W'.live c.tail
  tail_val : W'.σ ⟨c.tail, 0⟩ = Wx.σ ⟨seg.tail, 0⟩
  /-- every new evaluable node is the copy of a node of the region: same kind (group!), same rank -/
  copies : ∀ n, g.next ≤ n → W'.live n → ∃ u, W.live u ∧ Reach g seg.head u ∧ g'.kindOf n = g.kindOf u ∧ W'.h n = W.h u ∧
    (u = seg.head ↔ n = c.head)
  /-- the copies subscribe to copies only -/
  closed : ∀ s k q, g.next ≤ s → g'.inputOf s k = some q → g.next ≤ q.node
  /-- the copy of the head reaches the copy of the tail -/
  reach : Reach g' c.head c.tail
  /-- the copy of the head is the only new hole -/
  notOpen : ∀ n, g.next ≤ n → W'.live n → n ≠ c.head → ¬ g'.isOpen n

structure Region (g : Graph) (W Wx : World) (seg : Segment) (lo : Nat) : Prop where
  headLive : W.live seg.head
  headKind : g.kindOf seg.head = some .future
  reachLo : ∀ n, Reach g seg.head n → lo ≤ n
  reg : ∀ n, Reach g seg.head n → n ≠ seg.head →
    W.live n ∧ ∀ k q, g.inputOf n k = some q → Reach g seg.head q.node
  tail : Reach g seg.head seg.tail
  alt : ∀ n, Reach g seg.head n → n ≠ seg.head → GoodNode g (W.alt Wx) n ∧ ¬ g.isOpen n
  /-- the publishers the region's groups are trained on carry the same values in both valuations -/
  states : ∀ n gid a i o t, Reach g seg.head n → g.kindOf n = some (.worker gid a i o) → g.trainerOf gid = some t →
    Wx.σ t.train = W.σ t.train ∧ Wx.σ t.label = W.σ t.label
  headIn : ∀ k q, g.inputOf seg.head k = some q → q.node < lo

theorem Region.copy {g : Graph} {W Wx : World} {seg : Segment} {lo : Nat} (hr : Region g W Wx seg lo) (hi : Inv g W)
    (hw : Wired g) : ∃ c g' W', Run (copySegment seg) g c g' ∧ CopyOk g g' W Wx W' seg c := by
  obtain ⟨hhl, hhk, hlo, hreg, htail, hx, hs, hin⟩ := hr
  have hq0 : ∀ k q, g.inputOf seg.head k = some q → ¬ Reach g seg.head q.node := fun k q hq hre =>
    Nat.lt_irrefl _ (Nat.lt_of_lt_of_le (hin k q hq) (hlo _ hre))
  have hb := hi.bounded
  have hlt : ∀ n, W.live n → n < g.next := fun n hn => (hi.liveLt n hn).1
  have live_of_reach : ∀ u, Reach g seg.head u → W.live u := fun u hr =>
    if e : u = seg.head then e ▸ hhl else (hreg u hr e).1
  have hhead_lt : seg.head < g.next := hlt _ hhl
  have htail_lt : seg.tail < g.next := hlt _ (live_of_reach _ htail)
  obtain ⟨M, hM⟩ : ∃ M, M = g.between seg.head seg.tail := ⟨_, rfl⟩
  obtain ⟨ns, hns⟩ : ∃ ns, ns = g.nodes.filter (fun n => M.contains n.uid) := ⟨_, rfl⟩
  obtain ⟨copies, hcopies⟩ : ∃ c, c = copyMap g.next ns := ⟨_, rfl⟩
  obtain ⟨g1, hg1⟩ : ∃ x, x = addCopies g ns := ⟨_, rfl⟩
  obtain ⟨g2, hg2⟩ : ∃ x, x = addEdges copies g1 g.edges := ⟨_, rfl⟩
  have memM : ∀ u, u ∈ M ↔ (∃ n ∈ g.nodes, n.uid = u) ∧ Reach g seg.head u ∧ Reach g u seg.tail := by
    intro u; rw [hM]; exact mem_between hb hw hhead_lt htail_lt
  have inM : ∀ u, Reach g seg.head u → Reach g u seg.tail → u ∈ M := fun u h1 h2 =>
    let ⟨_, hk⟩ := (hi.good u (live_of_reach u h1)).kind
    let ⟨n, hn, hu, _⟩ := kindOf_eq_some hk
    (memM u).mpr ⟨⟨n, hn, hu⟩, h1, h2⟩
  have headM : seg.head ∈ M := inM _ Reach.refl htail
  have tailM : seg.tail ∈ M := inM _ htail Reach.refl
  have lk_some : ∀ u, u ∈ M → ∃ c, copies.lookup u = some c := by
    intro u hu
    obtain ⟨⟨n, hn, hnu⟩, _, _⟩ := (memM u).mp hu
    rw [hcopies]
    apply copyMap_some
    refine ⟨n, ?_, hnu⟩
    rw [hns, List.mem_filter]
    exact ⟨hn, by rw [hnu]; simpa using hu⟩
  have lk : ∀ u c, copies.lookup u = some c → (g.next ≤ c ∧ c < g.next + ns.length) ∧ origOf copies c = some u ∧
      u ∈ M ∧ g1.kindOf c = g.kindOf u := by
    intro u c h
    rw [hcopies] at h ⊢
    rw [hg1]
    obtain ⟨h1, h2, n, hn, hk⟩ := copyMap_lookup ns g u c hb.nodesLt h
    rw [hns, find?_filter_uid] at hn
    split at hn
    · exact ⟨h1, h2, List.contains_iff_mem.mp ‹_›, hk.trans (by unfold Graph.kindOf; rw [hn]; rfl)⟩
    · cases hn
  have lk_M : ∀ u c, copies.lookup u = some c → u ∈ M := fun u c h => (lk u c h).2.2.1
  have lk_range : ∀ u c, copies.lookup u = some c → g.next ≤ c ∧ c < g2.next := by
    intro u c h
    rw [hg2, addEdges_next, hg1, addCopies_next]
    exact (lk u c h).1
  have lk_inj : ∀ u1 u2 c, copies.lookup u1 = some c → copies.lookup u2 = some c → u1 = u2 :=
    fun u1 u2 c h1 h2 => Option.some.inj ((lk u1 c h1).2.1.symm.trans (lk u2 c h2).2.1)
  have lk_orig : ∀ u c, copies.lookup u = some c → origOf copies c = some u := fun u c h => (lk u c h).2.1
  have orig_old : ∀ n, n < g.next → origOf copies n = none := by
    intro n hn; rw [hcopies]; exact origOf_none_of_lt _ _ _ hn
  have lk_kind : ∀ u c, copies.lookup u = some c → g2.kindOf c = g.kindOf u := fun u c h => by
    rw [hg2, addEdges_kindOf]; exact (lk u c h).2.2.2
  obtain ⟨ch, hch⟩ := lk_some _ headM
  obtain ⟨ct, hct⟩ := lk_some _ tailM
  have hpw1 : g.edges.Pairwise (fun a b => ∀ a' b', edgeImage copies a = some a' → edgeImage copies b = some b' →
      ¬ (a'.sub = b'.sub ∧ a'.port = b'.port)) := by
    refine hw.nodup.imp ?_
    intro a b hab a' b' ha hb' hk
    obtain ⟨sa, pa, hsa, _, rfl⟩ := edgeImage_eq_some ha
    obtain ⟨sb, pb, hsb, _, rfl⟩ := edgeImage_eq_some hb'
    exact hab ⟨lk_inj _ _ _ hsa ((show sa = sb from hk.1) ▸ hsb), hk.2⟩
  have hn2 : g2.next = g.next + ns.length := by rw [hg2, addEdges_next, hg1, addCopies_next]
  have hb1 : Bounded g1 := by
    rw [hg1]
    apply addCopies_bounded ns g hb
    intro n hn gid a i o hk
    rw [hns] at hn
    exact hb.gidsLt n (List.mem_filter.mp hn).1 gid a i o hk
  obtain ⟨hce, hb2, hw2⟩ : Run (copyEdges copies g.edges) g1 () g2 ∧ Bounded g2 ∧ Wired g2 := by
    rw [hg2]
    refine copyEdges_spec copies g.edges g1 hb1 (by rw [hg1]; exact addCopies_wired ns g hw) ?_ hpw1
    intro e _ e' himg
    obtain ⟨s, p, hs, hp, rfl⟩ := edgeImage_eq_some himg
    have hn1 : g1.next = g2.next := by rw [hg2, addEdges_next]
    exact ⟨(hg1 ▸ addCopies_inputOf ns g _ _).trans (hb.inputOf_none (lk_range _ _ hs).1 _), hn1 ▸ (lk_range _ _ hs).2, hn1 ▸ (lk_range _ _ hp).2⟩
  -- every lookup below is a membership
  have in2 : ∀ s k q, g2.inputOf s k = some q ↔
      g.inputOf s k = some q ∨ ∃ e ∈ g.edges, edgeImage copies e = some ⟨s, k, q⟩ := by
    intro s k q
    rw [hw2.input_append hw (by rw [hg2, addEdges_eq, hg1, addCopies_edges]), List.mem_filterMap]
  have in_img : ∀ u c k (q : PubRef) p, copies.lookup u = some c → g.inputOf u k = some q → copies.lookup q.node = some p →
      g2.inputOf c k = some ⟨p, q.idx⟩ := fun u c k q p hu hq hp =>
    (in2 c k _).mpr (Or.inr ⟨⟨u, k, q⟩, inputOf_mem hq, by simp [edgeImage, hu, hp]⟩)
  have in_new : ∀ s k q, g.next ≤ s → g2.inputOf s k = some q → ∃ u q0, copies.lookup u = some s ∧ g.inputOf u k = some q0 ∧
      copies.lookup q0.node = some q.node ∧ q.idx = q0.idx := by
    intro s k q hs hq
    rcases (in2 s k q).mp hq with h | ⟨e, he, himg⟩
    · exact nomatch (hb.inputOf_none hs k).symm.trans h
    · obtain ⟨s', p, hs', hp, h⟩ := edgeImage_eq_some himg
      cases h
      exact ⟨e.sub, e.pub, hs', hw.keys e he, hp, rfl⟩
  have in_old : ∀ u k, u < g.next → g2.inputOf u k = g.inputOf u k := by
    intro u k hu
    refine Option.ext fun q => (in2 u k q).trans ⟨?_, Or.inl⟩
    rintro (h | ⟨e, _, himg⟩)
    · exact h
    · obtain ⟨s', p, hs', _, h⟩ := edgeImage_eq_some himg
      cases h
      exact absurd hu (Nat.not_lt.mpr (lk_range _ _ hs').1)
  have hrun : Run (copySegment seg) g ⟨ch, ct⟩ g2 := by
    have hcn := run_copyNodes ns g
    rw [← hcopies, ← hg1] at hcn
    subst hns hM
    unfold copySegment
    refine Run.bind (show Run GraphM.get g g g from rfl) (Run.bind hcn (Run.bind hce ?_))
    simp only [hch, hct]
    exact Run.pure _ _
  have htr2 : g2.trains = g.trains := by rw [hg2, addEdges_trains, hg1, addCopies_trains]
  have htof : ∀ gid, g2.trainerOf gid = g.trainerOf gid := fun gid => by unfold Graph.trainerOf; rw [htr2]
  have hf2 : Frame g g2 := by
    refine ⟨by omega, ?_, fun u k hu => in_old u k hu, ?_⟩
    · intro u hu
      rw [hg2, addEdges_kindOf, hg1]; exact addCopies_kindOf_old ns g u hu
    · exact fun gid _ => htof gid
  let W' := copyWorld W Wx copies
  have σc : ∀ u c i, copies.lookup u = some c → W'.σ ⟨c, i⟩ = Wx.σ ⟨u, i⟩ := by
    intro u c i h
    show (match origOf copies c with | some u => Wx.σ ⟨u, i⟩ | none => W.σ ⟨c, i⟩) = _
    rw [lk_orig u c h]
  have hc : ∀ u c, copies.lookup u = some c → W'.h c = W.h u := by
    intro u c h
    show (match origOf copies c with | some u => W.h u | none => W.h c) = _
    rw [lk_orig u c h]
  have lc : ∀ u c, copies.lookup u = some c → W'.live c := fun u c h => Or.inl ⟨u, h⟩
  have σo : ∀ p : PubRef, p.node < g.next → W'.σ p = W.σ p := by
    intro p hp
    show (match origOf copies p.node with | some u => Wx.σ ⟨u, p.idx⟩ | none => W.σ p) = _
    rw [orig_old _ hp]
  have ho : ∀ n, n < g.next → W'.h n = W.h n := by
    intro n hn
    show (match origOf copies n with | some u => W.h u | none => W.h n) = _
    rw [orig_old _ hn]
  have hag : Agree g.next W W' := by
    intro n hn
    refine ⟨⟨?_, fun h => Or.inr h⟩, ho n hn, fun i => σo ⟨n, i⟩ hn⟩
    rintro (⟨u, hu⟩ | h)
    · exact absurd hn (Nat.not_lt.mpr (lk_range u n hu).1)
    · exact h
  have refOld : ∀ (q : PubRef) (r : Nat), RefOk W q r → RefOk W' q r ∧ W'.σ q = W.σ q := by
    intro q r hq
    have hlq := hlt _ hq.1
    exact ⟨⟨Or.inr hq.1, by rw [ho _ hlq]; exact hq.2⟩, σo q hlq⟩
  have liveM : ∀ u, u ∈ M → W.live u := fun u hu => live_of_reach u ((memM u).mp hu).2.1
  have inputM : ∀ u k q, u ∈ M → u ≠ seg.head → g.inputOf u k = some q → q.node ∈ M := by
    intro u k q hu hne hq
    obtain ⟨_, hr1, hr2⟩ := (memM u).mp hu
    have hrq : Reach g seg.head q.node := (hreg u hr1 hne).2 k q hq
    obtain ⟨qn, qi⟩ := q
    exact inM _ hrq (reach_head_step hq hr2)
  have head_in : ∀ k, g2.inputOf ch k = none := by
    intro k
    cases h : g2.inputOf ch k with
    | none => rfl
    | some q =>
      obtain ⟨u, q0, hu, hq0', hp, _⟩ := in_new ch k q (lk_range _ _ hch).1 h
      rw [lk_inj _ _ _ hu hch] at hq0'
      exact absurd ((memM _).mp (lk_M _ _ hp)).2.1 (hq0 k q0 hq0')
  have hopen : g2.isOpen ch := ⟨(lk_kind _ _ hch).trans hhk, head_in 0⟩
  -- a copy is good: its lookups are the images of those of its original, whose alternative constraint it inherits;
  -- like its original it is no hole, the copy of the head apart
  have good : ∀ n, W'.live n → g.next ≤ n → GoodNode g2 W' n ∧ (n ≠ ch → ¬ g2.isOpen n) := by
    rintro c (⟨u, hu⟩ | hl) hge
    · have huM := lk_M u c hu
      by_cases ehead : u = seg.head
      · subst ehead
        rw [Option.some.inj (hu.symm.trans hch)]
        exact ⟨.hole hopen, fun h => absurd rfl h⟩
      · have ref : ∀ k q, g.inputOf u k = some q → RefOk W q (W.h u) → ∃ p, copies.lookup q.node = some p ∧
            g2.inputOf c k = some ⟨p, q.idx⟩ ∧ RefOk W' ⟨p, q.idx⟩ (W'.h c) := by
          intro k q hq hr
          obtain ⟨p, hp⟩ := lk_some _ (inputM u k q huM ehead hq)
          refine ⟨p, hp, in_img u c k q p hu hq hp, lc _ _ hp, ?_⟩
          show W'.h p < W'.h c
          rw [hc _ _ hp, hc _ _ hu]; exact hr.2
        rcases (hx u ((memM u).mp huM).2.1 ehead).1.cases with ho | ⟨q, hk, hq, hr, hσ⟩ |
          ⟨gid, a, szin, szout, ins, st, hk, hins, hst, hσ⟩
        · exact absurd ho (hx u ((memM u).mp huM).2.1 ehead).2
        · obtain ⟨p, hp, hin, hrp⟩ := ref 0 q hq hr
          exact ⟨.bound ((lk_kind u c hu).trans hk) hin hrp fun i => by rw [σc u c i hu, σc q.node p q.idx hp]; exact hσ i,
            fun _ ho => nomatch ho.2.symm.trans hin⟩
        · have img : ∀ k, k < szin → ∃ p, copies.lookup (ins k).node = some p ∧
              g2.inputOf c k = some ⟨p, (ins k).idx⟩ ∧ RefOk W' ⟨p, (ins k).idx⟩ (W'.h c) :=
            fun k hk' => ref k _ (hins k hk').1 (hins k hk').2
          refine ⟨.worker (st := st) ((lk_kind u c hu).trans hk)
            (fun k => ⟨(copies.lookup (ins k).node).getD 0, (ins k).idx⟩) (fun k hk' => ?_) ?_ fun i => ?_,
            fun _ ho => nomatch ho.1.symm.trans ((lk_kind u c hu).trans hk)⟩
          · obtain ⟨p, hp, hin, hrp⟩ := img k hk'
            rw [hp]; exact ⟨hin, hrp⟩
          · rw [hc _ _ hu]
            -- the trainer's publishers are old and carry the same values in `W` and `Wx`: the copy shares the state
            refine hst.transfer (htof gid) fun t q htr hq hrq => ?_
            have e := hs u gid a szin szout t ((memM u).mp huM).2.1 hk htr
            refine ⟨(refOld q _ hrq).1, (refOld q _ hrq).2.trans ?_⟩
            rcases hq with rfl | rfl
            · exact e.1.symm
            · exact e.2.symm
          · rw [σc u c i hu, show Wx.σ ⟨u, i⟩ = _ from hσ i]
            congr 2
            apply List.map_congr_left
            intro k hk'
            obtain ⟨p, hp, _⟩ := img k (List.mem_range.mp hk')
            rw [hp]; exact (σc (ins k).node p (ins k).idx hp).symm
    · exact absurd (hlt _ hl) (Nat.not_lt.mpr hge)
  have hinv : Inv g2 W' := by
    refine Inv.extend hi hf2 hb2 hag ?_ fun n hl hge => (good n hl hge).1
    rintro n (⟨u, hu⟩ | hl)
    · refine ⟨(lk_range u n hu).2, ?_⟩
      rw [hc _ _ hu]
      exact Nat.lt_of_lt_of_le (hi.liveLt u (liveM u (lk_M u n hu))).2 hf2.next_le
    · rw [ho n (hlt n hl)]
      exact ⟨Nat.lt_of_lt_of_le (hlt n hl) hf2.next_le, Nat.lt_of_lt_of_le (hi.liveLt n hl).2 hf2.next_le⟩
  have hreach : ∀ n, Reach g seg.head n → Reach g n seg.tail → ∃ cn, copies.lookup n = some cn ∧ Reach g2 ch cn := by
    intro n hre
    induction hre with
    | refl => intro _; exact ⟨ch, hch, Reach.refl⟩
    | step hp he ih =>
      rename_i p s k i
      intro hst
      have hpt : Reach g p seg.tail := reach_head_step he hst
      obtain ⟨cp, hcp, hrcp⟩ := ih hpt
      have hrs : Reach g seg.head s := Reach.step hp he
      obtain ⟨cs, hcs⟩ := lk_some _ (inM _ hrs hst)
      exact ⟨cs, hcs, Reach.step hrcp (in_img s cs k ⟨p, i⟩ cp hcs he hcp)⟩
  obtain ⟨ct', hct', hrt⟩ := hreach _ htail Reach.refl
  have ect : ct' = ct := by rw [hct] at hct'; cases hct'; rfl
  refine ⟨⟨ch, ct⟩, g2, W', hrun, hinv, hw2, hf2, hag, htr2, (lk_range _ _ hch).1, hopen, head_in, lc _ _ hch, hc _ _ hch,
    fun i => σc _ _ i hch, (lk_range _ _ hct).1, lc _ _ hct, σc _ _ 0 hct, ?_, ?_, ect ▸ hrt, ?_⟩
  · intro n hn hl
    rcases hl with ⟨u, hu⟩ | hl
    · have huM := lk_M u n hu
      refine ⟨u, liveM u huM, ((memM u).mp huM).2.1, lk_kind u n hu, hc u n hu, ?_⟩
      constructor
      · intro e; subst e; rw [hch] at hu; cases hu; rfl
      · intro e
        have e' : n = ch := e
        subst e'; exact lk_inj _ _ _ hu hch
    · have := hlt _ hl; omega
  · intro s k q hs hq
    obtain ⟨u, q0, _, _, hq0', _⟩ := in_new s k q hs hq
    exact (lk_range _ _ hq0').1
  · exact fun n hn hl hne => (good n hl hn).2 hne

end ForML.Compose
