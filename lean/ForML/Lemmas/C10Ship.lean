/-
C10 — the delivery semantic survives construction from every spelling / from the enum member and
every reconstruction of the ordinal specs (cloudpickle, copy, deepcopy: the namedtuple is rebuilt
through `Ordinal.__new__`; stdlib `pickle` refuses an `Ordinal` outright), so a launch whose
extraction components crossed a process boundary delivers what the local launch delivers.
-/
import ForML.Props.C10
import ForML.Model.OrdinalShip

namespace ForML.Ordinal

/-- the constructor resolves: nothing / `''` ↦ exactly-once (the documented default), a member ↦
itself, a spelling ↦ what `Once(spelling)` says -/
theorem C10_ordinal_new (m : Once) (s : String) (hs : s ≠ "") :
    ordinalNew .none = .ok .exactly ∧ ordinalNew (.str "") = .ok .exactly ∧
    ordinalNew (.member m) = .ok m ∧ ordinalNew (.str s) = parseOnce s := by
  simp [ordinalNew, ordinalNewWith, OnceArg.truthy, onceCall, hs]

/-- the string constructor of Model/Ordinal (`ordinalOnce`) is the string part of `ordinalNew` -/
theorem C10_ordinal_new_str (s : Option String) :
    ordinalNew (match s with | none => .none | some s => .str s) = ordinalOnce s := by
  cases s with
  | none => rfl
  | some s => simp [ordinalNew, ordinalNewWith, OnceArg.truthy, onceCall, ordinalOnce]

private theorem alias_nonempty : ∀ p ∈ aliasTable, p.1 ≠ "" := by
  decide +kernel

/-- other letter cases of a spelling go through the lower-casing of `parseOnce` and are not part of
this statement -/
theorem C10_member_same_as_spelling :
    ∀ p ∈ aliasTable, ordinalNew (.str p.1) = ordinalNew (.member p.2) := by
  intro p hp
  have h := C10_ordinal_new p.2 p.1 (alias_nonempty p hp)
  rw [h.2.2.2, h.2.2.1]
  exact C10_aliases_consistent.1 p hp

/-- **reconstruction is the identity**: whatever specs exist, `cls.__new__(cls, *__getnewargs__())`
rebuilds exactly them — same column, same semantic -/
theorem C10_reconstruct_id (o : OrdinalSpec) : o.reconstruct = .ok o := by
  cases o
  simp [OrdinalSpec.reconstruct, OrdinalSpec.reconstructWith, OrdinalSpec.newWith, OrdinalSpec.newargs,
    ordinalNewWith, OnceArg.truthy, onceCall]

/-- **reconstruct ∘ construct**: for every column and every way of naming the semantic (nothing, a
spelling, the member) that the constructor accepts, the reconstructed specs have the same column
and the same semantic as the constructed ones — and the semantic is the one the argument names -/
theorem C10_construct_reconstruct (col : Nat) (a : OnceArg) (o : OrdinalSpec)
    (h : OrdinalSpec.new col a = .ok o) :
    o.reconstruct = .ok o ∧ o.column = col ∧ ordinalNew a = .ok o.once := by
  refine ⟨C10_reconstruct_id o, ?_⟩
  unfold OrdinalSpec.new OrdinalSpec.newWith at h
  unfold ordinalNew
  cases hn : ordinalNewWith onceCall a with
  | error e => simp [hn] at h
  | ok m =>
    simp only [hn, Except.ok.injEq] at h
    subst h
    exact ⟨rfl, rfl⟩

/-- what the constructor refuses, it refuses before anything is shipped (a `ValueError` for an
unknown spelling): there are no specs whose reconstruction fails -/
theorem C10_reconstruct_total (o : OrdinalSpec) : ∃ o', o.reconstruct = .ok o' := ⟨o, C10_reconstruct_id o⟩

/-- every spelling of the alias table, the member and the default, constructed and then
reconstructed: the semantic is the one named -/
theorem C10_spelling_reconstruct (col : Nat) :
    (∀ p ∈ aliasTable, ∃ o, OrdinalSpec.new col (.str p.1) = .ok o ∧ o.once = p.2 ∧ o.reconstruct = .ok o) ∧
    (∀ m : Once, ∃ o, OrdinalSpec.new col (.member m) = .ok o ∧ o.once = m ∧ o.reconstruct = .ok o) ∧
    (∃ o, OrdinalSpec.new col .none = .ok o ∧ o.once = .exactly ∧ o.reconstruct = .ok o) := by
  refine ⟨?_, ?_, ?_⟩
  · intro p hp
    have hm : ordinalNewWith onceCall (.str p.1) = .ok p.2 := C10_member_same_as_spelling p hp
    refine ⟨⟨col, p.2⟩, ?_, rfl, C10_reconstruct_id _⟩
    simp [OrdinalSpec.new, OrdinalSpec.newWith, hm]
  · intro m
    exact ⟨⟨col, m⟩, rfl, rfl, C10_reconstruct_id _⟩
  · exact ⟨⟨col, .exactly⟩, rfl, rfl, C10_reconstruct_id _⟩

theorem C10_ship_id (n : Nat) (o : Option OrdinalSpec) : shipN n o = .ok o := by
  induction n with
  | zero => rfl
  | succ n ih =>
    cases o with
    | none => simpa [shipN, shipOrdinal] using ih
    | some s => simpa [shipN, shipOrdinal, C10_reconstruct_id s] using ih

/-- necessity of the member branch: a constructor that resolves spellings only (and lets every other
argument fall back to the default) turns reconstructed at-least-once specs into exactly-once ones —
the semantic would silently change whenever the specs cross a process boundary -/
theorem C10_reconstruct_stronly_counterexample :
    ¬ (∀ o : OrdinalSpec, o.reconstructWith onceCallStrOnly = .ok o) := by
  intro h
  have := h ⟨0, .atleast⟩
  revert this
  decide

/-- … while for spellings that constructor is indistinguishable from the real one (which is why a
test that builds the source in-process cannot tell them apart) -/
theorem C10_stronly_same_on_strings (col : Nat) (s : Option String) :
    OrdinalSpec.newWith onceCallStrOnly col (match s with | none => .none | some s => .str s)
      = OrdinalSpec.new col (match s with | none => .none | some s => .str s) := by
  cases s with
  | none => rfl
  | some s => rfl

section
variable {α : Type} [LE α] [LT α] [DecidableLE α] [DecidableLT α] [DecidableEq α]

/-- **shipping does not change what is delivered**: however many times the components that carry
the ordinal specs (the `Ordinal`, the driver's `extract.Statement`, the driver actor builder) are
sent through a round trip before the driver runs, every window delivers what the unshipped launch
delivers (and what is refused is refused identically) -/
theorem C10_shipped_windows (kindOf : Nat → Kind) (ordinal : Option Nat) (a : OnceArg) (n : Nat)
    (wins : List (Option (Raw α) × Option (Raw α))) (data : List α) :
    sourceWindows kindOf ordinal a n wins data = sourceWindows kindOf ordinal a 0 wins data := by
  unfold sourceWindows
  cases extractNew ordinal a with
  | error e => rfl
  | ok o => simp [C10_ship_id n o, shipN]

/-- the source constructor resolves the semantic as `ordinalNew` does, and refuses a semantic given
without an ordinal column -/
theorem C10_extract_new (c : Nat) (a : OnceArg) :
    (extractNew (some c) a = (match ordinalNew a with | .ok m => .ok (some ⟨c, m⟩) | .error e => .error e)) ∧
    (extractNew none a = if a.truthy then .error .invalidError else .ok none) := by
  constructor
  · unfold extractNew OrdinalSpec.new OrdinalSpec.newWith ordinalNew
    cases ordinalNewWith onceCall a <;> rfl
  · rfl

/-- `sourceWindows` for a source built from a member and for one built from any of its spellings
are the same history -/
theorem C10_member_windows (kindOf : Nat → Kind) (c : Nat) (n : Nat)
    (wins : List (Option (Raw α) × Option (Raw α))) (data : List α) :
    ∀ p ∈ aliasTable, sourceWindows kindOf (some c) (.str p.1) n wins data
      = sourceWindows kindOf (some c) (.member p.2) n wins data := by
  intro p hp
  have h := C10_member_same_as_spelling p hp
  unfold sourceWindows extractNew OrdinalSpec.new OrdinalSpec.newWith
  unfold ordinalNew at h
  rw [h]

end

example : OrdinalSpec.new 3 (.str "At-Least-Once") = .ok ⟨3, .atleast⟩ := by decide +kernel
example : (⟨3, .atleast⟩ : OrdinalSpec).reconstruct = .ok ⟨3, .atleast⟩ := by decide +kernel
example : (⟨3, .atleast⟩ : OrdinalSpec).reconstructWith onceCallStrOnly = .ok ⟨3, .exactly⟩ := by decide +kernel
example : OrdinalSpec.new 3 (.str "twice") = .error .valueError := by decide +kernel
example : extractNew none (.member .atmost) = .error .invalidError := by decide +kernel
example : sourceWindows (fun _ => Kind.integer) (some 0) (.member .atleast) 2
    [(some ⟨.int, (1 : Int), true⟩, some ⟨.int, 3, true⟩), (some ⟨.int, 3, true⟩, some ⟨.int, 5, true⟩)] [0, 1, 3, 5, 6]
    = .ok [.ok [1, 2], .ok [2, 3]] := by decide +kernel

end ForML.Ordinal
