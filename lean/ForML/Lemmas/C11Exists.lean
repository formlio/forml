/-
Tracing with an explicit tail (`exists` of `Traversal.tail(expected)`).
The search is depth first and stops at the first hit (`any`), so a cycle beside the found path goes unnoticed (by
design); what it answers is still exact.
-/
import ForML.Model.Graph

namespace ForML.Graph

/-- a walk over mapper subscriptions (as `mappers(expected)` yields them) -/
def TrailE (g : G) (t : Nat) : Nat → List Nat → Prop
  | _, [] => True
  | p, y :: ys => y ∈ mappers g p (some t) ∧ TrailE g t y ys

/-- the same walk, never stepping on a node of `ms` or on a node it has passed (`members` of the traversal) -/
def TrailM (g : G) (t : Nat) : List Nat → Nat → List Nat → Prop
  | _, _, [] => True
  | ms, p, y :: ys => y ∈ mappers g p (some t) ∧ memNode g y ms = false ∧ TrailM g t (y :: ms) y ys

theorem TrailM.trailE {g : G} {t : Nat} : ∀ {ys : List Nat} {ms : List Nat} {p : Nat}, TrailM g t ms p ys → TrailE g t p ys := by
  intro ys
  induction ys with
  | nil => intro _ _ _; trivial
  | cons y ys ih => intro ms p h; exact ⟨h.1, ih h.2.2⟩

/-- one step of the fold of `existsT` -/
def estep (fuel : Nat) (g : G) (t : Nat) (ms : List Nat) (acc : Found) (n : Nat) : Found :=
  match acc with
  | .notFound => if memNode g n ms then .cyclic else existsT fuel g t n (n :: ms)
  | r => r

theorem existsT_succ (fuel : Nat) (g : G) (t p : Nat) (ms : List Nat) :
    existsT (fuel + 1) g t p ms =
      if eqNode g p t then .found else (mappers g p (some t)).foldl (estep fuel g t ms) .notFound := rfl

theorem estep_absorb (fuel : Nat) (g : G) (t : Nat) (ms : List Nat) : ∀ (ns : List Nat) (r : Found),
    r ≠ .notFound → ns.foldl (estep fuel g t ms) r = r := by
  intro ns
  induction ns with
  | nil => intro r _; rfl
  | cons n ns ih =>
    intro r hr
    simp only [List.foldl_cons]
    have : estep fuel g t ms r n = r := by
      unfold estep
      cases r with
      | notFound => exact absurd rfl hr
      | _ => rfl
    rw [this]
    exact ih r hr

/-- what the fold answers: the answer of the first child that does not answer `notFound` -/
theorem estep_fold (fuel : Nat) (g : G) (t : Nat) (ms : List Nat) : ∀ (ns : List Nat),
    (ns.foldl (estep fuel g t ms) .notFound = .notFound ∧
      ∀ n ∈ ns, memNode g n ms = false ∧ existsT fuel g t n (n :: ms) = .notFound) ∨
    (∃ n ∈ ns, ns.foldl (estep fuel g t ms) .notFound ≠ .notFound ∧
      ((memNode g n ms = true ∧ ns.foldl (estep fuel g t ms) .notFound = .cyclic) ∨
       (memNode g n ms = false ∧ existsT fuel g t n (n :: ms) = ns.foldl (estep fuel g t ms) .notFound))) := by
  intro ns
  induction ns with
  | nil => exact .inl ⟨rfl, by simp⟩
  | cons n ns ih =>
    simp only [List.foldl_cons]
    by_cases hm : memNode g n ms = true
    · have hv : estep fuel g t ms .notFound n = .cyclic := by simp [estep, hm]
      have hne : Found.cyclic ≠ Found.notFound := by decide
      rw [hv, estep_absorb fuel g t ms ns .cyclic hne]
      exact .inr ⟨n, List.mem_cons_self, hne, .inl ⟨hm, rfl⟩⟩
    · have hm' : memNode g n ms = false := by simpa using hm
      have hv : estep fuel g t ms .notFound n = existsT fuel g t n (n :: ms) := by simp [estep, hm']
      rw [hv]
      by_cases hr : existsT fuel g t n (n :: ms) = .notFound
      · rw [hr]
        rcases ih with ⟨h1, h2⟩ | ⟨m, hmem, h1, h2⟩
        · left
          refine ⟨h1, ?_⟩
          intro x hx
          rcases List.mem_cons.mp hx with rfl | hx
          · exact ⟨hm', hr⟩
          · exact h2 x hx
        · exact .inr ⟨m, List.mem_cons_of_mem _ hmem, h1, h2⟩
      · rw [estep_absorb fuel g t ms ns _ hr]
        exact .inr ⟨n, List.mem_cons_self, hr, .inr ⟨hm', rfl⟩⟩

/-- what an answer of the search means: `found` - a repetition-free walk from the pivot ends in (a node that compares
equal to) the tail; `Cyclic` - a repetition-free walk whose next step runs into a node it has passed (or a member);
`notFound` (-> `Disconnected tail`) - no walk from the pivot reaches the tail -/
def Answers (g : G) (t p : Nat) (ms : List Nat) : Found → Prop
  | .found => ∃ ys, TrailM g t ms p ys ∧ eqNode g (ys.getLastD p) t = true
  | .cyclic => ∃ ys n, TrailM g t ms p ys ∧ n ∈ mappers g (ys.getLastD p) (some t) ∧
      memNode g n (ys.reverse ++ ms) = true
  | .notFound => ∀ ys, TrailE g t p ys → eqNode g (ys.getLastD p) t = false
  | .depth => True

theorem existsT_answers (g : G) (t : Nat) : ∀ (fuel p : Nat) (ms : List Nat),
    Answers g t p ms (existsT fuel g t p ms) := by
  intro fuel
  induction fuel with
  | zero => intro p ms; exact trivial
  | succ k ih =>
    intro p ms
    rw [existsT_succ]
    by_cases he : eqNode g p t = true
    · rw [if_pos he]; exact ⟨[], trivial, he⟩
    · rw [if_neg he]
      have hfold := estep_fold k g t ms (mappers g p (some t))
      generalize (mappers g p (some t)).foldl (estep k g t ms) .notFound = r at hfold ⊢
      rcases hfold with ⟨rfl, h2⟩ | ⟨n, hn, hne, h2⟩
      · -- every child answers `notFound`: a walk goes on from one of them
        intro ys hy
        cases ys with
        | nil => simpa using he
        | cons y ys =>
          rw [List.getLastD_cons]
          exact ((h2 y hy.1).2 ▸ ih y (y :: ms) :) ys hy.2
      · rcases h2 with ⟨hm, rfl⟩ | ⟨hm, hx⟩
        · exact ⟨[], n, trivial, hn, hm⟩
        · -- the answer is that of the child `n`: its walk is prolonged by the step to `n`
          have hrec := ih n (n :: ms)
          rw [hx] at hrec
          cases r with
          | found =>
            obtain ⟨ys, hy, hl⟩ := hrec
            exact ⟨n :: ys, ⟨hn, hm, hy⟩, by rw [List.getLastD_cons]; exact hl⟩
          | cyclic =>
            obtain ⟨ys, m, hy, hmm, hmem⟩ := hrec
            refine ⟨n :: ys, m, ⟨hn, hm, hy⟩, by rw [List.getLastD_cons]; exact hmm, ?_⟩
            have e : (n :: ys).reverse ++ ms = ys.reverse ++ n :: ms := by simp
            rw [e]; exact hmem
          | notFound => exact absurd rfl hne
          | depth => exact trivial

theorem existsT_spec {g : G} {t fuel p : Nat} {ms : List Nat} {r : Found} (h : existsT fuel g t p ms = r) :
    Answers g t p ms r := h ▸ existsT_answers g t fuel p ms

theorem segment_spec (g : G) (h : Nat) (t : Option Nat) :
    ((∃ tl, segment g h t = .node tl) ∨ ∃ e, segment g h t = .err e) ∧
    (∀ tl, segment g h t = .node tl → h < g.nodes.length ∧ tl < g.nodes.length ∧
      match t with
      | some t' => tl = t' ∧ existsT (fuelOf g) g t' h [h] = .found
      | none => ∃ l, scan (fuelOf g) g h [h] = .ok [l]) ∧
    (∀ t', t = some t' → segment g h t = .err .cyclic → existsT (fuelOf g) g t' h [h] = .cyclic) ∧
    (∀ t', t = some t' → segment g h t = .err .disconnected → existsT (fuelOf g) g t' h [h] = .notFound) := by
  -- the case analysis runs on one copy of the unfolded call
  generalize hr : segment g h t = r
  -- the shape check on the tail that ends every successful tracing
  have fin : ∀ (x : Nat) (r : Res), (match g.nodes[x]? with
        | none => Res.err .noNode
        | some tn => if tn.szout > 1 then .err .simpleTail else .node x) = r →
      ((∃ tl, r = .node tl) ∨ ∃ e, r = .err e) ∧ (∀ tl, r = .node tl → tl = x ∧ x < g.nodes.length) ∧
      r ≠ .err .cyclic ∧ r ≠ .err .disconnected := by
    intro x r hx
    cases hn : g.nodes[x]? with
    | none => rw [hn] at hx; subst hx; exact ⟨.inr ⟨_, rfl⟩, fun _ => nofun, nofun, nofun⟩
    | some tn =>
      rw [hn] at hx
      simp only at hx
      split at hx
      · subst hx; exact ⟨.inr ⟨_, rfl⟩, fun _ => nofun, nofun, nofun⟩
      · subst hx
        exact ⟨.inl ⟨_, rfl⟩, fun _ h => ⟨(Res.node.inj h).symm, (List.getElem?_eq_some_iff.mp hn).1⟩, nofun, nofun⟩
  unfold segment at hr
  split at hr
  · subst hr; exact ⟨.inr ⟨_, rfl⟩, fun _ => nofun, fun _ _ => nofun, fun _ _ => nofun⟩
  · rename_i hn hh
    have hlt : h < g.nodes.length := (List.getElem?_eq_some_iff.mp hh).1
    split at hr
    · subst hr; exact ⟨.inr ⟨_, rfl⟩, fun _ => nofun, fun _ _ => nofun, fun _ _ => nofun⟩
    · simp only at hr
      split at hr
      · rename_i t'
        split at hr
        · subst hr; exact ⟨.inr ⟨_, rfl⟩, fun _ => nofun, fun _ _ => nofun, fun _ _ => nofun⟩
        · cases hex : existsT (fuelOf g) g t' h [h] with
          | found =>
            rw [hex] at hr
            obtain ⟨f1, f2, f3, f4⟩ := fin t' r hr
            exact ⟨f1, fun tl htl => ⟨hlt, (f2 tl htl).1 ▸ (f2 tl htl).2, (f2 tl htl).1, hex⟩,
              fun _ _ hc => absurd hc f3, fun _ _ hd => absurd hd f4⟩
          | cyclic =>
            rw [hex] at hr; subst hr
            exact ⟨.inr ⟨_, rfl⟩, fun _ => nofun, fun _ ht _ => Option.some.inj ht ▸ hex, fun _ _ => nofun⟩
          | notFound =>
            rw [hex] at hr; subst hr
            exact ⟨.inr ⟨_, rfl⟩, fun _ => nofun, fun _ _ => nofun, fun _ ht _ => Option.some.inj ht ▸ hex⟩
          | depth =>
            rw [hex] at hr; subst hr
            exact ⟨.inr ⟨_, rfl⟩, fun _ => nofun, fun _ _ => nofun, fun _ _ => nofun⟩
      · split at hr
        · rename_i l hscan
          obtain ⟨f1, f2, _, _⟩ := fin _ r hr
          exact ⟨f1, fun tl htl => ⟨hlt, (f2 tl htl).1 ▸ (f2 tl htl).2, l, hscan⟩, fun _ => nofun, fun _ => nofun⟩
        · subst hr; exact ⟨.inr ⟨_, rfl⟩, fun _ => nofun, fun _ => nofun, fun _ => nofun⟩
        · subst hr; exact ⟨.inr ⟨_, rfl⟩, fun _ => nofun, fun _ => nofun, fun _ => nofun⟩

end ForML.Graph
