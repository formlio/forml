/- The provider bank (C20).  Class statements and module bodies are runs of actions (`Act`, `run`): what every action
keeps, a run keeps, and so does everything built from module executions (`ExecStable`); `Bank.Path.load` is a row of
module executions (`loadPath_eq`).  Also one `Bank.add`, soundness of the bindings (`StSound`), registration of a list of
classes into one bank (`regs`), the order of search paths (`sortPaths_perm`) and worlds without registration defects
(`worldClean`). -/
import ForML.Model.Bank
import ForML.Lemmas.ListFacts

namespace ForML.Bank

theorem lookupRef_eq (r : Ref) (l : List (Ref × ClassId)) : lookupRef r l = l.lookup r :=
  lookup_eq_of_eqns (fun _ => rfl) (fun _ _ _ _ => rfl) r l

theorem findMod_eq (m : Mod) (w : World) : findMod m w = w.lookup m :=
  lookup_eq_of_eqns (fun _ => rfl) (fun _ _ _ _ => rfl) m w

theorem lookupRef_mem {r : Ref} {i : ClassId} {l : List (Ref × ClassId)} (h : lookupRef r l = some i) : (r, i) ∈ l :=
  mem_of_lookup (lookupRef_eq r l ▸ h)

theorem setRef_isSet : IsSet setRef := ⟨fun _ _ => rfl, fun _ _ _ _ _ => rfl⟩

theorem lookupRef_setRef (r r' : Ref) (c : ClassId) (l : List (Ref × ClassId)) :
    lookupRef r (setRef r' c l) = if r' = r then some c else lookupRef r l := by
  rw [lookupRef_eq, lookupRef_eq, setRef_isSet.lookup_comm]

theorem mem_setRef {x : Ref × ClassId} {r : Ref} {c : ClassId} {l : List (Ref × ClassId)}
    (h : x ∈ setRef r c l) : x = (r, c) ∨ x ∈ l := setRef_isSet.mem h

theorem lookupRef_foldl_setRef (r : Ref) (i : ClassId) (rs : List Ref) (l : List (Ref × ClassId)) :
    lookupRef r (rs.foldl (fun pr r' => setRef r' i pr) l) = if r ∈ rs then some i else lookupRef r l := by
  induction rs generalizing l with
  | nil => simp
  | cons r' rs ih =>
    simp only [List.foldl_cons, ih, lookupRef_setRef, List.mem_cons]
    by_cases h1 : r ∈ rs
    · simp [h1]
    · by_cases h2 : r' = r
      · simp [h2]
      · have : ¬ r = r' := fun h => h2 h.symm
        simp [h1, h2, this]

theorem mem_foldl_setRef {x : Ref × ClassId} {i : ClassId} {rs : List Ref} {l : List (Ref × ClassId)}
    (h : x ∈ rs.foldl (fun pr r' => setRef r' i pr) l) : x ∈ l ∨ ∃ r ∈ rs, x = (r, i) := by
  induction rs generalizing l with
  | nil => exact Or.inl h
  | cons r' rs ih =>
    simp only [List.foldl_cons] at h
    rcases ih h with h | ⟨r, hr, hx⟩
    · rcases mem_setRef h with h | h
      · exact Or.inr ⟨r', by simp, h⟩
      · exact Or.inl h
    · exact Or.inr ⟨r, List.mem_cons_of_mem _ hr, hx⟩

theorem lookupRef_register (r : Ref) (pr : List (Ref × ClassId)) (c : ClassDef) :
    lookupRef r (register pr c) = if r ∈ refs c then some c.id else lookupRef r pr := by
  simp [register, lookupRef_foldl_setRef]

theorem mem_addPaths_left {ps : List PathE} {p : PathE} (h : p ∈ ps) (qs : List PathE) : p ∈ addPaths ps qs := by
  induction qs generalizing ps with
  | nil => simpa [addPaths] using h
  | cons q qs ih =>
    simp only [addPaths]
    apply ih
    split
    · exact h
    · exact List.mem_append_left _ h

theorem mem_addPaths {ps qs : List PathE} {p : PathE} (h : p ∈ addPaths ps qs) : p ∈ ps ∨ p ∈ qs := by
  induction qs generalizing ps with
  | nil => exact Or.inl (by simpa [addPaths] using h)
  | cons q qs ih =>
    simp only [addPaths] at h
    rcases ih h with h | h
    · split at h
      · exact Or.inl h
      · rcases List.mem_append.1 h with h | h
        · exact Or.inl h
        · simp at h; exact Or.inr (by simp [h])
    · exact Or.inr (List.mem_cons_of_mem _ h)

theorem mem_addPaths_right {ps qs : List PathE} {q : PathE} (h : q ∈ qs) : ∃ q' ∈ addPaths ps qs, q'.mod = q.mod := by
  induction qs generalizing ps with
  | nil => simp at h
  | cons q0 qs ih =>
    simp only [addPaths]
    rcases List.mem_cons.1 h with h | h
    · subst h
      split
      · rename_i ha
        obtain ⟨e, he, hm⟩ := List.any_eq_true.1 ha
        exact ⟨e, mem_addPaths_left he _, by simpa using hm⟩
      · exact ⟨q, mem_addPaths_left (by simp) _, rfl⟩
    · exact ih h

theorem addPaths_perm {ps ps' : List PathE} (h : ps.Perm ps') (qs : List PathE) :
    (addPaths ps qs).Perm (addPaths ps' qs) := by
  induction qs generalizing ps ps' with
  | nil => simpa [addPaths] using h
  | cons q qs ih =>
    simp only [addPaths]
    apply ih
    have hany : ps.any (fun e => e.mod = q.mod) = ps'.any (fun e => e.mod = q.mod) := by
      rw [Bool.eq_iff_iff]
      simp only [List.any_eq_true]
      constructor
      · rintro ⟨x, hx, hq⟩; exact ⟨x, h.mem_iff.1 hx, hq⟩
      · rintro ⟨x, hx, hq⟩; exact ⟨x, h.mem_iff.2 hx, hq⟩
    rw [hany]
    split
    · exact h
    · exact List.Perm.append_right _ h

theorem add_ok {b b1 : Bank} {c : ClassDef} (h : b.add c = .ok b1) :
    collides b c = false ∧
      b1 = ⟨if c.abstract then b.provider else register b.provider c, addPaths b.paths (c.paths.map (fun m => ⟨m, true⟩))⟩ := by
  unfold Bank.add at h
  by_cases hc : collides b c = true
  · simp [hc] at h
  · simp only [hc] at h
    by_cases ha : c.abstract = true
    · simp [ha] at h; subst h; simp [ha, hc]
    · simp [ha] at h; subst h; simp [ha, hc]

theorem lookup_after_add {b b1 : Bank} {c : ClassDef} (h : b.add c = .ok b1) (r : Ref) :
    lookupRef r b1.provider =
      if c.abstract = false ∧ r ∈ refs c then some c.id else lookupRef r b.provider := by
  obtain ⟨_, hb⟩ := add_ok h
  subst hb
  by_cases ha : c.abstract = true
  · simp [ha]
  · simp [ha, lookupRef_register]

theorem paths_after_add {b b1 : Bank} {c : ClassDef} (h : b.add c = .ok b1) :
    b1.paths = addPaths b.paths (c.paths.map (fun m => ⟨m, true⟩)) := by
  obtain ⟨_, hb⟩ := add_ok h
  subst hb
  rfl

theorem add_error {b : Bank} {c : ClassDef} {e : Err} (h : b.add c = .error e) : collides b c = true ∧ e = .collision := by
  unfold Bank.add at h
  by_cases hc : collides b c = true
  · simp [hc] at h; exact ⟨hc, h.symm⟩
  · simp only [hc] at h
    by_cases ha : c.abstract = true <;> simp [ha] at h

theorem add_of_not_collides {b : Bank} {c : ClassDef} (h : collides b c = false) : ∃ b', b.add c = .ok b' := by
  unfold Bank.add
  by_cases ha : c.abstract = true <;> simp [h, ha]

theorem metaEq_iff (a b : ClassId) : metaEq a b = true ↔ a = b := by
  obtain ⟨am, aq⟩ := a
  obtain ⟨bm, bq⟩ := b
  simp [metaEq]

theorem metaHash_of_eq (hashOf : Nat → Nat) (a b : ClassId) (h : metaEq a b = true) : metaHash hashOf a = metaHash hashOf b := by
  rw [(metaEq_iff a b).1 h]

theorem collides_false_iff (b : Bank) (c : ClassDef) :
    collides b c = false ↔ ∀ r ∈ refs c, ∀ d, lookupRef r b.provider = some d → d = c.id := by
  simp only [collides, List.any_eq_false]
  constructor
  · intro h r hr d hd
    have := h r hr
    simp only [hd, Bool.not_eq_true'] at this
    exact (metaEq_iff d c.id).1 (by simpa using this)
  · intro h r hr
    cases hd : lookupRef r b.provider with
    | none => simp
    | some d => simp [h r hr d hd, (metaEq_iff c.id c.id).2 rfl]

/-- every `reference ↦ class` binding of the bank comes from a concrete class definition in `U` that carries it -/
def BankSound (U : ClassDef → Prop) (b : Bank) : Prop :=
  ∀ r i, (r, i) ∈ b.provider → ∃ c, U c ∧ c.abstract = false ∧ r ∈ refs c ∧ c.id = i

theorem bankSound_empty (U : ClassDef → Prop) : BankSound U Bank.empty := by
  intro r i h; simp [Bank.empty] at h

theorem bankSound_add {U : ClassDef → Prop} {b b' : Bank} {c : ClassDef} (hs : BankSound U b) (hU : U c)
    (h : b.add c = .ok b') : BankSound U b' := by
  obtain ⟨_, rfl⟩ := add_ok h
  intro r i hm
  by_cases ha : c.abstract = true
  · simp [ha] at hm; exact hs r i hm
  · simp [ha] at hm
    rcases mem_foldl_setRef (by simpa [register] using hm) with hm | ⟨r', hr', hx⟩
    · exact hs r i hm
    · cases hx
      exact ⟨c, hU, by simpa using ha, hr', rfl⟩

theorem getBank_eq (i : ClassId) (l : List (ClassId × Bank)) : getBank i l = (l.lookup i).getD Bank.empty := by
  induction l with
  | nil => rfl
  | cons e r ih => rw [getBank, ih, List.lookup_cons, BEq.comm]; cases h : e.1 == i <;> simp_all

theorem setBank_isSet : IsSet setBank := ⟨fun _ _ => rfl, fun _ _ _ _ _ => rfl⟩

theorem getBank_setBank (i j : ClassId) (b : Bank) (l : List (ClassId × Bank)) :
    getBank j (setBank i b l) = if i = j then b else getBank j l := by
  rw [getBank_eq, getBank_eq, setBank_isSet.lookup_comm]
  by_cases e : i = j <;> simp [e]

theorem mem_setBank {x : ClassId × Bank} {i : ClassId} {b : Bank} {l : List (ClassId × Bank)}
    (h : x ∈ setBank i b l) : x = (i, b) ∨ x ∈ l := setBank_isSet.mem h

/-- what class statements and module bodies do to the process state, one effect at a time -/
inductive Act where
  | reg : ClassId → ClassDef → Act   -- `BANK[i].add(c, …)`
  | mark : Mod → Act                 -- the module enters `sys.modules`
  | raise : Err → Act

def act (st : St) : Act → Option St
  | .reg i c =>
    match (getBank i st.banks).add c with
    | .ok b => some { st with banks := setBank i b st.banks }
    | .error _ => none
  | .mark m => some { st with loaded := m :: st.loaded }
  | .raise _ => none

/-- `Bank.add` raises nothing but the collision error (`add_error`) -/
def Act.err : Act → Err
  | .raise e => e
  | _ => .collision

/-- actions one after the other: the first that raises ends the run, what was done before stays -/
def run (st : St) : List Act → St × Option Err
  | [] => (st, none)
  | a :: l =>
    match act st a with
    | some t => run t l
    | none => (st, some a.err)

theorem act_reg {s t : St} {i : ClassId} {c : ClassDef} :
    act s (.reg i c) = some t ↔ ∃ b, (getBank i s.banks).add c = .ok b ∧ t = { s with banks := setBank i b s.banks } := by
  simp only [act]
  cases (getBank i s.banks).add c with
  | error e => simp
  | ok b => simp [eq_comm]

theorem act_getBank {s t : St} {a : Act} (h : act s a = some t) (j : ClassId) :
    getBank j t.banks = getBank j s.banks ∨
      ∃ c, a = .reg j c ∧ (getBank j s.banks).add c = .ok (getBank j t.banks) := by
  cases a with
  | reg i c =>
    obtain ⟨b, hadd, rfl⟩ := act_reg.1 h
    simp only [getBank_setBank]
    by_cases hij : i = j
    · subst hij
      exact Or.inr ⟨c, rfl, by simpa using hadd⟩
    · exact Or.inl (by simp [hij])
  | mark m => cases h; exact Or.inl rfl
  | raise e => cases h

theorem run_append (s : St) (l1 l2 : List Act) :
    run s (l1 ++ l2) = match run s l1 with
      | (t, none) => run t l2
      | (t, some e) => (t, some e) := by
  induction l1 generalizing s with
  | nil => rfl
  | cons a l ih =>
    simp only [List.cons_append, run]
    cases act s a with
    | some t => exact ih t
    | none => rfl

/-- a class statement: refused by `__init_subclass__` itself, or one `add` per bank -/
def stmtActs (c : ClassDef) : List Act :=
  if c.alias.isSome && c.abstract then [.raise .abstractAlias] else (c.id :: c.parents).map (Act.reg · c)

/-- a module body, and its `sys.modules` entry at the end -/
def modActs (d : ModuleDef) (m : Mod) : List Act := d.classes.flatMap stmtActs ++ [.mark m]

theorem addToBanks_eq (st : St) (c : ClassDef) (is : List ClassId) :
    addToBanks st c is = run st (is.map (Act.reg · c)) := by
  induction is generalizing st with
  | nil => rfl
  | cons i rest ih =>
    simp only [addToBanks, List.map_cons, run, act]
    cases hadd : (getBank i st.banks).add c with
    | error e => rw [(add_error hadd).2]; rfl
    | ok b => exact ih _

theorem initSubclass_eq (st : St) (c : ClassDef) : initSubclass st c = run st (stmtActs c) := by
  unfold initSubclass stmtActs
  split
  · rfl
  · exact addToBanks_eq st c _

theorem execClasses_eq (st : St) (cs : List ClassDef) : execClasses st cs = run st (cs.flatMap stmtActs) := by
  induction cs generalizing st with
  | nil => rfl
  | cons c rest ih =>
    simp only [execClasses, List.flatMap_cons, run_append, initSubclass_eq]
    cases run st (stmtActs c) with
    | mk t e =>
      cases e with
      | none => exact ih t
      | some e => rfl

theorem execMod_eq (w : World) (st : St) (m : Mod) :
    execMod w st m = (findMod m w).map fun d => if m ∈ st.loaded then (st, none) else run st (modActs d m) := by
  unfold execMod modActs
  cases findMod m w with
  | none => rfl
  | some d =>
    simp only [Option.map_some, List.contains_eq_mem, decide_eq_true_eq, execClasses_eq, run_append]
    split
    · rfl
    · cases run st (d.classes.flatMap stmtActs) with
      | mk t e => cases e <;> rfl

theorem execMod_some {w : World} {st : St} {m : Mod} {r : St × Option Err} (h : execMod w st m = some r) :
    ∃ d, findMod m w = some d ∧ ((m ∈ st.loaded ∧ r = (st, none)) ∨ (m ∉ st.loaded ∧ r = run st (modActs d m))) := by
  rw [execMod_eq] at h
  cases hf : findMod m w with
  | none => simp [hf] at h
  | some d =>
    refine ⟨d, rfl, ?_⟩
    simp only [hf, Option.map_some, Option.some.injEq] at h
    by_cases hl : m ∈ st.loaded
    · exact Or.inl ⟨hl, by simpa [hl] using h.symm⟩
    · exact Or.inr ⟨hl, by simpa [hl] using h.symm⟩

theorem mem_modActs {d : ModuleDef} {m : Mod} {a : Act} (h : a ∈ modActs d m) :
    (∃ c ∈ d.classes, (c.alias.isSome && c.abstract) = false ∧ ∃ i ∈ c.id :: c.parents, a = .reg i c) ∨
      a = .mark m ∨ ∃ c ∈ d.classes, (c.alias.isSome && c.abstract) = true ∧ a = .raise .abstractAlias := by
  simp only [modActs, List.mem_append, List.mem_flatMap, List.mem_singleton] at h
  rcases h with ⟨c, hc, hac⟩ | h
  · unfold stmtActs at hac
    split at hac
    · rename_i hbad
      exact Or.inr (Or.inr ⟨c, hc, hbad, by simpa using hac⟩)
    · rename_i hok
      obtain ⟨i, hi, rfl⟩ := List.mem_map.1 hac
      exact Or.inl ⟨c, hc, by simpa using hok, i, hi, rfl⟩
  · exact Or.inr (Or.inl h)

theorem run_cons_ok {s t : St} {a : Act} {l : List Act} :
    run s (a :: l) = (t, none) ↔ ∃ u, act s a = some u ∧ run u l = (t, none) := by
  simp only [run]
  cases act s a <;> simp

theorem act_loaded {s t : St} {a : Act} (h : act s a = some t) (x : Mod) :
    x ∈ t.loaded ↔ x ∈ s.loaded ∨ .mark x = a := by
  cases a with
  | reg i c => obtain ⟨b, _, rfl⟩ := act_reg.1 h; simp
  | mark m => cases h; simp [or_comm]
  | raise e => cases h

theorem run_loaded {l : List Act} {s t : St} (h : run s l = (t, none)) (x : Mod) :
    x ∈ t.loaded ↔ x ∈ s.loaded ∨ .mark x ∈ l := by
  induction l generalizing s with
  | nil => cases h; simp
  | cons a l ih =>
    obtain ⟨u, hu, hr⟩ := run_cons_ok.1 h
    rw [ih hr, act_loaded hu, List.mem_cons, or_assoc]

theorem reg_mem_modActs {d : ModuleDef} {m : Mod} {i : ClassId} {c : ClassDef} :
    Act.reg i c ∈ modActs d m ↔ c ∈ d.classes ∧ i ∈ c.id :: c.parents ∧ (c.alias.isSome && c.abstract) = false := by
  constructor
  · intro h
    rcases mem_modActs h with ⟨c', hc, hok, i', hi, h⟩ | h | ⟨_, _, _, h⟩
    · cases h; exact ⟨hc, hi, hok⟩
    · cases h
    · cases h
  · rintro ⟨hc, hi, hok⟩
    simp only [modActs, List.mem_append, List.mem_flatMap]
    exact Or.inl ⟨c, hc, by simp only [stmtActs, hok]; exact List.mem_map.2 ⟨i, hi, rfl⟩⟩

/-- also of a run that an exception ended -/
theorem run_induct {P : St → Prop} {l : List Act} (step : ∀ a ∈ l, ∀ s t, P s → act s a = some t → P t)
    (s : St) (h : P s) : P (run s l).1 := by
  induction l generalizing s with
  | nil => exact h
  | cons a l ih =>
    simp only [run]
    cases ha : act s a with
    | none => exact h
    | some t => exact ih (fun b hb => step b (List.mem_cons_of_mem _ hb)) t (step a List.mem_cons_self s t h ha)

theorem run_loaded_sub (s : St) (l : List Act) (x : Mod) (hx : x ∈ (run s l).1.loaded) :
    x ∈ s.loaded ∨ .mark x ∈ l :=
  run_induct (P := fun t => x ∈ t.loaded → x ∈ s.loaded ∨ Act.mark x ∈ l)
    (fun a ha u t hP hat hx => by
      rcases (act_loaded hat x).1 hx with h | h
      · exact hP h
      · exact Or.inr (h ▸ ha)) s Or.inl hx

theorem run_noerr {Q : St → Prop} {l : List Act} (step : ∀ a ∈ l, ∀ s, Q s → ∃ t, act s a = some t ∧ Q t)
    (s : St) (h : Q s) : (run s l).2 = none := by
  induction l generalizing s with
  | nil => rfl
  | cons a l ih =>
    obtain ⟨t, ht, hq⟩ := step a List.mem_cons_self s h
    simp only [run, ht]
    exact ih (fun b hb => step b (List.mem_cons_of_mem _ hb)) t hq

/-- `P` survives the execution of any module body -/
def ExecStable (w : World) (P : St → Prop) : Prop := ∀ st m r, P st → execMod w st m = some r → P r.1

theorem execStable_of_act {w : World} {P : St → Prop}
    (step : ∀ m d, findMod m w = some d → ∀ a ∈ modActs d m, ∀ s t, P s → act s a = some t → P t) : ExecStable w P := by
  intro st m r h hr
  obtain ⟨d, hf, ⟨_, rfl⟩ | ⟨_, rfl⟩⟩ := execMod_some hr
  · exact h
  · exact run_induct (step m d hf) st h

theorem reloadClasses_induct {P : St → Prop} {interned : List Nat} {cs : List ClassDef}
    (step : ∀ a ∈ cs.flatMap stmtActs, ∀ s t, P s → act s a = some t → P t) (st : St) (h : P st) :
    P (reloadClasses interned st cs).1 := by
  induction cs generalizing st with
  | nil => exact h
  | cons c rest ih =>
    simp only [List.flatMap_cons, List.mem_append] at step
    simp only [reloadClasses]
    split
    · exact h
    · have h1 := run_induct (fun a ha => step a (Or.inl ha)) st h
      rw [initSubclass_eq]
      cases hi : run st (stmtActs c) with
      | mk st' e =>
        rw [hi] at h1
        cases e with
        | some e => exact h1
        | none => exact ih (fun a ha => step a (Or.inr ha)) st' h1

/-- `R` holds of the outcome of executing the body of any module in `M` from a state of which it holds with no
exception raised -/
def ExecStableOn (w : World) (M : Mod → Prop) (R : St × Option Err → Prop) : Prop :=
  ∀ st m r, M m → R (st, none) → execMod w st m = some r → R r

theorem ExecStable.on {w : World} {P : St → Prop} (hP : ExecStable w P) :
    ExecStableOn w (fun _ => True) (fun r => P r.1) :=
  fun st m r _ => hP st m r

/-- `__import__(m)` finds the module (and its parent package) -/
def importable (w : World) (m : Mod) : Bool :=
  (findMod m w).isSome && (m.sub.isNone || (findMod ⟨m.pkg, none⟩ w).isSome)

theorem execMod_isSome (w : World) (st : St) (m : Mod) : (execMod w st m).isSome = (findMod m w).isSome := by
  rw [execMod_eq, Option.isSome_map]

theorem execMod_marks {w : World} {st st' : St} {m : Mod} (h : execMod w st m = some (st', none)) : m ∈ st'.loaded := by
  obtain ⟨d, _, ⟨hl, hr⟩ | ⟨_, hr⟩⟩ := execMod_some h
  · cases hr; exact hl
  · exact (run_loaded hr.symm m).2 (Or.inr (by simp [modActs]))

theorem execMod_of_found {w : World} (st : St) {x : Mod} (hf : (findMod x w).isSome = true) :
    ∃ s e, execMod w st x = some (s, e) := by
  cases he : execMod w st x with
  | none => rw [← execMod_isSome w st x, he] at hf; cases hf
  | some r => exact ⟨r.1, r.2, rfl⟩

/-- the module bodies `Bank.Path.load` executes for a path, in order: the parent package and the module, or the
package and the sub-modules named in its `__all__` -/
def covers (w : World) (m : Mod) : List Mod :=
  match m.sub with
  | some _ => [⟨m.pkg, none⟩, m]
  | none => m :: (match findMod m w with
    | some d => d.subs.map (fun s => (⟨m.pkg, some s⟩ : Mod))
    | none => [])

/-- module bodies in a row: a module that does not exist is skipped, the first exception aborts -/
def execAll (w : World) (st : St) : List Mod → St × Option Err
  | [] => (st, none)
  | m :: ms =>
    match execMod w st m with
    | none => execAll w st ms
    | some (st', some e) => (st', some e)
    | some (st', none) => execAll w st' ms

theorem importSubs_eq (w : World) (pkg : Nat) (subs : List Nat) (st : St) :
    importSubs w st pkg subs = execAll w st (subs.map fun s => ⟨pkg, some s⟩) := by
  fun_induction importSubs w st pkg subs with
  | case1 => rfl
  | case2 st s rest he ih => simp only [List.map_cons, execAll, he, ih]
  | case3 st s rest st' e he => simp only [List.map_cons, execAll, he]
  | case4 st s rest st' he ih => simp only [List.map_cons, execAll, he, ih]

/-- the bodies `Bank.Path.load` gets to: those of `covers` if the package exists, none otherwise -/
def plan (w : World) (m : Mod) : List Mod := if (findMod ⟨m.pkg, none⟩ w).isSome then covers w m else []

theorem mem_plan {w : World} {m x : Mod} (h : x ∈ plan w m) : x ∈ covers w m := by
  unfold plan at h
  split at h
  · exact h
  · cases h

/-- `Bank.Path.load` executes the bodies of its plan in a row; if none raises, an explicit path whose module cannot
be imported raises the preload error -/
theorem loadPath_eq (w : World) (st : St) (p : PathE) :
    loadPath w st p =
      match execAll w st (plan w p.mod) with
      | (s, some e) => (s, some e)
      | (s, none) => (s, if !importable w p.mod && p.explicit then some .preload else none) := by
  obtain ⟨⟨pkg, sub⟩, ex⟩ := p
  have h0 : ∀ st x, findMod x w = none → execMod w st x = none := fun st x h => by rw [execMod_eq, h]; rfl
  have norm : ∀ r : St × Option Err,
      (match r with | (s, some e) => (s, some e) | (s, none) => (s, (none : Option Err))) = r :=
    fun r => by obtain ⟨s, e⟩ := r; cases e <;> rfl
  -- the package first: without it nothing is executed
  cases hp : findMod ⟨pkg, none⟩ w with
  | none => cases sub <;> simp [loadPath, importMod, afterNotFound, h0 st _ hp, hp, importable, execAll, plan]
  | some d =>
    obtain ⟨s1, e1, he⟩ := execMod_of_found st (x := ⟨pkg, none⟩) (by rw [hp]; rfl)
    cases e1 with
    | some e => cases sub <;> simp [loadPath, importMod, he, hp, covers, execAll, plan]
    | none =>
      cases sub with
      | none => simp [loadPath, importMod, he, hp, covers, execAll, plan, importable, importSubs_eq, norm]
      | some s =>
        cases hf : findMod ⟨pkg, some s⟩ w with
        | none => simp [loadPath, importMod, afterNotFound, he, h0 s1 _ hf, hp, hf, covers, execAll, plan, importable]
        | some d2 =>
          obtain ⟨s2, e2, he2⟩ := execMod_of_found s1 (x := ⟨pkg, some s⟩) (by rw [hf]; rfl)
          cases e2 <;> simp [loadPath, importMod, he, he2, hp, hf, covers, execAll, plan, importable]

theorem loadPath_state (w : World) (st : St) (p : PathE) : (loadPath w st p).1 = (execAll w st (plan w p.mod)).1 := by
  rw [loadPath_eq]
  generalize execAll w st _ = r
  obtain ⟨s, e⟩ := r
  cases e <;> rfl

theorem execAll_liftOn {w : World} {M : Mod → Prop} {R : St × Option Err → Prop} (hR : ExecStableOn w M R)
    (ms : List Mod) (hM : ∀ m ∈ ms, M m) (st : St) (h : R (st, none)) : R (execAll w st ms) := by
  fun_induction execAll w st ms with
  | case1 => exact h
  | case2 st m ms he ih => exact ih (fun x hx => hM x (List.mem_cons_of_mem _ hx)) h
  | case3 st m ms st' e he => exact hR st m _ (hM m List.mem_cons_self) h he
  | case4 st m ms st' he ih =>
    exact ih (fun x hx => hM x (List.mem_cons_of_mem _ hx)) (hR st m _ (hM m List.mem_cons_self) h he)

theorem loadPath_liftOn {w : World} {M : Mod → Prop} {P : St → Prop} (hP : ExecStableOn w M (fun r => P r.1)) (st : St)
    (p : PathE) (hM : ∀ x ∈ covers w p.mod, M x) (h : P st) : P (loadPath w st p).1 := by
  rw [loadPath_state]
  exact execAll_liftOn hP _ (fun x hx => hM x (mem_plan hx)) st h

theorem loadPath_lift {w : World} {P : St → Prop} (hP : ExecStable w P) (st : St) (p : PathE) (h : P st) :
    P (loadPath w st p).1 :=
  loadPath_liftOn hP.on st p (fun _ _ => trivial) h

/-- the state an `import m` in try/except leaves: for a package that of its body, for a sub-module that of
`Bank.Path.load` of the path -/
theorem import_lift {w : World} {P : St → Prop} (hP : ExecStable w P) (st : St) (m : Mod) (h : P st) :
    P (match importMod w st m with
      | none => afterNotFound w st m
      | some r => r.1) := by
  obtain ⟨pkg, sub⟩ := m
  cases sub with
  | none =>
    simp only [importMod, afterNotFound]
    cases he : execMod w st ⟨pkg, none⟩ with
    | none => exact h
    | some r => exact hP st _ r h he
  | some s =>
    have := loadPath_lift hP st ⟨⟨pkg, some s⟩, false⟩ h
    unfold loadPath at this
    cases hi : importMod w st ⟨pkg, some s⟩ with
    | none => rwa [hi] at this
    | some r =>
      obtain ⟨st', e⟩ := r
      rw [hi] at this
      cases e <;> exact this

/-- what every import of a path the search takes keeps, the search loop keeps -/
theorem getLoop_liftStep {w : World} {iface : ClassId} {r : Ref} {P : St → Prop}
    (step : ∀ st searched p, P st → nextPath (getBank iface st.banks) r searched = some p → P (loadPath w st p).1)
    (n : Nat) (st : St) (searched : List Mod) (h : P st) : P (getLoop w iface r n st searched).1 := by
  fun_induction getLoop w iface r n st searched with
  | case1 | case2 | case3 => exact h
  | case4 n st searched _ p hn st' e hl => have := step st searched p h hn; rwa [hl] at this
  | case5 n st searched _ p hn st' hl ih => have := step st searched p h hn; rw [hl] at this; exact ih this

theorem getLoop_lift {w : World} {P : St → Prop} (hP : ExecStable w P) (iface : ClassId) (r : Ref) (n : Nat)
    (st : St) (searched : List Mod) (h : P st) : P (getLoop w iface r n st searched).1 :=
  getLoop_liftStep (fun st _ p h _ => loadPath_lift hP st p h) n st searched h

theorem get_state (w : World) (st : St) (iface : ClassId) (r : Ref) :
    (get w st iface r).1 = (getLoop w iface r (searchFuel w) st []).1 := by
  unfold get
  cases getLoop w iface r (searchFuel w) st [] with
  | mk s1 e1 =>
    cases e1 with
    | some e => rfl
    | none => simp only [finish]; split <;> rfl

theorem get_ok_bound (w : World) (st : St) (iface : ClassId) (r : Ref) (c : ClassId)
    (h : (get w st iface r).2 = .ok c) :
    lookupRef r (getBank iface (get w st iface r).1.banks).provider = some c := by
  unfold get at h ⊢
  generalize getLoop w iface r (searchFuel w) st [] = res at h ⊢
  obtain ⟨s1, e1⟩ := res
  cases e1 with
  | some e => simp [finish] at h
  | none =>
    simp only [finish] at h ⊢
    cases h2 : lookupRef r (getBank iface s1.banks).provider with
    | none => simp [h2] at h
    | some d => simp only [h2] at h ⊢; cases h; rfl

theorem get_of_bound (w : World) (st : St) (iface : ClassId) (r : Ref) (c : ClassId)
    (h : lookupRef r (getBank iface st.banks).provider = some c) : get w st iface r = (st, .ok c) := by
  simp [get, searchFuel, getLoop, h, finish]

theorem get_lift {w : World} {P : St → Prop} (hP : ExecStable w P) (st : St) (iface : ClassId) (r : Ref)
    (h : P st) : P (get w st iface r).1 := by
  rw [get_state]
  exact getLoop_lift hP iface r _ st [] h

def StSound (U : ClassDef → Prop) (st : St) : Prop := ∀ i b, (i, b) ∈ st.banks → BankSound U b

theorem stSound_empty (U : ClassDef → Prop) : StSound U St.empty := by
  intro i b h; simp [St.empty] at h

theorem getBank_sound {U : ClassDef → Prop} {banks : List (ClassId × Bank)}
    (h : ∀ i b, (i, b) ∈ banks → BankSound U b) (i : ClassId) : BankSound U (getBank i banks) := by
  rw [getBank_eq]
  cases hl : banks.lookup i with
  | none => exact bankSound_empty U
  | some b => exact h i b (mem_of_lookup hl)

theorem stSound_add {U : ClassDef → Prop} {c : ClassDef} (hU : U c) (i : ClassId) (st : St) (b : Bank)
    (hs : StSound U st) (hadd : (getBank i st.banks).add c = .ok b) :
    StSound U { st with banks := setBank i b st.banks } := by
  intro j b' hm
  rcases mem_setBank hm with hm | hm
  · cases hm
    exact bankSound_add (getBank_sound hs i) hU hadd
  · exact hs j b' hm

/-- the class statement occurs in some module of the world -/
def InWorld (w : World) (c : ClassDef) : Prop := ∃ m d, (m, d) ∈ w ∧ c ∈ d.classes

theorem findMod_mem {m : Mod} {w : World} {d : ModuleDef} (h : findMod m w = some d) : (m, d) ∈ w :=
  mem_of_lookup (findMod_eq m w ▸ h)

theorem act_sound {w : World} {m : Mod} {d : ModuleDef} (hf : findMod m w = some d) {a : Act} (ha : a ∈ modActs d m)
    {s t : St} (hs : StSound (InWorld w) s) (h : act s a = some t) : StSound (InWorld w) t := by
  rcases mem_modActs ha with ⟨c, hc, _, i, _, rfl⟩ | rfl | ⟨_, _, _, rfl⟩
  · obtain ⟨b, hadd, rfl⟩ := act_reg.1 h
    exact stSound_add ⟨m, d, findMod_mem hf, hc⟩ i s b hs hadd
  · cases h; exact hs
  · cases h

theorem stSound_execStable (w : World) : ExecStable w (StSound (InWorld w)) :=
  execStable_of_act fun _ _ hf _ ha _ _ hs h => act_sound hf ha hs h

/-- what `Service[reference]` may return: only a concrete class of the world carrying that reference -/
theorem get_sound (w : World) (st : St) (iface : ClassId) (r : Ref)
    (hs : StSound (InWorld w) st) :
    StSound (InWorld w) (get w st iface r).1 ∧
      ∀ i, (get w st iface r).2 = .ok i →
        ∃ c, InWorld w c ∧ c.abstract = false ∧ r ∈ refs c ∧ c.id = i :=
  have h1 := get_lift (stSound_execStable w) st iface r hs
  ⟨h1, fun i hi => getBank_sound h1 iface r i (lookupRef_mem (get_ok_bound w st iface r i hi))⟩

/-- the class a reference is bound to after registering `cs` (first concrete class carrying it) -/
def regs (cs : List ClassDef) (r : Ref) : Option ClassId :=
  (cs.find? (fun c => !c.abstract && (refs c).contains r)).map (·.id)

/-- no two class definitions of the list with different identities share a reference (decidable) -/
def collisionFree (cs : List ClassDef) : Bool :=
  cs.all fun c => cs.all fun d => (c.id == d.id) || !((refs c).any fun r => (refs d).contains r)

theorem collisionFree_iff (cs : List ClassDef) :
    collisionFree cs = true ↔ ∀ c ∈ cs, ∀ d ∈ cs, ∀ r, r ∈ refs c → r ∈ refs d → c.id = d.id := by
  simp only [collisionFree, List.all_eq_true, Bool.or_eq_true, beq_iff_eq, Bool.not_eq_true',
    List.any_eq_false, List.contains_eq_mem, decide_eq_true_eq]
  constructor
  · intro h c hc d hd r hrc hrd
    rcases h c hc d hd with h | h
    · exact h
    · exact absurd hrd (h r hrc)
  · intro h c hc d hd
    by_cases hid : c.id = d.id
    · exact Or.inl hid
    · exact Or.inr (fun r hrc hrd => hid (h c hc d hd r hrc hrd))

theorem regs_some {cs : List ClassDef} {r : Ref} {i : ClassId} (h : regs cs r = some i) :
    ∃ c ∈ cs, c.abstract = false ∧ r ∈ refs c ∧ c.id = i := by
  simp only [regs, Option.map_eq_some_iff] at h
  obtain ⟨c, hf, hi⟩ := h
  have hm := List.mem_of_find?_eq_some hf
  have hp := List.find?_some hf
  simp at hp
  exact ⟨c, hm, hp.1, hp.2, hi⟩

theorem regs_none {cs : List ClassDef} {r : Ref} (h : regs cs r = none) :
    ∀ c ∈ cs, c.abstract = false → r ∉ refs c := by
  simp only [regs, Option.map_eq_none_iff, List.find?_eq_none] at h
  intro c hc ha hr
  exact h c hc (by simp [ha, hr])

theorem regs_append_single (done : List ClassDef) (c : ClassDef) (r : Ref) :
    regs (done ++ [c]) r = match regs done r with
      | some i => some i
      | none => if c.abstract = false ∧ r ∈ refs c then some c.id else none := by
  simp only [regs, List.find?_append]
  cases h : List.find? (fun c => !c.abstract && (refs c).contains r) done with
  | some x => simp
  | none =>
    by_cases ha : c.abstract = true
    · simp [List.find?, ha]
    · by_cases hr : r ∈ refs c
      · simp [List.find?, ha, hr]
      · simp [List.find?, ha, hr]

theorem addAll_char (cs : List ClassDef) : ∀ (done : List ClassDef) (b : Bank),
    (∀ r, lookupRef r b.provider = regs done r) → collisionFree (done ++ cs) = true →
    ∃ b', addAll b cs = .ok b' ∧ ∀ r, lookupRef r b'.provider = regs (done ++ cs) r := by
  induction cs with
  | nil => intro done b hb _; exact ⟨b, rfl, by simpa using hb⟩
  | cons c cs ih =>
    intro done b hb hcf
    have hcf' := (collisionFree_iff _).1 hcf
    have hcol : collides b c = false := by
      rw [collides_false_iff]
      intro r hr d hd
      rw [hb r] at hd
      obtain ⟨c', hc', _, hr', hid⟩ := regs_some hd
      rw [← hid]
      exact hcf' c' (by simp [hc']) c (by simp) r hr' hr
    obtain ⟨b1, hb1⟩ := add_of_not_collides hcol
    have hb1' : ∀ r, lookupRef r b1.provider = regs (done ++ [c]) r := by
      intro r
      rw [regs_append_single, lookup_after_add hb1, hb r]
      cases hd : regs done r with
      | none => rfl
      | some i =>
        by_cases hx : c.abstract = false ∧ r ∈ refs c
        · obtain ⟨c', hc', _, hr', hid⟩ := regs_some hd
          simp only [hx, and_self, if_true, ← hid]
          exact congrArg some (hcf' c' (by simp [hc']) c (by simp) r hr' hx.2).symm
        · simp only [hx, if_false]
    obtain ⟨b', hb', hr'⟩ := ih (done ++ [c]) b1 hb1' (by simpa using hcf)
    refine ⟨b', ?_, ?_⟩
    · simp [addAll, hb1, hb']
    · intro r; simpa using hr' r

theorem addAll_regs {cs : List ClassDef} (hcf : collisionFree cs = true) :
    ∃ b, addAll Bank.empty cs = .ok b ∧ ∀ r, lookupRef r b.provider = regs cs r := by
  simpa using addAll_char cs [] Bank.empty (fun _ => rfl) (by simpa using hcf)

theorem regs_perm {cs cs' : List ClassDef} (hp : cs.Perm cs') (hcf : collisionFree cs = true) (r : Ref) :
    regs cs r = regs cs' r := by
  have hcf' := (collisionFree_iff _).1 hcf
  cases h : regs cs r with
  | some i =>
    obtain ⟨c, hc, ha, hr, hid⟩ := regs_some h
    cases h' : regs cs' r with
    | some j =>
      obtain ⟨c', hc', _, hr', hid'⟩ := regs_some h'
      rw [← hid, ← hid']
      exact congrArg some (hcf' c hc c' (hp.mem_iff.2 hc') r hr hr')
    | none => exact absurd hr (regs_none h' c (hp.mem_iff.1 hc) ha)
  | none =>
    cases h' : regs cs' r with
    | none => rfl
    | some j =>
      obtain ⟨c', hc', ha', hr', _⟩ := regs_some h'
      exact absurd hr' (regs_none h c' (hp.mem_iff.2 hc') ha')

theorem collisionFree_perm {cs cs' : List ClassDef} (hp : cs.Perm cs') (hcf : collisionFree cs = true) :
    collisionFree cs' = true := by
  rw [collisionFree_iff] at *
  intro c hc d hd
  exact hcf c (hp.mem_iff.2 hc) d (hp.mem_iff.2 hd)

theorem addAll_induct {P : Bank → Prop} {cs : List ClassDef}
    (step : ∀ c ∈ cs, ∀ b b1, P b → b.add c = .ok b1 → P b1) (b b' : Bank) (hb : P b) (h : addAll b cs = .ok b') :
    P b' := by
  induction cs generalizing b with
  | nil => cases h; exact hb
  | cons d cs ih =>
    simp only [addAll] at h
    cases hadd : b.add d with
    | error e => simp [hadd] at h
    | ok b1 =>
      simp only [hadd] at h
      exact ih (fun c hc => step c (List.mem_cons_of_mem _ hc)) b1 (step d List.mem_cons_self b b1 hb hadd) h

theorem add_keeps {b b1 : Bank} {c : ClassDef} (h : b.add c = .ok b1) {r : Ref} {x : ClassId}
    (hx : lookupRef r b.provider = some x) : lookupRef r b1.provider = some x := by
  rw [lookup_after_add h]
  by_cases hc : c.abstract = false ∧ r ∈ refs c
  · rw [if_pos hc, (collides_false_iff b c).1 (add_ok h).1 r hc.2 x hx]
  · rw [if_neg hc]; exact hx

theorem addAll_bound (cs : List ClassDef) (b b' : Bank) (h : addAll b cs = .ok b') :
    ∀ c ∈ cs, c.abstract = false → ∀ r ∈ refs c, lookupRef r b'.provider = some c.id := by
  induction cs generalizing b with
  | nil => intro c hc; cases hc
  | cons d cs ih =>
    simp only [addAll] at h
    cases hadd : b.add d with
    | error e => simp [hadd] at h
    | ok b1 =>
      simp only [hadd] at h
      intro c hc ha r hr
      rcases List.mem_cons.1 hc with rfl | hc
      · refine addAll_induct (P := fun b => lookupRef r b.provider = some c.id) (fun _ _ _ _ hx hadd' => add_keeps hadd' hx)
          b1 b' ?_ h
        rw [lookup_after_add hadd, if_pos ⟨ha, hr⟩]
      · exact ih b1 h c hc ha r hr

theorem addAll_error_collision (cs : List ClassDef) : ∀ (b : Bank) (e : Err), addAll b cs = .error e → e = .collision := by
  induction cs with
  | nil => intro b e h; simp [addAll] at h
  | cons d cs ih =>
    intro b e h
    simp only [addAll] at h
    cases hadd : b.add d with
    | error e' => simp [hadd] at h; subst h; exact (add_error hadd).2
    | ok b1 => simp only [hadd] at h; exact ih b1 e h

theorem addAll_sound {U : ClassDef → Prop} (cs : List ClassDef) (hU : ∀ c ∈ cs, U c) (b b' : Bank)
    (hs : BankSound U b) (h : addAll b cs = .ok b') : BankSound U b' :=
  addAll_induct (fun c hc _ _ hs hadd => bankSound_add hs (hU c hc) hadd) b b' hs h

/-- the second component of the key under which `Mod.le` compares lexicographically: a package sorts before its sub-modules -/
def Mod.rank (a : Mod) : Nat :=
  match a.sub with
  | none => 0
  | some x => x + 1

theorem Mod.le_iff (a b : Mod) : a.le b = true ↔ a.pkg < b.pkg ∨ (a.pkg = b.pkg ∧ a.rank ≤ b.rank) := by
  obtain ⟨ap, as⟩ := a
  obtain ⟨bp, bs⟩ := b
  cases as <;> cases bs <;> simp [Mod.le, Mod.rank]

theorem Mod.eq_of_rank {a b : Mod} (hp : a.pkg = b.pkg) (hr : a.rank = b.rank) : a = b := by
  obtain ⟨ap, as⟩ := a
  obtain ⟨bp, bs⟩ := b
  simp only at hp
  subst hp
  cases as with
  | none =>
    cases bs with
    | none => rfl
    | some y => simp [Mod.rank] at hr
  | some x =>
    cases bs with
    | none => simp [Mod.rank] at hr
    | some y => simp only [Mod.rank, Nat.add_right_cancel_iff] at hr; rw [hr]

theorem Mod.le_total (a b : Mod) : (a.le b || b.le a) = true := by
  rw [Bool.or_eq_true, Mod.le_iff, Mod.le_iff]
  omega

theorem Mod.le_trans (a b c : Mod) (h1 : a.le b = true) (h2 : b.le c = true) : a.le c = true := by
  rw [Mod.le_iff] at *
  omega

theorem Mod.le_antisymm (a b : Mod) (h1 : a.le b = true) (h2 : b.le a = true) : a = b := by
  rw [Mod.le_iff] at h1 h2
  exact Mod.eq_of_rank (by omega) (by omega)

theorem PathE.le_total (a b : PathE) : (a.le b || b.le a) = true := by
  obtain ⟨am, ae⟩ := a
  obtain ⟨bm, be⟩ := b
  by_cases h : am = bm
  · subst h; cases ae <;> cases be <;> simp [PathE.le]
  · have h' : ¬ bm = am := fun e => h e.symm
    simpa [PathE.le, h, h'] using Mod.le_total am bm

theorem PathE.le_antisymm (a b : PathE) (h1 : a.le b = true) (h2 : b.le a = true) : a = b := by
  obtain ⟨am, ae⟩ := a
  obtain ⟨bm, be⟩ := b
  by_cases h : am = bm
  · subst h; cases ae <;> cases be <;> simp [PathE.le] at h1 h2 ⊢
  · have h' : ¬ bm = am := fun e => h e.symm
    simp [PathE.le, h, h'] at h1 h2
    exact absurd (Mod.le_antisymm am bm h1 h2) h

theorem PathE.le_trans (a b c : PathE) (h1 : a.le b = true) (h2 : b.le c = true) : a.le c = true := by
  obtain ⟨am, ae⟩ := a
  obtain ⟨bm, be⟩ := b
  obtain ⟨cm, ce⟩ := c
  by_cases hab : am = bm
  · subst hab
    by_cases hbc : am = cm
    · subst hbc; cases ae <;> cases be <;> cases ce <;> simp [PathE.le] at h1 h2 ⊢
    · simpa [PathE.le, hbc] using h2
  · by_cases hbc : bm = cm
    · subst hbc; simpa [PathE.le, hab] using h1
    · simp only [PathE.le, hab, hbc, if_false] at h1 h2
      have hac := Mod.le_trans am bm cm h1 h2
      by_cases hca : am = cm
      · subst hca
        exact absurd (Mod.le_antisymm am bm h1 h2) hab
      · simpa [PathE.le, hca] using hac

theorem insertPath_isInsert : IsInsert insertPath (fun p q => p.le q) := ⟨fun _ => rfl, fun _ _ _ => rfl⟩

theorem sortPaths_perm_self (l : List PathE) : (sortPaths l).Perm l := insertPath_isInsert.foldr_perm l

theorem sortPaths_pairwise (l : List PathE) : (sortPaths l).Pairwise (fun a b => PathE.le a b = true) :=
  insertPath_isInsert.foldr_pairwise (fun _ _ h => h)
    (fun p q h => (Bool.or_eq_true _ _ ▸ PathE.le_total p q).resolve_left (by simp [h])) PathE.le_trans l

/-- `sorted(...)` of a set does not depend on the order in which the set hands out its elements -/
theorem sortPaths_perm {l₁ l₂ : List PathE} (h : l₁.Perm l₂) : sortPaths l₁ = sortPaths l₂ := by
  apply List.Perm.eq_of_pairwise (le := fun a b => PathE.le a b = true)
  · intro a b _ _ h1 h2; exact PathE.le_antisymm a b h1 h2
  · exact sortPaths_pairwise l₁
  · exact sortPaths_pairwise l₂
  · exact ((sortPaths_perm_self l₁).trans h).trans (sortPaths_perm_self l₂).symm

theorem validOrder_perm {paths : List PathE} {order : List Mod} (h : validOrder paths order = true) :
    (arrange paths order).Perm paths := by
  simp only [validOrder, Bool.and_eq_true] at h
  exact List.isPerm_iff.1 h.2

def allClasses (w : World) : List ClassDef := w.flatMap (fun e => e.2.classes)

/-- no class statement of the world is rejected whatever was registered before: no alias on an abstract class, and no
reference shared between a class and a concrete class of another identity (decidable) -/
def worldClean (w : World) : Bool :=
  (allClasses w).all (fun c => !(c.abstract && c.alias.isSome)) &&
  (allClasses w).all (fun c => (allClasses w).all (fun d =>
    d.abstract || c.id == d.id || (refs c).all (fun r => !(refs d).contains r)))

theorem inWorld_iff (w : World) (c : ClassDef) : InWorld w c ↔ c ∈ allClasses w := by
  simp only [InWorld, allClasses, List.mem_flatMap]
  constructor
  · rintro ⟨m, d, hm, hc⟩; exact ⟨(m, d), hm, hc⟩
  · rintro ⟨⟨m, d⟩, hm, hc⟩; exact ⟨m, d, hm, hc⟩

theorem worldClean_noAbstractAlias {w : World} (h : worldClean w = true) {c : ClassDef} (hc : InWorld w c) :
    (c.alias.isSome && c.abstract) = false := by
  simp only [worldClean, Bool.and_eq_true, List.all_eq_true] at h
  rw [Bool.and_comm]
  exact Bool.not_eq_true' _ ▸ h.1 c ((inWorld_iff w c).1 hc)

theorem worldClean_noCollision {w : World} (h : worldClean w = true) {c d : ClassDef} (hc : InWorld w c)
    (hd : InWorld w d) (hda : d.abstract = false) {r : Ref} (hrc : r ∈ refs c) (hrd : r ∈ refs d) : d.id = c.id := by
  simp only [worldClean, Bool.and_eq_true, List.all_eq_true] at h
  have := h.2 c ((inWorld_iff w c).1 hc) d ((inWorld_iff w d).1 hd)
  simp only [hda, Bool.false_or, Bool.or_eq_true, beq_iff_eq, List.all_eq_true, Bool.not_eq_true',
    List.contains_eq_mem, decide_eq_false_iff_not] at this
  rcases this with h1 | h2
  · exact h1.symm
  · exact absurd hrd (h2 r hrc)

theorem add_clean {w : World} (hw : worldClean w = true) {b : Bank} (hs : BankSound (InWorld w) b) {c : ClassDef}
    (hc : InWorld w c) : ∃ b', b.add c = .ok b' := by
  apply add_of_not_collides
  rw [collides_false_iff]
  intro r hr d hd
  obtain ⟨c', hc', ha', hr', hi'⟩ := hs r d (lookupRef_mem hd)
  rw [← hi']
  exact worldClean_noCollision hw hc hc' ha' hr hr'

theorem execMod_clean {w : World} (hw : worldClean w = true) (st : St) (m : Mod) (hs : StSound (InWorld w) st) :
    ∀ r, execMod w st m = some r → r.2 = none := by
  intro r hr
  obtain ⟨d, hf, ⟨_, rfl⟩ | ⟨_, rfl⟩⟩ := execMod_some hr
  · rfl
  · refine run_noerr (Q := StSound (InWorld w)) (fun a ha s hs => ?_) st hs
    rcases mem_modActs ha with ⟨c, hc, _, i, hi, rfl⟩ | rfl | ⟨c, hc, hbad, rfl⟩
    · have hcw : InWorld w c := ⟨m, d, findMod_mem hf, hc⟩
      obtain ⟨b, hadd⟩ := add_clean hw (getBank_sound hs i) hcw
      have hact := act_reg.2 ⟨b, hadd, rfl⟩
      exact ⟨_, hact, act_sound hf ha hs hact⟩
    · exact ⟨_, rfl, hs⟩
    · rw [worldClean_noAbstractAlias hw ⟨m, d, findMod_mem hf, hc⟩] at hbad; cases hbad

theorem loadPath_clean {w : World} (hw : worldClean w = true) (st : St) (p : PathE) (hs : StSound (InWorld w) st)
    (hp : p.explicit = true → importable w p.mod = true) : (loadPath w st p).2 = none := by
  have hR : ExecStableOn w (fun _ => True) (fun r => StSound (InWorld w) r.1 ∧ r.2 = none) :=
    fun st m r _ h he => ⟨stSound_execStable w st m r h.1 he, execMod_clean hw st m h.1 r he⟩
  have := (execAll_liftOn hR (plan w p.mod) (fun _ _ => trivial) st ⟨hs, rfl⟩).2
  rw [loadPath_eq]
  generalize execAll w st _ = r at this
  obtain ⟨s, e⟩ := r
  subst this
  by_cases he : p.explicit = true
  · simp [hp he]
  · simp [he]

theorem mem_arrange {paths : List PathE} {order : List Mod} {p : PathE} (h : p ∈ arrange paths order) : p ∈ paths := by
  simp only [arrange, List.mem_filterMap] at h
  obtain ⟨m, _, hf⟩ := h
  exact List.mem_of_find?_eq_some hf

theorem mem_refPaths {r : Ref} {base : List PathE} {p : PathE} (h : p ∈ refPaths r base) : p.explicit = false := by
  unfold refPaths at h
  cases r with
  | qual c => simp at h; subst h; rfl
  | alias a =>
    simp only [List.mem_filterMap] at h
    obtain ⟨b, _, hb⟩ := h
    split at hb
    · simp at hb; subst hb; rfl
    · simp at hb

theorem mem_todoPaths {b : Bank} {r : Ref} {order : List Mod} {p : PathE} (h : p ∈ todoPaths b r order)
    (he : p.explicit = true) : p ∈ b.paths := by
  simp only [todoPaths, List.mem_reverse, List.mem_append] at h
  rcases h with h | h
  · exact mem_arrange ((sortPaths_perm_self _).mem_iff.1 h)
  · rw [mem_refPaths h] at he; cases he

theorem mem_searchList {b : Bank} {r : Ref} {p : PathE} :
    p ∈ searchList b r ↔ p ∈ b.paths ∨
      match r with
      | .qual c => p = ⟨c.mod, false⟩
      | .alias a => ∃ q ∈ b.paths, q.mod.sub = none ∧ p = ⟨⟨q.mod.pkg, some a⟩, false⟩ := by
  simp only [searchList, List.mem_reverse, List.mem_append, (sortPaths_perm_self _).mem_iff]
  refine or_congr Iff.rfl ?_
  cases r with
  | qual c => simp [refPaths]
  | alias a =>
    simp only [refPaths, List.mem_filterMap, (sortPaths_perm_self _).mem_iff]
    constructor
    · rintro ⟨q, hq, h⟩
      cases hs : q.mod.sub with
      | none => rw [hs] at h; exact ⟨q, hq, hs, (Option.some.inj h).symm⟩
      | some x => simp [hs] at h
    · rintro ⟨q, hq, hs, rfl⟩
      exact ⟨q, hq, by simp [hs]⟩

theorem mem_searchList_explicit {b : Bank} {r : Ref} {p : PathE} (h : p ∈ searchList b r) (he : p.explicit = true) :
    p ∈ b.paths := by
  simp only [searchList, List.mem_reverse, List.mem_append] at h
  rcases h with h | h
  · exact (sortPaths_perm_self _).mem_iff.1 h
  · rw [mem_refPaths h] at he; cases he

theorem nextPath_some {b : Bank} {r : Ref} {searched : List Mod} {p : PathE} (h : nextPath b r searched = some p) :
    p ∈ searchList b r ∧ p.mod ∉ searched := by
  unfold nextPath at h
  have h1 := List.mem_of_find?_eq_some h
  have h2 := List.find?_some h
  simp at h2
  exact ⟨h1, h2⟩

theorem nextPath_none {b : Bank} {r : Ref} {searched : List Mod} (h : nextPath b r searched = none) :
    ∀ p ∈ searchList b r, p.mod ∈ searched := by
  unfold nextPath at h
  rw [List.find?_eq_none] at h
  intro p hp
  have := h p hp
  simpa using this

/-- an import history: `import m` statements executed one after the other, each in `try/except` (the state reached
after a failing import keeps its partial registrations, as in Python) -/
def runImports (w : World) (st : St) : List Mod → St
  | [] => st
  | m :: rest =>
    match importMod w st m with
    | none => runImports w (afterNotFound w st m) rest
    | some (st', _) => runImports w st' rest

end ForML.Bank
