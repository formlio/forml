/-
C01 — the state after `segment.accept(table)` for an arbitrary visit order: no assertion fires, and the three
components are the ones characterised in C01Fold (prefixed), C01AbsFinal (absolute), C01IdxStep (index).
-/
import ForML.Lemmas.C01IdxStep
import ForML.Lemmas.C01AbsFinal
import ForML.Lemmas.C01Group

namespace ForML.Flow
open CState Segment

structure OrderOK (g : Segment) (order : List Uid) : Prop where
  nodup : order.Nodup
  sub : ∀ n ∈ order, n ∈ g.uids
  all : ∀ w ∈ g.workers, w.uid ∈ order

theorem orderOK_of_perm {g : Segment} {order : List Uid} (hp : order.Perm g.uids) (hnd : g.uids.Nodup) : OrderOK g order :=
  ⟨hp.symm.nodup hnd, fun _ hn => hp.subset hn, fun w hw => hp.symm.subset (mem_uids.mpr ⟨w, hw, rfl⟩)⟩

/-- what holds of the state `s` reached by `addAll g A order`, together with the hypotheses on segment, accessor and
visit order under which it was reached -/
structure Final (g : Segment) (A : Option Assets) (rank : Uid → Nat) (order : List Uid) (s : CState) : Prop where
  wf : WF g rank
  assets : AssetsOK g A
  ord : OrderOK g order
  ok : s.fail = none
  idx : IdxInv g A order (s.index, s.committer)
  abs : AbsSpec [] s.absolute (allProg g A order)
  pre : PreInv g A order s.prefixed

theorem final_state {g : Segment} {A : Option Assets} {rank : Uid → Nat} (h : WF g rank) (hA : AssetsOK g A)
    {order : List Uid} (ho : OrderOK g order) : Final g A rank order (addAll g A order) := by
  have hsome : ∀ n ∈ order, (g.worker? n).isSome := fun n hn => by
    obtain ⟨w, hw, rfl⟩ := mem_uids.mp (ho.sub n hn)
    rw [worker?_of_mem h.nodup hw]; rfl
  obtain ⟨⟨I, c⟩, hidx, inv⟩ := idx_all (A := A) h order ho.nodup hsome
  obtain ⟨B, habs, hspec⟩ := abs_final (A := A) h ho.nodup ho.sub
  have hpre := preInv_all g A order ho.nodup hsome
  have hdec := runOps_decomp (allProg g A order) CState.init I c B rfl (Or.inl rfl) hidx habs
  rw [addAll_eq, hdec.1]
  exact ⟨h, hA, ho, rfl, inv, hspec, hpre⟩

section
variable {g : Segment} {A : Option Assets} {rank : Uid → Nat} {order : List Uid} {s : CState}

theorem Final.ix (hf : Final g A rank order s) {w : Worker} (hw : w ∈ g.workers) {k : Key} {o : Obj}
    (hc : Contrib g A order w k o) : aget k s.index = some o :=
  hf.idx.complete ⟨w, hw, hf.ord.all w hw, hc⟩

section
variable (hf : Final g A rank order s) {w : Worker} (hw : w ∈ g.workers)
include hf hw

theorem Final.ix_uid : aget (.uid w.uid) s.index = some (functorObj g A w) := hf.ix hw ⟨rfl, rfl⟩

theorem Final.ix_getter (htr : g.trained w.uid = false) (hne : w.szout ≠ 1) {i : Nat} (hi : i < w.szout) :
    aget (.getter w.uid i) s.index = some (getterObj w.uid i) :=
  hf.ix hw ⟨rfl, rfl, htr, hne, hi⟩

theorem Final.ix_gid_trainer (hT : g.isTrainer w = true) : aget (.gid w.gid) s.index = some (functorObj g A w) :=
  hf.ix hw ⟨rfl, Or.inl ⟨hT, rfl⟩⟩

theorem Final.ix_gid_loader (hP : persistentW A w = true) (hno : g.trainerOf w.gid = none) :
    aget (.gid w.gid) s.index = some (loaderObj w.gid) := by
  refine hf.ix hw ⟨rfl, Or.inr ⟨hP, rfl, fun t ht hg hT _ => ?_⟩⟩
  have := trainerOf_none hno t ht hg
  rw [trained_of_isTrainer hT] at this; cases this

variable (hT : g.isTrainer w = true) (hP : persistentW A w = true)
include hT hP

theorem Final.ix_loader : aget (.loader w.gid) s.index = some (loaderObj w.gid) := hf.ix hw ⟨rfl, rfl, hT, hP⟩

theorem Final.ix_dumper : aget (.dumper w.uid) s.index = some (dumperObj w.uid) := hf.ix hw ⟨rfl, rfl, hT, hP⟩

theorem Final.ix_committer : aget .committer s.index = some committerObj := hf.ix hw ⟨rfl, hT, hP⟩

end

/-- the slots of the absolute linkage are exactly the links the graph prescribes -/
theorem Final.slot_iff (hf : Final g A rank order s) (k : Key) (j : Nat) (a : Key) :
    slot s.absolute k j = some a ↔ ∃ w ∈ g.workers, LinkSpec g A w k j a := by
  constructor
  · intro hs
    rcases hf.abs.sound k j a hs with h0 | ⟨op, hop, ht, hsrc⟩
    · simp [slot, aget] at h0
    · obtain ⟨w, hw, _, hl⟩ := allProg_links hf.wf hf.ord.sub hop ht
      exact ⟨w, hw, hsrc ▸ hl⟩
  · rintro ⟨w, hw, hl⟩
    obtain ⟨op, hop, ht, hsrc⟩ := allProg_links_complete (order := order) hf.wf hw (hf.ord.all w hw) hl
    rw [← hsrc]
    exact hf.abs.written op hop k j ht

theorem mem_keys_of_slot {abs : AbsS} {k a : Key} {j : Nat} (hs : slot abs k j = some a) : k ∈ abs.map (·.1) := by
  apply Classical.byContradiction
  intro hnot
  rw [← aget_none_iff] at hnot
  simp [slot, hnot] at hs

theorem ab_getD (s : CState) (k : Key) (j : Nat) : (s.ab k).getD j none = slot s.absolute k j := rfl

theorem Final.ab_lastSome (hf : Final g A rank order s) (k : Key) : LastSome (s.ab k) := by
  unfold CState.ab
  cases hk : aget k s.absolute with
  | none => exact Or.inl rfl
  | some l => exact hf.abs.last (fun _ _ h => by simp [aget] at h) k l hk

theorem Final.pf_uid (hf : Final g A rank order s) {w : Worker} (hw : w ∈ g.workers) :
    s.pf (.uid w.uid) = if g.hasPreset A w then [stateKey g A w] else [] := by
  unfold CState.pf
  have hwk := worker?_of_mem hf.wf.nodup hw
  split
  · rename_i hp
    rw [hf.pre.complete w hwk (hf.ord.all w hw) hp]; rfl
  · rename_i hp
    cases hk : aget (Key.uid w.uid) s.prefixed with
    | none => rfl
    | some l =>
      obtain ⟨w', hw', hk', _, hp', _⟩ := hf.pre.sound _ _ hk
      have : w' = w := by
        have := Key.uid.inj hk'
        rw [← this, hwk] at hw'; cases hw'; rfl
      subst this
      exact absurd hp' hp

theorem Final.pf_other (hf : Final g A rank order s) {k : Key} (hk : ∀ n, k ≠ Key.uid n) : s.pf k = [] := by
  unfold CState.pf
  cases hg : aget k s.prefixed with
  | none => rfl
  | some l =>
    obtain ⟨w', _, hk', _⟩ := hf.pre.sound _ _ hg
    exact absurd hk' (hk _)

/-- keys that are never linked into: group aliases and loaders -/
theorem Final.ab_nolink (hf : Final g A rank order s) {k : Key}
    (hk : (∃ γ, k = Key.gid γ) ∨ (∃ γ, k = Key.loader γ)) : s.ab k = [] := by
  have hls := hf.ab_lastSome k
  rcases hls with h0 | ⟨a, ha⟩
  · exact h0
  · exfalso
    rw [List.getLast?_eq_getElem?] at ha
    have hs : slot s.absolute k ((s.ab k).length - 1) = some a := by
      rw [← ab_getD]; simp [List.getD_eq_getElem?_getD, ha]
    obtain ⟨w, _, hl⟩ := (hf.slot_iff k _ a).mp hs
    rcases linkSpec_inv hl with ⟨hk', _⟩ | ⟨hk', _⟩ | ⟨i, hk', _⟩ | ⟨e, hk', _⟩ <;>
      rcases hk with ⟨γ, rfl⟩ | ⟨γ, rfl⟩ <;> cases hk'

end

end ForML.Flow
