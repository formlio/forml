/-
Two compositions that step alike, up to an injective renaming of uids, on the nodes one of them visits are visited in
the same order (`visit_map_of_next_on`); if the workers found there correspond (groups renamed injectively, derived
alike) the persistent lists correspond (`persistent_map`).  A fresh expansion (`Comp.rename` with injective uid / gid
renamings) is the first instance: same visit order, same derived workers, same persistent list up to the gid renaming.
-/
import ForML.Lemmas.C04Reach
import ForML.Lemmas.ListFacts

namespace ForML.Persist

/-- injective renaming (fresh uuids never collide) -/
def Inj (f : Nat → Nat) : Prop := ∀ a b, f a = f b → a = b

theorem Inj.beq {f : Nat → Nat} (h : Inj f) (a b : Nat) : (f a == f b) = (a == b) := by
  apply Bool.eq_iff_iff.mpr
  simp only [beq_iff_eq]
  exact ⟨h a b, fun e => by rw [e]⟩

theorem Inj.bne {f : Nat → Nat} (h : Inj f) (a b : Nat) : (f a != f b) = (a != b) := by
  show (!(f a == f b)) = (!(a == b))
  rw [h.beq]

theorem Inj.contains_map {f : Nat → Nat} (h : Inj f) (l : List Nat) (a : Nat) :
    (l.map f).contains (f a) = l.contains a := by
  induction l with
  | nil => simp
  | cons x xs ih =>
    simp only [List.map_cons, List.contains_cons, ih]
    rw [h.beq]

theorem Inj.idxOf_map {f : Nat → Nat} (h : Inj f) (l : List Nat) (a : Nat) :
    (l.map f).idxOf (f a) = l.idxOf a := by
  induction l with
  | nil => simp
  | cons x xs ih =>
    simp only [List.map_cons, List.idxOf_cons, ih]
    rw [h.beq]

theorem dedup_map {σ : Nat → Nat} (hσ : Inj σ) (l : List Nat) : dedup (l.map σ) = (dedup l).map σ := by
  induction l with
  | nil => rfl
  | cons x xs ih =>
    simp only [List.map_cons, dedup, ih, List.filter_map]
    congr 2
    apply List.filter_congr
    intro y _
    simp [Function.comp, hσ.bne]

theorem mem_dedup : ∀ (l : List Nat) (x : Nat), x ∈ dedup l → x ∈ l := by
  intro l
  induction l with
  | nil => intro x h; cases h
  | cons a as ih =>
    intro x h
    simp only [dedup, List.mem_cons, List.mem_filter] at h
    cases h with
    | inl h => exact h ▸ List.mem_cons_self
    | inr h => exact List.mem_cons_of_mem _ (ih x h.1)

def Node.rename (ρ σ : Nat → Nat) (n : Node) : Node := { n with uid := ρ n.uid, gid := σ n.gid }

@[simp] theorem Node.rename_tag (ρ σ : Nat → Nat) (n : Node) : (n.rename ρ σ).tag = n.tag := rfl
@[simp] theorem Node.rename_stateful (ρ σ : Nat → Nat) (n : Node) : (n.rename ρ σ).stateful = n.stateful := rfl
@[simp] theorem Node.rename_trained (ρ σ : Nat → Nat) (n : Node) : (n.rename ρ σ).trained = n.trained := rfl
@[simp] theorem Node.rename_uid (ρ σ : Nat → Nat) (n : Node) : (n.rename ρ σ).uid = ρ n.uid := rfl
@[simp] theorem Node.rename_gid (ρ σ : Nat → Nat) (n : Node) : (n.rename ρ σ).gid = σ n.gid := rfl

namespace Comp

theorem rename_nodes (ρ σ : Nat → Nat) (c : Comp) : (c.rename ρ σ).nodes = c.nodes.map (Node.rename ρ σ) := rfl

theorem subs_rename {ρ : Nat → Nat} (σ : Nat → Nat) (hρ : Inj ρ) (c : Comp) (u : Nat) :
    (c.rename ρ σ).subs (ρ u) = (c.subs u).map ρ := by
  simp only [subs, rename, List.filter_map, List.map_map]
  congr 1
  apply List.filter_congr
  intro e _
  simp [Function.comp, hρ.beq]

theorem isTrained_rename {ρ : Nat → Nat} (σ : Nat → Nat) (hρ : Inj ρ) (c : Comp) (u : Nat) :
    (c.rename ρ σ).isTrained (ρ u) = c.isTrained u := by
  simp only [isTrained, rename, List.any_map]
  congr 1
  funext n
  simp [Function.comp, hρ.beq]

theorem next_rename {ρ : Nat → Nat} (σ : Nat → Nat) (hρ : Inj ρ) (c : Comp) (t u : Nat) :
    (c.rename ρ σ).next (ρ t) (ρ u) = (c.next t u).map ρ := by
  simp only [next, hρ.beq, subs_rename σ hρ]
  split
  · rw [List.filter_map]
    congr 1
    apply List.filter_congr
    intro x _
    simp [Function.comp, isTrained_rename σ hρ]
  · rfl

theorem dfs_map_of_next_on (hρ : Inj ρ) (c c' : Comp) (t t' f : Nat) (stack seen : List Nat)
    (h : ∀ u ∈ c.dfs t f stack seen, c'.next t' (ρ u) = (c.next t u).map ρ) :
    c'.dfs t' f (stack.map ρ) (seen.map ρ) = (c.dfs t f stack seen).map ρ := by
  fun_induction dfs c t f stack seen with
  | case1 | case2 => simp [dfs]
  | case3 f u rest seen hu ih => rw [List.map_cons, dfs, hρ.contains_map, if_pos hu, ih h]
  | case4 f u rest seen hu ih =>
    rw [List.map_cons, dfs, hρ.contains_map, if_neg hu, h u (dfs_seen_sub c t f _ _ (by simp)), ← ih h]
    simp

/-- the second composition may have fuel to spare -/
theorem visit_map_of_next_on (hρ : Inj ρ) {c c' : Comp} {h t : Nat} (hf : c.fuel ≤ c'.fuel)
    (hn : ∀ u ∈ c.visit h t, c'.next (ρ t) (ρ u) = (c.next t u).map ρ) :
    c'.visit (ρ h) (ρ t) = (c.visit h t).map ρ := by
  obtain ⟨k, hk⟩ := Nat.le.dest hf
  have := dfs_map_of_next_on hρ c c' t (ρ t) (c.fuel + k) [h] [] (by rwa [visit_fuel])
  rwa [visit_fuel, hk] at this

theorem visitNodes_map_of_next_on (hρ : Inj ρ) {c c' : Comp} {h t : Nat} {φ : Node → Node} (hf : c.fuel ≤ c'.fuel)
    (hn : ∀ u ∈ c.visit h t, c'.next (ρ t) (ρ u) = (c.next t u).map ρ ∧ c'.node? (ρ u) = (c.node? u).map φ) :
    c'.visitNodes (ρ h) (ρ t) = (c.visitNodes h t).map φ := by
  rw [visitNodes, visit_map_of_next_on hρ hf fun u hu => (hn u hu).1, visitNodes, List.filterMap_map,
    List.map_filterMap]
  exact filterMap_congr fun u hu => (hn u hu).2

theorem node?_rename {ρ : Nat → Nat} (σ : Nat → Nat) (hρ : Inj ρ) (c : Comp) (u : Nat) :
    (c.rename ρ σ).node? (ρ u) = (c.node? u).map (Node.rename ρ σ) := by
  simp only [node?, rename_nodes, List.find?_map]
  congr 2
  funext n
  simp [Function.comp, hρ.beq]

theorem visitNodes_rename {ρ : Nat → Nat} (σ : Nat → Nat) (hρ : Inj ρ) (c : Comp) (h t : Nat) :
    (c.rename ρ σ).visitNodes (ρ h) (ρ t) = (c.visitNodes h t).map (Node.rename ρ σ) :=
  visitNodes_map_of_next_on hρ (by simp [fuel, rename]) fun u _ => ⟨next_rename σ hρ c t u, node?_rename σ hρ c u⟩

theorem derived_rename {ρ σ : Nat → Nat} (hρ : Inj ρ) (hσ : Inj σ) (c : Comp) (n : Node) :
    (c.rename ρ σ).derived (n.rename ρ σ) = c.derived n := by
  simp only [derived, rename_nodes, List.any_map, Node.rename_stateful]
  congr 2
  funext m
  simp [Function.comp, hρ.bne, hσ.beq]

theorem persistentOf_map {σ : Nat → Nat} (hσ : Inj σ) {c c' : Comp} {φ : Node → Node} {order : List Node}
    (hφ : ∀ n ∈ order, (φ n).gid = σ n.gid ∧ c'.derived (φ n) = c.derived n) :
    c'.persistentOf (order.map φ) = (c.persistentOf order).map σ := by
  rw [persistentOf, persistentOf, ← dedup_map hσ, List.filter_map, List.map_map, List.map_map,
    List.filter_congr (p := c'.derived ∘ φ) (q := c.derived) fun n hn => (hφ n hn).2]
  exact congrArg dedup (List.map_congr_left fun n hn => (hφ n (List.mem_filter.mp hn).1).1)

/-- the persistent list depends on the apply segment only, up to renaming; a fresh expansion and the evaluation's
composition with a faithful copy (`persistent_withCopy`, C04Copy) are instances -/
theorem persistent_map {σ : Nat → Nat} (hρ : Inj ρ) (hσ : Inj σ) {c c' : Comp} {φ : Node → Node}
    (hh : c'.applyHead = ρ c.applyHead) (ht : c'.applyTail = ρ c.applyTail) (hf : c.fuel ≤ c'.fuel)
    (hn : ∀ u ∈ c.visit c.applyHead c.applyTail,
      c'.next (ρ c.applyTail) (ρ u) = (c.next c.applyTail u).map ρ ∧ c'.node? (ρ u) = (c.node? u).map φ)
    (hφ : ∀ n ∈ c.visitNodes c.applyHead c.applyTail, (φ n).gid = σ n.gid ∧ c'.derived (φ n) = c.derived n) :
    c'.persistent = c.persistent.map σ := by
  rw [persistent, hh, ht, visitNodes_map_of_next_on hρ hf hn]
  exact persistentOf_map hσ hφ

theorem persistent_rename {ρ σ : Nat → Nat} (hρ : Inj ρ) (hσ : Inj σ) (c : Comp) :
    (c.rename ρ σ).persistent = c.persistent.map σ :=
  persistent_map hρ hσ rfl rfl (by simp [fuel, rename])
    (fun u _ => ⟨next_rename σ hρ c _ u, node?_rename σ hρ c u⟩) fun n _ => ⟨rfl, derived_rename hρ hσ c n⟩

theorem tagOfGid_rename {σ : Nat → Nat} (ρ : Nat → Nat) (hσ : Inj σ) (c : Comp) (g : Nat) :
    (c.rename ρ σ).tagOfGid (σ g) = c.tagOfGid g := by
  simp only [tagOfGid, rename_nodes, List.find?_map, Option.map_map]
  have : ((fun n : Node => n.gid == σ g) ∘ Node.rename ρ σ) = (fun n : Node => n.gid == g) := by
    funext n
    simp [Function.comp, hσ.beq]
  rw [this]
  cases List.find? (fun n : Node => n.gid == g) c.nodes <;> rfl

theorem persistentTags_rename {ρ σ : Nat → Nat} (hρ : Inj ρ) (hσ : Inj σ) (c : Comp) :
    (c.rename ρ σ).persistentTags = c.persistentTags := by
  simp only [persistentTags, persistent_rename hρ hσ, List.map_map]
  congr 1
  funext g
  simp [Function.comp, tagOfGid_rename ρ hσ]

end Comp

end ForML.Persist
