/- Configuration layering (C20): one `merge` seen path by path (`obs_merge`), a stack as its newest-first reading
(`obs_stack`), list merging, and idempotence of a repeated source. -/
import ForML.Model.Conf
import ForML.Lemmas.ListFacts

namespace ForML.Conf

theorem lookup_eq (k : Nat) (t : Tbl) : lookup k t = t.lookup k :=
  lookup_eq_of_eqns (fun _ => rfl) (fun _ _ _ _ => rfl) k t

theorem lookup_append (k : Nat) (a b : Tbl) :
    lookup k (a ++ b) = match lookup k a with
      | some v => some v
      | none => lookup k b := by
  simp only [lookup_eq, List.lookup_append]
  cases a.lookup k <;> rfl

theorem lookup_mergeL (k : Nat) (l r : Tbl) :
    lookup k (mergeL l r) = match lookup k l with
      | none => none
      | some v => match lookup k r with
        | some w => some (merge v w)
        | none => some v := by
  induction l with
  | nil => simp [mergeL, lookup]
  | cons e rest ih =>
    obtain ⟨k', v⟩ := e
    by_cases h : k' = k
    · subst h
      cases hr : lookup k' r <;> simp [mergeL, lookup, hr]
    · cases hr : lookup k' r <;> simp [mergeL, lookup, hr, h, ih]

theorem lookup_filter_absent (k : Nat) (l r : Tbl) :
    lookup k (r.filter (fun e => (lookup e.1 l).isNone)) =
      if (lookup k l).isNone then lookup k r else none := by
  simp only [lookup_eq]
  exact lookup_filter_key (fun x => (l.lookup x).isNone) k r

/-- key by key: a common key is merged, a key of one side only is copied -/
def combine : Option Cfg → Option Cfg → Option Cfg
  | some v, some w => some (merge v w)
  | some v, none => some v
  | none, w => w

theorem child_merge_tables (l r : Tbl) (k : Nat) :
    child (merge (.table l) (.table r)) k = combine (lookup k l) (lookup k r) := by
  simp only [merge, child, lookup_append, lookup_mergeL, lookup_filter_absent]
  cases lookup k l <;> cases lookup k r <;> simp [combine]

theorem merge_not_table_right (a c : Cfg) (h : ∀ t, c ≠ .table t) (k : Nat) : child (merge a c) k = none := by
  cases c with
  | table t => exact absurd rfl (h t)
  | scalar v => cases a <;> simp [merge, child]
  | list ys => cases a <;> simp [merge, child]

theorem merge_not_table_left (a : Cfg) (r : Tbl) (h : ∀ t, a ≠ .table t) : merge a (.table r) = .table r := by
  cases a with
  | table t => exact absurd rfl (h t)
  | scalar v => simp [merge]
  | list ys => simp [merge]

theorem obs_nil (c : Cfg) : obs c [] = some (leaf c) := by simp [obs, get]

theorem obs_cons (c : Cfg) (k : Nat) (p : Path) :
    obs c (k :: p) = match child c k with
      | some v => obs v p
      | none => none := by
  simp only [obs, get]
  cases child c k <;> simp

theorem untouched_cons (c : Cfg) (k : Nat) (p : Path) :
    untouched c (k :: p) = match c with
      | .table t => (match lookup k t with
        | none => true
        | some v => untouched v p)
      | _ => false := by
  cases c with
  | scalar v => simp [untouched]
  | list v => simp [untouched]
  | table t => simp only [untouched]; rfl

theorem untouched_obs_none (c : Cfg) (p : Path) (h : untouched c p = true) : obs c p = none := by
  induction p generalizing c with
  | nil => simp [untouched] at h
  | cons k p ih =>
    cases c with
    | scalar v => simp [untouched] at h
    | list v => simp [untouched] at h
    | table t =>
      rw [obs_cons]
      simp only [untouched] at h
      simp only [child]
      cases hk : lookup k t with
      | none => rfl
      | some v => simp [hk] at h; simpa using ih v h

/-- nothing visible below: one more source shows what it says -/
theorem stepLeaf_none (oc : Option Leaf) (u : Bool) : stepLeaf none oc u = oc := by
  cases oc with
  | none => cases u <;> rfl
  | some l => cases l <;> rfl

theorem obs_merge (a c : Cfg) (p : Path) :
    obs (merge a c) p = stepLeaf (obs a p) (obs c p) (untouched c p) := by
  induction p generalizing a c with
  | nil =>
    cases a <;> cases c <;> simp [obs_nil, merge, leaf, stepLeaf]
  | cons k p ih =>
    cases c with
    | scalar v =>
      rw [obs_cons, merge_not_table_right a _ (by intro t h; cases h)]
      simp [obs_cons, child, untouched, stepLeaf]
    | list ys =>
      rw [obs_cons, merge_not_table_right a _ (by intro t h; cases h)]
      simp [obs_cons, child, untouched, stepLeaf]
    | table r =>
      cases a with
      | scalar v =>
        rw [merge_not_table_left _ _ (by intro t h; cases h)]
        simp only [obs_cons (.scalar v), child, stepLeaf_none]
      | list xs =>
        rw [merge_not_table_left _ _ (by intro t h; cases h)]
        simp only [obs_cons (.list xs), child, stepLeaf_none]
      | table l =>
        rw [obs_cons, child_merge_tables, obs_cons (.table l), obs_cons (.table r), untouched_cons]
        simp only [child]
        cases hl : lookup k l with
        | none =>
          cases hr : lookup k r with
          | none => simp [combine, stepLeaf]
          | some w => simp only [combine, stepLeaf_none]
        | some v =>
          cases hr : lookup k r with
          | none => simp [combine, stepLeaf]
          | some w => simp only [combine]; exact ih v w

theorem layered_snoc (b : Option Leaf) (xs : List Cfg) (c : Cfg) (p : Path) :
    layered b (xs ++ [c]) p = layered (stepLeaf b (obs c p) (untouched c p)) xs p := by
  induction xs with
  | nil => simp [layered]
  | cons x r ih => simp [layered, ih]

theorem obs_stack (base : Cfg) (cs : List Cfg) (p : Path) :
    obs (stack base cs) p = layered (obs base p) cs.reverse p := by
  induction cs generalizing base with
  | nil => simp [stack, layered]
  | cons c cs ih =>
    have : stack base (c :: cs) = stack (merge base c) cs := by simp [stack]
    rw [this, ih, List.reverse_cons, layered_snoc, obs_merge]

theorem mem_mergeList (old new : List Nat) (v : Nat) : v ∈ mergeList old new ↔ v ∈ new ∨ v ∈ old := by
  simp only [mergeList, List.mem_append, List.mem_filter]
  constructor
  · rintro (h | ⟨h, _⟩)
    · exact Or.inl h
    · exact Or.inr h
  · intro h
    by_cases hn : v ∈ new
    · exact Or.inl hn
    · rcases h with h | h
      · exact Or.inl h
      · exact Or.inr ⟨h, by simpa using hn⟩

theorem nodup_mergeList (old new : List Nat) (ho : old.Nodup) (hn : new.Nodup) : (mergeList old new).Nodup := by
  simp only [mergeList]
  rw [List.nodup_append]
  refine ⟨hn, ho.filter _, ?_⟩
  intro a ha b hb hab
  subst hab
  simp only [List.mem_filter] at hb
  have := hb.2
  simp at this
  exact this ha

theorem nodupB_iff (xs : List Nat) : nodupB xs = true ↔ xs.Nodup := by
  induction xs with
  | nil => simp [nodupB]
  | cons x r ih => simp [nodupB, ih]

theorem filter_mergeList (xs ys zs : List Nat) :
    (mergeList xs ys).filter (fun v => !zs.contains v)
      = ys.filter (fun v => !zs.contains v) ++ (xs.filter (fun v => !ys.contains v)).filter (fun v => !zs.contains v) := by
  simp [mergeList]

theorem mergeList_assoc (xs ys zs : List Nat) :
    mergeList (mergeList xs ys) zs = mergeList xs (mergeList ys zs) := by
  simp only [mergeList, List.filter_append, List.append_assoc, List.filter_filter]
  congr 2
  apply List.filter_congr
  intro v _
  by_cases hz : v ∈ zs <;> by_cases hy : v ∈ ys <;> simp [hz, hy]

theorem allListsL_lookup (P : List Nat → Bool) (t : Tbl) (k : Nat) (v : Cfg)
    (h : allListsL P t = true) (hk : lookup k t = some v) : allLists P v = true := by
  induction t with
  | nil => simp [lookup] at hk
  | cons e r ih =>
    obtain ⟨k', w⟩ := e
    simp only [allListsL, Bool.and_eq_true] at h
    by_cases hkk : k' = k
    · simp [lookup, hkk] at hk; subst hk; exact h.1
    · simp [lookup, hkk] at hk; exact ih h.2 hk

theorem allLists_obs (P : List Nat → Bool) (c : Cfg) (p : Path) (xs : List Nat)
    (h : allLists P c = true) (ho : obs c p = some (.list xs)) : P xs = true := by
  induction p generalizing c with
  | nil =>
    cases c <;> simp [obs_nil, leaf] at ho
    subst ho; simpa [allLists] using h
  | cons k p ih =>
    rw [obs_cons] at ho
    cases c with
    | scalar v => simp [child] at ho
    | list v => simp [child] at ho
    | table t =>
      simp only [child] at ho
      cases hk : lookup k t with
      | none => simp [hk] at ho
      | some v =>
        simp [hk] at ho
        exact ih v (allListsL_lookup P t k v (by simpa [allLists] using h) hk) ho

theorem compatL_lookup (l r : Tbl) (k : Nat) (v w : Cfg) (h : compatL l r = true)
    (hl : lookup k l = some v) (hr : lookup k r = some w) : compat v w = true := by
  induction l with
  | nil => simp [lookup] at hl
  | cons e rest ih =>
    obtain ⟨k', u⟩ := e
    simp only [compatL, Bool.and_eq_true] at h
    by_cases hkk : k' = k
    · subst hkk
      simp [lookup] at hl; subst hl
      simpa [hr] using h.1
    · simp [lookup, hkk] at hl; exact ih h.2 hl

theorem mergeList_idem (xs ys : List Nat) : mergeList (mergeList xs ys) ys = mergeList xs ys := by
  simp only [mergeList, List.filter_append, List.filter_filter]
  have h1 : ys.filter (fun v => !ys.contains v) = [] := by
    simp [List.filter_eq_nil_iff]
  rw [h1, List.nil_append]
  congr 1
  apply List.filter_congr
  intro v _
  cases ys.contains v <;> rfl

theorem mergeList_self (ys : List Nat) : mergeList ys ys = ys := by
  simp [mergeList, List.filter_eq_nil_iff]

theorem stepLeaf_idem (acc oc : Option Leaf) (u : Bool) :
    stepLeaf (stepLeaf acc oc u) oc u = stepLeaf acc oc u := by
  cases oc with
  | none => cases u <;> simp [stepLeaf]
  | some l =>
    cases l with
    | scalar v => simp [stepLeaf]
    | table => simp [stepLeaf]
    | list ys =>
      cases acc with
      | none => simp [stepLeaf, mergeList_self]
      | some a => cases a <;> simp [stepLeaf, mergeList_idem, mergeList_self]

end ForML.Conf
