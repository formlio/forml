/-
C14 — `shaped_induction` and `scoped_induction`, the inductions the traversal theorems go by, and the columns: the
fields registered in the parser context (`Segs`) only grow and cover the elements of the registered features
(`Covers`), so every scan is offered the columns it needs (`run_cols`).
-/
import ForML.Model.PushDown
import ForML.Lemmas.ListFacts

namespace ForML.PushDown
open ForML.Dsl

/-- `A` is for what occurs inside a query context (a join tree over tables and references), `B` for statements, which
a context only meets through a reference or as a whole. -/
theorem shaped_induction {A B : Source → Prop}
    (table : ∀ n fs, A (.table n fs))
    (refTable : ∀ i nm, isTable i = true → A (.ref i nm))
    (refStmt : ∀ i nm, isTable i = false → B i → A (.ref i nm))
    (join : ∀ l r k c, A l → A r → A (.join l r k c))
    (set : ∀ l r k, B l → B r → B (.set l r k))
    (query : ∀ src sel pre grp post ord rows, A src → B (.query src sel pre grp post ord rows))
    (stmt : ∀ s, isStmt s = true → B s → A s) :
    ∀ s, shaped s = true → A s ∧ (isStmt s = true → B s)
  | .table n fs, _ => ⟨table n fs, fun h => by simp [isStmt] at h⟩
  | .ref i nm, hw => by
    simp only [shaped, Bool.and_eq_true, Bool.or_eq_true] at hw
    refine ⟨?_, fun h => by simp [isStmt] at h⟩
    cases ht : isTable i with
    | true => exact refTable i nm ht
    | false =>
      exact refStmt i nm ht ((shaped_induction table refTable refStmt join set query stmt i hw.2).2
        (hw.1.resolve_left (by simp [ht])))
  | .join l r k c, hw => by
    simp only [shaped, Bool.and_eq_true] at hw
    exact ⟨join l r k c (shaped_induction table refTable refStmt join set query stmt l hw.1).1
      (shaped_induction table refTable refStmt join set query stmt r hw.2).1, fun h => by simp [isStmt] at h⟩
  | .set l r k, hw => by
    simp only [shaped, Bool.and_eq_true] at hw
    have h := set l r k ((shaped_induction table refTable refStmt join set query stmt l hw.1.2).2 hw.1.1.1)
      ((shaped_induction table refTable refStmt join set query stmt r hw.2).2 hw.1.1.2)
    exact ⟨stmt _ rfl h, fun _ => h⟩
  | .query src sel pre grp post ord rows, hw => by
    have h := query src sel pre grp post ord rows (shaped_induction table refTable refStmt join set query stmt src hw).1
    exact ⟨stmt _ rfl h, fun _ => h⟩

theorem shaped_of_grammarScoped : ∀ (s : Source), grammarScoped s = true → shaped s = true
  | .table _ _, _ => rfl
  | .ref i _, h => by
    simp only [grammarScoped, Bool.and_eq_true] at h
    simp [shaped, h.1, shaped_of_grammarScoped i h.2]
  | .join l r _ _, h => by
    simp only [grammarScoped, Bool.and_eq_true] at h
    simp [shaped, shaped_of_grammarScoped l h.1, shaped_of_grammarScoped r h.2]
  | .set l r _, h => by
    simp only [grammarScoped, Bool.and_eq_true] at h
    simp [shaped, h.1.1.1, h.1.1.2, shaped_of_grammarScoped l h.1.2, shaped_of_grammarScoped r h.2]
  | .query src _ _ _ _ _ _, h => by
    simp only [grammarScoped, Bool.and_eq_true] at h
    simpa [shaped] using shaped_of_grammarScoped src h.2

/-- `shaped_induction` over the sources the grammar admits: inside a query context a join condition is over the origins
of its own sides, the sides are scoped alike and share no origin (`Join.__new__`), which the `join` case is handed. -/
theorem scoped_induction {A B : Source → Prop}
    (table : ∀ n fs, A (.table n fs))
    (refTable : ∀ i nm, isTable i = true → A (.ref i nm))
    (refStmt : ∀ i nm, isTable i = false → B i → A (.ref i nm))
    (join : ∀ l r k c, scopedIn (origins l ++ origins r) (optList c) = true → joinsScoped l = true →
      joinsScoped r = true → (∀ o ∈ origins r, o ∉ origins l) → shaped l = true → A l → A r → A (.join l r k c))
    (set : ∀ l r k, B l → B r → B (.set l r k))
    (query : ∀ src sel pre grp post ord rows, A src → B (.query src sel pre grp post ord rows))
    (stmt : ∀ s, isStmt s = true → B s → A s) (s : Source) (hg : grammarScoped s = true) :
    (joinsScoped s = true → (origins s).Nodup → A s) ∧ (isStmt s = true → B s) := by
  have := shaped_induction
    (A := fun s => grammarScoped s = true → joinsScoped s = true → (origins s).Nodup → A s)
    (B := fun s => grammarScoped s = true → B s)
    (fun n fs _ _ _ => table n fs) (fun i nm ht _ _ _ => refTable i nm ht) ?_ ?_ ?_ ?_ (fun s hs h hg _ _ => stmt s hs (h hg))
    s (shaped_of_grammarScoped s hg)
  · exact ⟨this.1 hg, fun hs => this.2 hs hg⟩
  · intro i nm ht ih hg _ _
    simp only [grammarScoped, Bool.and_eq_true] at hg
    exact refStmt i nm ht (ih hg.2)
  · intro l r k c iha ihb hg hj hnd
    simp only [grammarScoped, Bool.and_eq_true] at hg
    simp only [joinsScoped, Bool.and_eq_true] at hj
    simp only [origins, List.nodup_append] at hnd
    exact join l r k c hj.1.1 hj.1.2 hj.2 (fun o ho hol => hnd.2.2 o hol o ho rfl) (shaped_of_grammarScoped l hg.1)
      (iha hg.1 hj.1.2 hnd.1) (ihb hg.2 hj.2 hnd.2.1)
  · intro l r k iha ihb hg
    simp only [grammarScoped, Bool.and_eq_true] at hg
    exact set l r k (iha hg.1.2) (ihb hg.2)
  · intro src sel pre grp post ord rows ih hg
    simp only [grammarScoped, Bool.and_eq_true, decide_eq_true_eq] at hg
    exact query src sel pre grp post ord rows (ih hg.2 hg.1.2 hg.1.1)

theorem mem_addAll {α : Type} [DecidableEq α] {as l : List α} {x : α} : x ∈ addAll l as ↔ x ∈ l ∨ x ∈ as :=
  mem_foldl_addNew

@[simp] theorem select_fields (fix : Bool) (st : Segs) (fs : List Feature) :
    (st.select fix fs).fields = addAll st.fields (tableCols fix fs) := rfl
@[simp] theorem select_factors (fix : Bool) (st : Segs) (fs : List Feature) : (st.select fix fs).factors = st.factors := rfl
@[simp] theorem select_err (fix : Bool) (st : Segs) (fs : List Feature) : (st.select fix fs).err = st.err := rfl
@[simp] theorem release_fields (st : Segs) (os : List Source) : (st.release os).fields = st.fields := rfl
@[simp] theorem release_err (st : Segs) (os : List Source) : (st.release os).err = st.err := rfl

@[simp] theorem keyOf_table (fix : Bool) (n : String) (fs : Fields) : keyOf fix (.table n fs) = .table n fs := by
  cases fix <;> rfl

theorem filter_fields (fix len : Bool) (st : Segs) (e : Feature) (ex : List Source) :
    (st.filter fix len e ex).fields = addAll st.fields (tableCols fix [e]) := by
  unfold Segs.filter
  cases factorsOf len e <;> rfl

/-- the elements of a table (directly or through a reference) among the elements of `F` are registered in the segment
of their scan -/
def Covers (fix : Bool) (st : Segs) (F : List Feature) : Prop :=
  ∀ e ∈ elemsAll F, isTable (inst e.1) = true → (keyOf fix e.1, e.2) ∈ st.fields

theorem mem_tableCols {fix : Bool} {fs : List Feature} {e : Elem} (he : e ∈ elemsAll fs) (ht : isTable (inst e.1) = true) :
    (keyOf fix e.1, e.2) ∈ tableCols fix fs := by
  unfold tableCols
  rw [List.mem_filterMap]
  exact ⟨e, he, by simp [ht]⟩

theorem covers_select (fix : Bool) (st : Segs) (fs : List Feature) : Covers fix (st.select fix fs) fs := by
  intro e he ht
  rw [select_fields, mem_addAll]
  exact Or.inr (mem_tableCols he ht)

theorem covers_filter (fix len : Bool) (st : Segs) (e : Feature) (ex : List Source) :
    Covers fix (st.filter fix len e ex) [e] := by
  intro x hx ht
  rw [filter_fields, mem_addAll]
  exact Or.inr (mem_tableCols hx ht)

theorem covers_mono {fix : Bool} {st st' : Segs} {F : List Feature} (h : Covers fix st F)
    (hs : ∀ x ∈ st.fields, x ∈ st'.fields) : Covers fix st' F := fun e he ht => hs _ (h e he ht)

theorem mem_elemsAll_append {F G : List Feature} {e : Elem} : e ∈ elemsAll (F ++ G) ↔ e ∈ elemsAll F ∨ e ∈ elemsAll G := by
  simp only [elemsAll, List.flatMap_append, List.mem_append]

theorem covers_append {fix : Bool} {st : Segs} {F G : List Feature} (hF : Covers fix st F) (hG : Covers fix st G) :
    Covers fix st (F ++ G) :=
  fun e he ht => (mem_elemsAll_append.mp he).elim (fun h => hF e h ht) (fun h => hG e h ht)

theorem covers_nil (fix : Bool) (st : Segs) : Covers fix st [] := by
  intro e he
  simp [elemsAll] at he

theorem select_mono (fix : Bool) (st : Segs) (fs : List Feature) : ∀ x ∈ st.fields, x ∈ (st.select fix fs).fields := by
  intro x hx
  rw [select_fields, mem_addAll]
  exact Or.inl hx

theorem filter_mono (fix len : Bool) (st : Segs) (e : Feature) (ex : List Source) :
    ∀ x ∈ st.fields, x ∈ (st.filter fix len e ex).fields := by
  intro x hx
  rw [filter_fields, mem_addAll]
  exact Or.inl hx

/-- element-wise relation of two lists of the same length -/
inductive Forall2 {α β : Type} (R : α → β → Prop) : List α → List β → Prop where
  | nil : Forall2 R [] []
  | cons {a : α} {b : β} {as : List α} {bs : List β} : R a b → Forall2 R as bs → Forall2 R (a :: as) (b :: bs)

theorem Forall2.append {α β : Type} {R : α → β → Prop} {as as' : List α} {bs bs' : List β}
    (h : Forall2 R as bs) (h' : Forall2 R as' bs') : Forall2 R (as ++ as') (bs ++ bs') := by
  induction h with
  | nil => exact h'
  | cons hab _ ih => exact .cons hab ih

theorem Forall2.length_eq {α β : Type} {R : α → β → Prop} {as : List α} {bs : List β}
    (h : Forall2 R as bs) : as.length = bs.length := by
  induction h with
  | nil => rfl
  | cons _ _ ih => simp [ih]

namespace Forall2
variable {α β γ δ : Type} {R : α → β → Prop}

theorem mono {R' : α → β → Prop} {as : List α} {bs : List β} (h : Forall2 R as bs) (hR : ∀ a b, R a b → R' a b) :
    Forall2 R' as bs := by
  induction h with
  | nil => exact .nil
  | cons hab _ ih => exact .cons (hR _ _ hab) ih

theorem map {R' : γ → δ → Prop} (f : α → γ) (g : β → δ) {as : List α} {bs : List β} (h : Forall2 R as bs)
    (hR : ∀ a b, R a b → R' (f a) (g b)) : Forall2 R' (as.map f) (bs.map g) := by
  induction h with
  | nil => exact .nil
  | cons hab _ ih => exact .cons (hR _ _ hab) ih

theorem flatMap {R' : γ → δ → Prop} (f : α → List γ) (g : β → List δ) {as : List α} {bs : List β} (h : Forall2 R as bs)
    (hR : ∀ a b, R a b → Forall2 R' (f a) (g b)) : Forall2 R' (as.flatMap f) (bs.flatMap g) := by
  induction h with
  | nil => exact .nil
  | cons hab _ ih =>
    simp only [List.flatMap_cons]
    exact (hR _ _ hab).append ih

theorem filter (p : α → Bool) (q : β → Bool) {as : List α} {bs : List β} (h : Forall2 R as bs)
    (hpq : ∀ a b, R a b → p a = q b) : Forall2 R (as.filter p) (bs.filter q) := by
  induction h with
  | nil => exact .nil
  | @cons a b as bs hab _ ih =>
    have := hpq a b hab
    by_cases hp : p a = true
    · have hq : q b = true := this ▸ hp
      simp only [List.filter_cons, hp, hq, if_true]
      exact .cons hab ih
    · have hq : ¬ q b = true := this ▸ hp
      simp only [List.filter_cons, hp, hq]
      exact ih

theorem of_map_left (f : β → α) (bs : List β) (hR : ∀ b, R (f b) b) : Forall2 R (bs.map f) bs := by
  induction bs with
  | nil => exact .nil
  | cons b bs ih => exact .cons (hR b) ih

theorem isEmpty_eq {as : List α} {bs : List β} (h : Forall2 R as bs) : as.isEmpty = bs.isEmpty := by
  cases h <;> rfl

theorem eq_of_eq {as bs : List α} (h : Forall2 (fun a b => a = b) as bs) : as = bs := by
  induction h with
  | nil => rfl
  | cons hab _ ih => rw [hab, ih]

end Forall2

theorem Forall2.refl' {α : Type} {R : α → α → Prop} (hR : ∀ a, R a a) (l : List α) : Forall2 R l l := by
  induction l with
  | nil => exact .nil
  | cons a l ih => exact .cons (hR a) ih

theorem Forall2.map_same {α β : Type} {R : β → β → Prop} (f' f : α → β) (l : List α) (hR : ∀ a, R (f' a) (f a)) :
    Forall2 R (l.map f') (l.map f) :=
  (refl' hR l).map f' f fun _ _ => id

theorem Forall2.trans' {α β γ : Type} {R : α → β → Prop} {R' : β → γ → Prop} {R'' : α → γ → Prop}
    {as : List α} {bs : List β} {cs : List γ} (h : Forall2 R as bs) (h' : Forall2 R' bs cs)
    (hR : ∀ a b c, R a b → R' b c → R'' a c) : Forall2 R'' as cs := by
  induction h generalizing cs with
  | nil => cases h'; exact .nil
  | cons hab _ ih =>
    cases h' with
    | cons hbc hrest => exact .cons (hR _ _ _ hab hbc) (ih hrest)

/-- every scan (`generate_table` call) is offered every column it needs: same number of calls as of scans, and
call by call the needed names are among the offered ones -/
def ColsOK (needs : List (List String)) (hs : List Hint) : Prop :=
  Forall2 (fun need (h : Hint) => ∀ n ∈ need, n ∈ h.cols) needs hs

theorem mem_hint_cols {st : Segs} {k t : Source} {n : String} (h : (k, n) ∈ st.fields) : n ∈ (hintOf st k t).cols := by
  unfold hintOf
  simp only [List.mem_map, List.mem_filter]
  exact ⟨(k, n), ⟨h, by simp⟩, rfl⟩

theorem mem_usedBy {F : List Feature} {o : Source} {n : String} : n ∈ usedBy F o ↔ (o, n) ∈ elemsAll F := by
  simp only [usedBy, List.mem_map, List.mem_filter, decide_eq_true_eq]
  constructor
  · rintro ⟨⟨o', n'⟩, ⟨he, rfl⟩, rfl⟩
    exact he
  · exact fun h => ⟨(o, n), ⟨h, rfl⟩, rfl⟩

theorem scopedIn_mem {os : List Source} {F : List Feature} (h : scopedIn os F = true) {e : Elem} (he : e ∈ elemsAll F) :
    e.1 ∈ os := by
  unfold scopedIn at h
  rw [List.all_eq_true] at h
  simpa using h e he

theorem elemsAll_optList {c : FeatureOpt} {p : Feature} (hp : p ∈ optList c) {e : Elem} (he : e ∈ elems p) :
    e ∈ elemsAll (optList c) := by
  cases c with
  | none => simp [optList] at hp
  | some c =>
    simp only [optList, List.mem_singleton] at hp
    subst hp
    simpa [elemsAll, optList] using he

theorem conds_scoped : ∀ (s : Source), joinsScoped s = true → ∀ e ∈ elemsAll (condsOf s), e.1 ∈ origins s
  | .table _ _, _, e, he => by simp [condsOf, elemsAll] at he
  | .ref _ _, _, e, he => by simp [condsOf, elemsAll] at he
  | .set _ _ _, _, e, he => by simp [condsOf, elemsAll] at he
  | .query _ _ _ _ _ _ _, _, e, he => by simp [condsOf, elemsAll] at he
  | .join l r k c, hj, e, he => by
    simp only [joinsScoped, Bool.and_eq_true] at hj
    simp only [condsOf, mem_elemsAll_append] at he
    simp only [origins, List.mem_append]
    rcases he with (he | he) | he
    · simpa using scopedIn_mem hj.1.1 he
    · exact Or.inl (conds_scoped l hj.1.2 e he)
    · exact Or.inr (conds_scoped r hj.2 e he)

theorem filterOpt_mono (fix len : Bool) (st : Segs) (c : FeatureOpt) (ex : List Source) :
    ∀ x ∈ st.fields, x ∈ (st.filterOpt fix len c ex).fields := by
  cases c with
  | none => exact fun x hx => hx
  | some c => exact filter_mono fix len st c ex

theorem covers_filterOpt (fix len : Bool) (st : Segs) (c : FeatureOpt) (ex : List Source) :
    Covers fix (st.filterOpt fix len c ex) (optList c) := by
  cases c with
  | none => exact covers_nil _ _
  | some c => exact covers_filter fix len st c ex

theorem joinCtx_mono (fix len : Bool) (st : Segs) (l r : Source) (k : JoinKind) (c : FeatureOpt) :
    ∀ x ∈ st.fields, x ∈ (joinCtx fix len st l r k c).fields := by
  intro x hx
  exact filterOpt_mono _ _ _ _ _ x (by simpa using hx)

theorem covers_joinCtx (fix len : Bool) (st : Segs) (l r : Source) (k : JoinKind) (c : FeatureOpt) :
    Covers fix (joinCtx fix len st l r k c) (optList c) := covers_filterOpt _ _ _ _ _

theorem covers_queryCtx (fix len : Bool) (err : Option Err) (src : Source) (sel : Features) (pre : FeatureOpt) (grp : Features)
    (post : FeatureOpt) (ord : Orderings) :
    Covers fix (queryCtx fix len err src sel pre grp post ord) (queryFeatures src sel pre grp post ord) := by
  unfold queryCtx queryFeatures
  refine covers_append (covers_append (covers_append (covers_append ?_ ?_) ?_) ?_) ?_
  · exact covers_mono (covers_select _ _ _)
      (fun x hx => select_mono _ _ _ x (select_mono _ _ _ x (select_mono _ _ _ x (filterOpt_mono _ _ _ _ _ x hx))))
  · exact covers_mono (covers_filterOpt _ _ _ _ _) (fun x hx => select_mono _ _ _ x (select_mono _ _ _ x (select_mono _ _ _ x hx)))
  · exact covers_mono (covers_select _ _ _) (fun x hx => select_mono _ _ _ x (select_mono _ _ _ x hx))
  · exact covers_mono (covers_select _ _ _) (fun x hx => select_mono _ _ _ x hx)
  · exact covers_select _ _ _

/-- `visit_*` offers every scan the columns its origin is used with in the features registered so far (`F`), and the
registered fields only grow -/
theorem run_cols (fix len : Bool) (S : Sem) (B : Backend) (db : Db) :
    ∀ (s : Source) (F : List Feature) (st : Segs), Covers fix st F →
      ColsOK (needs F s) (run fix len S B db s st).hints ∧ (∀ x ∈ st.fields, x ∈ (run fix len S B db s st).st.fields)
  | .table n fs, F, st, h => by
    simp only [run, needs]
    refine ⟨.cons ?_ .nil, fun x hx => hx⟩
    intro c hc
    have := h _ (mem_usedBy.mp hc) (by simp [inst, isTable])
    exact mem_hint_cols (by simpa using this)
  | .ref i nm, F, st, h => by
    simp only [run, needs]
    by_cases ht : isTable i = true
    · simp only [ht, if_true]
      refine ⟨.cons ?_ .nil, fun x hx => hx⟩
      intro c hc
      exact mem_hint_cols (h _ (mem_usedBy.mp hc) (by simp [inst, ht]))
    · simp only [ht, Bool.false_eq_true, if_false]
      exact run_cols fix len S B db i F st h
  | .join l r k c, F, st, h => by
    simp only [run, needs]
    have hst1 : Covers fix (joinCtx fix len st l r k c) (F ++ optList c) :=
      covers_append (covers_mono h (joinCtx_mono fix len st l r k c)) (covers_joinCtx fix len st l r k c)
    have iha := run_cols fix len S B db l _ _ hst1
    have ihb := run_cols fix len S B db r (F ++ optList c) _ (covers_mono hst1 iha.2)
    exact ⟨iha.1.append ihb.1, fun x hx => ihb.2 x (iha.2 x (joinCtx_mono fix len st l r k c x hx))⟩
  | .set l r k, F, st, _ => by
    simp only [run, needs]
    have iha := run_cols fix len S B db l [] st (covers_nil _ _)
    have ihb := run_cols fix len S B db r [] (run fix len S B db l st).st (covers_nil _ _)
    exact ⟨iha.1.append ihb.1, fun x hx => ihb.2 x (iha.2 x hx)⟩
  | .query src sel pre grp post ord rows, F, st, _ => by
    simp only [run, needs]
    exact ⟨(run_cols fix len S B db src (queryFeatures src sel pre grp post ord) _
      (covers_queryCtx fix len st.err src sel pre grp post ord)).1, fun x hx => hx⟩

end ForML.PushDown
