/-
C07: a feature with a hole (`Ctx`: under aliases, casts and operands of expressions, to any depth); what occurs in the
feature plugged in occurs in the whole.
-/
import ForML.Model.Grammar

namespace ForML.Dsl

/-- a feature with one hole (the visitor enters aliases, casts and the operands of expressions — not windows) -/
inductive Ctx where
  | hole
  | alias (c : Ctx) (n : String)
  | cast (c : Ctx) (k : Kind)
  | arg (op : Op) (before : List Feature) (c : Ctx) (after : List Feature)

def Ctx.plug : Ctx → Feature → Feature
  | .hole, f => f
  | .alias c n, f => .alias (c.plug f) n
  | .cast c k, f => .cast (c.plug f) k
  | .arg op before c after, f => .expr op (Features.ofList (before ++ c.plug f :: after))

def Ctx.depth : Ctx → Nat
  | .hole => 0
  | .alias c _ => c.depth + 1
  | .cast c _ => c.depth + 1
  | .arg _ _ c _ => c.depth + 1

theorem Features.nodes_ofList : (l : List Feature) → (Features.ofList l).nodes = l.flatMap Feature.nodes
  | [] => rfl
  | f :: fs => by simp [Features.ofList, Features.nodes, Features.nodes_ofList fs]

theorem nodes_plug_sub (c : Ctx) (f : Feature) : ∀ x ∈ f.nodes, x ∈ (c.plug f).nodes := by
  induction c with
  | hole => exact fun x h => h
  | alias c n ih => intro x h; simp [Ctx.plug, Feature.nodes, ih x h]
  | cast c k ih => intro x h; simp [Ctx.plug, Feature.nodes, ih x h]
  | arg op before c after ih =>
    intro x h
    simp only [Ctx.plug, Feature.nodes, Features.nodes_ofList, List.flatMap_append, List.flatMap_cons, List.mem_append]
    exact Or.inl (Or.inr (Or.inl (ih x h)))

theorem any_nodes_plug (p : Feature → Bool) (c : Ctx) (f : Feature) (h : f.nodes.any p = true) :
    (c.plug f).nodes.any p = true := by
  rw [List.any_eq_true] at h ⊢
  obtain ⟨x, hx, hp⟩ := h
  exact ⟨x, nodes_plug_sub c f x hx, hp⟩

theorem self_mem_nodes (f : Feature) : f ∈ f.nodes := by
  cases f <;> simp [Feature.nodes]

theorem any_nodes_plug_self (p : Feature → Bool) (c : Ctx) (f : Feature) (h : p f = true) :
    (c.plug f).nodes.any p = true :=
  any_nodes_plug p c f (List.any_eq_true.mpr ⟨f, self_mem_nodes f, h⟩)

theorem cumulative_plug (c : Ctx) (f : Feature) (h : f.isCumulative = true) :
    ((c.plug f).hasAggregate || (c.plug f).hasWindow) = true := by
  rw [Feature.isCumulative, Bool.or_eq_true] at h
  rw [Bool.or_eq_true]
  exact h.imp (any_nodes_plug_self _ c f) (any_nodes_plug_self _ c f)

end ForML.Dsl
