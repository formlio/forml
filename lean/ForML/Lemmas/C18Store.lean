/-
C18: the file-level machine of ForML.Model.ManifestStore (mtimes, bytecode cache) refines the logical
store `Path → Content` as long as no cached module is stale, and the logical store is read-your-writes.
-/
import ForML.Model.ManifestStore

namespace ForML.Store

/-- a cache entry that the import system would accept was compiled from the text that is there -/
def freshDir (d : Dir) : Prop :=
  ∀ c m mt, d.pyc = some c → d.man = some (m, mt) → c.mtime = mt → c.size = m.size → c.code = m

def Fresh (s : Store) : Prop := ∀ p d, s p = some (.dir d) → freshDir d

/-- no bytecode file anywhere -/
def NoPyc (s : Store) : Prop := ∀ p d, s p = some (.dir d) → d.pyc = none

theorem set_get (s : Store) (p q : Path) (e : Entry) : (s.set p e) q = if q = p then some e else s q := rfl
theorem del_get (s : Store) (p q : Path) : (s.del p) q = if q = p then none else s q := rfl
theorem lset_get (s : LStore) (p q : Path) (e : LEntry) : (s.set p e) q = if q = p then some e else s q := rfl
theorem ldel_get (s : LStore) (p q : Path) : (s.del p) q = if q = p then none else s q := rfl

theorem abs_set (s : Store) (p : Path) (e : Entry) : abs (s.set p e) = (abs s).set p (absE e) := by
  funext q
  simp only [abs, set_get, lset_get]
  split <;> rfl

theorem abs_del (s : Store) (p : Path) : abs (s.del p) = (abs s).del p := by
  funext q
  simp only [abs, del_get, ldel_get]
  split <;> rfl

theorem fresh_set {s : Store} (h : Fresh s) (p : Path) (e : Entry) (he : ∀ d, e = .dir d → freshDir d) :
    Fresh (s.set p e) := by
  intro q d hq
  rw [set_get] at hq
  split at hq
  · cases hq; exact he d rfl
  · exact h q d hq

theorem fresh_del {s : Store} (h : Fresh s) (p : Path) : Fresh (s.del p) := by
  intro q d hq
  rw [del_get] at hq
  split at hq
  · cases hq
  · exact h q d hq

theorem noPyc_set {s : Store} (h : NoPyc s) (p : Path) (e : Entry) (he : ∀ d, e = .dir d → d.pyc = none) :
    NoPyc (s.set p e) := by
  intro q d hq
  rw [set_get] at hq
  split at hq
  · cases hq; exact he d rfl
  · exact h q d hq

theorem noPyc_del {s : Store} (h : NoPyc s) (p : Path) : NoPyc (s.del p) := by
  intro q d hq
  rw [del_get] at hq
  split at hq
  · cases hq
  · exact h q d hq

theorem absE_load (bc : Bool) (d : Dir) : absE (.dir (loadDir bc d).1) = absE (.dir d) := by
  unfold loadDir
  split
  · rfl
  · split
    · split
      · rfl
      · split <;> rfl
    · split <;> rfl

theorem loadDir_result (bc : Bool) (d : Dir) (h : freshDir d) :
    (loadDir bc d).2 = match d.man with | some (m, _) => .ok m | none => .error .missing := by
  unfold loadDir
  cases hm : d.man with
  | none => rfl
  | some x =>
    obtain ⟨m, mt⟩ := x
    simp only
    cases hc : d.pyc with
    | none => rfl
    | some c =>
      simp only
      split
      · rename_i hv
        simp only [Bool.and_eq_true, beq_iff_eq] at hv
        rw [h c m mt hc hm hv.1 hv.2]
      · rfl

theorem loadDir_fresh (bc : Bool) (d : Dir) (h : freshDir d) : freshDir (loadDir bc d).1 := by
  unfold loadDir
  split
  · exact h
  · rename_i m mt hm
    have hnew : freshDir { d with pyc := some ⟨mt, m.size, m⟩ } := by
      intro c m' mt' hc hm' _ _
      simp only at hc hm'
      cases hc
      rw [hm] at hm'
      cases hm'
      rfl
    split
    · split
      · exact h
      · split
        · exact hnew
        · exact h
    · split
      · exact hnew
      · exact h

theorem loadDir_noPyc (d : Dir) (h : d.pyc = none) : (loadDir false d).1 = d := by
  unfold loadDir
  split
  · rfl
  · rw [h]; rfl

theorem readAt_abs (bc : Bool) (s : Store) (p : Path) : abs (readAt bc s p).1 = abs s := by
  unfold readAt
  split
  · rfl
  · rfl
  · rename_i d hd
    simp only
    rw [abs_set, absE_load]
    funext q
    rw [lset_get]
    split
    · rename_i e; subst e; simp [abs, hd]
    · rfl

/-- a read returns what the logical store holds and leaves a store that is logically the same and fresh -/
theorem readAt_refines (bc : Bool) (s : Store) (p : Path) (h : Fresh s) :
    ∃ s1, readAt bc s p = (s1, lread (abs s) p) ∧ abs s1 = abs s ∧ Fresh s1 := by
  refine ⟨(readAt bc s p).1, Prod.ext rfl ?_, readAt_abs bc s p, ?_⟩
  · unfold readAt lread abs
    split
    · rename_i hp; simp [hp, lman]
    · rename_i m tr hp; simp [hp, lman, absE]
    · rename_i d hd
      simp only [hd, Option.map, absE, lman]
      rw [loadDir_result bc d (h p d hd)]
      cases d.man with
      | none => rfl
      | some x => rfl
  · unfold readAt
    split
    · exact h
    · exact h
    · rename_i d hd
      apply fresh_set h
      intro d' e
      cases e
      exact loadDir_fresh bc d (h p d hd)

theorem readAt_noPyc (s : Store) (p : Path) (h : NoPyc s) : NoPyc (readAt false s p).1 := by
  unfold readAt
  split
  · exact h
  · exact h
  · rename_i d hd
    apply noPyc_set h
    intro d' e
    cases e
    rw [loadDir_noPyc d (h p d hd)]
    exact h p d hd

theorem treeOf_abs (e : Option Entry) : treeOf e = ltree (e.map absE) := by
  cases e with
  | none => rfl
  | some e => cases e <;> rfl

theorem copyTo_refines (s : Store) (src dst : Path) (t : Nat) (m : SM) (h : Fresh s) :
    (copyTo s src dst t m).2 = (lcopy (abs s) src dst m).2 ∧ abs (copyTo s src dst t m).1 = (lcopy (abs s) src dst m).1 ∧
    Fresh (copyTo s src dst t m).1 := by
  unfold copyTo lcopy
  have hsrc : (abs s) src = (s src).map absE := rfl
  rw [hsrc]
  cases hs : s src with
  | none => exact ⟨rfl, rfl, h⟩
  | some e =>
    cases e with
    | zip m0 tr =>
      simp only [Option.map, absE]
      split
      · exact ⟨rfl, abs_set _ _ _, fresh_set h _ _ (fun d e => by cases e)⟩
      · refine ⟨rfl, abs_set _ _ _, fresh_set h _ _ ?_⟩
        intro d e
        cases e
        intro c m' mt hc
        cases hc
    | dir d =>
      simp only [Option.map, absE]
      refine ⟨trivial, abs_set _ _ _, fresh_set h _ _ ?_⟩
      intro d' e
      cases e
      exact h src d hs

theorem copyTo_noPyc (s : Store) (src dst : Path) (t : Nat) (m : SM) (h : NoPyc s) : NoPyc (copyTo s src dst t m).1 := by
  unfold copyTo
  split
  · split
    · apply noPyc_set h; intro d e; cases e
    · apply noPyc_set h; intro d e; cases e; rfl
  · rename_i d hd
    apply noPyc_set h
    intro d' e
    cases e
    exact h src d hd
  · exact h

theorem installAt_refines (bc : Bool) (s : Store) (src dst : Path) (t : Nat) (h : Fresh s) :
    (installAt bc s src dst t).2 = (lstep (abs s) (.install src dst t)).2 ∧
    abs (installAt bc s src dst t).1 = (lstep (abs s) (.install src dst t)).1 ∧
    Fresh (installAt bc s src dst t).1 := by
  obtain ⟨s1, e1, a1, f1⟩ := readAt_refines bc s src h
  unfold installAt
  simp only [lstep]
  rw [e1]
  cases lread (abs s) src with
  | error e => exact ⟨rfl, a1, f1⟩
  | ok m =>
    simp only
    by_cases hsd : src = dst
    · simp only [hsd, if_true]
      exact ⟨by rw [treeOf_abs, ← a1]; rfl, a1, f1⟩
    · simp only [hsd, if_false]
      obtain ⟨s2, e2, a2, f2⟩ := readAt_refines bc s1 dst f1
      have hc := copyTo_refines s2 src dst t m f2
      rw [e2, a1]
      rw [a2, a1] at hc
      cases lread (abs s) dst with
      | error e => exact hc
      | ok m' =>
        simp only
        split
        · exact ⟨by rw [treeOf_abs, ← a1, ← a2]; rfl, a2.trans a1, f2⟩
        · exact hc

theorem step_refines (bc : Bool) (s : Store) (op : Op) (h : Fresh s) :
    (step bc s op).2 = (lstep (abs s) op).2 ∧ abs (step bc s op).1 = (lstep (abs s) op).1 ∧ Fresh (step bc s op).1 := by
  cases op with
  | write p m t =>
    simp only [step, lstep]
    rw [show (abs s) p = (s p).map absE from rfl]
    match s p with
    | some (.zip _ _) => exact ⟨rfl, rfl, h⟩
    | none | some (.dir _) =>
      -- the directory written has no cache file
      exact ⟨rfl, abs_set _ _ _, fresh_set h _ _ (fun d e => by cases e; exact fun c m' mt hc => by cases hc)⟩
  | create p m tr =>
    simp only [step, lstep]
    rw [show (abs s) p = (s p).map absE from rfl]
    match s p with
    | some (.dir _) => exact ⟨rfl, rfl, h⟩
    | none | some (.zip _ _) => exact ⟨rfl, abs_set _ _ _, fresh_set h _ _ (fun d e => by cases e)⟩
  | install src dst t => exact installAt_refines bc s src dst t h
  | read p =>
    simp only [step, lstep]
    obtain ⟨s1, e1, a1, f1⟩ := readAt_refines bc s p h
    rw [e1]
    cases lread (abs s) p with
    | ok m => exact ⟨rfl, a1, f1⟩
    | error e => exact ⟨rfl, a1, f1⟩
  | remove p => exact ⟨rfl, abs_del _ _, fresh_del h p⟩

/-- **refinement**: from a fresh store the file-level machine (with the repaired `Manifest.write`) observes exactly what
the logical store `Path → Content` observes — for every history, clock and bytecode setting -/
theorem run_refines (bc : Bool) (h : List Op) : ∀ (s : Store), Fresh s →
    (run bc s h).2 = (lrun (abs s) h).2 ∧ abs (run bc s h).1 = (lrun (abs s) h).1 := by
  induction h with
  | nil => intro s _; exact ⟨rfl, rfl⟩
  | cons op h ih =>
    intro s hf
    obtain ⟨h1, h2, h3⟩ := step_refines bc s op hf
    obtain ⟨i1, i2⟩ := ih _ h3
    simp only [run, lrun]
    rw [h1, i1, i2, h2]
    exact ⟨rfl, rfl⟩

theorem lrun_append (s : LStore) (h1 h2 : List Op) :
    (lrun s (h1 ++ h2)).1 = (lrun (lrun s h1).1 h2).1 ∧ (lrun s (h1 ++ h2)).2 = (lrun s h1).2 ++ (lrun (lrun s h1).1 h2).2 := by
  induction h1 generalizing s with
  | nil => exact ⟨rfl, rfl⟩
  | cons op h ih =>
    obtain ⟨i1, i2⟩ := ih (lstep s op).1
    simp only [List.cons_append, lrun, i1, i2]
    exact ⟨trivial, trivial⟩

theorem run_append (bc : Bool) (s : Store) (h1 h2 : List Op) :
    (run bc s (h1 ++ h2)).1 = (run bc (run bc s h1).1 h2).1 ∧
    (run bc s (h1 ++ h2)).2 = (run bc s h1).2 ++ (run bc (run bc s h1).1 h2).2 := by
  induction h1 generalizing s with
  | nil => exact ⟨rfl, rfl⟩
  | cons op h ih =>
    obtain ⟨i1, i2⟩ := ih (step bc s op).1
    simp only [List.cons_append, run, i1, i2]
    exact ⟨trivial, trivial⟩

theorem lcopy_frame (s : LStore) (src dst : Path) (m : SM) (p : Path) (hp : dst ≠ p) : (lcopy s src dst m).1 p = s p := by
  unfold lcopy
  split
  · split <;> simp [lset_get, Ne.symm hp]
  · simp [lset_get, Ne.symm hp]
  · rfl

theorem lstep_frame (s : LStore) (op : Op) (p : Path) (h : target op ≠ some p) : (lstep s op).1 p = s p := by
  cases op with
  | write q m t =>
    have hq : q ≠ p := fun e => h (by rw [e]; rfl)
    simp only [lstep]
    split <;> simp [lset_get, Ne.symm hq]
  | create q m tr =>
    have hq : q ≠ p := fun e => h (by rw [e]; rfl)
    simp only [lstep]
    split <;> simp [lset_get, Ne.symm hq]
  | install src dst t =>
    have hq : dst ≠ p := fun e => h (by rw [e]; rfl)
    simp only [lstep]
    split
    · rfl
    · split
      · rfl
      · split
        · split
          · rfl
          · exact lcopy_frame s src dst _ p hq
        · exact lcopy_frame s src dst _ p hq
  | read q =>
    simp only [lstep]
    split <;> rfl
  | remove q =>
    have hq : q ≠ p := fun e => h (by rw [e]; rfl)
    simp [lstep, ldel_get, Ne.symm hq]

theorem lrun_frame (h : List Op) (p : Path) : ∀ s : LStore, (∀ op ∈ h, target op ≠ some p) → (lrun s h).1 p = s p := by
  induction h with
  | nil => intro _ _; rfl
  | cons op h ih =>
    intro s hall
    simp only [lrun]
    rw [ih _ (fun o ho => hall o (by simp [ho])), lstep_frame s op p (hall op (by simp))]

theorem lstep_write (s : LStore) (p : Path) (m : SM) (t : Nat) (h : (lstep s (.write p m t)).2 = .done) :
    lman ((lstep s (.write p m t)).1 p) = some m := by
  simp only [lstep] at h ⊢
  split at h
  · cases h
  · simp [lset_get, lman]
  · simp [lset_get, lman]

theorem lstep_create (s : LStore) (p : Path) (m : SM) (tr : Tree) (h : (lstep s (.create p m tr)).2 = .manifest m) :
    (lstep s (.create p m tr)).1 p = some (.zip m tr) := by
  simp only [lstep] at h ⊢
  cases hs : s p with
  | none => simp [lset_get]
  | some e =>
    cases e with
    | zip m0 tr0 => simp [lset_get]
    | dir man tr0 => rw [hs] at h; cases h

theorem lcopy_result (s : LStore) (src dst : Path) (m : SM) (hm : lman (s src) = some m) :
    lman ((lcopy s src dst m).1 dst) = some m ∧ (lcopy s src dst m).2 = .installed m (ltree (s src)) ∧
    ltree ((lcopy s src dst m).1 dst) = ltree (s src) := by
  unfold lcopy
  cases hs : s src with
  | none => rw [hs] at hm; cases hm
  | some e =>
    rw [hs] at hm
    cases e with
    | zip m0 tr =>
      simp only [lman] at hm
      cases hm
      simp only
      split <;> simp [lset_get, lman, ltree]
    | dir man tr =>
      simp only [lman] at hm
      subst hm
      simp [lset_get, lman, ltree]

theorem lstep_install_cases (s : LStore) (src dst : Path) (t : Nat) (m : SM) (tr : Option Tree)
    (h : (lstep s (.install src dst t)).2 = .installed m tr) :
    lman (s src) = some m ∧
    (((src = dst ∨ ∃ m', lman (s dst) = some m' ∧ meq m' m = true) ∧
        (lstep s (.install src dst t)).1 = s ∧ tr = ltree (s dst)) ∨
     (src ≠ dst ∧ (∀ m', lman (s dst) = some m' → meq m' m = false) ∧
        (lstep s (.install src dst t)).1 = (lcopy s src dst m).1 ∧ tr = ltree (s src))) := by
  cases hsrc : lman (s src) with
  | none => simp only [lstep, lread, hsrc] at h; cases h
  | some m0 =>
    -- the two tests of `install` as one condition
    have key : lstep s (.install src dst t) =
        if src = dst ∨ (lman (s dst)).any (meq · m0) = true then (s, .installed m0 (ltree (s dst)))
        else lcopy s src dst m0 := by
      simp only [lstep, lread, hsrc]
      by_cases hsd : src = dst
      · simp only [hsd, true_or, if_true]
      · cases lman (s dst) with
        | none => simp only [hsd, Option.any_none, false_or, Bool.false_eq_true, if_false]
        | some m' => simp only [hsd, Option.any_some, false_or, if_false]
    rw [key] at h ⊢
    split at h
    · rename_i hg
      rw [if_pos hg]
      injection h with h1 h2
      subst h1
      exact ⟨rfl, .inl ⟨hg.imp id (Option.any_eq_true _ _).mp, rfl, h2.symm⟩⟩
    · rename_i hg
      rw [(lcopy_result s src dst m0 hsrc).2.1] at h
      rw [if_neg hg]
      injection h with h1 h2
      subst h1
      have hany := (Option.any_eq_false _ _).mp (Bool.eq_false_iff.mpr fun e => hg (.inr e))
      exact ⟨rfl, .inr ⟨fun e => hg (.inl e), hany, rfl, h2.symm⟩⟩

/-- `install` of the code that exists is the logical install with full-manifest equality as the guard -/
theorem lstep_install_guard (s : LStore) (src dst : Path) (t : Nat) : lstep s (.install src dst t) = linstallG meq s src dst := rfl

/-- `Manifest.__eq__` holds exactly when all four fields agree -/
theorem meq_fields (a b : SM) : meq a b = true ↔
    a.name = b.name ∧ Keys.vcmp a.version b.version = .eq ∧ a.package = b.package ∧ modEq a.modules b.modules = true := by
  simp [meq, and_assoc]

end ForML.Store
