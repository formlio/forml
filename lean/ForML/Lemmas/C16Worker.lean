/-
One pool worker and the replicas of its `pyfunc.Expression` (`ForML.Model.ServingWorker`): an evaluation that starts on
an empty deque computes the property's `f inst payload` (`runModel`), and with the `finally` reset of the code that
exists every evaluation starts on an empty deque.
-/
import ForML.Model.ServingWorker
namespace ForML.Serving

/-- the branch among `k … k+todo-1` that refuses the value `e`, if any -/
def failsIn (e : Entry) (k todo : Nat) : Option Nat :=
  match e.kind with
  | .refused b => if k ≤ b ∧ b < k + todo then some b else none
  | _ => none

theorem failsIn_zero (e : Entry) (k : Nat) : failsIn e k 0 = none := by
  unfold failsIn; split
  · rw [if_neg]; omega
  · rfl

theorem failsIn_hit (e : Entry) (k todo : Nat) (h : e.kind = .refused k) : failsIn e k (todo + 1) = some k := by
  unfold failsIn; rw [h]; simp

theorem failsIn_miss (e : Entry) (k todo : Nat) (h : e.kind ≠ .refused k) :
    failsIn e k (todo + 1) = failsIn e (k + 1) todo := by
  unfold failsIn; split
  · rename_i b hb
    have hne : b ≠ k := fun hk => h (hk ▸ hb)
    by_cases hc : k ≤ b ∧ b < k + (todo + 1)
    · rw [if_pos hc, if_pos (by omega)]
    · rw [if_neg hc, if_neg (by omega)]
  · rfl

theorem failsIn_some {e : Entry} {k todo b : Nat} (h : failsIn e k todo = some b) : k ≤ b := by
  unfold failsIn at h
  split at h
  · split at h
    · rename_i hc; cases h; exact hc.1
    · cases h
  · cases h

/-- branches served from a deque that holds (enough) replicas of the request's own value; after a refusal the replicas
of the branches that never ran stay behind -/
theorem evalBranches_own (r : Nat) (e : Entry) : ∀ (todo k m : Nat) (seen : List Nat), todo ≤ m →
    evalBranches r e k todo (List.replicate m e) seen
      = match failsIn e k todo with
        | some b => (.error (.invalid e.payload b), List.replicate (m - 1 - (b - k)) e)
        | none => (.ok (seen.reverse ++ List.replicate todo e.payload), List.replicate (m - todo) e) := by
  intro todo
  induction todo with
  | zero => intro k m seen _; simp [evalBranches, failsIn_zero]
  | succ todo ih =>
    intro k m seen hm
    obtain ⟨m', rfl⟩ : ∃ m', m = m' + 1 := ⟨m - 1, by omega⟩
    simp only [evalBranches, List.replicate_succ, replicaCall]
    by_cases hk : e.kind = .refused k
    · simp [branchCall, hk, failsIn_hit e k todo hk]
    · simp only [branchCall, hk, if_false, failsIn_miss e k todo hk, ih (k + 1) m' (e.payload :: seen) (by omega)]
      cases hf : failsIn e (k + 1) todo with
      | some b =>
        have := failsIn_some hf
        simp only [Prod.mk.injEq, true_and]; congr 1; omega
      | none => simp

/-- the first branch of a fan-out on an empty deque evaluates the head, works on its value and queues `m` replicas of
it -/
theorem evalBranches_nil (m : Nat) (e : Entry) (k todo : Nat) (seen : List Nat) (hh : headCall e = .ok e) :
    evalBranches m e k (todo + 1) [] seen = evalBranches m e k (todo + 1) (List.replicate (m + 1) e) seen := by
  simp only [evalBranches, replicaCall, hh, List.replicate_succ]

/-- **An evaluation that starts on an empty deque computes `f inst payload`** — for every fan-out `n` — and leaves the
deque empty, unless a branch other than the last one refused the request: then one replica per branch that never ran
stays behind. -/
theorem evalTerm_clean_eq (inst n : Nat) (e : Entry) :
    evalTerm inst n e [] = (runModel n inst e, match e.kind with
      | .refused b => if 2 ≤ n ∧ b < n then List.replicate (n - 1 - b) e else []
      | _ => []) := by
  unfold evalTerm runModel
  by_cases hn : n ≤ 1
  · rw [if_pos hn, Nat.max_eq_right hn]
    cases hk : e.kind with
    | refused b =>
      have h2 : ¬ 2 ≤ n := by omega
      by_cases hb : b = 0
      · simp [linearEval, headCall, hk, branchCall, hb, h2]
      · have : ¬ b < 1 := by omega
        simp [linearEval, headCall, hk, branchCall, hb, h2, this]
    | _ => simp [linearEval, headCall, hk, branchCall]
  · rw [if_neg hn]
    obtain ⟨m, rfl⟩ : ∃ m, n = m + 1 := ⟨n - 1, by omega⟩
    have hmax : max (m + 1) 1 = m + 1 := by omega
    rw [hmax, Nat.add_sub_cancel]
    have own : headCall e = .ok e → evalBranches m e 0 (m + 1) [] []
        = match failsIn e 0 (m + 1) with
          | some b => (.error (.invalid e.payload b), List.replicate (m - b) e)
          | none => (.ok (List.replicate (m + 1) e.payload), []) := fun hh => by
      rw [evalBranches_nil m e 0 m [] hh, evalBranches_own m e (m + 1) 0 (m + 1) [] (Nat.le_refl _)]
      simp
    cases hk : e.kind with
    | missingColumn => simp [evalBranches, replicaCall, headCall, hk, reduce]
    | fatal => simp [evalBranches, replicaCall, headCall, hk, reduce]
    | ok => rw [own (by simp [headCall, hk])]; simp [failsIn, hk, reduce, combine, List.replicate_succ]
    | refused b =>
      rw [own (by simp [headCall, hk])]
      by_cases hb : b < m + 1
      · have h2 : 2 ≤ m + 1 ∧ b < m + 1 := ⟨by omega, hb⟩
        simp [failsIn, hk, hb, h2, reduce]
      · simp [failsIn, hk, hb, reduce, combine, List.replicate_succ]

theorem evalTerm_clean (inst n : Nat) (e : Entry) : (evalTerm inst n e []).1 = runModel n inst e :=
  congrArg Prod.fst (evalTerm_clean_eq inst n e)

theorem evalTerm_clean_residue (inst n : Nat) (e : Entry) :
    (evalTerm inst n e []).2 = match e.kind with
      | .refused b => if 2 ≤ n ∧ b < n then List.replicate (n - 1 - b) e else []
      | _ => [] :=
  congrArg Prod.snd (evalTerm_clean_eq inst n e)

theorem all_replicate (m p : Nat) : (List.replicate m p).all (· == p) = true := by
  simp

theorem evalTerm_clean_queue (inst n : Nat) (e : Entry) (h : (evalTerm inst n e []).1.err? = none) :
    (evalTerm inst n e []).2 = [] := by
  rw [evalTerm_clean, runModel] at h
  rw [evalTerm_clean_residue]
  split
  · rename_i b hk
    split
    · rename_i hb
      rw [hk] at h
      have : b < max n 1 := by omega
      simp [this, Outcome.err?] at h
    · rfl
  · rfl

/-- a worker whose deque is empty answers `f inst payload`, whatever the reset discipline -/
theorem workerCall_clean (pol : ResetPolicy) (inst n : Nat) (cr : Carry) (e : Entry) (h : cr.queue = []) :
    (workerCall pol inst n cr e).1 = runModel n inst e := by
  simp only [workerCall, h]; exact evalTerm_clean inst n e

/-- the `finally` reset of the code that exists: after every call the deque is empty -/
theorem workerCall_always_queue (inst n : Nat) (cr : Carry) (e : Entry) :
    (workerCall .always inst n cr e).2.queue = [] := by
  simp [workerCall, resetWorks]

theorem workerCall_calls (pol : ResetPolicy) (inst n : Nat) (cr : Carry) (e : Entry) :
    (workerCall pol inst n cr e).2.calls = cr.calls + 1 := rfl

theorem serveAll_clean (pol : ResetPolicy) (inst n : Nat) : ∀ (hist : List Entry) (cr : Carry), cr.queue = [] →
    (∀ e ∈ hist, ∀ cr : Carry, cr.queue = [] → (workerCall pol inst n cr e).2.queue = []) →
    (serveAll pol inst n cr hist).1 = hist.map (runModel n inst)
    ∧ (serveAll pol inst n cr hist).2.queue = [] := by
  intro hist
  induction hist with
  | nil => intro cr h _; exact ⟨rfl, h⟩
  | cons e es ih =>
    intro cr h hq
    have := ih (workerCall pol inst n cr e).2 (hq e List.mem_cons_self cr h)
      (fun x hx => hq x (List.mem_cons_of_mem _ hx))
    simp only [serveAll, List.map_cons]
    exact ⟨by rw [workerCall_clean _ _ _ _ _ h, this.1], this.2⟩

theorem serveAll_always (inst n : Nat) (hist : List Entry) (cr : Carry) (h : cr.queue = []) :
    (serveAll .always inst n cr hist).1 = hist.map (runModel n inst)
    ∧ (serveAll .always inst n cr hist).2.queue = [] :=
  serveAll_clean .always inst n hist cr h (fun e _ cr _ => workerCall_always_queue inst n cr e)

/-- `hb`: a linear pipeline, or no branch but the last one refuses the request -/
theorem workerCall_residue_nil (pol : ResetPolicy) (inst n : Nat) (cr : Carry) (e : Entry) (h : cr.queue = [])
    (hb : ∀ b, e.kind = .refused b → n ≤ 1 ∨ n ≤ b + 1) : (workerCall pol inst n cr e).2.queue = [] := by
  simp only [workerCall, h]
  split
  · rfl
  · rw [evalTerm_clean_residue]
    split
    · rename_i b hk
      split
      · have h0 : n - 1 - b = 0 := by have := hb b hk; omega
        rw [h0]; rfl
      · rfl
    · rfl

/-- no request of the history is refused by a branch other than the last one of an `n`-way fan-out -/
def tailRefusalsOnly (n : Nat) (hist : List Entry) : Prop :=
  ∀ e ∈ hist, ∀ b, e.kind = .refused b → n ≤ b + 1

/-- Whatever the reset discipline: as long as no evaluation is interrupted with replicas outstanding, nothing is ever
carried over, and every request is answered `f inst payload`. -/
theorem serveAll_anyreset (pol : ResetPolicy) (inst n : Nat) (hist : List Entry) (cr : Carry) (h : cr.queue = [])
    (ht : tailRefusalsOnly n hist) :
    (serveAll pol inst n cr hist).1 = hist.map (runModel n inst)
    ∧ (serveAll pol inst n cr hist).2.queue = [] :=
  serveAll_clean pol inst n hist cr h
    (fun e he cr h => workerCall_residue_nil pol inst n cr e h (fun b hb => Or.inr (ht e he b hb)))

theorem serveAll_append (pol : ResetPolicy) (inst n : Nat) : ∀ (a b : List Entry) (cr : Carry),
    (serveAll pol inst n cr (a ++ b)).1
      = (serveAll pol inst n cr a).1 ++ (serveAll pol inst n (serveAll pol inst n cr a).2 b).1 := by
  intro a
  induction a with
  | nil => intro b cr; rfl
  | cons e es ih => intro b cr; simp only [List.cons_append, serveAll, ih]

end ForML.Serving
