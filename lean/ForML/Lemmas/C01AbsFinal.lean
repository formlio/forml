/-
C01 — the absolute linkage after `segment.accept(table)`: which link operations are performed (`LinkSpec`), why no two
of them hit the same slot (`Link collision` never fires in a well-formed segment, whatever the visit order), and that
every slot holds exactly the link the graph prescribes (`abs_final`).
-/
import ForML.Lemmas.C01Fold
import ForML.Lemmas.C01Spec

namespace ForML.Flow
open CState Segment

/-- the links (target key, slot, argument) established when visiting worker `w` -/
inductive LinkSpec (g : Segment) (A : Option Assets) (w : Worker) : Key → Nat → Key → Prop where
  | dumper : g.isTrainer w = true → persistentW A w = true → LinkSpec g A w (.dumper w.uid) 0 (.uid w.uid)
  | committer (off : Nat) : g.isTrainer w = true → persistentW A w = true → A.bind (·.offset w.gid) = some off →
      LinkSpec g A w .committer off (.dumper w.uid)
  | getter (i : Nat) : g.trained w.uid = false → w.szout ≠ 1 → i < w.szout →
      LinkSpec g A w (.getter w.uid i) 0 (.uid w.uid)
  | edge (e : Edge) : g.trained w.uid = false → e ∈ g.edges → e.pub = w.uid → e.pubPort < w.szout →
      LinkSpec g A w (.uid e.sub) e.subPort.index (if w.szout = 1 then .uid w.uid else .getter w.uid e.pubPort)

theorem mem_subscribers {g : Segment} {n : Uid} {i : Nat} {e : Edge} :
    e ∈ g.subscribers n i ↔ e ∈ g.edges ∧ e.pub = n ∧ e.pubPort = i := by
  simp [subscribers]

theorem progHead_tgts (g : Segment) (A : Option Assets) (w : Worker) :
    (progHead g A w).filterMap Op.tgt = (dumpProg g A w).filterMap Op.tgt := by
  simp only [progHead, List.filterMap_append, apply_ite (List.filterMap Op.tgt), List.filterMap_cons, List.filterMap_nil,
    Op.tgt, ite_self, List.nil_append, List.append_nil]

/-- the link operations of `Table.add(w)` -/
inductive LinkOp (g : Segment) (A : Option Assets) (w : Worker) : Op → Prop where
  | dumper : g.isTrainer w = true → persistentW A w = true → LinkOp g A w (.linsert (.dumper w.uid) (.uid w.uid) none)
  | committer (off : Nat) : g.isTrainer w = true → persistentW A w = true → A.bind (·.offset w.gid) = some off →
      LinkOp g A w (.linsertC (.dumper w.uid) off)
  | getter (i : Nat) : g.trained w.uid = false → w.szout ≠ 1 → i < w.szout →
      LinkOp g A w (.linsert (.getter w.uid i) (.uid w.uid) none)
  | edge (e : Edge) : g.trained w.uid = false → e ∈ g.edges → e.pub = w.uid → e.pubPort < w.szout →
      LinkOp g A w (.linsert (.uid e.sub) (if w.szout = 1 then .uid w.uid else .getter w.uid e.pubPort)
        (some e.subPort.index))

section
variable {g : Segment} {A : Option Assets} {w : Worker}

theorem prog_filter_link : (prog g A w).filter (·.tgt.isSome) =
    (dumpProg g A w).filter (·.tgt.isSome) ++ (if g.trained w.uid then [] else (updProg g w).filter (·.tgt.isSome)) := by
  simp only [prog, progHead, List.filter_append, apply_ite (List.filter _), List.filter_cons, List.filter_nil, Op.tgt,
    Option.isSome_none, Bool.false_eq_true, if_false, ite_self, List.nil_append, List.append_nil]

theorem mem_dump_link {op : Op} (h : op ∈ dumpProg g A w) (ht : op.tgt.isSome) : LinkOp g A w op := by
  unfold dumpProg commitOp at h
  split at h
  · rename_i hc
    simp only [Bool.and_eq_true] at hc
    simp only [List.mem_cons, List.mem_nil_iff, or_false] at h
    rcases h with rfl | rfl | rfl | rfl | rfl
    · cases ht
    · cases ht
    · exact .dumper hc.1 hc.2
    · cases hoff : A.bind (·.offset w.gid) with
      | none => rw [hoff] at ht; cases ht
      | some off => exact .committer off hc.1 hc.2 hoff
    · cases ht
  · cases h

theorem mem_upd_link {op : Op} (htr : g.trained w.uid = false) (h : op ∈ updProg g w) (ht : op.tgt.isSome) :
    LinkOp g A w op := by
  unfold updProg at h
  split at h
  · rename_i h1
    obtain ⟨e, he, rfl⟩ := List.mem_map.mp h
    obtain ⟨he1, he2, he3⟩ := mem_subscribers.mp he
    have := LinkOp.edge (A := A) e htr he1 he2 (by omega)
    rwa [if_pos h1] at this
  · rename_i h1
    simp only [List.mem_flatMap, List.mem_range, List.mem_append, List.mem_cons, List.mem_map] at h
    obtain ⟨i, hi, (rfl | rfl | h) | ⟨e, he, rfl⟩⟩ := h
    · cases ht
    · exact .getter i htr h1 hi
    · cases h
    · obtain ⟨he1, he2, he3⟩ := mem_subscribers.mp he
      have := LinkOp.edge (A := A) e htr he1 he2 (by omega)
      rwa [if_neg h1, he3] at this

theorem mem_prog_link {op : Op} : (op ∈ prog g A w ∧ op.tgt.isSome = true) ↔ LinkOp g A w op := by
  rw [← List.mem_filter (p := fun o : Op => o.tgt.isSome), prog_filter_link, List.mem_append]
  constructor
  · rintro (h | h)
    · exact mem_dump_link (List.mem_filter.mp h).1 (List.mem_filter.mp h).2
    · split at h
      · cases h
      · rename_i htr
        exact mem_upd_link (by simpa using htr) (List.mem_filter.mp h).1 (List.mem_filter.mp h).2
  · intro h
    cases h with
    | dumper hT hP =>
      exact Or.inl (List.mem_filter.mpr ⟨by simp [dumpProg, hT, hP], rfl⟩)
    | committer off hT hP hoff =>
      exact Or.inl (List.mem_filter.mpr ⟨by simp [dumpProg, commitOp, hT, hP, hoff], rfl⟩)
    | getter i htr hne hi =>
      refine Or.inr ?_
      rw [htr, if_neg Bool.false_ne_true]
      refine List.mem_filter.mpr ⟨?_, rfl⟩
      simp only [updProg, hne, if_false, List.mem_flatMap, List.mem_range]
      exact ⟨i, hi, by simp⟩
    | edge e htr he hpub hlt =>
      refine Or.inr ?_
      rw [htr, if_neg Bool.false_ne_true]
      refine List.mem_filter.mpr ⟨?_, rfl⟩
      by_cases h1 : w.szout = 1
      · simp only [updProg, h1, if_true, List.mem_map]
        exact ⟨e, mem_subscribers.mpr ⟨he, hpub, by omega⟩, rfl⟩
      · simp only [updProg, h1, if_false, List.mem_flatMap, List.mem_range]
        exact ⟨e.pubPort, hlt, List.mem_append_right _ (List.mem_map.mpr ⟨e, mem_subscribers.mpr ⟨he, hpub, rfl⟩, rfl⟩)⟩

theorem prog_links {op : Op} (hop : op ∈ prog g A w) {k : Key} {j : Nat} (ht : op.tgt = some (k, j)) :
    LinkSpec g A w k j op.src := by
  cases mem_prog_link.mp ⟨hop, by rw [ht]; rfl⟩ <;> cases ht
  · exact .dumper ‹_› ‹_›
  · exact .committer _ ‹_› ‹_› ‹_›
  · exact .getter _ ‹_› ‹_› ‹_›
  · exact .edge _ ‹_› ‹_› ‹_› ‹_›

theorem links_complete {k : Key} {j : Nat} {a : Key} (h : LinkSpec g A w k j a) :
    ∃ op ∈ prog g A w, op.tgt = some (k, j) ∧ op.src = a := by
  cases h with
  | dumper hT hP => exact ⟨_, (mem_prog_link.mpr (.dumper hT hP)).1, rfl, rfl⟩
  | committer _ hT hP hoff => exact ⟨_, (mem_prog_link.mpr (.committer _ hT hP hoff)).1, rfl, rfl⟩
  | getter i htr hne hi => exact ⟨_, (mem_prog_link.mpr (.getter i htr hne hi)).1, rfl, rfl⟩
  | edge e htr he hpub hlt => exact ⟨_, (mem_prog_link.mpr (.edge e htr he hpub hlt)).1, rfl, rfl⟩

/-- `Linkage.insert` is called without an index only for getter and dumper instructions -/
theorem prog_noIdx_key {k a : Key} (ho : Op.linsert k a none ∈ prog g A w) :
    (∃ n, k = Key.dumper n) ∨ (∃ n i, k = Key.getter n i) := by
  cases mem_prog_link.mp ⟨ho, rfl⟩ with
  | dumper => exact Or.inl ⟨_, rfl⟩
  | getter => exact Or.inr ⟨_, _, rfl⟩

end

/-- target of the link an edge gives rise to -/
def edgeTgt (e : Edge) : Key × Nat := (.uid e.sub, e.subPort.index)

/-- no two subscriptions hit the same argument slot: a port has one publisher, and a node is subscribed either on
its apply ports or on train/label -/
theorem edgeTgt_nodup {g : Segment} {rank : Uid → Nat} (h : WF g rank) : (g.edges.map edgeTgt).Nodup := by
  apply nodup_map_of_imp h.ports
  intro e he e' he' heq
  simp only [edgeTgt, Prod.mk.injEq, Key.uid.injEq] at heq
  exact Prod.ext heq.1 (InPort.eq_of_index (h.sub_kind he he' heq.1) heq.2)

theorem edgeTgt_inj {g : Segment} {rank : Uid → Nat} (h : WF g rank) {e e' : Edge} (he : e ∈ g.edges) (he' : e' ∈ g.edges)
    (heq : edgeTgt e = edgeTgt e') : e = e' :=
  eq_of_nodup_map edgeTgt (edgeTgt_nodup h) he he' heq

/-- two operations do not link into the same slot -/
def Lk (a b : Op) : Prop := ∀ x, a.tgt = some x → ∀ y, b.tgt = some y → x ≠ y

theorem Lk_of_none_left {a b : Op} (h : a.tgt = none) : Lk a b := fun x hx => by rw [h] at hx; cases hx
theorem pairwise_Lk_iff {l : List Op} : l.Pairwise Lk ↔ (l.filterMap Op.tgt).Nodup := List.pairwise_filterMap.symm

theorem subscribers_links_pairwise {g : Segment} {rank : Uid → Nat} (h : WF g rank) (n : Uid) (i : Nat) (src : Key) :
    ((g.subscribers n i).map (fun e => Op.linsert (.uid e.sub) src (some e.subPort.index))).Pairwise Lk := by
  rw [List.pairwise_map]
  have hnd : ((g.subscribers n i).map edgeTgt).Nodup := by
    apply List.Nodup.sublist _ (edgeTgt_nodup h)
    exact List.Sublist.map _ List.filter_sublist
  rw [List.Nodup, List.pairwise_map] at hnd
  apply hnd.imp
  intro e e' hne x hx y hy
  simp only [Op.tgt, Option.getD_some, Option.some.injEq] at hx hy
  subst hx hy
  exact hne

theorem updProg_pairwise {g : Segment} {rank : Uid → Nat} (h : WF g rank) (w : Worker) :
    (updProg g w).Pairwise Lk := by
  unfold updProg
  split
  · exact subscribers_links_pairwise h _ _ _
  · rw [List.pairwise_flatMap]
    constructor
    · intro i _
      simp only [List.cons_append, List.nil_append]
      refine List.pairwise_cons.mpr ⟨fun b _ => Lk_of_none_left rfl, List.pairwise_cons.mpr ⟨?_, ?_⟩⟩
      · intro b hb
        simp only [List.mem_map] at hb
        obtain ⟨e, _, rfl⟩ := hb
        intro x hx y hy
        simp only [Op.tgt, Option.getD_none, Option.getD_some, Option.some.injEq] at hx hy
        subst hx hy
        simp
      · exact subscribers_links_pairwise h _ _ _
    · apply List.nodup_range.imp_of_mem
      intro i i' _ _ hne a ha b hb x hx y hy
      simp only [List.cons_append, List.nil_append, List.mem_cons, List.mem_map] at ha hb
      rcases ha with rfl | rfl | ⟨e, he, rfl⟩
      · cases hx
      · rcases hb with rfl | rfl | ⟨e', he', rfl⟩
        · cases hy
        · simp only [Op.tgt, Option.getD_none, Option.some.injEq] at hx hy
          subst hx hy
          simp only [ne_eq, Prod.mk.injEq, Key.getter.injEq, true_and, and_true]
          exact hne
        · simp only [Op.tgt, Option.getD_none, Option.getD_some, Option.some.injEq] at hx hy
          subst hx hy; simp
      · rcases hb with rfl | rfl | ⟨e', he', rfl⟩
        · cases hy
        · simp only [Op.tgt, Option.getD_none, Option.getD_some, Option.some.injEq] at hx hy
          subst hx hy; simp
        · simp only [Op.tgt, Option.getD_some, Option.some.injEq] at hx hy
          subst hx hy
          obtain ⟨he1, _, he3⟩ := mem_subscribers.mp he
          obtain ⟨he1', _, he3'⟩ := mem_subscribers.mp he'
          intro heq
          have := edgeTgt_inj h he1 he1' heq
          subst this
          exact hne (he3.symm.trans he3')

theorem prog_pairwise {g : Segment} {A : Option Assets} {rank : Uid → Nat} (h : WF g rank) (w : Worker) :
    (prog g A w).Pairwise Lk := by
  rw [pairwise_Lk_iff, prog, List.filterMap_append, progHead_tgts]
  cases htr : g.trained w.uid
  · -- a mapper has no dumper block
    have hd : dumpProg g A w = [] := by rw [dumpProg, isTrainer, htr, Bool.and_false, Bool.false_and]; rfl
    rw [hd, if_neg Bool.false_ne_true]
    exact pairwise_Lk_iff.mp (updProg_pairwise h w)
  · -- a trained node is not passed to `Linkage.update`; its block links into the dumper and into the committer
    rw [if_pos rfl, List.filterMap_nil, List.append_nil]
    unfold dumpProg commitOp
    split
    · cases A.bind (·.offset w.gid) <;> simp [List.filterMap_cons, Op.tgt]
    · exact List.nodup_nil

theorem linkSpec_inv {g : Segment} {A : Option Assets} {w : Worker} {k : Key} {j : Nat} {a : Key}
    (h : LinkSpec g A w k j a) :
    (k = .dumper w.uid ∧ j = 0 ∧ a = .uid w.uid ∧ g.isTrainer w = true ∧ persistentW A w = true) ∨
    (k = .committer ∧ a = .dumper w.uid ∧ g.isTrainer w = true ∧ persistentW A w = true ∧
      A.bind (·.offset w.gid) = some j) ∨
    (∃ i, k = .getter w.uid i ∧ j = 0 ∧ a = .uid w.uid ∧ g.trained w.uid = false ∧ w.szout ≠ 1 ∧ i < w.szout) ∨
    (∃ e, k = .uid e.sub ∧ j = e.subPort.index ∧ a = (if w.szout = 1 then .uid w.uid else .getter w.uid e.pubPort) ∧
      g.trained w.uid = false ∧ e ∈ g.edges ∧ e.pub = w.uid ∧ e.pubPort < w.szout) := by
  cases h with
  | dumper hT hP => exact Or.inl ⟨rfl, rfl, rfl, hT, hP⟩
  | committer _ hT hP hoff => exact Or.inr (Or.inl ⟨rfl, rfl, hT, hP, hoff⟩)
  | getter i htr hne hi => exact Or.inr (Or.inr (Or.inl ⟨i, rfl, rfl, rfl, htr, hne, hi⟩))
  | edge e htr he hpub hlt => exact Or.inr (Or.inr (Or.inr ⟨e, rfl, rfl, rfl, htr, he, hpub, hlt⟩))

/-- a dumper and a getter take one argument: they are linked at slot 0 only -/
theorem linkSpec_slot_zero {g : Segment} {A : Option Assets} {w : Worker} {k : Key} {j : Nat} {a : Key}
    (hl : LinkSpec g A w k j a) (hk : (∃ n, k = Key.dumper n) ∨ (∃ n i, k = Key.getter n i)) : j = 0 := by
  rcases linkSpec_inv hl with ⟨_, hj, _⟩ | ⟨hk', _⟩ | ⟨_, _, hj, _⟩ | ⟨e, hk', _⟩
  · exact hj
  · rcases hk with ⟨n, rfl⟩ | ⟨n, i, rfl⟩ <;> cases hk'
  · exact hj
  · rcases hk with ⟨n, rfl⟩ | ⟨n, i, rfl⟩ <;> cases hk'

/-- links established by different workers never share a slot -/
theorem linkSpec_disjoint {g : Segment} {A : Option Assets} {rank : Uid → Nat} (h : WF g rank) {w w' : Worker}
    (hw : w ∈ g.workers) (hw' : w' ∈ g.workers) (hne : w.uid ≠ w'.uid) {k : Key} {j : Nat} {a a' : Key}
    (h1 : LinkSpec g A w k j a) (h2 : LinkSpec g A w' k j a') : False := by
  rcases linkSpec_inv h1 with ⟨hk, _, _, _, _⟩ | ⟨hk, _, hT, _, hoff⟩ | ⟨i, hk, _, _, _, _, _⟩ |
      ⟨e, hk, hj, _, _, he, hpub, _⟩ <;>
    rcases linkSpec_inv h2 with ⟨hk', _, _, _, _⟩ | ⟨hk', _, hT', _, hoff'⟩ | ⟨i', hk', _, _, _, _, _⟩ |
      ⟨e', hk', hj', _, _, he', hpub', _⟩ <;>
    rw [hk] at hk'
  any_goals (cases hk'; done)
  · exact hne (Key.dumper.inj hk')
  · cases A with
    | none => simp at hoff
    | some As =>
      simp only [Option.bind_some, Assets.offset] at hoff hoff'
      have hgid := indexOf_inj hoff hoff'
      have := ((h.group w hw w' hw' hgid).2.2 (trained_of_isTrainer hT) hne).1
      rw [trained_of_isTrainer hT'] at this; cases this
  · exact hne (Key.getter.inj hk').1
  · have : e = e' := edgeTgt_inj h he he' (by simp only [edgeTgt]; rw [hk', ← hj, hj'])
    subst this
    exact hne (hpub.symm.trans hpub')

theorem allProg_pairwise {g : Segment} {A : Option Assets} {rank : Uid → Nat} (h : WF g rank) {order : List Uid}
    (hnd : order.Nodup) (hmem : ∀ n ∈ order, n ∈ g.uids) : (allProg g A order).Pairwise Lk := by
  unfold allProg
  rw [List.pairwise_flatMap]
  have hprog : ∀ n ∈ order, ∃ w, w ∈ g.workers ∧ w.uid = n ∧ nodeProg g A n = prog g A w := by
    intro n hn
    obtain ⟨w, hw, rfl⟩ := mem_uids.mp (hmem n hn)
    exact ⟨w, hw, rfl, nodeProg_eq (worker?_of_mem h.nodup hw)⟩
  constructor
  · intro n hn
    obtain ⟨w, hw, _, hp⟩ := hprog n hn
    rw [hp]
    exact prog_pairwise h w
  · apply hnd.imp_of_mem
    intro n m hn hm hne a ha b hb x hx y hy hxy
    obtain ⟨w, hw, hid, hp⟩ := hprog n hn
    obtain ⟨w', hw', hid', hp'⟩ := hprog m hm
    rw [hp] at ha
    rw [hp'] at hb
    obtain ⟨k, j⟩ := x
    subst hxy
    exact linkSpec_disjoint h hw hw' (by rw [hid, hid']; exact hne) (prog_links ha hx) (prog_links hb hy)

theorem mem_allProg {g : Segment} {A : Option Assets} {rank : Uid → Nat} (h : WF g rank) {order : List Uid}
    (hmem : ∀ n ∈ order, n ∈ g.uids) {op : Op} (hop : op ∈ allProg g A order) :
    ∃ w ∈ g.workers, w.uid ∈ order ∧ op ∈ prog g A w := by
  obtain ⟨n, hn, hop⟩ := List.mem_flatMap.mp hop
  obtain ⟨w, hw, rfl⟩ := mem_uids.mp (hmem n hn)
  exact ⟨w, hw, hn, nodeProg_eq (worker?_of_mem h.nodup hw) ▸ hop⟩

theorem allProg_links {g : Segment} {A : Option Assets} {rank : Uid → Nat} (h : WF g rank) {order : List Uid}
    (hmem : ∀ n ∈ order, n ∈ g.uids) {op : Op} (hop : op ∈ allProg g A order) {k : Key} {j : Nat}
    (ht : op.tgt = some (k, j)) : ∃ w ∈ g.workers, w.uid ∈ order ∧ LinkSpec g A w k j op.src :=
  let ⟨w, hw, hv, hop⟩ := mem_allProg h hmem hop
  ⟨w, hw, hv, prog_links hop ht⟩

theorem allProg_links_complete {g : Segment} {A : Option Assets} {rank : Uid → Nat} (h : WF g rank) {order : List Uid}
    {w : Worker} (hw : w ∈ g.workers) (hv : w.uid ∈ order) {k : Key} {j : Nat} {a : Key} (hl : LinkSpec g A w k j a) :
    ∃ op ∈ allProg g A order, op.tgt = some (k, j) ∧ op.src = a := by
  obtain ⟨op, hop, ht, hs⟩ := links_complete hl
  exact ⟨op, List.mem_flatMap.mpr ⟨w.uid, hv, nodeProg_eq (worker?_of_mem h.nodup hw) ▸ hop⟩, ht, hs⟩

/-- **no link collision, whatever the visit order** + the resulting slots -/
theorem abs_final {g : Segment} {A : Option Assets} {rank : Uid → Nat} (h : WF g rank) {order : List Uid}
    (hnd : order.Nodup) (hmem : ∀ n ∈ order, n ∈ g.uids) :
    ∃ B, absRun [] (allProg g A order) = some B ∧ AbsSpec [] B (allProg g A order) := by
  apply absRun_spec
  · intro _ _ k j _; rfl
  · exact pairwise_Lk_iff.mp (allProg_pairwise h hnd hmem)
  · intro op hop hn k j ht
    refine ⟨rfl, ?_⟩
    intro op' hop' j' ht'
    obtain ⟨w', _, _, hl'⟩ := allProg_links h hmem hop' ht'
    cases op with
    | linsert k0 a0 i0 =>
      cases i0 with
      | some _ => simp [Op.noIdx] at hn
      | none =>
        simp only [Op.tgt, Option.getD_none, Option.some.injEq, Prod.mk.injEq] at ht
        obtain ⟨rfl, rfl⟩ := ht
        obtain ⟨w0, _, _, hop⟩ := mem_allProg h hmem hop
        exact linkSpec_slot_zero hl' (prog_noIdx_key hop)
    | _ => simp [Op.noIdx] at hn

end ForML.Flow
