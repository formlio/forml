/-
C01 — invariant of the index component along `segment.accept(table)`, for an arbitrary visit order: the index holds
exactly what the visited nodes register, and extending it by the entries of one more node keeps it so.
-/
import ForML.Lemmas.C01Idx

namespace ForML.Flow
open CState Segment

/-- what the visit of `w` registers under key `k`, `vis` being the nodes visited so far: the loader under the group
alias stands only until the trainer of the group takes the alias over -/
def Contrib (g : Segment) (A : Option Assets) (vis : List Uid) (w : Worker) : Key → Obj → Prop
  | .uid n, o => n = w.uid ∧ o = functorObj g A w
  | .gid γ, o => γ = w.gid ∧ ((g.isTrainer w = true ∧ o = functorObj g A w) ∨
      (persistentW A w = true ∧ o = loaderObj γ ∧ ∀ t ∈ g.workers, t.gid = γ → g.isTrainer t = true → t.uid ∉ vis))
  | .loader γ, o => γ = w.gid ∧ o = loaderObj γ ∧ g.isTrainer w = true ∧ persistentW A w = true
  | .getter n i, o => n = w.uid ∧ o = getterObj n i ∧ g.trained n = false ∧ w.szout ≠ 1 ∧ i < w.szout
  | .dumper n, o => n = w.uid ∧ o = dumperObj n ∧ g.isTrainer w = true ∧ persistentW A w = true
  | .committer, o => o = committerObj ∧ g.isTrainer w = true ∧ persistentW A w = true

/-- what may be stored under key `k` after visiting `vis` -/
def IdxLegit (g : Segment) (A : Option Assets) (vis : List Uid) (k : Key) (o : Obj) : Prop :=
  ∃ w ∈ g.workers, w.uid ∈ vis ∧ Contrib g A vis w k o

/-- the invariant of `(Table._index, Table._committer)` after visiting `vis`; `contig`: equal identities are adjacent,
so that `groupby` in `Index.instructions` yields every object once -/
structure IdxInv (g : Segment) (A : Option Assets) (vis : List Uid) (ic : IdxS) : Prop where
  keys : (ic.1.map (·.1)).Nodup
  contig : Contig (ic.1.map (·.2.id))
  comm : (ic.2 = none ∧ ∀ t ∈ g.workers, t.uid ∈ vis → g.isTrainer t = true → persistentW A t = true → False) ∨
    (ic.2 = some Key.committer ∧ ∃ t ∈ g.workers, t.uid ∈ vis ∧ g.isTrainer t = true ∧ persistentW A t = true)
  mem : ∀ k o, (k, o) ∈ ic.1 ↔ IdxLegit g A vis k o

section
variable {g : Segment} {A : Option Assets} {vis : List Uid} {w : Worker} {k : Key} {o : Obj}

/-- only the loader alias depends on the visited set -/
theorem Contrib.congr {vis' : List Uid} (h : Contrib g A vis w k o)
    (hL : ∀ γ, k = Key.gid γ → o = loaderObj γ → ∀ t ∈ g.workers, t.gid = γ → g.isTrainer t = true →
      t.uid ∉ vis → t.uid ∉ vis') : Contrib g A vis' w k o := by
  cases k with
  | gid γ =>
    obtain ⟨h1, h2 | ⟨h2, h3, h4⟩⟩ := h
    · exact ⟨h1, Or.inl h2⟩
    · exact ⟨h1, Or.inr ⟨h2, h3, fun t ht hg hT => hL γ rfl h3 t ht hg hT (h4 t ht hg hT)⟩⟩
  | _ => exact h

theorem Contrib.id_cases (h : Contrib g A vis w k o) :
    (o.id = k ∧ ∀ γ, k ≠ Key.gid γ) ∨
      (k = Key.gid w.gid ∧ o = loaderObj w.gid ∧ ∀ t ∈ g.workers, t.gid = w.gid → g.isTrainer t = true → t.uid ∉ vis) ∨
      (k = Key.gid w.gid ∧ o = functorObj g A w ∧ g.isTrainer w = true) := by
  cases k with
  | uid n => obtain ⟨rfl, rfl⟩ := h; exact Or.inl ⟨rfl, fun γ => by simp⟩
  | gid γ =>
    obtain ⟨rfl, ⟨h2, rfl⟩ | ⟨_, rfl, h4⟩⟩ := h
    · exact Or.inr (Or.inr ⟨rfl, rfl, h2⟩)
    · exact Or.inr (Or.inl ⟨rfl, rfl, h4⟩)
  | loader γ => obtain ⟨_, rfl, _⟩ := h; exact Or.inl ⟨rfl, fun γ => by simp⟩
  | getter n i => obtain ⟨_, rfl, _⟩ := h; exact Or.inl ⟨rfl, fun γ => by simp⟩
  | dumper n => obtain ⟨_, rfl, _⟩ := h; exact Or.inl ⟨rfl, fun γ => by simp⟩
  | committer => obtain ⟨rfl, _⟩ := h; exact Or.inl ⟨rfl, fun γ => by simp⟩

theorem IdxLegit.id_cases (h : IdxLegit g A vis k o) :
    (o.id = k ∧ ∀ γ, k ≠ Key.gid γ) ∨ (∃ γ, k = Key.gid γ ∧ o = loaderObj γ) ∨
      (∃ γ t, k = Key.gid γ ∧ t ∈ g.workers ∧ t.uid ∈ vis ∧ o = functorObj g A t) := by
  obtain ⟨t, ht, hv, hc⟩ := h
  rcases hc.id_cases with h1 | ⟨h1, h2, _⟩ | ⟨h1, h2, _⟩
  · exact Or.inl h1
  · exact Or.inr (Or.inl ⟨_, h1, h2⟩)
  · exact Or.inr (Or.inr ⟨_, t, h1, ht, hv, h2⟩)

end

theorem IdxInv.init (g : Segment) (A : Option Assets) : IdxInv g A [] ([], none) :=
  ⟨List.nodup_nil, trivial, Or.inl ⟨rfl, fun _ _ h => (by cases h)⟩,
   fun _ _ => ⟨fun h => (by cases h), fun ⟨_, _, h, _⟩ => (by cases h)⟩⟩

section
variable {g : Segment} {A : Option Assets} {vis : List Uid} {ic : IdxS}

theorem IdxInv.sound (inv : IdxInv g A vis ic) (k : Key) (o : Obj) (h : aget k ic.1 = some o) : IdxLegit g A vis k o :=
  (inv.mem k o).mp (mem_of_aget h)

theorem IdxInv.complete (inv : IdxInv g A vis ic) {k : Key} {o : Obj} (h : IdxLegit g A vis k o) : aget k ic.1 = some o :=
  aget_of_mem_nodup inv.keys ((inv.mem k o).mpr h)

theorem IdxInv.fresh (inv : IdxInv g A vis ic) {k : Key} (h : ∀ o, ¬ IdxLegit g A vis k o) : aget k ic.1 = none := by
  cases hk : aget k ic.1 with
  | none => rfl
  | some o => exact absurd (inv.sound k o hk) (h o)

end

section
variable {g : Segment} {A : Option Assets} {rank : Uid → Nat} {vis : List Uid} {I : List (Key × Obj)} {c : Option Key}

/-- The index after the visit of `w`: `B`, the old index without the group alias if `w` is the trainer, followed by
the entries `N` that `w` registers. `N` needs describing only up to membership, key freshness and the run structure
of its identities; that its identities do not occur in `B` follows from the invariant. -/
theorem IdxInv.extend (h : WF g rank) (inv : IdxInv g A vis (I, c)) {w : Worker} (hw : w ∈ g.workers) (hv : w.uid ∉ vis)
    {B N : List (Key × Obj)} {c' : Option Key}
    (hB : ∀ k o, (k, o) ∈ B ↔ (k, o) ∈ I ∧ ¬ (g.isTrainer w = true ∧ k = Key.gid w.gid))
    (hBk : (B.map (·.1)).Nodup) (hBc : Contig (B.map (·.2.id)))
    (hNk : (N.map (·.1)).Nodup) (hNc : Contig (N.map (·.2.id))) (hfresh : ∀ x ∈ N, aget x.1 B = none)
    (hNs : ∀ k o, (k, o) ∈ N → Contrib g A (vis ++ [w.uid]) w k o)
    (hNw : ∀ k o, Contrib g A (vis ++ [w.uid]) w k o → (k, o) ∈ N ∨ (k, o) ∈ B)
    (hc' : c' = if g.isTrainer w = true ∧ persistentW A w = true then some Key.committer else c) :
    IdxInv g A (vis ++ [w.uid]) (B ++ N, c') := by
  have huid : ∀ t ∈ g.workers, t.uid = w.uid → t = w := fun t ht he =>
    worker_eq_of_uid h.nodup ht hw he
  have hcase : ∀ t ∈ g.workers, t.uid ∈ vis ++ [w.uid] → t.uid ∈ vis ∨ t = w := by
    intro t ht hm
    rcases List.mem_append.mp hm with hm | hm
    · exact Or.inl hm
    · exact Or.inr (huid t ht (List.mem_singleton.mp hm))
  have hlegit : ∀ k o, (k, o) ∈ B → IdxLegit g A vis k o := fun k o hm => (inv.mem k o).mp ((hB k o).mp hm).1
  refine ⟨keys_nodup_append hBk hNk hfresh, ?_, ?_, ?_⟩
  · -- an identity registered by `w` is new: it belongs to a key of `w`, to `w` itself, or to the loader of its group
    show Contig ((B ++ N).map (·.2.id))
    rw [List.map_append]
    refine hBc.append hNc ?_
    intro x hxB hxN
    obtain ⟨⟨k', o'⟩, hm', rfl⟩ := List.mem_map.mp hxB
    obtain ⟨⟨k, o⟩, hm, hid⟩ := List.mem_map.mp hxN
    simp only at hid
    obtain ⟨t, ht, htv, hct⟩ := hlegit k' o' hm'
    have hkB : ∀ o'', (k, o'') ∉ B := fun o'' hmem =>
      aget_none_iff.mp (hfresh _ hm) (List.mem_map.mpr ⟨_, hmem, rfl⟩)
    rcases (hNs k o hm).id_cases with ⟨h1, hng⟩ | ⟨rfl, rfl, hno⟩ | ⟨rfl, rfl, hT⟩
    · rcases hct.id_cases with ⟨h2, _⟩ | ⟨rfl, rfl, _⟩ | ⟨rfl, rfl, _⟩
      · rw [← hid, h1] at h2; subst h2; exact hkB _ hm'
      · -- `k` is the loader key of `t`'s group: `w` is its trainer, whose alias is not in `B`
        rw [h1] at hid; subst hid
        obtain ⟨hg, _, hT, _⟩ := hNs _ _ hm
        exact ((hB _ _).mp hm').2 ⟨hT, by rw [hg]⟩
      · rw [h1] at hid; subst hid
        obtain ⟨he, _⟩ := hNs _ _ hm
        exact hv (he ▸ htv)
    · rcases hct.id_cases with ⟨h2, _⟩ | ⟨h2, rfl, _⟩ | ⟨_, rfl, _⟩
      · rw [← hid] at h2; subst h2
        obtain ⟨hg, _, hT, _⟩ := hct
        exact hno t ht hg.symm hT (List.mem_append_left _ htv)
      · simp only [Key.loader.injEq] at hid
        rw [h2, ← hid] at hm'; exact hkB _ hm'
      · cases hid
    · rcases hct.id_cases with ⟨h2, _⟩ | ⟨_, rfl, _⟩ | ⟨_, rfl, _⟩
      · rw [← hid] at h2; subst h2
        obtain ⟨he, _⟩ := hct
        exact hv (he ▸ htv)
      · cases hid
      · exact hv ((Key.uid.inj hid : w.uid = t.uid) ▸ htv)
  · subst hc'
    by_cases hTP : g.isTrainer w = true ∧ persistentW A w = true
    · rw [if_pos hTP]
      exact Or.inr ⟨rfl, w, hw, by simp, hTP.1, hTP.2⟩
    · rw [if_neg hTP]
      rcases inv.comm with ⟨hc, hno⟩ | ⟨hc, t, ht, htv, hTt, hPt⟩
      · refine Or.inl ⟨hc, fun t ht htv hTt hPt => ?_⟩
        rcases hcase t ht htv with htv | rfl
        · exact hno t ht htv hTt hPt
        · exact hTP ⟨hTt, hPt⟩
      · exact Or.inr ⟨hc, t, ht, List.mem_append_left _ htv, hTt, hPt⟩
  · intro k o
    show (k, o) ∈ B ++ N ↔ _
    rw [List.mem_append]
    constructor
    · rintro (hm | hm)
      · obtain ⟨t, ht, htv, hct⟩ := hlegit k o hm
        refine ⟨t, ht, List.mem_append_left _ htv, hct.congr ?_⟩
        rintro γ rfl _ t' ht' hg hT' hnv hmem
        rcases hcase t' ht' hmem with hmem | rfl
        · exact hnv hmem
        · exact ((hB _ _).mp hm).2 ⟨hT', by rw [hg]⟩
      · exact ⟨w, hw, by simp, hNs k o hm⟩
    · rintro ⟨t, ht, htv, hct⟩
      rcases hcase t ht htv with htv | rfl
      · left
        have hold : IdxLegit g A vis k o :=
          ⟨t, ht, htv, hct.congr (fun _ _ _ t' _ _ _ hnv hmem => hnv (List.mem_append_left _ hmem))⟩
        refine (hB k o).mpr ⟨(inv.mem k o).mpr hold, ?_⟩
        rintro ⟨hT, rfl⟩
        obtain ⟨hg, ⟨hTt, _⟩ | ⟨_, _, hno⟩⟩ := hct
        · exact hv (trainer_unique h ht hw hg.symm hTt hT ▸ htv)
        · exact hno w hw rfl hT (by simp)
      · exact (hNw k o hct).symm

end

end ForML.Flow
