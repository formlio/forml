/-
From single registry calls to history steps (a guard + a sequence of calls, each computed on the tree it starts from) and
to the trees a process death can leave inside a step.  A training — its dumps, then its commit — stays inside `trainFoot`
of the tree it started on, on any tree (`train_foot`); on a good tree it leaves a good tree (`train_left`).
-/
import ForML.Lemmas.C05Calls

namespace ForML.Registry
open ForML.Fs

/-- the trees a process death can leave while the call sequence `cs` runs from `fs` (all calls before the
interrupted one complete) — or the tree on which the sequence ends -/
inductive CrashTree : Fs → List (Fs → List Op) → Fs → Prop
  | done (fs : Fs) : CrashTree fs [] fs
  | here (fs : Fs) (c : Fs → List Op) (rest : List (Fs → List Op)) (k : Nat) (cut : Option Nat) (x : Fs) :
      run fs (crashOps (atomsAll (c fs)) k cut) = some x → CrashTree fs (c :: rest) x
  | later (fs : Fs) (c : Fs → List Op) (rest : List (Fs → List Op)) (fs' x : Fs) :
      run fs (atomsAll (c fs)) = some fs' → CrashTree fs' rest x → CrashTree fs (c :: rest) x

/-- the tree after all calls of `cs` have completed -/
inductive FullTree : Fs → List (Fs → List Op) → Fs → Prop
  | done (fs : Fs) : FullTree fs [] fs
  | call (fs : Fs) (c : Fs → List Op) (rest : List (Fs → List Op)) (fs' x : Fs) :
      run fs (atomsAll (c fs)) = some fs' → FullTree fs' rest x → FullTree fs (c :: rest) x

theorem CrashTree.wf {fs x : Fs} {cs : List (Fs → List Op)} (h : CrashTree fs cs x) (w : WF fs) : WF x := by
  induction h with
  | done => exact w
  | here fs c rest k cut x hr => exact run_wf _ _ _ w hr
  | later fs c rest fs' x hr _ ih => exact ih (run_wf _ _ _ w hr)

theorem FullTree.crashTree {fs x : Fs} {cs : List (Fs → List Op)} (h : FullTree fs cs x) : CrashTree fs cs x := by
  induction h with
  | done => exact .done _
  | call fs c rest fs' x hr _ ih => exact .later fs c rest fs' x hr ih

/-- a single call interrupted anywhere or complete: a crash point, the last one being after its last operation -/
theorem CrashTree.single {fs x : Fs} {c : Fs → List Op} (h : CrashTree fs [c] x) :
    ∃ k cut, run fs (crashOps (atomsAll (c fs)) k cut) = some x := by
  cases h with
  | here _ _ _ k cut _ hr => exact ⟨k, cut, hr⟩
  | later _ _ _ fs' _ hr hrest =>
    cases hrest
    exact ⟨(atomsAll (c fs)).length, none, by rw [crashOps_of_length_le _ _ _ (Nat.le_refl _)]; exact hr⟩

theorem FullTree.single {fs x : Fs} {c : Fs → List Op} (hr : run fs (atomsAll (c fs)) = some x) : FullTree fs [c] x :=
  .call fs c [] x x hr (.done _)

theorem FullTree.runCalls {fs x : Fs} {cs : List (Fs → List Op)} (h : FullTree fs cs x) :
    (runCalls fs cs).err = none ∧ (runCalls fs cs).fs = x := by
  induction h with
  | done => exact ⟨rfl, rfl⟩
  | call fs c rest fs' x hr _ ih =>
    simp only [Registry.runCalls, run_runSome _ _ _ hr]
    exact ih

theorem runCalls_full (cs : List (Fs → List Op)) (fs : Fs) (h : (runCalls fs cs).err = none) :
    FullTree fs cs (runCalls fs cs).fs := by
  induction cs generalizing fs with
  | nil => exact .done _
  | cons c rest ih =>
    simp only [runCalls] at h ⊢
    split at h
    · rename_i fs' heq
      have hr := run_of_runSome heq
      exact .call fs c rest fs' _ hr (ih fs' h)
    · cases h

theorem runCalls_tree (cs : List (Fs → List Op)) (fs : Fs) : CrashTree fs cs (runCalls fs cs).fs := by
  induction cs generalizing fs with
  | nil => exact .done _
  | cons c rest ih =>
    simp only [runCalls]
    split
    · rename_i fs' heq
      have hr := run_of_runSome heq
      exact .later fs c rest fs' _ hr (ih fs')
    · rename_i fs' heq
      obtain ⟨j, hj⟩ := runSome_prefix (atomsAll (c fs)) fs
      rw [heq] at hj
      exact .here fs c rest j none fs' (by rw [crashOps_none]; exact hj)

theorem runCalls_single_atoms (c : Fs → List Op) (fs : Fs) :
    ∃ n, atomsAll (runCalls fs [c]).calls.flatten = (atomsAll (c fs)).take n := by
  simp only [runCalls]
  split
  · exact ⟨(atomsAll (c fs)).length, by simp⟩
  · exact ⟨okCount fs (atomsAll (c fs)), by simp [atomsAll_take_atoms]⟩

/-- `crashIn` runs its crash list with `runSome`, which stops at a failing operation, while `CrashTree.here` wants a crash
list that runs through: `runSome_crashOps_exists` supplies one with the same tree -/
theorem crash_tree (cs : List (Fs → List Op)) (fs : Fs) (k : Nat) (cut : Option Nat) :
    CrashTree fs cs (runSome fs (crashOps (atomsAll (runCalls fs cs).calls.flatten) k cut)).1 := by
  induction cs generalizing fs k with
  | nil => simp [runCalls, atomsAll, crashOps, runSome]; exact .done _
  | cons c rest ih =>
    simp only [runCalls]
    split
    · rename_i fs' heq
      have hr := run_of_runSome heq
      simp only [List.flatten_cons, atomsAll_append, crashOps_append]
      split
      · obtain ⟨k', cut', h⟩ := runSome_crashOps_exists (atomsAll (c fs)) fs k cut
        exact .here fs c rest k' cut' _ h
      · rw [runSome_append_of_run _ _ fs fs' hr]
        exact .later fs c rest fs' _ hr (ih fs' _)
    · rename_i fs' heq
      simp only [List.flatten_cons, List.flatten_nil, List.append_nil, atomsAll_take_atoms, crashOps_take]
      obtain ⟨k', cut', h⟩ := runSome_crashOps_exists (atomsAll (c fs)) fs
        (min k (okCount fs (atomsAll (c fs)))) (if k < okCount fs (atomsAll (c fs)) then cut else none)
      exact .here fs c rest k' cut' _ h

theorem runCalls_left_tree (fs : Fs) (cs : List (Fs → List Op)) (x : Fs)
    (hx : x = (runCalls fs cs).fs ∨ ∃ k cut, x = (runSome fs (crashOps (atomsAll (runCalls fs cs).calls.flatten) k cut)).1) :
    CrashTree fs cs x := by
  rcases hx with rfl | ⟨k, cut, rfl⟩
  · exact runCalls_tree _ _
  · exact crash_tree _ _ _ _

theorem FullTree.append_inv {fs x : Fs} {A B : List (Fs → List Op)} (h : FullTree fs (A ++ B) x) :
    ∃ m, FullTree fs A m ∧ FullTree m B x := by
  induction A generalizing fs with
  | nil => exact ⟨fs, .done _, h⟩
  | cons c r ih =>
    cases h with
    | call _ _ _ fs' _ hr hrest =>
      obtain ⟨m, h1, h2⟩ := ih hrest
      exact ⟨m, .call fs c r fs' m hr h1, h2⟩

theorem FullTree.append {fs m x : Fs} {A B : List (Fs → List Op)} (h1 : FullTree fs A m) (h2 : FullTree m B x) :
    FullTree fs (A ++ B) x := by
  induction h1 with
  | done => exact h2
  | call fs c rest fs' m hr _ ih => exact .call fs c (rest ++ B) fs' x hr (ih h2)

theorem CrashTree.append_inv {fs x : Fs} {A B : List (Fs → List Op)} (h : CrashTree fs (A ++ B) x) :
    CrashTree fs A x ∨ ∃ m, FullTree fs A m ∧ CrashTree m B x := by
  induction A generalizing fs with
  | nil => exact Or.inr ⟨fs, .done _, h⟩
  | cons c r ih =>
    cases h with
    | here _ _ _ k cut _ hr => exact Or.inl (.here fs c r k cut x hr)
    | later _ _ _ fs' _ hr hrest =>
      rcases ih hrest with h | ⟨m, h1, h2⟩
      · exact Or.inl (.later fs c r fs' x hr h)
      · exact Or.inr ⟨m, .call fs c r fs' m hr h1, h2⟩

theorem FullTree.unique {fs x y : Fs} {cs : List (Fs → List Op)} (h1 : FullTree fs cs x) (h2 : FullTree fs cs y) :
    x = y := by
  rw [← h1.runCalls.2, ← h2.runCalls.2]

/-- nothing outside the stage directory of release `p/v` differs -/
def StageEq (p v : Nat) (fs0 fs : Fs) : Prop := ∀ key, ¬ (stageP p v <+: key) → get fs key = get fs0 key

/-- the `Registry.write` calls of a training, one per state in dump order: the first part of `trainCalls`
(`trainCalls_eq`) -/
def writeCalls (p v : Nat) (sts : List (Nat × Bytes)) : List (Fs → List Op) :=
  sts.map (fun s fs => writeOps fs p v s.1 s.2)

/-- the `Registry.close` call that ends a training, numbered from the listing of the tree it starts on: the last call of
`trainCalls` (`trainCalls_eq`) -/
def closeCall (impl : Impl) (p v ord : Nat) (sids : List Nat) : Fs → List Op :=
  fun fs => closeOps impl fs p v (nextGen fs p v) ⟨ord, sids⟩

theorem trainCalls_eq (impl : Impl) (p v ord : Nat) (sts : List (Nat × Bytes)) :
    trainCalls impl p v ord sts = writeCalls p v sts ++ [closeCall impl p v ord (sts.map (·.1))] := rfl

theorem dumpFoot.nextGen {fs0 m : Fs} {p v : Nat} (h : EqOff (dumpFoot fs0 p v) m fs0) :
    nextGen m p v = nextGen fs0 p v :=
  nextGen_congr _ _ _ _ fun _ => genValid_congr (h _ dumpFoot_gen.1) (h _ dumpFoot_gen.2)

theorem StageEq.nextGen {p v : Nat} {fs0 fs : Fs} (h : StageEq p v fs0 fs) : nextGen fs p v = nextGen fs0 p v :=
  dumpFoot.nextGen (EqOff.mono (H := fun key => stageP p v <+: key) h fun _ => Or.inr)

theorem StageEq.of_dump {p v : Nat} {fs0 fs : Fs} (hp : get fs0 (projectP p) ≠ none) (hv : get fs0 (releaseP p v) ≠ none)
    (h : EqOff (dumpFoot fs0 p v) fs fs0) : StageEq p v fs0 fs :=
  fun key hk => h key fun hf => hf.elim (not_missing hp hv) hk

/-- `fs0` is the tree the training started on, `m` the tree its earlier dumps have left -/
theorem writes_foot (p v : Nat) (fs0 : Fs) : ∀ (sts : List (Nat × Bytes)) (m x : Fs),
    EqOff (dumpFoot fs0 p v) m fs0 → CrashTree m (writeCalls p v sts) x → EqOff (dumpFoot fs0 p v) x fs0 := by
  intro sts
  induction sts with
  | nil => intro m x h hx; cases hx; exact h
  | cons s r ih =>
    intro m x h hx
    have one : ∀ op ∈ writeOps m p v s.1 s.2, ∀ key, touches op key → dumpFoot fs0 p v key := fun op hop key hk =>
      (writeOps_foot m p v s.1 s.2 op hop key hk).dump.elim (fun hm => hm.carry h fun _ => Or.inl) Or.inr
    cases hx with
    | here _ _ _ k cut _ hr =>
      rw [atomsAll_writeOps] at hr
      exact (crash_eqOff one hr).trans h
    | later _ _ _ m' _ hr hrest =>
      rw [atomsAll_writeOps] at hr
      exact ih m' x ((run_eqOff one hr).trans h) hrest

theorem train_foot (kf : Bool) (fs0 : Fs) (p v ord : Nat) (tsids : List Nat)
    (ht0 : get fs0 (tagP p v (nextGen fs0 p v)) = none) (sts : List (Nat × Bytes)) (x : Fs)
    (hx : CrashTree fs0 (writeCalls p v sts ++ [closeCall ⟨true, kf⟩ p v ord tsids]) x) :
    EqOff (trainFoot fs0 p v (nextGen fs0 p v)) x fs0
      ∧ (get x (tagP p v (nextGen fs0 p v)) = none
        ∨ FullTree fs0 (writeCalls p v sts ++ [closeCall ⟨true, kf⟩ p v ord tsids]) x) := by
  rcases hx.append_inv with hw | ⟨m, hw, hc⟩
  · -- the process died while staging
    have hd := writes_foot p v fs0 sts fs0 x (EqOff.refl _ _) hw
    exact ⟨hd.mono fun _ => Or.inl, Or.inl ((hd _ dumpFoot_gen.2).trans ht0)⟩
  · have hm := writes_foot p v fs0 sts fs0 m (EqOff.refl _ _) hw.crashTree
    -- the commit starts on `m`: the directories it finds missing there were missing on `fs0`, or were made by the dumps
    have foot : ∀ key, closeFoot m p v (nextGen fs0 p v) tsids key → trainFoot fs0 p v (nextGen fs0 p v) key :=
      fun key hf => hf.train.elim (fun hd => Or.inl (hd.elim (fun h => h.carry hm fun _ => Or.inl) Or.inr)) Or.inr
    obtain ⟨k, cut, hr⟩ := hc.single
    simp only [closeCall, atomsAll_closeOps, dumpFoot.nextGen hm] at hr
    rcases commit_crash_raw kf m x p v _ _ k cut ((hm _ dumpFoot_gen.2).trans ht0) hr with ⟨h1, h2⟩ | hr
    · exact ⟨(h1.mono foot).trans (hm.mono fun _ => Or.inl), Or.inl h2⟩
    · refine ⟨((run_eqOff (closeOps_foot _ m p v _ _) hr).mono foot).trans (hm.mono fun _ => Or.inl),
        Or.inr (hw.append (.single ?_))⟩
      simp only [closeCall, atomsAll_closeOps, dumpFoot.nextGen hm]; exact hr

theorem writes_other (p v s0 : Nat) : ∀ (sts : List (Nat × Bytes)) (fs m : Fs),
    FullTree fs (writeCalls p v sts) m → s0 ∉ sts.map (·.1) →
    get m (stagedStateP p v s0) = get fs (stagedStateP p v s0) := by
  intro sts
  induction sts with
  | nil => intro fs m h _; cases h; rfl
  | cons s r ih =>
    intro fs m h hnin
    simp only [writeCalls, List.map_cons] at h
    cases h with
    | call _ _ _ fs' _ hr hrest =>
      simp only [atomsAll_writeOps] at hr
      simp only [List.map_cons, List.mem_cons, not_or] at hnin
      rw [ih fs' m hrest hnin.2]
      exact (write_content fs fs' p v s.1 s.2 hr).2 s0 hnin.1

theorem writes_content (p v : Nat) : ∀ (sts : List (Nat × Bytes)) (fs m : Fs),
    FullTree fs (writeCalls p v sts) m → (sts.map (·.1)).Nodup →
    ∀ sb ∈ sts, get m (stagedStateP p v sb.1) = some (.file sb.2) := by
  intro sts
  induction sts with
  | nil => intro _ _ _ _ sb h; cases h
  | cons s r ih =>
    intro fs m h hnd sb hsb
    simp only [List.map_cons, List.nodup_cons] at hnd
    have h' := h
    simp only [writeCalls, List.map_cons] at h'
    cases h' with
    | call _ _ _ fs' _ hr hrest =>
      simp only [atomsAll_writeOps] at hr
      rcases List.mem_cons.mp hsb with rfl | hin
      · rw [writes_other p v sb.1 r fs' m hrest hnd.1]
        exact (write_content fs fs' p v sb.1 sb.2 hr).1
      · exact ih fs' m hrest hnd.2 sb hin

theorem train_full (kf : Bool) (fs0 x : Fs) (p v ord : Nat) (sts : List (Nat × Bytes))
    (h : FullTree fs0 (trainCalls ⟨true, kf⟩ p v ord sts) x) :
    get x (generationP p v (nextGen fs0 p v)) = some .dir
    ∧ get x (tagP p v (nextGen fs0 p v)) = some (.file (encodeTag ⟨ord, sts.map (·.1)⟩))
    ∧ (sts.map (·.1)).Nodup
    ∧ ∀ sb ∈ sts, get x (stateP p v (nextGen fs0 p v) sb.1) = some (.file sb.2) := by
  rw [trainCalls_eq] at h
  obtain ⟨m, hw, hc⟩ := h.append_inv
  cases hc with
  | call _ _ _ fs' _ hr hrest =>
    cases hrest
    simp only [closeCall, atomsAll_closeOps,
      dumpFoot.nextGen (writes_foot p v fs0 sts fs0 m (EqOff.refl _ _) hw.crashTree)] at hr
    obtain ⟨c1, c2, c3, c4⟩ := close_content kf m x p v _ _ hr
    refine ⟨c1, c2, c3, fun sb hsb => ?_⟩
    rw [c4 sb.1 (List.mem_map.mpr ⟨sb, hsb, rfl⟩)]
    exact writes_content p v sts fs0 m hw c3 sb hsb

theorem train_left (kf : Bool) (fs x : Fs) (gd : Good fs) (p v ord : Nat) (sts : List (Nat × Bytes))
    (hx : CrashTree fs (trainCalls ⟨true, kf⟩ p v ord sts) x) :
    Good x ∧ EqOff (trainFoot fs p v (nextGen fs p v)) x fs
      ∧ ((get x (tagP p v (nextGen fs p v)) = none ∧ ViewEq x fs)
        ∨ FullTree fs (trainCalls ⟨true, kf⟩ p v ord sts) x) := by
  have wx := hx.wf gd.wf
  rw [trainCalls_eq] at hx
  obtain ⟨h, ht | hfull⟩ := train_foot kf fs p v ord _ (nextGen_untagged gd.wf p v) sts x hx
  · exact ⟨(trained_quiet gd wx h ht).1, h, Or.inl ⟨ht, (trained_quiet gd wx h ht).2⟩⟩
  · rw [← trainCalls_eq] at hfull
    obtain ⟨_, c2, _, c4⟩ := train_full kf fs x p v ord sts hfull
    refine ⟨(trained_full gd wx h c2 fun s hs => ?_).1, h, Or.inr hfull⟩
    obtain ⟨sb, hsb, rfl⟩ := List.mem_map.mp hs
    exact ⟨sb.2, c4 sb hsb⟩

/-- a publish on any tree, complete or interrupted anywhere: nothing outside `pubFoot` changes, and nothing outside
`pushFoot` unless the call has completed -/
theorem publish_foot (kf : Bool) (fs x : Fs) (p v : Nat) (pkg : Pkg)
    (h : CrashTree fs [fun f => pushOps ⟨true, kf⟩ f p v pkg] x) :
    EqOff (pubFoot fs p v) x fs
      ∧ (EqOff (pushFoot fs p v) x fs ∨ FullTree fs [fun f => pushOps ⟨true, kf⟩ f p v pkg] x) := by
  obtain ⟨k, cut, hr⟩ := h.single
  exact ⟨crash_eqOff (pushOps_foot kf fs p v pkg) hr, (push_crash_raw kf fs x p v pkg k cut hr).imp_right .single⟩

end ForML.Registry
