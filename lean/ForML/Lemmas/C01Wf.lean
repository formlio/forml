/-
C01 — what the decidable well-formedness predicate `Segment.wf` / `Segment.assetsOK` says, as
propositions; basic facts on `worker?`, `publisher`, `trainerOf`; the bounded rank `cntW` built from the numbering.
-/
import ForML.Model.CompileSpec
import ForML.Lemmas.C01List

namespace ForML.Flow

theorem InPort.eq_of_index {p q : InPort} (hk : p.isApply = q.isApply) (hi : p.index = q.index) : p = q := by
  cases p <;> cases q <;> simp_all [InPort.index, InPort.isApply]

namespace Segment

theorem allDistinct_iff_nodup {α} [DecidableEq α] (l : List α) : allDistinct l = true ↔ l.Nodup := by
  induction l with
  | nil => simp [allDistinct]
  | cons x r ih => simp [allDistinct, ih]

theorem worker?_some {g : Segment} {n : Uid} {w : Worker} (h : g.worker? n = some w) : w ∈ g.workers ∧ w.uid = n := by
  unfold worker? at h
  exact ⟨List.mem_of_find?_eq_some h, by simpa using List.find?_some h⟩

theorem worker?_none {g : Segment} {n : Uid} (h : g.worker? n = none) : ∀ w ∈ g.workers, w.uid ≠ n := by
  unfold worker? at h
  intro w hw
  have := List.find?_eq_none.mp h w hw
  simpa using this

theorem worker?_of_mem {g : Segment} (hnd : g.uids.Nodup) {w : Worker} (hw : w ∈ g.workers) :
    g.worker? w.uid = some w := by
  cases h : g.worker? w.uid with
  | none => exact absurd rfl (worker?_none h w hw)
  | some w' =>
    obtain ⟨hw', hid⟩ := worker?_some h
    exact congrArg some (eq_of_nodup_map (fun w : Worker => w.uid) (l := g.workers) hnd hw' hw hid)

theorem mem_uids {g : Segment} {n : Uid} : n ∈ g.uids ↔ ∃ w ∈ g.workers, w.uid = n := by
  simp [uids]

theorem publisher_some {g : Segment} {n : Uid} {p : InPort} {e : Edge} (h : g.publisher n p = some e) :
    e ∈ g.edges ∧ e.sub = n ∧ e.subPort = p := by
  unfold publisher at h
  have h2 := List.find?_some h
  simp only [Bool.and_eq_true, decide_eq_true_eq] at h2
  exact ⟨List.mem_of_find?_eq_some h, h2.1, h2.2⟩

theorem publisher_isSome_of_mem {g : Segment} {e : Edge} (he : e ∈ g.edges) : (g.publisher e.sub e.subPort).isSome := by
  unfold publisher
  rw [List.find?_isSome]
  exact ⟨e, he, by simp⟩

theorem trained_iff {g : Segment} {n : Uid} :
    g.trained n = true ↔ ∃ e ∈ g.edges, e.sub = n ∧ e.subPort.isApply = false := by
  simp [trained]

theorem trainerOf_some {g : Segment} {γ : Gid} {t : Worker} (h : g.trainerOf γ = some t) :
    t ∈ g.workers ∧ t.gid = γ ∧ g.trained t.uid = true := by
  unfold trainerOf at h
  have h2 := List.find?_some h
  simp only [Bool.and_eq_true, decide_eq_true_eq] at h2
  exact ⟨List.mem_of_find?_eq_some h, h2.1, h2.2⟩

theorem trainerOf_none {g : Segment} {γ : Gid} (h : g.trainerOf γ = none) :
    ∀ w ∈ g.workers, w.gid = γ → g.trained w.uid = false := by
  unfold trainerOf at h
  intro w hw hg
  have := List.find?_eq_none.mp h w hw
  simpa [hg] using this

/-- what `e ∈ g.edges` guarantees in a well-formed segment -/
structure EdgeOK (g : Segment) (rank : Uid → Nat) (e : Edge) : Prop where
  pub : ∃ p, g.worker? e.pub = some p ∧ e.pubPort < p.szout
  sub : ∃ s, g.worker? e.sub = some s ∧ (match e.subPort with | .apply i => i < s.szin | _ => s.stateful = true)
  rank : rank e.pub < rank e.sub

/-- the conjuncts of `Segment.wf` as propositions, except the one on the tail's shape (at most one output, not trained),
which `wf_tail` below reads off `wf` itself -/
structure WF (g : Segment) (rank : Uid → Nat) : Prop where
  nodup : g.uids.Nodup
  head : g.head ∈ g.uids
  tail : g.tail ∈ g.uids
  edge : ∀ e ∈ g.edges, EdgeOK g rank e
  ports : (g.edges.map fun e => (e.sub, e.subPort)).Nodup
  portsOK : ∀ w ∈ g.workers, g.portsOK w = true
  group : ∀ w ∈ g.workers, ∀ o ∈ g.workers, w.gid = o.gid →
    w.actor = o.actor ∧ w.stateful = o.stateful ∧
      (g.trained w.uid = true → w.uid ≠ o.uid → g.trained o.uid = false ∧ rank w.uid < rank o.uid)
  elsewhere : ∀ w ∈ g.workers, g.trainedElsewhere.contains w.gid = true → g.trained w.uid = false ∧ w.stateful = true

theorem wf_WF {g : Segment} {rank : Uid → Nat} (h : g.wf rank = true) : WF g rank := by
  simp only [wf, Bool.and_eq_true, allDistinct_iff_nodup, List.all_eq_true] at h
  obtain ⟨⟨⟨⟨⟨⟨⟨⟨hnd, hhead⟩, htail⟩, hedge⟩, hports⟩, hpok⟩, _⟩, hgrp⟩, helse⟩ := h
  refine ⟨hnd, by simpa using hhead, by simpa using htail, ?_, hports, hpok, ?_, ?_⟩
  · intro e he
    have := hedge e he
    -- the other conjuncts of `wf` are large terms that every step below would otherwise carry along
    clear hedge hports hpok hgrp helse
    cases hp : g.worker? e.pub with
    | none => simp [hp] at this
    | some p =>
      cases hs : g.worker? e.sub with
      | none => simp [hp, hs] at this
      | some s =>
        simp only [hp, hs, Bool.and_eq_true, decide_eq_true_eq] at this
        refine ⟨⟨p, hp, this.1.1⟩, ⟨s, hs, ?_⟩, this.1.2⟩
        have h3 := this.2
        cases hport : e.subPort <;> simp_all
  · intro w hw o ho hgid
    have := hgrp w hw o ho
    simp only [hgid, if_true, Bool.and_eq_true, decide_eq_true_eq] at this
    refine ⟨this.1.1, this.1.2, ?_⟩
    intro htr hne
    have h3 := this.2
    simpa [htr, hne] using h3
  · intro w hw hc
    have := helse w hw
    simp only [hc, if_true, Bool.and_eq_true, Bool.not_eq_eq_eq_not, Bool.not_true] at this
    exact this

/-- the conjunct of `wf` that `WF` leaves out (the seventh, `_` in the pattern of `wf_WF`): the tail is a listed member
with at most one output and is not trained -/
theorem wf_tail {g : Segment} {rank : Uid → Nat} (h : g.wf rank = true) :
    ∃ t, g.worker? g.tail = some t ∧ t.szout ≤ 1 ∧ g.trained g.tail = false := by
  simp only [wf, Bool.and_eq_true] at h
  obtain ⟨⟨⟨_, h7⟩, _⟩, _⟩ := h
  cases ht : g.worker? g.tail with
  | none => simp [ht] at h7
  | some t =>
    simp only [ht, Bool.and_eq_true, decide_eq_true_eq, Bool.not_eq_true'] at h7
    have := (worker?_some ht).2
    exact ⟨t, rfl, h7.1, by rw [← this]; exact h7.2⟩

/-- a trained member of a well-formed segment: stateful, train and label subscribed, no apply input,
no subscribers -/
structure TrainedOK (g : Segment) (w : Worker) : Prop where
  stateful : w.stateful = true
  train : ∃ x, g.publisher w.uid .train = some x
  label : ∃ y, g.publisher w.uid .label = some y
  noApply : ∀ e ∈ g.edges, e.sub = w.uid → e.subPort.isApply = false
  noOut : ∀ e ∈ g.edges, e.pub ≠ w.uid

theorem publisher_of_contains {g : Segment} {n : Uid} {p : InPort}
    (h : ((g.edges.filter (fun e => e.sub = n)).map (·.subPort)).contains p = true) :
    ∃ e, g.publisher n p = some e := by
  simp only [List.contains_iff_mem, List.mem_map, List.mem_filter, decide_eq_true_eq] at h
  obtain ⟨e, ⟨he, hs⟩, hp⟩ := h
  have := publisher_isSome_of_mem he
  rw [hs, hp] at this
  exact Option.isSome_iff_exists.mp this

theorem WF.trainedOK {g : Segment} {rank : Uid → Nat} (h : WF g rank) {w : Worker} (hw : w ∈ g.workers)
    (htr : g.trained w.uid = true) : TrainedOK g w := by
  have hp := h.portsOK w hw
  simp only [Segment.portsOK, htr, if_true, Bool.and_eq_true, List.all_eq_true] at hp
  obtain ⟨⟨⟨⟨hst, ht⟩, hl⟩, hall⟩, hout⟩ := hp
  refine ⟨hst, publisher_of_contains ht, publisher_of_contains hl, ?_, ?_⟩
  · intro e he hs
    have := hall e.subPort (by simp only [List.mem_map, List.mem_filter, decide_eq_true_eq]; exact ⟨e, ⟨he, hs⟩, rfl⟩)
    simpa using this
  · intro e he
    simpa using hout e he

/-- what `wf` says of a member that is not trained; the head is fed from outside the segment and subscribed on no port -/
structure AppliedOK (g : Segment) (w : Worker) : Prop where
  apply : ∀ e ∈ g.edges, e.sub = w.uid → e.subPort.isApply = true
  bound : ∀ j, w.szin ≤ j → g.publisher w.uid (.apply j) = none
  head : w.uid = g.head → w.szin ≤ 1 ∧ ∀ p, g.publisher w.uid p = none
  full : w.uid ≠ g.head → ∀ j, j < w.szin → ∃ e, g.publisher w.uid (.apply j) = some e

theorem WF.appliedOK {g : Segment} {rank : Uid → Nat} (h : WF g rank) {w : Worker} (hw : w ∈ g.workers)
    (htr : g.trained w.uid = false) : AppliedOK g w := by
  have hp := h.portsOK w hw
  simp only [Segment.portsOK, htr, Bool.false_eq_true, if_false] at hp
  refine ⟨fun e he hes => ?_, fun j hj => ?_, fun hhead => ?_, fun hhead j hj => ?_⟩
  · cases hk : e.subPort.isApply with
    | true => rfl
    | false => rw [trained_iff.mpr ⟨e, he, hes, hk⟩] at htr; cases htr
  · cases hpub : g.publisher w.uid (.apply j) with
    | none => rfl
    | some e =>
      obtain ⟨he, hes, hep⟩ := publisher_some hpub
      obtain ⟨s, hs, hport⟩ := (h.edge e he).sub
      rw [hes, worker?_of_mem h.nodup hw] at hs
      cases hs
      rw [hep] at hport
      exact absurd hport (Nat.not_lt.mpr hj)
  · simp only [hhead, if_true, Bool.and_eq_true, List.isEmpty_iff, List.map_eq_nil_iff, List.filter_eq_nil_iff,
      decide_eq_true_eq] at hp
    refine ⟨hp.2, fun p => ?_⟩
    cases hpub : g.publisher w.uid p with
    | none => rfl
    | some e => exact absurd (hhead ▸ (publisher_some hpub).2.1) (hp.1 e (publisher_some hpub).1)
  · simp only [hhead, if_false, List.all_eq_true, List.mem_range] at hp
    exact publisher_of_contains (hp j hj)

/-- the subscriptions of one member are all of one kind: train/label for a trained member, apply for any other -/
theorem WF.sub_kind {g : Segment} {rank : Uid → Nat} (h : WF g rank) {a b : Edge} (ha : a ∈ g.edges) (hb : b ∈ g.edges)
    (hab : a.sub = b.sub) : a.subPort.isApply = b.subPort.isApply := by
  obtain ⟨s, hs, _⟩ := (h.edge b hb).sub
  obtain ⟨hsm, hsu⟩ := worker?_some hs
  cases htr : g.trained s.uid with
  | true => rw [(h.trainedOK hsm htr).noApply a ha (hab.trans hsu.symm), (h.trainedOK hsm htr).noApply b hb hsu.symm]
  | false => rw [(h.appliedOK hsm htr).apply a ha (hab.trans hsu.symm), (h.appliedOK hsm htr).apply b hb hsu.symm]

/-- asset accessor compatible with the segment, as propositions -/
structure AssetsOK (g : Segment) (A : Option Assets) : Prop where
  nodup : ∀ As, A = some As → As.persistent.Nodup
  allOrNone : ∀ As, A = some As →
    (∀ γ ∈ As.persistent, (g.trainerOf γ).isSome) ∨ (∀ γ ∈ As.persistent, g.trainerOf γ = none)
  elsewhere : ∀ w ∈ g.workers, w.stateful = true → g.trainedElsewhere.contains w.gid = true → persistentW A w = true

theorem assetsOK_AssetsOK {g : Segment} {A : Option Assets} (h : g.assetsOK A = true) : AssetsOK g A := by
  cases A with
  | none =>
    simp only [assetsOK, List.all_eq_true] at h
    refine ⟨fun _ h => (by cases h), fun _ h => (by cases h), ?_⟩
    intro w hw hst hc
    have := h w hw
    rw [hst, hc] at this
    cases this
  | some As =>
    simp only [assetsOK, Bool.and_eq_true, allDistinct_iff_nodup, Bool.or_eq_true, List.all_eq_true] at h
    obtain ⟨⟨hnd, hall⟩, hel⟩ := h
    refine ⟨fun _ h => (by cases h; exact hnd), fun _ h => (by
      cases h
      rcases hall with h1 | h1
      · exact Or.inl h1
      · exact Or.inr (fun γ hγ => by simpa using h1 γ hγ)), ?_⟩
    · intro w hw hst hc
      have := hel w hw
      simp only [hst, hc, and_self, if_true] at this
      simp [persistentW, hst, this]

/-- bounded rank of a member: number of members ranking at most like `n` -/
def cntW (g : Segment) (rank : Uid → Nat) (n : Uid) : Nat := g.workers.countP (fun w => decide (rank w.uid ≤ rank n))

theorem cntW_le (g : Segment) (rank : Uid → Nat) (n : Uid) : g.cntW rank n ≤ g.workers.length := List.countP_le_length

theorem cntW_lt {g : Segment} {rank : Uid → Nat} {w : Worker} (hw : w ∈ g.workers) {p : Uid}
    (hlt : rank p < rank w.uid) : g.cntW rank p < g.cntW rank w.uid :=
  countP_rank_lt (fun x : Worker => rank x.uid) hw hlt

end Segment

open Segment

section
variable {g : Segment} {A : Option Assets} {rank : Uid → Nat}

theorem worker_eq_of_uid {g : Segment} (hnd : g.uids.Nodup) {w w' : Worker} (hw : w ∈ g.workers) (hw' : w' ∈ g.workers)
    (hu : w.uid = w'.uid) : w = w' :=
  eq_of_nodup_map (fun w : Worker => w.uid) (l := g.workers) hnd hw hw' hu

theorem trained_of_isTrainer {w : Worker} (hT : g.isTrainer w = true) : g.trained w.uid = true := by
  simp only [isTrainer, Bool.and_eq_true] at hT; exact hT.2

theorem trainer_unique (h : WF g rank) {t w : Worker} (ht : t ∈ g.workers) (hw : w ∈ g.workers) (hg : t.gid = w.gid)
    (hT : g.isTrainer t = true) (hT' : g.isTrainer w = true) : t = w := by
  apply worker_eq_of_uid h.nodup ht hw
  apply Classical.byContradiction
  intro hne
  have := ((h.group t ht w hw hg).2.2 (trained_of_isTrainer hT) hne).1
  rw [trained_of_isTrainer hT'] at this; cases this

theorem isTrainer_of_trained (h : WF g rank) {t : Worker} (ht : t ∈ g.workers) (htt : g.trained t.uid = true) :
    g.isTrainer t = true := by
  simp [isTrainer, (h.trainedOK ht htt).stateful, htt]

theorem trainerOf_trainer (h : WF g rank) {w : Worker} (hw : w ∈ g.workers) (hT : g.isTrainer w = true) :
    g.trainerOf w.gid = some w := by
  cases htO : g.trainerOf w.gid with
  | none =>
    have := trainerOf_none htO w hw rfl
    rw [trained_of_isTrainer hT] at this; cases this
  | some t =>
    obtain ⟨ht1, ht2, ht3⟩ := trainerOf_some htO
    rw [trainer_unique h ht1 hw ht2 (isTrainer_of_trained h ht1 ht3) hT]

theorem publisher_untrained (h : WF g rank) {e : Edge} (he : e ∈ g.edges) {p : Worker} (hp : g.worker? e.pub = some p) :
    g.trained p.uid = false := by
  obtain ⟨hpm, hpu⟩ := worker?_some hp
  cases htr : g.trained p.uid with
  | false => rfl
  | true => exact absurd hpu.symm ((h.trainedOK hpm htr).noOut e he)

/-- a port has one publisher: `publisher` finds the subscription -/
theorem publisher_eq (h : WF g rank) {e : Edge} (he : e ∈ g.edges) : g.publisher e.sub e.subPort = some e := by
  obtain ⟨e', he'⟩ := Option.isSome_iff_exists.mp (publisher_isSome_of_mem he)
  obtain ⟨h1, h2, h3⟩ := publisher_some he'
  have : e' = e := eq_of_nodup_map (fun e : Edge => (e.sub, e.subPort)) (l := g.edges) h.ports h1 he
    (by simp [h2, h3])
  rw [he', this]

theorem persistent_group (h : WF g rank) {t w : Worker} (ht : t ∈ g.workers) (hw : w ∈ g.workers) (hg : t.gid = w.gid)
    (hP : persistentW A t = true) : persistentW A w = true := by
  have hst := (h.group t ht w hw hg).2.1
  unfold persistentW at hP ⊢
  rw [← hst, ← hg]; exact hP

theorem Segment.AssetsOK.all_trained (hA : AssetsOK g A) {As : Assets} (hAs : A = some As) {γ₀ : Gid} (hγ₀ : γ₀ ∈ As.persistent)
    (hs₀ : (g.trainerOf γ₀).isSome) : ∀ γ ∈ As.persistent, (g.trainerOf γ).isSome := by
  rcases hA.allOrNone As hAs with h1 | h1
  · exact h1
  · rw [h1 γ₀ hγ₀] at hs₀; cases hs₀

end

end ForML.Flow
