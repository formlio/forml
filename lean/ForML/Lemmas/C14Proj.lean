/-
C14 — restricting every scan to the offered columns (`Backend.proj`) yields environments that
agree with the unrestricted ones on every element in scope (`SimEnv`), hence the same rows for all statements
whenever the query post-processing is local (`FinishLocal`): `run_proj`.
-/
import ForML.Lemmas.C14Filter
namespace ForML.PushDown
open ForML.Dsl

/-- the back-end `B` restricted to the offered columns -/
def Backend.proj (B : Backend) : Backend := ⟨fun S db h => (B.scan S db h).map (project h.cols)⟩

theorem honour_eq_proj : Backend.honour = Backend.honourRows.proj := rfl
theorem honourCols_eq_proj : Backend.honourCols = Backend.ignore.proj := rfl

/-- `e'` binds the same origins as `e` and agrees with it on every element of the features `F` -/
def SimEnv (F : List Feature) (e' e : Env) : Prop :=
  dom e' = dom e ∧ ∀ el ∈ elemsAll F, e'.get el.1 el.2 = e.get el.1 el.2

/-- the post-processing of a query only looks at the elements the query mentions -/
def FinishLocal (S : Sem) : Prop :=
  ∀ (src : Source) (sel : Features) (pre : FeatureOpt) (grp : Features) (post : FeatureOpt) (ord : Orderings)
    (rows : Option Rows) (envs' envs : List Env),
    Forall2 (SimEnv (queryFeatures src sel pre grp post ord)) envs' envs →
    S.finish (.query src sel pre grp post ord rows) envs' = S.finish (.query src sel pre grp post ord rows) envs

theorem get_project {cols : List String} {n : String} (h : n ∈ cols) (r : Row) : (project cols r).get n = r.get n := by
  unfold project Row.get
  rw [lookup_filter_key (fun k => decide (k ∈ cols)), if_pos (by simpa using h)]

theorem SimEnv.mono {F G : List Feature} {e' e : Env} (h : SimEnv G e' e) (hFG : ∀ el ∈ elemsAll F, el ∈ elemsAll G) :
    SimEnv F e' e := ⟨h.1, fun el hel => h.2 el (hFG el hel)⟩

theorem get_append (e1 e2 : Env) (o : Source) (n : String) :
    (e1 ++ e2).get o n = if o ∈ dom e1 then e1.get o n else e2.get o n := by
  simp only [Env.get, row_append]
  split <;> rfl

theorem SimEnv.append {F : List Feature} {e1' e1 e2' e2 : Env} (h1 : SimEnv F e1' e1) (h2 : SimEnv F e2' e2) :
    SimEnv F (e1' ++ e2') (e1 ++ e2) := by
  refine ⟨by rw [dom_append, dom_append, h1.1, h2.1], fun el hel => ?_⟩
  rw [get_append, get_append, h1.1, h1.2 el hel, h2.2 el hel]

/-- a condition over the elements of `F` does not tell related environments apart -/
theorem SimEnv.holdsOpt {F : List Feature} {e' e : Env} (S : Sem) (h : SimEnv F e' e) {c : FeatureOpt}
    (hc : ∀ p ∈ optList c, ∀ el ∈ elems p, el ∈ elemsAll F) : holdsOpt S e' c = holdsOpt S e c := by
  cases c with
  | none => rfl
  | some c =>
    simp only [PushDown.holdsOpt, holds]
    rw [eval_congr S e' e c (fun el hel => h.2 el (hc c (List.mem_singleton.mpr rfl) el hel))]

theorem SimEnv.refl (F : List Feature) (e : Env) : SimEnv F e e := ⟨rfl, fun _ _ => rfl⟩

theorem get_single (o t : Source) (r : Row) (n : String) :
    Env.get [(t, r)] o n = if o = t then r.get n else Val.null := by
  by_cases h : o = t
  · subst h
    simp [Env.get, Env.row]
  · have : (o == t) = false := by simpa using h
    simp [Env.get, Env.row, List.lookup_cons, this, h, Row.get]

/-- a single binding whose row was restricted to columns covering the elements of `F` with that origin -/
theorem simEnv_single {F : List Feature} {o : Source} {cols : List String} (r : Row)
    (h : ∀ n ∈ usedBy F o, n ∈ cols) : SimEnv F [(o, project cols r)] [(o, r)] := by
  refine ⟨by simp [dom], fun el hel => ?_⟩
  rw [get_single, get_single]
  by_cases ho : el.1 = o
  · simp only [ho, if_true]
    exact get_project (h el.2 (mem_usedBy.mpr (ho ▸ hel))) r
  · simp [ho]

theorem simEnv_joinRows {S : Sem} (k : JoinKind) {c : FeatureOpt} {G : List Feature} {ol orr : List Source}
    {L' L R' R : List Env} (hc : ∀ p ∈ optList c, ∀ el ∈ elems p, el ∈ elemsAll G)
    (hL : Forall2 (SimEnv G) L' L) (hR : Forall2 (SimEnv G) R' R) :
    Forall2 (SimEnv G) (joinRows S k c ol orr L' R') (joinRows S k c ol orr L R) := by
  have hon : ∀ e' e, SimEnv G e' e → holdsOpt S e' c = holdsOpt S e c := fun _ _ he => he.holdsOpt S hc
  have hml : ∀ el' el, SimEnv G el' el → Forall2 (SimEnv G)
      ((R'.map (fun er => el' ++ er)).filter (fun e => holdsOpt S e c))
      ((R.map (fun er => el ++ er)).filter (fun e => holdsOpt S e c)) :=
    fun el' el hl => (hR.map _ _ (fun er' er hr => hl.append hr)).filter _ _ hon
  have hmr : ∀ er' er, SimEnv G er' er → Forall2 (SimEnv G)
      ((L'.map (fun el => el ++ er')).filter (fun e => holdsOpt S e c))
      ((L.map (fun el => el ++ er)).filter (fun e => holdsOpt S e c)) :=
    fun er' er hr => (hL.map _ _ (fun el' el hl => hl.append hr)).filter _ _ hon
  have inner : Forall2 (SimEnv G) ((prod L' R').filter (fun e => holdsOpt S e c)) ((prod L R).filter (fun e => holdsOpt S e c)) :=
    (hL.flatMap _ _ (fun el' el hl => hR.map _ _ (fun er' er hr => hl.append hr))).filter _ _ hon
  have left : Forall2 (SimEnv G) (joinRows S .left c ol orr L' R') (joinRows S .left c ol orr L R) := by
    simp only [joinRows]
    refine hL.flatMap _ _ (fun el' el hl => ?_)
    have hm := hml el' el hl
    rw [hm.isEmpty_eq]
    split
    · exact .cons (hl.append (SimEnv.refl _ _)) .nil
    · exact hm
  cases k with
  | inner => exact inner
  | cross => exact inner
  | left => exact left
  | right =>
    simp only [joinRows]
    refine hR.flatMap _ _ (fun er' er hr => ?_)
    have hm := hmr er' er hr
    rw [hm.isEmpty_eq]
    split
    · exact .cons ((SimEnv.refl _ _).append hr) .nil
    · exact hm
  | full =>
    refine left.append ((hR.filter _ _ (fun er' er hr => ?_)).map _ _ (fun er' er hr => (SimEnv.refl _ _).append hr))
    rw [(hmr er' er hr).isEmpty_eq]

/-- **Restricting every scan to the offered columns does not change what a statement yields** (any join kind, both
variants of the parser), provided the query post-processing only looks at the elements the query mentions. -/
theorem run_proj (fix len : Bool) (S : Sem) (B : Backend) (db : Db) (hS : FinishLocal S) (s : Source)
    (hw : shaped s = true) :
    (∀ (F : List Feature) (st : Segs), Covers fix st F →
        Forall2 (SimEnv F) (run fix len S B.proj db s st).envs (run fix len S B db s st).envs)
    ∧ (isStmt s = true → ∀ st, (run fix len S B.proj db s st).envs = (run fix len S B db s st).envs) := by
  refine shaped_induction
    (A := fun s => ∀ (F : List Feature) (st : Segs), Covers fix st F →
      Forall2 (SimEnv F) (run fix len S B.proj db s st).envs (run fix len S B db s st).envs)
    (B := fun s => ∀ st, (run fix len S B.proj db s st).envs = (run fix len S B db s st).envs)
    ?_ ?_ ?_ ?_ ?_ ?_ ?_ s hw
  · intro n fs F st hc
    simp only [run, Backend.proj, List.map_map]
    exact Forall2.map_same _ _ _ fun r => simEnv_single r fun c hc' =>
      mem_hint_cols (by simpa using hc _ (mem_usedBy.mp hc') (by simp [inst, isTable]))
  · intro i nm ht F st hc
    simp only [run, ht, if_true, Backend.proj, List.map_map]
    exact Forall2.map_same _ _ _ fun r => simEnv_single r fun n hn =>
      mem_hint_cols (hc _ (mem_usedBy.mp hn) (by simp [inst, ht]))
  · intro i nm ht ih F st _
    simp only [run, ht, Bool.false_eq_true, if_false]
    rw [ih st]
    exact Forall2.refl' (SimEnv.refl F) _
  · intro l r k c iha ihb F st hc
    have hc1 : Covers fix (joinCtx fix len st l r k c) (F ++ optList c) :=
      covers_append (covers_mono hc (joinCtx_mono fix len st l r k c)) (covers_joinCtx fix len st l r k c)
    have hc2 : Covers fix (run fix len S B db l (joinCtx fix len st l r k c)).st (F ++ optList c) :=
      covers_mono hc1 (run_cols fix len S B db l (F ++ optList c) _ hc1).2
    simp only [run]
    rw [(run_indep fix len S S B.proj B db db l _).1]
    refine (simEnv_joinRows k (fun p hp el hel => mem_elemsAll_append.mpr (Or.inr (elemsAll_optList hp hel)))
      (iha _ _ hc1) (ihb _ _ hc2)).mono (fun e' e he => he.mono (fun el hel => mem_elemsAll_append.mpr (Or.inl hel)))
  · intro l r k iha ihb st
    simp only [run]
    rw [iha st, (run_indep fix len S S B.proj B db db l st).1, ihb _]
  · intro src sel pre grp post ord rows ih st
    simp only [run]
    have hk := (ih (queryFeatures src sel pre grp post ord) (queryCtx fix len st.err src sel pre grp post ord)
      (covers_queryCtx fix len st.err src sel pre grp post ord)).filter (fun e => holdsOpt S e pre) (fun e => holdsOpt S e pre)
        fun e' e he => he.holdsOpt S fun p hp el hel =>
          mem_elemsAll_append.mpr (Or.inl (mem_elemsAll_append.mpr (Or.inl (mem_elemsAll_append.mpr
            (Or.inl (mem_elemsAll_append.mpr (Or.inr (elemsAll_optList hp hel))))))))
    rw [hS src sel pre grp post ord rows _ _ hk]
  · intro s _ h F st _
    exact h st ▸ Forall2.refl' (SimEnv.refl F) _

end ForML.PushDown
