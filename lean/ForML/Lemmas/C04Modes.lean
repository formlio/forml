/-
One lifecycle action on a well-formed case keeps the registry invariant and every
observation it produces satisfies the property (`obsOk`).  `history_inv` is the induction over histories that every
history theorem applies to its step lemma.
-/
import ForML.Lemmas.C04Binding

namespace ForML.Persist

theorem untrained_of_noTrainer {c : Comp} {h t : Nat} (hnt : c.noTrainer h t = true) :
    ∀ n ∈ c.visitNodes h t, n.trained = false := by
  intro n hn
  simp only [Comp.noTrainer, List.all_eq_true] at hnt
  have := hnt n hn
  simpa using this

theorem derived_of_appliedDerived {c : Comp} {h t : Nat} (had : c.appliedDerived h t = true) {n : Node}
    (hn : n ∈ c.visitNodes h t) (hs : n.stateful = true) (htr : n.trained = false) : c.derived n = true := by
  simp only [Comp.appliedDerived, List.all_eq_true] at had
  have := had n hn
  simpa [hs, htr] using this

/-- a run that succeeds: the observations of the table, and the registry with the committed generation, if any -/
theorem runSegment_eq_ok {c : Comp} {h t : Nat} {reg reg' : Registry} {a : Action} {obs : List Obs}
    (hrun : runSegment c h t reg a = .ok (reg', obs)) :
    ∃ og, observeAll c (c.visitNodes h t) ⟨c.persistent, select reg a.gen⟩ a.run a.hp = .ok obs ∧
      commit (c.visitNodes h t) ⟨c.persistent, select reg a.gen⟩ a.run a.hp = .ok og ∧
      reg' = match og with
        | none => reg
        | some g => reg ++ [g] := by
  simp only [runSegment] at hrun
  split at hrun
  · cases hrun
  · rename_i hobs
    split at hrun
    · cases hrun
    · rename_i hcm
      cases hrun
      exact ⟨none, hobs, hcm, rfl⟩
    · rename_i hcm
      cases hrun
      exact ⟨some _, hobs, hcm, rfl⟩

/-- One run of a segment `h..t` whose applied stateful workers are derived keeps the registry invariant and binds every
observation — a training run if a trainer of every persistent group is part of the table, any other action if no
trainer is.  A trainer starts from what it loads (or from scratch); an applied worker holds the new state of its group's
trainer exactly in a training run, and what it loads otherwise; what is committed is the trainers' new states. -/
theorem runSegment_ok {c : Comp} {T : List (Option Nat)} (hT : c.persistentTags = T) (htc : c.tagsConsistent = true)
    {h t : Nat} (had : c.appliedDerived h t = true) {reg : Registry} (hreg : RegInv T reg) {a : Action}
    (htrain : a.kind = .train → ∀ g ∈ c.persistent, (trainerOf (c.visitNodes h t) g).isSome = true)
    (happly : a.kind ≠ .train → ∀ n ∈ c.visitNodes h t, n.trained = false)
    {reg' : Registry} {obs : List Obs} (hrun : runSegment c h t reg a = .ok (reg', obs)) :
    RegInv T reg' ∧ ∀ o ∈ obs, obsOk reg a o = true := by
  obtain ⟨og, hobs, hcm, rfl⟩ := runSegment_eq_ok hrun
  have hsub : ∀ n ∈ c.visitNodes h t, n ∈ c.nodes := fun n => Comp.mem_visitNodes
  constructor
  · cases og with
    | none => exact hreg
    | some g => exact hreg.append (hT ▸ commit_genOk htc hsub hcm)
  · intro o ho
    obtain ⟨n, hn, hst, ⟨-, prev, hp, rfl⟩ | ⟨htr, s, hrc, rfl⟩⟩ := mem_observeAll hobs ho
    · simp only [prevOf] at hp
      split at hp
      · exact (obsOk_of_load hT htc hreg (hsub n hn) hp).1
      · cases hp
        simp [obsOk]
    · rcases receive_spec (derived_of_appliedDerived had hn hst htr) hrc with ⟨t, s', htn, hns, rfl⟩ | ⟨htn, hhas, hld⟩
      · by_cases hk : a.kind = .train
        · obtain ⟨htm, -, htg⟩ := trainerOf_spec htn
          have h1 := newState_tag_run hns
          have h2 := Comp.tag_of_same_gid htc (hsub t htm) (hsub n hn) htg
          simp [obsOk, hk, h1.1, h1.2, h2]
        · cases (trainerOf_none_of_untrained (happly hk) n.gid).symm.trans htn
      · by_cases hk : a.kind = .train
        · have := htrain hk n.gid (by simpa [Assets.has] using hhas)
          rw [htn] at this
          cases this
        · exact (obsOk_of_load hT htc hreg (hsub n hn) hld).2 hk

theorem runSegment_untrained {c : Comp} {h t : Nat} (hun : ∀ n ∈ c.visitNodes h t, n.trained = false)
    {reg reg' : Registry} {a : Action} {obs : List Obs} (hrun : runSegment c h t reg a = .ok (reg', obs)) :
    reg' = reg := by
  obtain ⟨og, -, hcm, rfl⟩ := runSegment_eq_ok hrun
  cases (commit_none_of_untrained hun _ _ _).symm.trans hcm
  rfl

theorem runSegment_prefix {c : Comp} {h t : Nat} {reg reg' : Registry} {a : Action} {obs : List Obs}
    (hs : runSegment c h t reg a = .ok (reg', obs)) : ∃ l, reg' = reg ++ l := by
  obtain ⟨og, -, -, rfl⟩ := runSegment_eq_ok hs
  cases og with
  | none => exact ⟨[], (List.append_nil _).symm⟩
  | some g => exact ⟨_, rfl⟩

theorem step_prefix {cs : Case} {reg reg' : Registry} {a : Action} {obs : List Obs}
    (hs : step cs reg a = .ok (reg', obs)) : ∃ l, reg' = reg ++ l := by
  simp only [step] at hs
  split at hs
  · split at hs
    · cases hs
    · exact runSegment_prefix hs
  · exact runSegment_prefix hs
  · exact runSegment_prefix hs
  · split at hs
    · cases hs
    · exact runSegment_prefix hs

/-- What the binding asks of the evaluation's composition: a perftrack action commits nothing and binds every
observation.  `Case.wfPerf` is one way to have it (`PerfOk.of_wfPerf`), running exactly what batch apply runs the
other (`perfOk_withCopy`, C04Copy). -/
def PerfOk (cs : Case) : Prop :=
  ∀ p, cs.perf = .ok p → ∀ {reg : Registry}, RegInv cs.plain.persistentTags reg → ∀ {a : Action} {reg' obs},
    a.kind ≠ .train → runSegment p p.trainHead p.trainTail reg a = .ok (reg', obs) →
      reg' = reg ∧ ∀ o ∈ obs, obsOk reg a o = true

theorem PerfOk.of_wfPerf {cs : Case} (h : cs.wfPerf = true) : PerfOk cs := by
  intro p hp reg hreg a reg' obs hk hrun
  simp only [Case.wfPerf, hp, Bool.and_eq_true, beq_iff_eq] at h
  obtain ⟨⟨⟨⟨⟨hptc, _⟩, _⟩, hpad⟩, hpnt⟩, hpT⟩ := h
  have hun := untrained_of_noTrainer hpnt
  exact ⟨runSegment_untrained hun hrun, (runSegment_ok hpT hptc hpad hreg (fun h => absurd h hk) (fun _ => hun) hrun).2⟩

/-- the hypotheses of the binding theorems -/
structure Case.Ok (cs : Case) : Prop where
  plain : cs.plain.wfPlain = true
  perf : PerfOk cs

theorem Case.Ok.of_wf {cs : Case} (hwf : cs.wf = true) : cs.Ok :=
  have h := Bool.and_eq_true _ _ ▸ hwf
  ⟨h.1, .of_wfPerf h.2⟩

theorem step_ok {cs : Case} (hok : cs.Ok) {reg : Registry} (hreg : RegInv cs.plain.persistentTags reg)
    {a : Action} {reg' : Registry} {obs : List Obs} (h : step cs reg a = .ok (reg', obs)) :
    RegInv cs.plain.persistentTags reg' ∧ ∀ o ∈ obs, obsOk reg a o = true := by
  have hplain := hok.plain
  simp only [Comp.wfPlain, Bool.and_eq_true] at hplain
  obtain ⟨⟨⟨⟨⟨⟨htc, _⟩, _⟩, htv⟩, hada⟩, hadt⟩, hnta⟩ := hplain
  cases hk : a.kind with
  | train =>
    simp only [step, hk] at h
    cases hsel : select reg a.gen with
    | error e => rw [hsel] at h; cases h
    | ok x =>
      rw [hsel] at h
      exact runSegment_ok rfl htc hadt hreg (fun _ => List.all_eq_true.mp htv) (fun h' => absurd hk h') h
  | apply | serve =>
    simp only [step, hk] at h
    exact runSegment_ok rfl htc hada hreg (fun h' => by rw [hk] at h'; cases h') (fun _ => untrained_of_noTrainer hnta) h
  | perftrack =>
    simp only [step, hk] at h
    cases hp : cs.perf with
    | error e => rw [hp] at h; cases h
    | ok p =>
      rw [hp] at h
      obtain ⟨rfl, hobs⟩ := hok.perf p hp hreg (by rw [hk]; exact nofun) h
      exact ⟨hreg, hobs⟩

theorem step_cases {cs : Case} (hwf : cs.Ok) {reg : Registry} (hreg : RegInv cs.plain.persistentTags reg)
    {ρ σ : Nat → Nat} (hρ : Inj ρ) (hσ : Inj σ) (a : Action) :
    (∃ e, step (cs.rename ρ σ) reg a = .error e) ∨ ∃ reg' obs, step (cs.rename ρ σ) reg a = .ok (reg', obs) ∧
      RegInv cs.plain.persistentTags reg' ∧ ∀ o ∈ obs, obsOk reg a o = true := by
  rw [step_rename hρ hσ]
  cases hs : step cs reg a with
  | error e => exact .inl ⟨e, rfl⟩
  | ok r => exact .inr ⟨r.1, r.2, rfl, step_ok hwf hreg hs⟩

theorem history_inv {S X O : Type} {I : S → Prop} {P : O → Prop} {F : X → Prop} {run : S → List X → List O}
    (hnil : ∀ s, run s [] = [])
    (hcons : ∀ s x xs, I s → F x → ∃ o s', run s (x :: xs) = o :: run s' xs ∧ P o ∧ I s') :
    ∀ (xs : List X) (s : S), I s → (∀ x ∈ xs, F x) → ∀ o ∈ run s xs, P o := by
  intro xs
  induction xs with
  | nil => intro s _ _ o ho; rw [hnil] at ho; cases ho
  | cons x xs ih =>
    intro s hs hF o ho
    obtain ⟨o', s', he, hP, hs'⟩ := hcons s x xs hs (hF x List.mem_cons_self)
    rw [he] at ho
    cases ho with
    | head => exact hP
    | tail _ h => exact ih s' hs' (fun y hy => hF y (List.mem_cons_of_mem _ hy)) o h

end ForML.Persist
