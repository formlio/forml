/-
C06 — file origins: the options the user configures win over the class defaults, and a file described by the effective
options loads to exactly its content.
-/
import ForML.Model.FileOrigin
import ForML.Lemmas.ListFacts

namespace ForML.C06
open ForML.Rel ForML.FileOrigin

/-- `a | b`: a key of `b` has `b`'s value, any other key `a`'s -/
theorem lookup_merge (a b : Options) (k : String) :
    (merge a b).lookup k = match b.lookup k with
      | some v => some v
      | none => a.lookup k := by
  unfold merge
  rw [List.lookup_append, lookup_filter_key fun x => (b.lookup x).isNone]
  cases b.lookup k <;> simp

theorem loadCsv_writeCsv (opts : Options) (cols : List String) (rows file : List Row)
    (h : writeCsv opts cols rows = some file) : loadCsv opts file = some rows := by
  unfold writeCsv at h
  unfold loadCsv
  cases hn : headerLines opts with
  | none => simp [hn] at h
  | some n =>
    simp only [hn, Option.map_some, Option.some.injEq] at h ⊢
    subst h
    simp

end ForML.C06
