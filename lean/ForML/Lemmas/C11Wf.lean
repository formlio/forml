/-
The well-formedness invariant `Wf` (everything but the one-publisher rule) is kept when the state grows by nodes,
edges, `_PORTS` entries and registrations that are in order (`wf_grow`): the case of every change the calls make.
-/
import ForML.Lemmas.C11Publish

namespace ForML.Graph

theorem mem_inputs (g : G) (n : Nat) (p : Port) : p ∈ inputs g n ↔ (⟨n, p⟩ : Sub) ∈ g.ports := by
  unfold inputs
  simp only [List.mem_map, List.mem_filter, decide_eq_true_eq]
  constructor
  · rintro ⟨⟨_, _⟩, ⟨hx, rfl⟩, rfl⟩; exact hx
  · intro h; exact ⟨⟨n, p⟩, ⟨h, rfl⟩, rfl⟩

theorem mem_out {g : G} {f i : Nat} {s : Sub} : s ∈ out g f i ↔ (⟨f, i, s⟩ : Edge) ∈ g.edges := by
  unfold out
  simp only [List.mem_map, List.mem_filter, decide_eq_true_eq]
  constructor
  · rintro ⟨⟨_, _, _⟩, ⟨he, rfl, rfl⟩, rfl⟩; exact he
  · intro h; exact ⟨⟨f, i, s⟩, ⟨h, rfl, rfl⟩, rfl⟩

theorem isFuture_eq_false_of_isWorker (g : G) (n : Nat) (h : isWorker g n = true) : isFuture g n = false := by
  unfold isWorker at h; unfold isFuture
  revert h
  rcases g.nodes[n]? with _ | ⟨⟨_ | _, _, _⟩⟩ <;> intro h
  · rfl
  · rfl
  · cases h

theorem kind_false {g : G} {n : Nat} (h : ¬n < g.nodes.length) : isWorker g n = false ∧ isFuture g n = false := by
  have : g.nodes[n]? = none := List.getElem?_eq_none (Nat.le_of_not_lt h)
  unfold isWorker isFuture; rw [this]; exact ⟨rfl, rfl⟩

theorem isWorker_lt (g : G) (n : Nat) (h : isWorker g n = true) : n < g.nodes.length :=
  Decidable.byContradiction fun hn => by rw [(kind_false hn).1] at h; cases h

theorem isFuture_lt (g : G) (n : Nat) (h : isFuture g n = true) : n < g.nodes.length :=
  Decidable.byContradiction fun hn => by rw [(kind_false hn).2] at h; cases h

theorem node_kind (g : G) (n : Nat) (h : n < g.nodes.length) :
    isWorker g n = true ∨ isFuture g n = true := by
  unfold isWorker isFuture
  have : g.nodes[n]? = some g.nodes[n] := List.getElem?_eq_getElem h
  rw [this]
  rcases g.nodes[n] with ⟨k, a, b⟩
  cases k <;> simp

theorem gid_of_worker (g : G) (n : Nat) (h : isWorker g n = true) : ∃ k, gid? g n = some k := by
  unfold isWorker at h; unfold gid?
  revert h
  rcases g.nodes[n]? with _ | ⟨⟨_ | _, _, _⟩⟩ <;> intro h
  · cases h
  · exact ⟨_, rfl⟩
  · cases h

theorem getElem?_nodes {g g' : G} {ns : List Node} (h : g'.nodes = g.nodes ++ ns) {n : Nat} (hn : n < g.nodes.length) :
    g'.nodes[n]? = g.nodes[n]? := by rw [h, List.getElem?_append_left hn]

theorem isWorker_nodes {g g' : G} {ns : List Node} (h : g'.nodes = g.nodes ++ ns) {n : Nat} (hn : n < g.nodes.length) :
    isWorker g' n = isWorker g n := by unfold isWorker; rw [getElem?_nodes h hn]

theorem isFuture_nodes {g g' : G} {ns : List Node} (h : g'.nodes = g.nodes ++ ns) {n : Nat} (hn : n < g.nodes.length) :
    isFuture g' n = isFuture g n := by unfold isFuture; rw [getElem?_nodes h hn]

theorem gid_nodes {g g' : G} {ns : List Node} (h : g'.nodes = g.nodes ++ ns) {n : Nat} (hn : n < g.nodes.length) :
    gid? g' n = gid? g n := by unfold gid?; rw [getElem?_nodes h hn]

theorem Wf.i7 {g : G} (h : Wf g) : I7 g := h.2.2.2.2.2.1

theorem Wf.i8 {g : G} (h : Wf g) : I8 g := h.2.2.2.2.2.2

theorem trained_false (g : G) (n : Nat) (h : trained g n = false) (q : Sub) (hq : q ∈ g.ports)
    (hn : q.node = n) : q.port.isApply = true := by
  unfold trained at h
  have hm : q.port ∈ inputs g n := hn ▸ (mem_inputs g q.node q.port).mpr hq
  have := List.any_eq_false.mp h q.port hm
  simpa using this

theorem trained_true (g : G) (q : Sub) (hq : q ∈ g.ports) (ha : q.port.isApply = false) :
    trained g q.node = true := by
  unfold trained
  exact List.any_eq_true.mpr ⟨q.port, (mem_inputs g q.node q.port).mpr hq, by simp [ha]⟩

theorem ite_some_eq_none {α : Type} {c : Prop} [Decidable c] {x : α} {y : Option α} :
    (if c then some x else y) = none ↔ ¬c ∧ y = none := by
  by_cases h : c <;> simp [h]

/-- what the checks of `Subscription.__new__` establish -/
theorem subscription_none (g : G) (s : Sub) (h : subscription g s = none) :
    s ∉ g.ports ∧
    (∀ q ∈ g.ports, q.node = s.node → (inputs g s.node).any Port.isApply = s.port.isApply) ∧
    (s.port.isApply = false → publishes g s.node = false) ∧ isFuture g s.node = false ∧
    (s.port.isApply = false → (group g s.node).any (fun m => m != s.node && trained g m) = false) := by
  unfold subscription at h
  simp only [ite_some_eq_none, and_true] at h
  obtain ⟨h4, h1, h2, h3, h5⟩ := h
  refine ⟨fun hm => h1 ((mem_inputs g s.node s.port).mpr hm), ?_, ?_, by simpa using h4, ?_⟩
  · intro q hq hqn
    have hne : (inputs g s.node).isEmpty = false := by
      have : q.port ∈ inputs g s.node := by
        rw [← hqn]; exact (mem_inputs g q.node q.port).mpr hq
      cases hi : inputs g s.node with
      | nil => rw [hi] at this; cases this
      | cons _ _ => rfl
    simp only [hne, Bool.not_false, Bool.true_and, bne_iff_ne, ne_eq, Decidable.not_not] at h2
    exact h2.symm
  · intro hp
    simp only [hp, Bool.not_false, Bool.true_and, Bool.not_eq_true] at h3
    exact h3
  · intro hp
    simp only [hp, Bool.not_false, Bool.true_and, Bool.not_eq_true] at h5
    exact h5

/-- `any isApply` over the subscribed ports of a node decides the kind of every edge into it (I3 + I6) -/
theorem any_apply (g : G) (i3 : I3 g) (i6 : I6 g) (e : Edge) (he : e ∈ g.edges) :
    (inputs g e.sub.node).any Port.isApply = e.sub.port.isApply := by
  have hin : e.sub.port ∈ inputs g e.sub.node := (mem_inputs g e.sub.node e.sub.port).mpr (i6.2 e he)
  cases hb : e.sub.port.isApply with
  | true => exact List.any_eq_true.mpr ⟨_, hin, hb⟩
  | false =>
    apply List.any_eq_false.mpr
    intro q hq
    obtain ⟨e', he', hs'⟩ := i6.1 ⟨e.sub.node, q⟩ ((mem_inputs g _ _).mp hq)
    have := i3 e he e' he' (by rw [hs'])
    rw [hs'] at this
    simp only at this
    rw [← this, hb]; simp

/-- (I4) for a new train/label subscription `s`: no other member of its group has a train/label edge; established by
the group check of `Subscription.__new__` (`trainOK_of_subscription`) -/
def TrainOK (g : G) (s : Sub) : Prop :=
  s.port.isApply = false → ∀ e ∈ g.edges, e.sub.port.isApply = false →
    gid? g e.sub.node = gid? g s.node → e.sub.node = s.node

/-- a publisher that may publish: not the target of a train/label subscription ((I5) for a new publisher) -/
def CanPub (g : G) (n : Nat) : Prop := ∀ e ∈ g.edges, e.sub.port.isApply = false → n ≠ e.sub.node

theorem not_worker_and_future (g : G) (n : Nat) (h1 : isWorker g n = true) (h2 : isFuture g n = true) : False := by
  rw [isFuture_eq_false_of_isWorker g n h1] at h2; cases h2

/-- the state after a publication of `s` appended the edges `L` and the `_PORTS` entry of `s` -/
abbrev G.published (g : G) (s : Sub) (L : List Edge) : G :=
  { g with edges := g.edges ++ L, ports := g.ports ++ [s] }

/-- the state after the registration `r` was recorded and its collapse appended the edges `L` -/
abbrev G.registered (g : G) (r : Reg) (L : List Edge) : G :=
  { g with edges := g.edges ++ L, regs := g.regs ++ [r] }

/-- what a new edge `e` of the grown state `g'` must satisfy: no self-loop, an existing publisher that is not the
target of a train/label subscription of `g`, and a subscription that is a new port (`P`) or was held in `g` -/
structure NewEdge (g g' : G) (P : List Sub) (e : Edge) : Prop where
  loop : e.pub ≠ e.sub.node
  bound : e.pub < g'.nodes.length
  sub : e.sub ∈ P ∨ ∃ e0 ∈ g.edges, e0.sub = e.sub
  pub : CanPub g e.pub

/-- what a new `_PORTS` entry `q` must satisfy against all the edges of the grown state `g'` (`N` the new ones):
(I3)-(I7) for the pairs it is part of -/
structure NewPort (g' : G) (N : List Edge) (q : Sub) : Prop where
  held : ∃ e ∈ N, e.sub = q
  worker : isWorker g' q.node = true
  kind : ∀ e ∈ g'.edges, e.sub.node = q.node → e.sub.port.isApply = q.port.isApply
  group : TrainOK g' q
  quiet : q.port.isApply = false → ∀ e ∈ g'.edges, e.pub ≠ q.node

/-- `Wf` is kept when the state grows - nodes, edges, `_PORTS` entries, registrations appended - by edges and ports
that are in order: the invariants of a pair of old subscriptions are those of `g`, every other pair involves a new
port -/
theorem wf_grow {g g' : G} {ns : List Node} {N : List Edge} {P : List Sub} {R : List Reg} (hw : Wf g)
    (hn : g'.nodes = g.nodes ++ ns) (he : g'.edges = g.edges ++ N) (hp : g'.ports = g.ports ++ P)
    (hr : g'.regs = g.regs ++ R) (hN : ∀ e ∈ N, NewEdge g g' P e) (hP : ∀ q ∈ P, NewPort g' N q)
    (hR : ∀ r ∈ R, isFuture g' r.fut = true ∧ r.pub < g'.nodes.length) : Wf g' := by
  obtain ⟨i2, i3, i4, i5, i6, i7, i8⟩ := hw
  have len : g.nodes.length ≤ g'.nodes.length := by rw [hn, List.length_append]; exact Nat.le_add_right _ _
  have oldlt : ∀ e ∈ g.edges, e.sub.node < g.nodes.length := fun e h => isWorker_lt _ _ (i7 e h).2
  have split : ∀ e ∈ g'.edges, e ∈ g.edges ∨ e ∈ N := fun e h => List.mem_append.mp (he ▸ h)
  -- the subscription of every edge of `g'` is a new port or was held in `g`
  have rep : ∀ e ∈ g'.edges, e.sub ∈ P ∨ ∃ e0 ∈ g.edges, e0.sub = e.sub := by
    intro e h
    rcases split e h with h | h
    · exact .inr ⟨e, h, rfl⟩
    · exact (hN e h).sub
  refine ⟨?_, ?_, ?_, ?_, ⟨?_, ?_⟩, ?_, ?_⟩
  · intro e h
    rcases split e h with h | h
    · exact i2 e h
    · exact (hN e h).loop
  · intro e h e' h' hnode
    rcases rep e h with hq | ⟨e0, h0, hs0⟩
    · exact ((hP _ hq).kind e' h' hnode.symm).symm
    · rcases rep e' h' with hq' | ⟨e1, h1, hs1⟩
      · exact (hP _ hq').kind e h hnode
      · rw [← hs0, ← hs1] at hnode ⊢; exact i3 e0 h0 e1 h1 hnode
  · intro e h e' h' ha ha' hgid
    rcases rep e h with hq | ⟨e0, h0, hs0⟩
    · exact ((hP _ hq).group ha e' h' ha' hgid.symm).symm
    · rcases rep e' h' with hq' | ⟨e1, h1, hs1⟩
      · exact (hP _ hq').group ha' e h ha hgid
      · rw [← hs0] at ha hgid ⊢
        rw [← hs1] at ha' hgid ⊢
        rw [gid_nodes hn (oldlt e0 h0), gid_nodes hn (oldlt e1 h1)] at hgid
        exact i4 e0 h0 e1 h1 ha ha' hgid
  · intro e h e' h' ha
    rcases rep e h with hq | ⟨e0, h0, hs0⟩
    · exact (hP _ hq).quiet ha e' h'
    · rw [← hs0] at ha ⊢
      rcases split e' h' with h' | h'
      · exact i5 e0 h0 e' h' ha
      · exact (hN e' h').pub e0 h0 ha
  · intro q hq
    rw [hp] at hq
    rw [he]
    rcases List.mem_append.mp hq with hq | hq
    · obtain ⟨e, h, hs⟩ := i6.1 q hq
      exact ⟨e, List.mem_append_left _ h, hs⟩
    · obtain ⟨e, h, hs⟩ := (hP q hq).held
      exact ⟨e, List.mem_append_right _ h, hs⟩
  · intro e h
    rw [hp]
    rcases rep e h with hq | ⟨e0, h0, hs0⟩
    · exact List.mem_append_right _ hq
    · exact List.mem_append_left _ (hs0 ▸ i6.2 e0 h0)
  · intro e h
    constructor
    · rcases split e h with h | h
      · exact Nat.lt_of_lt_of_le (i7 e h).1 len
      · exact (hN e h).bound
    · rcases rep e h with hq | ⟨e0, h0, hs0⟩
      · exact (hP _ hq).worker
      · rw [← hs0, isWorker_nodes hn (oldlt e0 h0)]; exact (i7 e0 h0).2
  · intro r h
    rw [hr] at h
    rcases List.mem_append.mp h with h | h
    · exact ⟨by rw [isFuture_nodes hn (isFuture_lt _ _ (i8 r h).1)]; exact (i8 r h).1,
        Nat.lt_of_lt_of_le (i8 r h).2 len⟩
    · exact hR r h

end ForML.Graph
