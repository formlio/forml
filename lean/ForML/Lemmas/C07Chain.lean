/-
C07: the chained `Queryable` interface (`select/where/having/groupby/orderby/limit`, Model/GrammarApi).  A call replaces
the argument of its own kind, computed from the old one alone, and nothing else; `Query.__new__` checks six parts
(`Parts`), each of which reads one of the replaced arguments, except the grouping part, which reads selection and
grouping; hence calls of different kinds other than `groupby` commute on an accepted query.
-/
import ForML.Model.GrammarApi
import ForML.Lemmas.C07Api

namespace ForML.Dsl

variable (eqv : Feature → Feature → Bool)

/-- the arguments a `Query` instance stores -/
structure QState where
  s : Source
  sel : List Feature
  pre : Option Feature
  grp : List Feature
  post : Option Feature
  ord : List Ordering
  rows : Option Rows

def QState.toSource (q : QState) : Source :=
  .query q.s (Features.ofList q.sel) (FeatureOpt.ofOption q.pre) (Features.ofList q.grp) (FeatureOpt.ofOption q.post)
    (Orderings.ofList q.ord) q.rows

/-- `Query.__new__` accepts the stored arguments (as it did when the instance was made) -/
def QState.Valid (q : QState) : Prop := checkQuery eqv q.s q.sel q.pre q.grp q.post q.ord = Except.ok ()

instance (q : QState) : Decidable (q.Valid eqv) := inferInstanceAs (Decidable (_ = _))

/-- the arguments after one call -/
def QState.upd (q : QState) : QOp → R QState
  | .select fs => .ok { q with sel := fs }
  | .where_ c => do
    let c' ← andWith c q.pre
    .ok { q with pre := some c' }
  | .having c => do
    let c' ← andWith c q.post
    .ok { q with post := some c' }
  | .groupby fs => .ok { q with grp := fs }
  | .orderby ts => do
    let os ← makeOrderings ts
    .ok { q with ord := os }
  | .limit c o => .ok { q with rows := some (c, o) }

/-- which argument a call replaces -/
def QOp.slot : QOp → Nat
  | .select _ => 0 | .where_ _ => 1 | .having _ => 2 | .groupby _ => 3 | .orderby _ => 4 | .limit _ _ => 5

def QOp.isGroupby : QOp → Bool
  | .groupby _ => true
  | _ => false

theorem exists_ok_and_eq_and {α β : Type} {x : R α} {f : α → β} {p : β → Prop} :
    (∃ b, (∃ a, x = Except.ok a ∧ f a = b) ∧ p b) ↔ ∃ a, x = Except.ok a ∧ p (f a) :=
  ⟨fun ⟨_, ⟨a, h, rfl⟩, hp⟩ => ⟨a, h, hp⟩, fun ⟨a, h, hp⟩ => ⟨_, ⟨a, h, rfl⟩, hp⟩⟩

theorem queryNew_made_ok_iff (s : Source) (sel : List Feature) (pre : Option Feature) (grp : List Feature)
    (post : Option Feature) (ord : List Ordering) (rows : Option Rows) (c' : Source) :
    queryNew eqv s sel pre grp post (ord.map Ordering.term) rows = Except.ok c' ↔
      checkQuery eqv s sel pre grp post ord = Except.ok () ∧
        c' = .query s (Features.ofList sel) (FeatureOpt.ofOption pre) (Features.ofList grp) (FeatureOpt.ofOption post)
          (Orderings.ofList ord) rows := by
  rw [queryNew_terms, bind_unit_eq_ok]
  simp [eq_comm]

theorem queryNew_ok_iff_make (s : Source) (sel : List Feature) (pre : Option Feature) (grp : List Feature)
    (post : Option Feature) (ts : List OTerm) (rows : Option Rows) (c' : Source) :
    queryNew eqv s sel pre grp post ts rows = Except.ok c' ↔
      ∃ os, makeOrderings ts = Except.ok os ∧ queryNew eqv s sel pre grp post (os.map Ordering.term) rows = Except.ok c' := by
  unfold queryNew
  simp only [bind_eq_ok, exists_unit]
  constructor
  · rintro ⟨h1, os, hos, feats, hf, h2, h3⟩
    exact ⟨os, hos, h1, os, makeOrderings_idem _ _ hos, feats, hf, h2, h3⟩
  · rintro ⟨os, hos, h1, os', hos', feats, hf, h2, h3⟩
    rw [makeOrderings_idem _ _ hos] at hos'
    cases hos'
    exact ⟨h1, os, hos, feats, hf, h2, h3⟩

theorem applyOp_ok_iff (q : QState) (op : QOp) (c' : Source) :
    q.toSource.applyOp eqv op = Except.ok c' ↔ ∃ q', q.upd op = Except.ok q' ∧ q'.Valid eqv ∧ c' = q'.toSource := by
  cases op
  case select | groupby | limit =>
    simp only [QState.toSource, Source.applyOp, queryOp, Features.toList_ofList, FeatureOpt.toOption_ofOption,
      Orderings.toList_ofList, queryNew_made_ok_iff, QState.upd, Except.ok.injEq, QState.Valid, exists_eq_left']
  case where_ | having =>
    simp only [QState.toSource, Source.applyOp, queryOp, Features.toList_ofList, FeatureOpt.toOption_ofOption,
      Orderings.toList_ofList, bind_eq_ok, queryNew_made_ok_iff, QState.upd, Except.ok.injEq, QState.Valid,
      exists_ok_and_eq_and]
  case orderby ts =>
    simp only [QState.toSource, Source.applyOp, queryOp, Features.toList_ofList, FeatureOpt.toOption_ofOption]
    rw [queryNew_ok_iff_make]
    simp only [bind_eq_ok, queryNew_made_ok_iff, QState.upd, Except.ok.injEq, QState.Valid, exists_ok_and_eq_and]

/-- the parts of `Query.__new__`, given the features of the source -/
structure Parts (feats sel : List Feature) (pre : Option Feature) (grp : List Feature) (post : Option Feature)
    (ord : List Ordering) : Prop where
  selection : subsetBy eqv (dissectAll Feature.isElem sel) (dissectAll Feature.isElem feats) = true
  prefilter : checkFilter eqv (dissectAll Feature.isElem feats) Feature.isCumulative pre = Except.ok ()
  grouping : checkGrouping eqv (dissectAll Feature.isElem feats) feats sel grp = Except.ok ()
  postfilter : checkFilter eqv (dissectAll Feature.isElem feats) Feature.isWindow post = Except.ok ()
  operable : ord.all (fun o => !o.feature.isAlias) = true
  ordering : subsetBy eqv (dissectAll Feature.isElem (ord.map Ordering.feature)) (dissectAll Feature.isElem feats) = true

theorem checkQuery_ok_iff (s : Source) (sel : List Feature) (pre : Option Feature) (grp : List Feature)
    (post : Option Feature) (ord : List Ordering) :
    checkQuery eqv s sel pre grp post ord = Except.ok () ↔
      ∃ feats, s.featuresOf = Except.ok feats ∧ Parts eqv feats sel pre grp post ord := by
  unfold checkQuery
  simp only [bind_eq_ok, exists_unit, guardG_eq_ok]
  constructor
  · rintro ⟨feats, hf, h1, h2, h3, h4, h5, h6⟩
    exact ⟨feats, hf, ⟨h1, h2, h3, h4, h5, h6⟩⟩
  · rintro ⟨feats, hf, ⟨h1, h2, h3, h4, h5, h6⟩⟩
    exact ⟨feats, hf, h1, h2, h3, h4, h5, h6⟩

theorem QState.upd_frame (q q' : QState) (op : QOp) (h : q.upd op = Except.ok q') :
    q'.s = q.s ∧ (op.slot ≠ 0 → q'.sel = q.sel) ∧ (op.slot ≠ 1 → q'.pre = q.pre) ∧ (op.slot ≠ 2 → q'.post = q.post) ∧
      (op.slot ≠ 3 → q'.grp = q.grp) ∧ (op.slot ≠ 4 → q'.ord = q.ord) ∧ (op.slot ≠ 5 → q'.rows = q.rows) := by
  cases op <;> simp only [QState.upd, bind_eq_ok, Except.ok.injEq] at h
  case select | groupby | limit => subst h; simp [QOp.slot]
  case where_ | having | orderby => obtain ⟨_, _, rfl⟩ := h; simp [QOp.slot]

theorem QOp.slot_ne_groupby (op : QOp) (h : op.isGroupby = false) : op.slot ≠ 3 := by
  cases op <;> simp_all [QOp.slot, QOp.isGroupby]

/-- a call computes the new argument of its own kind from the old one alone: replayed on any query `r` with that old
argument it succeeds alike, and writes the same -/
theorem QState.upd_at (q q' r : QState) (op : QOp) (h : q.upd op = Except.ok q')
    (hpre : op.slot = 1 → r.pre = q.pre) (hpost : op.slot = 2 → r.post = q.post) :
    r.upd op = Except.ok
      { s := r.s, sel := if op.slot = 0 then q'.sel else r.sel, pre := if op.slot = 1 then q'.pre else r.pre,
        grp := if op.slot = 3 then q'.grp else r.grp, post := if op.slot = 2 then q'.post else r.post,
        ord := if op.slot = 4 then q'.ord else r.ord, rows := if op.slot = 5 then q'.rows else r.rows } := by
  cases op <;> simp only [QState.upd, bind_eq_ok, Except.ok.injEq] at h ⊢
  case select | groupby | limit => subst h; rfl
  case where_ => obtain ⟨x, hx, rfl⟩ := h; exact ⟨x, hpre rfl ▸ hx, rfl⟩
  case having => obtain ⟨x, hx, rfl⟩ := h; exact ⟨x, hpost rfl ▸ hx, rfl⟩
  case orderby => obtain ⟨x, hx, rfl⟩ := h; exact ⟨x, hx, rfl⟩

/-- one stored argument (number `i`): `x` before the calls `a`, `b` (of kinds `sa ≠ sb`), `xa` after `a`, `xab` after both,
`ha` / `hb` their frame facts; what `a` replayed after `b` leaves there (the `if`s of `upd_at`) is `xab` -/
theorem slot_merge {α : Type} {x xa xab : α} {i sa sb : Nat} (hs : sa ≠ sb) (ha : sa ≠ i → xa = x)
    (hb : sb ≠ i → xab = xa) : (if sa = i then xa else if sb = i then xab else x) = xab := by
  by_cases h : sa = i
  · rw [if_pos h, hb fun e => hs (h.trans e.symm)]
  · by_cases h' : sb = i
    · rw [if_neg h, if_pos h']
    · rw [if_neg h, if_neg h', hb h', ha h]

theorem QState.upd_comm (q qa qab : QState) (a b : QOp) (hs : a.slot ≠ b.slot) (ha : q.upd a = Except.ok qa)
    (hb : qa.upd b = Except.ok qab) : ∃ qb, q.upd b = Except.ok qb ∧ qb.upd a = Except.ok qab := by
  obtain ⟨as, asel, apre, apost, agrp, aord, arows⟩ := QState.upd_frame q qa a ha
  obtain ⟨bs, bsel, bpre, bpost, bgrp, bord, brows⟩ := QState.upd_frame qa qab b hb
  refine ⟨_, QState.upd_at qa qab q b hb (fun e => (apre (e ▸ hs)).symm) (fun e => (apost (e ▸ hs)).symm), ?_⟩
  rw [QState.upd_at q qa _ a ha (fun e => if_neg fun e' => hs (e.trans e'.symm))
    (fun e => if_neg fun e' => hs (e.trans e'.symm))]
  cases qab
  simp only [Except.ok.injEq, QState.mk.injEq]
  exact ⟨as.symm.trans bs.symm, slot_merge hs asel bsel, slot_merge hs apre bpre, slot_merge hs agrp bgrp,
    slot_merge hs apost bpost, slot_merge hs aord bord, slot_merge hs arows brows⟩

theorem between_calls {α : Type} {x xa xab : α} {i sa sb : Nat} (hs : sa ≠ sb) (ha : sa ≠ i → xa = x)
    (hb : sb ≠ i → xab = xa) : xa = x ∨ xa = xab := by
  by_cases h : sa = i
  · exact Or.inr (hb fun e => hs (h.trans e.symm)).symm
  · exact Or.inl (ha h)

/-- between an accepted query and an accepted query two calls (not `groupby`, different kinds) later, the query in
between is accepted: each of its parts is a part of one of the two -/
theorem QState.valid_between (q qa qab : QState) (a b : QOp) (hs : a.slot ≠ b.slot) (hga : a.isGroupby = false)
    (hgb : b.isGroupby = false) (ha : q.upd a = Except.ok qa) (hb : qa.upd b = Except.ok qab)
    (hv : q.Valid eqv) (hvab : qab.Valid eqv) : qa.Valid eqv := by
  simp only [QState.Valid, checkQuery_ok_iff] at hv hvab ⊢
  obtain ⟨feats, hf, p⟩ := hv
  obtain ⟨feats', hf', p'⟩ := hvab
  obtain ⟨as, asel, apre, apost, agrp, aord, _⟩ := QState.upd_frame q qa a ha
  obtain ⟨bs, bsel, bpre, bpost, bgrp, bord, _⟩ := QState.upd_frame qa qab b hb
  rw [bs, as, hf] at hf'
  cases hf'
  have eg : qa.grp = q.grp := agrp (a.slot_ne_groupby hga)
  have eg' : qa.grp = qab.grp := (bgrp (b.slot_ne_groupby hgb)).symm
  refine ⟨feats, by rw [as]; exact hf, ?_, ?_, ?_, ?_, ?_, ?_⟩
  · rcases between_calls hs asel bsel with e | e
    · rw [e]; exact p.selection
    · rw [e]; exact p'.selection
  · rcases between_calls hs apre bpre with e | e
    · rw [e]; exact p.prefilter
    · rw [e]; exact p'.prefilter
  · rcases between_calls hs asel bsel with e | e
    · rw [e, eg]; exact p.grouping
    · rw [e, eg']; exact p'.grouping
  · rcases between_calls hs apost bpost with e | e
    · rw [e]; exact p.postfilter
    · rw [e]; exact p'.postfilter
  · rcases between_calls hs aord bord with e | e
    · rw [e]; exact p.operable
    · rw [e]; exact p'.operable
  · rcases between_calls hs aord bord with e | e
    · rw [e]; exact p.ordering
    · rw [e]; exact p'.ordering

theorem two_calls_ok_iff (q : QState) (a b : QOp) (c'' : Source) :
    (do let c ← q.toSource.applyOp eqv a; c.applyOp eqv b) = Except.ok c'' ↔
      ∃ qa qab, q.upd a = Except.ok qa ∧ qa.Valid eqv ∧ qa.upd b = Except.ok qab ∧ qab.Valid eqv ∧ c'' = qab.toSource := by
  simp only [bind_eq_ok, applyOp_ok_iff]
  constructor
  · rintro ⟨_, ⟨qa, h1, h2, rfl⟩, h⟩
    obtain ⟨qab, h3, h4, rfl⟩ := (applyOp_ok_iff eqv qa b c'').mp h
    exact ⟨qa, qab, h1, h2, h3, h4, rfl⟩
  · rintro ⟨qa, qab, h1, h2, h3, h4, rfl⟩
    exact ⟨_, ⟨qa, h1, h2, rfl⟩, (applyOp_ok_iff eqv qa b _).mpr ⟨qab, h3, h4, rfl⟩⟩

theorem applyOp_comm (q : QState) (hv : q.Valid eqv) (a b : QOp) (hs : a.slot ≠ b.slot) (hga : a.isGroupby = false)
    (hgb : b.isGroupby = false) :
    okOf (do let c ← q.toSource.applyOp eqv a; c.applyOp eqv b) =
      okOf (do let c ← q.toSource.applyOp eqv b; c.applyOp eqv a) := by
  apply okOf_ext
  intro c''
  rw [two_calls_ok_iff, two_calls_ok_iff]
  constructor
  · rintro ⟨qa, qab, h1, _, h3, h4, rfl⟩
    obtain ⟨qb, h5, h6⟩ := QState.upd_comm q qa qab a b hs h1 h3
    exact ⟨qb, qab, h5, QState.valid_between eqv q qb qab b a (Ne.symm hs) hgb hga h5 h6 hv h4, h6, h4, rfl⟩
  · rintro ⟨qb, qab, h1, _, h3, h4, rfl⟩
    obtain ⟨qa, h5, h6⟩ := QState.upd_comm q qb qab b a (Ne.symm hs) h1 h3
    exact ⟨qa, qab, h5, QState.valid_between eqv q qa qab a b hs hga hgb h5 h6 hv h4, h6, h4, rfl⟩

theorem runChain_cons (c : Source) (op : QOp) (ops : List QOp) :
    runChain eqv c (op :: ops) = (do let c' ← c.applyOp eqv op; runChain eqv c' ops) := rfl

theorem runChain_sound : (ops : List QOp) → (q : QState) → (c : Source) →
    runChain eqv q.toSource ops = Except.ok c → ops ≠ [] →
    ∃ q' : QState, q'.Valid eqv ∧ c = q'.toSource ∧ q'.s = q.s ∧
      queryNew eqv q'.s q'.sel q'.pre q'.grp q'.post (q'.ord.map Ordering.term) q'.rows = Except.ok c
  | [], _, _, _, h => absurd rfl h
  | op :: ops, q, c, h, _ => by
    rw [runChain_cons, bind_eq_ok] at h
    obtain ⟨c1, h1, h2⟩ := h
    obtain ⟨q1, hu, hv1, rfl⟩ := (applyOp_ok_iff eqv q op c1).mp h1
    have hs1 := (QState.upd_frame q q1 op hu).1
    cases ops with
    | nil =>
      simp only [runChain, Except.ok.injEq] at h2
      subst h2
      exact ⟨q1, hv1, rfl, hs1, (queryNew_made_ok_iff eqv _ _ _ _ _ _ _ _).mpr ⟨hv1, rfl⟩⟩
    | cons op2 rest =>
      obtain ⟨q', hv', hc, hs', hq⟩ := runChain_sound (op2 :: rest) q1 c h2 (by simp)
      exact ⟨q', hv', hc, hs'.trans hs1, hq⟩

end ForML.Dsl
