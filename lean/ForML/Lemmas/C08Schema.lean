/-
C08 — theorems about schemas built from class hierarchies, kind singletons and `reflect`
(model: ForML.Model.DslSchema).
-/
import ForML.Model.DslSchema

namespace ForML.Dsl

theorem fieldEq_iff (a b : NamedField) : fieldEq a b = true ↔ a = b := by
  obtain ⟨an, ak⟩ := a
  obtain ⟨bn, bk⟩ := b
  simp [fieldEq, Kind.implEq, Prod.ext_iff, and_comm]

theorem zipAll_fieldEq : ∀ (a b : Fields), a.length = b.length →
    ((a.zip b).all (fun p => fieldEq p.1 p.2) = true ↔ a = b)
  | [], [], _ => by simp
  | [], _ :: _, h => by simp at h
  | _ :: _, [], h => by simp at h
  | x :: xs, y :: ys, h => by
    have ih := zipAll_fieldEq xs ys (by simpa using h)
    simp only [List.zip_cons_cons, List.all_cons, Bool.and_eq_true, fieldEq_iff, ih, List.cons.injEq]

/-- `Schema.__eq__` (length test, then the fields pairwise in order) holds exactly between identical field lists -/
theorem C08_schema_eq_iff (a b : Fields) : schemaEq a b = true ↔ a = b := by
  unfold schemaEq
  rw [Bool.and_eq_true, beq_iff_eq]
  exact ⟨fun h => (zipAll_fieldEq a b h.1).1 h.2, fun h => h ▸ ⟨rfl, (zipAll_fieldEq a a rfl).2 rfl⟩⟩

/-- equal schemas hash equal — whatever the hash functions of strings, classes, tuples and `^` are -/
theorem C08_schema_hash {α : Type} (env : HashEnv α) (a b : Fields) (h : schemaEq a b = true) :
    fieldsH env a = fieldsH env b := by
  rw [(C08_schema_eq_iff a b).1 h]

/-- `==` and `hash` of the schemas of two classes — of any two hierarchies — are a function of their resolved
ordered field lists only (the class names, the bases, the attribute keys take no part) -/
theorem C08_schema_identity {α : Type} (env : HashEnv α) (h h' : Heap) (i j : Nat) :
    (schemaEq (h.fields i) (h'.fields j) = true ↔ h.fields i = h'.fields j) ∧
    (h.fields i = h'.fields j → fieldsH env (h.fields i) = fieldsH env (h'.fields j)) :=
  ⟨C08_schema_eq_iff _ _, fun e => by rw [e]⟩

/-- the keys after one step of the dict comprehension: a known key keeps its place, a new one goes last -/
theorem upsert_keys (acc : List (String × NamedField)) (e : String × NamedField) :
    (upsert acc e).map (·.1) = if acc.any (fun x => x.1 == e.1) then acc.map (·.1) else acc.map (·.1) ++ [e.1] := by
  unfold upsert
  split
  · simp only [List.map_map]
    congr 1
    funext x
    by_cases hx : x.1 = e.1 <;> simp [hx]
  · simp

/-- "fields from parent classes come before fields of child classes; overriding a field does not change its
position": executing a class body over what the bases resolve to never moves or drops a key of the bases -/
theorem C08_schema_override_position (acc : List (String × NamedField)) (body : List (String × NamedField)) :
    ∃ extra, (body.foldl upsert acc).map (·.1) = acc.map (·.1) ++ extra := by
  induction body generalizing acc with
  | nil => exact ⟨[], by simp⟩
  | cons e es ih =>
    obtain ⟨extra, hx⟩ := ih (upsert acc e)
    rw [List.foldl_cons, hx, upsert_keys]
    split
    · exact ⟨extra, rfl⟩
    · exact ⟨e.1 :: extra, by simp⟩

/-- a class extends what the rest of its linearisation resolves to: `tuple(Child)` is the class body executed (as a
dict update) over `tuple(<the classes after it in the MRO>)` -/
theorem C08_schema_extend (h : Heap) (self : Nat) (rest : List Nat) :
    resolveKV h (self :: rest) = (h.dictOf self).foldl upsert (resolveKV h rest) := by
  simp [resolveKV, List.foldl_append]

theorem lookup_replace (k : String) (v : NamedField) : ∀ (acc : List (String × NamedField)),
    acc.any (fun x => x.1 == k) = true → (acc.map (fun x => if x.1 == k then (x.1, v) else x)).lookup k = some v
  | (a, b) :: xs, h => by
    by_cases hx : a = k
    · simp only [List.map_cons, hx, beq_self_eq_true, if_true, List.lookup_cons_self]
    · rw [List.any_cons, beq_false_of_ne hx, Bool.false_or] at h
      simp only [List.map_cons, beq_false_of_ne hx, Bool.false_eq_true, if_false, List.lookup_cons,
        beq_false_of_ne (Ne.symm hx)]
      exact lookup_replace k v xs h

/-- the value of an overridden key is the overriding field ("extended fields can override same-name fields") -/
theorem C08_schema_override_value (acc : List (String × NamedField)) (e : String × NamedField) :
    (upsert acc e).lookup e.1 = some e.2 := by
  unfold upsert
  split
  · rename_i hany
    exact lookup_replace e.1 e.2 acc hany
  · rename_i hany
    have hnone : acc.lookup e.1 = none :=
      List.lookup_eq_none_iff.2 fun p hp => bne_iff_ne.2 fun hk => hany (List.any_eq_true.2 ⟨p, hp, beq_iff_eq.2 hk.symm⟩)
    rw [List.lookup_append, hnone, Option.none_or, List.lookup_cons_self]

theorem c3merge_one : ∀ (l : List Nat) (fuel : Nat), l.Nodup → l.length < fuel → c3merge fuel [l] = some l
  | [], fuel + 1, _, _ => by simp [c3merge]
  | x :: xs, fuel + 1, hnd, hlen => by
    have hx : x ∉ xs := (List.nodup_cons.1 hnd).1
    have ih := c3merge_one xs fuel (List.nodup_cons.1 hnd).2 (by simp at hlen; omega)
    simp [c3merge, c3pick, hx, ih]
  | _, 0, _, h => by simp at h

theorem c3merge_drop_empty (l : List Nat) (fuel : Nat) : c3merge fuel [l, []] = c3merge fuel [l] := by
  cases fuel with
  | zero => rfl
  | succ f => cases l <;> simp [c3merge]

theorem c3merge_single (x : Nat) (xs : List Nat) (fuel : Nat) (hnd : (x :: xs).Nodup) (hlen : xs.length + 1 < fuel) :
    c3merge fuel [x :: xs, [x]] = some (x :: xs) := by
  cases fuel with
  | zero => simp at hlen
  | succ fuel =>
    have hx : x ∉ xs := (List.nodup_cons.1 hnd).1
    have ih := c3merge_one xs fuel (List.nodup_cons.1 hnd).2 (by omega)
    cases xs with
    | nil =>
      cases fuel with
      | zero => simp at hlen
      | succ f => simp [c3merge, c3pick]
    | cons y ys =>
      have hxy : x ≠ y := fun e => hx (by simp [e])
      have hxys : x ∉ ys := fun e => hx (by simp [e])
      simp [c3merge, c3pick, hxy, hxys, c3merge_drop_empty, ih]

/-- **single inheritance**: a class with one base whose linearisation is `p :: rest` (duplicate-free) is linearised as
itself, then `p :: rest` — C3 never fails there — and so (`C08_schema_extend`) its fields are its own class body
executed as a dict update over the fields of its base: parents' fields first, an overridden field in place -/
theorem C08_schema_single_inheritance (h : Heap) (self p : Nat) (rest : List Nat) (hm : h.mroOf p = p :: rest)
    (hnd : (p :: rest).Nodup) :
    mroNew h self [p] = some (self :: p :: rest) ∧
    resolveKV h (self :: p :: rest) = (h.dictOf self).foldl upsert (resolveKV h (p :: rest)) := by
  refine ⟨?_, C08_schema_extend h self (p :: rest)⟩
  simp only [mroNew, List.map_cons, List.map_nil, hm, List.cons_append, List.nil_append]
  rw [c3merge_single p rest _ hnd (by simp)]
  rfl

theorem normName_idem (key : String) (n : Option String) : normName key (some (normName key n)) = normName key n := by
  cases n with
  | none => by_cases hk : key = "" <;> simp [normName, hk]
  | some s =>
    by_cases hs : s = ""
    · subst hs
      simp [normName]
    · simp [normName, hs]

theorem addFields_cons_ok {ex : List (String × String)} {key : String} {f : RawField} {rest : List (String × RawField)}
    {dict : List (String × NamedField)} :
    addFields ex ((key, f) :: rest) = .ok dict ↔
      (ex.lookup (normName key f.name) = none ∨ ex.lookup (normName key f.name) = some key) ∧
      ∃ tail, addFields ((normName key f.name, key) :: ex) rest = .ok tail ∧
        dict = (key, (normName key f.name, f.kind)) :: tail := by
  have step : ∀ r : Except SchemaErr (List (String × NamedField)),
      r.map ((key, (normName key f.name, f.kind)) :: ·) = .ok dict ↔
        ∃ tail, r = .ok tail ∧ dict = (key, (normName key f.name, f.kind)) :: tail := by
    intro r
    cases r <;> simp [Except.map, eq_comm]
  rw [addFields]
  cases ex.lookup (normName key f.name) with
  | none => simp [step]
  | some k' => by_cases hk : k' = key <;> simp [hk, step]

/-- the namespace loop accepts its own (normalised) output and reproduces it -/
theorem addFields_idem : ∀ (ns : List (String × RawField)) (ex : List (String × String))
    (dict : List (String × NamedField)), addFields ex ns = .ok dict →
    addFields ex (dict.map fun e => (e.1, ({ kind := e.2.2, name := some e.2.1 } : RawField))) = .ok dict
  | [], ex, dict, h => by
    cases h
    rfl
  | (key, f) :: rest, ex, dict, h => by
    obtain ⟨hl, tail, ht, rfl⟩ := addFields_cons_ok.1 h
    rw [List.map_cons, addFields_cons_ok, normName_idem]
    exact ⟨hl, tail, addFields_idem rest _ tail ht, rfl⟩

/-- what a successful `Schema.__new__` went through -/
theorem newSchema_ok {h : Heap} {self : Nat} {d : Decl} {c : Cls} (hc : newSchema h self d = .ok c) :
    (∀ b ∈ d.bases, h.cls? b ≠ none) ∧
    ∃ dict mro, addFields (baseMaps h d.bases) d.prepared = .ok dict ∧ mroNew h self d.bases = some mro ∧
      c = { name := d.name, bases := d.bases, dict := dict, mro := mro } := by
  simp only [newSchema] at hc
  by_cases h1 : (d.bases.any fun b => (h.cls? b).isNone) = true
  · rw [if_pos h1] at hc
    cases hc
  · rw [if_neg h1] at hc
    by_cases h2 : (!(baseMaps h d.bases).isEmpty &&
        decide ((baseMaps h d.bases).length > ((baseMaps h d.bases).map (·.1)).eraseDups.length)) = true
    · rw [if_pos h2] at hc
      cases hc
    · rw [if_neg h2] at hc
      cases hd : addFields (baseMaps h d.bases) d.prepared with
      | error e =>
        rw [hd] at hc
        cases hc
      | ok dict =>
        rw [hd] at hc
        cases hm : mroNew h self d.bases with
        | none =>
          rw [hm] at hc
          cases hc
        | some mro =>
          rw [hm] at hc
          exact ⟨fun b hb hn => h1 (List.any_eq_true.2 ⟨b, hb, by rw [hn]; rfl⟩), dict, mro, rfl, rfl, by cases hc; rfl⟩

/-- `Schema(*reduce(c))` is `c` again: for every heap, every position, every class statement that succeeded -/
theorem newSchema_reduce (h : Heap) (self : Nat) (d : Decl) (c : Cls) (hc : newSchema h self d = .ok c) :
    newSchema h self (reduceDecl d (.ok c)) = .ok c := by
  obtain ⟨_, dict, mro, hd, hm, rfl⟩ := newSchema_ok hc
  -- the reduced statement keeps name and bases; its namespace is the class's own fields, which the loop accepts again
  simp only [newSchema, reduceDecl, Cls.reducedNs] at hc ⊢
  rw [hd] at hc
  have hp : ∀ d' : Decl, d'.via = .declared ∨ d'.via = .metaclass → d'.prepared = d'.ns := by
    intro d' hv
    rcases hv with hv | hv <;> simp [Decl.prepared, hv]
  rw [hp _ (by by_cases hv : d.via = .declared <;> simp [hv]), addFields_idem _ _ _ hd]
  exact hc

/-- a statement that raised raises again (it is shipped as it was) -/
theorem newSchema_reduce_any (h : Heap) (self : Nat) (d : Decl) :
    newSchema h self (reduceDecl d (newSchema h self d)) = newSchema h self d := by
  cases hc : newSchema h self d with
  | ok c => exact newSchema_reduce h self d c hc
  | error e => simp [reduceDecl, hc]

/-- the classes made by the statements `ds` after the heap `h` -/
def results (h : Heap) : List Decl → List (Except SchemaErr Cls)
  | [] => []
  | d :: ds => newSchema h h.length d :: results (h ++ [newSchema h h.length d]) ds

theorem buildFrom_eq (h : Heap) (ds : List Decl) : buildFrom h ds = h ++ results h ds := by
  induction ds generalizing h with
  | nil => simp [buildFrom, results]
  | cons d ds ih => simp [buildFrom, results, ih]

theorem results_encode (h : Heap) (ds : List Decl) : results h (encode ds (results h ds)) = results h ds := by
  induction ds generalizing h with
  | nil => simp [results, encode]
  | cons d ds ih =>
    simp only [results, encode]
    rw [newSchema_reduce_any, ih]

/-- **decode (encode s) = s** for every schema obtained from any hierarchy: executing the reduced form of every
class of a program — every class once, bases first, as `pickle` does — gives the same classes (names, bases, own
fields under their attribute keys, linearisations), hence the same resolved fields; statements that raised raise
again.  No hypothesis on the program. -/
theorem C08_schema_pickle (ds : List Decl) : buildAll (encode ds (buildAll ds)) = buildAll ds := by
  unfold buildAll
  rw [buildFrom_eq, buildFrom_eq]
  simp only [List.nil_append]
  exact results_encode [] ds

/-- … in particular the resolved field list of every class survives -/
theorem C08_schema_pickle_fields (ds : List Decl) (i : Nat) :
    (buildAll (encode ds (buildAll ds))).fields i = (buildAll ds).fields i := by
  rw [C08_schema_pickle]

theorem Heap.cls?_eq_some {h : Heap} {i : Nat} {c : Cls} : h.cls? i = some c ↔ h[i]? = some (.ok c) := by
  unfold Heap.cls?
  cases h[i]? with
  | none => exact ⟨nofun, nofun⟩
  | some r => cases r <;> simp

theorem encode_getElem? (ds : List Decl) (rs : Heap) (i : Nat) :
    (encode ds rs)[i]? = (ds[i]?).bind fun d => (rs[i]?).map (reduceDecl d) := by
  induction ds generalizing rs i with
  | nil => rfl
  | cons d ds ih =>
    cases rs with
    | nil => simp [encode]
    | cons r rs =>
      cases i with
      | zero => rfl
      | succ i => exact ih rs i

theorem reduceDecl_tableName (d : Decl) (c : Cls) (hn : c.name = d.name) : (reduceDecl d (.ok c)).tableName = d.tableName := by
  cases hv : d.via <;> simp [reduceDecl, Decl.tableName, hv, hn]

theorem newSchema_name (h : Heap) (self : Nat) (d : Decl) (c : Cls) (hc : newSchema h self d = .ok c) : c.name = d.name := by
  obtain ⟨_, _, _, _, _, rfl⟩ := newSchema_ok hc
  rfl

theorem results_name (h : Heap) (ds : List Decl) (i : Nat) (d : Decl) (c : Cls) (hd : ds[i]? = some d)
    (hc : (results h ds)[i]? = some (.ok c)) : c.name = d.name := by
  induction ds generalizing h i with
  | nil => cases hd
  | cons d0 ds ih =>
    cases i with
    | zero =>
      cases hd
      exact newSchema_name h _ d c (Option.some.inj hc)
    | succ i => exact ih _ i hd hc

/-- the *table* of every class survives pickling: the class of the table keeps its name (`Table.Meta` reducer) and the
schema is rebuilt as above — composed with `Source.repickle` of the statements over it (`C08_partial`) this is
"identity survives pickling" for tables, references and queries over schemas built by inheritance -/
theorem C08_schema_table_pickle (ds : List Decl) (i : Nat) :
    tableOf (encode ds (buildAll ds)) (buildAll (encode ds (buildAll ds))) i = tableOf ds (buildAll ds) i := by
  rw [C08_schema_pickle]
  unfold tableOf
  cases hcls : (buildAll ds).cls? i with
  | none => cases (encode ds (buildAll ds))[i]? <;> cases ds[i]? <;> rfl
  | some c =>
    have hr := Heap.cls?_eq_some.1 hcls
    rw [encode_getElem?, hr]
    cases hd : ds[i]? with
    | none => rfl
    | some d =>
      rw [buildAll, buildFrom_eq, List.nil_append] at hr
      simp [reduceDecl_tableName d c (results_name [] ds i d c hd hr)]

/-- `existing` as the namespace loop leaves it: it still answers for every name it knew at the start, and every
entry made stands in it under its own key.  Two entries of one name are therefore two answers of one lookup. -/
theorem addFields_table : ∀ (ns : List (String × RawField)) (ex : List (String × String))
    (dict : List (String × NamedField)), addFields ex ns = .ok dict →
    ∃ ex' : List (String × String), (∀ n k, ex.lookup n = some k → ex'.lookup n = some k) ∧
      ∀ e ∈ dict, ex'.lookup e.2.1 = some e.1
  | [], ex, dict, h => by
    cases h
    exact ⟨ex, fun _ _ h => h, fun e he => nomatch he⟩
  | (key, f) :: rest, ex, dict, h => by
    obtain ⟨hl, tail, ht, rfl⟩ := addFields_cons_ok.1 h
    obtain ⟨ex', hext, hall⟩ := addFields_table rest _ tail ht
    refine ⟨ex', fun n k hn => hext n k ?_, fun e he => ?_⟩
    · rw [List.lookup_cons]
      cases hb : n == normName key f.name with
      | false => exact hn
      | true =>
        -- the step accepted a name it knew only under the head's own key
        rw [beq_iff_eq.1 hb] at hn
        rcases hl with hl | hl
        · exact absurd (hl ▸ hn) nofun
        · exact hl ▸ hn
    · rcases List.mem_cons.1 he with rfl | he
      · exact hext _ _ List.lookup_cons_self
      · exact hall e he

/-- a name registered in front under key `k` can only be produced again under `k` -/
theorem addFields_front (ns : List (String × RawField)) (ex : List (String × String))
    (dict : List (String × NamedField)) (h : addFields ex ns = .ok dict) (n k : String) (hlk : ex.lookup n = some k) :
    ∀ e ∈ dict, e.2.1 = n → e.1 = k := by
  obtain ⟨ex', hext, hall⟩ := addFields_table ns ex dict h
  intro e he hen
  exact Option.some.inj ((hall e he).symm.trans (hen ▸ hext n k hlk))

theorem addFields_names (ns : List (String × RawField)) (ex : List (String × String))
    (dict : List (String × NamedField)) (h : addFields ex ns = .ok dict) :
    ∀ e ∈ dict, ∀ e' ∈ dict, e.2.1 = e'.2.1 → e.1 = e'.1 := by
  obtain ⟨ex', _, hall⟩ := addFields_table ns ex dict h
  intro e he e' he' hn
  exact Option.some.inj ((hall e he).symm.trans (hn ▸ hall e' he'))

/-- the full statement: no schema has two fields of one name -/
def C08_schema_names_full : Prop :=
  ∀ (ds : List Decl) (i : Nat), (∀ d ∈ ds, (List.map Prod.fst d.prepared).Nodup) →
    (List.map Prod.fst ((buildAll ds).fields i)).Nodup

/-- the program of finding C08-F2: `mid` is renamed by the child, the grandchild reuses the new name -/
def dupNameProg : List Decl :=
  [ { via := .declared, name := "P", bases := [], ns := [("first", ⟨.integer, none⟩), ("mid", ⟨.string, some "old"⟩)] },
    { via := .declared, name := "C", bases := [0], ns := [("mid", ⟨.date, some "new"⟩)] },
    { via := .declared, name := "G", bases := [1], ns := [("other", ⟨.integer, some "new"⟩)] } ]

/-- it is FALSE for the code that exists (finding C08-F2) -/
theorem C08_schema_names_counterexample : ¬ C08_schema_names_full := by
  intro h
  have := h dupNameProg 2 (by decide +kernel)
  revert this
  decide +kernel

/-- what does hold: within one class body two attributes never get one name (whatever the bases are) -/
theorem C08_schema_names_partial (h : Heap) (self : Nat) (d : Decl) (c : Cls) (hc : newSchema h self d = .ok c)
    (hkeys : (d.prepared.map (·.1)).Nodup) :
    ∀ e ∈ c.dict, ∀ e' ∈ c.dict, e.2.1 = e'.2.1 → e.1 = e'.1 := by
  -- `hkeys` plays no part: `addFields_names` needs nothing about the keys of the namespace
  have _ := hkeys
  obtain ⟨_, dict, _, hd, _, rfl⟩ := newSchema_ok hc
  exact addFields_names d.prepared _ dict hd

def keyTwinsProg : List Decl :=
  [ { via := .declared, name := "C0", bases := [], ns := [("mid", ⟨.boolean, none⟩), ("k1", ⟨.integer, some "n2"⟩)] },
    { via := .declared, name := "C0", bases := [], ns := [("mid", ⟨.boolean, none⟩), ("q1", ⟨.integer, some "n2"⟩)] } ]

/-- finding C08-F4: two class statements that differ in an attribute key only give the same table (and
`Source.identEq` on tables is `decide (name = name') && fieldsEq`): such tables are one cache key although their
classes answer to different attribute names -/
theorem C08_schema_keys_no_identity :
    tableOf keyTwinsProg (buildAll keyTwinsProg) 0 = tableOf keyTwinsProg (buildAll keyTwinsProg) 1 ∧
    (buildAll keyTwinsProg).dictOf 0 ≠ (buildAll keyTwinsProg).dictOf 1 := by
  decide +kernel

theorem C08_kind_singleton_class (r : KReg) (cs : List Prim) : (r.run cs).map (·.cls) = cs := by
  induction cs generalizing r with
  | nil => rfl
  | cons c cs ih =>
    simp only [KReg.run, List.map_cons, ih, List.cons.injEq, and_true]
    unfold KReg.new
    split <;> rfl

/-- ids handed out are below `next`, and no id is in two cells -/
def KReg.wf (r : KReg) : Prop :=
  (∀ c i, r.cells.lookup c = some i → i < r.next) ∧
  (∀ c c' i, r.cells.lookup c = some i → r.cells.lookup c' = some i → c = c')

theorem KReg.wf_empty : KReg.empty.wf := by
  constructor <;> intro c <;> simp [KReg.empty]

theorem KReg.lookup_cons (r : KReg) (c c' : Prim) (i : Nat) :
    ((c, r.next) :: r.cells).lookup c' = some i ↔ (c' = c ∧ i = r.next) ∨ (c' ≠ c ∧ r.cells.lookup c' = some i) := by
  rw [List.lookup_cons]
  by_cases h : c' = c
  · simp [h, eq_comm]
  · simp [h, beq_false_of_ne h]

theorem KReg.new_spec (r : KReg) (c : Prim) (hw : r.wf) :
    (r.new c).1.wf ∧ (r.new c).1.cells.lookup c = some (r.new c).2.id ∧ (r.new c).2.cls = c ∧
    (∀ c' i, r.cells.lookup c' = some i → (r.new c).1.cells.lookup c' = some i) := by
  unfold KReg.new
  cases hl : r.cells.lookup c with
  | some i => exact ⟨hw, hl, rfl, fun _ _ h => h⟩
  | none =>
    -- a new cell takes the identity `r.next`, which no cell holds yet
    refine ⟨⟨fun c' i h => ?_, fun c1 c2 i h1 h2 => ?_⟩, List.lookup_cons_self, rfl, fun c' i h => ?_⟩
    · rcases (KReg.lookup_cons r c c' i).1 h with ⟨-, rfl⟩ | ⟨-, h⟩
      · exact Nat.lt_succ_self _
      · exact Nat.lt_succ_of_lt (hw.1 c' i h)
    · rcases (KReg.lookup_cons r c c1 i).1 h1 with ⟨e1, rfl⟩ | ⟨-, h1⟩ <;>
        rcases (KReg.lookup_cons r c c2 _).1 h2 with ⟨e2, hi⟩ | ⟨-, h2⟩
      · exact e1.trans e2.symm
      · exact absurd (hw.1 c2 _ h2) (Nat.lt_irrefl _)
      · exact absurd (hi ▸ hw.1 c1 _ h1) (Nat.lt_irrefl _)
      · exact hw.2 c1 c2 i h1 h2
    · exact (KReg.lookup_cons r c c' i).2 (.inr ⟨(fun hc => nomatch (hc ▸ h).symm.trans hl), h⟩)

/-- the closure cells once the history `cs` has run: `KReg.run` keeps the instances, this keeps the cells -/
def KReg.after : KReg → List Prim → KReg
  | r, [] => r
  | r, c :: cs => KReg.after (r.new c).1 cs

theorem KReg.after_spec (r : KReg) (cs : List Prim) (hw : r.wf) :
    (r.after cs).wf ∧ (∀ c i, r.cells.lookup c = some i → (r.after cs).cells.lookup c = some i) ∧
    (∀ o ∈ r.run cs, (r.after cs).cells.lookup o.cls = some o.id) := by
  induction cs generalizing r with
  | nil => exact ⟨hw, fun _ _ h => h, fun o ho => by cases ho⟩
  | cons c cs ih =>
    obtain ⟨hw1, hcell, hcls, hmono⟩ := KReg.new_spec r c hw
    obtain ⟨hwN, hmonoN, hallN⟩ := ih (r.new c).1 hw1
    refine ⟨hwN, fun c' i h => hmonoN c' i (hmono c' i h), ?_⟩
    intro o ho
    simp only [KReg.run, List.mem_cons] at ho
    rcases ho with rfl | ho
    · rw [hcls]
      exact hmonoN c _ hcell
    · exact hallN o ho

/-- **identity of a primitive kind does not depend on what was created before**: over any history of
instantiations, from any well-formed state of the closure cells, two instances are the same object exactly when
they were asked for through the same class — and (`C08_kind_singleton_class`) each is an instance of the class it
was asked for -/
theorem C08_kind_singleton (r : KReg) (cs : List Prim) (hw : r.wf) :
    ∀ a ∈ r.run cs, ∀ b ∈ r.run cs, (a.id = b.id ↔ a.cls = b.cls) := by
  obtain ⟨hwN, _, hall⟩ := KReg.after_spec r cs hw
  intro a ha b hb
  have h1 := hall a ha
  have h2 := hall b hb
  constructor
  · intro hid
    rw [hid] at h1
    exact hwN.2 _ _ _ h1 h2
  · intro hcls
    rw [hcls, h2] at h1
    exact (Option.some.inj h1).symm

/-- `==` of two such instances (`Any.__eq__`: same class) is object identity -/
theorem C08_kind_singleton_eq (r : KReg) (cs : List Prim) (hw : r.wf) :
    ∀ a ∈ r.run cs, ∀ b ∈ r.run cs, (KObj.eq a b = true ↔ a = b) := by
  intro a ha b hb
  rw [KObj.eq, decide_eq_true_eq]
  refine ⟨fun hc => ?_, fun he => he ▸ rfl⟩
  have hi := (C08_kind_singleton r cs hw a ha b hb).2 hc
  cases a
  cases b
  cases hc
  cases hi
  rfl

/-- non-vacuity: `Date()` first, then `Timestamp()` (its subclass), and the other way round -/
example : KReg.empty.run [.date, .timestamp, .date, .timestamp] = [⟨.date, 0⟩, ⟨.timestamp, 1⟩, ⟨.date, 0⟩, ⟨.timestamp, 1⟩] := by
  decide +kernel
example : KReg.empty.run [.timestamp, .date, .timestamp] = [⟨.timestamp, 0⟩, ⟨.date, 1⟩, ⟨.timestamp, 0⟩] := by decide +kernel

def PyVal.ofLit : Lit → PyVal
  | .int n => .int n
  | .bool b => .bool b
  | .str s => .str s
  | .float r => .float r

/-- `Literal(value).kind` of the shared AST (`Lit.kind`) is `reflect(value)` -/
theorem C08_reflect_lit (v : Lit) : (PyVal.ofLit v).reflect = some v.kind := by
  cases v <;> simp [PyVal.ofLit, PyVal.reflect, Lit.kind]

/-- a non-empty list reflects as the array of its first element's kind (an empty one has no kind: the third `example`
below) -/
theorem C08_reflect_list (v : PyVal) (vs : PyVals) : (PyVal.list (.cons v vs)).reflect = v.reflect.map .array := by
  simp [PyVal.reflect, PyVals.headReflect]

example : (PyVal.dict (.cons (.str "p") (.cons (.str "q") .nil)) (.cons (.int 1) (.cons (.str "x") .nil))).reflect
    = some (.struct ["p", "q"] (.cons .integer (.cons .string .nil))) := by decide +kernel
example : (PyVal.dict (.cons (.str "p") (.cons (.str "q") .nil)) (.cons (.int 1) (.cons (.bool true) .nil))).reflect
    = some (.map .string .integer) := by decide +kernel
example : (PyVal.list .nil).reflect = none := by decide +kernel

/-- every linearisation starts with the class itself and strictly descends (bases are earlier statements) -/
def Heap.chainWf (h : Heap) : Prop :=
  ∀ i c, h.cls? i = some c → c.mro.head? = some i ∧ c.mro.Pairwise (· > ·)

theorem Heap.cls?_append {h : Heap} {r : Except SchemaErr Cls} {i : Nat} {c : Cls} :
    (h ++ [r]).cls? i = some c ↔ h.cls? i = some c ∨ (i = h.length ∧ r = .ok c) := by
  simp only [Heap.cls?_eq_some, List.getElem?_append, List.getElem?_singleton]
  rcases Nat.lt_trichotomy i h.length with hlt | heq | hgt
  · simp [hlt, Nat.ne_of_lt hlt]
  · simp [heq]
  · simp [Nat.lt_asymm hgt, Nat.ne_of_gt hgt, Nat.sub_ne_zero_of_lt hgt]

theorem mroNew_nil (h : Heap) (self : Nat) : mroNew h self [] = some [self] := by
  simp [mroNew, c3merge]

theorem chainWf_step (h : Heap) (d : Decl) (hw : h.chainWf) (hb : d.bases.length ≤ 1) :
    (h ++ [newSchema h h.length d]).chainWf := by
  intro i c hc
  rcases Heap.cls?_append.1 hc with hc | ⟨rfl, hn⟩
  · exact hw i c hc
  · obtain ⟨hex, dict, mro, _, hm, rfl⟩ := newSchema_ok hn
    match hbs : d.bases, hb with
    | [], _ =>
      rw [hbs, mroNew_nil] at hm
      cases hm
      exact ⟨rfl, List.pairwise_singleton _ _⟩
    | [p], _ =>
      -- the base is an earlier class, linearised as `p :: rest` with `rest` below `p`: C3 puts the new class in front
      obtain ⟨cp, hcp⟩ := Option.ne_none_iff_exists'.1 (hex p (hbs ▸ List.mem_singleton_self p))
      have hpl : p < h.length := (List.getElem?_eq_some_iff.1 (Heap.cls?_eq_some.1 hcp)).1
      obtain ⟨hhead, hpw⟩ := hw p cp hcp
      obtain ⟨rest, hcm⟩ : ∃ rest, cp.mro = p :: rest := by
        cases hcm : cp.mro with
        | nil => rw [hcm] at hhead; cases hhead
        | cons x rest => rw [hcm] at hhead; cases hhead; exact ⟨rest, rfl⟩
      rw [hcm] at hpw
      have hmro : h.mroOf p = p :: rest := by rw [Heap.mroOf, hcp, ← hcm]; rfl
      rw [hbs, (C08_schema_single_inheritance h h.length p rest hmro (hpw.imp Nat.ne_of_gt)).1] at hm
      cases hm
      refine ⟨rfl, List.pairwise_cons.2 ⟨fun y hy => ?_, hpw⟩⟩
      rcases List.mem_cons.1 hy with rfl | hy
      · exact hpl
      · exact Nat.lt_trans ((List.pairwise_cons.1 hpw).1 y hy) hpl
    | _ :: _ :: _, hb' => exact absurd hb' (by simp)

theorem chainWf_buildFrom (h : Heap) (ds : List Decl) (hw : h.chainWf) (hb : ∀ d ∈ ds, d.bases.length ≤ 1) :
    (buildFrom h ds).chainWf := by
  induction ds generalizing h with
  | nil => exact hw
  | cons d ds ih =>
    simp only [buildFrom]
    exact ih _ (chainWf_step h d hw (hb d (List.mem_cons_self ..))) (fun d' hd' => hb d' (List.mem_cons_of_mem _ hd'))

/-- **single-inheritance programs** (every statement has at most one base — what `class N(dsl.Schema | table)` allows):
every linearisation meets the hypothesis under which `C08_schema_single_inheritance` shows that the C3 step of a
statement with that class as its base succeeds -/
theorem C08_schema_chain (ds : List Decl) (hb : ∀ d ∈ ds, d.bases.length ≤ 1) (i : Nat) (c : Cls)
    (hc : (buildAll ds).cls? i = some c) : c.mro.head? = some i ∧ c.mro.Pairwise (· > ·) ∧ c.mro.Nodup := by
  obtain ⟨h2, h3⟩ := chainWf_buildFrom [] ds (fun i c hc => nomatch hc) hb i c hc
  exact ⟨h2, h3, h3.imp Nat.ne_of_gt⟩

/-- the example of the `dsl.Schema` documentation -/
def docProg : List Decl :=
  [ { via := .declared, name := "Person", bases := [], ns := [("surname", ⟨.string, none⟩), ("dob", ⟨.date, some "birthday"⟩)] },
    { via := .declared, name := "Student", bases := [0], ns := [("level", ⟨.integer, none⟩), ("score", ⟨.float, none⟩)] } ]

example : (buildAll docProg).fields 1 = [("surname", .string), ("birthday", .date), ("level", .integer), ("score", .float)] := by
  decide +kernel

/-- override under a different explicit name keeps the position (tests/io/dsl/_struct/test_frame.py::test_ordering) -/
def overrideProg : List Decl :=
  [ { via := .declared, name := "Base", bases := [], ns := [("first", ⟨.integer, none⟩), ("fixme", ⟨.float, some "old"⟩)] },
    { via := .declared, name := "Child", bases := [0], ns := [("last", ⟨.integer, none⟩), ("fixme", ⟨.string, some "new"⟩)] } ]

example : (buildAll overrideProg).fields 1 = [("first", .integer), ("new", .string), ("last", .integer)] := by decide +kernel
example : tableOf (encode overrideProg (buildAll overrideProg)) (buildAll (encode overrideProg (buildAll overrideProg))) 1
    = some (.table "Child" [("first", .integer), ("new", .string), ("last", .integer)]) := by decide +kernel

/-- two bases; a diamond; a pair of bases python cannot linearise -/
def diamondProg : List Decl :=
  [ { via := .metaclass, name := "T", bases := [], ns := [("k", ⟨.integer, some "n0"⟩), ("t", ⟨.string, none⟩)] },
    { via := .metaclass, name := "L", bases := [0], ns := [] },
    { via := .metaclass, name := "R", bases := [0], ns := [("k", ⟨.float, some "n1"⟩), ("r", ⟨.date, none⟩)] },
    { via := .metaclass, name := "D", bases := [1, 2], ns := [("d", ⟨.boolean, none⟩)] },
    { via := .metaclass, name := "X", bases := [0, 2], ns := [] } ]

example : (buildAll diamondProg).mroOf 3 = [3, 1, 2, 0]
    ∧ (buildAll diamondProg).fields 3 = [("n1", .float), ("t", .string), ("r", .date), ("d", .boolean)]
    ∧ (buildAll diamondProg).cls? 4 = none := by decide +kernel

end ForML.Dsl
