/-
C18: the parts of `Manifest.read (Manifest.render m) = m` — string literals, `json.dumps` character by character
(`pyStr_jesc`), the module map.

The Python-literal reader is used only through one-step lemmas, so that no proof reduces a parser over a long literal
list; the template constants `sNAME`, `qVERSION`, `qPACKAGE`, `qMODULES` stay folded (only `expect_append` is used on them).
-/
import ForML.Model.Manifest

namespace ForML.Manifest

@[simp] theorem expect_nil (t : List Nat) : expect [] t = .ok t := by
  cases t <;> rfl

@[simp] theorem expect_cons_cons (p : Nat) (ps : List Nat) (c : Nat) (t : List Nat) :
    expect (p :: ps) (c :: t) = if p == c then expect ps t else .error .syntax := rfl

@[simp] theorem expect_append (p t : List Nat) : expect p (p ++ t) = .ok t := by
  induction p with
  | nil => simp
  | cons a r ih => simp [ih]

theorem expect_cons_self (a : Nat) (p t : List Nat) : expect (a :: p) (a :: t) = expect p t := by
  simp

@[simp] theorem push_ok (cs t rest : List Nat) : push cs (.ok (t, rest)) = .ok (cs ++ t, rest) := rfl
@[simp] theorem push_error (cs : List Nat) (e : ReadErr) : push cs (.error e) = .error e := rfl

@[simp] theorem pyStr_quote (l : List Nat) : pyStr (34 :: l) = .ok ([], l) := by
  rw [pyStr.eq_def]; rfl

theorem pyStr_plain (a : Nat) (l : List Nat) (h34 : a ≠ 34) (h92 : a ≠ 92) (h10 : a ≠ 10) (h13 : a ≠ 13) :
    pyStr (a :: l) = push [a] (pyStr l) := by
  rw [pyStr.eq_def]
  simp [h34, h92, h10, h13]

theorem pyStr_esc (c x : Nat) (r : List Nat) (h : pyEsc c = some x) :
    pyStr (92 :: c :: r) = push [x] (pyStr r) := by
  rw [pyStr.eq_def]
  simp [h]

theorem pyStr_u4 (h1 h2 h3 h4 x : Nat) (r : List Nat) (h : hex4 h1 h2 h3 h4 = some x) :
    pyStr (92 :: 117 :: h1 :: h2 :: h3 :: h4 :: r) = push [x] (pyStr r) := by
  rw [pyStr.eq_def]
  have e : pyEsc 117 = none := by decide
  simp [h, e]

theorem pyStr_newline (l : List Nat) : pyStr (10 :: l) = .error .syntax := by
  rw [pyStr.eq_def]; rfl

theorem hexVal_hexDigit : ∀ d, d < 16 → hexVal (hexDigit d) = some d := by
  decide +kernel

theorem hex4_u4 (c : Nat) (h : c < 65536) :
    hex4 (hexDigit (c / 4096 % 16)) (hexDigit (c / 256 % 16)) (hexDigit (c / 16 % 16)) (hexDigit (c % 16)) = some c := by
  unfold hex4
  rw [hexVal_hexDigit _ (Nat.mod_lt _ (by decide)), hexVal_hexDigit _ (Nat.mod_lt _ (by decide)),
    hexVal_hexDigit _ (Nat.mod_lt _ (by decide)), hexVal_hexDigit _ (Nat.mod_lt _ (by decide))]
  -- nest the quotients: every digit is then one division by 16 of the previous quotient, a linear fact for `omega`
  have h1 : c / 256 = c / 16 / 16 := (Nat.div_div_eq_div_mul c 16 16).symm
  have h2 : c / 4096 = c / 16 / 16 / 16 := by rw [Nat.div_div_eq_div_mul, Nat.div_div_eq_div_mul]
  rw [h1, h2, Option.some.injEq]
  omega

theorem pyStr_u4_append (c : Nat) (h : c < 65536) (r : List Nat) :
    pyStr (u4 c ++ r) = push [c] (pyStr r) := by
  unfold u4
  exact pyStr_u4 _ _ _ _ c r (hex4_u4 c h)

/-- text pasted raw between double quotes survives iff nothing in it is special to a Python literal:
no `"`, `\`, LF, CR -/
def clean (s : List Nat) : Bool := s.all (fun c => c != 34 && c != 92 && c != 10 && c != 13)

/-- every character is in the Basic Multilingual Plane (one UTF-16 code unit) -/
def bmp (s : List Nat) : Bool := s.all (fun c => c < 65536)

/-- module maps whose keys and values are BMP text -/
def bmpPairs (m : List (List Nat × List Nat)) : Bool := m.all (fun kv => bmp kv.1 && bmp kv.2)

/-- manifests over the alphabets on which write/read is faithful -/
def legal (m : Manifest) : Bool := clean m.name && clean m.version && clean m.package && bmpPairs m.modules

/-- PEP 503 / PEP 440 / dotted-identifier alphabet: ASCII letters, digits and `- _ . + !` -/
def nameChar (c : Nat) : Bool :=
  (48 ≤ c && c ≤ 57) || (65 ≤ c && c ≤ 90) || (97 ≤ c && c ≤ 122) || c == 45 || c == 95 || c == 46 || c == 43 || c == 33

theorem clean_of_nameChars (s : List Nat) (h : s.all nameChar = true) : clean s = true := by
  unfold clean
  rw [List.all_eq_true] at h ⊢
  intro c hc
  have := h c hc
  simp only [nameChar, Bool.or_eq_true, Bool.and_eq_true, decide_eq_true_eq, beq_iff_eq] at this
  simp only [Bool.and_eq_true, bne_iff_ne, ne_eq]
  omega

theorem pyStr_clean (s rest : List Nat) (h : clean s = true) : pyStr (s ++ 34 :: rest) = .ok (s, rest) := by
  induction s with
  | nil => simp
  | cons c r ih =>
    rw [clean, List.all_cons, Bool.and_eq_true] at h
    have hc := h.1
    simp only [Bool.and_eq_true, bne_iff_ne, ne_eq] at hc
    rw [List.cons_append, pyStr_plain c _ hc.1.1.1 hc.1.1.2 hc.1.2 hc.2, ih h.2]
    rfl

theorem jesc_other (c : Nat) (h : c ∉ [34, 92, 10, 13, 9, 8, 12]) :
    jesc c = if 32 ≤ c && c ≤ 126 then [c] else if c < 65536 then u4 c
      else u4 (55296 + (c - 65536) / 1024 % 1024) ++ u4 (56320 + (c - 65536) % 1024) := by
  simp only [List.mem_cons, List.not_mem_nil, or_false, not_or] at h
  obtain ⟨h1, h2, h3, h4, h5, h6, h7⟩ := h
  simp only [jesc, beq_iff_eq, h1, h2, h3, h4, h5, h6, h7, if_false]

def utf16 (c : Nat) : List Nat :=
  if c < 65536 then [c] else [55296 + (c - 65536) / 1024 % 1024, 56320 + (c - 65536) % 1024]

theorem pyStr_jesc (c : Nat) (h : c < 1114112) (r : List Nat) : pyStr (jesc c ++ r) = push (utf16 c) (pyStr r) := by
  by_cases hm : c ∈ [34, 92, 10, 13, 9, 8, 12]
  · simp only [List.mem_cons, List.not_mem_nil, or_false] at hm
    rcases hm with rfl | rfl | rfl | rfl | rfl | rfl | rfl
    · exact pyStr_esc 34 34 r (by decide)
    · exact pyStr_esc 92 92 r (by decide)
    · exact pyStr_esc 110 10 r (by decide)
    · exact pyStr_esc 114 13 r (by decide)
    · exact pyStr_esc 116 9 r (by decide)
    · exact pyStr_esc 98 8 r (by decide)
    · exact pyStr_esc 102 12 r (by decide)
  · rw [jesc_other c hm, utf16]
    simp only [List.mem_cons, List.not_mem_nil, or_false, not_or] at hm
    by_cases hb : c < 65536
    · simp only [hb, if_true]
      split
      · exact pyStr_plain c r hm.1 hm.2.1 hm.2.2.1 hm.2.2.2.1
      · exact pyStr_u4_append c hb r
    · have hp : ¬ (decide (32 ≤ c) && decide (c ≤ 126)) = true := by
        simp only [Bool.and_eq_true, decide_eq_true_eq]
        omega
      rw [if_neg hp, if_neg hb, if_neg hb, List.append_assoc, pyStr_u4_append _ (by omega), pyStr_u4_append _ (by omega)]
      cases pyStr r <;> rfl

theorem pyStr_jstr (s rest : List Nat) (h : bmp s = true) : pyStr (jstr s ++ 34 :: rest) = .ok (s, rest) := by
  induction s with
  | nil => simp [jstr]
  | cons c r ih =>
    simp only [bmp, List.all_cons, Bool.and_eq_true, decide_eq_true_eq] at h
    have ih' := ih (by simpa [bmp] using h.2)
    rw [jstr, List.append_assoc, pyStr_jesc c (by omega), utf16, if_pos h.1, ih']
    rfl

theorem jitem_length (k v tail : List Nat) : tail.length < (jitem k v tail).length := by
  simp only [jitem, List.length_cons, List.length_append]
  omega

theorem jrest_length (m : List (List Nat × List Nat)) : m.length < (jrest m).length := by
  induction m with
  | nil => exact Nat.zero_lt_one
  | cons kv r ih =>
    have := jitem_length kv.1 kv.2 (jrest r)
    simp only [jrest, List.length_cons]
    omega

theorem jrest_cons_ne (kv : List Nat × List Nat) (r : List (List Nat × List Nat)) : (jrest (kv :: r) == [125]) = false := by
  obtain ⟨k, v⟩ := kv
  simp [jrest]

theorem pyItems_jitem_step (k v tail : List Nat) (hk : bmp k = true) (hv : bmp v = true) (f : Nat) :
    pyItems (f + 1) (jitem k v tail) =
      if tail == [125] then .ok [(k, v)]
      else
        match expect [44, 32] tail with
        | .error e => .error e
        | .ok t' =>
          match pyItems f t' with
          | .ok r => .ok ((k, v) :: r)
          | .error e => .error e := by
  unfold jitem
  rw [pyItems, expect_cons_self, expect_nil]
  simp only [pyStr_jstr k _ hk]
  rw [show (58 :: 32 :: 34 :: (jstr v ++ 34 :: tail)) = [58, 32, 34] ++ (jstr v ++ 34 :: tail) from rfl, expect_append]
  simp only [pyStr_jstr v _ hv]
  rfl

theorem pyItems_jitem (k v : List Nat) (r : List (List Nat × List Nat)) (hk : bmp k = true) (hv : bmp v = true)
    (hr : bmpPairs r = true) (f : Nat) (hf : r.length < f) :
    pyItems f (jitem k v (jrest r)) = .ok ((k, v) :: r) := by
  induction r generalizing k v f with
  | nil =>
    cases f with
    | zero => omega
    | succ f => rw [pyItems_jitem_step k v _ hk hv]; rfl
  | cons kv r ih =>
    obtain ⟨k', v'⟩ := kv
    simp only [bmpPairs, List.all_cons, Bool.and_eq_true] at hr
    obtain ⟨⟨hk', hv'⟩, hr'⟩ := hr
    cases f with
    | zero => omega
    | succ f =>
      have ih' := ih k' v' hk' hv' hr' f (Nat.lt_of_succ_lt_succ hf)
      rw [pyItems_jitem_step k v _ hk hv, jrest_cons_ne,
        show jrest ((k', v') :: r) = [44, 32] ++ jitem k' v' (jrest r) from rfl, expect_append]
      simp only [Bool.false_eq_true, if_false, ih']

/-- a Unicode scalar value beyond the BMP -/
def astral (c : Nat) : Bool := 65536 ≤ c && c < 1114112

end ForML.Manifest
