/-
C18: the relative / absolute rule of `Components.load`, and that `Package.create` keeps every file the
import of a component module looks at.
-/
import ForML.Model.ManifestLoad
import ForML.Lemmas.ListFacts

namespace ForML.Load

theorem startsWith_eq (s p : List Nat) : startsWith s p = p.isPrefixOf s := by
  fun_induction startsWith s p <;> simp_all [List.isPrefixOf]
  rw [BEq.comm]

theorem startsWith_append (p r : List Nat) : startsWith (p ++ r) p = true := by simp [startsWith_eq]

theorem startsWith_exact (p : List Nat) : ∀ name : List Nat, startsWith name p = true → ∃ r, name = p ++ r :=
  fun _ h => (List.isPrefixOf_iff_prefix.1 (startsWith_eq .. ▸ h)).imp fun _ => Eq.symm

theorem pkgPrefix_nonempty (package : List Nat) (h : package ≠ []) : pkgPrefix package = rstripDots package ++ [46] := by
  unfold pkgPrefix
  cases package with
  | nil => exact absurd rfl h
  | cons a r => rfl

theorem resolve_startsWith (package : List Nat) (modules : List (List Nat × List Nat)) (component : List Nat) :
    startsWith (resolve package modules component) (pkgPrefix package) = true := by
  unfold resolve
  split
  · assumption
  · exact startsWith_append _ _

theorem lookup_single (k v : List Nat) : lookup k [(k, v)] = some v := by
  simp [lookup]

theorem packList_eq (r : Bool) (ns : List Node) : packList r ns = ns.flatMap (packNode r) := by
  induction ns <;> simp_all [packList]

def isFile (n : List Nat) : Node → Bool
  | .file m => m == n
  | _ => false

def dirOf (n : List Nat) : Node → Option (List Node)
  | .dir m cs => if m == n then some cs else none
  | _ => none

theorem findFile_eq (n : List Nat) (ns : List Node) : findFile n ns = ns.any (isFile n) := by
  fun_induction findFile n ns <;> simp_all [isFile]

theorem findDir_eq (n : List Nat) (ns : List Node) : findDir n ns = ns.findSome? (dirOf n) := by
  fun_induction findDir n ns <;> simp_all [dirOf, List.findSome?_cons]

theorem ne_of_dropped {r : Bool} {n m : List Nat} (hv : validName r n = true) (hm : ¬ validName r m = true) :
    (m == n) = false :=
  beq_false_of_ne fun e => hm (e ▸ hv)

/- `packList` is a `flatMap` and the searches are `any` / `findSome?`: what is found in the packed list is decided node by
node — a kept node is found as before (a directory with its content packed), a dropped one has another name than `n`. -/

theorem findFile_pack (r : Bool) (n : List Nat) (hv : validName r n = true) :
    ∀ ns : List Node, findFile n (packList r ns) = findFile n ns := by
  intro ns
  rw [findFile_eq, findFile_eq, packList_eq, List.any_flatMap]
  congr 1; funext x
  cases x with
  | file m => by_cases hm : validName r m = true <;> simp [packNode, isFile, hm, ne_of_dropped hv]
  | dir m cs => simp only [packNode]; split <;> simp [isFile]

theorem findDir_pack (r : Bool) (n : List Nat) (hv : validName r n = true) :
    ∀ ns : List Node, findDir n (packList r ns) = (findDir n ns).map (packList false) := by
  intro ns
  rw [findDir_eq, findDir_eq, packList_eq, findSome?_flatMap, List.map_findSome?]
  congr 1; funext x
  cases x with
  | file m => by_cases hm : validName r m = true <;> simp [packNode, dirOf, hm]
  | dir m cs => by_cases hm : validName r m = true <;> simp [packNode, dirOf, hm, ne_of_dropped hv]

theorem valid_initPy : validName false initPy = true := by decide

theorem locateLeaf_pack (r : Bool) (ns : List Node) (c : List Nat) (h1 : validName r c = true)
    (h2 : validName r (c ++ dotPy) = true) : locateLeaf (packList r ns) c = locateLeaf ns c := by
  unfold locateLeaf
  rw [findDir_pack r c h1, findFile_pack r (c ++ dotPy) h2]
  cases findDir c ns with
  | none => rfl
  | some cs => simp only [Option.map, findFile_pack false initPy valid_initPy]

end ForML.Load
