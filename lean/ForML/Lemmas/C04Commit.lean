/-
Once the generation key of an instance is resolved, every later load of the same action reads the same generation
whatever other processes commit in between; at every micro-step of a commit every listed generation has all the
states its tag lists.
-/
import ForML.Model.PersistCommit
import ForML.Lemmas.C04Binding

namespace ForML.Persist

theorem loadKeyed_pinned (P : List Nat) {k : Nat} {reg : Registry} {g : Generation} (h1 : k ≠ 0)
    (hk : reg[k - 1]? = some g) (gid : Nat) :
    loadKeyed P ⟨some k⟩ reg gid = (Assets.load ⟨P, .ok (some g)⟩ gid, ⟨some k⟩) := by
  have hlt : k - 1 < reg.length := by
    cases hl : reg[k - 1]? with
    | none => rw [hl] at hk; cases hk
    | some _ => exact (List.getElem?_eq_some_iff.mp hl).1
  have hle : k ≤ reg.length := by omega
  have hne : (k != 0) = true := by simpa using h1
  simp only [loadKeyed, Assets.load, LevelKey.key, hne, hle, decide_true, Bool.and_self, if_true, hk]
  split
  · cases g.states[List.idxOf gid P]? <;> rfl
  · rfl

theorem runEvents_pinned (P : List Nat) {k : Nat} {g : Generation} (h1 : k ≠ 0) :
    ∀ (evs : List Ev) (reg : Registry), reg[k - 1]? = some g →
      runEvents P ⟨some k⟩ reg evs = (loadsOf evs).map (fun gid => Assets.load ⟨P, .ok (some g)⟩ gid) := by
  intro evs
  induction evs with
  | nil => intro reg _; rfl
  | cons e rest ih =>
    intro reg hk
    cases e with
    | commit g' =>
      simp only [runEvents, loadsOf]
      apply ih
      have hlt : k - 1 < reg.length := (List.getElem?_eq_some_iff.mp hk).1
      rw [List.getElem?_append_left hlt]
      exact hk
    | load gid =>
      simp only [runEvents, loadsOf, List.map_cons, loadKeyed_pinned P h1 hk]
      rw [ih reg hk]

/-- the first load resolves the key to the generation `select` names and stores it -/
theorem first_load_pins (P : List Nat) {sel : Option Nat} {reg : Registry} {g : Generation}
    (hsel : select reg sel = .ok (some g)) {gid : Nat} (hin : P.contains gid = true) :
    ∃ k, k ≠ 0 ∧ reg[k - 1]? = some g ∧
      loadKeyed P ⟨sel⟩ reg gid = (Assets.load ⟨P, .ok (some g)⟩ gid, ⟨some k⟩) := by
  obtain ⟨k, h1, hk, rfl | ⟨rfl, rfl⟩⟩ := select_key hsel
  · exact ⟨k, h1, hk, loadKeyed_pinned P h1 hk gid⟩
  · refine ⟨_, h1, hk, ?_⟩
    have hn0 : (reg.length == 0) = false := by simpa using h1
    simp only [loadKeyed, hin, if_true, LevelKey.key, hn0, Bool.false_eq_true, if_false, hk, Assets.load]
    cases g.states[List.idxOf gid P]? <;> rfl

theorem runAll_append (s : Store) (a b : List Op) :
    runAll s (a ++ b) = (runAll s a).bind (fun s' => runAll s' b) := by
  induction a generalizing s with
  | nil => rfl
  | cons op rest ih =>
    simp only [List.cons_append, runAll]
    cases applyOp s op with
    | none => rfl
    | some s' => exact ih s'

theorem runOps_append (s : Store) (a b : List Op) :
    runOps s (a ++ b) = match runAll s a with
      | some s' => runOps s' b
      | none => runOps s a := by
  induction a generalizing s with
  | nil => rfl
  | cons op rest ih =>
    simp only [List.cons_append, runOps, runAll]
    cases applyOp s op with
    | none => rfl
    | some s' => exact ih s'

/-- a micro-step of the preparation of generation `k` -/
def Op.prepFor (k : Nat) : Op → Bool
  | .stage _ _ => true
  | .mkdir k' => k' == k
  | .move k' _ => k' == k
  | .stageTag _ => true
  | .publishTag _ _ _ => false

theorem complete_addFile (g : GenDir) (f : Nat × Origin) (h : g.complete = true) :
    ({ g with files := g.files ++ [f] } : GenDir).complete = true := by
  simp only [GenDir.complete] at h ⊢
  cases ht : g.tag with
  | none => simp
  | some t =>
    obtain ⟨run, sids⟩ := t
    rw [ht] at h
    simp only [List.all_eq_true] at h ⊢
    intro sid hs
    have := h sid hs
    simp only [List.any_append, this, Bool.true_or]

theorem ok_iff (s : Store) : s.ok = true ↔ ∀ g ∈ s.gens, g.complete = true := by
  simp only [Store.ok, List.all_eq_true]

theorem applyOp_move {s s' : Store} {k sid : Nat} (h : applyOp s (.move k sid) = some s') :
    ∃ f, s.staged.find? (fun f => f.1 == sid) = some f ∧
      s' = ⟨s.staged.filter (fun f' => f'.1 != sid), updGen k (fun g => { g with files := g.files ++ [f] }) s.gens⟩ := by
  simp only [applyOp] at h
  cases hf : s.staged.find? (fun f => f.1 == sid) with
  | none => rw [hf] at h; cases h
  | some f => rw [hf] at h; cases h; exact ⟨f, rfl, rfl⟩

/-- what a micro-step of the preparation of generation `k` does to the directories: nothing, a new empty unlisted
directory `k`, or one more file in the directories of key `k` -/
theorem applyOp_prepFor {k : Nat} {s s' : Store} {op : Op} (hop : Op.prepFor k op = true) (h : applyOp s op = some s') :
    s'.gens = s.gens ∨ s'.gens = s.gens ++ [⟨k, [], none⟩] ∨
      ∃ f, s'.gens = updGen k (fun g => { g with files := g.files ++ [f] }) s.gens := by
  cases op with
  | stage sid o => cases h; exact .inl rfl
  | mkdir k' =>
    obtain rfl : k' = k := beq_iff_eq.mp hop
    simp only [applyOp] at h
    split at h <;> cases h
    · exact .inl rfl
    · exact .inr (.inl rfl)
  | move k' sid =>
    obtain rfl : k' = k := beq_iff_eq.mp hop
    obtain ⟨f, -, rfl⟩ := applyOp_move h
    exact .inr (.inr ⟨f, rfl⟩)
  | stageTag k' => cases h; exact .inl rfl
  | publishTag k' run sids => cases hop

theorem applyOp_ok_prep {k : Nat} {s s' : Store} {op : Op} (hs : s.ok = true) (hop : Op.prepFor k op = true)
    (h : applyOp s op = some s') : s'.ok = true := by
  rw [ok_iff] at hs ⊢
  rcases applyOp_prepFor hop h with e | e | ⟨f, e⟩ <;> rw [e]
  · exact hs
  · exact List.forall_mem_append.mpr ⟨hs, List.forall_mem_singleton.mpr rfl⟩
  · intro g hg
    obtain ⟨g0, hg0, rfl⟩ := List.mem_map.mp hg
    split
    · exact complete_addFile g0 f (hs g0 hg0)
    · exact hs g0 hg0

theorem runOps_of_runAll : ∀ (ops : List Op) (s s' : Store), runAll s ops = some s' → runOps s ops = s' := by
  intro ops
  induction ops with
  | nil => intro s s' h; cases h; rfl
  | cons op rest ih =>
    intro s s' h
    simp only [runAll] at h
    simp only [runOps]
    cases h1 : applyOp s op with
    | none => rw [h1] at h; cases h
    | some s1 => rw [h1] at h; exact ih s1 s' h

theorem runOps_inv {P : Store → Prop} : ∀ (ops : List Op) (s : Store),
    (∀ op ∈ ops, ∀ s s', P s → applyOp s op = some s' → P s') → P s → P (runOps s ops) := by
  intro ops
  induction ops with
  | nil => intro s _ hs; exact hs
  | cons op rest ih =>
    intro s hstep hs
    simp only [runOps]
    cases h : applyOp s op with
    | none => exact hs
    | some s' =>
      exact ih s' (fun o ho => hstep o (List.mem_cons_of_mem _ ho)) (hstep op List.mem_cons_self s s' hs h)

theorem runAll_inv {P : Store → Prop} {ops : List Op} {s s' : Store} (h : runAll s ops = some s')
    (hstep : ∀ op ∈ ops, ∀ s s', P s → applyOp s op = some s' → P s') (hs : P s) : P s' :=
  runOps_of_runAll ops s s' h ▸ runOps_inv ops s hstep hs

theorem runOps_ok_prep {k : Nat} (ops : List Op) (s : Store) (hs : s.ok = true)
    (hall : ∀ op ∈ ops, Op.prepFor k op = true) : (runOps s ops).ok = true :=
  runOps_inv ops s (fun op hop _ _ hs h => applyOp_ok_prep hs (hall op hop) h) hs

/-- every generation directory with key `k` holds a file of state `sid` -/
def HasFile (k sid : Nat) (s : Store) : Prop :=
  ∀ g ∈ s.gens, g.key = k → g.files.any (fun f => f.1 == sid) = true

theorem move_hasFile {s s' : Store} {k sid : Nat} (h : applyOp s (.move k sid) = some s') : HasFile k sid s' := by
  obtain ⟨f, hf, rfl⟩ := applyOp_move h
  have hfs : (f.1 == sid) = true := by
    have := List.find?_some hf
    exact this
  intro g hg hk
  simp only [updGen, List.mem_map] at hg
  obtain ⟨g0, _, rfl⟩ := hg
  split
  · simp [List.any_append, hfs]
  · rename_i hne
    split at hk
    · rename_i heq; exact absurd heq hne
    · simp only [beq_iff_eq] at hne
      exact absurd hk hne

theorem move_keeps_hasFile {s s' : Store} {k sid sid' : Nat} (hh : HasFile k sid s)
    (h : applyOp s (.move k sid') = some s') : HasFile k sid s' := by
  obtain ⟨f, -, rfl⟩ := applyOp_move h
  intro g hg hk
  simp only [updGen, List.mem_map] at hg
  obtain ⟨g0, hg0, rfl⟩ := hg
  split
  · rename_i heq
    have := hh g0 hg0 (by simpa using heq)
    simp [List.any_append, this]
  · rename_i hne
    split at hk
    · rename_i heq; exact absurd heq hne
    · exact hh g0 hg0 hk

theorem moves_hasFile (k : Nat) : ∀ (sids : List Nat) (s s' : Store),
    runAll s (sids.map (fun sid => Op.move k sid)) = some s' → ∀ sid ∈ sids, HasFile k sid s' := by
  intro sids
  induction sids with
  | nil => intro s s' _ sid hs; cases hs
  | cons x rest ih =>
    intro s s' h sid hs
    simp only [List.map_cons, runAll] at h
    cases h1 : applyOp s (.move k x) with
    | none => rw [h1] at h; cases h
    | some s1 =>
      rw [h1] at h
      cases hs with
      | head =>
        -- the file is there after its own move, and the later moves keep it
        refine runAll_inv h (fun op hop _ _ hh hs => ?_) (move_hasFile h1)
        obtain ⟨y, _, rfl⟩ := List.mem_map.mp hop
        exact move_keeps_hasFile hh hs
      | tail _ hmem => exact ih s1 s' h sid hmem

theorem publish_ok {s : Store} {k run : Nat} {sids : List Nat} (hs : s.ok = true)
    (hfiles : ∀ sid ∈ sids, HasFile k sid s) :
    ∀ s', applyOp s (.publishTag k run sids) = some s' → s'.ok = true := by
  intro s' h
  simp only [applyOp, Option.some.injEq] at h
  subst h
  rw [ok_iff] at hs ⊢
  intro g hg
  simp only [updGen, List.mem_map] at hg
  obtain ⟨g0, hg0, rfl⟩ := hg
  split
  · rename_i heq
    simp only [GenDir.complete, List.all_eq_true]
    intro sid hsid
    exact hfiles sid hsid g0 hg0 (by simpa using heq)
  · exact hs g0 hg0

theorem prepareOps_prepFor (k : Nat) (states : List (Nat × Origin)) :
    ∀ op ∈ prepareOps k states, Op.prepFor k op = true := by
  intro op hop
  simp only [prepareOps, List.mem_append, List.mem_map, List.mem_singleton] at hop
  rcases hop with ((⟨f, _, rfl⟩ | rfl) | ⟨f, _, rfl⟩) | rfl <;> simp [Op.prepFor]

/-- after all preparing micro-steps succeeded, generation `k` holds every state of the tag -/
theorem prepare_hasFiles (k : Nat) (states : List (Nat × Origin)) (s s' : Store)
    (h : runAll s (prepareOps k states) = some s') : ∀ sid ∈ states.map (·.1), HasFile k sid s' := by
  -- split the run at the parts of `prepareOps`: `s2` after stages and mkdir, `s3` after the moves; `stageTag` changes nothing
  simp only [prepareOps, runAll_append, Option.bind_eq_some_iff] at h
  obtain ⟨s3, ⟨s2, -, h3⟩, h4⟩ := h
  cases h4
  exact moves_hasFile k (states.map (·.1)) s2 s' (by rw [List.map_map]; exact h3)

end ForML.Persist
