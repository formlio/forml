/-
Stable insertion sort by quality, the glob matcher against its declarative semantics, first-index search,
option dictionaries, separator split / join, the error bound of rounding division, and `rangesOf` as core's `mapM`.
-/
import ForML.Model.Codec
import ForML.Lemmas.ListFacts

namespace ForML.Codec

def Desc (l : List Range) : Prop := l.Pairwise (fun a b => a.q ≥ b.q)

theorem insertDesc_isInsert : IsInsert insertDesc (fun x y => !decide (y.q > x.q)) :=
  ⟨fun _ => rfl, fun x y r => by simp only [insertDesc]; split <;> rename_i h <;> simp [h]⟩

theorem sortDesc_perm (l : List Range) : (sortDesc l).Perm l := by
  induction l with
  | nil => exact List.Perm.refl _
  | cons x xs ih => exact (insertDesc_isInsert.perm x (sortDesc xs)).trans (List.Perm.cons x ih)

theorem sortDesc_sorted (l : List Range) : Desc (sortDesc l) := by
  induction l with
  | nil => exact List.Pairwise.nil
  | cons x xs ih =>
    exact insertDesc_isInsert.pairwise (R := fun a b => a.q ≥ b.q) (fun x y h => by simp at h; omega)
      (fun x y h => by simp at h; omega) (fun _ _ _ h1 h2 => Int.le_trans h2 h1) x ih

/-- the ranges passed over have another quality than the one inserted -/
theorem insertDesc_filter (x : Range) (l : List Range) (k : Int) :
    (insertDesc x l).filter (fun r => r.q == k) = (x :: l).filter (fun r => r.q == k) := by
  induction l with
  | nil => rfl
  | cons y ys ih =>
    simp only [insertDesc]
    split
    · rename_i hgt
      by_cases hk : x.q = k
      · have hy : (y.q == k) = false := by simp; omega
        simp [hy, hk, ih]
      · simp [List.filter_cons, hk, ih]
    · rfl

/-- stability: the ranges of any one quality keep their header order -/
theorem sortDesc_stable (l : List Range) (k : Int) :
    (sortDesc l).filter (fun r => r.q == k) = l.filter (fun r => r.q == k) := by
  induction l with
  | nil => rfl
  | cons x xs ih => rw [sortDesc, insertDesc_filter, List.filter_cons, List.filter_cons, ih]

def Item.Covers (c : Char) : Item → Prop
  | .ch a => a = c
  | .rng lo hi => lo ≤ c ∧ c ≤ hi

/-- one pattern element accepts one character: `?` anything, a literal itself, `[seq]` a character
covered by some member, `[!seq]` a character covered by none; `*` never consumes exactly one here -/
def Tok.Accepts (c : Char) : Tok → Prop
  | .star => False
  | .any => True
  | .set neg items => (∃ it ∈ items, it.Covers c) ↔ neg = false
  | .lit a => a = c

/-- declarative semantics of a compiled pattern: the language of the regular expression that
`fnmatch.translate` builds (`*` = any run, everything else = one accepted character) -/
inductive Matches : List Tok → Str → Prop
  | nil : Matches [] []
  | one (t : Tok) (c : Char) (ts : List Tok) (s : Str) : t.Accepts c → Matches ts s → Matches (t :: ts) (c :: s)
  | star0 (ts : List Tok) (s : Str) : Matches ts s → Matches (.star :: ts) s
  | star1 (ts : List Tok) (c : Char) (s : Str) : Matches (.star :: ts) s → Matches (.star :: ts) (c :: s)

theorem Item.has_iff (c : Char) (it : Item) : it.has c = true ↔ it.Covers c := by
  cases it <;> simp [Item.has, Item.Covers]

theorem Tok.accepts_iff (c : Char) (t : Tok) : t.accepts c = true ↔ t.Accepts c := by
  cases t with
  | star => simp [Tok.accepts, Tok.Accepts]
  | any => simp [Tok.accepts, Tok.Accepts]
  | lit a => simp [Tok.accepts, Tok.Accepts]
  | set neg items =>
    have h : items.any (Item.has c) = true ↔ ∃ it ∈ items, it.Covers c := by
      simp only [List.any_eq_true, Item.has_iff]
    simp only [Tok.accepts, Tok.Accepts, ← h]
    cases neg <;> cases items.any (Item.has c) <;> decide

theorem anySuffix_iff (f : Str → Bool) (s : Str) :
    anySuffix f s = true ↔ ∃ pre suf, s = pre ++ suf ∧ f suf = true := by
  induction s with
  | nil =>
    simp only [anySuffix]
    constructor
    · intro h; exact ⟨[], [], rfl, h⟩
    · rintro ⟨pre, suf, h, hf⟩
      have : suf = [] := by
        cases pre <;> simp_all
      subst this; exact hf
  | cons c s ih =>
    simp only [anySuffix, Bool.or_eq_true, ih]
    constructor
    · rintro (h | ⟨pre, suf, rfl, hf⟩)
      · exact ⟨[], c :: s, rfl, h⟩
      · exact ⟨c :: pre, suf, rfl, hf⟩
    · rintro ⟨pre, suf, h, hf⟩
      cases pre with
      | nil => left; simp at h; subst h; exact hf
      | cons a pre =>
        right
        simp at h
        exact ⟨pre, suf, h.2, hf⟩

theorem Matches_star_of_suffix (ts : List Tok) (pre suf : Str) (h : Matches ts suf) :
    Matches (.star :: ts) (pre ++ suf) := by
  induction pre with
  | nil => exact Matches.star0 _ _ h
  | cons c pre ih => exact Matches.star1 _ _ _ ih

theorem Matches_star_suffix (ts : List Tok) (s : Str) (h : Matches (.star :: ts) s) :
    ∃ pre suf, s = pre ++ suf ∧ Matches ts suf := by
  generalize hp : Tok.star :: ts = p at h
  induction h with
  | nil => cases hp
  | one t c ts' s' hacc _ _ =>
    cases hp
    exact absurd hacc (by simp [Tok.Accepts])
  | star0 ts' s' hm _ => cases hp; exact ⟨[], s', rfl, hm⟩
  | star1 ts' c s' _ ih =>
    cases hp
    obtain ⟨pre, suf, rfl, hm⟩ := ih rfl
    exact ⟨c :: pre, suf, rfl, hm⟩

theorem Matches_star_iff (ts : List Tok) (s : Str) :
    Matches (.star :: ts) s ↔ ∃ pre suf, s = pre ++ suf ∧ Matches ts suf :=
  ⟨Matches_star_suffix ts s, fun ⟨pre, suf, h, hm⟩ => h ▸ Matches_star_of_suffix ts pre suf hm⟩

theorem Matches_cons_iff (t : Tok) (ht : t ≠ .star) (ts : List Tok) (s : Str) :
    Matches (t :: ts) s ↔ ∃ c r, s = c :: r ∧ t.Accepts c ∧ Matches ts r := by
  constructor
  · intro h
    cases h with
    | one _ c _ r ha hm => exact ⟨c, r, rfl, ha, hm⟩
    | star0 => exact absurd rfl ht
    | star1 => exact absurd rfl ht
  · rintro ⟨c, r, rfl, ha, hm⟩
    exact Matches.one _ _ _ _ ha hm

theorem Matches_cons_cons (t : Tok) (ht : t ≠ .star) (ts : List Tok) (c : Char) (r : Str) :
    Matches (t :: ts) (c :: r) ↔ t.Accepts c ∧ Matches ts r := by
  rw [Matches_cons_iff t ht]
  constructor
  · rintro ⟨c', r', h, ha, hm⟩
    cases h; exact ⟨ha, hm⟩
  · rintro ⟨ha, hm⟩; exact ⟨c, r, rfl, ha, hm⟩

theorem Matches_cons_nil (t : Tok) (ht : t ≠ .star) (ts : List Tok) : ¬ Matches (t :: ts) [] := by
  rw [Matches_cons_iff t ht]
  rintro ⟨c', r', h, _⟩
  cases h

theorem globToks_iff (ts : List Tok) (s : Str) : globToks ts s = true ↔ Matches ts s := by
  induction ts generalizing s with
  | nil =>
    cases s with
    | nil => simp [globToks]; exact Matches.nil
    | cons c r => simp [globToks]; intro h; cases h
  | cons t ts ih =>
    cases t with
    | star =>
      rw [Matches_star_iff]
      simp only [globToks, anySuffix_iff, ih]
    | any =>
      cases s with
      | nil => simp [globToks, Matches_cons_nil]
      | cons c r => rw [Matches_cons_cons _ (by simp)]; simp [globToks, ih, Tok.Accepts]
    | lit a =>
      cases s with
      | nil => simp [globToks, Matches_cons_nil]
      | cons c r => rw [Matches_cons_cons _ (by simp)]; simp [globToks, ih, Tok.accepts_iff]
    | set neg items =>
      cases s with
      | nil => simp [globToks, Matches_cons_nil]
      | cons c r =>
        rw [Matches_cons_cons _ (by simp)]
        simp only [globToks, Bool.and_eq_true, ih, Tok.accepts_iff]

/-- not one of the characters `fnmatch.translate` treats specially -/
def plain (c : Char) : Bool := c != '*' && c != '?' && c != '['

theorem compileAux_plain (n : Nat) (pat : Str) (hn : pat.length ≤ n) (hp : pat.all plain = true) :
    compileAux n pat = pat.map Tok.lit := by
  induction pat generalizing n with
  | nil => cases n <;> simp [compileAux]
  | cons c r ih =>
    cases n with
    | zero => simp at hn
    | succ n =>
      simp only [List.all_cons, Bool.and_eq_true] at hp
      obtain ⟨hc, hr⟩ := hp
      simp only [plain, Bool.and_eq_true, bne_iff_ne, ne_eq] at hc
      obtain ⟨⟨h1, h2⟩, h3⟩ := hc
      simp only [compileAux, beq_iff_eq, h1, h2, h3, if_false, List.map_cons]
      rw [ih n (by simp at hn; omega) hr]

theorem globToks_lits (pat name : Str) : globToks (pat.map Tok.lit) name = true ↔ name = pat := by
  induction pat generalizing name with
  | nil => cases name <;> simp [globToks]
  | cons a r ih =>
    cases name with
    | nil => simp [globToks]
    | cons c s =>
      simp only [List.map_cons, globToks, Tok.accepts, Bool.and_eq_true, beq_iff_eq, ih, List.cons.injEq]
      constructor
      · rintro ⟨h1, h2⟩; exact ⟨h1.symm, h2⟩
      · rintro ⟨h1, h2⟩; exact ⟨h1.symm, h2⟩

/-- the model's search is the library's -/
theorem findIdx?_eq (p : α → Bool) (l : List α) : findIdx? p l = l.findIdx? p := by
  induction l with
  | nil => rfl
  | cons a r ih => simp only [findIdx?, List.findIdx?_cons, ih]

theorem findIdx?_none_iff (p : α → Bool) (l : List α) :
    findIdx? p l = none ↔ ∀ a ∈ l, p a = false := by
  rw [findIdx?_eq]; exact List.findIdx?_eq_none_iff

theorem findIdx?_some_iff (p : α → Bool) (l : List α) (i : Nat) :
    findIdx? p l = some i ↔
      ∃ a, l[i]? = some a ∧ p a = true ∧ ∀ j, j < i → ∀ b, l[j]? = some b → p b = false := by
  rw [findIdx?_eq, List.findIdx?_eq_some_iff_getElem]
  constructor
  · rintro ⟨h, hp, hlt⟩
    refine ⟨l[i], List.getElem?_eq_getElem h, hp, fun j hj b hb => ?_⟩
    obtain ⟨_, rfl⟩ := List.getElem?_eq_some_iff.mp hb
    simpa using hlt j hj
  · rintro ⟨a, ha, hp, hlt⟩
    obtain ⟨h, rfl⟩ := List.getElem?_eq_some_iff.mp ha
    exact ⟨h, hp, fun j hj => by simpa using hlt j hj _ (List.getElem?_eq_getElem (by omega))⟩

theorem getEncoder_eq (encoders targets : List Encoding) :
    getEncoder encoders targets = targets.findSome? fun t => findIdx? (fun e => t.matches e) encoders := by
  induction targets with
  | nil => rfl
  | cons t r ih =>
    rw [getEncoder, List.findSome?_cons, ih]
    cases findIdx? (fun e => t.matches e) encoders with
    | none => rfl
    | some i => rfl

def UniqueKeys (o : Options) : Prop := (o.map (·.1)).Nodup

instance (o : Options) : Decidable (UniqueKeys o) := by unfold UniqueKeys; infer_instance

/-- `dict.get(k)` is the look-up of the key -/
theorem getOpt_eq_lookup (k : Str) (o : Options) : getOpt k o = o.lookup k := by
  induction o with
  | nil => rfl
  | cons x r ih =>
    obtain ⟨k', v'⟩ := x
    rw [getOpt, List.lookup_cons, ih, BEq.comm (a := k')]
    cases k == k' <;> rfl

/-- with unique keys, `dict.get(k) == v` is membership of the pair -/
theorem getOpt_iff_mem (k v : Str) (o : Options) (hu : UniqueKeys o) : getOpt k o = some v ↔ (k, v) ∈ o := by
  rw [getOpt_eq_lookup]
  exact ⟨mem_of_lookup, lookup_of_mem hu⟩

/-- `pdict[name] = value` is assignment in an association list: what a look-up, the keys and the members are afterwards is
`IsSet` of `Lemmas/ListFacts.lean` -/
theorem setOpt_isSet : IsSet setOpt :=
  ⟨fun _ _ => rfl, by intros; simp only [setOpt, beq_iff_eq]⟩

/-- one turn of the parameter loop of `cgi.parse_header` -/
def paramStep (d : Options) (p : Str) : Options :=
  match splitEq p with
  | none => d
  | some (n, v) => setOpt (lower (trim n)) (unquote (trim v)) d

theorem paramDict_unique (parts : List Str) : UniqueKeys (paramDict parts) := by
  suffices h : ∀ d, UniqueKeys d → UniqueKeys (parts.foldl paramStep d) from h [] (by simp [UniqueKeys])
  induction parts with
  | nil => intro d hd; exact hd
  | cons p ps ih =>
    intro d hd
    apply ih
    unfold paramStep
    split
    · exact hd
    · exact setOpt_isSet.keys_nodup hd

theorem splitOn_ne_nil (sep : Char) (s : Str) : splitOn sep s ≠ [] := by
  induction s with
  | nil => simp [splitOn]
  | cons c r ih =>
    simp only [splitOn]
    split
    · simp
    · split <;> simp

theorem splitOn_free (sep : Char) (s : Str) (h : sep ∉ s) : splitOn sep s = [s] := by
  induction s with
  | nil => rfl
  | cons c r ih =>
    have hc : c ≠ sep := fun e => h (by simp [e])
    have hr : sep ∉ r := fun e => h (List.mem_cons_of_mem _ e)
    simp [splitOn, hc, ih hr]

theorem splitOn_append (sep : Char) (a b : Str) (h : sep ∉ a) :
    splitOn sep (a ++ sep :: b) = a :: splitOn sep b := by
  induction a with
  | nil => simp [splitOn]
  | cons c r ih =>
    have hc : c ≠ sep := fun e => h (by simp [e])
    have hr : sep ∉ r := fun e => h (List.mem_cons_of_mem _ e)
    simp [splitOn, hc, ih hr]

theorem splitOn_join (sep : Char) (cells : List Str) (hne : cells ≠ []) (h : ∀ c ∈ cells, sep ∉ c) :
    splitOn sep (joinWith sep cells) = cells := by
  induction cells with
  | nil => exact absurd rfl hne
  | cons a r ih =>
    cases r with
    | nil => simp [joinWith, splitOn_free sep a (h a (by simp))]
    | cons b r' =>
      simp only [joinWith]
      rw [splitOn_append sep a _ (h a (by simp))]
      rw [ih (by simp) (fun c hc => h c (List.mem_cons_of_mem _ hc))]

theorem joinWith_splitOn (sep : Char) (s : Str) : joinWith sep (splitOn sep s) = s := by
  induction s with
  | nil => rfl
  | cons c r ih =>
    simp only [splitOn]
    split
    · rename_i hc
      have : c = sep := by simpa using hc
      subst this
      cases hs : splitOn c r with
      | nil => exact absurd hs (splitOn_ne_nil c r)
      | cons p ps => rw [hs] at ih; simp [joinWith, ih]
    · cases hs : splitOn sep r with
      | nil => exact absurd hs (splitOn_ne_nil sep r)
      | cons p ps =>
        rw [hs] at ih
        cases ps with
        | nil => simp [joinWith] at ih ⊢; exact ih
        | cons p2 ps2 => simp only [joinWith] at ih ⊢; rw [← ih]; rfl

theorem joinWith_free (sep x : Char) (hx : x ≠ sep) (cells : List Str) (h : ∀ c ∈ cells, x ∉ c) :
    x ∉ joinWith sep cells := by
  induction cells with
  | nil => simp [joinWith]
  | cons a r ih =>
    cases r with
    | nil => simpa [joinWith] using h a (by simp)
    | cons b r' =>
      simp only [joinWith, List.mem_append, List.mem_cons, not_or]
      exact ⟨h a (by simp), hx, ih (fun c hc => h c (List.mem_cons_of_mem _ hc))⟩

theorem splitOn_lines (lines : List Str) (h : ∀ l ∈ lines, '\n' ∉ l) :
    splitOn '\n' (lines.flatMap (fun l => l ++ ['\n'])) = lines ++ [[]] := by
  induction lines with
  | nil => rfl
  | cons a r ih =>
    simp only [List.flatMap_cons, List.append_assoc, List.singleton_append]
    rw [splitOn_append '\n' a _ (h a (by simp)), ih (fun l hl => h l (List.mem_cons_of_mem _ hl))]
    rfl

/-- `n` rounded to a multiple of `m` is off by at most `m / 2`, stated with everything doubled -/
theorem roundDiv_bound (n m half : Nat) (hm : m = 2 * half) (hpos : 0 < m) :
    2 * ((n + half) / m * m) ≤ 2 * n + m ∧ 2 * n < 2 * ((n + half) / m * m) + m + 1 := by
  have hdm := Nat.div_add_mod (n + half) m
  have hlt := Nat.mod_lt (n + half) hpos
  rw [Nat.mul_comm] at hdm
  generalize (n + half) / m * m = rm at *
  generalize (n + half) % m = e at *
  omega

/-- the keys of the items are computed as core's `mapM` in `Except`: left to right, the first error wins -/
theorem rangesOf_eq (items : List Str) : rangesOf items = items.mapM range1 := by
  induction items with
  | nil => rfl
  | cons i is ih => rw [rangesOf, ih, List.mapM_cons]; cases range1 i <;> cases is.mapM range1 <;> rfl

end ForML.Codec
