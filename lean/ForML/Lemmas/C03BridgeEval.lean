/-
C03 ↔ C01 bridge: C01's direct evaluation `Flow.Segment.nodeVal` of the translated segment agrees with the certified
valuation of the composition graph (`World`, hence with `Compose.eval`) on every evaluable member and on every trained
fork.

`BridgeHyp` holds what this needs: the certified valuation without open holes, C01's `WF` of the translated segment, the
bookkeeping of the recorded trainings that `Graph.trainsOK` decides, truthy states (`tags`: the members' actor symbols
below `Flow.falsyBase`, written as the literal `1000`), and what the asset accessor holds for the groups whose trainer
is / is not a member (`stored1`, `stored2`).
-/
import ForML.Lemmas.C03BridgeSeg
import ForML.Lemmas.C03Spec
import ForML.Lemmas.C01Sem

namespace ForML.Compose
open ForML

/-- the fuel left for a publisher of rank `a` below a member of rank `k`: two units per level -/
theorem fuel_lt {a k F : Nat} (h : a < k) (hF : 2 * k + 1 < F + 1) : 2 * a + 2 < F := by omega

structure BridgeHyp (g : Graph) (W : World) (M : List Nat) (head tl : Nat) (A : Option Flow.Assets) (rank : Nat → Nat) :
    Prop where
  inv : Inv g W
  wired : Wired g
  noOpen : ∀ n, W.live n → ¬ g.isOpen n
  wf : Flow.Segment.WF (segmentOn g M head tl) rank
  headSrc : ∃ gid a o, g.kindOf head = some (.worker gid a 0 o)
  trainLive : ∀ T ∈ g.trains, W.live T.train.node ∧ W.live T.label.node
  gidNodup : g.trains.Pairwise (fun a b => a.gid ≠ b.gid)
  trainKind : ∀ T ∈ g.trains, ∃ o, g.kindOf T.node = some (.worker T.gid T.actor 1 o)
  trainNoIn : ∀ T ∈ g.trains, ∀ k, g.inputOf T.node k = none
  trainIn : ∀ T ∈ g.trains, T.node ∈ M →
    (∀ x, g.resolve g.resolveFuel T.train = some x → x.node ∈ M) ∧ (∀ y, g.resolve g.resolveFuel T.label = some y → y.node ∈ M)
  /-- the trained fork of a group has the actor of the group -/
  groupActor : ∀ n gid a i o T, g.kindOf n = some (.worker gid a i o) → g.trainerOf gid = some T → T.actor = a
  tags : ∀ w ∈ (segmentOn g M head tl).workers, w.actor < 1000
  stored1 : ∀ gid, (∀ T, g.trainerOf gid = some T → T.node ∈ M) → (Flow.Segment.storedState A gid).asState = .none
  stored2 : ∀ gid T, g.trainerOf gid = some T → T.node ∉ M →
    (∃ w ∈ (segmentOn g M head tl).workers, w.gid = gid ∧ w.stateful = true) →
    (Flow.Segment.storedState A gid).asState = conv (trainedUnder W T).2

section
variable {g : Graph} {W : World} {M : List Nat} {head tl : Nat} {A : Option Flow.Assets} {rank : Nat → Nat}

theorem trainerOf_of_mem (hnd : g.trains.Pairwise (fun a b => a.gid ≠ b.gid)) {T : Training} (hT : T ∈ g.trains) :
    g.trainerOf T.gid = some T := by
  unfold Graph.trainerOf
  generalize g.trains = l at hnd hT
  induction hnd with
  | nil => cases hT
  | cons hx _ ih =>
    rcases List.mem_cons.mp hT with rfl | hT
    · exact List.find?_cons_of_pos (h := beq_self_eq_true _)
    · rw [List.find?_cons_of_neg (by simpa using hx _ hT), ih hT]

/-- C01 models the truthiness test a state passes before it is set (`Preset.reduce`: `if value:`, `Val.asState`). The
state an actor symbol below `Flow.falsyBase` (= 1000) trains is truthy, so the applied forks of the group receive it as
it is. -/
theorem asState_trained {T : Training} (h : T.actor.tag < Flow.falsyBase) :
    (conv (trainedUnder W T).2).asState = conv (trainedUnder W T).2 := by
  have h0 : T.actor.tag / (2 * 1000) % 2 = 0 := by rw [Nat.div_eq_of_lt (Nat.lt_of_lt_of_le h (by decide))]
  simp [trainedUnder, conv, Flow.Val.asState, Flow.Val.truthy, Flow.Actor.falsyState, Flow.falsyBase, h0]

variable (H : BridgeHyp g W M head tl A rank)
include H

theorem BridgeHyp.worker {n gid : Nat} {a : Actor} {i o : Nat} (hM : n ∈ M) (hk : g.kindOf n = some (.worker gid a i o)) :
    (⟨n, gid, a.tag, a.stateful, i, o⟩ : Flow.Worker) ∈ (segmentOn g M head tl).workers ∧
      (segmentOn g M head tl).worker? n = some ⟨n, gid, a.tag, a.stateful, i, o⟩ := by
  have hm : (⟨n, gid, a.tag, a.stateful, i, o⟩ : Flow.Worker) ∈ (segmentOn g M head tl).workers :=
    mem_seg_workers.mpr ⟨mem_allWorkers.mpr ⟨H.inv.bounded.uid_lt hk, by rw [hk]⟩, hM⟩
  exact ⟨hm, Flow.Segment.worker?_of_mem H.wf.nodup hm⟩

theorem BridgeHyp.live_not_trained {n : Nat} (hl : W.live n) : (segmentOn g M head tl).trained n = false := by
  cases h : (segmentOn g M head tl).trained n with
  | false => rfl
  | true =>
    exfalso
    obtain ⟨T, hT, hn⟩ := trained_seg h
    obtain ⟨o, hk⟩ := H.trainKind T hT
    have hg := H.inv.good n hl
    unfold GoodNode at hg
    rw [← hn, hk] at hg
    obtain ⟨ins, hins, _⟩ := hg
    have := (hins 0 Nat.zero_lt_one).1
    rw [H.trainNoIn T hT 0] at this
    cases this

/-- the two subscriptions of a trained fork that is a member: what its `Train` / `Label` publishers stand for -/
theorem BridgeHyp.train_edges {T : Training} (hT : T ∈ g.trains) (hM : T.node ∈ M) :
    ∃ x y, g.resolve g.resolveFuel T.train = some x ∧ g.resolve g.resolveFuel T.label = some y ∧
      (⟨x.node, x.idx, T.node, .train⟩ : Flow.Edge) ∈ (segmentOn g M head tl).edges ∧
      (⟨y.node, y.idx, T.node, .label⟩ : Flow.Edge) ∈ (segmentOn g M head tl).edges := by
  obtain ⟨lx, ly⟩ := H.trainLive T hT
  obtain ⟨x, hx, _⟩ := resolve_live' H.inv H.noOpen T.train lx
  obtain ⟨y, hy, _⟩ := resolve_live' H.inv H.noOpen T.label ly
  obtain ⟨mx, my⟩ := H.trainIn T hT hM
  exact ⟨x, y, hx, hy, mem_seg_edges.mpr ⟨Or.inr (mem_trainEdges.mpr ⟨T, hT, x, y, hx, hy, Or.inl rfl⟩), mx x hx, hM⟩,
    mem_seg_edges.mpr ⟨Or.inr (mem_trainEdges.mpr ⟨T, hT, x, y, hx, hy, Or.inr rfl⟩), my y hy, hM⟩⟩

theorem BridgeHyp.trained_is {w : Flow.Worker} (hw : w ∈ (segmentOn g M head tl).workers)
    (htr : (segmentOn g M head tl).trained w.uid = true) : ∃ T, g.trainerOf w.gid = some T ∧ T.node = w.uid := by
  obtain ⟨T, hT, hn⟩ := trained_seg htr
  obtain ⟨o, hk⟩ := H.trainKind T hT
  have hkw := (mem_allWorkers.mp (mem_seg_workers.mp hw).1).2
  rw [← hn, hk] at hkw
  have hgid : T.gid = w.gid := by injection hkw with h; injection h
  exact ⟨T, hgid ▸ trainerOf_of_mem H.gidNodup hT, hn⟩

theorem BridgeHyp.seg_trainerOf_none {gid : Nat} (h : ∀ T, g.trainerOf gid = some T → T.node ∉ M) :
    (segmentOn g M head tl).trainerOf gid = none := by
  cases ht : (segmentOn g M head tl).trainerOf gid with
  | none => rfl
  | some t =>
    obtain ⟨ht1, ht2, ht3⟩ := Flow.Segment.trainerOf_some ht
    obtain ⟨T, hT, hn⟩ := H.trained_is ht1 ht3
    rw [ht2] at hT
    exact absurd (hn ▸ (mem_seg_workers.mp ht1).2) (h T hT)

theorem BridgeHyp.seg_trainerOf_some {gid : Nat} {T : Training} (hT : g.trainerOf gid = some T) (hM : T.node ∈ M) :
    ∃ t, (segmentOn g M head tl).trainerOf gid = some t ∧ t.uid = T.node := by
  obtain ⟨hTm, rfl⟩ := trainerOf_eq_some hT
  obtain ⟨x, y, _, _, hex, _⟩ := H.train_edges hTm hM
  have htr : (segmentOn g M head tl).trained T.node = true := Flow.Segment.trained_iff.mpr ⟨_, hex, rfl, rfl⟩
  obtain ⟨o, hk⟩ := H.trainKind T hTm
  have hwm := (H.worker hM hk).1
  exact ⟨_, Flow.trainerOf_trainer H.wf hwm (Flow.isTrainer_of_trained H.wf hwm htr), rfl⟩

theorem BridgeHyp.input {n gid : Nat} {a : Actor} {szin szout k : Nat} {q0 : PubRef} (hl : W.live n) (hM : n ∈ M)
    (hk : g.kindOf n = some (.worker gid a szin szout)) (hks : k < szin) (hin : g.inputOf n k = some q0)
    (hq0 : W.live q0.node) :
    ∃ q, g.resolve g.resolveFuel q0 = some q ∧ q.node ∈ M ∧
      (segmentOn g M head tl).publisher n (.apply k) = some ⟨q.node, q.idx, n, .apply k⟩ := by
  obtain ⟨q, hr, _⟩ := resolve_live' H.inv H.noOpen q0 hq0
  have hwm := (H.worker hM hk).1
  -- the head has no input port
  have hne : ¬ n = (segmentOn g M head tl).head := by
    intro e
    obtain ⟨gid', a', o', hh⟩ := H.headSrc
    rw [← show n = head from e, hk] at hh
    cases hh
    exact absurd hks (Nat.not_lt_zero k)
  -- so port `k` is subscribed inside the segment, by the recorded subscription of that port
  obtain ⟨e, hpe⟩ := (H.wf.appliedOK hwm (H.live_not_trained hl)).full hne k hks
  obtain ⟨he, hes, hep⟩ := Flow.Segment.publisher_some hpe
  obtain ⟨ge, hge, hsub, hport, q', hr', hee⟩ := seg_edge_apply he hep
  have hkey := H.wired.keys ge hge
  rw [hsub, hes, hport, hin] at hkey
  obtain rfl : q' = q := Option.some.inj (hr'.symm.trans ((Option.some.inj hkey) ▸ hr))
  rw [hes] at hee
  have hpM := (mem_seg_edges.mp he).2.1
  rw [hee] at hpe hpM
  exact ⟨q', hr, hpM, hpe⟩

end

/-- what `BridgeHyp.node` proves of a member `n`, by induction on its rank -/
def NodeStmt (g : Graph) (W : World) (M : List Nat) (head tl : Nat) (A : Option Flow.Assets) (n : Nat) : Prop :=
  ∀ gid a szin szout, g.kindOf n = some (.worker gid a szin szout) →
    ∃ out, (∀ i, W.σ ⟨n, i⟩ = portVal szout i out) ∧
      ∀ F, 2 * W.h n + 2 < F → (segmentOn g M head tl).nodeVal A F n = conv out

section
variable {g : Graph} {W : World} {M : List Nat} {head tl : Nat} {A : Option Flow.Assets} {rank : Nat → Nat}
variable (H : BridgeHyp g W M head tl A rank)
include H

/-- what C01 reads on a subscription of the segment whose publisher, seen through the bound futures, is `q0`: the
certified value of `q0` -/
theorem BridgeHyp.pubVal (k : Nat) (ih : ∀ n, W.live n → n ∈ M → W.h n < k → NodeStmt g W M head tl A n) {q0 q : PubRef}
    (hl : W.live q0.node) (hk : W.h q0.node < k) (hr : g.resolve g.resolveFuel q0 = some q) (hM : q.node ∈ M) {F : Nat}
    (hF : 2 * k + 1 < F + 1) (sub : Nat) (p : Flow.InPort) :
    Flow.Segment.portValOf (segmentOn g M head tl) ((segmentOn g M head tl).nodeVal A F) ⟨q.node, q.idx, sub, p⟩ =
      conv (W.σ q0) := by
  obtain ⟨q', hr', ⟨gq, aq, iq, oq, hkq⟩, hlq, hσq, hhq⟩ := resolve_live' H.inv H.noOpen q0 hl
  obtain rfl : q' = q := Option.some.inj (hr'.symm.trans hr)
  have hqk := Nat.lt_of_le_of_lt hhq hk
  obtain ⟨out, hout, hv⟩ := ih q'.node hlq hM hqk gq aq iq oq hkq
  unfold Flow.Segment.portValOf
  simp only [(H.worker hM hkq).2, hv F (fuel_lt hqk hF)]
  rw [← hσq, show W.σ q' = portVal oq q'.idx out from hout q'.idx, conv_portVal]

/-- a trained fork that is a member evaluates to the state it trains, once its publishers are done -/
theorem BridgeHyp.trainer (k : Nat) (ih : ∀ n, W.live n → n ∈ M → W.h n < k → NodeStmt g W M head tl A n)
    {T : Training} (hT : T ∈ g.trains) (hM : T.node ∈ M) (hx : W.h T.train.node < k) (hy : W.h T.label.node < k) :
    ∀ F, 2 * k + 1 < F → (segmentOn g M head tl).nodeVal A F T.node = conv (trainedUnder W T).2 := by
  intro F hF
  obtain ⟨F', rfl⟩ := Nat.exists_eq_add_one_of_ne_zero (Nat.ne_zero_of_lt hF)
  obtain ⟨o, hk⟩ := H.trainKind T hT
  obtain ⟨hwm, hw⟩ := H.worker hM hk
  obtain ⟨lx, ly⟩ := H.trainLive T hT
  obtain ⟨x, y, hrx, hry, hex, hey⟩ := H.train_edges hT hM
  have htr : (segmentOn g M head tl).trained T.node = true :=
    Flow.Segment.trained_iff.mpr ⟨_, hex, rfl, rfl⟩
  have hprev : (Flow.Segment.storedState A T.gid).asState = .none := by
    apply H.stored1
    intro T' hT'
    rw [trainerOf_of_mem H.gidNodup hT] at hT'
    cases hT'
    exact hM
  have hst : T.actor.stateful = true := (H.wf.trainedOK hwm htr).stateful
  rw [Flow.Segment.nodeVal_trained hw htr (Flow.publisher_eq H.wf hex) (Flow.publisher_eq H.wf hey),
    H.pubVal k ih lx hx hrx (mem_seg_edges.mp hex).2.1 hF, H.pubVal k ih ly hy hry (mem_seg_edges.mp hey).2.1 hF]
  simp only [hst, if_true, hprev, trainedUnder, conv]

/-- **evaluable members**: direct evaluation of the translated segment yields the certified value -/
theorem BridgeHyp.node : ∀ (k n : Nat), W.h n < k → W.live n → n ∈ M → NodeStmt g W M head tl A n := by
  intro k
  induction k with
  | zero => intro n h; exact absurd h (Nat.not_lt_zero _)
  | succ k ihk =>
    intro n hnk hl hM gid a szin szout hk
    have ih : ∀ m, W.live m → m ∈ M → W.h m < W.h n → NodeStmt g W M head tl A m :=
      fun m hlm hMm hlt => ihk m (Nat.lt_of_lt_of_le hlt (Nat.le_of_lt_succ hnk)) hlm hMm
    have hg := H.inv.good n hl
    unfold GoodNode at hg
    simp only [hk] at hg
    obtain ⟨ins, hins, st, hst, hσ⟩ := hg
    obtain ⟨hwm, hw⟩ := H.worker hM hk
    have hnt := H.live_not_trained hl
    refine ⟨.apply a.tag st ((List.range szin).map (fun j => W.σ (ins j))), hσ, ?_⟩
    intro F hF
    obtain ⟨F', rfl⟩ := Nat.exists_eq_add_one_of_ne_zero (Nat.ne_zero_of_lt hF)
    have hargs : (List.range szin).filterMap (fun i => ((segmentOn g M head tl).publisher n (.apply i)).map
        (Flow.Segment.portValOf (segmentOn g M head tl) ((segmentOn g M head tl).nodeVal A F'))) =
        (List.range szin).map (fun j => conv (W.σ (ins j))) := by
      rw [← List.filterMap_eq_map]
      apply filterMap_congr
      intro j hj
      have hj' : j < szin := List.mem_range.mp hj
      obtain ⟨hin, hql, hqh⟩ := hins j hj'
      obtain ⟨q, hr, hqM, hpub⟩ := H.input hl hM hk hj' hin hql
      rw [hpub, Option.map_some, H.pubVal (W.h n) ih hql hqh hr hqM (Nat.lt_of_succ_lt hF)]
      rfl
    have hstate : (if !a.stateful then Flow.Val.none
        else match (segmentOn g M head tl).trainerOf gid with
          | some t => ((segmentOn g M head tl).nodeVal A F' t.uid).asState
          | none => (Flow.Segment.storedState A gid).asState) = conv st := by
      rcases hst.cases with ⟨rfl, hs | hn⟩ | ⟨T, htg, hsf, ⟨lx, hx⟩, ⟨ly, hy⟩, rfl⟩
      · rw [hs]; rfl
      · rw [H.seg_trainerOf_none (fun T hT => nomatch hn.symm.trans hT),
          H.stored1 gid (fun T hT => nomatch hn.symm.trans hT)]
        exact ite_self _
      · have hconv : conv (.state a.tag .none (W.σ T.train) (W.σ T.label)) = conv (trainedUnder W T).2 := by
          rw [← H.groupActor n gid a szin szout T hk htg]; rfl
        rw [hconv, hsf]
        simp only [Bool.not_true, Bool.false_eq_true, if_false]
        by_cases hTM : T.node ∈ M
        · -- the trainer is a member: its value, which the applied forks of the group receive unchanged
          obtain ⟨hTm, _⟩ := trainerOf_eq_some htg
          obtain ⟨o', hk'⟩ := H.trainKind T hTm
          obtain ⟨t, ht, htu⟩ := H.seg_trainerOf_some htg hTM
          rw [ht]
          simp only [htu, H.trainer (W.h n) ih hTm hTM hx hy F' (Nat.lt_of_succ_lt_succ hF)]
          exact asState_trained (H.tags _ (H.worker hTM hk').1)
        · -- the trainer is outside: the stored state
          rw [H.seg_trainerOf_none (fun T' hT' => by rw [htg] at hT'; cases hT'; exact hTM)]
          exact H.stored2 gid T htg hTM ⟨_, hwm, rfl, hsf⟩
    rw [Flow.Segment.nodeVal_applied hw hnt, hargs]
    simp only [conv, convL_eq_map, List.map_map]
    exact congrArg (Flow.Val.apply a.tag · _) hstate

end

end ForML.Compose
