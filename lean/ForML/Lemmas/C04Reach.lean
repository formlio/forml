/-
`Comp.visit` (the model of `Traversal.each`) lists the reachable part of the segment: no
node twice, the head, everything the subscriptions `each` follows (`Comp.next`) lead to from a listed node, and
only nodes reachable from the head over them (`visit_spec`).  The order of the list is not characterised here.
-/
import ForML.Lemmas.C04Fuel
import ForML.Lemmas.ListFacts

namespace ForML.Persist

namespace Comp

/-- reachable from `h` over the subscriptions `Traversal.each` follows (at the tail only trained subscribers) -/
inductive Reach (c : Comp) (t h : Nat) : Nat → Prop where
  | refl : Reach c t h h
  | step {u v : Nat} : Reach c t h u → v ∈ c.next t u → Reach c t h v

theorem dfs_seen_sub (c : Comp) (t f : Nat) (stack seen : List Nat) {x : Nat} (hx : x ∈ seen) :
    x ∈ c.dfs t f stack seen := by
  fun_induction dfs c t f stack seen with
  | case1 | case2 => exact hx
  | case3 _ _ _ _ _ ih => exact ih hx
  | case4 _ _ _ _ _ ih => exact ih (List.mem_append_left _ hx)

/-- with enough fuel the result contains the stack and is closed under `next` -/
theorem dfs_closed (c : Comp) (t f : Nat) (stack seen : List Nat) (hp : c.potential stack seen ≤ f)
    (hinv : ∀ u ∈ seen, ∀ v ∈ c.next t u, v ∈ seen ∨ v ∈ stack) :
    (∀ u ∈ stack, u ∈ c.dfs t f stack seen) ∧
      ∀ u ∈ c.dfs t f stack seen, ∀ v ∈ c.next t u, v ∈ c.dfs t f stack seen := by
  fun_induction dfs c t f stack seen with
  | case1 stack seen =>
    obtain rfl : stack = [] := List.eq_nil_of_length_eq_zero (by simp only [potential] at hp; omega)
    exact ⟨nofun, fun u hu v hv => (hinv u hu v hv).resolve_right List.not_mem_nil⟩
  | case2 _ seen => exact ⟨nofun, fun u hu v hv => (hinv u hu v hv).resolve_right List.not_mem_nil⟩
  | case3 f x rest seen hx ih =>
    have hx' : x ∈ seen := List.contains_iff_mem.mp hx
    have := ih (by simp only [potential, List.length_cons] at hp ⊢; omega) fun u hu v hv =>
      (hinv u hu v hv).elim .inl fun h => (List.mem_cons.mp h).elim (fun e => .inl (e ▸ hx')) .inr
    exact ⟨List.forall_mem_cons.mpr ⟨dfs_seen_sub c t f rest seen hx', this.1⟩, this.2⟩
  | case4 f x rest seen hx ih =>
    have := ih (by have := potential_push c t x rest seen (by simpa using hx); omega) fun u hu v hv => by
      rcases List.mem_append.mp hu with hu | hu
      · rcases hinv u hu v hv with h | h
        · exact .inl (List.mem_append_left _ h)
        · exact (List.mem_cons.mp h).elim (fun e => .inl (by simp [e])) fun h => .inr (List.mem_append_right _ h)
      · exact .inr (List.mem_append_left _ (List.mem_singleton.mp hu ▸ hv))
    exact ⟨List.forall_mem_cons.mpr ⟨dfs_seen_sub c t f _ _ (by simp), fun u hu => this.1 u (List.mem_append_right _ hu)⟩,
      this.2⟩

theorem dfs_nodup (c : Comp) (t f : Nat) (stack seen : List Nat) (h : seen.Nodup) : (c.dfs t f stack seen).Nodup := by
  fun_induction dfs c t f stack seen with
  | case1 | case2 => exact h
  | case3 _ _ _ _ _ ih => exact ih h
  | case4 _ u _ seen hu ih =>
    exact ih (nodup_snoc.mpr ⟨h, fun ha => hu (List.contains_iff_mem.mpr ha)⟩)

theorem dfs_reach (c : Comp) (t h f : Nat) (stack seen : List Nat) (hst : ∀ u ∈ stack, Reach c t h u)
    (hseen : ∀ u ∈ seen, Reach c t h u) : ∀ u ∈ c.dfs t f stack seen, Reach c t h u := by
  fun_induction dfs c t f stack seen with
  | case1 | case2 => exact hseen
  | case3 _ _ _ _ _ ih => exact ih (fun v hv => hst v (List.mem_cons_of_mem _ hv)) hseen
  | case4 _ x rest seen _ ih =>
    have hx := hst x List.mem_cons_self
    refine ih (fun v hv => ?_) (fun v hv => ?_)
    · exact (List.mem_append.mp hv).elim (Reach.step hx) fun h' => hst v (List.mem_cons_of_mem _ h')
    · exact (List.mem_append.mp hv).elim (hseen v) fun h' => List.mem_singleton.mp h' ▸ hx

theorem visit_spec (c : Comp) (h t : Nat) :
    (c.visit h t).Nodup ∧ (∀ v, v ∈ c.visit h t ↔ Reach c t h v) := by
  have hclosed := dfs_closed c t c.fuel [h] [] (potential_init c h) nofun
  refine ⟨dfs_nodup c t c.fuel [h] [] List.nodup_nil, fun v => ⟨?_, fun hr => ?_⟩⟩
  · exact dfs_reach c t h c.fuel [h] [] (fun u hu => List.mem_singleton.mp hu ▸ Reach.refl) nofun v
  · induction hr with
    | refl => exact hclosed.1 h List.mem_cons_self
    | step _ hv ih => exact hclosed.2 _ ih _ hv

end Comp

end ForML.Persist
