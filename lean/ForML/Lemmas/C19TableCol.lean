/-
Whole columns through the `text/csv` writer and the reader's type inference. One statement over the column `k` the inference
settles on (`column_read`): every cell is written as a fit text for `k` (`Fit`, of which `NumCell` is the case of numbers),
and the inference comes to `k`. The kinds are its instances: `cell_fit` for the cells, `inferKind_fit` and the verdict of
text columns for the inference.
-/
import ForML.Lemmas.C19TableCsv

namespace ForML.Codec

/-- the column the reader is to make of a column of the kind -/
def Kind.inferred : Kind → Inferred
  | .int | .float => .numbers
  | .bool => .bools
  | .str => .texts

/-- the rung a field by itself belongs to: it passes the test of the rung and is refused by the rungs before (the last rung
takes what is left of the column, which no single field decides) -/
def looksLike : Inferred → Str → Bool
  | .numbers, f => looksNumber f
  | .bools, f => looksBool f && !looksNumber f
  | .texts, _ => true

/-- what the reader makes of a present field once the inference has settled on `k` -/
def readAs : Inferred → Str → Val
  | .numbers, f => readNumber f
  | .bools, f => .bool (lower f == "true".toList)
  | .texts, f => .text f

theorem readColumn_eq (fields : List Str) :
    readColumn fields = fields.map fun f => if isNA f then .null else readAs (inferKind fields) f := by
  unfold readColumn
  cases inferKind fields <;> rfl

theorem present_all (p : Str → Bool) (fields : List Str) :
    (fields.filter (fun f => !isNA f)).all p = true ↔ ∀ f ∈ fields, isNA f = false → p f = true := by
  simp only [List.all_eq_true, List.mem_filter, Bool.not_eq_true', and_imp]

/-- first rung: every present field is a number -/
theorem inferKind_numbers (fields : List Str) (h : ∀ f ∈ fields, isNA f = false → looksNumber f = true) :
    inferKind fields = .numbers := by
  unfold inferKind
  simp only [(present_all _ _).mpr h, if_true]

/-- second rung: every present field is a boolean that the first rung refuses, and there is one -/
theorem inferKind_bools (fields : List Str) (h : ∀ f ∈ fields, isNA f = false → looksLike .bools f = true)
    (f₀ : Str) (hf : f₀ ∈ fields) (hna : isNA f₀ = false) : inferKind fields = .bools := by
  simp only [looksLike, Bool.and_eq_true, Bool.not_eq_true'] at h
  have hn : (fields.filter (fun f => !isNA f)).all looksNumber = false :=
    Bool.eq_false_iff.mpr fun hall => by
      have := (h f₀ hf hna).2
      rw [(present_all _ _).mp hall f₀ hf hna] at this; cases this
  unfold inferKind
  simp only [hn, (present_all _ _).mpr fun f hf hna => (h f hf hna).1, Bool.false_eq_true, if_false, if_true]

/-- `f` is a fit text for the cell `v` of a column read as `k` (`NumCell` is the case of numbers): empty for a missing cell,
otherwise no missing-value marker, of the rung `k` by itself, and read back by the reader of `k` as the same value -/
def Fit (k : Inferred) (v : Val) (f : Str) : Prop :=
  (v = .null ∧ f = []) ∨ (isNA f = false ∧ looksLike k f = true ∧ (readAs k f).same v = true)

theorem Fit.looks {k : Inferred} {v : Val} {f : Str} (h : Fit k v f) (hna : isNA f = false) : looksLike k f = true := by
  rcases h with ⟨_, rfl⟩ | ⟨_, h, _⟩
  · rw [isNA_nil] at hna; cases hna
  · exact h

theorem Fit.read {k : Inferred} {v : Val} {f : Str} (h : Fit k v f) :
    (if isNA f then Val.null else readAs k f).same v = true := by
  rcases h with ⟨rfl, rfl⟩ | ⟨hna, _, hs⟩
  · rw [isNA_nil]; rfl
  · rw [hna]; exact hs

/-- **one column, any kind**: cells written as fit texts for `k`, on which the inference settles on `k`, come back cell by
cell as the same values -/
theorem column_read (k : Inferred) (cells : List Val) (render : Val → Str) (hfit : ∀ v ∈ cells, Fit k v (render v))
    (hk : inferKind (cells.map render) = k) : sameCells (readColumn (cells.map render)) cells = true := by
  rw [readColumn_eq, hk, List.map_map]
  exact sameCells_map _ _ fun v hv => (hfit v hv).read

theorem fit_looks {k : Inferred} {cells : List Val} {render : Val → Str} (hfit : ∀ v ∈ cells, Fit k v (render v)) :
    ∀ f ∈ cells.map render, isNA f = false → looksLike k f = true := by
  intro f hf hna
  obtain ⟨v, hv, rfl⟩ := List.mem_map.mp hf
  exact (hfit v hv).looks hna

/-- a column of fit texts for numbers or for booleans with a present cell: the inference settles on that -/
theorem inferKind_fit (k : Inferred) (hk : k ≠ .texts) (cells : List Val) (render : Val → Str)
    (hfit : ∀ v ∈ cells, Fit k v (render v)) (hnn : cells.any (· != .null) = true) : inferKind (cells.map render) = k := by
  cases k with
  | numbers => exact inferKind_numbers _ (fit_looks hfit)
  | bools =>
    obtain ⟨v, hv, hvn⟩ := List.any_eq_true.mp hnn
    rcases hfit v hv with ⟨rfl, _⟩ | ⟨hna, _⟩
    · simp at hvn
    · exact inferKind_bools _ (fit_looks hfit) _ (List.mem_map_of_mem hv) hna
  | texts => exact absurd rfl hk

/-- the two texts of booleans, by evaluation -/
theorem boolCell_fit (a b : Bool) : Fit .bools (.bool b) (csvCell a (.bool b)) := by
  show Fit .bools (.bool b) (csvCell false (.bool b))
  unfold Fit isNA
  rw [naValues_eq]
  cases b <;> decide +kernel

/-- what the writer writes for a cell of the kind is a fit text for the column the reader is to make of the kind (a text cell:
unless it is a missing-value marker) -/
theorem cell_fit (k : Kind) (a : Bool) (v : Val) (hof : Val.ofKind k v = true) (hna : k = .str → ∀ s, v = .text s → isNA s = false) :
    Fit k.inferred v (csvCell a v) := by
  revert hof hna
  fun_cases Val.ofKind k v <;> intro hof hna
  · exact Or.inl ⟨rfl, rfl⟩
  · cases a
    · exact numCell_int _
    · exact numCell_int_float _
  · exact numCell_float _ _
  · exact Or.inr ⟨hna rfl _ rfl, rfl, by simp [readAs, Kind.inferred, csvCell, Val.same]⟩
  · exact boolCell_fit _ _
  · cases hof

/-- every cell of a column is written as a fit text for the column the reader is to make of it -/
theorem column_fit (c : Column) (hcells : c.cells.all (Val.ofKind c.kind) = true) (hs : c.kind = .str → c.csvTextKept = true) :
    ∀ v ∈ c.cells, Fit c.kind.inferred v (csvCell (c.kind == .int && c.hasNull) v) := by
  intro v hv
  refine cell_fit _ _ v (List.all_eq_true.mp hcells v hv) fun hk s e => ?_
  -- the verdict of a text column says that no cell is a marker
  have hkept := hs hk
  unfold Column.csvTextKept at hkept
  simp only [Bool.and_eq_true, Bool.not_eq_true'] at hkept
  simpa using List.any_eq_false.mp hkept.1 s (List.mem_filterMap.mpr ⟨v, hv, by rw [e]⟩)

/-- one column: what the reader's inference makes of the written fields is the column, cell by cell the same value -/
theorem column_csv (c : Column) (hcells : c.cells.all (Val.ofKind c.kind) = true) (hnn : c.cells.any (· != .null) = true)
    (hs : c.kind = .str → c.csvTextKept = true) : sameCells (readColumn c.csvTexts) c.cells = true := by
  have hfit := column_fit c hcells hs
  refine column_read _ _ _ hfit ?_
  -- numbers and booleans settle the inference by themselves; for texts the verdict says that it comes to them
  cases hk : c.kind with
  | str =>
    have hkept := hs hk
    unfold Column.csvTextKept at hkept
    simp only [Bool.and_eq_true, beq_iff_eq] at hkept
    exact hkept.2
  | _ => rw [hk] at hfit; exact inferKind_fit _ (by decide) _ _ hfit hnn

end ForML.Codec
