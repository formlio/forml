/-
Several writers: every path named `<sid>.bin` — staged or inside a generation — is a plain file, in every tree the
registry code can leave (needed once `dump` and `commit` are separate history steps: a commit moves whatever other steps
have staged).
-/
import ForML.Lemmas.C05Hist

namespace ForML.Registry
open ForML.Fs

def endsState (p : Path) : Bool :=
  match p.getLast? with
  | some (.state _) => true
  | _ => false

/-- every `*.bin` path is a file -/
def StateFiles (fs : Fs) : Prop := ∀ k n, get fs k = some n → endsState k = true → ∃ b, n = .file b

/-- the micro-operations that cannot put a directory at a `*.bin` path -/
def OpSF : Op → Prop
  | .mkdir p => endsState p = false
  | .rename p q => endsState q = true → endsState p = true
  | _ => True

theorem endsState_append (a r : Path) (hr : r ≠ []) : endsState (a ++ r) = endsState r := by
  unfold endsState
  rw [List.getLast?_append]
  cases h : r.getLast? with
  | none => exact absurd (List.getLast?_eq_none_iff.mp h) hr
  | some x => rfl

theorem StateFiles.mono {fs fs' : Fs} (sf : StateFiles fs) (h : ∀ k n, get fs' k = some n → get fs k = some n) :
    StateFiles fs' :=
  fun k n hg he => sf k n (h k n hg) he

theorem StateFiles.set {fs : Fs} (sf : StateFiles fs) (p : Path) (n : Node)
    (hn : endsState p = true → ∃ b, n = .file b) : StateFiles (set fs p n) := by
  intro k m hg he
  rw [get_set] at hg
  split at hg
  · rename_i hk; cases hg; exact hn (hk ▸ he)
  · exact sf k m hg he

theorem step_stateFiles (fs fs' : Fs) (op : Op) (sf : StateFiles fs) (ok : OpSF op) (h : step fs op = some fs') :
    StateFiles fs' := by
  cases op with
  | mkdir p =>
    obtain ⟨rfl, _⟩ := step_mkdir_inv h
    exact sf.set p _ fun he => by rw [show endsState p = false from ok] at he; cases he
  | createEmpty p => obtain ⟨rfl, _⟩ := step_createEmpty_inv h; exact sf.set p _ fun _ => ⟨_, rfl⟩
  | copyFile p b => obtain ⟨rfl, _⟩ := step_copyFile_inv h; exact sf.set p _ fun _ => ⟨_, rfl⟩
  | append p b => obtain ⟨c, rfl, _⟩ := step_append_inv h; exact sf.set p _ fun _ => ⟨_, rfl⟩
  | rmtree p =>
    obtain rfl | rfl := step_rmtree_inv h
    · refine sf.mono fun k n hg => ?_
      rw [get_rmtree] at hg
      split at hg
      · cases hg
      · exact hg
    · exact sf
  | rename p q =>
    obtain ⟨_, _, ⟨c, rfl, _⟩ | ⟨hp, _, _, _, hall, hget⟩⟩ := step_rename_inv h
    · refine StateFiles.set (sf.mono fun k n hg => ?_) q _ fun _ => ⟨_, rfl⟩
      rw [get_del] at hg
      split at hg
      · cases hg
      · exact hg
    · intro k n hg he
      rw [hget] at hg
      rcases moved_cases hall hg with ⟨_, _, hg'⟩ | ⟨r, rfl, hg'⟩
      · exact sf k n hg' he
      · by_cases hr : r = []
        · -- the moved directory itself would be at a `*.bin` path
          subst hr
          rw [List.append_nil] at he
          obtain ⟨b, hb⟩ := sf p .dir hp (ok he)
          cases hb
        · rw [endsState_append _ _ hr] at he
          exact sf _ n hg' (by rw [endsState_append _ _ hr]; exact he)

theorem run_stateFiles (ops : List Op) (fs fs' : Fs) (sf : StateFiles fs) (ok : ∀ op ∈ ops, OpSF op)
    (h : run fs ops = some fs') : StateFiles fs' := by
  induction ops generalizing fs with
  | nil => cases h; exact sf
  | cons op rest ih =>
    obtain ⟨fs1, h1, h2⟩ := run_cons_some.mp h
    exact ih fs1 (step_stateFiles fs fs1 op sf (ok op List.mem_cons_self) h1)
      (fun o ho => ok o (List.mem_cons_of_mem _ ho)) h2

theorem runSome_stateFiles (L : List Op) (fs : Fs) (sf : StateFiles fs) (ok : ∀ op ∈ L, OpSF op) :
    StateFiles (runSome fs L).1 := by
  obtain ⟨n, hn⟩ := runSome_prefix L fs
  exact run_stateFiles _ fs _ sf (fun op hop => ok op (List.mem_of_mem_take hop)) hn

theorem crashOps_opSF (ops : List Op) (k : Nat) (cut : Option Nat) (ok : ∀ op ∈ ops, OpSF op) :
    ∀ op ∈ crashOps ops k cut, OpSF op := by
  intro op hop
  rcases mem_crashOps hop with h | ⟨_, _, _, rfl, _⟩
  · exact ok op h
  · trivial

theorem atomsAll_opSF (ops : List Op) (ok : ∀ op ∈ ops, OpSF op) : ∀ op ∈ atomsAll ops, OpSF op := by
  intro a ha
  obtain ⟨o, ho, hao⟩ := List.mem_flatMap.mp ha
  rcases mem_atoms hao with ⟨rfl, _⟩ | ⟨p, b, rfl, rfl | rfl⟩
  · exact ok _ ho
  · trivial
  · trivial

theorem mkdirP_opSF (fs : Fs) (path : Path) (hp : ∀ s, Seg.state s ∉ path) : ∀ op ∈ mkdirP fs path, OpSF op := by
  intro op hop
  obtain ⟨q, hq, rfl, _⟩ := mem_mkdirP _ _ _ hop
  show endsState q = false
  cases h : endsState q with
  | false => rfl
  | true =>
    unfold endsState at h
    split at h
    · rename_i s hs
      exact absurd ((mem_prefixes hq).subset (List.mem_of_getLast? hs)) (hp s)
    · cases h

theorem writeOps_opSF (fs : Fs) (p v sid : Nat) (b : Bytes) : ∀ op ∈ writeOps fs p v sid b, OpSF op := by
  intro op hop
  simp only [writeOps, List.mem_append, List.mem_cons, List.not_mem_nil, or_false] at hop
  rcases hop with hop | rfl | rfl
  · exact mkdirP_opSF fs _ (by simp [stageP]) op hop
  · trivial
  · trivial

theorem closeOps_opSF (impl : Impl) (fs : Fs) (p v g : Nat) (t : Tag) : ∀ op ∈ closeOps impl fs p v g t, OpSF op := by
  intro op hop
  simp only [closeOps, List.mem_append, List.mem_map] at hop
  rcases hop with (hop | ⟨s, _, rfl⟩) | hop
  · exact mkdirP_opSF fs _ (by simp [generationP]) op hop
  · intro _; rfl
  · rcases mem_tagWriteOps hop with rfl | rfl | rfl | rfl | rfl
    · trivial
    · trivial
    · intro h; simp [endsState, tagP] at h
    · trivial
    · trivial

theorem pushOps_opSF (impl : Impl) (fs : Fs) (p v : Nat) (pkg : Pkg) : ∀ op ∈ pushOps impl fs p v pkg, OpSF op := by
  have hren : OpSF (Op.rename (packageTmpP p v) (packageP p v)) := fun h => by simp [endsState, packageP] at h
  have hcopy : ∀ (base : Path) (ms : List (Nat × Bytes)),
      ∀ op ∈ ms.map (fun m => Op.copyFile (base ++ [Seg.member m.1]) m.2), OpSF op := fun base ms op ho => by
    obtain ⟨m, _, rfl⟩ := List.mem_map.mp ho; trivial
  intro op hop
  rcases List.mem_append.mp hop with hop | hop
  · exact mkdirP_opSF fs _ (by simp [releaseP]) op hop
  · cases pkg with
    | file b =>
      simp only [packageWriteOps] at hop
      split at hop <;> simp only [List.mem_cons, List.not_mem_nil, or_false] at hop
      · rcases hop with rfl | rfl | rfl
        · trivial
        · trivial
        · exact hren
      · rcases hop with rfl | rfl <;> trivial
    | dir ms =>
      simp only [packageWriteOps] at hop
      split at hop
      · simp only [List.mem_append, List.mem_cons, List.not_mem_nil, or_false] at hop
        rcases hop with (hop | rfl | hop) | rfl
        · unfold rmtreeP at hop
          split at hop
          · cases List.mem_singleton.mp hop; trivial
          · cases hop
        · rfl
        · exact hcopy _ ms op hop
        · exact hren
      · rcases List.mem_cons.mp hop with rfl | hop
        · rfl
        · exact hcopy _ ms op hop

theorem CrashTree.stateFiles {fs x : Fs} {cs : List (Fs → List Op)} (h : CrashTree fs cs x) (sf : StateFiles fs)
    (ok : ∀ c ∈ cs, ∀ f, ∀ op ∈ c f, OpSF op) : StateFiles x := by
  induction h with
  | done => exact sf
  | here fs c rest k cut x hr =>
    exact run_stateFiles _ fs x sf (crashOps_opSF _ k cut (atomsAll_opSF _ (ok c (by simp) fs))) hr
  | later fs c rest fs' x hr _ ih =>
    exact ih (run_stateFiles _ fs fs' sf (atomsAll_opSF _ (ok c (by simp) fs)) hr) (fun c' hc' => ok c' (by simp [hc']))

theorem empty_stateFiles : StateFiles Fs.empty := by
  intro k n hg he
  simp only [Fs.empty, Fs.get] at hg
  split at hg
  · rename_i hk; subst hk; simp [endsState] at he
  · cases hg

end ForML.Registry
