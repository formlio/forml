/-
C07: inside the region where schemas are defined (`plain` sources, `tame` scripts) the implementation's `kind` / `schema`
computation (`kindOf`, `entries` + `collapse`) and the documented one (`kindS`, `sig`) agree.
-/
import ForML.Model.Grammar
import ForML.Lemmas.C07Collapse
import ForML.Lemmas.C07Result

namespace ForML.Dsl

def liftSig (fs : Fields) : List (Option String × Option Kind) := fs.map (fun p => (some p.1, some p.2))

theorem liftSig_nil : liftSig [] = [] := rfl

theorem liftSig_cons (p : String × Kind) (fs : Fields) : liftSig (p :: fs) = (some p.1, some p.2) :: liftSig fs := rfl

theorem liftSig_append (a b : Fields) : liftSig (a ++ b) = liftSig a ++ liftSig b := by simp [liftSig]

theorem liftSig_inj (a b : Fields) (h : liftSig a = liftSig b) : a = b :=
  (List.map_inj_right fun x y e => by
    simp only [Prod.mk.injEq, Option.some.injEq] at e
    exact Prod.ext e.1 e.2).mp h

theorem sigLookup_lift (n : String) : (fs : Fields) → sigLookup n (liftSig fs) = fs.lookup n
  | [] => rfl
  | (m, k) :: fs => by
    rw [liftSig_cons]
    unfold sigLookup
    by_cases h : m = n
    · subst h
      simp [List.lookup]
    · have h' : (n == m) = false := by simpa using fun e => h e.symm
      simp [List.lookup, h, h', sigLookup_lift n fs]

theorem mem_liftSig_names (n : String) (fs : Fields) : some n ∈ (liftSig fs).map (·.1) ↔ n ∈ fs.map (·.1) := by
  simp [liftSig]

theorem liftSig_names_nodup (fs : Fields) (h : ((liftSig fs).map (·.1)).Nodup) : (fs.map (·.1)).Nodup := by
  have : (liftSig fs).map (·.1) = (fs.map (·.1)).map some := by simp [liftSig]
  rw [this] at h
  unfold List.Nodup at *
  rw [List.pairwise_map] at h
  exact h.imp (fun hab e => hab (by rw [e]))

theorem exists_liftSig : (sg : List (Option String × Option Kind)) →
    (∀ p ∈ sg, p.1.isSome = true ∧ p.2.isSome = true) → ∃ S, sg = liftSig S
  | [], _ => ⟨[], rfl⟩
  | (a, b) :: sg, h => by
    obtain ⟨S, hS⟩ := exists_liftSig sg (fun p hp => h p (by simp [hp]))
    have := h (a, b) (by simp)
    cases a with
    | none => simp at this
    | some n =>
      cases b with
      | none => simp at this
      | some k => exact ⟨(n, k) :: S, by rw [liftSig_cons, hS]⟩

/-- a list of partial values is total exactly when it is the image of a list under the section `g` of `f` -/
theorem mapM_eq_some_iff {α β : Type} {f : α → Option β} {g : β → α} (h : ∀ a b, f a = some b ↔ a = g b) :
    (l : List α) → (l' : List β) → (l.mapM f = some l' ↔ l = l'.map g)
  | [], l' => by cases l' <;> simp
  | a :: l, l' => by
    simp only [List.mapM_cons, bind, Option.bind_eq_some_iff, pure, Option.some.injEq, h, mapM_eq_some_iff h l]
    constructor
    · rintro ⟨b, rfl, bs, rfl, rfl⟩
      rfl
    · intro e
      cases l' with
      | nil => cases e
      | cons b bs => exact ⟨b, (List.cons.inj e).1, bs, (List.cons.inj e).2, rfl⟩

theorem mapM_id_iff (os : List (Option Kind)) (ks : List Kind) : os.mapM id = some ks ↔ os = ks.map some :=
  mapM_eq_some_iff (fun _ _ => Iff.rfl) os ks

/-- an output of the documented schema as a field, if it has a name and a kind -/
def fieldOf : Option String × Option Kind → Option (String × Kind)
  | (some n, some k) => some (n, k)
  | _ => none

theorem Source.schemaS_eq (s : Source) : s.schemaS = s.sig.mapM fieldOf := rfl

theorem mapM_fieldOf (sg : List (Option String × Option Kind)) (S : Fields) : sg.mapM fieldOf = some S ↔ sg = liftSig S :=
  mapM_eq_some_iff (fun p e => by
    obtain ⟨_ | n, _ | k⟩ := p <;> simp [fieldOf, Prod.ext_iff, eq_comm]) sg S

theorem largest_maxRank (b j : Kind) (rest : List Kind) : largest (maxRank b j :: rest) = largest (b :: j :: rest) := by
  simp only [largest, maxRank]
  cases largest rest with
  | none =>
    by_cases h1 : b.rank < j.rank <;> simp [h1]
  | some c =>
    by_cases h1 : b.rank < j.rank <;> by_cases h2 : j.rank < c.rank <;> by_cases h3 : b.rank < c.rank <;>
      simp [h1, h2, h3] <;> omega

theorem largest_foldl : (rest : List Kind) → (b : Kind) → largest (b :: rest) = some (rest.foldl maxRank b)
  | [], b => by simp [largest]
  | j :: rest, b => by
    rw [List.foldl_cons, ← largest_foldl rest (maxRank b j), largest_maxRank]

theorem Source.plain_iff (s : Source) : s.plain = true ↔
    (∀ f ∈ s.outs, (nameOf f).isSome = true) ∧ (∀ p ∈ s.sig, p.1.isSome = true ∧ p.2.isSome = true) ∧
      (s.sig.map (·.1)).Nodup := by
  simp [Source.plain, and_assoc]

theorem largest_eq : (ks : List Kind) → largest ks = okOf (match ks with
    | [] => (Except.error CtorErr.illtyped : R Kind)
    | k :: rest => Except.ok (rest.foldl maxRank k))
  | [] => rfl
  | k :: rest => largest_foldl rest k

mutual
theorem Feature.okOf_kindOf : (f : Feature) → f.wf = true → f.tame = true → okOf f.kindOf = f.kindS
  | .lit _, _, _ => rfl
  | .elem o n, hw, ht => by
    simp only [Feature.tame, Bool.and_eq_true] at ht
    obtain ⟨es, he, hs, _⟩ := Source.entries_spec o hw ht.1 ht.2
    simp only [Feature.kindOf, he, Feature.kindS, ← hs, sigLookup_lift, bind, Except.bind]
    cases (collapse es).lookup n <;> rfl
  | .alias f _, hw, ht => Feature.okOf_kindOf f hw ht
  | .cast _ _, _, _ => rfl
  | .window fn ps os, hw, ht => by
    simp only [Feature.wf, Bool.and_eq_true] at hw
    simp only [Feature.tame, Bool.and_eq_true] at ht
    cases h : fn == .expr .rownumber .nil with
    | true => rw [eq_of_beq h]; rfl
    | false => exact Feature.okOf_kindOf fn (by simpa only [h, Bool.false_or] using hw.1.1) ht.1.1
  | .expr op args, hw, ht => by
    simp only [Feature.wf, Bool.and_eq_true] at hw
    cases hg : op.group <;> simp only [Feature.kindOf, Feature.kindS, hg] <;> try rfl
    rw [okOf_bind, Features.okOf_kindsOf args hw.1.1.1 ht]
    exact congrArg _ (funext fun ks => (largest_eq ks).symm)
theorem Features.okOf_kindsOf : (fs : Features) → fs.wf = true → fs.tame = true → okOf fs.kindsOf = fs.kindsS.mapM id
  | .nil, _, _ => rfl
  | .cons f fs, hw, ht => by
    simp only [Features.wf, Bool.and_eq_true] at hw
    simp only [Features.tame, Bool.and_eq_true] at ht
    simp only [Features.kindsOf, Features.kindsS, okOf_bind, Feature.okOf_kindOf f hw.1 ht.1,
      Features.okOf_kindsOf fs hw.2 ht.2, List.mapM_cons]
    rfl
theorem Features.okOf_entriesOf : (fs : Features) → fs.wf = true → fs.tame = true →
    okOf fs.entriesOf = fs.sigOf.mapM fieldOf
  | .nil, _, _ => rfl
  | .cons f fs, hw, ht => by
    simp only [Features.wf, Bool.and_eq_true] at hw
    simp only [Features.tame, Bool.and_eq_true] at ht
    simp only [Features.entriesOf, Features.sigOf, okOf_bind, Feature.okOf_kindOf f hw.1 ht.1,
      Features.okOf_entriesOf fs hw.2 ht.2, List.mapM_cons, nameOrRecursion]
    cases nameOf f <;> cases f.kindS <;> rfl
/-- the third clause is what carries the induction through sets and references: every entry is a field of the schema,
so a repeated name overwrites nothing and the kinds a reference looks up are the ones the entries had -/
theorem Source.entries_spec : (s : Source) → s.wf = true → s.tame = true → s.plain = true →
    ∃ es, s.entries = Except.ok es ∧ liftSig (collapse es) = s.sig ∧ ∀ e ∈ es, e ∈ collapse es
  | .table n fs, _, ht, _ => by
    simp only [Source.tame, decide_eq_true_eq] at ht
    exact ⟨fs, rfl, by rw [collapse_nodup fs ht]; rfl, by rw [collapse_nodup fs ht]; exact fun _ h => h⟩
  | .ref i n, hw, ht, _ => by
    simp only [Source.wf] at hw
    simp only [Source.tame, Bool.and_eq_true] at ht
    obtain ⟨es, he, hs, hl⟩ := Source.entries_spec i hw ht.1 ht.2
    have hid : es.map (fun p => (p.1, ((collapse es).lookup p.1).getD p.2)) = es := by
      rw [List.map_congr_left (g := id) fun p hp => by
        rw [lookup_of_mem (collapse_keys_nodup es) (hl p hp)]; rfl, List.map_id]
    exact ⟨es, by simp only [Source.entries, he, bind, Except.bind]; exact congrArg Except.ok hid, hs, hl⟩
  | .join l r k c, hw, ht, hp => by
    simp only [Source.wf, Bool.and_eq_true] at hw
    simp only [Source.tame, Bool.and_eq_true] at ht
    rw [Source.plain_iff] at hp
    simp only [Source.outs, Source.sig, List.mem_append] at hp
    obtain ⟨hp1, hp2, hp3⟩ := hp
    have hp3' := List.nodup_append.mp (List.map_append ▸ hp3)
    have hpl : l.plain = true := (Source.plain_iff l).mpr
      ⟨fun f hf => hp1 f (Or.inl hf), fun p h => hp2 p (Or.inl h), hp3'.1⟩
    have hpr : r.plain = true := (Source.plain_iff r).mpr
      ⟨fun f hf => hp1 f (Or.inr hf), fun p h => hp2 p (Or.inr h), hp3'.2.1⟩
    obtain ⟨le, hle, hls, hll⟩ := Source.entries_spec l hw.1.1.1 ht.1.1 hpl
    obtain ⟨re, hre, hrs, hrl⟩ := Source.entries_spec r hw.1.1.2 ht.1.2 hpr
    have hsig : liftSig (collapse le ++ collapse re) = l.sig ++ r.sig := by rw [liftSig_append, hls, hrs]
    have hc := collapse_append_disjoint le re (liftSig_names_nodup _ (hsig ▸ hp3))
    exact ⟨le ++ re, by simp only [Source.entries, hle, hre, bind, Except.bind], by rw [hc, hsig]; rfl, fun e he =>
      hc ▸ List.mem_append.mpr ((List.mem_append.mp he).imp (hll e) (hrl e))⟩
  | .set l r k, hw, ht, _ => by
    simp only [Source.wf, Bool.and_eq_true, beq_iff_eq] at hw
    simp only [Source.tame, Bool.and_eq_true] at ht
    obtain ⟨le, hle, hls, hll⟩ := Source.entries_spec l hw.1.1 ht.1.1.1 ht.1.2
    obtain ⟨re, hre, hrs, hrl⟩ := Source.entries_spec r hw.1.2 ht.1.1.2 ht.2
    rw [liftSig_inj (collapse re) (collapse le) (by rw [hls, hrs, hw.2])] at hrl
    have hc := collapse_append_settled le re hrl
    refine ⟨le ++ re, by simp only [Source.entries, hle, hre, bind, Except.bind], by rw [hc, hls]; rfl, fun e he => ?_⟩
    rw [hc]
    exact (List.mem_append.mp he).elim (hll e) (hrl e)
  | .query s sel pre grp post ord rows, hw, ht, hp => by
    simp only [Source.wf, Bool.and_eq_true] at hw
    simp only [Source.tame, Bool.and_eq_true] at ht
    cases hsel : sel.isEmpty with
    | true =>
      have hps : s.plain = true := by
        simpa [Source.plain, Source.outs, Source.sig, hsel] using hp
      obtain ⟨es, he, hs, hl⟩ := Source.entries_spec s hw.1.1.1.1.1.1 ht.1.1.1.1.1 hps
      exact ⟨es, by simp only [Source.entries, hsel, he, if_true], by simp only [Source.sig, hsel, if_true, hs], hl⟩
    | false =>
      rw [Source.plain_iff] at hp
      simp only [Source.outs, Source.sig, hsel, Bool.false_eq_true, if_false] at hp
      obtain ⟨S, hS⟩ := exists_liftSig _ hp.2.1
      have he : sel.entriesOf = Except.ok S := (okOf_eq_some _ _).mp (by
        rw [Features.okOf_entriesOf sel hw.1.1.1.1.1.2 ht.1.1.1.1.2, (mapM_fieldOf _ S).mpr hS])
      have hn : (S.map (·.1)).Nodup := liftSig_names_nodup S (hS ▸ hp.2.2)
      refine ⟨S, by simp only [Source.entries, hsel, Bool.false_eq_true, if_false, he], ?_, ?_⟩
      · simp only [Source.sig, hsel, Bool.false_eq_true, if_false, collapse_nodup S hn, hS]
      · rw [collapse_nodup S hn]
        exact fun _ h => h
end

theorem Features.entriesOf_iff : (fs : Features) → fs.wf = true → fs.tame = true →
    ∀ es, fs.entriesOf = Except.ok es ↔ fs.sigOf = liftSig es
  | fs, hw, ht, es => by rw [← okOf_eq_some, Features.okOf_entriesOf fs hw ht, mapM_fieldOf]

theorem Feature.kind_iff (f : Feature) (hw : f.wf = true) (ht : f.tame = true) (k : Kind) :
    f.kindOf = Except.ok k ↔ f.kindS = some k := by
  rw [← Feature.okOf_kindOf f hw ht, okOf_eq_some]

theorem Features.kinds_iff (fs : Features) (hw : fs.wf = true) (ht : fs.tame = true) (ks : List Kind) :
    fs.kindsOf = Except.ok ks ↔ fs.kindsS = ks.map some := by
  rw [← okOf_eq_some, Features.okOf_kindsOf fs hw ht, mapM_id_iff]

end ForML.Dsl
