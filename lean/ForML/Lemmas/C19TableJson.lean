/-
The JSON layouts (document trees) through `Json.to_pandas`: columns and records; then, for either layout, the frame through
the refusals of `Schema.from_frame` (`table_json_roundtrip`).
-/
import ForML.Lemmas.C19TableRt
import ForML.Lemmas.ListFacts

namespace ForML.Codec

/-- what comes back for a cell written by `to_json` -/
def jsonBack (asFloat : Bool) : Val → Val
  | .int i => if asFloat then .float (i < 0) ⟨i.natAbs, 0⟩ else .int i
  | .float neg d => .float neg d.jsonRender
  | .text s => .text s
  | .bool b => .bool b
  | .null => .null
  | .inf _ => .null

theorem jsonCell_cell (a : Bool) (v : Val) : (jsonCell a v).cell = some (jsonBack a v) := by
  cases v with
  | int i => cases a <;> rfl
  | _ => rfl

/-- dict semantics as a look-up: the last binding of a key wins -/
theorem assocGet_eq (k : Str) (ms : List (Str × JVal)) : assocGet k ms = ms.reverse.lookup k := by
  induction ms with
  | nil => rfl
  | cons kv r ih =>
    obtain ⟨k', v⟩ := kv
    rw [assocGet, ih, List.reverse_cons, List.lookup_append, List.lookup_cons, List.lookup_nil, BEq.comm]
    cases r.reverse.lookup k <;> cases k == k' <;> rfl

theorem assocGet_none (k : Str) (ms : List (Str × JVal)) (h : ∀ kv ∈ ms, kv.1 ≠ k) : assocGet k ms = none := by
  rw [assocGet_eq, lookup_eq_none_iff_not_mem]
  simpa using fun v hv => h _ hv rfl

theorem assocGet_cols (cols : List Column) (hn : (cols.map (·.name)).Nodup) (g : Column → JVal) (c : Column) (hc : c ∈ cols) :
    assocGet c.name (cols.map fun c' => (c'.name, g c')) = some (g c) := by
  rw [assocGet_eq]
  refine lookup_of_mem ?_ (List.mem_reverse.2 (List.mem_map.2 ⟨c, hc, rfl⟩))
  simpa [List.map_reverse, Function.comp_def] using (List.reverse_perm _).nodup_iff.2 hn

/-- the cells of a column as written, read back one by one -/
theorem jsonCells_cells (c : Column) : c.jsonCells.mapM JVal.cell = some (c.cells.map (jsonBack (c.kind == .int && c.hasNull))) := by
  unfold Column.jsonCells
  rw [List.mapM_map]
  exact mapM_eq_pure fun v _ => jsonCell_cell _ v

/-- what `jsonVerdict cl = same` says of a table (`cl`: columns layout), one field per cause ruled out -/
structure JsonFacts (cl : Bool) (t : Table) : Prop where
  ne : t.cols ≠ []
  rows : t.nrows ≠ 0
  sniff : cl = true → ∀ c ∈ t.cols, c.name ≠ "instances".toList ∧ c.name ≠ "inputs".toList
  bools : ∀ c ∈ t.cols, (c.kind == .bool && c.hasNull) = false
  exact : ∀ c ∈ t.cols, c.jsonRounded = false

theorem jsonFacts_of_verdict (cl : Bool) (t : Table) (hv : t.jsonVerdict cl = .same) : JsonFacts cl t := by
  unfold Table.jsonVerdict at hv
  rw [ite_eq_iff_of_ne (by decide), ite_eq_iff_of_ne (by decide), ite_eq_iff_of_ne (by decide), ite_eq_iff_of_ne (by decide)] at hv
  obtain ⟨h1, h2, h3, h4, _⟩ := hv
  simp only [Bool.or_eq_true, beq_iff_eq, not_or] at h1
  refine ⟨?_, h1.2, ?_, ?_, ?_⟩
  · intro e; rw [e] at h1; simp at h1
  · intro hcl c hc
    have h2' := Bool.eq_false_iff.mpr h2
    rw [hcl, Bool.true_and] at h2'
    have := List.any_eq_false.mp h2' c hc
    simp only [Bool.or_eq_true, beq_iff_eq, not_or] at this
    exact this
  · intro c hc
    exact Bool.eq_false_iff.mpr (List.any_eq_false.mp (Bool.eq_false_iff.mpr h3) c hc)
  · intro c hc
    exact Bool.eq_false_iff.mpr (List.any_eq_false.mp (Bool.eq_false_iff.mpr h4) c hc)

/-- a cell that is neither an infinity nor a float that the encoder rounds comes back as the same value -/
theorem jsonBack_same (a : Bool) (v : Val) (hinf : ∀ n, v ≠ .inf n) (hr : ∀ n d, v = .float n d → d.jsonRender.same d = true) :
    (jsonBack a v).same v = true := by
  cases v with
  | int i =>
    cases a
    · simp [jsonBack, Val.same]
    · simp only [jsonBack, if_true, Val.same, beq_iff_eq]
      by_cases h : i < 0 <;> simp [h] <;> omega
  | float n d => simp [jsonBack, Val.same, hr n d rfl]
  | text s => simp [jsonBack, Val.same]
  | bool b => simp [jsonBack, Val.same]
  | null => simp [jsonBack, Val.same]
  | inf n => exact absurd rfl (hinf n)

theorem column_json_same (c : Column) (hk : c.cells.all (Val.ofKind c.kind) = true) (hr : c.jsonRounded = false) (a : Bool) :
    sameCells (c.cells.map (jsonBack a)) c.cells = true := by
  refine sameCells_map _ _ fun v hv => jsonBack_same a v ?_ ?_
  · intro n e; subst e
    have := List.all_eq_true.mp hk _ hv
    cases c.kind <;> simp [Val.ofKind] at this
  · intro n d e; subst e
    simpa using List.any_eq_false.mp hr _ hv

/-- the frame of the cells as they come back is the same table -/
theorem table_json_frame_same (cl : Bool) (t : Table) (hwf : t.wf = true) (hv : t.jsonVerdict cl = .same) :
    (Frame.table (t.cols.map fun c => (c.name, c.cells.map (jsonBack (c.kind == .int && c.hasNull)))) (t.cols.map (·.kind))).same t = true := by
  have F := jsonFacts_of_verdict cl t hv
  have W := wfFacts t hwf
  exact frame_same t.cols _ fun c hc => column_json_same c (W.kinds c hc) (F.exact c hc) _

/-- **columns layout**: the frame `Json.to_pandas` makes of the document -/
theorem table_json_columns_frame (t : Table) (hv : t.jsonVerdict true = .same) :
    jsonToPandas t.jsonColumns = some (t.cols.map fun c => (c.name, c.cells.map (jsonBack (c.kind == .int && c.hasNull)))) := by
  have F := jsonFacts_of_verdict true t hv
  let back := fun c : Column => c.cells.map (jsonBack (c.kind == .int && c.hasNull))
  show jsonToPandas t.jsonColumns = some (t.cols.map fun c => (c.name, back c))
  unfold Table.jsonColumns jsonToPandas
  simp only
  have hno : ∀ k : Str, (∀ c ∈ t.cols, c.name ≠ k) →
      assocGet k (t.cols.map fun c => (c.name, JVal.obj ((rowLabels c.cells.length).zip c.jsonCells))) = none := by
    intro k hk
    apply assocGet_none
    intro kv hkv
    obtain ⟨c, hc, rfl⟩ := List.mem_map.mp hkv
    exact hk c hc
  rw [hno _ (fun c hc => (F.sniff rfl c hc).1), hno _ (fun c hc => (F.sniff rfl c hc).2)]
  simp only
  unfold fromColumns
  rw [List.mapM_map]
  apply mapM_eq_pure
  intro c _
  simp only [Function.comp]
  -- the labels are passed over: the cells of the object are the cells of the column
  have hl : c.jsonCells.length ≤ (rowLabels c.cells.length).length := by simp [Column.jsonCells, rowLabels]
  have : ((rowLabels c.cells.length).zip c.jsonCells).mapM (fun kc : Str × JVal => JVal.cell kc.2) = some (back c) := by
    rw [show (fun kc : Str × JVal => JVal.cell kc.2) = JVal.cell ∘ Prod.snd from rfl, ← List.mapM_map, List.map_snd_zip hl]
    exact jsonCells_cells c
  rw [this]; rfl

theorem table_json_columns_roundtrip (t : Table) (hwf : t.wf = true) (hv : t.jsonVerdict true = .same) :
    ∃ f, jsonToPandas t.jsonColumns = some f ∧ (Frame.table f (t.cols.map (·.kind))).same t = true :=
  ⟨_, table_json_columns_frame t hv, table_json_frame_same true t hwf hv⟩

/-- `DataFrame.from_records` on the records the encoder writes: one column per name, the cells in record order -/
theorem fromRecords_spec (cols : List Column) (hnd : (cols.map (·.name)).Nodup) (n : Nat) (hn : n ≠ 0)
    (cellAt : Column → Nat → JVal) (res : Column → List Val)
    (hres : ∀ c ∈ cols, (List.range n).mapM (fun i => (cellAt c i).cell) = some (res c)) :
    fromRecords ((List.range n).map fun i => JVal.obj (cols.map fun c => (c.name, cellAt c i)))
      = some (cols.map fun c => (c.name, res c)) := by
  generalize hrecs : ((List.range n).map fun i => JVal.obj (cols.map fun c => (c.name, cellAt c i))) = recs
  have hcons : ∃ rest, recs = JVal.obj (cols.map fun c => (c.name, cellAt c 0)) :: rest := by
    obtain ⟨m, rfl⟩ : ∃ m, n = m + 1 := ⟨n - 1, by omega⟩
    rw [List.range_succ_eq_map] at hrecs
    simp only [List.map_cons] at hrecs
    exact ⟨_, hrecs.symm⟩
  obtain ⟨rest, hrest⟩ := hcons
  -- the lookups of one column over all records
  have hcol : ∀ c ∈ cols, recs.mapM (recordCell c.name) = some (res c) := by
    intro c hc
    rw [← hrecs, List.mapM_map, ← hres c hc]
    apply mapM_congr
    intro i _
    simp only [Function.comp, recordCell]
    rw [assocGet_cols cols hnd (fun c' => cellAt c' i) c hc]
    rfl
  unfold fromRecords
  rw [hrest]
  simp only
  rw [← hrest]
  have hnames : (cols.map fun c => (c.name, cellAt c 0)).map (·.1) = cols.map (·.name) := by
    simp [List.map_map, Function.comp_def]
  rw [hnames, List.mapM_map]
  apply mapM_eq_pure
  intro c hc
  simp only [Function.comp]
  rw [hcol c hc]
  rfl

/-- **records layout**: the frame `Json.to_pandas` makes of the document -/
theorem table_json_records_frame (t : Table) (hwf : t.wf = true) (hv : t.jsonVerdict false = .same) :
    jsonToPandas t.jsonRecords = some (t.cols.map fun c => (c.name, c.cells.map (jsonBack (c.kind == .int && c.hasNull)))) := by
  have F := jsonFacts_of_verdict false t hv
  have W := wfFacts t hwf
  let back := fun c : Column => c.cells.map (jsonBack (c.kind == .int && c.hasNull))
  show jsonToPandas t.jsonRecords = some (t.cols.map fun c => (c.name, back c))
  unfold Table.jsonRecords jsonToPandas
  simp only
  have hrows : (toRows (t.cols.map Column.jsonCells) JVal.null t.nrows).map (fun row => JVal.obj ((t.cols.map (·.name)).zip row))
      = (List.range t.nrows).map fun i => JVal.obj (t.cols.map fun c => (c.name, getD' c.jsonCells i JVal.null)) := by
    unfold toRows rowAt
    rw [List.map_map]
    apply List.map_congr_left
    intro i _
    simp only [Function.comp, List.map_map]
    have := List.zip_map' (l := t.cols) (f := (·.name)) (g := fun c => getD' c.jsonCells i JVal.null)
    simp only [Function.comp_def] at this ⊢
    rw [this]
  rw [hrows]
  apply fromRecords_spec t.cols W.names t.nrows F.rows (fun c i => getD' c.jsonCells i JVal.null) back
  intro c hc
  have hlen : c.jsonCells.length = t.nrows := by simp [Column.jsonCells, W.len c hc]
  rw [← hlen, show (fun i => (getD' c.jsonCells i JVal.null).cell) = JVal.cell ∘ fun i => getD' c.jsonCells i JVal.null from rfl,
    ← List.mapM_map, range_map_getD']
  exact jsonCells_cells c

theorem table_json_records_roundtrip (t : Table) (hwf : t.wf = true) (hv : t.jsonVerdict false = .same) :
    ∃ f, jsonToPandas t.jsonRecords = some f ∧ (Frame.table f (t.cols.map (·.kind))).same t = true :=
  ⟨_, table_json_records_frame t hwf hv, table_json_frame_same false t hwf hv⟩

theorem jsonBack_bool (a : Bool) (v : Val) (h : (match jsonBack a v with | .bool _ => true | _ => false) = true) : ∃ b, v = .bool b := by
  cases v with
  | bool b => exact ⟨b, rfl⟩
  | int i => cases a <;> simp [jsonBack] at h
  | _ => simp [jsonBack] at h

theorem jsonBack_null (a : Bool) (v : Val) (h : (jsonBack a v == .null) = true) : v = .null ∨ ∃ n, v = .inf n := by
  cases v with
  | null => exact Or.inl rfl
  | inf n => exact Or.inr ⟨n, rfl⟩
  | int i => cases a <;> simp [jsonBack] at h
  | _ => simp [jsonBack] at h

theorem frame_not_untypable (t : Table) (hk : ∀ c ∈ t.cols, c.cells.all (Val.ofKind c.kind) = true)
    (hb : ∀ c ∈ t.cols, (c.kind == .bool && c.hasNull) = false) :
    Frame.untypable (t.cols.map fun c => (c.name, c.cells.map (jsonBack (c.kind == .int && c.hasNull)))) = false := by
  unfold Frame.untypable
  rw [List.any_map]
  apply Bool.eq_false_iff.mpr
  intro hany
  obtain ⟨c, hc, hcol⟩ := List.any_eq_true.mp hany
  simp only [Function.comp, Bool.and_eq_true, List.any_map] at hcol
  obtain ⟨hnull, hbool⟩ := hcol
  obtain ⟨v, hv, hvb⟩ := List.any_eq_true.mp hbool
  obtain ⟨w, hw, hwn⟩ := List.any_eq_true.mp hnull
  have hkv := List.all_eq_true.mp (hk c hc) v hv
  have hkw := List.all_eq_true.mp (hk c hc) w hw
  obtain ⟨b, rfl⟩ := jsonBack_bool _ v hvb
  -- a cell that comes back as a boolean was one: the column is boolean
  have hkind : c.kind = .bool := by
    cases hkc : c.kind <;> rw [hkc] at hkv <;> simp [Val.ofKind] at hkv ⊢
  -- a cell that comes back missing was missing (no infinity is ever written)
  have hnullc : c.hasNull = true := by
    unfold Column.hasNull
    rw [List.any_eq_true]
    refine ⟨w, hw, ?_⟩
    rcases jsonBack_null _ w hwn with rfl | ⟨n, rfl⟩
    · rfl
    · rw [hkind] at hkw; simp [Val.ofKind] at hkw
  have := hb c hc
  rw [hkind, hnullc] at this
  simp at this

/-- **either layout**: once `Json.to_pandas` makes of the document the frame of the cells as they come back, `Schema.from_frame`
refuses nothing (the frame is not empty, no column is, none is untypable) and the frame is the same table -/
theorem table_json_roundtrip (cl : Bool) (t : Table) (hwf : t.wf = true) (hv : t.jsonVerdict cl = .same) (doc : JVal)
    (h : jsonToPandas doc = some (t.cols.map fun c => (c.name, c.cells.map (jsonBack (c.kind == .int && c.hasNull))))) :
    ∃ f, jsonDecode doc = some f ∧ (Frame.table f (t.cols.map (·.kind))).same t = true := by
  have F := jsonFacts_of_verdict cl t hv
  have W := wfFacts t hwf
  refine ⟨_, ?_, table_json_frame_same cl t hwf hv⟩
  unfold jsonDecode
  rw [h]
  simp only
  have h1 : (t.cols.map fun c => (c.name, c.cells.map (jsonBack (c.kind == .int && c.hasNull)))).isEmpty = false := by
    cases hc : t.cols with
    | nil => exact absurd hc F.ne
    | cons _ _ => rfl
  have h2 : (t.cols.map fun c => (c.name, c.cells.map (jsonBack (c.kind == .int && c.hasNull)))).any (fun col => col.2.isEmpty) = false := by
    rw [List.any_map]
    apply Bool.eq_false_iff.mpr
    intro hany
    obtain ⟨c, hc, he⟩ := List.any_eq_true.mp hany
    simp only [Function.comp, List.isEmpty_iff, List.map_eq_nil_iff] at he
    have := W.len c hc
    rw [he] at this
    exact F.rows this.symm
  rw [h1, h2, frame_not_untypable t W.kinds F.bools]
  rfl

end ForML.Codec
