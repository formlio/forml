/-
C03 ↔ C01 bridge: what is in `segmentOn g M head tl` (its workers and subscriptions in terms of the lookups of the
composition graph), looking through bound futures under a certified valuation, and `conv` of a port value.
-/
import ForML.Lemmas.C03Eval
import ForML.Model.ComposeSegment
import ForML.Lemmas.C01Wf

namespace ForML.Compose
open ForML

theorem convL_eq_map : ∀ (l : List Val), convL l = l.map conv
  | [] => by simp [convL]
  | v :: vs => by simp [convL, convL_eq_map vs]

theorem conv_portVal (szout i : Nat) (out : Val) :
    conv (portVal szout i out) = if szout = 1 then conv out else .proj i (conv out) := by
  unfold portVal
  by_cases h : szout = 1
  · simp [h]
  · have : (szout == 1) = false := by simpa using h
    simp [this, h, conv]

theorem resolve_live {g : Graph} {W : World} (hi : Inv g W) (hno : ∀ n, W.live n → ¬ g.isOpen n) :
    ∀ (f : Nat) (q : PubRef), W.live q.node → W.h q.node < f →
      ∃ q', g.resolve f q = some q' ∧ (∃ gid a i o, g.kindOf q'.node = some (.worker gid a i o)) ∧ W.live q'.node ∧
        W.σ q' = W.σ q ∧ W.h q'.node ≤ W.h q.node := by
  intro f
  induction f with
  | zero => intro q _ h; exact absurd h (Nat.not_lt_zero _)
  | succ f ih =>
    intro q hl hf
    rw [Graph.resolve]
    rcases (hi.good q.node hl).cases with ho | ⟨q1, hk, hin, ⟨hl1, hh1⟩, hσ⟩ | ⟨gid, a, i, o, _, _, hk, _⟩
    · exact absurd ho (hno q.node hl)
    · obtain ⟨q', hr, hkq, hlq, hσq, hhq⟩ := ih q1 hl1 (Nat.lt_of_lt_of_le hh1 (Nat.le_of_lt_succ hf))
      rw [hk, hin]
      exact ⟨q', hr, hkq, hlq, hσq.trans (hσ q.idx).symm, Nat.le_trans hhq (Nat.le_of_lt hh1)⟩
    · rw [hk]
      exact ⟨q, rfl, ⟨gid, a, i, o, hk⟩, hl, rfl, Nat.le_refl _⟩

/-- with the fuel `toSegment` uses -/
theorem resolve_live' {g : Graph} {W : World} (hi : Inv g W) (hno : ∀ n, W.live n → ¬ g.isOpen n) (q : PubRef)
    (hl : W.live q.node) :
    ∃ q', g.resolve g.resolveFuel q = some q' ∧ (∃ gid a i o, g.kindOf q'.node = some (.worker gid a i o)) ∧
      W.live q'.node ∧ W.σ q' = W.σ q ∧ W.h q'.node ≤ W.h q.node :=
  resolve_live hi hno _ q hl (Nat.lt_succ_of_lt (hi.liveLt _ hl).2)

theorem mem_allWorkers {g : Graph} {w : Flow.Worker} :
    w ∈ g.allWorkers ↔ w.uid < g.next ∧ g.kindOf w.uid = some (.worker w.gid ⟨w.actor, w.stateful⟩ w.szin w.szout) := by
  unfold Graph.allWorkers
  rw [List.mem_filterMap]
  constructor
  · rintro ⟨u, hu, h⟩
    have hu' : u < g.next := List.mem_range.mp hu
    cases hk : g.kindOf u with
    | none => simp [hk] at h
    | some kd =>
      cases kd with
      | future => simp [hk] at h
      | worker gid a i o =>
        simp only [hk, Option.some.injEq] at h
        subst h
        exact ⟨hu', by rw [hk]⟩
  · rintro ⟨hu, hk⟩
    refine ⟨w.uid, List.mem_range.mpr hu, ?_⟩
    rw [hk]

theorem mem_seg_workers {g : Graph} {M : List Nat} {head tl : Nat} {w : Flow.Worker} :
    w ∈ (segmentOn g M head tl).workers ↔ w ∈ g.allWorkers ∧ w.uid ∈ M := by
  simp [segmentOn, List.mem_filter]

theorem mem_seg_edges {g : Graph} {M : List Nat} {head tl : Nat} {e : Flow.Edge} :
    e ∈ (segmentOn g M head tl).edges ↔ (e ∈ g.applyEdges ∨ e ∈ g.trainEdges) ∧ e.pub ∈ M ∧ e.sub ∈ M := by
  simp only [segmentOn, List.mem_filter, List.mem_append, Bool.and_eq_true, List.contains_iff_mem]

theorem mem_applyEdges {g : Graph} {e : Flow.Edge} :
    e ∈ g.applyEdges ↔ ∃ ge ∈ g.edges, (∃ gid a i o, g.kindOf ge.sub = some (.worker gid a i o)) ∧
      ∃ q, g.resolve g.resolveFuel ge.pub = some q ∧ e = ⟨q.node, q.idx, ge.sub, .apply ge.port⟩ := by
  unfold Graph.applyEdges
  rw [List.mem_filterMap]
  constructor
  · rintro ⟨ge, hge, h⟩
    refine ⟨ge, hge, ?_⟩
    cases hk : g.kindOf ge.sub with
    | none => simp [hk] at h
    | some kd =>
      cases kd with
      | future => simp [hk] at h
      | worker gid a i o =>
        simp only [hk] at h
        cases hr : g.resolve g.resolveFuel ge.pub with
        | none => simp [hr] at h
        | some q =>
          simp only [hr, Option.map_some, Option.some.injEq] at h
          exact ⟨⟨gid, a, i, o, rfl⟩, q, rfl, h.symm⟩
  · rintro ⟨ge, hge, ⟨gid, a, i, o, hk⟩, q, hr, he⟩
    refine ⟨ge, hge, ?_⟩
    simp [hk, hr, he]

theorem mem_trainEdges {g : Graph} {e : Flow.Edge} :
    e ∈ g.trainEdges ↔ ∃ T ∈ g.trains, ∃ x y, g.resolve g.resolveFuel T.train = some x ∧
      g.resolve g.resolveFuel T.label = some y ∧
      (e = ⟨x.node, x.idx, T.node, .train⟩ ∨ e = ⟨y.node, y.idx, T.node, .label⟩) := by
  unfold Graph.trainEdges
  rw [List.mem_flatMap]
  constructor
  · rintro ⟨T, hT, h⟩
    refine ⟨T, hT, ?_⟩
    cases hx : g.resolve g.resolveFuel T.train with
    | none => simp [hx] at h
    | some x =>
      cases hy : g.resolve g.resolveFuel T.label with
      | none => simp [hx, hy] at h
      | some y =>
        simp only [hx, hy, List.mem_cons, List.mem_nil_iff, or_false] at h
        exact ⟨x, y, rfl, rfl, h⟩
  · rintro ⟨T, hT, x, y, hx, hy, h⟩
    refine ⟨T, hT, ?_⟩
    simp only [hx, hy, List.mem_cons, List.mem_nil_iff, or_false]
    exact h

theorem seg_edge_apply {g : Graph} {M : List Nat} {head tl : Nat} {e : Flow.Edge} {k : Nat}
    (he : e ∈ (segmentOn g M head tl).edges) (hp : e.subPort = .apply k) :
    ∃ ge ∈ g.edges, ge.sub = e.sub ∧ ge.port = k ∧
      ∃ q, g.resolve g.resolveFuel ge.pub = some q ∧ e = ⟨q.node, q.idx, e.sub, .apply k⟩ := by
  rcases (mem_seg_edges.mp he).1 with ha | ht
  · obtain ⟨ge, hge, _, q, hr, hee⟩ := mem_applyEdges.mp ha
    subst hee
    cases hp
    exact ⟨ge, hge, rfl, rfl, q, hr, rfl⟩
  · obtain ⟨T, _, x, y, _, _, h | h⟩ := mem_trainEdges.mp ht <;> rw [h] at hp <;> cases hp

theorem trained_seg {g : Graph} {M : List Nat} {head tl : Nat} {n : Nat}
    (h : (segmentOn g M head tl).trained n = true) : ∃ T ∈ g.trains, T.node = n := by
  obtain ⟨e, he, hs, hp⟩ := Flow.Segment.trained_iff.mp h
  obtain ⟨hor, _, _⟩ := mem_seg_edges.mp he
  rcases hor with ha | ht
  · obtain ⟨ge, _, _, q, _, hee⟩ := mem_applyEdges.mp ha
    rw [hee] at hp; cases hp
  · obtain ⟨T, hT, x, y, _, _, h | h⟩ := mem_trainEdges.mp ht
    · exact ⟨T, hT, by rw [← hs, h]⟩
    · exact ⟨T, hT, by rw [← hs, h]⟩

end ForML.Compose
