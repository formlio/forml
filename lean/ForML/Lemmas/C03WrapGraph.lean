/-
C03 — the graph side of `wrap.Operator.compose` as steps of a `Body`: optional slots, the optional subscriptions of
`left.extend`, workers becoming evaluable slot by slot, the values the slots carry.  A `Slot` certifies the optional worker of
one slot from its build to its evaluability; a step of one slot hands on the slots with other uids unchanged, and nothing
in it depends on whether the slot has a builder: the path ends in `tailOpt`, carrying `slotVal`.
-/
import ForML.Lemmas.C03Wrap

namespace ForML.Compose

def buildGroupsOpt (groups : List (Nat × WRef)) (slot : Option Actor) (n : Nat) : List (Nat × WRef) :=
  match slot with
  | none => groups
  | some a => buildGroups groups a n

def buildTrainsOpt (groups : List (Nat × WRef)) (slot : Option Actor) (n : Nat) (lt lp : PubRef) : List Training :=
  match slot with
  | none => []
  | some a => buildTrains groups a n lt lp

/-- the tail of a path once the optional worker of a slot is appended to it -/
def tailOpt (w? : Option WRef) (u : Nat) : Nat := (w?.map (·.uid)).getD u

/-- the worker of a slot in the body as it stands: built with the uids `[lo, hi)`, not evaluable yet, its input port
subscribed as `q?` says, its group — when the actor is stateful — trained on `(lt, lp)` -/
structure SlotWorker (g1 : Graph) (lt lp : PubRef) (lo hi : Nat) (q? : Option PubRef) (g2 : Graph) (W2 : World) (w : WRef) :
    Prop where
  uid : w.uid = lo + 2
  room : lo + 3 ≤ hi
  gid_ge : g1.next ≤ w.gid
  gid_lt : w.gid < hi
  kind : g2.kindOf w.uid = some (.worker w.gid w.actor 1 1)
  input : g2.inputOf w.uid 0 = q?
  notLive : ¬ W2.live w.uid
  trained : w.actor.stateful = true → ∃ t, g2.trainerOf w.gid = some t ∧ t.train = lt ∧ t.label = lp

/-- one slot of `wrap.Operator` (a builder or none) with its worker (if any) in the body as it stands; `lpOf` gives, per
builder, the label publisher its group is trained with -/
structure Slot (g1 : Graph) (lt : PubRef) (lpOf : Nat → PubRef) (groups : List (Nat × WRef)) (slot : Option Actor)
    (w? : Option WRef) (lo hi : Nat) (q? : Option PubRef) (g2 : Graph) (W2 : World) : Prop where
  lo_ge : g1.next ≤ lo
  hi_le : hi ≤ g2.next
  worker : (slot = none ∧ w? = none) ∨ ∃ a w, slot = some a ∧ w? = some w ∧ w.actor = buildActor groups a ∧
    SlotWorker g1 lt (lpOf a.tag) lo hi q? g2 W2 w

namespace Slot

variable {g1 g2 g3 : Graph} {W2 W3 : World} {lt : PubRef} {lpOf : Nat → PubRef} {groups : List (Nat × WRef)}
  {slot : Option Actor} {w? : Option WRef} {lo hi : Nat} {q? : Option PubRef}

theorem uid (h : Slot g1 lt lpOf groups slot w? lo hi q? g2 W2) {w : WRef} (hw : w? = some w) : lo ≤ w.uid ∧ w.uid < hi := by
  rcases h.worker with ⟨_, e⟩ | ⟨_, w', _, e, _, sw⟩
  · rw [e] at hw; cases hw
  · rw [e] at hw; cases hw
    have := sw.room
    rw [sw.uid]; omega

theorem of_some (h : Slot g1 lt lpOf groups slot w? lo hi q? g2 W2) {w : WRef} (hw : w? = some w) :
    slot ≠ none ∧ w.uid = lo + 2 := by
  rcases h.worker with ⟨_, e⟩ | ⟨_, w', hs, e, _, sw⟩
  · rw [e] at hw; cases hw
  · rw [e] at hw; cases hw
    exact ⟨by rw [hs]; nofun, sw.uid⟩

theorem room (h : Slot g1 lt lpOf groups slot w? lo hi q? g2 W2) (hs : slot ≠ none) : lo + 3 ≤ hi := by
  rcases h.worker with ⟨e, _⟩ | ⟨_, _, _, _, _, sw⟩
  · exact absurd e hs
  · exact sw.room

/-- a slot with a builder ends its path in the third uid of its range -/
theorem tail_some (h : Slot g1 lt lpOf groups slot w? lo hi q? g2 W2) (hs : slot ≠ none) (u : Nat) : tailOpt w? u = lo + 2 := by
  rcases h.worker with ⟨e, _⟩ | ⟨_, w, _, rfl, _, sw⟩
  · exact absurd e hs
  · exact sw.uid

/-- the slot survives whatever leaves the lookups of its uids and the evaluability of its worker alone -/
theorem mono (h : Slot g1 lt lpOf groups slot w? lo hi q? g2 W2) (hn : g2.next ≤ g3.next)
    (hk : ∀ u, u < g2.next → g3.kindOf u = g2.kindOf u) (hin : ∀ u, lo ≤ u → u < hi → g3.inputOf u 0 = g2.inputOf u 0)
    (ht : ∀ gid, gid < g2.next → g3.trainerOf gid = g2.trainerOf gid) (hl : ∀ u, lo ≤ u → u < hi → W3.live u → W2.live u) :
    Slot g1 lt lpOf groups slot w? lo hi q? g3 W3 := by
  refine ⟨h.lo_ge, Nat.le_trans h.hi_le hn, h.worker.imp id fun ⟨a, w, hs, hw, ha, sw⟩ => ⟨a, w, hs, hw, ha, ?_⟩⟩
  obtain ⟨hlo, hhi⟩ := h.uid hw
  have hlt : ∀ {x}, x < hi → x < g2.next := fun hx => Nat.lt_of_lt_of_le hx h.hi_le
  exact ⟨sw.uid, sw.room, sw.gid_ge, sw.gid_lt, (hk _ (hlt hhi)).trans sw.kind, (hin _ hlo hhi).trans sw.input,
    fun x => sw.notLive (hl _ hlo hhi x), fun hs => by rw [ht _ (hlt sw.gid_lt)]; exact sw.trained hs⟩

theorem frame (h : Slot g1 lt lpOf groups slot w? lo hi q? g2 W2) (hf : Frame g2 g3) :
    Slot g1 lt lpOf groups slot w? lo hi q? g3 W2 :=
  h.mono hf.next_le hf.kind (fun u _ hu => hf.input u 0 (Nat.lt_of_lt_of_le hu h.hi_le)) hf.trainer fun _ _ _ x => x

theorem tail_ge (h : Slot g1 lt lpOf groups slot w? lo hi q? g2 W2) {n u : Nat} (hg : n ≤ g1.next) (hu : n ≤ u) :
    n ≤ tailOpt w? u := by
  cases hw : w? with
  | none => exact hu
  | some w => exact Nat.le_trans hg (Nat.le_trans h.lo_ge (h.uid hw).1)

/-- a slot off the apply side leaves its path where it was, or ends it in a new node off the apply side -/
theorem tail_off (h : Slot g1 lt lpOf groups slot w? lo hi q? g2 W2) {A : Nat → Prop} (hA : ∀ w, w? = some w → ¬ A w.uid)
    (u : Nat) : tailOpt w? u = u ∨ (g1.next ≤ tailOpt w? u ∧ ¬ A (tailOpt w? u)) := by
  cases hw : w? with
  | none => exact Or.inl rfl
  | some w => exact Or.inr ⟨Nat.le_trans h.lo_ge (h.uid hw).1, hA w hw⟩

theorem reach {u : Nat} (h : Slot g1 lt lpOf groups slot w? lo hi (some ⟨u, 0⟩) g2 W2) : Reach g2 u (tailOpt w? u) := by
  rcases h.worker with ⟨_, rfl⟩ | ⟨_, w, _, rfl, _, sw⟩
  · exact Reach.refl
  · exact Reach.one (q := ⟨u, 0⟩) Reach.refl sw.input

end Slot

theorem buildOpt_spec {g g1 g2 : Graph} {W1 W2 : World} {left : Trunk} {r : Nat} {A : Nat → Prop} {ts : List Training}
    (b : Body g g1 W1 left r A g2 W2 ts) (hnew : ∀ n, g1.next ≤ n → ¬ W2.live n) (lt lp : PubRef) (lpOf : Nat → PubRef)
    (groups : List (Nat × WRef)) (slot : Option Actor) (hG : GroupsOk g1 lt lpOf g2 groups)
    (hlp : ∀ a, slot = some a → groups.lookup a.tag = none → lp = lpOf a.tag) :
    ∃ w? g3, Run (buildOpt groups slot lt lp) g2 (w?, buildGroupsOpt groups slot g2.next) g3 ∧ Frame g2 g3 ∧
      Body g g1 W1 left r A g3 W2 (ts ++ buildTrainsOpt groups slot g2.next lt lp) ∧
      Slot g1 lt lpOf groups slot w? g2.next g3.next none g3 W2 ∧
      GroupsOk g1 lt lpOf g3 (buildGroupsOpt groups slot g2.next) := by
  cases slot with
  | none =>
    exact ⟨none, g2, rfl, Frame.refl g2, by simpa [buildTrainsOpt] using b,
      ⟨b.loop.next_le, Nat.le_refl _, Or.inl ⟨rfl, rfl⟩⟩, hG⟩
  | some a =>
    obtain ⟨w, g3, hrun, hf, h3, b', bt, hwu, hact, hG'⟩ := build_spec b hnew lt lp lpOf groups a hG (hlp a rfl)
    exact ⟨some w, g3, Run.bind hrun (Run.pure _ _), hf, b', ⟨b.loop.next_le, Nat.le_refl _, Or.inr ⟨a, w, rfl, rfl, hact,
      hwu, h3, bt.gid_ge, bt.gid_lt, bt.kind, bt.free 0, hnew _ bt.uid_ge, bt.trained⟩⟩, hG'⟩

theorem lookup_buildGroupsOpt_none {groups : List (Nat × WRef)} {slot : Option Actor} {n k : Nat}
    (h : (buildGroupsOpt groups slot n).lookup k = none) : groups.lookup k = none := by
  cases slot with
  | none => exact h
  | some a =>
    unfold buildGroupsOpt buildGroups at h
    cases hl : groups.lookup a.tag with
    | some p => simpa [hl] using h
    | none =>
      simp only [hl, List.lookup_append] at h
      cases hk : groups.lookup k with
      | none => rfl
      | some v => simp [hk] at h

/-- the publisher an optional subscription `w?[0] ← q` provides for input port `k` of `u` -/
def edgeHit (w? : Option WRef) (q : PubRef) (u k : Nat) : Option PubRef :=
  match w? with
  | some w => if w.uid = u ∧ 0 = k then some q else none
  | none => none

@[simp] theorem edgeHit_none (q u k) : edgeHit none q u k = none := rfl

/-- `label_publisher` of `wrap.Operator.compose` -/
def labelPubOf (wl? : Option WRef) (ll : PubRef) : PubRef :=
  match wl? with
  | some w => ⟨w.uid, 0⟩
  | none => ll

theorem labelPubOf_eq (wl? : Option WRef) (u : Nat) : labelPubOf wl? ⟨u, 0⟩ = ⟨tailOpt wl? u, 0⟩ := by
  cases wl? <;> rfl

/-- `label_publisher`, known before the label worker is built: the label build draws the uids from `n` on -/
def labelPubAt (lab : Option Actor) (n : Nat) (ll : PubRef) : PubRef :=
  match lab with
  | some _ => ⟨n + 2, 0⟩
  | none => ll

theorem Slot.labelPub {g1 g2 : Graph} {W2 : World} {lt : PubRef} {lpOf : Nat → PubRef} {groups : List (Nat × WRef)}
    {lab : Option Actor} {wl? : Option WRef} {lo hi : Nat} {q? : Option PubRef}
    (h : Slot g1 lt lpOf groups lab wl? lo hi q? g2 W2) (ll : PubRef) : labelPubOf wl? ll = labelPubAt lab lo ll := by
  rcases h.worker with ⟨rfl, rfl⟩ | ⟨_, w, rfl, rfl, _, sw⟩
  · rfl
  · show (⟨w.uid, 0⟩ : PubRef) = ⟨lo + 2, 0⟩
    rw [sw.uid]

/-- the labels the group of builder `τ` is trained with — as a publisher, or as a value: the label actor sees the
untransformed labels `own`, every other group the transformed ones -/
def labelOf {α} (lab : Option Actor) (own other : α) (τ : Nat) : α :=
  match lab with
  | some l => if l.tag = τ then own else other
  | none => other

/-- what holds between the two kinds of labels — as publishers and as values — holds between what the groups are trained
with -/
theorem labelOf_rel {α β} (R : α → β → Prop) (lab : Option Actor) {own other : α} {own' other' : β} (h1 : R own own')
    (h2 : R other other') (τ : Nat) : R (labelOf lab own other τ) (labelOf lab own' other' τ) := by
  cases lab with
  | none => exact h2
  | some l =>
    by_cases e : l.tag = τ
    · simp only [labelOf, e, if_true]; exact h1
    · simp only [labelOf, e, if_false]; exact h2

theorem composeWrap_eq (lab app trn : Option Actor) (scope : GraphM Trunk) :
    composeWrap lab app trn scope = (do
      let left ← scope
      let r1 ← buildOpt [] lab left.train.publisher left.label.publisher
      let r2 ← buildOpt r1.2 app left.train.publisher (labelPubOf r1.1 left.label.publisher)
      let r3 ← buildOpt r2.2 trn left.train.publisher (labelPubOf r1.1 left.label.publisher)
      left.extend (r2.1.map (fun w => Segment.ofNode w.uid)) (r3.1.map (fun w => Segment.ofNode w.uid))
        (r1.1.map (fun w => Segment.ofNode w.uid))) := rfl

/-- the value at the tail of a slot: the slot's actor applied to the incoming value, or the incoming value itself -/
def slotVal (vt : Val) (lblv : Nat → Val) (groups : List (Nat × WRef)) (slot : Option Actor) (x : Val) : Val :=
  match slot with
  | some a => applied (buildActor groups a) (trainedState (buildActor groups a) vt (lblv a.tag)) x
  | none => x

section
variable {g g1 g2 : Graph} {W1 W2 : World} {left : Trunk} {r : Nat} {A : Nat → Prop} {ts : List Training} {lt : PubRef}
  {lpOf : Nat → PubRef} {groups : List (Nat × WRef)} {slot : Option Actor} {w? : Option WRef} {lo hi : Nat}

/-- `left.<path>.extend(worker)` for the optional worker of a slot; the slots with other uids stay as they are -/
theorem Body.extendOpt (b : Body g g1 W1 left r A g2 W2 ts) (s : Segment)
    (sl : Slot g1 lt lpOf groups slot w? lo hi none g2 W2) (hq : s.tail < g2.next) (hge : g.next ≤ s.tail)
    (hA : ∀ w, w? = some w → A w.uid → Reach g2 left.apply.tail s.tail)
    (hB : ∀ w, w? = some w → ¬ A w.uid →
      s.publisher = left.train.publisher ∨ s.publisher = left.label.publisher ∨ (g1.next ≤ s.tail ∧ ¬ A s.tail)) :
    ∃ g3, Run (Trunk.extendOpt s (w?.map (fun w => Segment.ofNode w.uid))) g2 ⟨s.head, tailOpt w? s.tail⟩ g3 ∧
      Body g g1 W1 left r A g3 W2 ts ∧ Slot g1 lt lpOf groups slot w? lo hi (some s.publisher) g3 W2 ∧
      ∀ {lt' lpOf' groups' slot' w'? lo' hi' q'}, Slot g1 lt' lpOf' groups' slot' w'? lo' hi' q' g2 W2 →
        hi ≤ lo' ∨ hi' ≤ lo → Slot g1 lt' lpOf' groups' slot' w'? lo' hi' q' g3 W2 := by
  rcases sl.worker with ⟨hs, rfl⟩ | ⟨a, w, hs, rfl, ha, sw⟩
  · exact ⟨g2, run_extendOpt_none s g2, b, ⟨sl.lo_ge, sl.hi_le, Or.inl ⟨hs, rfl⟩⟩, fun s' _ => s'⟩
  · obtain ⟨hlo, hhi⟩ := sl.uid rfl
    refine ⟨_, run_extendOpt_seg s (.ofNode w.uid) g2 sw.input,
      (b.edge (Nat.le_trans sl.lo_ge hlo) sw.notLive (Nat.lt_of_lt_of_le hhi sl.hi_le) sw.input s.publisher hq hge (hA w rfl)
        (hB w rfl)).2,
      ⟨sl.lo_ge, sl.hi_le, Or.inr ⟨a, w, hs, rfl, ha, sw.uid, sw.room, sw.gid_ge, sw.gid_lt, sw.kind,
        inputOf_pushEdge_self (e := ⟨w.uid, 0, s.publisher⟩) sw.input, sw.notLive, sw.trained⟩⟩, fun s' hd => ?_⟩
    exact s'.mono (Nat.le_refl _) (fun _ _ => rfl)
      (fun u h1 h2 => inputOf_pushEdge_ne (e := ⟨w.uid, 0, s.publisher⟩) (by show w.uid ≠ u; omega) 0) (fun _ _ => rfl)
      fun _ _ _ x => x

/-- the optional worker of a slot, subscribed to the tail `u` of its path, becomes evaluable: the path now ends in
`slotVal` of the value at `u`; the slots with other uids stay as they are -/
theorem Body.liveSlot (b : Body g g1 W1 left r A g2 W2 ts) {u : Nat}
    (sl : Slot g1 lt lpOf groups slot w? lo hi (some ⟨u, 0⟩) g2 W2) (ρ : Nat) (hρ : ρ ≤ r + (g1.next - g.next) + 1)
    {x vt : Val} {lblv : Nat → Val} (hx : PubOk W2 ⟨u, 0⟩ ρ x) (ht : PubOk W2 lt ρ vt)
    (hl : ∀ a, slot = some a → PubOk W2 (lpOf a.tag) ρ (lblv a.tag)) :
    ∃ W3, Body g g1 W1 left r A g2 W3 ts ∧ Keeps W2 W3 ∧
      PubOk W3 ⟨tailOpt w? u, 0⟩ (ρ + 1) (slotVal vt lblv groups slot x) ∧
      ∀ {lt' lpOf' groups' slot' w'? lo' hi' q'}, Slot g1 lt' lpOf' groups' slot' w'? lo' hi' q' g2 W2 →
        hi ≤ lo' ∨ hi' ≤ lo → Slot g1 lt' lpOf' groups' slot' w'? lo' hi' q' g2 W3 := by
  rcases sl.worker with ⟨rfl, rfl⟩ | ⟨a, w, rfl, rfl, ha, sw⟩
  · exact ⟨W2, b, fun _ h => ⟨h, rfl, rfl⟩, hx.mono (Nat.le_succ ρ), fun s' _ => s'⟩
  · obtain ⟨hlo, hhi⟩ := sl.uid rfl
    obtain ⟨W3, b', ad⟩ := b.liveUnary sw.kind sw.input sw.notLive (Nat.le_trans sl.lo_ge hlo) sw.gid_ge sw.trained ρ
      (by have := sl.lo_ge; have := sl.hi_le; have := sw.room; have := b.le; omega) hx ht (hl a rfl)
    refine ⟨W3, b', ad.keeps, ?_, fun s' hd => ?_⟩
    · rw [show slotVal vt lblv groups (some a) x = applied w.actor (trainedState w.actor vt (lblv a.tag)) x by rw [ha]; rfl]
      exact ad.pub 0
    · exact s'.mono (Nat.le_refl _) (fun _ _ => rfl) (fun _ _ _ => rfl) (fun _ _ => rfl)
        fun v h1 h2 hv => ((ad.live v).mp hv).resolve_left (by omega)

end

end ForML.Compose
