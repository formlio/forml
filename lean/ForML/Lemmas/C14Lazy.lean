/-
C14 — the columns `lazy._Columns` extracts cover what every scan needs (`lazy_needs`).
-/
import ForML.Lemmas.C14Cols

namespace ForML.PushDown
open ForML.Dsl

mutual
theorem lazyF_covers : ∀ (f : Feature) (e : Elem), e ∈ elems f → isTable (inst e.1) = true → (inst e.1, e.2) ∈ lazyF f
  | .lit _, e, h, _ => by simp [elems] at h
  | .elem o n, e, h, ht => by
    simp only [elems, List.mem_singleton] at h
    subst h
    cases o with
    | table n fs => simp [lazyF, inst]
    | ref i nm =>
      cases i with
      | table n fs => simp [lazyF, inst]
      | _ => simp [inst, isTable] at ht
    | _ => simp [inst, isTable] at ht
  | .alias f _, e, h, ht => by
    simp only [elems] at h
    simpa [lazyF] using lazyF_covers f e h ht
  | .expr _ args, e, h, ht => by
    simp only [elems] at h
    simpa [lazyF] using lazyFs_covers args e h ht
  | .cast f _, e, h, ht => by
    simp only [elems] at h
    simpa [lazyF] using lazyF_covers f e h ht
  | .window _ _ _, e, h, _ => by simp [elems] at h
theorem lazyFs_covers : ∀ (fs : Features) (e : Elem), e ∈ elemsL fs → isTable (inst e.1) = true → (inst e.1, e.2) ∈ lazyFs fs
  | .nil, e, h, _ => by simp [elemsL] at h
  | .cons f fs, e, h, ht => by
    simp only [elemsL, List.mem_append] at h
    simp only [lazyFs, List.mem_append]
    rcases h with h | h
    · exact Or.inl (lazyF_covers f e h ht)
    · exact Or.inr (lazyFs_covers fs e h ht)
end

theorem elemsAll_toList : ∀ (fs : Features) (e : Elem), e ∈ elemsAll fs.toList ↔ e ∈ elemsL fs
  | .nil, e => by simp [elemsAll, Features.toList, elemsL]
  | .cons f fs, e => by
    have ih := elemsAll_toList fs e
    simp only [elemsAll] at ih
    simp [elemsAll, Features.toList, elemsL, ih]

theorem lazyOrd_covers : ∀ (os : Orderings) (e : Elem), e ∈ elemsAll (ordFeatures os) →
    isTable (inst e.1) = true → (inst e.1, e.2) ∈ lazyOrd os
  | .nil, e, h, _ => by simp [elemsAll, ordFeatures] at h
  | .cons (.mk f d) os, e, h, ht => by
    simp only [elemsAll, ordFeatures, List.flatMap_cons, List.mem_append] at h
    simp only [lazyOrd, List.mem_append]
    rcases h with h | h
    · exact Or.inl (lazyF_covers f e h ht)
    · exact Or.inr (lazyOrd_covers os e h ht)

theorem lazyOpt_covers (c : FeatureOpt) (e : Elem) (h : e ∈ elemsAll (optList c))
    (ht : isTable (inst e.1) = true) : (inst e.1, e.2) ∈ lazyOpt c := by
  cases c with
  | none => simp [elemsAll, optList] at h
  | some f =>
    simp only [elemsAll, optList, List.flatMap_cons, List.flatMap_nil, List.append_nil] at h
    exact lazyF_covers f e h ht

theorem starCols_covers : ∀ (s : Source) (e : Elem), e ∈ elemsAll (features s) → isTable (inst e.1) = true →
    (inst e.1, e.2) ∈ starCols s
  | .table n fs, e, h, _ => by
    simp only [features, elemsAll, List.mem_flatMap, List.mem_map] at h
    obtain ⟨f, ⟨c, hc, rfl⟩, he⟩ := h
    simp only [elems, List.mem_singleton] at he
    subst he
    simp only [starCols, inst, List.mem_map]
    exact ⟨c, hc, rfl⟩
  | .ref i nm, e, h, ht => by
    simp only [features, elemsAll, List.mem_flatMap, List.mem_map] at h
    obtain ⟨f, ⟨c, hc, rfl⟩, he⟩ := h
    simp only [elems, List.mem_singleton] at he
    subst he
    cases i with
    | table n fs =>
      simp only [features, List.filterMap_map, List.mem_filterMap] at hc
      obtain ⟨c', hc', hn⟩ := hc
      simp only [Function.comp, nameOf, Option.some.injEq] at hn
      subst hn
      simp only [starCols, inst, List.mem_map]
      exact ⟨c', hc', rfl⟩
    | _ => simp [inst, isTable] at ht
  | .join l r _ _, e, h, ht => by
    simp only [features, elemsAll, List.flatMap_append, List.mem_append] at h
    simp only [starCols, List.mem_append]
    rcases h with h | h
    · exact Or.inl (starCols_covers l e h ht)
    · exact Or.inr (starCols_covers r e h ht)
  | .set l r _, e, h, ht => by
    simp only [features, elemsAll, List.flatMap_append, List.mem_append] at h
    simp only [starCols, List.mem_append]
    rcases h with h | h
    · exact Or.inl (starCols_covers l e h ht)
    · exact Or.inr (starCols_covers r e h ht)
  | .query src sel _ _ _ _ _, e, h, ht => by
    simp only [features] at h
    simp only [starCols]
    by_cases hs : sel.isEmpty = true
    · simp only [hs, if_true] at h ⊢
      exact starCols_covers src e h ht
    · simp only [hs] at h ⊢
      exact lazyFs_covers sel e ((elemsAll_toList sel e).mp h) ht

/-- the parser's `Covers` with `L` for the registered fields, keyed by table as in the code that exists -/
abbrev LCovers (L : List (Source × String)) (F : List Feature) : Prop := Covers false { fields := L } F

/-- every scan's needed columns are among the columns `lazy._Columns` extracts for its table -/
theorem lazy_needs : ∀ (s : Source) (F : List Feature) (L : List (Source × String)), LCovers L F →
    (∀ x ∈ lazyS s, x ∈ L) → Forall2 (fun need t => ∀ n ∈ need, (t, n) ∈ L) (needs F s) (scanTables s)
  | .table n fs, F, L, hF, _ => by
    simp only [needs, scanTables]
    refine .cons (fun c hc => ?_) .nil
    have := hF _ (mem_usedBy.mp hc) (by simp [inst, isTable])
    simpa [inst, keyOf] using this
  | .ref i nm, F, L, hF, hL => by
    simp only [needs, scanTables]
    by_cases ht : isTable i = true
    · simp only [ht, if_true]
      refine .cons (fun c hc => ?_) .nil
      have := hF _ (mem_usedBy.mp hc) (by simp [inst, ht])
      simpa [inst, keyOf] using this
    · simp only [ht]
      exact lazy_needs i F L hF (by simpa [lazyS] using hL)
  | .join l r k c, F, L, hF, hL => by
    simp only [needs, scanTables]
    simp only [lazyS, List.mem_append] at hL
    have hF' : LCovers L (F ++ optList c) :=
      covers_append hF (fun e he ht => hL _ (Or.inl (Or.inl (lazyOpt_covers c e he ht))))
    exact (lazy_needs l _ L hF' (fun x hx => hL x (Or.inl (Or.inr hx)))).append
      (lazy_needs r _ L hF' (fun x hx => hL x (Or.inr hx)))
  | .set l r k, F, L, _, hL => by
    simp only [needs, scanTables]
    simp only [lazyS, List.mem_append] at hL
    have h0 : LCovers L [] := covers_nil _ _
    exact (lazy_needs l [] L h0 (fun x hx => hL x (Or.inl hx))).append (lazy_needs r [] L h0 (fun x hx => hL x (Or.inr hx)))
  | .query src sel pre grp post ord rows, F, L, _, hL => by
    simp only [needs, scanTables]
    simp only [lazyS, List.mem_append] at hL
    refine lazy_needs src _ L ?_ (fun x hx => hL x (Or.inr hx))
    unfold queryFeatures
    refine covers_append (covers_append (covers_append (covers_append ?_ ?_) ?_) ?_) ?_
    · exact fun e he ht => hL _ (Or.inl (Or.inl (Or.inl (Or.inl (Or.inl
        (starCols_covers (.query src sel pre grp post ord rows) e he ht))))))
    · exact fun e he ht => hL _ (Or.inl (Or.inl (Or.inl (Or.inl (Or.inr (lazyOpt_covers pre e he ht))))))
    · exact fun e he ht => hL _ (Or.inl (Or.inl (Or.inr (lazyOpt_covers post e he ht))))
    · exact fun e he ht => hL _ (Or.inl (Or.inl (Or.inl (Or.inr (lazyFs_covers grp e ((elemsAll_toList grp e).mp he) ht)))))
    · exact fun e he ht => hL _ (Or.inl (Or.inr (lazyOrd_covers ord e he ht)))

end ForML.PushDown
