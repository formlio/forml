/-
C01 — `segment.accept(table)` as one program; the prefixed-linkage component of the final state (`preInv_all`); what a
run of link operations with pairwise distinct free targets does to `Linkage._absolute` (`absRun_spec`).
-/
import ForML.Lemmas.C01Ops
import ForML.Lemmas.C01Wf

namespace ForML.Flow
open CState Segment

def nodeProg (g : Segment) (A : Option Assets) (n : Uid) : List Op :=
  match g.worker? n with
  | some w => prog g A w
  | none => [Op.fail .assertion]

theorem nodeProg_eq {g : Segment} {A : Option Assets} {n : Uid} {w : Worker} (h : g.worker? n = some w) :
    nodeProg g A n = prog g A w := by
  simp only [nodeProg, h]

def allProg (g : Segment) (A : Option Assets) (order : List Uid) : List Op := order.flatMap (nodeProg g A)

theorem addAll_eq (g : Segment) (A : Option Assets) (order : List Uid) :
    addAll g A order = runOps CState.init (allProg g A order) := by
  unfold addAll allProg
  generalize CState.init = s
  induction order generalizing s with
  | nil => rfl
  | cons n r ih =>
    simp only [List.foldl_cons, List.flatMap_cons, runOps_append]
    rw [ih]
    congr 1
    unfold nodeProg
    cases g.worker? n with
    | none => rfl
    | some w => exact add_eq g A s w

theorem allProg_snoc (g : Segment) (A : Option Assets) (vis : List Uid) (n : Uid) :
    allProg g A (vis ++ [n]) = allProg g A vis ++ nodeProg g A n := by
  simp [allProg]

/-- induction along a visit order: a member that is not among those visited so far is visited next, and its program
comes after theirs -/
theorem allProg_induction {g : Segment} {A : Option Assets} {P : List Uid → List Op → Prop} (h0 : P [] [])
    (hs : ∀ vis (w : Worker), g.worker? w.uid = some w → w.uid ∉ vis → P vis (allProg g A vis) →
      P (vis ++ [w.uid]) (allProg g A vis ++ prog g A w)) :
    ∀ order, order.Nodup → (∀ n ∈ order, (g.worker? n).isSome) → P order (allProg g A order) := by
  refine snoc_induction (fun _ _ => h0) fun vis n ih hnd hw => ?_
  obtain ⟨w, hwn⟩ := Option.isSome_iff_exists.mp (hw n (by simp))
  obtain ⟨_, rfl⟩ := worker?_some hwn
  rw [allProg_snoc, nodeProg_eq hwn]
  exact hs vis w hwn (fun h => (List.nodup_append.mp hnd).2.2 _ h _ (by simp) rfl)
    (ih (List.nodup_append.mp hnd).1 fun m hm => hw m (List.mem_append_left _ hm))

def Op.isPrepend : Op → Bool
  | .prepend _ _ => true
  | _ => false

theorem preStep_of_not_prepend (pre : PreS) {op : Op} (h : op.isPrepend = false) : preStep pre op = pre := by
  cases op with
  | prepend k a => cases h
  | _ => rfl

theorem preRun_noPrepend (pre : PreS) (ops : List Op) (h : ∀ op ∈ ops, op.isPrepend = false) : preRun pre ops = pre := by
  induction ops with
  | nil => rfl
  | cons op r ih =>
    simp only [preRun, List.foldl_cons, preStep_of_not_prepend pre (h op List.mem_cons_self)]
    exact ih (fun o ho => h o (List.mem_cons_of_mem _ ho))

theorem updProg_noPrepend (g : Segment) (w : Worker) : ∀ op ∈ updProg g w, op.isPrepend = false := by
  intro op hop
  unfold updProg at hop
  split at hop
  · simp only [List.mem_map] at hop
    obtain ⟨e, _, rfl⟩ := hop; rfl
  · simp only [List.mem_flatMap, List.mem_range, List.mem_append, List.mem_cons, List.mem_map] at hop
    obtain ⟨i, _, (rfl | rfl | h) | ⟨e, _, rfl⟩⟩ := hop
    · rfl
    · rfl
    · cases h
    · rfl

theorem preRun_prog (g : Segment) (A : Option Assets) (w : Worker) (pre : PreS) :
    preRun pre (prog g A w) =
      if g.hasPreset A w then aset (.uid w.uid) ((aget (Key.uid w.uid) pre).getD [] ++ [stateKey g A w]) pre else pre := by
  unfold prog progHead
  simp only [preRun_append]
  have hupd : ∀ p, preRun p (if g.trained w.uid then [] else updProg g w) = p := by
    intro p
    split
    · rfl
    · exact preRun_noPrepend p _ (updProg_noPrepend g w)
  rw [hupd]
  have h1 : ∀ p, preRun p [Op.checkFresh (.uid w.uid)] = p := fun _ => rfl
  have h2 : ∀ p, preRun p (if persistentW A w then [Op.isetAbsent ⟨.loader w.gid, .loader w.gid⟩ (.gid w.gid)] else []) = p := by
    intro p; split <;> rfl
  have h3 : ∀ p, preRun p (dumpProg g A w) = p := by
    intro p
    unfold dumpProg commitOp
    split
    · cases A.bind (·.offset w.gid) <;> rfl
    · rfl
  have h5 : ∀ p, preRun p (if g.isTrainer w then [Op.iset (functorObj g A w) (.uid w.uid), Op.iset (functorObj g A w) (.gid w.gid)]
      else [Op.iset (functorObj g A w) (.uid w.uid)]) = p := by
    intro p; split <;> rfl
  rw [h5, h1, h2, h3]
  split <;> rfl

/-- what `Linkage._prefixed` holds after visiting `vis` -/
structure PreInv (g : Segment) (A : Option Assets) (vis : List Uid) (pre : PreS) : Prop where
  keys : (pre.map (·.1)).Nodup
  sound : ∀ k l, aget k pre = some l →
    ∃ w, g.worker? w.uid = some w ∧ k = .uid w.uid ∧ w.uid ∈ vis ∧ g.hasPreset A w = true ∧ l = [stateKey g A w]
  complete : ∀ w, g.worker? w.uid = some w → w.uid ∈ vis → g.hasPreset A w = true →
    aget (.uid w.uid) pre = some [stateKey g A w]

theorem preInv_all (g : Segment) (A : Option Assets) (order : List Uid) (hnd : order.Nodup)
    (hw : ∀ n ∈ order, (g.worker? n).isSome) : PreInv g A order (preRun [] (allProg g A order)) := by
  refine allProg_induction (P := fun vis ops => PreInv g A vis (preRun [] ops)) ?_ (fun vis w hwn hn ih => ?_) order hnd hw
  · exact ⟨List.nodup_nil, fun k l h => (nomatch h), fun w _ h => (nomatch h)⟩
  · rw [preRun_append]
    generalize preRun [] (allProg g A vis) = pre at ih
    rw [preRun_prog]
    have hfresh : aget (Key.uid w.uid) pre = none := by
      cases h : aget (Key.uid w.uid) pre with
      | none => rfl
      | some l =>
        obtain ⟨w', _, hk, hv, _⟩ := ih.sound _ _ h
        have hk' : w.uid = w'.uid := Key.uid.inj hk
        exact absurd hv (by rw [← hk']; exact hn)
    have hold : ∀ k l, aget k pre = some l → ∃ w', g.worker? w'.uid = some w' ∧ k = .uid w'.uid ∧
        w'.uid ∈ vis ++ [w.uid] ∧ g.hasPreset A w' = true ∧ l = [stateKey g A w'] := fun k l h =>
      let ⟨w', h1, h2, h3, h4, h5⟩ := ih.sound k l h
      ⟨w', h1, h2, List.mem_append_left _ h3, h4, h5⟩
    have hvis : ∀ w', g.worker? w'.uid = some w' → w'.uid ∈ vis ++ [w.uid] → w'.uid ∈ vis ∨ w' = w := by
      intro w' hw' hv
      rcases List.mem_append.mp hv with hv | hv
      · exact Or.inl hv
      · rw [List.mem_singleton.mp hv, hwn] at hw'
        exact Or.inr (Option.some.inj hw').symm
    split
    · rename_i hpre
      simp only [hfresh, Option.getD_none, List.nil_append]
      refine ⟨aset_keys_nodup ih.keys, fun k l h => ?_, fun w' hw' hv hp => ?_⟩
      · rw [aget_aset] at h
        split at h
        · cases h; subst_vars
          exact ⟨w, hwn, rfl, by simp, hpre, rfl⟩
        · exact hold k l h
      · rw [aget_aset]
        rcases hvis w' hw' hv with hv | rfl
        · rw [if_neg (fun e => hn (by rw [Key.uid.inj e]; exact hv))]
          exact ih.complete w' hw' hv hp
        · rw [if_pos rfl]
    · rename_i hpre
      exact ⟨ih.keys, hold, fun w' hw' hv hp =>
        (hvis w' hw' hv).elim (fun hv => ih.complete w' hw' hv hp) (fun e => absurd (e ▸ hp) hpre)⟩

/-- `Linkage._absolute[k][j]` -/
def slot (abs : AbsS) (k : Key) (j : Nat) : Option Key := ((aget k abs).getD []).getD j none

/-- target slot of a link operation -/
def Op.tgt : Op → Option (Key × Nat)
  | .linsert k _ i => some (k, i.getD 0)
  | .linsertC _ i => some (.committer, i)
  | _ => none

/-- linked argument -/
def Op.src : Op → Key
  | .linsert _ a _ => a
  | .linsertC a _ => a
  | _ => .committer

/-- `Linkage.insert` without index (single-argument instruction) -/
def Op.noIdx : Op → Bool
  | .linsert _ _ none => true
  | _ => false

theorem absStep_nolink {abs : AbsS} {op : Op} (h : op.tgt = none) : absStep abs op = some abs := by
  cases op <;> simp_all [Op.tgt, absStep]

theorem slot_aset (abs : AbsS) (k k' : Key) (j j' : Nat) (a : Key) :
    slot (aset k (CState.putAt ((aget k abs).getD []) j a) abs) k' j' =
      if k' = k ∧ j' = j then some a else slot abs k' j' := by
  unfold slot
  rw [aget_aset]
  by_cases hk : k = k'
  · subst hk
    simp only [if_true, Option.getD_some, putAt_getD, true_and]
  · have : ¬ (k' = k ∧ j' = j) := fun h => hk h.1.symm
    simp [hk, this]

/-- the entries of the map keep their last slot filled -/
def AllLastSome (abs : AbsS) : Prop := ∀ k l, aget k abs = some l → LastSome l

theorem absIns_ok {abs : AbsS} {k a : Key} {i : Option Nat} (hfree : slot abs k (i.getD 0) = none)
    (hz : i = none → aget k abs = none) :
    absIns abs k a i = some (aset k (CState.putAt ((aget k abs).getD []) (i.getD 0) a) abs) := by
  unfold absIns
  simp only
  have h1 : ¬ (i = none ∧ ¬ ((aget k abs).getD []).length ≤ 1) := by
    rintro ⟨hi, hl⟩
    rw [hz hi] at hl
    simp at hl
  have h2 : (((aget k abs).getD []).getD (i.getD 0) none).isSome = false := by
    unfold slot at hfree
    rw [hfree]; rfl
  rw [if_neg]
  rintro (h | h)
  · exact h1 h
  · rw [h2] at h; cases h

/-- `abs'` is `abs` with exactly the links of `ops` added -/
structure AbsSpec (abs abs' : AbsS) (ops : List Op) : Prop where
  written : ∀ op ∈ ops, ∀ k j, op.tgt = some (k, j) → slot abs' k j = some op.src
  kept : ∀ k j a, slot abs k j = some a → slot abs' k j = some a
  sound : ∀ k j a, slot abs' k j = some a → slot abs k j = some a ∨ ∃ op ∈ ops, op.tgt = some (k, j) ∧ op.src = a
  keys : ∀ k, k ∈ abs'.map (·.1) ↔ k ∈ abs.map (·.1) ∨ ∃ op ∈ ops, ∃ j, op.tgt = some (k, j)
  nodup : (abs.map (·.1)).Nodup → (abs'.map (·.1)).Nodup
  last : AllLastSome abs → AllLastSome abs'

theorem AbsSpec.trans {a b c : AbsS} {o₁ o₂ : List Op} (h₁ : AbsSpec a b o₁) (h₂ : AbsSpec b c o₂) :
    AbsSpec a c (o₁ ++ o₂) := by
  refine ⟨fun op hop k j ht => ?_, fun k j x h => h₂.kept k j x (h₁.kept k j x h), fun k j x h => ?_, fun k => ?_,
    fun h => h₂.nodup (h₁.nodup h), fun h => h₂.last (h₁.last h)⟩
  · rcases List.mem_append.mp hop with hop | hop
    · exact h₂.kept k j _ (h₁.written op hop k j ht)
    · exact h₂.written op hop k j ht
  · rcases h₂.sound k j x h with h | ⟨op, hop, h⟩
    · rcases h₁.sound k j x h with h | ⟨op, hop, h⟩
      · exact Or.inl h
      · exact Or.inr ⟨op, List.mem_append_left _ hop, h⟩
    · exact Or.inr ⟨op, List.mem_append_right _ hop, h⟩
  · rw [h₂.keys k, h₁.keys k]
    simp only [List.mem_append, or_assoc]
    constructor
    · rintro (h | ⟨op, hop, h⟩ | ⟨op, hop, h⟩)
      · exact Or.inl h
      · exact Or.inr ⟨op, Or.inl hop, h⟩
      · exact Or.inr ⟨op, Or.inr hop, h⟩
    · rintro (h | ⟨op, hop | hop, h⟩)
      · exact Or.inl h
      · exact Or.inr (Or.inl ⟨op, hop, h⟩)
      · exact Or.inr (Or.inr ⟨op, hop, h⟩)

theorem AbsSpec.nolink (abs : AbsS) {ops : List Op} (h : ∀ op ∈ ops, op.tgt = none) : AbsSpec abs abs ops := by
  have hno : ∀ o ∈ ops, ∀ x, o.tgt ≠ some x := fun o ho x hx => by rw [h o ho] at hx; cases hx
  exact ⟨fun o ho k j ht => absurd ht (hno o ho _), fun _ _ _ h => h, fun _ _ _ h => Or.inl h,
    fun k => ⟨Or.inl, fun h => h.resolve_right fun ⟨o, ho, j, ht⟩ => hno o ho _ ht⟩, id, id⟩

theorem AbsSpec.link {abs : AbsS} {op : Op} {k0 : Key} {j0 : Nat} (htgt : op.tgt = some (k0, j0))
    (hfree : slot abs k0 j0 = none) :
    AbsSpec abs (aset k0 (CState.putAt ((aget k0 abs).getD []) j0 op.src) abs) [op] := by
  have hslot := fun k j => slot_aset abs k0 k j0 j op.src
  refine ⟨fun o ho k j ht => ?_, fun k j a h => ?_, fun k j a h => ?_, fun k => ?_, aset_keys_nodup, fun h k l hl => ?_⟩
  · rw [List.mem_singleton.mp ho, htgt] at ht
    cases ht
    rw [List.mem_singleton.mp ho, hslot, if_pos ⟨rfl, rfl⟩]
  · rw [hslot, if_neg]
    · exact h
    · rintro ⟨rfl, rfl⟩
      rw [hfree] at h; cases h
  · rw [hslot] at h
    split at h
    · rename_i heq
      cases h
      exact Or.inr ⟨op, List.mem_singleton_self _, by rw [htgt, heq.1, heq.2], rfl⟩
    · exact Or.inl h
  · rw [aset_keys_mem]
    constructor
    · rintro (rfl | h)
      · exact Or.inr ⟨op, List.mem_singleton_self _, j0, htgt⟩
      · exact Or.inl h
    · rintro (h | ⟨o, ho, j, ht⟩)
      · exact Or.inr h
      · rw [List.mem_singleton.mp ho, htgt] at ht
        cases ht; exact Or.inl rfl
  · rw [aget_aset] at hl
    split at hl
    · cases hl
      apply lastSome_putAt
      cases hg : aget k0 abs with
      | none => exact Or.inl rfl
      | some l0 => exact h k0 l0 hg
    · exact h k l hl

/-- the third hypothesis (an insert without index goes to a key that has no entry yet and that the run targets at slot 0
only) keeps 'Index required for multiarg' from firing, in whatever order the operations on that key come -/
theorem absRun_spec (ops : List Op) : ∀ (abs : AbsS),
    (∀ op ∈ ops, ∀ k j, op.tgt = some (k, j) → slot abs k j = none) →
    (ops.filterMap Op.tgt).Nodup →
    (∀ op ∈ ops, op.noIdx = true → ∀ k j, op.tgt = some (k, j) →
      aget k abs = none ∧ ∀ op' ∈ ops, ∀ j', op'.tgt = some (k, j') → j' = 0) →
    ∃ abs', absRun abs ops = some abs' ∧ AbsSpec abs abs' ops := by
  induction ops with
  | nil =>
    intro abs _ _ _
    exact ⟨abs, rfl, .nolink abs fun _ h => nomatch h⟩
  | cons op r ih =>
    intro abs hF hN hZ
    obtain ⟨abs1, hstep, h1⟩ : ∃ abs1, absStep abs op = some abs1 ∧ AbsSpec abs abs1 [op] := by
      cases htgt : op.tgt with
      | none => exact ⟨abs, absStep_nolink htgt, .nolink abs fun o ho => List.mem_singleton.mp ho ▸ htgt⟩
      | some t =>
        obtain ⟨k0, j0⟩ := t
        have hfree := hF op List.mem_cons_self k0 j0 htgt
        refine ⟨_, ?_, .link htgt hfree⟩
        cases op with
        | linsert k a i =>
          cases htgt
          exact absIns_ok hfree fun hi => (hZ _ List.mem_cons_self (by rw [hi]; rfl) _ _ rfl).1
        | linsertC a i =>
          cases htgt
          exact absIns_ok (i := some _) hfree (fun hi => nomatch hi)
        | _ => cases htgt
    obtain ⟨hNop, hN'⟩ : (∀ x, op.tgt = some x → x ∉ r.filterMap Op.tgt) ∧ (r.filterMap Op.tgt).Nodup := by
      rw [List.filterMap_cons] at hN
      cases h : op.tgt with
      | none => rw [h] at hN; exact ⟨fun _ hx => (nomatch hx), hN⟩
      | some t =>
        rw [h] at hN
        exact ⟨fun x hx => by cases hx; exact (List.nodup_cons.mp hN).1, (List.nodup_cons.mp hN).2⟩
    have hmemr : ∀ {o : Op} {x}, o ∈ r → o.tgt = some x → x ∈ r.filterMap Op.tgt := fun ho ht =>
      List.mem_filterMap.mpr ⟨_, ho, ht⟩
    obtain ⟨abs', hrun, hspec⟩ := ih abs1
      (fun o ho k j ht => by
        cases hs : slot abs1 k j with
        | none => rfl
        | some a =>
          rcases h1.sound k j a hs with h | ⟨o', ho', ht', _⟩
          · rw [hF o (List.mem_cons_of_mem _ ho) k j ht] at h; cases h
          · rw [List.mem_singleton.mp ho'] at ht'
            exact absurd (hmemr ho ht) (hNop _ ht'))
      hN'
      (fun o ho hn k j ht => by
        have hz0 := hZ o (List.mem_cons_of_mem _ ho) hn k j ht
        refine ⟨aget_none_iff.mpr fun hk => ?_, fun o' ho' => hz0.2 o' (List.mem_cons_of_mem _ ho')⟩
        -- had the first operation made the entry of `k`, it would target slot 0 of `k`, as `o` does
        rcases (h1.keys k).mp hk with hk | ⟨o', ho', j', ht'⟩
        · exact aget_none_iff.mp hz0.1 hk
        · rw [List.mem_singleton.mp ho'] at ht'
          have h0 := hz0.2 op List.mem_cons_self j' ht'
          have h0' := hz0.2 o (List.mem_cons_of_mem _ ho) j ht
          subst h0 h0'
          exact hNop _ ht' (hmemr ho ht))
    exact ⟨abs', by simp [absRun, hstep, hrun], h1.trans hspec⟩

end ForML.Flow
