/-
The fold loop of `Ensembler.compose` (`foldsLoop`): the scope is expanded once per fold on that
fold's train part; a copy of its apply segment is fed with the held-out part (`foldsLoop_spec`).  `Track`: the state all
three loops of the ensemble run from; `PortOk` / `Ports`: the certified ports of a pair of collectors.
-/
import ForML.Lemmas.C03Iter

namespace ForML.Compose

theorem IterOk.loop {X : Nat → Prop} {lo : Nat} {g g' : Graph} {W W' : World} {t c rr s vc} (hlo : lo ≤ g.next) (hi : Inv g W)
    (h : IterOk g g' W W' t c rr s vc) : LoopOk X lo g g' W W' rr :=
  ⟨h.inv, h.wired, h.frame.next_le, h.frame.kind, fun u k hu _ => h.frame.input u k hu, h.frame.input_mono hi.bounded,
    h.frame.trainer, h.agree, h.rank, fun n hn hl gid a i o hk => Nat.le_trans hlo (h.fresh n hn hl gid a i o hk), h.noOpen⟩

/-- where the four publishers of a fold lie relative to the apply head `a` of the ensemble: the fold's apply output
is on the apply side, its train and label outputs and the held-out copy are not -/
structure FoldReach (g : Graph) (a lo : Nat) (f : Fold) : Prop where
  ta : Reach g a f.trainApply.node
  tt : ¬ Reach g a f.trainTrain.node
  tl : ¬ Reach g a f.trainLabel.node
  tx : ¬ Reach g a f.testTrain.node
  ge : lo ≤ f.trainApply.node ∧ lo ≤ f.trainTrain.node ∧ lo ≤ f.trainLabel.node ∧ lo ≤ f.testTrain.node
  lt : f.trainApply.node < g.next ∧ f.trainTrain.node < g.next ∧ f.trainLabel.node < g.next ∧ f.testTrain.node < g.next

theorem FoldReach.frame {g g' : Graph} {a lo : Nat} {f : Fold} (h : FoldReach g a lo f) (hf : Frame g g') (hw : Wired g)
    (hb : Bounded g) : FoldReach g' a lo f := by
  have := hf.next_le
  obtain ⟨l1, l2, l3, l4⟩ := h.lt
  exact ⟨h.ta.mono (hf.input_mono hb), fun x => h.tt (Reach.old hf hw l2 x), fun x => h.tl (Reach.old hf hw l3 x),
    fun x => h.tx (Reach.old hf hw l4 x), h.ge, ⟨by omega, by omega, by omega, by omega⟩⟩

/-- the state a loop of the ensemble runs from: `gb` is the reference graph of `AReg` (nothing is tracked there), `a` the
apply head of the ensemble, `g` a certified graph past `gb` whose nodes from `cc` on are tracked; `rr` and `lo` as in `LoopOk` -/
structure Track (a lo cc rr : Nat) (gb g : Graph) (W : World) : Prop where
  wb : Wired gb
  bb : Bounded gb
  ha : a < gb.next
  inv : Inv g W
  wired : Wired g
  hrr : rr ≤ g.next
  hlo : lo ≤ g.next
  frame : Frame gb g
  hcc : cc ≤ g.next
  areg : AReg a lo gb.next cc g W

theorem Track.next {a lo cc rr : Nat} {gb g g' : Graph} {W W' : World} {X : Nat → Prop} (t : Track a lo cc rr gb g W)
    (hl : LoopOk X lo g g' W W' rr) (hX : ∀ x, X x → gb.next ≤ x) (h : AReg a lo gb.next cc g' W') :
    Track a lo cc rr gb g' W' :=
  have hn := hl.next_le
  ⟨t.wb, t.bb, t.ha, hl.inv, hl.wired, Nat.le_trans t.hrr hn, Nat.le_trans t.hlo hn, hl.frameFrom t.frame hX,
    Nat.le_trans t.hcc hn, h⟩

theorem Track.round {a lo cc rr : Nat} {gb g g6 : Graph} {W W6 : World} {t : Trunk} {c : Segment} {f : Fold} {s : Sem} {vc : Val}
    (tr : Track a lo cc rr gb g W) (hfr : FoldReach gb a lo f) (hit : IterOk g g6 W W6 t c rr s vc)
    (hext : IterExt g g6 W6 t c f.trainApply f.trainTrain f.trainLabel f.testTrain) :
    IterReg a g g6 W6 t c ∧ Track a lo cc rr gb g6 W6 := by
  have hfr' := hfr.frame tr.frame tr.wb tr.bb
  have ireg : IterReg a g g6 W6 t c :=
    hext.areg a (Nat.lt_of_lt_of_le tr.ha tr.frame.next_le) hfr'.ta hfr'.tt hfr'.tl hfr'.tx
  refine ⟨ireg, tr.next (X := fun _ => False) (hit.loop tr.hlo tr.inv) (fun _ hx => hx.elim)
    (tr.areg.step (X := fun _ => False) tr.frame tr.wb tr.wired (fun x hx => hx.elim)
      (fun u k hu _ => hit.frame.input u k hu) (hit.frame.input_mono tr.inv.bounded) hit.agree ?_ ireg.reg)⟩
  intro s k q hs hq
  rcases hext.closed s k q hs hq with e | e | e | e | e
  · exact Or.inl (Nat.le_trans tr.hcc e)
  · rw [e]; exact Or.inr ⟨hfr.ge.1, hfr.lt.1⟩
  · rw [e]; exact Or.inr ⟨hfr.ge.2.1, hfr.lt.2.1⟩
  · rw [e]; exact Or.inr ⟨hfr.ge.2.2.1, hfr.lt.2.2.1⟩
  · rw [e]; exact Or.inr ⟨hfr.ge.2.2.2, hfr.lt.2.2.2⟩

/-- a subscription of an untracked collector created after `gb` -/
theorem Track.pushEdge {a lo cc rr : Nat} {gb g : Graph} {W : World} {X : Nat → Prop} {e : Edge} (t : Track a lo cc rr gb g W)
    (hl : LoopOk X lo g (g.pushEdge e) W W rr) (hX : ∀ x, X x → gb.next ≤ x) (hs : gb.next ≤ e.sub ∧ e.sub < cc) :
    Track a lo cc rr gb (g.pushEdge e) W :=
  t.next hl hX (t.areg.pushEdge t.frame t.wb t.wired t.inv.bounded (Nat.lt_of_lt_of_le t.ha t.frame.next_le) t.hcc e hs)

/-- one port of a pair of collectors of the ensemble, the first (`T`) fed from off the apply side, the second (`A`) from it: the
two publishers subscribed, what they carry, and where they lie (both among the tracked nodes, uid `≥ cc`) -/
structure PortOk (a cc : Nat) (g : Graph) (W : World) (R : Nat) (qT qA : PubRef) (vT vA : Val) : Prop where
  valT : PubOk W qT R vT
  valA : PubOk W qA R vA
  onA : Reach g a qA.node
  offT : ¬ Reach g a qT.node
  geA : cc ≤ qA.node
  geT : cc ≤ qT.node

/-- a port stays what it is while later rounds run (`X`: the collectors they subscribe) -/
theorem PortOk.keep {a lo cc rr R R' : Nat} {gb g g' : Graph} {W W' : World} {X : Nat → Prop} {qT qA : PubRef} {vT vA : Val}
    (p : PortOk a cc g W R qT qA vT vA) (tr : Track a lo cc rr gb g W) (hX : ∀ x, X x → gb.next ≤ x ∧ x < cc)
    (hl : LoopOk X lo g g' W W' rr) (hR : R ≤ R') : PortOk a cc g' W' R' qT qA vT vA :=
  ⟨(p.valT.keeps (hl.keeps tr.inv)).mono hR, (p.valA.keeps (hl.keeps tr.inv)).mono hR, p.onA.mono hl.inputMono,
    fun hre => p.offT (tr.areg.stable tr.frame tr.wb tr.wired hX hl.input (tr.inv.liveLt _ p.valT.live).1 p.geT hre),
    p.geA, p.geT⟩

/-- the ports `0..i-1` of the two collectors -/
def Ports (a cc : Nat) (g : Graph) (W : World) (R i : Nat) (insT insA : Nat → PubRef) (vT vA : Nat → Val) : Prop :=
  ∀ k, k < i → PortOk a cc g W R (insT k) (insA k) (vT k) (vA k)

theorem Ports.succ {a cc : Nat} {g : Graph} {W : World} {R i : Nat} {insT insA : Nat → PubRef} {vT vA : Nat → Val}
    (old : Ports a cc g W R i insT insA vT vA) {qT qA : PubRef} (new : PortOk a cc g W R qT qA (vT i) (vA i)) :
    Ports a cc g W R (i + 1) (fun k => if k = i then qT else insT k) (fun k => if k = i then qA else insA k) vT vA := by
  intro k hk
  by_cases e : k = i
  · subst e
    simp only [if_true]
    exact new
  · simp only [e, if_false]
    exact old k (Nat.lt_of_le_of_ne (Nat.le_of_lt_succ hk) e)

/-- the values the publishers of the folds carry; the `Nat` argument is the number of the first fold of the list -/
def FoldsVal (W : World) (R : Nat) (foldSem : Nat → Sem) (testV : Nat → Val) (lfuid : Nat) : Nat → List Fold → Prop
  | _, [] => True
  | k, f :: rest =>
    PubOk W f.trainApply R (foldSem k).apply ∧ PubOk W f.trainTrain R (foldSem k).train ∧
      PubOk W f.trainLabel R (foldSem k).label ∧ PubOk W f.testTrain R (testV k) ∧ f.testLabel = ⟨lfuid, 2 * k + 1⟩ ∧
      FoldsVal W R foldSem testV lfuid (k + 1) rest

theorem FoldsVal.mono {W W' : World} {R R' : Nat} {foldSem testV lfuid} (hR : R ≤ R')
    (hp : ∀ q r v, PubOk W q r v → PubOk W' q r v) : ∀ (fs : List Fold) (k : Nat),
    FoldsVal W R foldSem testV lfuid k fs → FoldsVal W' R' foldSem testV lfuid k fs := by
  intro fs
  induction fs with
  | nil => intro k _; trivial
  | cons f rest ih =>
    intro k h
    obtain ⟨h1, h2, h3, h4, h5, h6⟩ := h
    exact ⟨(hp _ _ _ h1).mono hR, (hp _ _ _ h2).mono hR, (hp _ _ _ h3).mono hR, (hp _ _ _ h4).mono hR, h5, ih _ h6⟩

/-- the publishers the folds are fed from -/
structure SplitPubs (W : World) (head : Trunk) (ffuid lfuid rr : Nat) (xa feats labs : Val) : Prop where
  apply : PubOk W head.apply.publisher rr xa
  feat : ∀ i, PubOk W ⟨ffuid, i⟩ rr (.proj i feats)
  lab : ∀ i, PubOk W ⟨lfuid, i⟩ rr (.proj i labs)

/-- `gb` is the graph the head of the ensemble left (nothing is tracked there), `a` its apply head, `ff` / `lf` the feature
and label forks of the splitter, both off the apply side; `fid` counts the folds made so far. -/
theorem foldsLoop_spec {scope : GraphM Trunk} {S : Scope} (hs : Spec True scope S) (hS : S.Indep) (head : Trunk)
    (ff lf : WRef) (rr lo : Nat) (xa feats labs : Val) (gb : Graph) (a : Nat)
    (hfr : ∀ i j k, FoldReach gb a lo ⟨head.apply.publisher, ⟨ff.uid, i⟩, ⟨lf.uid, j⟩, ⟨ff.uid, k⟩, default⟩) :
    ∀ (remaining fid : Nat) (g : Graph) (W : World), Track a lo gb.next rr gb g W →
      SplitPubs W head ff.uid lf.uid rr xa feats labs →
      ∃ folds g' W', Run (foldsLoop scope head ff lf remaining fid) g folds g' ∧ LoopOk (fun _ => False) lo g g' W W' rr ∧
        folds.length = remaining ∧
        FoldsVal W' (rr + (g'.next - g.next))
          (fun k => S xa (.proj (2 * k) feats) (.proj (2 * k) labs))
          (fun k => (S (.proj (2 * k + 1) feats) (.proj (2 * k) feats) (.proj (2 * k) labs)).apply) lf.uid fid folds ∧
        Track a lo gb.next rr gb g' W' ∧ (∀ f ∈ folds, FoldReach g' a lo f) ∧
        Trained g g' W'
          ((List.range remaining).flatMap (fun j => (S xa (.proj (2 * (fid + j)) feats) (.proj (2 * (fid + j)) labs)).states)) := by
  intro remaining
  induction remaining with
  | zero =>
    intro fid g W tr _
    exact ⟨[], g, W, rfl, LoopOk.refl tr.inv tr.wired rr, rfl, trivial, tr, (fun f hf => by cases hf), Trained.nil W rfl⟩
  | succ remaining ih =>
    intro fid g W tr hp
    obtain ⟨t, c, g1, g2, g3, g4, g5, g6, W6, r1, r2, r3, r4, r5, r6, hit, hext⟩ :=
      iterV1 hs hS tr.inv tr.wired rr tr.hrr hp.apply (hp.feat (2 * fid)) (hp.lab (2 * fid)) (hp.feat (2 * fid + 1))
    have hl6 : LoopOk (fun _ => False) lo g g6 W W6 rr := hit.loop tr.hlo tr.inv
    have hn6 := hit.frame.next_le
    have hp6 : SplitPubs W6 head ff.uid lf.uid rr xa feats labs :=
      ⟨hp.apply.keeps (hl6.keeps tr.inv), fun i => (hp.feat i).keeps (hl6.keeps tr.inv),
        fun i => (hp.lab i).keeps (hl6.keeps tr.inv)⟩
    obtain ⟨ireg, tr6⟩ := tr.round (hfr (2 * fid) (2 * fid) (2 * fid + 1)) hit hext
    obtain ⟨folds, g', W', hrun, hl', hlen, hfv, tr', hfr', htr'⟩ := ih (fid + 1) g6 W6 tr6 hp6
    have hn' := hl'.next_le
    have hlt6 : ∀ n, W6.live n → n < g6.next := fun n hn => (hit.inv.liveLt n hn).1
    have keep : ∀ q r v, PubOk W6 q r v → PubOk W' q r v := fun q r v h => h.keeps (hl'.keeps hit.inv)
    have pub : ∀ (u : Nat) (v : Val), g.next ≤ u → W6.live u → W6.σ ⟨u, 0⟩ = v →
        PubOk W' ⟨u, 0⟩ (rr + (g'.next - g.next)) v := by
      intro u v hu hl hv
      have h6 : PubOk W6 ⟨u, 0⟩ (rr + (g6.next - g.next)) v := ⟨hl, hit.rank u hu hl, hv⟩
      exact (keep _ _ _ h6).mono (Nat.add_le_add_left (Nat.sub_le_sub_right hn' _) _)
    refine ⟨⟨t.apply.publisher, t.train.publisher, t.label.publisher, c.publisher, ⟨lf.uid, 2 * fid + 1⟩⟩ :: folds, g', W',
      ?_, hl6.trans hl', by simp [hlen], ?_, tr', ?_, ?_⟩
    · unfold foldsLoop
      exact Run.bind r1 (Run.bind r2 (Run.bind r3 (Run.bind r4 (Run.bind r5 (Run.bind r6 (Run.bind hrun (Run.pure _ _)))))))
    · refine ⟨pub _ _ hit.tails_ge.1 hit.ta.1 hit.ta.2, pub _ _ hit.tails_ge.2.1 hit.tt.1 hit.tt.2,
        pub _ _ hit.tails_ge.2.2.1 hit.tl.1 hit.tl.2, pub _ _ hit.tails_ge.2.2.2 hit.tc.1 hit.tc.2, rfl, ?_⟩
      exact FoldsVal.mono (Nat.add_le_add_left (Nat.sub_le_sub_left hn6 _) _) (fun q r v h => h) folds (fid + 1) hfv
    · intro f hf
      rcases List.mem_cons.mp hf with e | h
      · subst e
        exact FoldReach.frame ⟨ireg.ta, ireg.tt, ireg.tl, ireg.tc,
          ⟨Nat.le_trans tr.hlo hit.tails_ge.1, Nat.le_trans tr.hlo hit.tails_ge.2.1, Nat.le_trans tr.hlo hit.tails_ge.2.2.1,
            Nat.le_trans tr.hlo hit.tails_ge.2.2.2⟩,
          ⟨hlt6 _ hit.ta.1, hlt6 _ hit.tt.1, hlt6 _ hit.tl.1, hlt6 _ hit.tc.1⟩⟩ hl'.toFrame hit.wired hit.inv.bounded
      · exact hfr' f h
    · have h := (Trained.keeps hit.trains (hl'.agree.keeps hlt6)).append htr'
      have e : ∀ j, fid + 1 + j = fid + (j + 1) := fun j => by omega
      simp only [e] at h
      rw [List.range_succ_eq_map, List.flatMap_cons, List.flatMap_map]
      exact h

end ForML.Compose
