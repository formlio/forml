/-
C18: keys from Python values — which characters `int()` tolerates, `str(int)` read back, and the
first character a PEP 440 text may start with.
-/
import ForML.Model.KeysValue
import ForML.Lemmas.C18GenKey

namespace ForML.Keys

/-- a character `int(text)` can step over: white space, digit, underscore, sign -/
def intChar (c : Nat) : Bool := isSpace c || isDigit c || c == 95 || c == 43 || c == 45

theorem mem_lstrip (l : List Nat) (c : Nat) (h : c ∈ l) : isSpace c = true ∨ c ∈ lstrip l := by
  rw [lstrip_eq]
  rw [← List.takeWhile_append_dropWhile (p := isSpace) (l := l)] at h
  exact (List.mem_append.1 h).imp (List.all_eq_true.1 List.all_takeWhile c) id

theorem mem_strip (s : List Nat) (c : Nat) (h : c ∈ s) : isSpace c = true ∨ c ∈ strip s := by
  unfold strip
  rcases mem_lstrip s c h with h1 | h1
  · exact Or.inl h1
  · rcases mem_lstrip (lstrip s).reverse c (List.mem_reverse.mpr h1) with h2 | h2
    · exact Or.inl h2
    · exact Or.inr (List.mem_reverse.mpr h2)

theorem digitsVal_chars (l : List Nat) : ∀ (acc : Nat) (pd : Bool) (n : Nat), digitsVal acc pd l = some n →
    ∀ c ∈ l, isDigit c = true ∨ c = 95 := by
  induction l with
  | nil => intro _ _ _ _ c hc; cases hc
  | cons a r ih =>
    intro acc pd n h c hc
    rw [digitsVal] at h
    by_cases ha : isDigit a = true
    · rw [if_pos ha] at h
      rcases List.mem_cons.mp hc with e | hc
      · subst e; exact Or.inl ha
      · exact ih _ _ _ h c hc
    · rw [if_neg ha] at h
      by_cases hu : (a == 95 && pd) = true
      · rw [if_pos hu] at h
        rcases List.mem_cons.mp hc with e | hc
        · subst e
          simp only [Bool.and_eq_true, beq_iff_eq] at hu
          exact Or.inr hu.1
        · exact ih _ _ _ h c hc
      · rw [if_neg hu] at h; cases h

theorem parseInt_chars (s : List Nat) (i : Int) (h : parseInt s = some i) : ∀ c ∈ s, intChar c = true := by
  intro c hc
  unfold intChar
  rcases mem_strip s c hc with hsp | hin
  · simp [hsp]
  · unfold parseInt at h
    cases hs : strip s with
    | nil => rw [hs] at hin; cases hin
    | cons a r =>
      rw [hs] at h hin
      -- a sign and then the digits, or the digits from the start
      have key : ((a = 43 ∨ a = 45) ∧ ∃ n, digitsVal 0 false r = some n) ∨ ∃ n, digitsVal 0 false (a :: r) = some n := by
        simp only at h
        split at h
        · rename_i h43
          obtain ⟨n, hn, _⟩ := Option.map_eq_some_iff.mp h
          exact .inl ⟨.inl (beq_iff_eq.mp h43), n, hn⟩
        · split at h
          · rename_i h45
            obtain ⟨n, hn, _⟩ := Option.map_eq_some_iff.mp h
            exact .inl ⟨.inr (beq_iff_eq.mp h45), n, hn⟩
          · obtain ⟨n, hn, _⟩ := Option.map_eq_some_iff.mp h
            exact .inr ⟨n, hn⟩
      have digits : ∀ l n, digitsVal 0 false l = some n → c ∈ l →
          (isSpace c || isDigit c || c == 95 || c == 43 || c == 45) = true := by
        intro l n hn hcl
        rcases digitsVal_chars l 0 false n hn c hcl with h1 | h1 <;> simp [h1]
      rcases key with ⟨ha, n, hn⟩ | ⟨n, hn⟩
      · rcases List.mem_cons.mp hin with e | hcr
        · rcases ha with ha | ha <;> simp [e, ha]
        · exact digits r n hn hcr
      · exact digits _ n hn hin

theorem parseInt_intStr (i : Int) : parseInt (intStr i) = some i := by
  cases i with
  | ofNat n => exact parseInt_natStr n
  | negSucc n =>
    obtain ⟨h1, h2, h3⟩ := natStr_spec (n + 1)
    have hs : strip (45 :: natStr (n + 1)) = 45 :: natStr (n + 1) := by
      refine strip_nospace _ fun c hc => ?_
      rcases List.mem_cons.mp hc with rfl | hc
      · rfl
      · exact isDigit_not_space c (h2 c hc)
    show parseInt (45 :: natStr (n + 1)) = some (Int.negSucc n)
    unfold parseInt
    rw [hs]
    simp only [show ((45 : Nat) == 43) = false by decide, show ((45 : Nat) == 45) = true by decide, if_true, Bool.false_eq_true, if_false]
    rw [digitsVal_digits _ 0 false h2 (Or.inl h1), h3]
    rfl

theorem vparse_bad_head (c : Nat) (r : List Nat) (h1 : isSpaceU c = false) (h2 : (lower c == 118) = false)
    (h3 : isDigit c = false) : vparse (c :: r) = none := by
  have hd : dropSpace (c :: r) = c :: r := by simp [dropSpace, h1]
  have hv : optV (c :: r) = c :: r := by simp [optV, h2]
  have he : epoch? (c :: r) = (0, c :: r) := by simp [epoch?, spanDigits, h3]
  unfold vparse
  rw [hd, hv, he]
  simp [release?, h3]

end ForML.Keys
