/- Commutation of registrations, module executions and import histories up to observational equivalence (C20). -/
import ForML.Lemmas.C20Order

namespace ForML.Bank

section Generic
variable {S A : Type}

def foldO (f : S → A → Option S) : S → List A → Option S
  | s, [] => some s
  | s, a :: l =>
    match f s a with
    | none => none
    | some t => foldO f t l

theorem foldO_append (f : S → A → Option S) (s : S) (l1 l2 : List A) :
    foldO f s (l1 ++ l2) = (foldO f s l1).bind (fun t => foldO f t l2) := by
  induction l1 generalizing s with
  | nil => simp [foldO]
  | cons a l ih =>
    simp only [List.cons_append, foldO]
    cases f s a with
    | none => simp
    | some t => exact ih t

theorem foldO_cons {f : S → A → Option S} {s t : S} {a : A} {l : List A} :
    foldO f s (a :: l) = some t ↔ ∃ u, f s a = some u ∧ foldO f u l = some t := by
  simp only [foldO]
  cases f s a <;> simp

theorem foldO_congr (E : S → S → Prop) (f : S → A → Option S)
    (cong : ∀ s s' a t, E s s' → f s a = some t → ∃ t', f s' a = some t' ∧ E t t') (l : List A) :
    ∀ s s' t, E s s' → foldO f s l = some t → ∃ t', foldO f s' l = some t' ∧ E t t' := by
  induction l with
  | nil => intro s s' t h ht; cases ht; exact ⟨s', rfl, h⟩
  | cons a l ih =>
    intro s s' t h ht
    obtain ⟨u, hf, ht⟩ := foldO_cons.1 ht
    obtain ⟨u', hu', hE⟩ := cong s s' a u h hf
    obtain ⟨t', ht', hE'⟩ := ih u u' t hE ht
    exact ⟨t', foldO_cons.2 ⟨u', hu', ht'⟩, hE'⟩

/-- a partial fold whose steps respect an equivalence `E` of states (`cong`) and commute pairwise up to `E` (`comm`): if it
goes through for a list it goes through for every permutation of it, and ends in an equivalent state -/
theorem foldO_perm (E : S → S → Prop) (f : S → A → Option S) (P : A → Prop)
    (Erefl : ∀ a, E a a) (Etrans : ∀ a b c, E a b → E b c → E a c)
    (cong : ∀ s s' a t, E s s' → f s a = some t → ∃ t', f s' a = some t' ∧ E t t')
    (comm : ∀ s a b t u, P a → P b → f s a = some t → f t b = some u →
      ∃ t' u', f s b = some t' ∧ f t' a = some u' ∧ E u u')
    {l1 l2 : List A} (hp : l1.Perm l2) :
    (∀ a ∈ l1, P a) → ∀ s s' t, E s s' → foldO f s l1 = some t → ∃ t', foldO f s' l2 = some t' ∧ E t t' := by
  induction hp with
  | nil => intro _ s s' t h ht; cases ht; exact ⟨s', rfl, h⟩
  | cons a _ ih =>
    intro hP s s' t h ht
    obtain ⟨u, hf, ht⟩ := foldO_cons.1 ht
    obtain ⟨u', hu', hE⟩ := cong s s' a u h hf
    obtain ⟨t', ht', hE'⟩ := ih (fun x hx => hP x (List.mem_cons_of_mem _ hx)) u u' t hE ht
    exact ⟨t', foldO_cons.2 ⟨u', hu', ht'⟩, hE'⟩
  | swap a b l =>
    -- l1 = b :: a :: l, l2 = a :: b :: l
    intro hP s s' t h ht
    obtain ⟨t1, hf1, ht⟩ := foldO_cons.1 ht
    obtain ⟨t2, hf2, ht⟩ := foldO_cons.1 ht
    obtain ⟨t1', ht1', hE1⟩ := cong s s' b t1 h hf1
    obtain ⟨t2', ht2', hE2⟩ := cong t1 t1' a t2 hE1 hf2
    obtain ⟨x, y, hx, hy, hE3⟩ := comm s' b a t1' t2' (hP b (by simp)) (hP a (by simp)) ht1' ht2'
    obtain ⟨t', ht', hE'⟩ := foldO_congr E f cong l t2 y t (Etrans _ _ _ hE2 hE3) ht
    exact ⟨t', foldO_cons.2 ⟨x, hx, foldO_cons.2 ⟨y, hy, ht'⟩⟩, hE'⟩
  | trans h12 _ ih1 ih2 =>
    intro hP s s' t h ht
    obtain ⟨t', ht', hE⟩ := ih1 hP s s t (Erefl s) ht
    obtain ⟨t'', ht'', hE'⟩ := ih2 (fun a ha => hP a (h12.mem_iff.2 ha)) s s' t' h ht'
    exact ⟨t'', ht'', Etrans _ _ _ hE hE'⟩
end Generic

def add1 (ps : List PathE) (q : PathE) : List PathE :=
  if ps.any (fun e => e.mod = q.mod) then ps else ps ++ [q]

theorem addPaths_foldO (ps qs : List PathE) : foldO (fun ps q => some (add1 ps q)) ps qs = some (addPaths ps qs) := by
  induction qs generalizing ps with
  | nil => simp [foldO, addPaths]
  | cons q qs ih => simp only [foldO, addPaths]; exact ih _

theorem add1_perm {ps ps' : List PathE} (h : ps.Perm ps') (q : PathE) : (add1 ps q).Perm (add1 ps' q) := by
  have := addPaths_perm h [q]
  simpa [addPaths, add1] using this

theorem add1_comm (ps : List PathE) (a b : PathE) (ha : a.explicit = true) (hb : b.explicit = true) :
    (add1 (add1 ps a) b).Perm (add1 (add1 ps b) a) := by
  have hab : a.mod = b.mod → a = b := by
    intro h
    obtain ⟨am, ae⟩ := a
    obtain ⟨bm, be⟩ := b
    simp only at h ha hb
    subst h ha hb
    rfl
  by_cases h1 : ps.any (fun e => e.mod = a.mod) = true
  · by_cases h2 : ps.any (fun e => e.mod = b.mod) = true
    · simp [add1, h1, h2]
    · simp [add1, h1, h2]
  · by_cases h2 : ps.any (fun e => e.mod = b.mod) = true
    · simp [add1, h1, h2]
    · by_cases h3 : a.mod = b.mod
      · rw [hab h3]
      · have h4 : ¬ b.mod = a.mod := fun h => h3 h.symm
        simp only [add1, h1, h2, List.any_append, List.any_cons, List.any_nil, h3, h4, Bool.false_eq_true, if_false,
          decide_false, Bool.or_false]
        simp only [List.append_assoc]
        exact List.Perm.append_left _ (List.Perm.swap b a [])

theorem addPaths_append (ps l1 l2 : List PathE) : addPaths ps (l1 ++ l2) = addPaths (addPaths ps l1) l2 := by
  induction l1 generalizing ps with
  | nil => rfl
  | cons q l ih => simp only [List.cons_append, addPaths]; exact ih _

theorem addPaths_comm (ps l1 l2 : List PathE) (h1 : ∀ q ∈ l1, q.explicit = true) (h2 : ∀ q ∈ l2, q.explicit = true) :
    (addPaths (addPaths ps l1) l2).Perm (addPaths (addPaths ps l2) l1) := by
  have hperm : (l1 ++ l2).Perm (l2 ++ l1) := List.perm_append_comm
  have := foldO_perm (S := List PathE) (A := PathE) (fun a b => a.Perm b) (fun ps q => some (add1 ps q))
    (fun q => q.explicit = true) (fun a => List.Perm.refl a) (fun _ _ _ h h' => h.trans h')
    (by intro s s' a t h ht; cases ht; exact ⟨_, rfl, add1_perm h a⟩)
    (by intro s a b t u ha hb ht hu; cases ht; cases hu; exact ⟨_, _, rfl, rfl, add1_comm s a b ha hb⟩)
    hperm (by intro a ha; rcases List.mem_append.1 ha with h | h; exact h1 a h; exact h2 a h)
    ps ps (addPaths ps (l1 ++ l2)) (List.Perm.refl _) (addPaths_foldO ps (l1 ++ l2))
  obtain ⟨t', ht', hE⟩ := this
  rw [addPaths_foldO] at ht'
  cases ht'
  rw [addPaths_append, addPaths_append] at hE
  exact hE

/-- what `__init_subclass__` guarantees before it calls `Bank.add`: no alias on an abstract class (the test of `stmtActs`) -/
def NoAbsAlias (c : ClassDef) : Prop := (c.alias.isSome && c.abstract) = false

theorem refs_abstract {c : ClassDef} (hc : NoAbsAlias c) (ha : c.abstract = true) : refs c = [.qual c.id] := by
  cases hal : c.alias with
  | none => simp [refs, hal]
  | some a => simp [NoAbsAlias, hal, ha] at hc

theorem qual_mem_refs {c d : ClassDef} (h : Ref.qual c.id ∈ refs d) : c.id = d.id := by
  unfold refs at h
  cases hd : d.alias with
  | none => simp [hd] at h; exact h
  | some a => simp [hd] at h; exact h

theorem add_comm {b b1 b2 : Bank} {c d : ClassDef} (hc : NoAbsAlias c) (h1 : b.add c = .ok b1)
    (h2 : b1.add d = .ok b2) : ∃ b1' b2', b.add d = .ok b1' ∧ b1'.add c = .ok b2' ∧ BankEq b2 b2' := by
  have hcb := (collides_false_iff b c).1 (add_ok h1).1
  have hdb1 := (collides_false_iff b1 d).1 (add_ok h2).1
  have l1 := lookup_after_add h1
  -- a reference shared by the two classes forces one identity
  have K : ∀ r, r ∈ refs c → r ∈ refs d → c.id = d.id := by
    intro r hrc hrd
    by_cases ha : c.abstract = true
    · rw [refs_abstract hc ha] at hrc
      simp at hrc
      subst hrc
      exact qual_mem_refs hrd
    · have : lookupRef r b1.provider = some c.id := by rw [l1]; simp [ha, hrc]
      exact hdb1 r hrd c.id this
  have hdb : collides b d = false := by
    rw [collides_false_iff]
    intro r hrd e he
    by_cases hx : c.abstract = false ∧ r ∈ refs c
    · rw [← K r hx.2 hrd]; exact hcb r hx.2 e he
    · exact hdb1 r hrd e (by rw [l1]; simp only [hx, if_false]; exact he)
  obtain ⟨b1', hb1'⟩ := add_of_not_collides hdb
  have l1' := lookup_after_add hb1'
  have hcb1' : collides b1' c = false := by
    rw [collides_false_iff]
    intro r hrc e he
    rw [l1'] at he
    by_cases hx : d.abstract = false ∧ r ∈ refs d
    · simp only [hx, and_self, if_true] at he
      cases he
      exact (K r hrc hx.2).symm
    · simp only [hx, if_false] at he
      exact hcb r hrc e he
  obtain ⟨b2', hb2'⟩ := add_of_not_collides hcb1'
  refine ⟨b1', b2', hb1', hb2', ?_, ?_⟩
  · intro r
    rw [lookup_after_add h2, lookup_after_add hb2', l1, l1']
    by_cases hx : d.abstract = false ∧ r ∈ refs d
    · by_cases hy : c.abstract = false ∧ r ∈ refs c
      · simp only [hx, hy, and_self, if_true]
        rw [K r hy.2 hx.2]
      · simp only [hx, hy, and_self, if_true, if_false]
    · simp only [hx, if_false]
  · rw [paths_after_add h2, paths_after_add h1, paths_after_add hb2', paths_after_add hb1']
    apply addPaths_comm <;> · intro q hq; simp only [List.mem_map] at hq; obtain ⟨m, _, hm⟩ := hq; subst hm; rfl

def ActOk : Act → Prop
  | .reg _ c => NoAbsAlias c
  | _ => True

/-- registrations in different banks and `sys.modules` entries touch different parts of the state; two registrations in
one bank commute by `add_comm` -/
theorem act_comm (s : St) (a b : Act) (t u : St) (ha : ActOk a) (hb : ActOk b) (ht : act s a = some t)
    (hu : act t b = some u) : ∃ t' u', act s b = some t' ∧ act t' a = some u' ∧ StEq u u' := by
  cases a with
  | reg i c =>
    obtain ⟨bc, hadd, rfl⟩ := act_reg.1 ht
    cases b with
    | reg j d =>
      obtain ⟨bd, hadd2, rfl⟩ := act_reg.1 hu
      simp only [getBank_setBank] at hadd2
      by_cases hij : i = j
      · subst hij
        rw [if_pos rfl] at hadd2
        obtain ⟨b1', b2', h1', h2', hbe⟩ := add_comm ha hadd hadd2
        refine ⟨_, _, act_reg.2 ⟨b1', h1', rfl⟩, act_reg.2 ⟨b2', by simpa [getBank_setBank] using h2', rfl⟩,
          fun k => ?_, fun _ => Iff.rfl⟩
        simp only [getBank_setBank]
        split
        · exact hbe
        · exact BankEq.refl _
      · rw [if_neg hij] at hadd2
        have hji : ¬ j = i := fun h => hij h.symm
        refine ⟨_, _, act_reg.2 ⟨bd, hadd2, rfl⟩, act_reg.2 ⟨bc, by simpa [getBank_setBank, hji] using hadd, rfl⟩,
          fun k => ?_, fun _ => Iff.rfl⟩
        simp only [getBank_setBank]
        by_cases hik : i = k
        · subst hik; simp only [hji, if_false, if_true]; exact BankEq.refl _
        · simp only [hik, if_false]; exact BankEq.refl _
    | mark m =>
      simp only [act, Option.some.injEq] at hu
      subst hu
      exact ⟨_, _, rfl, act_reg.2 ⟨bc, hadd, rfl⟩, StEq.refl _⟩
    | raise e => cases hu
  | raise e => cases ht
  | mark m =>
    simp only [act, Option.some.injEq] at ht
    subst ht
    cases b with
    | reg j d =>
      obtain ⟨bd, hadd2, rfl⟩ := act_reg.1 hu
      exact ⟨_, _, act_reg.2 ⟨bd, hadd2, rfl⟩, rfl, StEq.refl _⟩
    | mark m' =>
      simp only [act, Option.some.injEq] at hu
      subst hu
      refine ⟨_, _, rfl, rfl, fun _ => BankEq.refl _, fun x => ?_⟩
      simp only [List.mem_cons]
      exact or_left_comm
    | raise e => cases hu

theorem acts_perm {l1 l2 : List Act} (hp : l1.Perm l2) (hP : ∀ a ∈ l1, ActOk a) (s s' t : St) (h : StEq s s')
    (ht : foldO act s l1 = some t) : ∃ t', foldO act s' l2 = some t' ∧ StEq t t' :=
  foldO_perm StEq act ActOk StEq.refl (fun _ _ _ => StEq.trans) act_congr act_comm hp hP s s' t h ht

theorem run_ok {l : List Act} {s t : St} : run s l = (t, none) ↔ foldO act s l = some t := by
  induction l generalizing s with
  | nil => simp [run, foldO, eq_comm]
  | cons a l ih => simp only [run_cons_ok, foldO_cons, ih]

/-- executing a module successfully (`none`: not found, or a class statement raised) -/
def execOk (w : World) (st : St) (m : Mod) : Option St :=
  match execMod w st m with
  | some (st', none) => some st'
  | _ => none

/-- what executing module `m` (found as `d`) does from `st`: nothing when it is in `sys.modules` already.  It looks at
`st` only to see whether `m` is there (`bodyActs_congr`). -/
def bodyActs (d : ModuleDef) (st : St) (m : Mod) : List Act := if m ∈ st.loaded then [] else modActs d m

theorem bodyActs_congr {d : ModuleDef} {s s' : St} {m : Mod} (h : m ∈ s.loaded ↔ m ∈ s'.loaded) :
    bodyActs d s m = bodyActs d s' m := by
  simp only [bodyActs, h]

theorem execOk_iff (w : World) (st t : St) (m : Mod) :
    execOk w st m = some t ↔ ∃ d, findMod m w = some d ∧ foldO act st (bodyActs d st m) = some t := by
  unfold execOk bodyActs
  rw [execMod_eq]
  cases findMod m w with
  | none => simp
  | some d =>
    simp only [Option.map_some, Option.some.injEq, exists_eq_left']
    by_cases hl : m ∈ st.loaded
    · simp only [hl, if_true, foldO, Option.some.injEq]
    · simp only [hl, if_false, ← run_ok]
      cases run st (modActs d m) with
      | mk s1 e1 => cases e1 <;> simp

theorem modActs_ok (d : ModuleDef) (m : Mod) : ∀ a ∈ modActs d m, ActOk a := by
  intro a ha
  rcases mem_modActs ha with ⟨c, _, hok, i, _, rfl⟩ | rfl | ⟨_, _, _, rfl⟩
  · exact hok
  · trivial
  · trivial

theorem mark_mem_modActs (d : ModuleDef) (m x : Mod) : Act.mark x ∈ modActs d m ↔ x = m := by
  constructor
  · intro h
    rcases mem_modActs h with ⟨_, _, _, _, _, h⟩ | h | ⟨_, _, _, h⟩
    · cases h
    · cases h; rfl
    · cases h
  · rintro rfl
    simp [modActs]

theorem execOk_congr (w : World) (s s' : St) (m : Mod) (t : St) (h : StEq s s') (ht : execOk w s m = some t) :
    ∃ t', execOk w s' m = some t' ∧ StEq t t' := by
  obtain ⟨d, hf, hd⟩ := (execOk_iff w s t m).1 ht
  obtain ⟨t', ht', hE⟩ := foldO_congr StEq act act_congr _ s s' t h hd
  exact ⟨t', (execOk_iff w s' t' m).2 ⟨d, hf, bodyActs_congr (h.2 m) ▸ ht'⟩, hE⟩

theorem bodyActs_ok (d : ModuleDef) (st : St) (m : Mod) : ∀ a ∈ bodyActs d st m, ActOk a := by
  unfold bodyActs
  split
  · simp
  · exact modActs_ok d m

/-- a module execution that went through puts the module into `sys.modules` and nothing else -/
theorem execOk_loaded {w : World} {s t : St} {x : Mod} (h : execOk w s x = some t) (y : Mod) :
    y ∈ t.loaded ↔ y ∈ s.loaded ∨ y = x := by
  obtain ⟨d, _, hd⟩ := (execOk_iff w s t x).1 h
  unfold bodyActs at hd
  split at hd
  · rename_i hl
    simp only [foldO, Option.some.injEq] at hd
    subst hd
    exact ⟨Or.inl, fun h => h.elim id (· ▸ hl)⟩
  · rw [run_loaded (run_ok.2 hd) y, mark_mem_modActs]

/-- two module executions commute: whether the body of one runs does not depend on the other having been executed
(`execOk_loaded`), and the two runs of actions can be permuted (`acts_perm`) -/
theorem execOk_comm (w : World) (s : St) (x y : Mod) (t u : St) (ht : execOk w s x = some t)
    (hu : execOk w t y = some u) : ∃ t' u', execOk w s y = some t' ∧ execOk w t' x = some u' ∧ StEq u u' := by
  by_cases hxy : x = y
  · subst hxy; exact ⟨t, u, ht, hu, StEq.refl _⟩
  obtain ⟨dx, hfx, hdx⟩ := (execOk_iff w s t x).1 ht
  obtain ⟨dy, hfy, hdy⟩ := (execOk_iff w t u y).1 hu
  rw [bodyActs_congr (s' := s) (by rw [execOk_loaded ht y]; simp [Ne.symm hxy])] at hdy
  obtain ⟨u', hu', hE⟩ := acts_perm (List.perm_append_comm (l₁ := bodyActs dx s x) (l₂ := bodyActs dy s y))
    (fun a ha => (List.mem_append.1 ha).elim (bodyActs_ok dx s x a) (bodyActs_ok dy s y a)) s s u (StEq.refl s)
    (by rw [foldO_append, hdx]; exact hdy)
  rw [foldO_append] at hu'
  obtain ⟨t', hty, hu'⟩ := Option.bind_eq_some_iff.1 hu'
  have ht' : execOk w s y = some t' := (execOk_iff w s t' y).2 ⟨dy, hfy, hty⟩
  rw [bodyActs_congr (s' := t') (by rw [execOk_loaded ht' x]; simp [hxy])] at hu'
  exact ⟨t', u', ht', (execOk_iff w t' u' x).2 ⟨dx, hfx, hu'⟩, hE⟩

theorem execs_perm (w : World) {l1 l2 : List Mod} (hp : l1.Perm l2) (s s' t : St) (h : StEq s s')
    (ht : foldO (execOk w) s l1 = some t) : ∃ t', foldO (execOk w) s' l2 = some t' ∧ StEq t t' :=
  foldO_perm StEq (execOk w) (fun _ => True) StEq.refl (fun _ _ _ => StEq.trans) (execOk_congr w)
    (fun s a b t u _ _ => execOk_comm w s a b t u) hp (fun _ _ => trivial) s s' t h ht

/-- `import m` succeeding (`none`: ModuleNotFoundError or an exception out of a module body) -/
def importOk (w : World) (st : St) (m : Mod) : Option St :=
  match importMod w st m with
  | some (st', none) => some st'
  | _ => none

/-- a history of successful `import` statements from a given process state -/
def importAll (w : World) (st : St) (ms : List Mod) : Option St := foldO (importOk w) st ms

/-- the module bodies an `import m` may have to execute: the parent package first.  Not `covers` (C20Bank), which is what
`Bank.Path.load` executes and for a package adds the sub-modules of its `__all__`; the two agree on sub-modules. -/
def expand (m : Mod) : List Mod :=
  match m.sub with
  | none => [m]
  | some _ => [⟨m.pkg, none⟩, m]

theorem importOk_eq (w : World) (st : St) (m : Mod) : importOk w st m = foldO (execOk w) st (expand m) := by
  unfold importOk importMod expand
  cases hsub : m.sub with
  | none =>
    simp only [foldO, execOk]
    cases execMod w st m with
    | none => rfl
    | some x =>
      obtain ⟨s1, e1⟩ := x
      cases e1 <;> rfl
  | some sname =>
    simp only [foldO, execOk]
    cases execMod w st ⟨m.pkg, none⟩ with
    | none => rfl
    | some x =>
      obtain ⟨s1, e1⟩ := x
      cases e1 with
      | some e => rfl
      | none =>
        simp only
        cases execMod w s1 m with
        | none => rfl
        | some y =>
          obtain ⟨s2, e2⟩ := y
          cases e2 <;> rfl

theorem foldO_flatMap {S A B : Type} (f : S → B → Option S) (g : A → List B) (s : S) (l : List A) :
    foldO f s (l.flatMap g) = foldO (fun s a => foldO f s (g a)) s l := by
  induction l generalizing s with
  | nil => rfl
  | cons a l ih =>
    simp only [List.flatMap_cons, foldO_append, foldO]
    cases foldO f s (g a) with
    | none => rfl
    | some t => exact ih t

theorem importAll_eq (w : World) (st : St) (ms : List Mod) :
    importAll w st ms = foldO (execOk w) st (ms.flatMap expand) := by
  rw [foldO_flatMap]
  unfold importAll
  congr 1
  funext s a
  exact importOk_eq w s a

theorem importAll_perm (w : World) {ms ms' : List Mod} (hp : ms.Perm ms') (st st' s : St) (h : StEq st st')
    (hs : importAll w st ms = some s) : ∃ s', importAll w st' ms' = some s' ∧ StEq s s' := by
  rw [importAll_eq] at hs ⊢
  exact execs_perm w (hp.flatMap_right expand) st st' s h hs

end ForML.Bank
