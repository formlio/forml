/-
C14 — the row side of the filter theorem, free of the parser: pruning of row lists (`Prune`), environments that extend
each other (`Extends`), rows doomed by a pending condition (`Doomed`: some condition of the list is TRUE on no
environment extending the row), and what a join makes of pruned sides (`prune_joinRows`).

Pending conditions per join kind (`P` above the join, `c` its ON condition):
  inner/cross   both sides: `c ++ P`       (a row combination survives only if `c` and everything above hold)
  left          preserved side: `P`          optional side: `c`   (a right row failing a factor of `c` never matches;
  right         preserved side: `P`          optional side: `c`    unmatched left rows are NULL-extended either way)
  full          both sides: nothing
-/
import ForML.Lemmas.C14Factors

namespace ForML.PushDown
open ForML.Dsl

/-- `l'` is `l` with some elements deleted, each of which satisfies `D` -/
inductive Prune {α : Type} (D : α → Prop) : List α → List α → Prop where
  | nil : Prune D [] []
  | keep {a : α} {l' l : List α} : Prune D l' l → Prune D (a :: l') (a :: l)
  | drop {a : α} {l' l : List α} : D a → Prune D l' l → Prune D l' (a :: l)

namespace Prune
variable {α β : Type} {D : α → Prop}

theorem refl (l : List α) : Prune D l l := by
  induction l with
  | nil => exact .nil
  | cons a l ih => exact .keep ih

theorem of_eq {l' l : List α} (h : l' = l) : Prune D l' l := by
  subst h
  exact refl _

theorem mono {D' : α → Prop} {l' l : List α} (h : Prune D l' l) (hD : ∀ a ∈ l, D a → D' a) : Prune D' l' l := by
  induction h with
  | nil => exact .nil
  | keep _ ih => exact .keep (ih (fun a ha => hD a (List.mem_cons_of_mem _ ha)))
  | drop hd _ ih => exact .drop (hD _ (List.mem_cons_self) hd) (ih (fun a ha => hD a (List.mem_cons_of_mem _ ha)))

theorem append {l1' l1 l2' l2 : List α} (h1 : Prune D l1' l1) (h2 : Prune D l2' l2) : Prune D (l1' ++ l2') (l1 ++ l2) := by
  induction h1 with
  | nil => exact h2
  | keep _ ih => exact .keep ih
  | drop hd _ ih => exact .drop hd ih

theorem filter (g : α → Bool) {l' l : List α} (h : Prune D l' l) : Prune D (l'.filter g) (l.filter g) := by
  induction h with
  | nil => exact .nil
  | @keep a l' l _ ih =>
    by_cases hg : g a = true
    · simp only [List.filter_cons, hg, if_true]
      exact .keep ih
    · simp only [List.filter_cons, hg]
      exact ih
  | @drop a l' l hd _ ih =>
    by_cases hg : g a = true
    · simp only [List.filter_cons, hg, if_true]
      exact .drop hd ih
    · simp only [List.filter_cons, hg]
      exact ih

/-- filtering is pruning by the negation of the filter -/
theorem of_filter (g : α → Bool) (l : List α) (h : ∀ a ∈ l, g a = false → D a) : Prune D (l.filter g) l := by
  induction l with
  | nil => exact .nil
  | cons a l ih =>
    have ih' := ih (fun b hb => h b (List.mem_cons_of_mem _ hb))
    by_cases hg : g a = true
    · simp only [List.filter_cons, hg, if_true]
      exact .keep ih'
    · simp only [List.filter_cons, hg]
      exact .drop (h a List.mem_cons_self (by simpa using hg)) ih'

theorem all_dropped {l : List α} (h : ∀ a ∈ l, D a) : Prune D [] l := by
  induction l with
  | nil => exact .nil
  | cons a l ih => exact .drop (h a List.mem_cons_self) (ih (fun b hb => h b (List.mem_cons_of_mem _ hb)))

theorem map {D' : β → Prop} (f : α → β) {l' l : List α} (h : Prune D l' l) (hD : ∀ a ∈ l, D a → D' (f a)) :
    Prune D' (l'.map f) (l.map f) := by
  induction h with
  | nil => exact .nil
  | keep _ ih => exact .keep (ih (fun a ha => hD a (List.mem_cons_of_mem _ ha)))
  | drop hd _ ih => exact .drop (hD _ List.mem_cons_self hd) (ih (fun a ha => hD a (List.mem_cons_of_mem _ ha)))

theorem flatMap {D' : β → Prop} (f' f : α → List β) {l' l : List α} (h : Prune D l' l)
    (hk : ∀ a ∈ l, Prune D' (f' a) (f a)) (hd : ∀ a ∈ l, D a → ∀ b ∈ f a, D' b) :
    Prune D' (l'.flatMap f') (l.flatMap f) := by
  induction h with
  | nil => exact .nil
  | @keep a l' l _ ih =>
    simp only [List.flatMap_cons]
    exact append (hk a List.mem_cons_self)
      (ih (fun b hb => hk b (List.mem_cons_of_mem _ hb)) (fun b hb => hd b (List.mem_cons_of_mem _ hb)))
  | @drop a l' l hda _ ih =>
    simp only [List.flatMap_cons]
    have := append (all_dropped (hd a List.mem_cons_self hda))
      (ih (fun b hb => hk b (List.mem_cons_of_mem _ hb)) (fun b hb => hd b (List.mem_cons_of_mem _ hb)))
    simpa using this

/-- a filter that rejects everything that may have been pruned does not see the difference -/
theorem filter_eq (g : α → Bool) {l' l : List α} (h : Prune D l' l) (hg : ∀ a ∈ l, D a → g a = false) :
    l'.filter g = l.filter g := by
  induction h with
  | nil => rfl
  | @keep a l' l _ ih =>
    simp only [List.filter_cons]
    rw [ih (fun b hb => hg b (List.mem_cons_of_mem _ hb))]
  | @drop a l' l hd _ ih =>
    simp only [List.filter_cons, hg a List.mem_cons_self hd]
    exact ih (fun b hb => hg b (List.mem_cons_of_mem _ hb))

theorem eq_of_false {l' l : List α} (h : Prune D l' l) (hD : ∀ a, ¬ D a) : l' = l := by
  induction h with
  | nil => rfl
  | keep _ ih => rw [ih]
  | drop hd _ _ => exact absurd hd (hD _)

end Prune

def dom (e : Env) : List Source := e.map (·.1)

/-- `e'` binds every origin of `e` to the same row -/
def Extends (e e' : Env) : Prop := ∀ o ∈ dom e, e'.row o = e.row o

theorem Extends.refl (e : Env) : Extends e e := fun _ _ => rfl

theorem row_append (e1 e2 : Env) (o : Source) : (e1 ++ e2).row o = if o ∈ dom e1 then e1.row o else e2.row o := by
  unfold Env.row
  rw [List.lookup_append]
  split
  · rename_i h
    obtain ⟨p, hp, rfl⟩ := List.mem_map.mp h
    obtain ⟨v, hv⟩ := Option.isSome_iff_exists.mp (List.lookup_isSome_iff.mpr ⟨p, hp, beq_self_eq_true _⟩)
    rw [hv, Option.some_or]
  · rename_i h
    rw [lookup_eq_none_iff_not_mem.2 h, Option.none_or]

theorem dom_append (e1 e2 : Env) : dom (e1 ++ e2) = dom e1 ++ dom e2 := by simp [dom]

theorem Extends.of_append_left {e1 e2 e' : Env} (h : Extends (e1 ++ e2) e') : Extends e1 e' := by
  intro o ho
  rw [h o (by simp [dom_append, ho]), row_append, if_pos ho]

theorem Extends.of_append_right {e1 e2 e' : Env} (hd : ∀ o ∈ dom e2, o ∉ dom e1) (h : Extends (e1 ++ e2) e') :
    Extends e2 e' := by
  intro o ho
  rw [h o (by simp [dom_append, ho]), row_append, if_neg (hd o ho)]

def Doomed (S : Sem) (P : List Feature) (e : Env) : Prop :=
  ∃ p ∈ P, ∀ e', Extends e e' → eval S e' p ≠ .bool true

theorem Doomed.append_left {S : Sem} {P : List Feature} {e1 : Env} (e2 : Env) (h : Doomed S P e1) :
    Doomed S P (e1 ++ e2) := by
  obtain ⟨p, hp, hf⟩ := h
  exact ⟨p, hp, fun e' he' => hf e' he'.of_append_left⟩

theorem Doomed.append_right {S : Sem} {P : List Feature} {e2 : Env} (e1 : Env) (hd : ∀ o ∈ dom e2, o ∉ dom e1)
    (h : Doomed S P e2) : Doomed S P (e1 ++ e2) := by
  obtain ⟨p, hp, hf⟩ := h
  exact ⟨p, hp, fun e' he' => hf e' (he'.of_append_right hd)⟩

theorem Doomed.not_holds {S : Sem} {p : Feature} {P : List Feature} {e : Env} (h : Doomed S (p :: P) e)
    (hp : holds S e p = true) : Doomed S P e := by
  obtain ⟨q, hq, hf⟩ := h
  rcases List.mem_cons.mp hq with rfl | hq
  · exact absurd (by simpa [holds] using hp) (hf e (Extends.refl e))
  · exact ⟨q, hq, hf⟩

theorem Doomed.mono {S : Sem} {P P' : List Feature} {e : Env} (h : Doomed S P e) (hP : ∀ p ∈ P, p ∈ P') :
    Doomed S P' e := by
  obtain ⟨p, hp, hf⟩ := h
  exact ⟨p, hP p hp, hf⟩

theorem not_doomed_nil (S : Sem) (e : Env) : ¬ Doomed S [] e := fun ⟨_, hp, _⟩ => absurd hp List.not_mem_nil

/-- a combination containing a row doomed by the ON condition is no match -/
theorem not_on_of_doomed {S : Sem} {c : FeatureOpt} {e : Env} (h : Doomed S (optList c) e) : holdsOpt S e c = false := by
  obtain ⟨p, hp, hf⟩ := h
  cases c with
  | none => cases hp
  | some q =>
    obtain rfl := List.mem_singleton.mp hp
    simpa [holdsOpt, holds] using hf e (Extends.refl e)

theorem dom_nullEnv (os : List Source) : dom (nullEnv os) = os := by
  simp only [dom, nullEnv, List.map_map]
  exact List.map_id' _

theorem mem_joinRows {S : Sem} {k : JoinKind} {c : FeatureOpt} {ol orr : List Source} {L R : List Env} {e : Env}
    (h : e ∈ joinRows S k c ol orr L R) :
    (∃ el ∈ L, ∃ er ∈ R, e = el ++ er) ∨ (∃ el ∈ L, e = el ++ nullEnv orr) ∨ (∃ er ∈ R, e = nullEnv ol ++ er) := by
  have inner : e ∈ (prod L R).filter (fun e => holdsOpt S e c) → ∃ el ∈ L, ∃ er ∈ R, e = el ++ er := fun h => by
    obtain ⟨el, hel, hm⟩ := List.mem_flatMap.mp (List.mem_filter.mp h).1
    obtain ⟨er, her, rfl⟩ := List.mem_map.mp hm
    exact ⟨el, hel, er, her, rfl⟩
  have left : e ∈ joinRows S .left c ol orr L R → (∃ el ∈ L, ∃ er ∈ R, e = el ++ er) ∨ (∃ el ∈ L, e = el ++ nullEnv orr) :=
    fun h => by
      simp only [joinRows] at h
      obtain ⟨el, hel, h⟩ := List.mem_flatMap.mp h
      split at h
      · exact Or.inr ⟨el, hel, List.mem_singleton.mp h⟩
      · obtain ⟨er, her, rfl⟩ := List.mem_map.mp (List.mem_filter.mp h).1
        exact Or.inl ⟨el, hel, er, her, rfl⟩
  cases k with
  | inner => exact Or.inl (inner h)
  | cross => exact Or.inl (inner h)
  | left => exact (left h).imp_right Or.inl
  | right =>
    simp only [joinRows] at h
    obtain ⟨er, her, h⟩ := List.mem_flatMap.mp h
    split at h
    · exact Or.inr (Or.inr ⟨er, her, List.mem_singleton.mp h⟩)
    · obtain ⟨el, hel, rfl⟩ := List.mem_map.mp (List.mem_filter.mp h).1
      exact Or.inl ⟨el, hel, er, her, rfl⟩
  | full =>
    rcases List.mem_append.mp h with h | h
    · exact (left h).imp_right Or.inl
    · obtain ⟨er, her, rfl⟩ := List.mem_map.mp h
      exact Or.inr (Or.inr ⟨er, (List.mem_filter.mp her).1, rfl⟩)

theorem dom_joinRows {S : Sem} {k : JoinKind} {c : FeatureOpt} {ol orr : List Source} {L R : List Env}
    (hl : ∀ e ∈ L, dom e = ol) (hr : ∀ e ∈ R, dom e = orr) : ∀ e ∈ joinRows S k c ol orr L R, dom e = ol ++ orr := by
  intro e he
  rcases mem_joinRows he with ⟨el, hel, er, her, rfl⟩ | ⟨el, hel, rfl⟩ | ⟨er, her, rfl⟩
  · rw [dom_append, hl el hel, hr er her]
  · rw [dom_append, hl el hel, dom_nullEnv]
  · rw [dom_append, hr er her, dom_nullEnv]

/-- the conditions pending for the rows of the left side of a join of kind `k` with ON condition `c` under `P` -/
def pendingL (k : JoinKind) (c : FeatureOpt) (P : List Feature) : List Feature :=
  match k with
  | .inner | .cross => optList c ++ P
  | .left => P
  | .right => optList c
  | .full => []

/-- … and for the rows of its right side -/
def pendingR (k : JoinKind) (c : FeatureOpt) (P : List Feature) : List Feature :=
  match k with
  | .inner | .cross => optList c ++ P
  | .left => optList c
  | .right => P
  | .full => []

section
variable {S : Sem} {c : FeatureOpt} {ol orr : List Source} {L' L R' R : List Env}

theorem prune_prod {P : List Feature} (hL : Prune (Doomed S P) L' L) (hR : Prune (Doomed S P) R' R)
    (hdl : ∀ e ∈ L, dom e = ol) (hdr : ∀ e ∈ R, dom e = orr) (hdisj : ∀ o ∈ orr, o ∉ ol) :
    Prune (Doomed S P) (prod L' R') (prod L R) := by
  unfold prod
  refine Prune.flatMap _ _ hL ?_ ?_
  · intro el hel
    refine Prune.map _ hR ?_
    intro er her hd
    exact hd.append_right el (by rw [hdr er her, hdl el hel]; exact hdisj)
  · intro el _ hd b hb
    obtain ⟨er, _, rfl⟩ := List.mem_map.mp hb
    exact hd.append_left er

/-- `f` combines a fixed row with one of the other side -/
theorem matches_pruned {X' X : List Env} (f : Env → Env) (h : Prune (Doomed S (optList c)) X' X)
    (hf : ∀ e ∈ X, Doomed S (optList c) e → Doomed S (optList c) (f e)) :
    (X'.map f).filter (fun e => holdsOpt S e c) = (X.map f).filter (fun e => holdsOpt S e c) :=
  (h.map (D' := fun e => holdsOpt S e c = false) f (fun e he hd => not_on_of_doomed (hf e he hd))).filter_eq _
    (fun _ _ hd => hd)

theorem prune_joinRows (k : JoinKind) {P : List Feature} (hL : Prune (Doomed S (pendingL k c P)) L' L)
    (hR : Prune (Doomed S (pendingR k c P)) R' R) (hdl : ∀ e ∈ L, dom e = ol) (hdr : ∀ e ∈ R, dom e = orr)
    (hdisj : ∀ o ∈ orr, o ∉ ol) :
    Prune (Doomed S P) (joinRows S k c ol orr L' R') (joinRows S k c ol orr L R) := by
  -- inner and cross joins: the product filtered by the ON condition; a combination that passes it can only be doomed by `P`
  have inner : Prune (Doomed S (optList c ++ P)) L' L → Prune (Doomed S (optList c ++ P)) R' R →
      Prune (Doomed S P) ((prod L' R').filter (fun e => holdsOpt S e c)) ((prod L R).filter (fun e => holdsOpt S e c)) := by
    intro hL hR
    refine ((prune_prod hL hR hdl hdr hdisj).filter (fun e => holdsOpt S e c)).mono (fun e he hd => ?_)
    cases c with
    | none => exact hd
    | some c => exact Doomed.not_holds hd (List.mem_filter.mp he).2
  cases k with
  | inner => exact inner hL hR
  | cross => exact inner hL hR
  | left =>
    simp only [joinRows]
    refine Prune.flatMap _ _ hL (fun el hel => Prune.of_eq ?_) ?_
    · simp only [matches_pruned (fun er => el ++ er) hR fun er her hd =>
        hd.append_right el (by rw [hdr er her, hdl el hel]; exact hdisj)]
    · intro el _ hd b hb
      split at hb
      · exact List.mem_singleton.mp hb ▸ hd.append_left _
      · obtain ⟨er, _, rfl⟩ := List.mem_map.mp (List.mem_filter.mp hb).1
        exact hd.append_left _
  | right =>
    simp only [joinRows]
    refine Prune.flatMap _ _ hR (fun er _ => Prune.of_eq ?_) ?_
    · simp only [matches_pruned (fun el => el ++ er) hL fun el _ hd => hd.append_left er]
    · intro er her hd b hb
      split at hb
      · exact List.mem_singleton.mp hb ▸ hd.append_right _ (by rw [hdr er her, dom_nullEnv]; exact hdisj)
      · obtain ⟨el, hel, rfl⟩ := List.mem_map.mp (List.mem_filter.mp hb).1
        exact hd.append_right _ (by rw [hdr er her, hdl el hel]; exact hdisj)
  | full =>
    rw [hL.eq_of_false (not_doomed_nil S), hR.eq_of_false (not_doomed_nil S)]
    exact Prune.refl _

end

end ForML.PushDown
