/- C17: `genKey` / `instEq` case by case, the invariant `InvL` of the `Latest` state machine (listings well formed, what
is cached is listed) over every history, and what each operation leaves alone (`rels`, `pending`, `alive`). -/
import ForML.Lemmas.C17Latest

namespace ForML.Strategy

theorem genKey_ok_mem {rels : Rels} {i : Inst} {g : Nat} (h : genKey rels i = .ok g) :
    ∃ gs, gensOf rels i.release = some gs ∧ g ∈ gs := by
  revert h
  fun_cases genKey rels i with
  | case3 gs hg _ g' hl => intro h; cases h; exact ⟨gs, hg, List.mem_of_getLast? hl⟩
  | case4 gs hg g' _ hm => intro h; cases h; exact ⟨gs, hg, hm⟩
  | _ => nofun

theorem genKey_explicit {rels : Rels} {i : Inst} {g : Nat} {gs : List Nat}
    (hr : gensOf rels i.release = some gs) (hi : i.gen = some g) (hg : g ∈ gs) : genKey rels i = .ok g := by
  simp [genKey, hr, hi, hg]

theorem genKey_lazy {rels : Rels} {i : Inst} {g : Nat} {gs : List Nat}
    (hr : gensOf rels i.release = some gs) (hi : i.gen = none) (hl : gs.getLast? = some g) : genKey rels i = .ok g := by
  simp [genKey, hr, hi, hl]

theorem genKey_pin {rels : Rels} {i : Inst} {g : Nat} (h : genKey rels i = .ok g) :
    genKey rels (i.pin g) = .ok g := by
  obtain ⟨gs, hr, hg⟩ := genKey_ok_mem h
  exact genKey_explicit (i := i.pin g) hr rfl hg

@[simp] theorem pin_release (i : Inst) (g : Nat) : (i.pin g).release = i.release := rfl
@[simp] theorem pin_project (i : Inst) (g : Nat) : (i.pin g).project = i.project := rfl
@[simp] theorem pin_gen (i : Inst) (g : Nat) : (i.pin g).gen = some g := rfl

/-- the newest generation of a release is what its implicit generation resolves to -/
theorem newestOf_listing {rels : Rels} (hwf : WF rels) {r g : Nat} (h : NewestOf rels r g) :
    ∃ gs, gensOf rels r = some gs ∧ g ∈ gs ∧ gs.getLast? = some g := by
  obtain ⟨gs, hm, hg, hmax⟩ := h
  refine ⟨gs, gensOf_of_mem hwf hm, hg, ?_⟩
  cases hl : gs.getLast? with
  | none => have : gs = [] := List.getLast?_eq_none_iff.mp hl; subst this; simp at hg
  | some g' =>
    have := newestOf_unique hwf (newestOf_last hwf hm hl) ⟨gs, hm, hg, hmax⟩
    rw [this]

theorem instEq_cases {rels : Rels} {a b a' b' : Inst} {v : Bool} (h : instEq rels a b = .ok (v, a', b')) :
    (v = false ∧ a' = a ∧ b' = b ∧ (a.project ≠ b.project ∨ a.release ≠ b.release)) ∨
    (∃ ga gb, genKey rels a = .ok ga ∧ genKey rels b = .ok gb ∧ a.project = b.project ∧ a.release = b.release ∧
      v = (ga == gb) ∧ a' = a.pin ga ∧ b' = b.pin gb) := by
  revert h
  fun_cases instEq rels a b with
  | case1 hp => intro h; cases h; exact Or.inl ⟨rfl, rfl, rfl, Or.inl hp⟩
  | case4 _ _ _ _ _ hr => intro h; cases h; exact Or.inl ⟨rfl, rfl, rfl, Or.inr hr⟩
  | case7 hp _ _ _ _ hr ga hga gb hgb =>
    intro h; cases h
    exact Or.inr ⟨ga, gb, hga, hgb, Decidable.not_not.mp hp, Decidable.not_not.mp hr, rfl, rfl, rfl⟩
  | _ => nofun

/-- the comparison raises nothing when both releases are listed and the keys that get resolved resolve -/
theorem instEq_ok {rels : Rels} {a b : Inst} {ga : Nat} {gsa gsb : List Nat}
    (hra : gensOf rels a.release = some gsa) (hrb : gensOf rels b.release = some gsb)
    (hga : genKey rels a = .ok ga)
    (hgb : a.release = b.release → ∃ gb, genKey rels b = .ok gb) :
    ∃ res, instEq rels a b = .ok res := by
  unfold instEq
  split
  · exact ⟨_, rfl⟩
  · simp only [hra, hrb]
    split
    · exact ⟨_, rfl⟩
    · rename_i hr
      obtain ⟨gb, hgb⟩ := hgb (by simpa using hr)
      simp only [hga, hgb]
      exact ⟨_, rfl⟩

theorem instEq_true_iff {rels : Rels} {a b a' b' : Inst} {v : Bool} (h : instEq rels a b = .ok (v, a', b')) :
    v = true ↔ a.project = b.project ∧ a.release = b.release ∧ genKey rels a = genKey rels b := by
  rcases instEq_cases h with ⟨rfl, _, _, hne⟩ | ⟨ga, gb, hga, hgb, hp, hr, rfl, _, _⟩
  · constructor
    · intro h; cases h
    · intro ⟨hp, hr, _⟩; rcases hne with h | h <;> contradiction
  · rw [hga, hgb]
    constructor
    · intro hv; exact ⟨hp, hr, by simp at hv; rw [hv]⟩
    · intro ⟨_, _, he⟩; cases he; simp

theorem instEq_hash {rels : Rels} {a b a' b' : Inst} (h : instEq rels a b = .ok (true, a', b')) :
    instHash rels a = instHash rels b := by
  rcases instEq_cases h with ⟨hv, _⟩ | ⟨ga, gb, hga, hgb, hp, hr, hv, _, _⟩
  · cases hv
  · have : ga = gb := by simpa using hv.symm
    subst this
    simp [instHash, hga, hgb, hp, hr]

/-- whichever of the two instances a comparison makes the refresher keep – the second if it says equal, else the first,
each as the comparison left it – resolves as the first does -/
theorem instEq_kept {rels : Rels} {a b a' b' : Inst} {v : Bool} {g : Nat} (h : instEq rels a b = .ok (v, a', b'))
    (ha : genKey rels a = .ok g) :
    (if v then b' else a').release = a.release ∧ genKey rels (if v then b' else a') = .ok g := by
  rcases instEq_cases h with ⟨rfl, rfl, _, _⟩ | ⟨ga, gb, hga, hgb, _, hrel, rfl, rfl, rfl⟩
  · exact ⟨rfl, ha⟩
  · rw [ha] at hga; cases hga
    by_cases hv : g = gb
    · subst hv
      rw [beq_self_eq_true]
      exact ⟨hrel.symm, genKey_pin hgb⟩
    · rw [beq_false_of_ne hv]
      exact ⟨rfl, genKey_pin ha⟩

/-- the cached instance refers to something listed -/
def CacheOK (cfg : Option Nat) (rels : Rels) (i : Inst) : Prop :=
  i.project = 0 ∧
  match cfg with
  | none => ∃ g gs, i.gen = some g ∧ gensOf rels i.release = some gs ∧ g ∈ gs
  | some c => i.release = c ∧ ∀ g, i.gen = some g → ∃ gs, gensOf rels c = some gs ∧ g ∈ gs

structure InvL (cfg : Option Nat) (s : LState) : Prop where
  wf : WF s.rels
  cache : ∀ i, s.cache = some i → CacheOK cfg s.rels i

/-- `rels'` lists everything `rels` lists -/
def Grows (rels rels' : Rels) : Prop :=
  ∀ c gs, gensOf rels c = some gs → ∃ gs', gensOf rels' c = some gs' ∧ ∀ g ∈ gs, g ∈ gs'

theorem cacheOK_grows {cfg : Option Nat} {rels rels' : Rels} {i : Inst} (hg : Grows rels rels')
    (h : CacheOK cfg rels i) : CacheOK cfg rels' i := by
  refine ⟨h.1, ?_⟩
  have h2 := h.2
  cases cfg with
  | none =>
    obtain ⟨g, gs, hi, hr, hm⟩ := h2
    obtain ⟨gs', hr', hsub⟩ := hg _ _ hr
    exact ⟨g, gs', hi, hr', hsub g hm⟩
  | some c =>
    refine ⟨h2.1, ?_⟩
    intro g hi
    obtain ⟨gs, hr, hm⟩ := h2.2 g hi
    obtain ⟨gs', hr', hsub⟩ := hg _ _ hr
    exact ⟨gs', hr', hsub g hm⟩

theorem cacheOK_pin {cfg : Option Nat} {rels : Rels} {i : Inst} {g : Nat} (h : CacheOK cfg rels i)
    (hk : genKey rels i = .ok g) : CacheOK cfg rels (i.pin g) := by
  obtain ⟨gs, hr, hm⟩ := genKey_ok_mem hk
  refine ⟨h.1, ?_⟩
  have h2 := h.2
  cases cfg with
  | none => exact ⟨g, gs, rfl, hr, hm⟩
  | some c =>
    refine ⟨h2.1, ?_⟩
    intro g' hg'
    cases hg'
    exact ⟨gs, by rw [← h2.1]; exact hr, hm⟩

theorem cacheOK_pick {cfg : Option Nat} {rels : Rels} (hwf : WF rels) {i : Inst} (h : pick cfg rels = .ok i) :
    CacheOK cfg rels i := by
  unfold pick at h
  cases cfg with
  | some c => simp only at h; cases h; exact ⟨rfl, rfl, by intro g hg; cases hg⟩
  | none =>
    simp only at h
    cases hp : pickLatest rels with
    | none => simp [hp] at h
    | some y =>
      obtain ⟨r, g⟩ := y
      simp only [hp] at h; cases h
      obtain ⟨gs, hr, hm, _⟩ := newestOf_listing hwf (pickLatest_newest hwf hp).1
      exact ⟨rfl, g, gs, rfl, hr, hm⟩

/-- the configured release has a generation -/
def HasGen (rels : Rels) (c : Nat) : Prop := ∃ gs, gensOf rels c = some gs ∧ gs ≠ []

theorem cacheOK_genKey {cfg : Option Nat} {rels : Rels} {i : Inst} (h : CacheOK cfg rels i)
    (hgen : ∀ c, cfg = some c → HasGen rels c) : ∃ g, genKey rels i = .ok g := by
  have h2 := h.2
  cases cfg with
  | none =>
    obtain ⟨g, gs, hi, hr, hm⟩ := h2
    exact ⟨g, genKey_explicit hr hi hm⟩
  | some c =>
    obtain ⟨gs, hr, hne⟩ := hgen c rfl
    cases hi : i.gen with
    | some g =>
      obtain ⟨gs', hr', hm⟩ := h2.2 g hi
      exact ⟨g, genKey_explicit (by rw [h2.1]; exact hr') hi hm⟩
    | none =>
      cases hl : gs.getLast? with
      | none => exact absurd (List.getLast?_eq_none_iff.mp hl) hne
      | some g => exact ⟨g, genKey_lazy (by rw [h2.1]; exact hr) hi hl⟩

theorem grows_refl (rels : Rels) : Grows rels rels := fun _ gs h => ⟨gs, h, fun _ hg => hg⟩

theorem grows_publish {rels : Rels} (hwf : WF rels) (r : Nat) : Grows rels (publishRel r rels) :=
  fun _ gs h => ⟨gs, gensOf_publishRel hwf r h, fun _ hg => hg⟩

theorem grows_commit {rels : Rels} (hwf : WF rels) (r : Nat) : Grows rels (commitRel r rels) :=
  fun _ _ h => gensOf_commitRel hwf r h

theorem invL_select {cfg : Option Nat} {s : LState} (h : InvL cfg s) : InvL cfg (select cfg s).2 := by
  unfold select
  split
  · exact h
  · split
    · exact h
    · rename_i i hp
      exact ⟨h.wf, by intro j hj; simp at hj; subst hj; exact cacheOK_pick h.wf hp⟩

theorem invL_useCached {cfg : Option Nat} {s : LState} (h : InvL cfg s) : InvL cfg (useCached s).2 := by
  unfold useCached
  split
  · exact h
  · rename_i i hc
    split
    · exact h
    · rename_i g hk
      exact ⟨h.wf, by intro j hj; simp at hj; subst hj; exact cacheOK_pin (h.cache i hc) hk⟩

theorem invL_die {sv : Bool} {cfg : Option Nat} {s : LState} (h : InvL cfg s) : InvL cfg (s.die sv) := by
  unfold LState.die
  split
  · exact h
  · exact ⟨h.wf, h.cache⟩

theorem invL_tick {sv : Bool} {cfg : Option Nat} {s : LState} (h : InvL cfg s) : InvL cfg (tick sv cfg s) := by
  fun_cases tick sv cfg s with
  | case1 => exact h
  | case2 => exact invL_die (s := { s with pending := false }) ⟨h.wf, h.cache⟩
  | case3 => exact invL_die h
  | case4 => exact invL_die h
  | case5 _ old hc _ new hp _ old' he =>
    refine ⟨h.wf, fun j hj => ?_⟩
    cases hj
    rcases instEq_cases he with ⟨hv, _⟩ | ⟨ga, gb, _, hgb, _, _, _, _, rfl⟩
    · cases hv
    · exact cacheOK_pin (h.cache old hc) hgb
  | case6 _ old hc _ new hp new' _ he =>
    refine ⟨h.wf, fun j hj => ?_⟩
    cases hj
    rcases instEq_cases he with ⟨_, rfl, _, _⟩ | ⟨ga, gb, hga, _, _, _, _, rfl, _⟩
    · exact cacheOK_pick h.wf hp
    · exact cacheOK_pin (cacheOK_pick h.wf hp) hga
  | case7 => exact h

theorem stepL_state (sv : Bool) (cfg : Option Nat) (s : LState) (op : LOp) :
    (stepL sv cfg s op).1 =
      match op with
      | .publish r => { s with rels := publishRel r s.rels }
      | .commit r => { s with rels := commitRel r s.rels }
      | .tick => tick sv cfg s
      | .fault _ => { s with pending := true }
      | .select false => (select cfg s).2
      | .select true => (useCached (select cfg s).2).2 := by
  fun_cases stepL sv cfg s op with
  | case5 e s' h => rw [h]
  | case6 i s' h => rw [h]
  | case7 e s' h =>
    -- `select` raises only on an empty cache, which it leaves empty: the use changes nothing
    revert h
    fun_cases select cfg s with
    | case2 hc e' hp => intro h; cases h; simp only [useCached, hc]
    | _ => nofun
  | case8 i s' h e s'' hu => simp only [h, hu]
  | case9 i s' h r g s'' hu => simp only [h, hu]
  | _ => rfl

theorem die_frame (sv : Bool) (s : LState) : (s.die sv).rels = s.rels ∧ (s.die sv).pending = s.pending ∧
    (sv = true → (s.die sv).alive = s.alive) := by
  cases sv
  · exact ⟨rfl, rfl, nofun⟩
  · exact ⟨rfl, rfl, fun _ => rfl⟩

theorem tick_frame (sv : Bool) (cfg : Option Nat) (s : LState) : (tick sv cfg s).rels = s.rels ∧
    (s.pending = false → (tick sv cfg s).pending = false) ∧ (sv = true → (tick sv cfg s).alive = s.alive) := by
  have hdie := die_frame sv s
  fun_cases tick sv cfg s with
  | case2 =>
    have := die_frame sv { s with pending := false }
    exact ⟨this.1, fun _ => this.2.1, this.2.2⟩
  | case3 => exact ⟨hdie.1, fun h => hdie.2.1.trans h, hdie.2.2⟩
  | case4 => exact ⟨hdie.1, fun h => hdie.2.1.trans h, hdie.2.2⟩
  | _ => exact ⟨rfl, id, fun _ => rfl⟩

theorem select_frame (cfg : Option Nat) (s : LState) :
    (select cfg s).2.rels = s.rels ∧ (select cfg s).2.pending = s.pending := by
  unfold select
  split
  · exact ⟨rfl, rfl⟩
  · split <;> exact ⟨rfl, rfl⟩

theorem useCached_frame (s : LState) : (useCached s).2.rels = s.rels ∧ (useCached s).2.pending = s.pending := by
  unfold useCached
  split
  · exact ⟨rfl, rfl⟩
  · split <;> exact ⟨rfl, rfl⟩

theorem stepL_rels (sv : Bool) (cfg : Option Nat) (s : LState) (op : LOp) :
    (stepL sv cfg s op).1.rels =
      match op with
      | .publish r => publishRel r s.rels
      | .commit r => commitRel r s.rels
      | _ => s.rels := by
  rw [stepL_state]
  cases op with
  | publish r => rfl
  | commit r => rfl
  | tick => exact (tick_frame sv cfg s).1
  | fault e => rfl
  | select u =>
    cases u with
    | false => exact (select_frame cfg s).1
    | true => exact (useCached_frame _).1.trans (select_frame cfg s).1

theorem stepL_pending {sv : Bool} {cfg : Option Nat} {s : LState} (op : LOp) (hop : ∀ e, op ≠ .fault e)
    (h : s.pending = false) : (stepL sv cfg s op).1.pending = false := by
  rw [stepL_state]
  cases op with
  | publish r => exact h
  | commit r => exact h
  | fault e => exact absurd rfl (hop e)
  | tick => exact (tick_frame sv cfg s).2.1 h
  | select u =>
    cases u with
    | false => rw [(select_frame cfg s).2]; exact h
    | true => rw [(useCached_frame _).2, (select_frame cfg s).2]; exact h

theorem invL_step {sv : Bool} {cfg : Option Nat} {s : LState} (op : LOp) (h : InvL cfg s) :
    InvL cfg (stepL sv cfg s op).1 := by
  rw [stepL_state]
  cases op with
  | publish r =>
    exact ⟨publishRel_wf r h.wf, fun i hi => cacheOK_grows (grows_publish h.wf r) (h.cache i hi)⟩
  | commit r =>
    exact ⟨commitRel_wf r h.wf, fun i hi => cacheOK_grows (grows_commit h.wf r) (h.cache i hi)⟩
  | tick => exact invL_tick h
  | fault e => exact ⟨h.wf, h.cache⟩
  | select u =>
    cases u with
    | false => exact invL_select h
    | true => exact invL_useCached (invL_select h)

theorem execL_induct {sv : Bool} {cfg : Option Nat} {P : LState → Prop} (ops : List LOp) {s : LState} (h : P s)
    (hstep : ∀ s, ∀ op ∈ ops, P s → P (stepL sv cfg s op).1) : P (execL sv cfg s ops) := by
  induction ops generalizing s with
  | nil => exact h
  | cons op ops ih =>
    exact ih (hstep s op List.mem_cons_self h) fun s o ho => hstep s o (List.mem_cons_of_mem _ ho)

theorem invL_exec {sv : Bool} {cfg : Option Nat} (ops : List LOp) {s : LState} (h : InvL cfg s) :
    InvL cfg (execL sv cfg s ops) :=
  execL_induct ops h fun _ op _ => invL_step op

theorem execL_append (sv : Bool) (cfg : Option Nat) (s : LState) (xs ys : List LOp) :
    execL sv cfg s (xs ++ ys) = execL sv cfg (execL sv cfg s xs) ys := by
  induction xs generalizing s with
  | nil => rfl
  | cons x xs ih => exact ih _

theorem invL_init {cfg : Option Nat} {rels : Rels} (hwf : WF rels) : InvL cfg (LState.init rels) :=
  ⟨hwf, by intro i hi; cases hi⟩

end ForML.Strategy
