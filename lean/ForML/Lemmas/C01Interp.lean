/-
C01 — theory of the reference interpreter of `ForML/Model/Symbols.lean`, for every table that admits *some* rank function
(arguments strictly below the instruction, i.e. the table is acyclic), of any size: `Table.value` does not depend on the
fuel beyond the table length, and the memoising executor `run` computes it, executing every instruction exactly once.
`evalM` is treated for any denotation `D` of the table (`DenOK`): C02 uses it for `evalDask` on a linked sub-graph, whose
denotation is that of the source table.
-/
import ForML.Model.Symbols
import ForML.Lemmas.C01List

namespace ForML.Flow

/-- `r` is an acyclicity witness of `t`: every argument of every symbol ranks strictly below it -/
def Table.Ranked (t : Table) (r : Key → Nat) : Prop := ∀ s ∈ t, ∀ a ∈ s.args, r a < r s.id

/-- the model's `Table.find` is core's `List.find?` by instruction key -/
theorem Table.find_eq (t : Table) (k : Key) : t.find k = List.find? (fun s => s.id = k) t := by
  induction t with
  | nil => rfl
  | cons s r ih => simp only [Table.find, List.find?_cons, ih]; split <;> simp [*]

theorem Table.find_some {t : Table} {k : Key} {s : Symbol} (h : t.find k = some s) : s ∈ t ∧ s.id = k := by
  rw [Table.find_eq] at h
  exact ⟨List.mem_of_find?_eq_some h, by simpa using List.find?_some h⟩

theorem Table.find_none {t : Table} {k : Key} (h : t.find k = none) : ∀ s ∈ t, s.id ≠ k := by
  simpa [Table.find_eq] using h

theorem Table.find_isSome_of_mem {t : Table} {s : Symbol} (h : s ∈ t) : (t.find s.id).isSome := by
  rw [Table.find_eq, List.find?_isSome]
  exact ⟨s, h, by simp⟩

/-- bounded rank derived from any rank: number of symbols ranking at most like `k` -/
def Table.cnt (t : Table) (r : Key → Nat) (k : Key) : Nat := t.countP (fun s => decide (r s.id ≤ r k))

theorem Table.cnt_le (t : Table) (r : Key → Nat) (k : Key) : t.cnt r k ≤ t.length := List.countP_le_length

theorem Table.cnt_lt {t : Table} {r : Key → Nat} (hr : t.Ranked r) {k : Key} {s : Symbol} (hf : t.find k = some s)
    {a : Key} (ha : a ∈ s.args) : t.cnt r a < t.cnt r k :=
  have ⟨hs, hid⟩ := Table.find_some hf
  hid ▸ countP_rank_lt (fun x : Symbol => r x.id) hs (hr s hs a ha)

theorem Table.value_succ (A : Option Assets) (t : Table) (f : Nat) (k : Key) :
    Table.value A t (f + 1) k =
      match t.find k with
      | none => .error .unbound
      | some s => exec A s.instr (s.args.map (Table.value A t f)) := rfl

/-- `V` is a fuel-bounded recursion over the table, `c` a measure that decreases from an instruction to its arguments;
`Table.value` and C02's `PyFunc.valueIn` are such recursions -/
theorem fuel_stable {t : Table} {c : Key → Nat} {V : Nat → Key → Val} {u : Val}
    {step : Key → Symbol → List Val → Val} (hc : ∀ k s, t.find k = some s → ∀ a ∈ s.args, c a < c k)
    (hV : ∀ f k, V (f + 1) k = match t.find k with | none => u | some s => step k s (s.args.map (V f))) :
    ∀ (f g : Nat) (k : Key), c k < f → c k < g → V f k = V g k := by
  intro f
  induction f with
  | zero => intro g k h; omega
  | succ f ih =>
    intro g k hf hg
    cases g with
    | zero => omega
    | succ g =>
      rw [hV, hV]
      cases hfind : t.find k with
      | none => rfl
      | some s =>
        refine congrArg (step k s) (List.map_congr_left fun a ha => ?_)
        have := hc k s hfind a ha
        exact ih g a (by omega) (by omega)

theorem Table.value_stable (A : Option Assets) {t : Table} {r : Key → Nat} (hr : t.Ranked r) :
    ∀ f f' k, t.cnt r k < f → t.cnt r k < f' → Table.value A t f k = Table.value A t f' k :=
  fuel_stable (step := fun _ s vs => exec A s.instr vs) (fun _ _ hf _ ha => Table.cnt_lt hr hf ha) (fun _ _ => rfl)

/-- the default fuel `t.length + 1` is enough: any larger fuel gives the same value -/
theorem Table.value_fuel (A : Option Assets) {t : Table} {r : Key → Nat} (hr : t.Ranked r) (k : Key) (f : Nat)
    (hf : t.fuel ≤ f) : Table.value A t f k = Table.value A t t.fuel k :=
  have hk : t.cnt r k < t.fuel := Nat.lt_succ_of_le (Table.cnt_le t r k)
  Table.value_stable A hr f t.fuel k (Nat.lt_of_lt_of_le hk hf) hk

theorem Table.value_unfold (A : Option Assets) {t : Table} {r : Key → Nat} (hr : t.Ranked r) {k : Key} {s : Symbol}
    (hfind : t.find k = some s) :
    Table.value A t t.fuel k = exec A s.instr (s.args.map (Table.value A t t.fuel)) := by
  have h2 := Table.value_fuel A hr k (t.fuel + 1) (by omega)
  rw [← h2, Table.value_succ, hfind]

theorem Table.value_unbound (A : Option Assets) {t : Table} {k : Key} (hfind : t.find k = none) :
    Table.value A t t.fuel k = .error .unbound := by
  simp [Table.fuel, Table.value_succ, hfind]

theorem lookupVal_cons (k k' : Key) (v : Val) (l : List (Key × Val)) :
    lookupVal k ((k', v) :: l) = if k' = k then some v else lookupVal k l := rfl

/-- argument evaluation loop of `evalM` -/
def evalArgs (ev : Memo → Key → Memo × Val) : Memo → List Val → List Key → Memo × List Val
  | m, vs, [] => (m, vs)
  | m, vs, a :: as => evalArgs ev (ev m a).1 (vs ++ [(ev m a).2]) as

theorem foldl_eq_evalArgs (ev : Memo → Key → Memo × Val) (m : Memo) (vs : List Val) (args : List Key) :
    args.foldl (fun (acc : Memo × List Val) a => let (m1, v) := ev acc.1 a; (m1, acc.2 ++ [v])) (m, vs)
      = evalArgs ev m vs args := by
  induction args generalizing m vs with
  | nil => rfl
  | cons a as ih => simp only [List.foldl_cons, evalArgs]; exact ih _ _

theorem evalM_succ (A : Option Assets) (t : Table) (f : Nat) (m : Memo) (k : Key) :
    evalM A t (f + 1) m k =
      match m.get k with
      | some v => (m, v)
      | none =>
        match t.find k with
        | none => (m, .error .unbound)
        | some s =>
          let r := evalArgs (evalM A t f) m [] s.args
          (⟨(k, exec A s.instr r.2) :: r.1.vals, r.1.trace ++ [k]⟩, exec A s.instr r.2) := by
  cases hg : m.get k with
  | some v => simp [evalM, hg]
  | none =>
    cases hf : t.find k with
    | none => simp [evalM, hg, hf]
    | some s => simp only [evalM, hg, hf]; rw [foldl_eq_evalArgs]

/-- `D` is a denotation of `t`, `c` a measure that decreases from an instruction to its arguments -/
structure DenOK (A : Option Assets) (t : Table) (c : Key → Nat) (D : Key → Val) : Prop where
  args : ∀ k s, t.find k = some s → ∀ a ∈ s.args, c a < c k
  eq : ∀ k s, t.find k = some s → D k = exec A s.instr (s.args.map D)
  dangling : ∀ k s, t.find k = some s → ∀ a ∈ s.args, t.find a = none → D a = .error .unbound

/-- consistency of a memo w.r.t. a denotation -/
structure MemoInv (D : Key → Val) (t : Table) (m : Memo) : Prop where
  sound : ∀ k v, m.get k = some v → v = D k
  nodup : m.trace.Nodup
  traced : ∀ k, k ∈ m.trace ↔ (m.get k).isSome
  known : ∀ k ∈ m.trace, (t.find k).isSome

/-- `m'` extends `m` by executions of instructions measuring below `b` -/
structure MemoExt (c : Key → Nat) (b : Nat) (m m' : Memo) : Prop where
  keep : ∀ k v, m.get k = some v → m'.get k = some v
  extra : ∀ k, k ∈ m'.trace → k ∈ m.trace ∨ c k < b

theorem MemoExt.refl (c : Key → Nat) (b : Nat) (m : Memo) : MemoExt c b m m :=
  ⟨fun _ _ h => h, fun _ h => Or.inl h⟩

theorem MemoExt.trans {c : Key → Nat} {b b' : Nat} {m m' m'' : Memo} (h1 : MemoExt c b m m')
    (h2 : MemoExt c b' m' m'') (hb : b ≤ b') : MemoExt c b' m m'' :=
  ⟨fun k v h => h2.keep k v (h1.keep k v h), fun k h => by
    rcases h2.extra k h with h | h
    · rcases h1.extra k h with h | h
      · exact Or.inl h
      · exact Or.inr (by omega)
    · exact Or.inr h⟩

/-- what one `evalM` call guarantees -/
structure EvalSpec (D : Key → Val) (t : Table) (c : Key → Nat) (m : Memo) (k : Key) (res : Memo × Val) : Prop where
  val : res.2 = D k
  ok : MemoInv D t res.1
  ext : MemoExt c (c k + 1) m res.1
  got : (t.find k).isSome → res.1.get k = some res.2

theorem evalArgs_spec (D : Key → Val) (t : Table) (c : Key → Nat) (ev : Memo → Key → Memo × Val) (b : Nat)
    (args : List Key)
    (hev : ∀ a ∈ args, ∀ m, MemoInv D t m → EvalSpec D t c m a (ev m a))
    (hb : ∀ a ∈ args, c a < b) :
    ∀ m vs, MemoInv D t m →
      (evalArgs ev m vs args).2 = vs ++ args.map D ∧
      MemoInv D t (evalArgs ev m vs args).1 ∧ MemoExt c b m (evalArgs ev m vs args).1 := by
  induction args with
  | nil => intro m vs hm; simp [evalArgs, hm, MemoExt.refl]
  | cons a as ih =>
    intro m vs hm
    have h1 := hev a List.mem_cons_self m hm
    have ih' := ih (fun a' ha' => hev a' (List.mem_cons_of_mem _ ha')) (fun a' ha' => hb a' (List.mem_cons_of_mem _ ha'))
      (ev m a).1 (vs ++ [(ev m a).2]) h1.ok
    simp only [evalArgs]
    refine ⟨?_, ih'.2.1, ?_⟩
    · rw [ih'.1, h1.val]; simp
    · exact MemoExt.trans h1.ext ih'.2.2 (hb a List.mem_cons_self)

theorem Memo.get_cons (k k' : Key) (v : Val) (vals : List (Key × Val)) (tr : List Key) :
    (Memo.mk ((k', v) :: vals) tr).get k = if k' = k then some v else (Memo.mk vals tr).get k := rfl

theorem Memo.get_trace_irrel (vals : List (Key × Val)) (tr tr' : List Key) (k : Key) :
    (Memo.mk vals tr).get k = (Memo.mk vals tr').get k := rfl

theorem MemoInv.insert {D : Key → Val} {t : Table} {m : Memo} {k : Key} (hm : MemoInv D t m) (hk : k ∉ m.trace)
    (hfind : (t.find k).isSome) : MemoInv D t ⟨(k, D k) :: m.vals, m.trace ++ [k]⟩ := by
  refine ⟨fun k' v' hget => ?_, ?_, fun k' => ?_, fun k' hk' => ?_⟩
  · rw [Memo.get_cons] at hget
    split at hget
    · cases hget; subst_vars; rfl
    · exact hm.sound k' v' hget
  · exact nodup_snoc.mpr ⟨hm.nodup, hk⟩
  · rw [Memo.get_cons, List.mem_append, List.mem_singleton, hm.traced k']
    by_cases hkk : k = k'
    · simp [hkk]
    · simp only [hkk, if_false, Ne.symm hkk, or_false]
      rfl
  · rcases List.mem_append.mp hk' with h | h
    · exact hm.known k' h
    · rw [List.mem_singleton.mp h]; exact hfind

theorem MemoExt.insert {c : Key → Nat} {b : Nat} {m m' : Memo} {k : Key} (v : Val) (h : MemoExt c b m m')
    (hk : m.get k = none) (hb : b ≤ c k + 1) : MemoExt c (c k + 1) m ⟨(k, v) :: m'.vals, m'.trace ++ [k]⟩ := by
  refine ⟨fun k' v' hget => ?_, fun k' hk' => ?_⟩
  · rw [Memo.get_cons, if_neg (fun e => by rw [e, hget] at hk; cases hk)]
    exact h.keep k' v' hget
  · rcases List.mem_append.mp hk' with hk' | hk'
    · exact (h.extra k' hk').imp_right fun h => Nat.lt_of_lt_of_le h hb
    · rw [List.mem_singleton.mp hk']; exact Or.inr (Nat.lt_succ_self _)

theorem evalM_spec {A : Option Assets} {t : Table} {c : Key → Nat} {D : Key → Val} (hD : DenOK A t c D) :
    ∀ f m k, MemoInv D t m → c k < f → (t.find k = none → D k = .error .unbound) →
      EvalSpec D t c m k (evalM A t f m k) := by
  intro f
  induction f with
  | zero => intro m k _ h; cases h
  | succ f ih =>
    intro m k hm hk hk0
    rw [evalM_succ]
    cases hg : m.get k with
    | some v => exact ⟨hm.sound k v hg, hm, MemoExt.refl _ _ _, fun _ => hg⟩
    | none =>
      cases hfind : t.find k with
      | none => exact ⟨(hk0 hfind).symm, hm, MemoExt.refl _ _ _, fun h => by rw [hfind] at h; cases h⟩
      | some s =>
        obtain ⟨hvs, hok, hext⟩ := evalArgs_spec D t c (evalM A t f) (c k) s.args
          (fun a ha m' hm' => ih m' a hm' (Nat.lt_of_lt_of_le (hD.args k s hfind a ha) (Nat.le_of_lt_succ hk))
            (hD.dangling k s hfind a ha))
          (hD.args k s hfind) m [] hm
        have hval : exec A s.instr (evalArgs (evalM A t f) m [] s.args).2 = D k := by
          rw [hvs, hD.eq k s hfind]; rfl
        -- `k` itself is not among the instructions executed for its arguments: those measure below it
        have hknotin : k ∉ (evalArgs (evalM A t f) m [] s.args).1.trace := fun hmem =>
          (hext.extra k hmem).elim (fun h => by rw [hm.traced k, hg] at h; cases h) (Nat.lt_irrefl _)
        simp only [hval]
        exact ⟨rfl, hok.insert hknotin (by rw [hfind]; rfl), hext.insert _ hg (Nat.le_succ _),
          fun _ => by rw [Memo.get_cons, if_pos rfl]⟩

theorem MemoInv.empty (D : Key → Val) (t : Table) : MemoInv D t ⟨[], []⟩ :=
  ⟨fun k v h => by simp [Memo.get, lookupVal] at h, List.nodup_nil, fun k => by simp [Memo.get, lookupVal],
   fun k h => by cases h⟩

/-- what `run` does over the table and C02's `evalDask` over the outputs -/
theorem evalM_fold {A : Option Assets} {t : Table} {c : Key → Nat} {D : Key → Val} (hD : DenOK A t c D) (f : Nat)
    (ks : List Key) :
    ∀ m, MemoInv D t m → (∀ k ∈ ks, c k < f ∧ (t.find k).isSome) →
      MemoInv D t (ks.foldl (fun m k => (evalM A t f m k).1) m) ∧
      (∀ k v, m.get k = some v → (ks.foldl (fun m k => (evalM A t f m k).1) m).get k = some v) ∧
      (∀ k ∈ ks, (ks.foldl (fun m k => (evalM A t f m k).1) m).get k = some (D k)) := by
  induction ks with
  | nil => intro m hm _; exact ⟨hm, fun _ _ h => h, fun _ h => by cases h⟩
  | cons x rest ih =>
    intro m hm hks
    have hx' := hks x List.mem_cons_self
    have hx := evalM_spec hD f m x hm hx'.1 (fun h => by rw [h] at hx'; cases hx'.2)
    have ih' := ih (evalM A t f m x).1 hx.ok (fun k hk => hks k (List.mem_cons_of_mem _ hk))
    simp only [List.foldl_cons]
    refine ⟨ih'.1, fun k v h => ih'.2.1 k v (hx.ext.keep k v h), ?_⟩
    intro k hk
    rcases List.mem_cons.mp hk with rfl | hk
    · have hgot := hx.got hx'.2
      rw [hx.val] at hgot
      exact ih'.2.1 _ _ hgot
    · exact ih'.2.2 k hk

/-- `MemoInv` at the denotation `Table.value A t t.fuel` -/
structure MemoOK (A : Option Assets) (t : Table) (m : Memo) : Prop where
  sound : ∀ k v, m.get k = some v → v = Table.value A t t.fuel k
  nodup : m.trace.Nodup
  traced : ∀ k, k ∈ m.trace ↔ (m.get k).isSome
  known : ∀ k ∈ m.trace, (t.find k).isSome

theorem Table.denOK (A : Option Assets) {t : Table} {r : Key → Nat} (hr : t.Ranked r) :
    DenOK A t (t.cnt r) (Table.value A t t.fuel) :=
  ⟨fun _ _ hf _ ha => Table.cnt_lt hr hf ha, fun _ _ hf => Table.value_unfold A hr hf,
   fun _ _ _ _ _ h => Table.value_unbound A h⟩

theorem run_fold (A : Option Assets) {t : Table} {r : Key → Nat} (hr : t.Ranked r) :
    MemoOK A t (run A t) ∧ ∀ s ∈ t, (run A t).get s.id = some (Table.value A t t.fuel s.id) := by
  have h := evalM_fold (Table.denOK A hr) t.fuel (t.map (·.id)) ⟨[], []⟩ (MemoInv.empty _ t) (fun k hk => by
    obtain ⟨s, hs, rfl⟩ := List.mem_map.mp hk
    exact ⟨Nat.lt_succ_of_le (Table.cnt_le t r s.id), Table.find_isSome_of_mem hs⟩)
  simp only [List.foldl_map] at h
  exact ⟨⟨h.1.sound, h.1.nodup, h.1.traced, h.1.known⟩, fun s hs => h.2.2 s.id (List.mem_map_of_mem hs)⟩

/-- the memoising executor computes the denotation of every instruction of an acyclic table -/
theorem run_get (A : Option Assets) {t : Table} {r : Key → Nat} (hr : t.Ranked r) {s : Symbol} (hs : s ∈ t) :
    (run A t).get s.id = some (Table.value A t t.fuel s.id) :=
  (run_fold A hr).2 s hs

/-- no instruction is executed twice -/
theorem run_trace_nodup (A : Option Assets) {t : Table} {r : Key → Nat} (hr : t.Ranked r) : (run A t).trace.Nodup :=
  (run_fold A hr).1.nodup

/-- exactly the instructions of the table are executed -/
theorem run_trace_mem (A : Option Assets) {t : Table} {r : Key → Nat} (hr : t.Ranked r) (k : Key) :
    k ∈ (run A t).trace ↔ ∃ s ∈ t, s.id = k := by
  have h := run_fold A hr
  constructor
  · intro hk
    have := h.1.known k hk
    cases hf : t.find k with
    | none => simp [hf] at this
    | some s => exact ⟨s, (Table.find_some hf).1, (Table.find_some hf).2⟩
  · rintro ⟨s, hs, rfl⟩
    apply (h.1.traced s.id).mpr
    rw [h.2 s hs]; rfl

theorem run_get_unbound (A : Option Assets) {t : Table} {r : Key → Nat} (hr : t.Ranked r) (k : Key)
    (hk : ∀ s ∈ t, s.id ≠ k) : (run A t).get k = none := by
  cases hg : (run A t).get k with
  | none => rfl
  | some v =>
    have : k ∈ (run A t).trace := ((run_fold A hr).1.traced k).mpr (by simp [hg])
    obtain ⟨s, hs, hid⟩ := (run_trace_mem A hr k).mp this
    exact absurd hid (hk s hs)

end ForML.Flow
