/-
C14 — `run_prune`: pushing the offered row filters into the scans only removes rows the conditions pending above
reject anyway, for every join kind, on every statement outside the regions of the findings C14-F1/F2 (`safe`; for the
repaired parser: on every statement).

The row side is `prune_joinRows` (`ForML.Lemmas.C14Prune`).  The parser side is `justified_join`: after `visit_join`
every factor registered for an origin of a side comes from a condition pending for that side (`pendingL`/`pendingR`) —
by `release`/`exempt` in the repaired code, by the clauses of `safe` in the code that exists.
-/
import ForML.Lemmas.C14Filter
namespace ForML.PushDown
open ForML.Dsl

theorem run_dom (fix len : Bool) (S : Sem) (B : Backend) (db : Db) :
    ∀ (s : Source) (st : Segs), ∀ e ∈ (run fix len S B db s st).envs, dom e = origins s
  | .table n fs, st, e, he => by
    simp only [run, List.mem_map] at he
    obtain ⟨r, _, rfl⟩ := he
    rfl
  | .ref i nm, st, e, he => by
    simp only [run] at he
    split at he
    · obtain ⟨r, _, rfl⟩ := List.mem_map.mp he
      rfl
    · obtain ⟨r, _, rfl⟩ := List.mem_map.mp he
      rfl
  | .join l r k c, st, e, he =>
    dom_joinRows (run_dom fix len S B db l _) (run_dom fix len S B db r _) e he
  | .set l r k, st, e, he => by
    simp only [run, List.mem_map] at he
    obtain ⟨r, _, rfl⟩ := he
    rfl
  | .query src sel pre grp post ord rows, st, e, he => by
    simp only [run, List.mem_map] at he
    obtain ⟨r, _, rfl⟩ := he
    rfl

/-- after what `visit_join` registers the factors of the origins `side` are justified by `P'` (before: by `P`), provided
each factor that was there (`hold`) and each factor of the ON condition (`hnew`) either comes from a condition of `P'`,
or is dropped for `side` (released resp. exempt: the repaired code), or does not exist for `side` (a clause of `safe`:
the code that exists). -/
theorem justified_joinCtx {fix len : Bool} {P P' : List Feature} {st : Segs} {l r : Source} {k : JoinKind}
    {c : FeatureOpt} {side : List Source} (hj : Justified len P st side)
    (hold : (∀ p ∈ P, p ∈ P') ∨ (∀ t ∈ side, t ∈ released fix l r k) ∨ NoFactor len P side)
    (hnew : (∀ p ∈ optList c, p ∈ P') ∨ (∀ t ∈ side, t ∈ exempt fix l r k) ∨ NoFactor len (optList c) side) :
    Justified len P' (joinCtx fix len st l r k c) side := by
  intro x hx hxt
  rcases joinCtx_factors_mem hx with ⟨hx0, hnr⟩ | ⟨hf, hne⟩
  · rcases hold with h | h | h
    · exact (hj x hx0 hxt).mono h
    · exact absurd (h _ hxt) hnr
    · exact absurd hxt (h x (hj x hx0 hxt))
  · rcases hnew with h | h | h
    · exact hf.mono h
    · exact absurd (h _ hxt) hne
    · exact absurd hxt (h x hf)

theorem safe_join {fix len : Bool} {P Q : List Feature} {l r : Source} {k : JoinKind} {c : FeatureOpt}
    (h : safe fix len P Q (.join l r k c) = true) :
    safe fix len (pendingL k c P) (optList c ++ Q) l = true ∧
      safe fix len (pendingR k c P) (condsOf l ++ (optList c ++ Q)) r = true := by
  cases k <;> simp only [safe, Bool.and_eq_true] at h
  · exact h
  · exact ⟨h.1.2, h.2⟩
  · exact ⟨h.1.2, h.2⟩
  · exact ⟨h.1.2, h.2⟩
  · exact h

theorem justified_left {fix len : Bool} {P : List Feature} {st : Segs} {l r : Source} {c : FeatureOpt}
    (g : fix = true ∨ (noFactorFor len (optList c) (origins l) = true ∧ noFactorFor len P (origins r) = true))
    (hjl : Justified len P st (origins l)) (hjr : Justified len P st (origins r)) :
    Justified len P (joinCtx fix len st l r .left c) (origins l) ∧
      Justified len (optList c) (joinCtx fix len st l r .left c) (origins r) := by
  refine ⟨justified_joinCtx hjl (.inl fun _ h => h) ?_, justified_joinCtx hjr ?_ (.inl fun _ h => h)⟩
  · rcases g with rfl | h
    · exact .inr (.inl fun _ h => h)
    · exact .inr (.inr (noFactorFor_iff.mp h.1))
  · rcases g with rfl | h
    · exact .inr (.inl fun _ h => h)
    · exact .inr (.inr (noFactorFor_iff.mp h.2))

theorem justified_join {fix len : Bool} {P Q : List Feature} {st : Segs} {l r : Source} {k : JoinKind} {c : FeatureOpt}
    (hs : safe fix len P Q (.join l r k c) = true) (hj : Justified len P st (origins l ++ origins r)) :
    Justified len (pendingL k c P) (joinCtx fix len st l r k c) (origins l) ∧
      Justified len (pendingR k c P) (joinCtx fix len st l r k c) (origins r) := by
  have hjl := hj.subset (fun t => List.mem_append_left (origins r))
  have hjr := hj.subset (fun t => List.mem_append_right (origins l))
  have both : Justified len (optList c ++ P) (joinCtx fix len st l r k c) (origins l) ∧
      Justified len (optList c ++ P) (joinCtx fix len st l r k c) (origins r) :=
    ⟨justified_joinCtx hjl (.inl fun _ => List.mem_append_right _) (.inl fun _ => List.mem_append_left _),
      justified_joinCtx hjr (.inl fun _ => List.mem_append_right _) (.inl fun _ => List.mem_append_left _)⟩
  cases k with
  | inner => exact both
  | cross => exact both
  | left =>
    simp only [safe, Bool.and_eq_true, Bool.or_eq_true] at hs
    exact justified_left hs.1.1 hjl hjr
  | right =>
    -- a RIGHT join is the LEFT join of the swapped sides: it releases, exempts and registers the same
    simp only [safe, Bool.and_eq_true, Bool.or_eq_true] at hs
    exact (justified_left (l := r) (r := l) hs.1.1 hjr hjl).symm
  | full =>
    simp only [safe, Bool.and_eq_true, Bool.or_eq_true] at hs
    rcases hs.1.1 with rfl | h
    · exact ⟨justified_joinCtx hjl (.inr (.inl fun _ => List.mem_append_right _)) (.inr (.inl fun _ => List.mem_append_left _)),
        justified_joinCtx hjr (.inr (.inl fun _ => List.mem_append_left _)) (.inr (.inl fun _ => List.mem_append_right _))⟩
    · have h := noFactorFor_iff.mp h
      exact ⟨justified_joinCtx hjl (.inr (.inr (h.mono (fun _ => List.mem_append_right _) (fun _ => List.mem_append_left _))))
          (.inr (.inr (h.mono (fun _ => List.mem_append_left _) (fun _ => List.mem_append_left _)))),
        justified_joinCtx hjr (.inr (.inr (h.mono (fun _ => List.mem_append_right _) (fun _ => List.mem_append_right _))))
          (.inr (.inr (h.mono (fun _ => List.mem_append_left _) (fun _ => List.mem_append_right _))))⟩

/-- only the sources inside a query context see the conditions pending above them -/
theorem safe_stmt {fix len : Bool} {P Q : List Feature} {s : Source} (h : isStmt s = true) :
    safe fix len P Q s = safe fix len [] [] s := by
  cases s with
  | set => rfl
  | query => rfl
  | _ => simp [isStmt] at h

/-- **Pushing the offered row filters into the scans only removes rows the pending conditions reject anyway; a
statement as a whole yields the same rows** — every join kind, both variants of the parser. -/
theorem run_prune (fix len : Bool) (S : Sem) (db : Db) (s : Source) (hg : grammarScoped s = true) :
    (joinsScoped s = true → (origins s).Nodup → ∀ (P Q : List Feature) (st : Segs), safe fix len P Q s = true →
        FromSeen len Q st → Justified len P st (origins s) →
        Prune (Doomed S P) (run fix len S .honourRows db s st).envs (run fix len S .ignore db s st).envs)
    ∧ (isStmt s = true → safe fix len [] [] s = true →
        ∀ st, (run fix len S .honourRows db s st).envs = (run fix len S .ignore db s st).envs) := by
  refine scoped_induction
    (A := fun s => ∀ (P Q : List Feature) (st : Segs), safe fix len P Q s = true → FromSeen len Q st →
      Justified len P st (origins s) →
      Prune (Doomed S P) (run fix len S .honourRows db s st).envs (run fix len S .ignore db s st).envs)
    (B := fun s => safe fix len [] [] s = true →
      ∀ st, (run fix len S .honourRows db s st).envs = (run fix len S .ignore db s st).envs)
    ?_ ?_ ?_ ?_ ?_ ?_ ?_ s hg
  · intro n fs P Q st _ _ hj
    simp only [run, Backend.honourRows, Backend.ignore]
    refine Prune.map _ (Prune.of_filter (D := fun r => Doomed S P [(Source.table n fs, r)]) _ _ ?_) (fun _ _ h => h)
    intro r _ hr
    exact doomed_of_not_passes len S hj hr
  · intro i nm ht P Q st hs hfs _
    simp only [safe, ht, if_true] at hs
    simp only [run, ht, if_true, Backend.honourRows, Backend.ignore]
    refine Prune.of_eq (congrArg _ (List.filter_eq_self.mpr (fun r _ => ?_)))
    exact passes_of_pred_nil S (ref_pred_nil hfs hs) r
  · intro i nm ht ih P Q st hs _ _
    simp only [safe, ht, Bool.false_eq_true, if_false] at hs
    simp only [run, ht, Bool.false_eq_true, if_false]
    rw [ih hs st]
    exact Prune.refl _
  · intro l r k c _ hjl _ hdisj hl iha ihb P Q st hs hfs hj
    have hfs1 := fromSeen_joinCtx (fix := fix) l r k c hfs
    have hjc := justified_join hs hj
    simp only [run]
    rw [(run_indep fix len S S .honourRows .ignore db db l _).1]
    -- the right side is visited in the state the left side leaves behind: nothing new for its origins
    exact prune_joinRows k (iha _ _ _ (safe_join hs).1 hfs1 hjc.1)
      (ihb _ _ _ (safe_join hs).2 (fromSeen_run hl hfs1) (justified_run hl hjl hdisj hjc.2))
      (run_dom fix len S .ignore db l _) (run_dom fix len S .ignore db r _) hdisj
  · intro l r k iha ihb hos st
    simp only [safe, Bool.and_eq_true] at hos
    simp only [run]
    rw [iha hos.1 st, (run_indep fix len S S .honourRows .ignore db db l st).1, ihb hos.2 _]
  · intro src sel pre grp post ord rows ih hos st
    simp only [safe] at hos
    simp only [run]
    -- the prefilter rejects whatever the pending conditions (the prefilter itself) doom
    rw [(ih (optList pre) (optList pre) (queryCtx fix len st.err src sel pre grp post ord) hos
      (fun _ hx => queryCtx_factors_mem hx) (fun _ hx _ => queryCtx_factors_mem hx)).filter_eq
        (fun e => holdsOpt S e pre) (fun e _ hd => not_on_of_doomed hd)]
  · intro s hs h P Q st hos _ _
    exact Prune.of_eq (h (safe_stmt hs ▸ hos) st)

end ForML.PushDown
