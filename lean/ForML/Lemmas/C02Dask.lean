/-
`link` / `mkjob` of the dask runner model build a closed sub-table of the source table
that contains every leaf; evaluating it by memoised recursion yields the denotation of the source table.
-/
import ForML.Model.Dask
import ForML.Lemmas.C02Table

namespace ForML.Flow

/-- the dask graph under construction is a closed, duplicate-free collection of symbols of `t` -/
structure GInv (t g : Table) : Prop where
  sub : ∀ s ∈ g, t.find s.id = some s
  closed : ∀ s ∈ g, ∀ a ∈ s.args, (g.find a).isSome
  nodup : (g.map (·.id)).Nodup

theorem GInv.empty (t : Table) : GInv t [] := ⟨by simp, by simp, by simp⟩

theorem Table.find_isSome_iff {g : Table} {k : Key} : (g.find k).isSome ↔ k ∈ g.map (·.id) := by
  simp [Table.find_eq, List.find?_isSome]

theorem Table.find_append_isSome {g h : Table} {k : Key} (hk : (g.find k).isSome) : ((g ++ h).find k).isSome :=
  Table.find_isSome_iff.2 (by rw [List.map_append]; exact List.mem_append_left _ (Table.find_isSome_iff.1 hk))

/-- what a successful `link t f g k = some g'` guarantees. `new` (whatever is added ranks at most like `k`) is what
keeps `k` itself out of the graph while its arguments, which rank strictly lower, are linked — so that appending `k`
afterwards keeps the keys distinct -/
structure LinkOK (t g : Table) (r : Key → Nat) (k : Key) (g' : Table) : Prop where
  inv : GInv t g'
  mono : ∀ k', (g.find k').isSome → (g'.find k').isSome
  has : (g'.find k).isSome
  new : ∀ k', (g'.find k').isSome → (g.find k').isSome ∨ r k' ≤ r k

theorem linkAll_ok {t : Table} {r : Key → Nat} {f B : Nat}
    (step : ∀ (g : Table) (a : Key), r a < B → (t.find a).isSome → GInv t g →
      ∃ g', link t f g a = some g' ∧ LinkOK t g r a g') :
    ∀ (as : List Key) (g0 : Table), (∀ a ∈ as, (t.find a).isSome ∧ r a < B) → GInv t g0 →
      ∃ g1, as.foldlM (fun b a => link t f b a) g0 = some g1 ∧ GInv t g1 ∧
        (∀ k', (g0.find k').isSome → (g1.find k').isSome) ∧ (∀ a ∈ as, (g1.find a).isSome) ∧
        (∀ k', (g1.find k').isSome → (g0.find k').isSome ∨ r k' < B) := by
  intro as
  induction as with
  | nil => intro g0 _ h0; exact ⟨g0, by simp, h0, fun _ h => h, by simp, fun _ h => Or.inl h⟩
  | cons a as iha =>
    intro g0 hlt h0
    have ha := hlt a (List.mem_cons_self ..)
    obtain ⟨g', hl, hok⟩ := step g0 a ha.2 ha.1 h0
    obtain ⟨g1, hf1, hg1, hm1, hh1, hn1⟩ := iha g' (fun b hb => hlt b (List.mem_cons_of_mem _ hb)) hok.inv
    refine ⟨g1, ?_, hg1, fun k' h => hm1 k' (hok.mono k' h), ?_, ?_⟩
    · simp [List.foldlM_cons, hl, hf1]
    · intro b hb
      rcases List.mem_cons.1 hb with rfl | hb
      · exact hm1 _ hok.has
      · exact hh1 b hb
    · intro k' hk'
      rcases hn1 k' hk' with h | h
      · rcases hok.new k' h with h | h
        · exact Or.inl h
        · exact Or.inr (by omega)
      · exact Or.inr h

theorem link_ok {t : Table} {r : Key → Nat} (hr : Ranked t r) :
    ∀ (f : Nat) (g : Table) (k : Key), r k < f → (t.find k).isSome → GInv t g →
      ∃ g', link t f g k = some g' ∧ LinkOK t g r k g' := by
  intro f
  induction f with
  | zero => intro g k h; omega
  | succ f ih =>
    intro g k hf hb hg
    simp only [link]
    cases hgk : (g.find k).isSome with
    | true => exact ⟨g, by simp, hg, fun _ h => h, hgk, fun _ h => Or.inl h⟩
    | false =>
      simp only [Bool.false_eq_true, if_false]
      cases hfind : t.find k with
      | none => simp [hfind] at hb
      | some s =>
        simp only
        obtain ⟨g1, hfold, hg1, hmono, hhas, hnew⟩ :=
          linkAll_ok (B := r k) (fun g a ha => ih g a (by omega)) s.args g (hr.find_args hfind) hg
        rw [hfold]
        have hsid := (Table.find_some hfind).2
        have hs : (⟨k, s.instr, s.args⟩ : Symbol) = s := by cases s; simp_all
        rw [hs]
        have hknot : k ∉ g1.map (·.id) := by
          intro hin
          rcases hnew k (Table.find_isSome_iff.2 hin) with h | h
          · simp [hgk] at h
          · omega
        have hmem : ∀ k', (g1.find k').isSome → ((g1 ++ [s]).find k').isSome := fun _ h => Table.find_append_isSome h
        refine ⟨_, rfl, ⟨?_, ?_, ?_⟩, ?_, ?_, ?_⟩
        · intro s' hs'
          rcases List.mem_append.1 hs' with h | h
          · exact hg1.sub s' h
          · simp at h; subst h; rw [hsid]; exact hfind
        · intro s' hs' a ha
          rcases List.mem_append.1 hs' with h | h
          · exact hmem a (hg1.closed s' h a ha)
          · simp at h; subst h; exact hmem a (hhas a ha)
        · rw [List.map_append, List.nodup_append]
          refine ⟨hg1.nodup, by simp, ?_⟩
          intro a ha b hb
          simp at hb; subst hb
          intro he; subst he; rw [hsid] at ha; exact hknot ha
        · intro k' h; exact hmem k' (hmono k' h)
        · apply Table.find_isSome_iff.2; simp [hsid]
        · intro k' hk'
          have := Table.find_isSome_iff.1 hk'
          rw [List.map_append] at this
          rcases List.mem_append.1 this with h | h
          · rcases hnew k' (Table.find_isSome_iff.2 h) with h | h
            · exact Or.inl h
            · exact Or.inr (by omega)
          · simp at h; right; rw [h, hsid]; exact Nat.le_refl _

theorem mem_sinks {t : Table} {k : Key} : k ∈ t.sinks ↔ k ∈ t.map (·.id) ∧ ∀ s ∈ t, k ∉ s.args := by
  simp only [Table.sinks, List.mem_filter, Bool.not_eq_true', List.any_eq_false, List.contains_iff_mem]

theorem exists_consumer {t : Table} {k : Key} (hk : k ∈ t.map (·.id)) (hns : k ∉ t.sinks) :
    ∃ c ∈ t, k ∈ c.args := by
  simpa only [Table.sinks, List.mem_filter, hk, true_and, Bool.not_eq_true', Bool.not_eq_false, List.any_eq_true,
    List.contains_iff_mem] using hns

theorem sinks_ne_nil {t : Table} {r : Key → Nat} (hr : Ranked t r) (hne : t ≠ []) : t.sinks ≠ [] := by
  obtain ⟨s, hs, hmax⟩ := exists_max (fun s : Symbol => r s.id) t hne
  have : s.id ∈ t.sinks := by
    rw [mem_sinks]
    refine ⟨List.mem_map_of_mem hs, ?_⟩
    intro s' hs' hin
    have := (hr.args s' hs' s.id hin).2
    have := hmax s' hs'
    omega
  intro h
  rw [h] at this
  cases this

theorem Ranked.sinks_bound {t : Table} {r : Key → Nat} (hr : Ranked t r) :
    ∀ k ∈ t.sinks, (t.find k).isSome ∧ r k < t.fuel := by
  intro k hk
  obtain ⟨s, hs, rfl⟩ := List.mem_map.1 (mem_sinks.1 hk).1
  exact ⟨Table.find_isSome_of_mem hs, by have := hr.bound s hs; simp only [Table.fuel]; omega⟩

theorem mkjob_ok {t : Table} {r : Key → Nat} (hr : Ranked t r) (hne : t ≠ []) :
    ∃ job, mkjob t = .ok job ∧ job.outputs = t.sinks ∧ job.fuel = t.fuel ∧ GInv t job.graph ∧
      ∀ k ∈ t.sinks, (job.graph.find k).isSome := by
  obtain ⟨g1, hf, hg1, _, hh, _⟩ := linkAll_ok (link_ok hr t.fuel) t.sinks [] hr.sinks_bound (GInv.empty t)
  refine ⟨⟨g1, t.sinks, t.fuel⟩, ?_, rfl, rfl, hg1, hh⟩
  simp only [mkjob, hasDup_eq_false_iff.2 hr.nodup, Bool.false_eq_true, if_false]
  have : t.sinks.isEmpty = false := by
    cases hs : t.sinks with
    | nil => exact absurd hs (sinks_ne_nil hr hne)
    | cons _ _ => rfl
  simp [this, hf]

/-- the linked graph is closed, so no argument dangles; with this `evalM_fold` of `C01Interp` applies to `evalDask` -/
theorem GInv.denOK (A : Option Assets) {t g : Table} {r : Key → Nat} (hr : Ranked t r) (hg : GInv t g) :
    DenOK A g r (den A t) := by
  have sub : ∀ {k s}, g.find k = some s → s ∈ g ∧ t.find k = some s := fun {_ s} hf =>
    have hm := Table.find_some hf
    ⟨hm.1, hm.2 ▸ hg.sub s hm.1⟩
  refine ⟨fun k s hf a ha => (hr.find_args (sub hf).2 a ha).2, fun k s hf => den_eq A hr (sub hf).2,
    fun k s hf a ha hn => ?_⟩
  have := hg.closed s (sub hf).1 a ha
  rw [hn] at this
  cases this

end ForML.Flow
