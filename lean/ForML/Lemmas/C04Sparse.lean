/-
Sparse generation listings (Model/PersistSparse.lean).  `Release.put` numbers a new
generation with the successor of the greatest listed key: never an existing key, whatever has been pruned; an action
keeps every listed generation as it is; binding holds for histories with housekeeping in between.
-/
import ForML.Model.PersistSparse
import ForML.Lemmas.C04Modes

namespace ForML.Persist

namespace SReg

theorem lt_nextKey : ∀ (r : SReg), r.Ascending → ∀ e ∈ r, e.1 < r.nextKey := by
  intro r
  induction r with
  | nil => intro _ e he; cases he
  | cons a rest ih =>
    intro hasc e he
    have hp := List.pairwise_cons.mp hasc
    cases rest with
    | nil =>
      simp only [List.mem_singleton] at he
      subst he
      simp [nextKey]
    | cons b rest' =>
      have hlast : nextKey (a :: b :: rest') = nextKey (b :: rest') := by
        simp [nextKey, List.getLast?_cons_cons]
      rw [hlast]
      simp only [List.mem_cons] at he
      rcases he with rfl | he
      · have h1 := hp.1 b (by simp)
        have h2 := ih hp.2 b (by simp)
        omega
      · exact ih hp.2 e (by simpa using he)

theorem ascending_append (r : SReg) (h : r.Ascending) (g : Generation) : Ascending (r ++ [(r.nextKey, g)]) := by
  unfold Ascending
  rw [List.pairwise_append]
  refine ⟨h, List.pairwise_singleton _ _, ?_⟩
  intro a ha b hb
  simp only [List.mem_singleton] at hb
  subst hb
  exact lt_nextKey r h a ha

theorem ascending_prune (r : SReg) (h : r.Ascending) (k : Nat) : Ascending (r.prune k) :=
  List.Pairwise.filter _ h

end SReg

/-- every listed generation holds, position by position, the states of the occurrences behind `persistent` -/
def SInv (T : List (Option Nat)) (r : SReg) : Prop := ∀ e ∈ r, GenOk T e.2

theorem selectS_mem {r : SReg} {k : Option Nat} {g : Generation} (h : selectS r k = .ok (some g)) :
    ∃ e ∈ r, e.2 = g := by
  cases k with
  | none =>
    simp only [selectS] at h
    cases hl : r.getLast? with
    | none => rw [hl] at h; cases h
    | some e =>
      rw [hl] at h
      cases h
      exact ⟨e, List.mem_of_getLast? hl, rfl⟩
  | some k =>
    simp only [selectS, SReg.get?] at h
    cases hf : r.find? (fun e => e.1 == k) with
    | none => rw [hf] at h; cases h
    | some e =>
      rw [hf] at h
      cases h
      exact ⟨e, List.mem_of_find?_eq_some hf, rfl⟩

/-- the registry and the action an observation of `stepS` is judged against: the selected generation alone -/
def judged (r : SReg) (a : Action) : Registry × Action :=
  match selectS r a.gen with
  | .ok sel => (sel.toList, { a with gen := none })
  | .error _ => ([], { a with gen := some 1 })

theorem stepS_append {cs : Case} {r r' : SReg} {a : Action} {obs : List Obs} (h : stepS cs r a = .ok (r', obs)) :
    r' = r ∨ ∃ g, r' = r ++ [(r.nextKey, g)] := by
  unfold stepS at h
  split at h
  · split at h
    · cases h
    · cases h; exact .inl rfl
  · split at h
    · cases h
    · split at h
      · cases h; exact .inr ⟨_, rfl⟩
      · cases h; exact .inl rfl

theorem stepS_ascending {cs : Case} {r r' : SReg} {a : Action} {obs : List Obs} (h : stepS cs r a = .ok (r', obs))
    (hasc : r.Ascending) : r'.Ascending := by
  rcases stepS_append h with rfl | ⟨g, rfl⟩
  · exact hasc
  · exact SReg.ascending_append r hasc g

theorem stepS_ok {cs : Case} (hwf : cs.Ok) {r r' : SReg} (hinv : SInv cs.plain.persistentTags r)
    {a : Action} {obs : List Obs} (h : stepS cs r a = .ok (r', obs)) :
    SInv cs.plain.persistentTags r' ∧ ∀ o ∈ obs, obsOk (judged r a).1 (judged r a).2 o = true := by
  unfold stepS at h
  unfold judged
  cases hsel : selectS r a.gen with
  | error e =>
    rw [hsel] at h
    simp only at h ⊢
    cases hs : step cs [] { a with gen := some 1 } with
    | error e' => rw [hs] at h; cases h
    | ok res =>
      obtain ⟨reg', obs'⟩ := res
      rw [hs] at h
      cases h
      exact ⟨hinv, (step_ok hwf (RegInv.nil _) hs).2⟩
  | ok sel =>
    rw [hsel] at h
    simp only at h ⊢
    have hreg : RegInv cs.plain.persistentTags sel.toList := by
      intro g hg
      cases sel with
      | none => cases hg
      | some g0 =>
        simp only [Option.toList, List.mem_singleton] at hg
        subst hg
        obtain ⟨e, he, heq⟩ := selectS_mem hsel
        exact heq ▸ hinv e he
    cases hs : step cs sel.toList { a with gen := none } with
    | error e' => rw [hs] at h; cases h
    | ok res =>
      obtain ⟨reg', obs'⟩ := res
      rw [hs] at h
      have hok := step_ok hwf hreg hs
      simp only at h
      split at h
      · rename_i g hd
        cases h
        refine ⟨?_, hok.2⟩
        intro e he
        simp only [List.mem_append, List.mem_singleton] at he
        cases he with
        | inl he => exact hinv e he
        | inr he =>
          subst he
          exact hok.1 g (List.mem_of_mem_drop (by rw [hd]; exact List.mem_singleton_self g))
      · cases h
        exact ⟨hinv, hok.2⟩

theorem SInv.prune {T : List (Option Nat)} {r : SReg} (h : SInv T r) (k : Nat) : SInv T (r.prune k) :=
  fun e he => h e (List.mem_filter.mp he).1

def SparseFreshOk (hist : List SAct) : Prop :=
  ∀ x ∈ hist, match x with
    | .act _ f => Inj f.1 ∧ Inj f.2
    | .prune _ => True

theorem stepS_rename {ρ σ : Nat → Nat} (hρ : Inj ρ) (hσ : Inj σ) (cs : Case) (r : SReg) (a : Action) :
    stepS (cs.rename ρ σ) r a = stepS cs r a := by
  unfold stepS
  simp only [step_rename hρ hσ]

/-- histories with housekeeping: ascending listings, every listed generation bound, every observation bound -/
theorem runSparse_ok (cs : Case) (hwf : cs.Ok) :
    ∀ (hist : List SAct) (r : SReg), SInv cs.plain.persistentTags r → r.Ascending → SparseFreshOk hist →
      ∀ entry ∈ runSparse cs r hist,
        SInv cs.plain.persistentTags entry.1 ∧ entry.1.Ascending ∧
        ∀ a obs, entry.2.2 = some (a, .ok obs) → ∀ o ∈ obs, obsOk (judged entry.1 a).1 (judged entry.1 a).2 o = true := by
  intro hist r hinv hasc hfresh
  refine history_inv (I := fun r => SInv cs.plain.persistentTags r ∧ r.Ascending) (run := runSparse cs)
    (fun _ => rfl) ?_ hist r ⟨hinv, hasc⟩ hfresh
  intro r x rest ⟨hinv, hasc⟩ hx
  cases x with
  | prune k =>
    exact ⟨_, r.prune k, rfl, ⟨hinv, hasc, fun _ _ h => nomatch h⟩, hinv.prune k, SReg.ascending_prune r hasc k⟩
  | act a f =>
    have hr := stepS_rename hx.1 hx.2 cs r a
    cases hs : stepS cs r a with
    | error e =>
      exact ⟨(r, r.keys, some (a, .error e)), r, by simp only [runSparse, hr, hs],
        ⟨hinv, hasc, fun _ _ h => nomatch h⟩, hinv, hasc⟩
    | ok res =>
      have hok := stepS_ok hwf hinv hs
      exact ⟨(r, res.1.keys, some (a, .ok res.2)), res.1, by simp only [runSparse, hr, hs],
        ⟨hinv, hasc, fun _ _ h => by cases h; exact hok.2⟩, hok.1, stepS_ascending hs hasc⟩

end ForML.Persist
