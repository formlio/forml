/-
C01 — insertion-ordered association lists (`aget/aset/adel`), `CState.putAt` and `LastSome` (an argument list filled
through `putAt` ends in a filled slot), and the `Contig` structure that `itertools.groupby` needs (equal objects sit
next to each other).
-/
import ForML.Model.Compile
import ForML.Lemmas.C01List

namespace ForML.Flow

section assoc
variable {κ : Type} {α : Type} [DecidableEq κ]

theorem aget_nil (k : κ) : aget k ([] : List (κ × α)) = none := rfl

theorem aget_cons (k k' : κ) (v : α) (r : List (κ × α)) :
    aget k ((k', v) :: r) = if k' = k then some v else aget k r := rfl

/-- `aget` is the core look-up, the key first -/
theorem aget_eq_lookup (k : κ) (l : List (κ × α)) : aget k l = l.lookup k :=
  lookup_eq_of_eqns (fun _ => rfl) (fun _ _ _ _ => rfl) k l

theorem aget_append_singleton (k k' : κ) (v : α) (l : List (κ × α)) :
    aget k (l ++ [(k', v)]) = match aget k l with | some x => some x | none => if k' = k then some v else none := by
  rw [aget_eq_lookup, List.lookup_append, ← aget_eq_lookup, ← aget_eq_lookup k [(k', v)]]
  cases aget k l <;> rfl

theorem mem_of_aget {k : κ} {v : α} {l : List (κ × α)} (h : aget k l = some v) : (k, v) ∈ l :=
  mem_of_lookup (aget_eq_lookup k l ▸ h)

theorem aget_none_iff {k : κ} {l : List (κ × α)} : aget k l = none ↔ k ∉ l.map (·.1) :=
  aget_eq_lookup k l ▸ lookup_eq_none_iff_not_mem

theorem aget_of_mem_nodup {k : κ} {v : α} {l : List (κ × α)} (hnd : (l.map (·.1)).Nodup) (h : (k, v) ∈ l) :
    aget k l = some v :=
  aget_eq_lookup k l ▸ lookup_of_mem hnd h

/-- `aset` is `d[k] = v` on an insertion-ordered association list -/
theorem aset_isSet : IsSet (aset (κ := κ) (α := α)) := ⟨fun _ _ => rfl, fun _ _ _ _ _ => rfl⟩

theorem mem_aset {k : κ} {v : α} {l : List (κ × α)} {x : κ × α} (h : x ∈ aset k v l) : x = (k, v) ∨ x ∈ l :=
  aset_isSet.mem h

theorem aget_aset (k k' : κ) (v : α) (l : List (κ × α)) :
    aget k' (aset k v l) = if k = k' then some v else aget k' l := by
  rw [aget_eq_lookup, aset_isSet.lookup_comm, ← aget_eq_lookup]

theorem aset_keys_mem {k : κ} {v : α} {l : List (κ × α)} {k' : κ} :
    k' ∈ (aset k v l).map (·.1) ↔ k' = k ∨ k' ∈ l.map (·.1) :=
  aset_isSet.keys_mem

theorem aset_keys_nodup {k : κ} {v : α} {l : List (κ × α)} (h : (l.map (·.1)).Nodup) :
    ((aset k v l).map (·.1)).Nodup :=
  aset_isSet.keys_nodup h

theorem adel_eq_eraseP (k : κ) (l : List (κ × α)) : adel k l = l.eraseP (fun x => x.1 = k) := by
  induction l with
  | nil => rfl
  | cons y r ih =>
    obtain ⟨k', v'⟩ := y
    by_cases h : k' = k <;> simp [adel, h, ih]

theorem adel_sublist (k : κ) (l : List (κ × α)) : (adel k l).Sublist l :=
  adel_eq_eraseP k l ▸ List.eraseP_sublist

theorem mem_adel {k : κ} {l : List (κ × α)} {x : κ × α} (h : x ∈ adel k l) : x ∈ l := (adel_sublist k l).subset h

theorem aget_adel_ne {k k' : κ} (hne : k ≠ k') (l : List (κ × α)) : aget k' (adel k l) = aget k' l := by
  induction l with
  | nil => rfl
  | cons y r ih =>
    obtain ⟨k'', v''⟩ := y
    simp only [adel]
    split
    · subst_vars; simp [aget_cons, hne]
    · simp only [aget_cons, ih]

theorem adel_keys_sublist (k : κ) (l : List (κ × α)) : ((adel k l).map (·.1)).Sublist (l.map (·.1)) :=
  (adel_sublist k l).map _

theorem aget_adel_self {k : κ} {l : List (κ × α)} (hnd : (l.map (·.1)).Nodup) : aget k (adel k l) = none := by
  induction l with
  | nil => rfl
  | cons y r ih =>
    obtain ⟨k', v'⟩ := y
    simp only [List.map_cons, List.nodup_cons] at hnd
    simp only [adel]
    split
    · subst_vars; exact aget_none_iff.mpr hnd.1
    · rename_i hne
      simp only [aget_cons, hne, if_false]
      exact ih hnd.2

theorem mem_adel_of_ne {k : κ} {l : List (κ × α)} {x : κ × α} (h : x ∈ l) (hne : x.1 ≠ k) : x ∈ adel k l :=
  adel_eq_eraseP k l ▸ (List.mem_eraseP_of_neg (by simpa using hne)).mpr h

end assoc

theorem aget_append {κ α : Type} [DecidableEq κ] (k : κ) (l1 l2 : List (κ × α)) :
    aget k (l1 ++ l2) = match aget k l1 with | some x => some x | none => aget k l2 := by
  simp only [aget_eq_lookup, List.lookup_append]
  cases l1.lookup k <;> rfl

theorem adel_append_of_mem {κ α : Type} [DecidableEq κ] {k : κ} {l1 : List (κ × α)} (l2 : List (κ × α))
    (h : (aget k l1).isSome) : adel k (l1 ++ l2) = adel k l1 ++ l2 := by
  obtain ⟨v, hv⟩ := Option.isSome_iff_exists.mp h
  simp only [adel_eq_eraseP]
  exact List.eraseP_append_left (a := (k, v)) (decide_eq_true rfl) l2 (mem_of_aget hv)

theorem adel_of_not_mem {κ α : Type} [DecidableEq κ] {k : κ} {l : List (κ × α)} (h : aget k l = none) : adel k l = l := by
  rw [adel_eq_eraseP]
  exact List.eraseP_of_forall_not fun x hx hk => aget_none_iff.mp h (List.mem_map.mpr ⟨x, hx, by simpa using hk⟩)

theorem adel_append_singleton_self {κ α : Type} [DecidableEq κ] {k : κ} {v : α} {l : List (κ × α)} (h : aget k l = none) :
    adel k (l ++ [(k, v)]) = l := by
  rw [adel_eq_eraseP, List.eraseP_append_right _]
  · simp
  · exact fun x hx hk => aget_none_iff.mp h (List.mem_map.mpr ⟨x, hx, by simpa using hk⟩)

theorem aget_fresh_append {κ α : Type} [DecidableEq κ] {k : κ} {l1 l2 : List (κ × α)} (h1 : aget k l1 = none)
    (h2 : aget k l2 = none) : aget k (l1 ++ l2) = none := by
  rw [aget_append, h1]; exact h2

theorem aget_append_left {κ α : Type} [DecidableEq κ] {k : κ} {l1 : List (κ × α)} (l2 : List (κ × α)) {v : α}
    (h1 : aget k l1 = some v) : aget k (l1 ++ l2) = some v := by
  rw [aget_append, h1]

theorem aget_append_right {κ α : Type} [DecidableEq κ] {k : κ} {l1 : List (κ × α)} (l2 : List (κ × α))
    (h1 : aget k l1 = none) : aget k (l1 ++ l2) = aget k l2 := by
  rw [aget_append, h1]

theorem aget_singleton_ne {κ α : Type} [DecidableEq κ] {k k' : κ} {v : α} (hne : k' ≠ k) : aget k [(k', v)] = none := by
  simp [aget, hne]

theorem aget_singleton_self {κ α : Type} [DecidableEq κ] {k : κ} {v : α} : aget k [(k, v)] = some v := by
  simp [aget]

theorem aget_ite_ne {κ α : Type} [DecidableEq κ] {k k' : κ} {v : α} (c : Prop) [Decidable c] (hne : k' ≠ k) :
    aget k (if c then [(k', v)] else []) = none := by
  split
  · exact aget_singleton_ne hne
  · rfl

theorem keys_nodup_append {κ α : Type} [DecidableEq κ] {l1 l2 : List (κ × α)} (h1 : (l1.map (·.1)).Nodup) (h2 : (l2.map (·.1)).Nodup)
    (hd : ∀ x ∈ l2, aget x.1 l1 = none) : ((l1 ++ l2).map (·.1)).Nodup := by
  rw [List.map_append, List.nodup_append]
  refine ⟨h1, h2, ?_⟩
  intro a ha b hb hab
  subst hab
  obtain ⟨x, hx, rfl⟩ := List.mem_map.mp hb
  exact aget_none_iff.mp (hd x hx) ha

theorem not_mem_of_aget_none {κ α : Type} [DecidableEq κ] {k : κ} {v : α} {l : List (κ × α)} (h : aget k l = none) :
    (k, v) ∉ l :=
  fun hm => aget_none_iff.mp h (List.mem_map.mpr ⟨_, hm, rfl⟩)

theorem putAt_length (args : List (Option Key)) (i : Nat) (x : Key) :
    (CState.putAt args i x).length = max args.length (i + 1) := by
  rw [CState.putAt, List.length_set, List.length_append, List.length_replicate,
    Nat.add_comm args.length, Nat.sub_add_eq_max, Nat.max_comm]

theorem putAt_getD (args : List (Option Key)) (i j : Nat) (x : Key) :
    (CState.putAt args i x).getD j none = if j = i then some x else args.getD j none := by
  rw [CState.putAt, List.getD_eq_getElem?_getD, List.getD_eq_getElem?_getD, List.getElem?_set, List.length_append,
    List.length_replicate, List.getElem?_append, List.getElem?_replicate]
  by_cases hji : j = i
  · subst hji
    rw [if_pos rfl, if_pos rfl, if_pos (by omega)]
    rfl
  · rw [if_neg (fun h => hji h.symm), if_neg hji]
    by_cases hj : j < args.length
    · rw [if_pos hj]
    · rw [if_neg hj, List.getElem?_eq_none (Nat.le_of_not_lt hj)]
      split <;> rfl

/-- the last slot of a non-empty argument list is filled (lists only grow up to the inserted index) -/
def LastSome (l : List (Option Key)) : Prop := l = [] ∨ ∃ a, l.getLast? = some (some a)

theorem lastSome_iff {l : List (Option Key)} : LastSome l ↔ l = [] ∨ ∃ a, l.getD (l.length - 1) none = some a := by
  unfold LastSome
  rw [List.getLast?_eq_getElem?, List.getD_eq_getElem?_getD]
  cases l[l.length - 1]? with
  | none => exact or_congr_right ⟨fun ⟨_, h⟩ => (nomatch h), fun ⟨_, h⟩ => (nomatch h)⟩
  | some v => exact or_congr_right ⟨fun ⟨a, h⟩ => ⟨a, Option.some.inj h⟩, fun ⟨a, h⟩ => ⟨a, congrArg some h⟩⟩

theorem lastSome_putAt {args : List (Option Key)} (h : LastSome args) (i : Nat) (x : Key) :
    LastSome (CState.putAt args i x) := by
  rw [lastSome_iff] at h ⊢
  right
  rw [putAt_getD, putAt_length]
  by_cases hi : i + 1 < args.length
  · rcases h with rfl | ⟨a, ha⟩
    · cases hi
    · refine ⟨a, ?_⟩
      rw [Nat.max_eq_left (Nat.le_of_lt hi), if_neg (by omega)]
      exact ha
  · exact ⟨x, by rw [Nat.max_eq_right (by omega), if_pos (by omega)]⟩

theorem LastSome.length_le {l : List (Option Key)} (h : LastSome l) {b : Nat}
    (hb : ∀ j a, l.getD j none = some a → j < b) : l.length ≤ b := by
  rcases lastSome_iff.mp h with rfl | ⟨a, ha⟩
  · exact Nat.zero_le _
  · have := hb _ a ha
    omega

/-- equal elements are adjacent: an element that occurs again further on is the very next one -/
def Contig : List Key → Prop
  | [] => True
  | x :: r => Contig r ∧ (x ∈ r → r.head? = some x)

theorem Contig.head_of_sublist {r l : List Key} {x : Key} (hr : Contig r) (hs : l.Sublist r) (hx : x ∈ l)
    (hh : r.head? = some x) : l.head? = some x := by
  induction hs with
  | slnil => cases hx
  | @cons l r z hs ih =>
    cases hh
    exact ih hr.1 hx (hr.2 (hs.subset hx))
  | cons_cons z _ _ => exact hh

theorem Contig.sublist {l l' : List Key} (h : Contig l) (hs : l'.Sublist l) : Contig l' := by
  induction hs with
  | slnil => trivial
  | cons z _ ih => exact ih h.1
  | @cons_cons l' r x hs ih =>
    exact ⟨ih h.1, fun hx => Contig.head_of_sublist h.1 hs hx (h.2 (hs.subset hx))⟩

theorem Contig.append {l1 l2 : List Key} (h1 : Contig l1) (h2 : Contig l2) (hd : ∀ x ∈ l1, x ∉ l2) :
    Contig (l1 ++ l2) := by
  induction l1 with
  | nil => exact h2
  | cons x r ih =>
    refine ⟨ih h1.1 (fun y hy => hd y (List.mem_cons_of_mem _ hy)), fun hx => ?_⟩
    have hxr : x ∈ r := (List.mem_append.mp hx).resolve_right (hd x List.mem_cons_self)
    have := h1.2 hxr
    cases r with
    | nil => cases hxr
    | cons z r' => exact this

theorem Contig.of_nodup {l : List Key} (h : l.Nodup) : Contig l := by
  induction l with
  | nil => trivial
  | cons x r ih => exact ⟨ih (List.nodup_cons.mp h).2, fun hx => absurd hx (List.nodup_cons.mp h).1⟩

end ForML.Flow
