/-
Reading back the concrete header syntax: `str.strip`, the quote-parity scanner of `cgi._parseparam`, quoted-string
escaping against the two sequential `replace`s of `cgi.parse_header`, the parameter loop, one range and the whole header,
the spellings of `q`, and the gateway in normal form.  The numerals (`numBody`, `Digits`) also serve the number cells of `C19TableNum`.
-/
import ForML.Lemmas.C19
import ForML.Lemmas.ListFacts
import ForML.Model.CodecHeader

namespace ForML.Codec

deriving instance DecidableEq for Except

theorem trim_ws_left (w s : Str) (hw : w.all isWs = true) : trim (w ++ s) = trim s := by
  unfold trim; rw [List.dropWhile_append_of_pos (List.all_eq_true.mp hw)]

theorem trim_ws_right (s w : Str) (hw : w.all isWs = true) : trim (s ++ w) = trim s := by
  unfold trim
  rw [List.dropWhile_append]
  split
  · rename_i h
    rw [← List.append_nil w, List.dropWhile_append_of_pos (List.all_eq_true.mp hw), List.isEmpty_iff.1 h]; rfl
  · rw [List.reverse_append, List.dropWhile_append_of_pos (by simpa using hw)]

theorem trim_ws (w : Str) (hw : w.all isWs = true) : trim w = [] := by
  have := trim_ws_right [] w hw
  simpa [trim] using this

theorem tight_iff (s : Str) : tight s = true ↔ ∃ a b, s.head? = some a ∧ s.getLast? = some b ∧ isWs a = false ∧ isWs b = false := by
  unfold tight
  cases h1 : s.head? <;> cases h2 : s.getLast? <;> simp

theorem trim_tight (s : Str) (h : tight s = true) : trim s = s := by
  obtain ⟨a, b, ha, hb, hwa, hwb⟩ := (tight_iff s).mp h
  exact dropWhile_ends_id (fun x hx => by rw [ha] at hx; cases hx; exact hwa) (fun x hx => by rw [hb] at hx; cases hx; exact hwb)

theorem tight_ne_nil (s : Str) (h : tight s = true) : s ≠ [] := by
  intro hs; subst hs; simp [tight] at h

theorem tight_cons (c : Char) (s : Str) (hc : isWs c = false) (hs : tight s = true) : tight (c :: s) = true := by
  obtain ⟨_, b, _, hb, _, hwb⟩ := (tight_iff s).mp hs
  obtain ⟨ys, rfl⟩ := List.getLast?_eq_some_iff.mp hb
  exact (tight_iff _).mpr ⟨c, b, rfl, List.getLast?_eq_some_iff.mpr ⟨c :: ys, rfl⟩, hc, hwb⟩

def NoTrail (s : Str) : Prop := ∀ b, s.getLast? = some b → isWs b = false

theorem noTrail_mid (a : Str) (c : Char) (b : Str) (hc : isWs c = false) (hb : NoTrail b) : NoTrail (a ++ c :: b) := by
  intro d hd
  rw [List.getLast?_append, List.getLast?_cons] at hd
  cases hl : b.getLast? with
  | none => rw [hl] at hd; cases hd; exact hc
  | some e => rw [hl] at hd; cases hd; exact hb e hl

theorem tight_append (s u : Str) (hs : tight s = true) (hu : NoTrail u) : tight (s ++ u) = true := by
  obtain ⟨a, b, ha, hb, hwa, hwb⟩ := (tight_iff s).mp hs
  rw [tight_iff]
  cases s with
  | nil => cases ha
  | cons x s' =>
    cases hl : u.getLast? with
    | none => exact ⟨a, b, ha, by rw [List.getLast?_append, hl, hb]; rfl, hwa, hwb⟩
    | some c => exact ⟨a, c, ha, by rw [List.getLast?_append, hl]; rfl, hwa, hu c hl⟩

/-- how `ParamSpec.body` writes a value after `=` and the text of a part without `=` -/
def padded (w t : Str) : Str := if t.isEmpty then [] else w ++ t

/-- the texts `str.strip` gives back from `padded w t` -/
def Slim (t : Str) : Prop := t = [] ∨ tight t = true

theorem slim_of (t : Str) (h : (t.isEmpty || tight t) = true) : Slim t := by
  rcases (Bool.or_eq_true _ _).mp h with h | h
  · exact Or.inl (List.isEmpty_iff.mp h)
  · exact Or.inr h

theorem padded_tight (w t : Str) (ht : tight t = true) : padded w t = w ++ t := by
  cases t with
  | nil => cases ht
  | cons c r => rfl

theorem trim_padded (w t : Str) (hw : w.all isWs = true) (ht : Slim t) : trim (padded w t) = t := by
  rcases ht with rfl | ht
  · rfl
  · rw [padded_tight w t ht, trim_ws_left w t hw, trim_tight t ht]

theorem noTrail_padded (w t : Str) (ht : Slim t) : NoTrail (padded w t) := by
  rcases ht with rfl | ht
  · intro b hb; cases hb
  · obtain ⟨_, b, _, hb, _, hwb⟩ := (tight_iff t).mp ht
    obtain ⟨ys, rfl⟩ := List.getLast?_eq_some_iff.mp hb
    rw [padded_tight w _ ht, ← List.append_assoc]
    exact noTrail_mid _ b [] hwb (fun _ h => by cases h)

theorem all_padded {p : Char → Bool} {w t : Str} (hw : w.all p = true) (ht : t.all p = true) :
    (padded w t).all p = true := by
  unfold padded
  split
  · rfl
  · rw [List.all_append, hw, ht]; rfl

/-- quote parity after scanning `s` from the state `(prev, q)` -/
def scanQ : Option Char → Bool → Str → Bool
  | _, q, [] => q
  | prev, q, c :: r => scanQ (some c) (if c == '"' && prev != some '\\' then !q else q) r

/-- no `;` of `s` is a separator when scanning from `(prev, q)` -/
def noCut : Option Char → Bool → Str → Bool
  | _, _, [] => true
  | prev, q, c :: r => !(c == ';' && !q) && noCut (some c) (if c == '"' && prev != some '\\' then !q else q) r

/-- previous character after scanning `s` -/
def scanPrev (prev : Option Char) (s : Str) : Option Char :=
  match s.getLast? with
  | some c => some c
  | none => prev

theorem scanPrev_cons (prev : Option Char) (c : Char) (r : Str) : scanPrev prev (c :: r) = scanPrev (some c) r := by
  unfold scanPrev
  cases r with
  | nil => rfl
  | cons d t =>
    rw [List.getLast?_cons_cons]
    cases h : (d :: t).getLast? with
    | none => simp at h
    | some x => rfl

/-- a stretch without separator is accumulated as it stands -/
theorem splitParams_seg (seg rest acc : Str) (prev : Option Char) (q : Bool) (h : noCut prev q seg = true) :
    splitParams prev q (seg ++ rest) acc = splitParams (scanPrev prev seg) (scanQ prev q seg) rest (seg.reverse ++ acc) := by
  induction seg generalizing prev q acc with
  | nil => simp [scanPrev, scanQ]
  | cons c r ih =>
    rw [noCut] at h
    obtain ⟨h1, h2⟩ := (Bool.and_eq_true _ _).mp h
    rw [Bool.not_eq_true'] at h1
    rw [List.cons_append, splitParams, h1, ih _ _ _ h2, scanPrev_cons, scanQ]
    simp

theorem noCut_append (a b : Str) (prev : Option Char) (q : Bool) :
    noCut prev q (a ++ b) = (noCut prev q a && noCut (scanPrev prev a) (scanQ prev q a) b) := by
  induction a generalizing prev q with
  | nil => simp [noCut, scanPrev, scanQ]
  | cons c r ih => simp only [List.cons_append, noCut, ih, scanPrev_cons, scanQ, Bool.and_assoc]

theorem scanQ_append (a b : Str) (prev : Option Char) (q : Bool) :
    scanQ prev q (a ++ b) = scanQ (scanPrev prev a) (scanQ prev q a) b := by
  induction a generalizing prev q with
  | nil => simp [scanPrev, scanQ]
  | cons c r ih => simp only [List.cons_append, scanQ, ih, scanPrev_cons]

/-- neither separator nor quote -/
def quiet (c : Char) : Bool := c != ';' && c != '"'

theorem quiet_scan (s : Str) (prev : Option Char) (q : Bool) (h : s.all quiet = true) :
    noCut prev q s = true ∧ scanQ prev q s = q := by
  induction s generalizing prev with
  | nil => simp [noCut, scanQ]
  | cons c r ih =>
    simp only [List.all_cons, Bool.and_eq_true, quiet, bne_iff_ne, ne_eq] at h
    obtain ⟨⟨h1, h2⟩, hr⟩ := h
    have := ih (some c) hr
    simp [noCut, scanQ, h1, h2, this]

theorem all_of_all {p q : α → Bool} {s : List α} (h : s.all p = true) (hpq : ∀ c, p c = true → q c = true) :
    s.all q = true :=
  List.all_eq_true.mpr fun c hc => hpq c (List.all_eq_true.mp h c hc)

theorem not_mem_of_all {p : α → Bool} {s : List α} {c : α} (hs : s.all p = true) (hc : p c = false) : c ∉ s :=
  fun h => by rw [List.all_eq_true.mp hs c h] at hc; cases hc

theorem ws_plain (w : Str) (h : w.all isWs = true) : w.all (fun c => !special c) = true :=
  all_of_all h fun c hc => by
    simp only [special, Bool.not_eq_true', Bool.or_eq_false_iff, beq_eq_false_iff_ne, ne_eq]
    refine ⟨⟨?_, ?_⟩, ?_⟩ <;> (intro e; subst e; simp [isWs] at hc)

theorem and_plain {p : Char → Bool} (s : Str) (h : s.all (fun c => !special c && p c) = true) :
    s.all (fun c => !special c) = true :=
  all_of_all h fun _ hc => ((Bool.and_eq_true _ _).mp hc).1

theorem plain_quiet (s : Str) (h : s.all (fun c => !special c) = true) : s.all quiet = true :=
  all_of_all h fun c hc => by
    simp only [special, Bool.not_eq_true', Bool.or_eq_false_iff, beq_eq_false_iff_ne, ne_eq] at hc
    simp [quiet, hc.1.2, hc.2]

theorem plain_no_comma (s : Str) (h : s.all (fun c => !special c) = true) : s.all (fun c => c != ',') = true :=
  all_of_all h fun c hc => by
    simp only [special, Bool.not_eq_true', Bool.or_eq_false_iff, beq_eq_false_iff_ne, ne_eq] at hc
    simp [hc.1.1]

theorem ws_quiet (w : Str) (h : w.all isWs = true) : w.all quiet = true := plain_quiet w (ws_plain w h)

theorem ws_no_comma (w : Str) (h : w.all isWs = true) : w.all (fun c => c != ',') = true :=
  plain_no_comma w (ws_plain w h)

theorem escape_append (a b : Str) : escape (a ++ b) = escape a ++ escape b := by
  induction a with
  | nil => rfl
  | cons c r ih =>
    simp only [List.cons_append, escape, ih]
    split <;> rfl

/-- every character is written last in what stands for it -/
theorem escape_getLast? (v : Str) : (escape v).getLast? = v.getLast? := by
  rcases List.eq_nil_or_concat v with rfl | ⟨u, c, rfl⟩
  · rfl
  · rw [List.concat_eq_append, escape_append]
    simp only [escape]
    split <;> simp

/-- inside a quoted-string (parity odd) nothing cuts and the parity stays odd, whatever came before -/
theorem escape_scan (v : Str) (prev : Option Char) : noCut prev true (escape v) = true ∧ scanQ prev true (escape v) = true := by
  induction v generalizing prev with
  | nil => simp [escape, noCut, scanQ]
  | cons c r ih =>
    simp only [escape]
    by_cases hb : c = '\\'
    · subst hb
      have := ih (some '\\')
      simp [noCut, scanQ, this]
    · by_cases hq : c = '"'
      · subst hq
        have := ih (some '"')
        simp [noCut, scanQ, this]
      · have := ih (some c)
        simp [hb, hq, noCut, scanQ, this]

/-- a whole quoted-string read from even parity, after a character other than `\`, ends at even parity
without a cut — provided the value does not end with a backslash -/
theorem quoted_scan (v : Str) (prev : Option Char) (hprev : prev ≠ some '\\') (hlast : v.getLast? ≠ some '\\') :
    noCut prev false ('"' :: escape v ++ ['"']) = true ∧ scanQ prev false ('"' :: escape v ++ ['"']) = false := by
  have hesc := escape_scan v (some '"')
  have hp : scanPrev (some '"') (escape v) ≠ some '\\' := by
    unfold scanPrev
    rw [escape_getLast?]
    cases hv : v.getLast? with
    | none => simp
    | some c => simp; intro e; subst e; exact hlast hv
  have hopen : (('"' : Char) == '"' && prev != some '\\') = true := by simp [hprev]
  have hclose : (('"' : Char) == '"' && scanPrev (some '"') (escape v) != some '\\') = true := by simp [hp]
  rw [List.cons_append]
  constructor
  · rw [noCut, hopen]
    simp only [if_true, Bool.not_false]
    rw [noCut_append, hesc.1, hesc.2]
    simp [noCut]
  · rw [scanQ, hopen]
    simp only [if_true, Bool.not_false]
    rw [scanQ_append, hesc.2, scanQ, hclose]
    simp [scanQ]

/-- first `replace`: `\\` → `\` leaves exactly the quotes escaped -/
def escapeQuotes : Str → Str
  | [] => []
  | c :: r => if c == '"' then '\\' :: '"' :: escapeQuotes r else c :: escapeQuotes r

theorem replace2_cons_ne (a b to c : Char) (s : Str) (h : c ≠ a) : replace2 a b to (c :: s) = c :: replace2 a b to s := by
  cases s with
  | nil => simp [replace2]
  | cons d r => simp [replace2, h]

theorem replace2_cons_next (a b to d : Char) (s : Str) (h : d ≠ b) :
    replace2 a b to (a :: d :: s) = a :: replace2 a b to (d :: s) := by
  simp [replace2, h]

theorem replace_backslashes (v : Str) : replace2 '\\' '\\' '\\' (escape v) = escapeQuotes v := by
  induction v with
  | nil => rfl
  | cons c r ih =>
    simp only [escape, escapeQuotes]
    by_cases hb : c = '\\'
    · subst hb; simp [replace2, ih]
    · by_cases hq : c = '"'
      · subst hq
        simp only [beq_self_eq_true, Bool.or_true, if_true]
        rw [replace2_cons_next _ _ _ _ _ (by decide), replace2_cons_ne _ _ _ _ _ (by decide), ih]
      · have hc : (c == '\\' || c == '"') = false := by simp [hb, hq]
        have hc' : (c == '"') = false := by simp [hq]
        rw [hc, hc']
        simp only [Bool.false_eq_true, if_false]
        rw [replace2_cons_ne _ _ _ _ _ hb, ih]

theorem escapeQuotes_head (v : Str) : (escapeQuotes v).head? ≠ some '"' := by
  cases v with
  | nil => simp [escapeQuotes]
  | cons c r =>
    simp only [escapeQuotes]
    split
    · simp
    · rename_i h; simp at h; simpa using h

theorem replace_quotes (v : Str) : replace2 '\\' '"' '"' (escapeQuotes v) = v := by
  induction v with
  | nil => rfl
  | cons c r ih =>
    simp only [escapeQuotes]
    by_cases hq : c = '"'
    · subst hq; simp [replace2, ih]
    · simp only [hq, beq_iff_eq, if_false]
      by_cases hb : c = '\\'
      · subst hb
        cases he : escapeQuotes r with
        | nil =>
          rw [he] at ih
          simp [replace2] at ih ⊢
          exact ih
        | cons d t =>
          have hd : d ≠ '"' := by
            have := escapeQuotes_head r
            rw [he] at this; simpa using this
          rw [replace2_cons_next _ _ _ _ _ hd, ← he, ih]
      · rw [replace2_cons_ne _ _ _ _ _ hb, ih]

/-- `cgi.parse_header`'s un-quoting inverts the quoted-string writer -/
theorem unquote_quoted (v : Str) : unquote ('"' :: escape v ++ ['"']) = v := by
  unfold unquote
  have h1 : ('"' :: escape v ++ ['"']).length ≥ 2 := by simp
  have h2 : ('"' :: escape v ++ ['"']).head? = some '"' := rfl
  have h3 : ('"' :: escape v ++ ['"']).getLast? = some '"' := by
    rw [List.getLast?_eq_some_iff]; exact ⟨'"' :: escape v, rfl⟩
  have h4 : (List.drop 1 ('"' :: escape v ++ ['"'])).dropLast = escape v := by simp
  simp only [h1, h2, h3, h4, decide_true, beq_self_eq_true, Bool.and_self, if_true]
  rw [replace_backslashes, replace_quotes]

/-- a token (no quote in it) is left alone -/
theorem unquote_token (v : Str) (h : v.all (fun c => !special c) = true) : unquote v = v := by
  unfold unquote
  cases v with
  | nil => simp
  | cons c r =>
    simp only [List.all_cons, Bool.and_eq_true, special, Bool.not_eq_true', Bool.or_eq_false_iff,
      beq_eq_false_iff_ne, ne_eq] at h
    have : ¬ c = '"' := h.1.2
    simp [this]

theorem wfRfc_of_wf_param (p : ParamSpec) (h : p.wf = true) : p.wfRfc = true := by
  cases p with
  | flag pre w1 text => exact h
  | kv pre w1 name w2 w3 value quoted =>
    cases quoted
    · exact h
    · simp only [ParamSpec.wf, ParamSpec.wfRfc, Bool.and_eq_true, if_true] at h ⊢
      exact ⟨h.1, h.2.2⟩

theorem wfRfc_of_wf (r : RangeSpec) (h : r.wf = true) : r.wfRfc = true := by
  simp only [RangeSpec.wf, RangeSpec.wfRfc, Bool.and_eq_true, List.all_eq_true] at h ⊢
  exact ⟨h.1, fun p hp => wfRfc_of_wf_param p (h.2 p hp)⟩

theorem tight_quoted (v : Str) : tight ('"' :: escape v ++ ['"']) = true := by
  rw [tight_iff]
  exact ⟨'"', '"', rfl, by rw [List.getLast?_eq_some_iff]; exact ⟨'"' :: escape v, rfl⟩, by decide, by decide⟩

/-- read from even parity after anything but a backslash, the text is not cut and ends at even parity -/
def Clean (t : Str) : Prop :=
  ∀ prev, prev ≠ some '\\' → noCut prev false t = true ∧ scanQ prev false t = false

theorem clean_quiet (t : Str) (h : t.all quiet = true) : Clean t := fun prev _ => quiet_scan t prev false h

theorem clean_append (a t : Str) (ha : a.all quiet = true) (hl : a.getLast? ≠ some '\\') (ht : Clean t) :
    Clean (a ++ t) := by
  intro prev hp
  have h := quiet_scan a prev false ha
  have hp' : scanPrev prev a ≠ some '\\' := by
    unfold scanPrev
    cases hg : a.getLast? with
    | none => exact hp
    | some c => exact fun e => hl (hg.trans e)
  rw [noCut_append, scanQ_append, h.1, h.2]
  exact ht _ hp'

theorem clean_padded (w t : Str) (hw : w.all isWs = true) (ht : Clean t) : Clean (padded w t) := by
  unfold padded
  split
  · exact fun _ _ => ⟨rfl, rfl⟩
  · exact clean_append w t (ws_quiet w hw) (fun h => not_mem_of_all hw rfl (List.mem_of_getLast? h)) ht

/-- `h`: what `ParamSpec.wfRfc` asks of a value -/
theorem valueText_facts (value : Str) (quoted : Bool)
    (h : (if quoted then value.getLast? != some '\\'
          else value.all (fun c => !special c) && (value.isEmpty || tight value)) = true) :
    Slim (valueText value quoted) ∧ unquote (valueText value quoted) = value ∧ Clean (valueText value quoted) := by
  cases quoted
  · simp only [Bool.false_eq_true, if_false, Bool.and_eq_true] at h
    exact ⟨slim_of value h.2, unquote_token value h.1, clean_quiet value (plain_quiet value h.1)⟩
  · exact ⟨Or.inr (tight_quoted value), unquote_quoted value,
      fun prev hp => quoted_scan value prev hp (by simpa using h)⟩

theorem body_flag (pre w1 text : Str) : (ParamSpec.flag pre w1 text).body = padded w1 text := rfl

theorem body_kv (pre w1 name w2 w3 value : Str) (quoted : Bool) :
    (ParamSpec.kv pre w1 name w2 w3 value quoted).body
      = w1 ++ name ++ w2 ++ '=' :: padded w3 (valueText value quoted) := rfl

theorem body_clean (p : ParamSpec) (hwf : p.wfRfc = true) : Clean p.body := by
  cases p with
  | flag pre w1 text =>
    simp only [ParamSpec.wfRfc, Bool.and_eq_true] at hwf
    rw [body_flag]
    exact clean_padded w1 text hwf.1.1.2 (clean_quiet text (plain_quiet text (and_plain text hwf.1.2)))
  | kv pre w1 name w2 w3 value quoted =>
    simp only [ParamSpec.wfRfc, Bool.and_eq_true] at hwf
    obtain ⟨⟨⟨⟨⟨⟨_, hw1⟩, hw2⟩, hw3⟩, _⟩, hname⟩, hval⟩ := hwf
    rw [body_kv, List.append_cons]
    refine clean_append _ _ ?_ (by simp) (clean_padded w3 _ hw3 (valueText_facts value quoted hval).2.2)
    simp only [List.all_append, ws_quiet w1 hw1, plain_quiet name (and_plain name hname), ws_quiet w2 hw2]
    rfl

theorem body_noTrail (p : ParamSpec) (hwf : p.wfRfc = true) : NoTrail p.body := by
  cases p with
  | flag pre w1 text =>
    simp only [ParamSpec.wfRfc, Bool.and_eq_true] at hwf
    exact noTrail_padded w1 text (slim_of text hwf.2)
  | kv pre w1 name w2 w3 value quoted =>
    simp only [ParamSpec.wfRfc, Bool.and_eq_true] at hwf
    exact noTrail_mid _ '=' _ (by decide) (noTrail_padded w3 _ (valueText_facts value quoted hwf.2).1)

/-- `_parseparam` over the rendered parameters: the current part is closed (stripped), then one
stripped part per parameter -/
theorem splitParams_params (ps : List ParamSpec) (hwf : ∀ p ∈ ps, p.wfRfc = true) (prev : Option Char) (acc : Str) :
    splitParams prev false (ps.flatMap ParamSpec.render) acc = trim acc.reverse :: ps.map (fun p => trim p.body) := by
  induction ps generalizing prev acc with
  | nil => simp [splitParams]
  | cons p ps ih =>
    have hp := hwf p (by simp)
    have hpre : p.pre.all isWs = true := by
      cases p <;> simp only [ParamSpec.wfRfc, Bool.and_eq_true] at hp <;> simp [ParamSpec.pre, hp]
    have h1 := quiet_scan p.pre prev false (ws_quiet _ hpre)
    have h2 := body_clean p hp none (by simp)
    have hflat : (p :: ps).flatMap ParamSpec.render = p.pre ++ (';' :: (p.body ++ ps.flatMap ParamSpec.render)) := by
      simp [List.flatMap_cons, ParamSpec.render]
    rw [hflat, splitParams_seg _ _ _ _ _ h1.1, h1.2, splitParams]
    simp only [beq_self_eq_true, Bool.not_false, Bool.and_self, if_true]
    rw [splitParams_seg _ _ _ _ _ h2.1, h2.2, ih (fun q hq => hwf q (List.mem_cons_of_mem _ hq))]
    simp [trim_ws_right _ _ hpre]

theorem splitEq_append (a b : Str) (h : '=' ∉ a) : splitEq (a ++ '=' :: b) = some (a, b) := by
  induction a with
  | nil => simp [splitEq]
  | cons c r ih =>
    have hc : c ≠ '=' := fun e => h (by simp [e])
    simp [splitEq, hc, ih fun e => h (List.mem_cons_of_mem _ e)]

theorem splitEq_none (s : Str) (h : '=' ∉ s) : splitEq s = none := by
  induction s with
  | nil => rfl
  | cons c r ih =>
    have hc : c ≠ '=' := fun e => h (by simp [e])
    simp [splitEq, hc, ih fun e => h (List.mem_cons_of_mem _ e)]

/-- one turn of the dictionary a range means -/
def semStep (d : Options) (p : ParamSpec) : Options :=
  match p.sem with
  | none => d
  | some (k, v) => setOpt k v d

theorem param_step (p : ParamSpec) (hwf : p.wfRfc = true) (d : Options) :
    paramStep d (trim p.body) = semStep d p := by
  unfold paramStep semStep
  cases p with
  | flag pre w1 text =>
    simp only [ParamSpec.wfRfc, Bool.and_eq_true] at hwf
    rw [body_flag, trim_padded w1 text hwf.1.1.2 (slim_of text hwf.2), splitEq_none text (not_mem_of_all hwf.1.2 rfl)]
    rfl
  | kv pre w1 name w2 w3 value quoted =>
    simp only [ParamSpec.wfRfc, Bool.and_eq_true] at hwf
    obtain ⟨⟨⟨⟨⟨⟨_, hw1⟩, hw2⟩, hw3⟩, hnt⟩, hname⟩, hval⟩ := hwf
    obtain ⟨hslim, hun, _⟩ := valueText_facts value quoted hval
    have hstem : tight (name ++ (w2 ++ '=' :: padded w3 (valueText value quoted))) = true :=
      tight_append name _ hnt (noTrail_mid w2 '=' _ (by decide) (noTrail_padded w3 _ hslim))
    have hne : '=' ∉ name ++ w2 := fun h =>
      (List.mem_append.mp h).elim (not_mem_of_all hname rfl) (not_mem_of_all hw2 rfl)
    have hbody : (ParamSpec.kv pre w1 name w2 w3 value quoted).body
        = w1 ++ (name ++ (w2 ++ '=' :: padded w3 (valueText value quoted))) := by
      simp [body_kv]
    rw [hbody, trim_ws_left _ _ hw1, trim_tight _ hstem, ← List.append_assoc, splitEq_append _ _ hne]
    simp only [trim_ws_right name w2 hw2, trim_tight name hnt, trim_padded w3 _ hw3 hslim, hun, ParamSpec.sem]

theorem paramDict_params (ps : List ParamSpec) (hwf : ∀ p ∈ ps, p.wfRfc = true) :
    paramDict (ps.map (fun p => trim p.body)) = ps.foldl semStep [] := by
  show List.foldl paramStep [] _ = _
  generalize ([] : Options) = d0
  induction ps generalizing d0 with
  | nil => rfl
  | cons p ps ih =>
    simp only [List.map_cons, List.foldl_cons]
    rw [param_step p (hwf p (by simp)) d0]
    exact ih (fun q hq => hwf q (List.mem_cons_of_mem _ hq)) _

/-- `cgi.parse_header` on a rendered range (without its outer white space) -/
theorem parseHeader_core (r : RangeSpec) (hwf : r.wfRfc = true) : parseHeader r.core = (r.kind, r.opts) := by
  simp only [RangeSpec.wfRfc, Bool.and_eq_true, List.all_eq_true] at hwf
  obtain ⟨⟨⟨⟨_, _⟩, hkt⟩, hks⟩, hps⟩ := hwf
  have hk := quiet_scan r.kind none false (plain_quiet r.kind (List.all_eq_true.mpr hks))
  unfold parseHeader RangeSpec.core
  rw [splitParams_seg _ _ _ _ _ hk.1, hk.2, splitParams_params _ hps]
  simp only [List.append_nil, List.reverse_reverse]
  rw [trim_tight _ hkt, paramDict_params _ hps]
  rfl

theorem tight_core (r : RangeSpec) (hwf : r.wfRfc = true) : tight r.core = true := by
  simp only [RangeSpec.wfRfc, Bool.and_eq_true, List.all_eq_true] at hwf
  obtain ⟨⟨⟨_, hkt⟩, _⟩, hps⟩ := hwf
  refine tight_append r.kind _ hkt ?_
  rcases List.eq_nil_or_concat r.params with hnil | ⟨ps, p, hcat⟩
  · rw [hnil]; intro b hb; cases hb
  · rw [hcat, List.concat_eq_append, List.flatMap_append, List.flatMap_cons, List.flatMap_nil, List.append_nil,
      ParamSpec.render, ← List.append_assoc]
    exact noTrail_mid _ ';' _ (by decide) (body_noTrail p (hps p (by rw [hcat]; simp)))

theorem trim_render (r : RangeSpec) (hwf : r.wfRfc = true) : trim r.render = r.core := by
  have ht := tight_core r hwf
  simp only [RangeSpec.wfRfc, Bool.and_eq_true] at hwf
  obtain ⟨⟨⟨⟨hw0, hwe⟩, _⟩, _⟩, _⟩ := hwf
  unfold RangeSpec.render
  rw [trim_ws_right _ _ hwe, trim_ws_left _ _ hw0, trim_tight _ ht]

theorem range1_render (r : RangeSpec) (hwf : r.wfRfc = true) : range1 (trim r.render) = r.range := by
  rw [trim_render r hwf]
  unfold range1 RangeSpec.range
  rw [parseHeader_core r hwf]
  simp only []
  cases getOpt ['q'] r.opts with
  | none => rfl
  | some v => cases parseQ v <;> rfl

theorem rangesOf_render (rs : List RangeSpec) (hwf : ∀ r ∈ rs, r.wfRfc = true) :
    rangesOf (rs.map (fun r => trim r.render)) = specRanges rs := by
  induction rs with
  | nil => rfl
  | cons r rs ih =>
    simp only [List.map_cons, rangesOf, specRanges]
    rw [range1_render r (hwf r (by simp)), ih (fun q hq => hwf q (List.mem_cons_of_mem _ hq))]
    cases r.range with
    | error e => rfl
    | ok x => cases specRanges rs <;> rfl

theorem all_escape {p : Char → Bool} (v : Str) (hb : p '\\' = true) (hv : v.all p = true) : (escape v).all p = true := by
  induction v with
  | nil => rfl
  | cons c r ih =>
    simp only [List.all_cons, Bool.and_eq_true] at hv
    simp only [escape]
    split <;> simp [hb, hv.1, ih hv.2]

theorem render_no_comma (p : ParamSpec) (hwf : p.wf = true) : p.render.all (fun c => c != ',') = true := by
  cases p with
  | flag pre w1 text =>
    simp only [ParamSpec.wf, Bool.and_eq_true] at hwf
    obtain ⟨⟨⟨hpre, hw1⟩, htext⟩, _⟩ := hwf
    rw [ParamSpec.render, body_flag]
    simp only [ParamSpec.pre, List.all_append, List.all_cons, ws_no_comma pre hpre,
      all_padded (ws_no_comma w1 hw1) (plain_no_comma text (and_plain text htext))]
    rfl
  | kv pre w1 name w2 w3 value quoted =>
    simp only [ParamSpec.wf, Bool.and_eq_true] at hwf
    obtain ⟨⟨⟨⟨⟨⟨hpre, hw1⟩, hw2⟩, hw3⟩, _⟩, hname⟩, hval⟩ := hwf
    have hv : (valueText value quoted).all (fun c => c != ',') = true := by
      cases quoted
      · simp only [Bool.false_eq_true, if_false, Bool.and_eq_true] at hval
        exact plain_no_comma value hval.1
      · simp only [if_true, Bool.and_eq_true] at hval
        simp only [valueText, if_true, List.all_cons, List.all_append, all_escape value rfl hval.1]
        rfl
    rw [ParamSpec.render, body_kv]
    simp only [ParamSpec.pre, List.all_append, List.all_cons, ws_no_comma pre hpre, ws_no_comma w1 hw1,
      plain_no_comma name (and_plain name hname), ws_no_comma w2 hw2, all_padded (ws_no_comma w3 hw3) hv]
    rfl

theorem comma_not_mem_render (r : RangeSpec) (hwf : r.wf = true) : ',' ∉ r.render := by
  simp only [RangeSpec.wf, Bool.and_eq_true] at hwf
  obtain ⟨⟨⟨⟨hw0, hwe⟩, _⟩, hks⟩, hps⟩ := hwf
  refine not_mem_of_all (p := fun c => c != ',') ?_ rfl
  simp only [RangeSpec.render, RangeSpec.core, List.all_append, List.all_flatMap, ws_no_comma _ hw0, ws_no_comma _ hwe,
    plain_no_comma _ hks, Bool.true_and, Bool.and_true]
  exact List.all_eq_true.mpr fun p hp => render_no_comma p (List.all_eq_true.mp hps p hp)

theorem splitCsv_render (rs : List RangeSpec) (hne : rs ≠ []) (hwf : ∀ r ∈ rs, r.wf = true) :
    splitCsv (renderHeader rs) = rs.map (fun r => trim r.render) := by
  unfold splitCsv renderHeader
  rw [splitOn_join ',' _ (by simpa using hne)]
  · simp [List.map_map]
  · intro c hc
    obtain ⟨r, hr, rfl⟩ := List.mem_map.mp hc
    exact comma_not_mem_render r (hwf r hr)

/-- **reading back the concrete syntax**: for every non-empty list of well-formed ranges, written with any
white space, any case of the parameter names, token or quoted-string values, parameters without `=`
and repeated names, the tokenisation + `cgi.parse_header` + `float(q)` of `Encoding.parse` yields exactly the
ranges that were written (or the `ValueError` of the first `q` that is not a number) -/
theorem ranges_render (rs : List RangeSpec) (hne : rs ≠ []) (hwf : ∀ r ∈ rs, r.wf = true) :
    ranges (renderHeader rs) = specRanges rs := by
  unfold ranges
  rw [splitCsv_render rs hne hwf, rangesOf_render rs (fun r hr => wfRfc_of_wf r (hwf r hr))]

theorem trim_decomp (s : Str) : ∃ w1 w2, w1.all isWs = true ∧ w2.all isWs = true ∧ s = w1 ++ trim s ++ w2 := by
  refine ⟨s.takeWhile isWs, ((s.dropWhile isWs).reverse.takeWhile isWs).reverse, List.all_takeWhile, ?_, ?_⟩
  · rw [List.all_reverse]; exact List.all_takeWhile
  · unfold trim
    have h1 : s = s.takeWhile isWs ++ s.dropWhile isWs := List.takeWhile_append_dropWhile.symm
    have h2 : (s.dropWhile isWs).reverse
        = (s.dropWhile isWs).reverse.takeWhile isWs ++ (s.dropWhile isWs).reverse.dropWhile isWs :=
      List.takeWhile_append_dropWhile.symm
    have h3 : s.dropWhile isWs
        = ((s.dropWhile isWs).reverse.dropWhile isWs).reverse ++ ((s.dropWhile isWs).reverse.takeWhile isWs).reverse := by
      rw [← List.reverse_append, ← h2, List.reverse_reverse]
    rw [List.append_assoc, ← h3, ← h1]

theorem digit_ne (c : Char) (h : isDigit c = true) : c ≠ '.' ∧ c ≠ '-' ∧ c ≠ '+' ∧ isWs c = false := by
  simp only [isDigit, Bool.and_eq_true, decide_eq_true_eq] at h
  have h1 : '0'.val ≤ c.val := h.1
  have h2 : c.val ≤ '9'.val := h.2
  refine ⟨?_, ?_, ?_, ?_⟩
  · intro e; subst e; revert h1; decide
  · intro e; subst e; revert h1; decide
  · intro e; subst e; revert h1; decide
  · cases hw : isWs c
    · rfl
    · exfalso
      simp only [isWs, Bool.or_eq_true, beq_iff_eq] at hw
      rcases hw with ((((((((h | h) | h) | h) | h) | h) | h) | h) | h) | h <;> (subst h; revert h1; decide)

theorem digits_no_dot (i : Str) (h : i.all isDigit = true) : '.' ∉ i := by
  intro hm
  exact (digit_ne '.' (List.all_eq_true.mp h _ hm)).1 rfl

theorem digitsVal_snoc (f : Str) (c : Char) : digitsVal (f ++ [c]) = 10 * digitsVal f + (c.toNat - '0'.toNat) := by
  simp [digitsVal, List.foldl_append]

theorem digitsVal_zero_cons (i : Str) : digitsVal ('0' :: i) = digitsVal i := by
  simp [digitsVal]

theorem digits_foldl (b : Str) (acc : Nat) :
    b.foldl (fun n c => 10 * n + (c.toNat - '0'.toNat)) acc = acc * 10 ^ b.length + digitsVal b := by
  induction b generalizing acc with
  | nil => simp [digitsVal]
  | cons c r ih =>
    simp only [List.foldl_cons, List.length_cons, digitsVal]
    rw [ih, ih (10 * 0 + (c.toNat - '0'.toNat))]
    simp only [Nat.mul_zero, Nat.zero_add, Nat.pow_succ]
    rw [Nat.add_mul, Nat.add_assoc, Nat.mul_comm 10 acc, Nat.mul_assoc, Nat.mul_comm 10]

theorem digitsVal_append (a b : Str) : digitsVal (a ++ b) = digitsVal a * 10 ^ b.length + digitsVal b := by
  unfold digitsVal
  rw [List.foldl_append, digits_foldl]
  rfl

def numChar (c : Char) : Bool := isDigit c || c == '.'

/-- integer digits, optionally a point and decimals: the unsigned text of a `q` (`QSpec.abs`) and of a number cell -/
def numBody (ip : Str) (fp : Option Str) : Str := ip ++ (match fp with | none => [] | some f => '.' :: f)

def Digits (ip : Str) (fp : Option Str) : Prop := ip.all isDigit = true ∧ ∀ f, fp = some f → f.all isDigit = true

theorem digits_num (s : Str) (h : s.all isDigit = true) : s.all numChar = true :=
  all_of_all h fun c hc => by simp [numChar, hc]

theorem numBody_chars (ip : Str) (fp : Option Str) (h : Digits ip fp) : (numBody ip fp).all numChar = true := by
  unfold numBody
  rw [List.all_append, digits_num ip h.1, Bool.true_and]
  cases fp with
  | none => rfl
  | some f => simp only [List.all_cons]; rw [digits_num f (h.2 f rfl)]; decide

theorem numBody_splitDot (ip : Str) (fp : Option Str) (h : Digits ip fp) :
    splitOn '.' (numBody ip fp) = match fp with | none => [ip] | some f => [ip, f] := by
  unfold numBody
  cases fp with
  | none => simp only [List.append_nil]; exact splitOn_free '.' ip (digits_no_dot ip h.1)
  | some f =>
    simp only
    rw [splitOn_append '.' ip f (digits_no_dot ip h.1), splitOn_free '.' f (digits_no_dot f (h.2 f rfl))]

/-- converse: whatever `parseQAbs` accepts is of one of the two forms -/
theorem parseQAbs_some (s : Str) (n : Nat) (h : parseQAbs s = some n) :
    (s.all isDigit = true ∧ s.length ≥ 1 ∧ n = digitsVal s * 1000) ∨
    (∃ i f, s = i ++ '.' :: f ∧ i.all isDigit = true ∧ f.all isDigit = true ∧ i.length + f.length ≥ 1 ∧ f.length ≤ 3 ∧
      n = digitsVal i * 1000 + digitsVal f * 10 ^ (3 - f.length)) := by
  unfold parseQAbs at h
  have hj := joinWith_splitOn '.' s
  split at h
  · rename_i i hs
    rw [hs] at hj; simp only [joinWith] at hj; subst hj
    split at h
    · rename_i hc
      simp only [Bool.and_eq_true, decide_eq_true_eq] at hc
      left; exact ⟨hc.2, hc.1, by simpa using h.symm⟩
    · cases h
  · rename_i i f hs
    rw [hs] at hj; simp only [joinWith] at hj
    split at h
    · rename_i hc
      simp only [Bool.and_eq_true, decide_eq_true_eq] at hc
      right
      exact ⟨i, f, hj.symm, hc.1.1.1, hc.1.1.2, hc.1.2, hc.2, by simpa using h.symm⟩
    · cases h
  · cases h

/-- the sign dispatch of `parseQ` on the stripped text -/
def signMatch (t : Str) : Option Int :=
  match t with
  | '-' :: r => (parseQAbs r).map (fun n => - (n : Int))
  | '+' :: r => (parseQAbs r).map (fun n => (n : Int))
  | r => (parseQAbs r).map (fun n => (n : Int))

theorem signMatch_sign (sg : Option Bool) (c : Char) (r : Str) (h1 : c ≠ '-') (h2 : c ≠ '+') :
    signMatch (QSpec.signText sg ++ c :: r)
      = (parseQAbs (c :: r)).map fun n => if sg == some true then - (n : Int) else n := by
  match sg with
  | some true => rfl
  | some false => rfl
  | none =>
    show signMatch (c :: r) = _
    unfold signMatch
    split
    · rename_i heq; cases heq; exact absurd rfl h1
    · rename_i heq; cases heq; exact absurd rfl h2
    · rfl

theorem signMatch_some (t : Str) (q : Int) (h : signMatch t = some q) :
    ∃ (sg : Option Bool) (r : Str) (n : Nat),
      t = QSpec.signText sg ++ r ∧ parseQAbs r = some n ∧ q = if sg == some true then - (n : Int) else n := by
  unfold signMatch at h
  split at h
  · rename_i r
    cases hn : parseQAbs r with
    | none => rw [hn] at h; cases h
    | some n => rw [hn] at h; exact ⟨some true, r, n, rfl, hn, (Option.some.inj h).symm⟩
  · rename_i r
    cases hn : parseQAbs r with
    | none => rw [hn] at h; cases h
    | some n => rw [hn] at h; exact ⟨some false, r, n, rfl, hn, (Option.some.inj h).symm⟩
  · cases hn : parseQAbs t with
    | none => rw [hn] at h; cases h
    | some n => rw [hn] at h; exact ⟨none, t, n, rfl, hn, (Option.some.inj h).symm⟩

theorem qspec_digits (s : QSpec) (h : s.wf = true) : Digits s.int s.frac := by
  unfold QSpec.wf at h
  simp only [Bool.and_eq_true] at h
  refine ⟨h.1.2, fun f hf => ?_⟩
  rw [hf] at h; simp only [Bool.and_eq_true] at h; exact h.2.1.1

theorem qspec_abs (s : QSpec) (h : s.wf = true) : parseQAbs s.abs = some s.absValue := by
  have hs := numBody_splitDot _ _ (qspec_digits s h)
  obtain ⟨w1, sg, i, fr, w2⟩ := s
  unfold parseQAbs
  rw [show (QSpec.mk w1 sg i fr w2).abs = numBody i fr from rfl, hs]
  cases fr <;> simp only [QSpec.wf, Bool.and_eq_true, decide_eq_true_eq] at h <;> simp [QSpec.absValue, h]

theorem numeral_tight (t : Str) (hne : t ≠ []) (hd : t.all numChar = true) :
    ∃ c r, t = c :: r ∧ c ≠ '-' ∧ c ≠ '+' ∧ tight t = true := by
  have hnw : ∀ c ∈ t, isWs c = false ∧ c ≠ '-' ∧ c ≠ '+' := by
    intro c hc
    have := List.all_eq_true.mp hd c hc
    simp only [numChar, Bool.or_eq_true, beq_iff_eq] at this
    rcases this with h | rfl
    · have := digit_ne c h; exact ⟨this.2.2.2, this.2.1, this.2.2.1⟩
    · exact ⟨by decide, by decide, by decide⟩
  cases t with
  | nil => exact absurd rfl hne
  | cons c r =>
    exact ⟨c, r, rfl, (hnw c (by simp)).2.1, (hnw c (by simp)).2.2,
      (tight_iff _).mpr ⟨c, _, rfl, List.getLast?_eq_some_getLast hne, (hnw c (by simp)).1,
        (hnw _ (List.getLast_mem hne)).1⟩⟩

theorem qspec_abs_tight (s : QSpec) (h : s.wf = true) :
    ∃ c r, s.abs = c :: r ∧ c ≠ '-' ∧ c ≠ '+' ∧ tight s.abs = true := by
  refine numeral_tight _ ?_ (numBody_chars _ _ (qspec_digits s h))
  intro e
  have hl := congrArg List.length e
  unfold QSpec.wf at h
  cases hf : s.frac <;> simp_all [QSpec.abs]

/-- **`float(q)` on the spellings of the grammar**: white space, optional sign, digits, optional point with up
to three decimals — the key is the number written, in thousandths -/
theorem parseQ_render (s : QSpec) (h : s.wf = true) : parseQ s.render = some s.value := by
  obtain ⟨c, r, habs, hc1, hc2, htight⟩ := qspec_abs_tight s h
  have hw : s.w1.all isWs = true ∧ s.w2.all isWs = true := by
    simp only [QSpec.wf, Bool.and_eq_true] at h
    exact ⟨h.1.1.1, h.1.1.2⟩
  have hsg : tight (QSpec.signText s.sign ++ s.abs) = true := by
    match s.sign with
    | none => exact htight
    | some true => exact tight_cons '-' _ (by decide) htight
    | some false => exact tight_cons '+' _ (by decide) htight
  have ht : trim s.render = QSpec.signText s.sign ++ s.abs := by
    unfold QSpec.render
    rw [trim_ws_right _ _ hw.2, List.append_assoc, trim_ws_left _ _ hw.1, trim_tight _ hsg]
  show signMatch (trim s.render) = _
  rw [ht, habs, signMatch_sign _ c r hc1 hc2, ← habs, qspec_abs s h]
  rfl

/-- converse (the error mapping is exact): what `float(q)` accepts on the slice is a well-formed spelling, so the
`ValueError` is raised exactly for the texts outside the grammar -/
theorem parseQ_some (s : Str) (q : Int) (h : parseQ s = some q) : ∃ spec : QSpec, spec.wf = true ∧ s = spec.render ∧ q = spec.value := by
  obtain ⟨w1, w2, hw1, hw2, hs⟩ := trim_decomp s
  obtain ⟨sg, r, n, ht, hn, rfl⟩ := signMatch_some (trim s) q h
  rw [ht, ← List.append_assoc] at hs
  rcases parseQAbs_some r n hn with ⟨hd, hl, rfl⟩ | ⟨i, f, rfl, hi, hf, hl, h3, rfl⟩
  · refine ⟨⟨w1, sg, r, none, w2⟩, ?_, ?_, ?_⟩
    · simp [QSpec.wf, hw1, hw2, hd, hl]
    · simpa [QSpec.render, QSpec.abs] using hs
    · simp [QSpec.value, QSpec.absValue]
  · refine ⟨⟨w1, sg, i, some f, w2⟩, ?_, ?_, ?_⟩
    · simp [QSpec.wf, hw1, hw2, hi, hf, hl, h3]
    · simpa [QSpec.render, QSpec.abs] using hs
    · simp [QSpec.value, QSpec.absValue]

theorem header_eq_render (e : Encoding) : e.header = renderHeader [e.spec] := by
  unfold Encoding.header renderHeader Encoding.spec RangeSpec.render RangeSpec.core
  simp only [List.map_cons, List.map_nil, joinWith, List.nil_append, List.append_nil]
  have key : ∀ opts : Options, opts ≠ [] →
      (opts.map (fun kv => ParamSpec.kv [] [' '] kv.1 [] [] kv.2 false)).flatMap ParamSpec.render
        = [';', ' '] ++ joinStr [';', ' '] (opts.map fun kv => kv.1 ++ '=' :: kv.2) := by
    intro opts
    induction opts with
    | nil => intro h; exact absurd rfl h
    | cons kv r ih =>
      intro _
      have hone : (ParamSpec.kv [] [' '] kv.1 [] [] kv.2 false).render = [';', ' '] ++ (kv.1 ++ '=' :: kv.2) := by
        simp only [ParamSpec.render, ParamSpec.pre, ParamSpec.body, valueText, Bool.false_eq_true, if_false,
          List.nil_append, List.append_nil]
        cases kv.2 <;> simp
      cases r with
      | nil => simp only [List.map_cons, List.map_nil, List.flatMap_cons, List.flatMap_nil, hone, joinStr, List.append_nil]
      | cons kv2 r2 =>
        have := ih (by simp)
        simp only [List.map_cons, List.flatMap_cons, joinStr, hone] at this ⊢
        rw [this]; simp [List.append_assoc]
  cases ho : e.options with
  | nil => simp
  | cons kv r =>
    have := key (kv :: r) (by simp)
    simp only [List.isEmpty_cons, Bool.false_eq_true, if_false]
    rw [this, List.append_assoc]

theorem serve_eq_ok (encoders decoders : List Encoding) (enc : Encoding) (accs : List Encoding) (e d : Nat) :
    serve encoders decoders enc accs = .ok e d ↔ getDecoder decoders enc = some d ∧ getEncoder encoders accs = some e := by
  unfold serve
  cases getDecoder decoders enc with
  | none => simp
  | some d' =>
    cases getEncoder encoders accs with
    | none => simp
    | some e' => simp [and_comm]

theorem serve_eq_unsupported (encoders decoders : List Encoding) (enc : Encoding) (accs : List Encoding) :
    serve encoders decoders enc accs = .unsupported ↔ getDecoder decoders enc = none ∨ getEncoder encoders accs = none := by
  unfold serve
  cases getDecoder decoders enc with
  | none => simp
  | some d' => cases getEncoder encoders accs <;> simp

theorem serve_ne_serverError (encoders decoders : List Encoding) (enc : Encoding) (accs : List Encoding) :
    serve encoders decoders enc accs ≠ .serverError := by
  unfold serve
  cases getDecoder decoders enc with
  | none => simp
  | some d' => cases getEncoder encoders accs <;> simp

theorem gateway_eq (encoders decoders : List Encoding) (ct accept : Option Str) :
    gateway encoders decoders ct accept =
      match parse (ct.getD defaultContentType) with
      | .error _ => .serverError
      | .ok [] => .serverError
      | .ok (enc :: _) =>
        match acceptedOf enc accept with
        | .error _ => .serverError
        | .ok accs => serve encoders decoders enc accs := by
  unfold gateway requestOf acceptedOf
  cases parse (ct.getD defaultContentType) with
  | error e => rfl
  | ok es =>
    cases es with
    | nil => rfl
    | cons enc rest =>
      cases accept with
      | none => rfl
      | some a =>
        by_cases ha : a.isEmpty = true
        · simp [ha]
        · simp only [ha, Bool.false_eq_true, if_false]
          cases parse a <;> rfl

end ForML.Codec
