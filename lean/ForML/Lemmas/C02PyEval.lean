/-
Evaluation of the lambda terms of the single-function runner. A term is *good for `k`* when,
started from queues holding only correct replicas, it returns the denotation of `k` and leaves only correct
replicas behind. Replica cells, calls of good branches and the raw head are good — whatever the order in which
the consumers of a fork are evaluated.
-/
import ForML.Model.PyFunc

namespace ForML.Flow.PyFunc
open ForML.Flow

theorem Queues.get_set (q : Queues) (k : Key) (d : List Val) (k' : Key) :
    (q.set k d).get k' = if k' = k then d else q.get k' := by
  induction q with
  | nil => by_cases h : k' = k <;> simp [Queues.set, Queues.get, h, Ne.symm]
  | cons e r ih =>
    by_cases h0 : e.1 = k
    · by_cases h : k' = k <;> simp [Queues.set, Queues.get, h0, h, Ne.symm]
    · by_cases h : e.1 = k' <;> simp_all [Queues.set, Queues.get]

/-- every queued value is the denotation of the node the queue belongs to -/
def SoundQ (D : Key → Val) (q : Queues) : Prop := ∀ k v, v ∈ q.get k → v = D k

theorem SoundQ.nil (D : Key → Val) : SoundQ D [] := by
  intro k v h; simp [Queues.get] at h

/-- `U` computes `D k` from any sound queue state and keeps the state sound -/
def Good (D : Key → Val) (x : Val) (U : Term) (k : Key) : Prop :=
  ∀ q, SoundQ D q → (eval x U q).1 = D k ∧ SoundQ D (eval x U q).2

theorem eval_raw (x : Val) (k : Key) (r : Raw) (q : Queues) : eval x (.raw k r) q = (r.call [x], q) := by
  rw [eval]

theorem eval_call (x : Val) (k : Key) (r : Raw) (bs : List Term) (q : Queues) :
    eval x (.call k r bs) q = (r.call (evalArgs x bs q).1, (evalArgs x bs q).2) := by
  rw [eval]

theorem eval_replica (x : Val) (k : Key) (t : Term) (n : Nat) (q : Queues) :
    eval x (.replica k t n) q =
      match q.get k with
      | v :: d => (v, q.set k d)
      | [] => ((eval x t q).1, (eval x t q).2.set k ((eval x t q).2.get k ++ List.replicate n (eval x t q).1)) := by
  rw [eval]
  cases q.get k <;> rfl

theorem evalArgs_nil (x : Val) (q : Queues) : evalArgs x [] q = ([], q) := by rw [evalArgs]

theorem evalArgs_cons (x : Val) (b : Term) (bs : List Term) (q : Queues) :
    evalArgs x (b :: bs) q =
      ((eval x b q).1 :: (evalArgs x bs (eval x b q).2).1, (evalArgs x bs (eval x b q).2).2) := by
  rw [evalArgs]

/-- the raw head is good when calling it with the input gives the head's denotation -/
theorem good_raw {D : Key → Val} {x : Val} {k : Key} {r : Raw} (h : r.call [x] = D k) : Good D x (.raw k r) k := by
  intro q hq
  rw [eval_raw]
  exact ⟨h, hq⟩

/-- a replica cell of a good term is good, whether it is the first of its fork to be evaluated or not -/
theorem good_replica {D : Key → Val} {x : Val} {k : Key} {U : Term} (n : Nat) (h : Good D x U k) :
    Good D x (.replica k U n) k := by
  intro q hq
  rw [eval_replica]
  cases hg : q.get k with
  | cons v d =>
    simp only
    refine ⟨hq k v (by simp [hg]), ?_⟩
    intro k' v' hv'
    rw [Queues.get_set] at hv'
    split at hv'
    · rename_i he; subst he; exact hq k' v' (by simp [hg, hv'])
    · exact hq k' v' hv'
  | nil =>
    simp only
    obtain ⟨hv, hq'⟩ := h q hq
    refine ⟨hv, ?_⟩
    intro k' v' hv'
    rw [Queues.get_set] at hv'
    split at hv'
    · rename_i he
      subst he
      rcases List.mem_append.1 hv' with h1 | h1
      · exact hq' k' v' h1
      · rw [(List.mem_replicate.1 h1).2, hv]
    · exact hq' k' v' hv'

/-- pointwise relation of two lists (core Lean has no `List.Forall₂`; the Boolean `all₂` of `C02Token` is the test
that the model's `Table.sameName` computes, this is the relation proofs carry) -/
inductive All₂ {α β : Type} (P : α → β → Prop) : List α → List β → Prop where
  | nil : All₂ P [] []
  | cons {a b as bs} : P a b → All₂ P as bs → All₂ P (a :: as) (b :: bs)

theorem All₂.imp {α β : Type} {P Q : α → β → Prop} (h : ∀ a b, P a b → Q a b) :
    ∀ {as : List α} {bs : List β}, All₂ P as bs → All₂ Q as bs
  | _, _, .nil => .nil
  | _, _, .cons hab hr => .cons (h _ _ hab) (All₂.imp h hr)

/-- branches that are good for the argument nodes evaluate, left to right, to the arguments' denotations -/
theorem evalArgs_good {D : Key → Val} {x : Val} :
    ∀ {bs : List Term} {ks : List Key}, All₂ (Good D x) bs ks → ∀ q, SoundQ D q →
      (evalArgs x bs q).1 = ks.map D ∧ SoundQ D (evalArgs x bs q).2 := by
  intro bs ks h
  induction h with
  | nil => intro q hq; rw [evalArgs_nil]; exact ⟨rfl, hq⟩
  | cons hb _ ih =>
    intro q hq
    rw [evalArgs_cons]
    obtain ⟨h1, h2⟩ := hb q hq
    obtain ⟨h3, h4⟩ := ih _ h2
    exact ⟨by simp [h1, h3], h4⟩

/-- `Chain` / `Zip` of good branches is good when the raw term applied to the arguments' denotations is the
node's denotation -/
theorem good_call {D : Key → Val} {x : Val} {k : Key} {r : Raw} {bs : List Term} {ks : List Key}
    (hbs : All₂ (Good D x) bs ks) (hr : r.call (ks.map D) = D k) : Good D x (.call k r bs) k := by
  intro q hq
  rw [eval_call]
  obtain ⟨h1, h2⟩ := evalArgs_good hbs q hq
  exact ⟨by simp only [h1, hr], h2⟩

theorem good_fork {D : Key → Val} {x : Val} {k : Key} {U : Term} (szout : Nat) (h : Good D x U k) :
    ∀ V ∈ fork k U szout, Good D x V k := by
  intro V hV
  simp only [fork] at hV
  split at hV
  · rw [(List.mem_replicate.1 hV).2]; exact good_replica _ h
  · simp at hV; rw [hV]; exact h

end ForML.Flow.PyFunc
