/-
Pools built from the configuration (`ForML.Model.MatcherConf`): dict pops and updates as list lookups, what
`Feed._extract` yields, and the pool built through `Multi._lookup` as a rearrangement of the one built member by member.
-/
import ForML.Model.MatcherConf
import ForML.Lemmas.C09
import ForML.Lemmas.ListFacts

namespace ForML.Matcher

open ForML.Dsl

theorem lookup_popKey (k k' : String) (kw : Options) :
    (popKey k kw).lookup k' = if k' = k then none else kw.lookup k' :=
  lookup_filter_ne k' k kw

theorem lookup_update (kw other : Options) (k : String) :
    (update kw other).lookup k = match other.lookup k with | some v => some v | none => kw.lookup k := by
  unfold update
  rw [List.lookup_append, lookup_filter_key (fun x => (other.lookup x).isNone)]
  cases h : other.lookup k
  · cases kw.lookup k <;> simp
  · simp

theorem lookup_map_snd {β γ : Type} (g : β → γ) (k : String) (l : List (String × β)) :
    (l.map fun e => (e.1, g e.2)).lookup k = (l.lookup k).map g := by
  induction l with
  | nil => rfl
  | cons e l ih =>
    rw [List.map_cons, List.lookup_cons, List.lookup_cons, ih]
    split <;> rfl

theorem feedExtract_ok {ref : String} {kw : Options} {d : Descriptor} (h : feedExtract ref kw = .ok d) :
    configuredPriority kw = .scalar (.num d.priority) ∧
      sectionExtract (popKey "provider" (popKey "priority" kw)) = .ok d.params := by
  unfold feedExtract providerExtract at h
  unfold configuredPriority
  cases hs : sectionExtract (popKey "provider" (popKey "priority" kw)) with
  | error e => simp [hs] at h
  | ok rest =>
    simp only [hs] at h
    split at h
    · split at h
      · cases h
        exact ⟨by assumption, rfl⟩
      · cases h
    · cases h
    · cases h

/-- what `Section._extract` hands on, as a mapping -/
theorem sectionExtract_lookup {kw rest : Options} (h : sectionExtract kw = .ok rest) (k : String) :
    rest.lookup k =
      match kw.lookup "params" with
      | some (.table ps) =>
        (match ps.lookup k with
         | some v => some (.scalar v)
         | none => if k = "params" then none else kw.lookup k)
      | _ => if k = "params" then none else kw.lookup k := by
  unfold sectionExtract at h
  cases hp : kw.lookup "params" with
  | none =>
    simp only [hp, Except.ok.injEq] at h
    subst h
    by_cases hk : k = "params"
    · subst hk; simp [hp]
    · simp [hk]
  | some v =>
    cases v with
    | table ps =>
      simp only [hp, Except.ok.injEq] at h
      subst h
      rw [lookup_update, lookup_map_snd, lookup_popKey]
      cases hq : ps.lookup k <;> simp [hq]
    | scalar sv =>
      cases sv with
      | num n => simp [hp] at h
      | text s =>
        simp only [hp] at h
        by_cases hs : s = ""
        · simp only [hs, if_true, Except.ok.injEq] at h
          subst h
          rw [lookup_popKey]
        · simp [hs] at h

/-- the keyword arguments the feed constructor receives, as a mapping: the `params` sub-table first, the section's
own generic options otherwise -/
theorem feedExtract_params {ref : String} {kw : Options} {d : Descriptor} (h : feedExtract ref kw = .ok d)
    (k : String) : d.params.lookup k = ctorSpec kw k := by
  have hown : (if k = "params" then none else if k = "provider" then none else if k = "priority" then none
        else kw.lookup k) = if reserved.contains k then none else kw.lookup k := by
    by_cases h1 : k = "params" <;> by_cases h2 : k = "provider" <;> by_cases h3 : k = "priority" <;>
      simp [reserved, h1, h2, h3]
  rw [sectionExtract_lookup (feedExtract_ok h).2 k, lookup_popKey, lookup_popKey, lookup_popKey, lookup_popKey, hown]
  rfl

/-- the slot the code builds for a member is the slot of its property-shaped reading -/
theorem slotOf_spec {m : Member} {f : Slot} (h : slotOf m = .ok f) : m.slotSpec = some f := by
  cases m with
  | inst S =>
    simp only [slotOf, Except.ok.injEq] at h
    subst h; rfl
  | conf ref sec provider =>
    unfold slotOf descriptorOf at h
    cases sec with
    | none => simp at h
    | some kw =>
      simp only at h
      cases hd : feedExtract ref kw with
      | error e => simp [hd] at h
      | ok d =>
        simp only [hd, Except.ok.injEq] at h
        subst h
        simp only [Member.slotSpec, (feedExtract_ok hd).1]
        have : (fun k => d.params.lookup k) = ctorSpec kw := funext (feedExtract_params hd)
        rw [this]

theorem poolSingle_error : ∀ {members : List Member} {e : ConfErr}, poolSingle members = .error e →
    ∃ m ∈ members, slotOf m = .error e
  | [], e, h => nomatch h
  | m :: ms, e, h => by
    unfold poolSingle at h
    split at h
    · next hm =>
      cases h
      exact ⟨m, List.mem_cons_self, hm⟩
    · split at h
      · next hr =>
        cases h
        obtain ⟨m', hm', he⟩ := poolSingle_error hr
        exact ⟨m', List.mem_cons_of_mem _ hm', he⟩
      · cases h

theorem poolSingle_get : ∀ {members : List Member} {pool : Pool}, poolSingle members = .ok pool → ∀ i : Nat,
    (members[i]?).bind Member.slotSpec = pool[i]?
  | [], pool, h, i => by
    cases h
    rfl
  | m :: ms, pool, h, i => by
    unfold poolSingle at h
    split at h
    · cases h
    · next hm =>
      split at h
      · cases h
      · next hr =>
        cases h
        cases i with
        | zero => simpa using slotOf_spec hm
        | succ i => simpa using poolSingle_get hr i

theorem matchConf_eq {members : List Member} {pool : Pool} (h : poolSingle members = .ok pool) (s : Source) :
    matchConf members s = .ok (importerMatch pool s) := by
  simp only [matchConf, h]

/-- the answer of `Importer.match` on a pool of descriptors / instances in the vocabulary of `matchArgsLegacy` -/
def liftMatch : Except ConfErr (Except MatchError Nat) → Except ConfErr (Except ArgErr Nat)
  | .error e => .error e
  | .ok (.ok i) => .ok (.ok i)
  | .ok (.error _) => .ok (.error .missing)

theorem argPool_eq : ∀ (args : List Arg), argPool args = poolSingle (args.map Arg.toMember)
  | [] => rfl
  | a :: as => by
    simp only [argPool, argSlot, List.map_cons, poolSingle, argPool_eq as]

theorem insertAsc_isInsert : IsInsert insertAsc (fun x y => !(y.desc.lt x.desc)) :=
  ⟨fun _ => rfl, fun x y r => by simp only [insertAsc]; cases y.desc.lt x.desc <;> rfl⟩

theorem perm_sortAsc : ∀ l : List Tagged, (sortAsc l).Perm l
  | [] => .refl _
  | x :: xs => (insertAsc_isInsert.perm x _).trans ((perm_sortAsc xs).cons x)

/-- what `poolMulti` maps over the sorted descriptors -/
def Tagged.entry (t : Tagged) : Nat × Slot := (t.idx, ⟨.fin t.desc.priority, t.sources⟩)

theorem perm_splitFrom : ∀ (members : List Member) (i : Nat) {is : List (Nat × Slot)} {ds : List Tagged},
    splitFrom i members = .ok (is, ds) →
    ∃ pool, poolSingle members = .ok pool ∧ (is ++ ds.map Tagged.entry).Perm ((pool.zipIdx i).map Prod.swap)
  | [], i, is, ds, h => by
    cases h
    exact ⟨[], rfl, .refl _⟩
  | m :: ms, i, is, ds, h => by
    unfold splitFrom at h
    split at h
    · split at h
      · cases h
      · next hr =>
        cases h
        obtain ⟨pool, hp, hperm⟩ := perm_splitFrom ms (i + 1) hr
        exact ⟨_ :: pool, by simp [poolSingle, slotOf, hp], hperm.cons _⟩
    · split at h
      · cases h
      · next hd =>
        split at h
        · cases h
        · next hr =>
          cases h
          obtain ⟨pool, hp, hperm⟩ := perm_splitFrom ms (i + 1) hr
          exact ⟨_ :: pool, by simp [poolSingle, slotOf, hd, hp], List.perm_middle.trans (hperm.cons _)⟩

theorem mem_poolMulti {members : List Member} {tagged : List (Nat × Slot)} (h : poolMulti members = .ok tagged)
    (z : Nat × Slot) : z ∈ tagged ↔ (members[z.1]?).bind Member.slotSpec = some z.2 := by
  unfold poolMulti at h
  cases hs : splitFrom 0 members with
  | error e => simp [hs] at h
  | ok pr =>
    obtain ⟨is, ds⟩ := pr
    simp only [hs, Except.ok.injEq] at h
    subst h
    obtain ⟨pool, hp, hperm⟩ := perm_splitFrom members 0 hs
    have hsort : (is ++ (sortAsc ds).map Tagged.entry).Perm (is ++ ds.map Tagged.entry) :=
      ((perm_sortAsc ds).map _).append_left is
    rw [poolSingle_get hp]
    exact (hsort.trans hperm).mem_iff.trans (mem_zipIdx_swap.trans (by simp))

end ForML.Matcher
