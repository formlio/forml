/-
Several writers (C05): what is staged for a training in progress stays staged — byte for byte —
whatever the other handles do in between (their dumps draw other ids, their commits move their own ids, a publish or a
process death never looks into a stage directory), so that a commit finds exactly what was dumped through its handle
(`Owed`, `playH_owed`).  Then `train_simulates`: the training step of the single-writer histories is one schedule of the
handle model.
-/
import ForML.Lemmas.C05World

namespace ForML.Registry
open ForML.Fs

theorem single_tree_frame (fs x : Fs) (c : Fs → List Op) (key : Path) (h : CrashTree fs [c] x)
    (hk : ∀ op ∈ c fs, ¬ touches op key) : get x key = get fs key := by
  obtain ⟨k, cut, hr⟩ := h.single
  refine run_crash_frame _ fs x k cut key hr fun a ha ht => ?_
  obtain ⟨o, ho, h2⟩ := atomsAll_touches _ a ha
  exact hk o ho (h2 key ht)

theorem staged_not_pubFoot {fs : Fs} {name w p v s : Nat} : ¬ pubFoot fs name w (stagedStateP p v s) := by
  rintro ((hm | hm) | hm)
  · exact Missing.shallow hm
  · simp [stagedStateP, packageTmpP] at hm
  · simp [stagedStateP, packageP] at hm

/-- the staged files a call leaves alone -/
def StagedSafe : Act → Nat → Nat → Nat → Prop
  | .write p' v' sid _, p, v, s => ¬ (p' = p ∧ v' = v ∧ sid = s)
  | .close p' v' _ sids, p, v, s => ¬ (p' = p ∧ v' = v ∧ s ∈ sids)
  | _, _, _, _ => True

theorem act_staged_frame (fs : Fs) (a : Act) (x : Fs) (hx : LeftByAct fs a x) (p v s : Nat)
    (safe : StagedSafe a p v s) : get x (stagedStateP p v s) = get fs (stagedStateP p v s) := by
  cases a with
  | idle => rw [leftByAct_idle fs x hx]
  | publish dp name w pkg =>
    rcases leftByAct_publish fs x dp name w pkg hx with rfl | htree
    · rfl
    · exact (publish_foot true fs x name w pkg htree).1 _ staged_not_pubFoot
  | write p' v' sid b =>
    have htree := runCalls_left_tree fs [fun f => writeOps f p' v' sid b] x hx
    refine single_tree_frame fs x _ _ htree fun op hop ht => ?_
    rcases writeOps_foot fs p' v' sid b op hop _ ht with hm | e | e
    · exact Missing.shallow hm
    · simp [stagedStateP, stageP] at e
    · simp only [stagedStateP, List.cons.injEq, Seg.proj.injEq, Seg.rel.injEq, Seg.state.injEq, and_true, true_and] at e
      exact safe ⟨e.1.symm, e.2.1.symm, e.2.2.symm⟩
  | close p' v' ord sids =>
    have htree := runCalls_left_tree fs [closeAt Impl.repaired p' v' ord sids] x hx
    refine single_tree_frame fs x _ _ htree fun op hop ht => ?_
    rcases closeOps_foot _ fs p' v' _ _ op hop _ ht with hm | h | ⟨s', hs', h⟩
    · exact Missing.shallow hm
    · simp [stagedStateP, generationP] at h
    · have := h.eq_of_length rfl
      simp only [stagedStateP, List.cons.injEq, Seg.proj.injEq, Seg.rel.injEq, Seg.state.injEq, and_true, true_and] at this
      exact safe ⟨this.1, this.2.1, this.2.2 ▸ hs'⟩

theorem act_staged_frame_F (fs : Fs) (a : Act) (x : Fs) (hx : LeftByActF fs a x) (p v s : Nat)
    (safe : StagedSafe a p v s) : get x (stagedStateP p v s) = get fs (stagedStateP p v s) := by
  rcases leftByActF_cases hx with hx | ⟨dp, name, w, pkg, j, rfl, rfl⟩
  · exact act_staged_frame fs a x hx p v s safe
  · rcases fault_publish_cases fs dp name w pkg j with h | ⟨_, hq⟩
    · rw [h]
      exact act_staged_frame fs (.publish dp name w pkg) _ (Or.inr ⟨j, none, rfl⟩) p v s safe
    · exact hq _ fun h => staged_not_pubFoot (Or.inl h)

theorem lookupH_mem (hs : List (Nat × Handle)) (h : Nat) (x : Handle) (hl : lookupH hs h = some x) : (h, x) ∈ hs :=
  mem_of_lookup ((lookup_eq_of_eqns (f := fun k l => lookupH l k) (fun _ => rfl) (fun _ _ _ _ => rfl) h hs).symm.trans hl)

theorem mem_setH (hs : List (Nat × Handle)) (h : Nat) (x : Handle) (e : Nat × Handle) :
    e ∈ setH hs h x ↔ e = (h, x) ∨ (e ∈ hs ∧ e.1 ≠ h) := by
  simp [setH, List.mem_filter]

theorem resolveRel_same (fs : Fs) (x : Handle) (v v' : Nat) (h : x.rel = some v) (hr : (resolveRel fs x).2 = .ok v') :
    v' = v := by
  have := (resolveRel_ok fs x v' hr).2
  rw [(resolveRel_resolves fs x).rel v h] at this
  cases this; rfl

theorem actOf_shape (w : World) (h : Nat) (op : HOp) :
    actOf w h op = .idle
    ∨ (∃ x name v pkg, lookupH w.hs h = some x ∧ op = .publish name v pkg ∧ actOf w h op = .publish x.proj name v pkg)
    ∨ (∃ x v sid b, lookupH w.hs h = some x ∧ op = .dump sid b ∧ actOf w h op = .write x.proj v sid b
        ∧ (resolveRel w.fs x).2 = .ok v)
    ∨ (∃ x v ord, lookupH w.hs h = some x ∧ op = .commit ∧ actOf w h op = .close x.proj v ord x.sids
        ∧ (resolveRel w.fs x).2 = .ok v ∧ (plan w.fs x .commit).err = none) := by
  rcases actOf_cases w h op with hi | ⟨x, hl, he, ha⟩
  · exact Or.inl hi
  · cases op with
    | «open» proc p v g => exact Or.inl ha
    | look => exact Or.inl ha
    | begin ord n => exact Or.inl ha
    | publish name v pkg => exact Or.inr (Or.inl ⟨x, name, v, pkg, hl, rfl, ha⟩)
    | dump sid b =>
      obtain ⟨v, hres, hact, _⟩ := plan_dump_ok w.fs x sid b he
      exact Or.inr (Or.inr (Or.inl ⟨x, v, sid, b, hl, rfl, ha.trans hact, hres⟩))
    | commit =>
      obtain ⟨ord, v, _, hres, hact, _⟩ := plan_commit_ok w.fs x he
      exact Or.inr (Or.inr (Or.inr ⟨x, v, ord, hl, rfl, ha.trans hact, hres, he⟩))

def HOp.dumpSid : HOp → Option Nat
  | .dump sid _ => some sid
  | _ => none

def HEv.dumpSid : HEv → Option Nat
  | .run _ op => op.dumpSid
  | .die _ op _ _ => op.dumpSid
  | .fault _ op _ => op.dumpSid

/-- the state ids drawn by the dumps of a history (`uuid.uuid4()` in `Release.dump`), in order -/
def dumpSids (evs : List HEv) : List Nat := evs.filterMap HEv.dumpSid

/-- for every handle with a training in progress (dumps since `begin`, no commit yet): every dumped state is staged,
byte for byte, in the stage directory of the release the handle is bound to; state ids were drawn by earlier dumps and
belong to one handle -/
structure Owed (w : World) (used : List Nat) : Prop where
  staged : ∀ e ∈ w.hs, e.2.done = false → ∀ sb ∈ e.2.dumped,
    ∃ v, e.2.rel = some v ∧ get w.fs (stagedStateP e.2.proj v sb.1) = some (.file sb.2)
  used : ∀ e ∈ w.hs, ∀ s ∈ e.2.sids, s ∈ used
  owner : ∀ e1 ∈ w.hs, ∀ e2 ∈ w.hs, ∀ s, s ∈ e1.2.sids → s ∈ e2.2.sids → e1 = e2

theorem mem_sids (x : Handle) (sb : Nat × Bytes) (h : sb ∈ x.dumped) : sb.1 ∈ x.sids :=
  List.mem_map.mpr ⟨sb, h, rfl⟩

/-- the tree `fs'` holds, byte for byte, what was staged in `w` under the ids of every entry of the handle table but that
of `h` — and of that one too unless the call `a` is its commit -/
def KeepsStaged (w : World) (h : Nat) (a : Act) (fs' : Fs) : Prop :=
  ∀ e ∈ w.hs, ((∀ x, lookupH w.hs h = some x → e ≠ (h, x)) ∨ ∀ p v o s, a ≠ .close p v o s) →
    ∀ v s, s ∈ e.2.sids → get fs' (stagedStateP e.2.proj v s) = get w.fs (stagedStateP e.2.proj v s)

/-- a dump draws a fresh id, a commit moves the ids of its own handle, and nothing else looks into a stage directory -/
theorem staged_kept (w : World) (used : List Nat) (inv : Owed w used) (h : Nat) (op : HOp)
    (fresh : ∀ sid, op.dumpSid = some sid → sid ∉ used) (fs' : Fs) (hx : LeftByActF w.fs (actOf w h op) fs') :
    KeepsStaged w h (actOf w h op) fs' := by
  intro e0 he0 hne v s hs
  apply act_staged_frame_F w.fs _ fs' hx
  rcases actOf_shape w h op with h1 | ⟨_, _, _, _, _, _, h1⟩ | ⟨x, v', sid, b, _, hop, h1, _⟩ | ⟨x, v', ord, hl, _, h1, _⟩
  · rw [h1]; trivial
  · rw [h1]; trivial
  · rw [h1]
    intro hc
    exact fresh sid (by rw [hop]; rfl) (hc.2.2 ▸ inv.used e0 he0 s hs)
  · rw [h1]
    intro hc
    rcases hne with hne | hne
    · exact hne x hl (inv.owner e0 he0 (h, x) (lookupH_mem _ _ _ hl) s hs hc.2.2)
    · exact hne _ _ _ _ h1

/-- for an operation through a handle that does not exist, and for a process death -/
theorem Owed.sub {w : World} {used : List Nat} (inv : Owed w used) (w' : World) (extra : List Nat)
    (sub : ∀ e ∈ w'.hs, e ∈ w.hs)
    (frame : ∀ e ∈ w'.hs, ∀ v s, s ∈ e.2.sids →
      get w'.fs (stagedStateP e.2.proj v s) = get w.fs (stagedStateP e.2.proj v s)) :
    Owed w' (used ++ extra) := by
  refine ⟨fun e he hd sb hsb => ?_, fun e he s hs => List.mem_append_left _ (inv.used e (sub e he) s hs),
    fun e1 h1 e2 h2 => inv.owner e1 (sub e1 h1) e2 (sub e2 h2)⟩
  obtain ⟨v, hv, hg⟩ := inv.staged e (sub e he) hd sb hsb
  exact ⟨v, hv, by rw [frame e he v sb.1 (mem_sids _ _ hsb)]; exact hg⟩

/-- `x'` is what the call `a` leaves at `h`; `extra` are the ids the event has drawn -/
theorem Owed.set {w : World} {used : List Nat} (inv : Owed w used) (w' : World) (h : Nat) (x' : Handle) (a : Act)
    (extra : List Nat) (hhs : w'.hs = setH w.hs h x') (ks : KeepsStaged w h a w'.fs) (fresh : ∀ s ∈ extra, s ∉ used)
    (sids : ∀ s ∈ x'.sids, (∃ x, lookupH w.hs h = some x ∧ s ∈ x.sids) ∨ s ∈ extra)
    (own : x'.done = false → ∀ sb ∈ x'.dumped,
      ∃ v, x'.rel = some v ∧ get w'.fs (stagedStateP x'.proj v sb.1) = some (.file sb.2)) :
    Owed w' (used ++ extra) := by
  have other : ∀ e ∈ w.hs, e.1 ≠ h → ∀ x, lookupH w.hs h = some x → e ≠ (h, x) := fun e _ hne x _ e' => hne (by rw [e'])
  refine ⟨?_, ?_, ?_⟩
  · intro e he hd sb hsb
    rw [hhs, mem_setH] at he
    rcases he with rfl | ⟨hin, hne⟩
    · exact own hd sb hsb
    · obtain ⟨v, hv, hg⟩ := inv.staged e hin hd sb hsb
      exact ⟨v, hv, by rw [ks e hin (Or.inl (other e hin hne)) v sb.1 (mem_sids _ _ hsb)]; exact hg⟩
  · intro e he s hs
    rw [hhs, mem_setH] at he
    rcases he with rfl | ⟨hin, _⟩
    · rcases sids s hs with ⟨x, hl, hsx⟩ | hx
      · exact List.mem_append_left _ (inv.used _ (lookupH_mem _ _ _ hl) s hsx)
      · exact List.mem_append_right _ hx
    · exact List.mem_append_left _ (inv.used e hin s hs)
  · intro e1 he1 e2 he2 s h1 h2
    rw [hhs, mem_setH] at he1 he2
    have clash : ∀ e, e ∈ w.hs → e.1 ≠ h → s ∈ e.2.sids → s ∈ x'.sids → False := by
      intro e hin hne hs0 hsx
      rcases sids s hsx with ⟨x, hl, hsx'⟩ | hx
      · exact other e hin hne x hl (inv.owner e hin (h, x) (lookupH_mem _ _ _ hl) s hs0 hsx')
      · exact fresh s hx (inv.used e hin s hs0)
    rcases he1 with rfl | ⟨hin1, hne1⟩ <;> rcases he2 with rfl | ⟨hin2, hne2⟩
    · rfl
    · exact absurd (clash e2 hin2 hne2 h2 h1) id
    · exact absurd (clash e1 hin1 hne1 h1 h2) id
    · exact inv.owner e1 hin1 e2 hin2 s h1 h2

/-- `x'` still owes what `x` owed — same project, a bound release stays bound, the same dumps — unless the call `a` was the
handle's commit: that sets `done`, and nothing is owed any more -/
structure Holds (x x' : Handle) (a : Act) : Prop where
  proj : x'.proj = x.proj
  rel : ∀ v, x.rel = some v → x'.rel = some v
  dumped : x'.dumped = x.dumped
  done : x'.done = false → x.done = false ∧ ∀ p v o s, a ≠ .close p v o s

theorem Resolves.holds {x x' : Handle} (r : Resolves x x') {a : Act} (ha : ∀ p v o s, a ≠ .close p v o s) :
    Holds x x' a :=
  ⟨r.proj, r.rel, r.dumped, fun hd => ⟨r.done ▸ hd, ha⟩⟩

theorem Holds.of_not_close {x x' : Handle} {a b : Act} (hh : Holds x x' a) (hb : ∀ p v o s, b ≠ .close p v o s) :
    Holds x x' b :=
  ⟨hh.proj, hh.rel, hh.dumped, fun hd => ⟨(hh.done hd).1, hb⟩⟩

/-- key resolution leaves the handle as it is but for a remembered key; a commit that reaches the registry sets `done` -/
theorem plan_holds (fs : Fs) (x : Handle) (op : HOp) (hb : ∀ o n, op ≠ .begin o n) :
    Holds x (plan fs x op).x (plan fs x op).act := by
  have r := resolveRel_resolves fs x
  cases op with
  | «open» proc p v g => exact (Resolves.refl x).holds nofun
  | publish name v pkg => exact (Resolves.refl x).holds nofun
  | begin o n => exact absurd rfl (hb o n)
  | look => exact (Resolves.refl x).holds nofun
  | dump sid b =>
    simp only [plan]
    split
    · exact (Resolves.refl x).holds nofun
    · split <;> (next hr => rw [hr] at r; exact r.holds nofun)
  | commit =>
    simp only [plan]
    split
    · exact (Resolves.refl x).holds nofun
    · split
      · exact (Resolves.refl x).holds nofun
      · split
        · next hr => rw [hr] at r; exact ⟨r.proj, r.rel, r.dumped, nofun⟩
        · next hr => rw [hr] at r; exact r.holds nofun

/-- `Owed.set` for a handle that keeps its dumps -/
theorem Owed.resolved {w : World} {used : List Nat} (inv : Owed w used) (w' : World) (h : Nat) (x x' : Handle) (a : Act)
    (extra : List Nat) (hl : lookupH w.hs h = some x) (hhs : w'.hs = setH w.hs h x') (ks : KeepsStaged w h a w'.fs)
    (fresh : ∀ s ∈ extra, s ∉ used) (hh : Holds x x' a) : Owed w' (used ++ extra) := by
  have hin := lookupH_mem _ _ _ hl
  refine inv.set w' h x' a extra hhs ks fresh (fun s hs => Or.inl ⟨x, hl, ?_⟩) ?_
  · simpa [Handle.sids, hh.dumped] using hs
  · intro hd sb hsb
    rw [hh.dumped] at hsb
    obtain ⟨v, hv, hg⟩ := inv.staged (h, x) hin (hh.done hd).1 sb hsb
    exact ⟨v, hh.rel v hv, by rw [hh.proj, ks (h, x) hin (Or.inr (hh.done hd).2) v sb.1 (mem_sids _ _ hsb)]; exact hg⟩

theorem lookTag_hs (w : World) (h : Nat) (x : Handle) :
    ∃ x', Resolves x x' ∧ (lookTag w h x).w.hs = setH w.hs h x' :=
  lookTag_cases (motive := fun o => ∃ x', Resolves x x' ∧ o.w.hs = setH w.hs h x') w h x
    (fun x' _ _ r _ => ⟨x', r, rfl⟩) (fun x' _ _ _ r _ _ _ => ⟨x', r, rfl⟩) (fun x' _ _ _ r _ _ _ => ⟨x', r, rfl⟩)

/-- a faulted operation leaves the handle as its key resolution left it -/
theorem faultHandle_holds (w : World) (h : Nat) (x : Handle) (op : HOp) (hl : lookupH w.hs h = some x) :
    Holds x (faultHandle w.fs x op) (actOf w h op) := by
  have hp : Holds x (faultHandle w.fs x op) (plan w.fs x op).act := by
    cases op with
    | «open» proc p v g => exact (Resolves.refl x).holds nofun
    | look => exact (Resolves.refl x).holds nofun
    | begin o n => exact (Resolves.refl x).holds nofun
    | publish name v pkg => exact plan_holds w.fs x _ nofun
    | dump sid b => exact plan_holds w.fs x _ nofun
    | commit => exact plan_holds w.fs x _ nofun
  rcases actOf_cases w h op with hi | ⟨x0, hl0, _, ha⟩
  · rw [hi]; exact hp.of_not_close nofun
  · rw [hl] at hl0; cases hl0; rw [ha]; exact hp

theorem applyH_owed (w : World) (used : List Nat) (e : HEv) (inv : Owed w used)
    (fresh : ∀ sid, e.dumpSid = some sid → sid ∉ used) :
    Owed (applyH Impl.repaired w e) (used ++ e.dumpSid.toList) := by
  have fresh' : ∀ s ∈ e.dumpSid.toList, s ∉ used := fun s hs => fresh s (by simpa using hs)
  obtain ⟨h, op, he, hleft⟩ := applyH_left w e
  rcases he with rfl | ⟨k, cut, rfl⟩ | ⟨j, rfl⟩
  · have ks := staged_kept w used inv h op fresh _ hleft
    simp only [applyH] at ks ⊢
    revert ks
    refine perform_cases (motive := fun o a => KeepsStaged w h a o.w.fs → Owed o.w (used ++ op.dumpSid.toList)) w h op
      ?_ ?_ ?_ ?_ ?_
    · intro proc p v g _
      split <;> intro ks
      · exact inv.sub w _ (fun _ he => he) (fun _ _ _ _ _ => rfl)
      · exact inv.set _ h _ .idle _ rfl ks fresh' (fun s hs => nomatch hs) (fun _ sb hsb => nomatch hsb)
    · intro _ _
      exact inv.sub w _ (fun _ he => he) (fun _ _ _ _ _ => rfl)
    · intro x hl _ ks
      obtain ⟨x', r, hhs⟩ := lookTag_hs w h x
      exact inv.resolved _ h x x' .idle _ hl ((lookOn_eq w h x).2.1.trans hhs) ks fresh' (r.holds nofun)
    · intro x e hl he ks
      exact inv.resolved _ h x _ .idle _ hl rfl ks fresh'
        ((plan_holds w.fs x op fun o n e' => by subst e'; cases he).of_not_close nofun)
    · intro x x' hl he o hx' ks
      have hin := lookupH_mem _ _ _ hl
      have r1 := resolveRel_resolves w.fs x
      -- the handle afterwards is the planned one — unless a dump went through
      by_cases hd : ∃ sid b, op = .dump sid b ∧ o.err = none ∧ x' = afterOk (plan w.fs x op).x op
      · obtain ⟨sid, b, rfl, herr, rfl⟩ := hd
        obtain ⟨v, hres, hact, hx⟩ := plan_dump_ok w.fs x sid b he
        have hnc : ∀ p v o s, (plan w.fs x (.dump sid b)).act ≠ .close p v o s := by rw [hact]; nofun
        refine inv.set _ h _ _ _ rfl ks fresh' (fun s hs => ?_) (fun hdn sb hsb => ?_)
        · simp only [afterOk, hx, Handle.sids, r1.dumped, List.map_append, List.mem_append] at hs
          rcases hs with hs | hs
          · exact Or.inl ⟨x, hl, hs⟩
          · exact Or.inr (by simpa [HOp.dumpSid] using hs)
        · simp only [afterOk, hx, r1.done, r1.dumped, r1.proj, List.mem_append] at hdn hsb ⊢
          rcases hsb with hsb | hsb
          · obtain ⟨v', hv', hg⟩ := inv.staged (h, x) hin hdn sb hsb
            exact ⟨v', r1.rel v' hv', by rw [ks (h, x) hin (Or.inr hnc) v' sb.1 (mem_sids _ _ hsb)]; exact hg⟩
          · simp only [List.mem_cons, List.not_mem_nil, or_false] at hsb
            subst hsb
            refine ⟨v, (resolveRel_ok w.fs x v hres).2, ?_⟩
            show get o.fs _ = _
            simp only [o, hact]
            exact (write_ok w.fs x.proj v sid b (by rw [← hact]; exact herr)).1
      · have hx'' : x' = (plan w.fs x op).x := by
          rcases hx' with e | ⟨herr, e⟩
          · exact e
          · cases op with
            | dump sid b => exact absurd ⟨sid, b, rfl, herr, e⟩ hd
            | _ => exact e
        subst hx''
        by_cases hb : ∃ ord n, op = .begin ord n
        · obtain ⟨ord, n, rfl⟩ := hb
          exact inv.set _ h _ _ _ rfl ks fresh' (fun s hs => nomatch hs) (fun _ sb hsb => nomatch hsb)
        · exact inv.resolved _ h x _ _ _ hl rfl ks fresh' (plan_holds w.fs x op fun o n e' => hb ⟨o, n, e'⟩)
  · have ks := staged_kept w used inv h op fresh _ hleft
    cases hl : lookupH w.hs h with
    | none => simp only [applyH, hl]; exact inv.sub w _ (fun _ he => he) (fun _ _ _ _ _ => rfl)
    | some x =>
      simp only [applyH, hl] at ks ⊢
      refine inv.sub _ _ (fun e he => (List.mem_filter.mp he).1)
        (fun e he => ks e (List.mem_filter.mp he).1 (Or.inl fun x' hx' e' => ?_))
      have := (List.mem_filter.mp he).2
      rw [hl] at hx'; cases hx'
      simp [e'] at this
  · have ks := staged_kept w used inv h op fresh _ hleft
    cases hl : lookupH w.hs h with
    | none => simp only [applyH, hl]; exact inv.sub w _ (fun _ he => he) (fun _ _ _ _ _ => rfl)
    | some x =>
      simp only [applyH, hl] at ks ⊢
      exact inv.resolved _ h x _ _ _ hl rfl ks fresh' (faultHandle_holds w h x op hl)

theorem dumpSids_cons (e : HEv) (r : List HEv) : dumpSids (e :: r) = e.dumpSid.toList ++ dumpSids r := by
  simp only [dumpSids, List.filterMap_cons]
  cases e.dumpSid <;> simp

theorem playH_owed_from (evs : List HEv) : ∀ w used, Owed w used → (used ++ dumpSids evs).Nodup →
    Owed (playH Impl.repaired w evs) (used ++ dumpSids evs) := by
  induction evs with
  | nil => intro w used inv _; simpa [dumpSids, playH] using inv
  | cons e r ih =>
    intro w used inv nd
    rw [dumpSids_cons, ← List.append_assoc] at nd ⊢
    simp only [playH]
    apply ih _ _ _ nd
    apply applyH_owed w used e inv
    intro sid hsid hin
    have hnd := (List.nodup_append.mp (List.nodup_append.mp nd).1)
    rw [hsid] at hnd
    exact hnd.2.2 sid hin sid (by simp) rfl

theorem playH_owed (evs : List HEv) (nd : (dumpSids evs).Nodup) :
    Owed (playH Impl.repaired World.empty evs) (dumpSids evs) := by
  have h0 : Owed World.empty [] :=
    ⟨fun e he => by simp [World.empty] at he, fun e he => by simp [World.empty] at he,
      fun e he => by simp [World.empty] at he⟩
  have := playH_owed_from evs World.empty [] h0 (by simpa using nd)
  simpa using this

theorem lookupH_setH (hs : List (Nat × Handle)) (h : Nat) (x : Handle) : lookupH (setH hs h x) h = some x := by
  simp [setH, lookupH]

/-- the events of one training through handle `h`: `begin`, one `dump` per state, `commit` -/
def trainEvents (h ord : Nat) (sts : List (Nat × Bytes)) : List HEv :=
  .run h (.begin ord sts.length) :: (sts.map (fun s => HEv.run h (.dump s.1 s.2)) ++ [.run h .commit])

theorem resolveRel_explicit (fs : Fs) (x : Handle) (v : Nat) (hr : x.rel = some v) (hl : relListed fs x.proj v = true) :
    resolveRel fs x = (x, .ok v) := by
  simp [resolveRel, projListed_of_relListed fs x.proj v hl, hr, hl]

/-- an operation whose plan and registry call go through leaves the call's tree and the planned handle -/
theorem perform_planned (w : World) (h : Nat) (op : HOp) (x : Handle) (pl : Plan)
    (hop : ∀ proc p v g, op ≠ .open proc p v g) (hlook : op ≠ .look) (hl : lookupH w.hs h = some x)
    (hpl : plan w.fs x op = pl) (he : pl.err = none) (hok : (runAct Impl.repaired w.fs pl.act).err = none) :
    (perform Impl.repaired w h op).w
      = { w with fs := (runAct Impl.repaired w.fs pl.act).fs, hs := setH w.hs h (afterOk pl.x op) } := by
  subst hpl
  rw [perform_general w h op hop hlook, hl]
  simp only [he, hok, Option.isNone_none, if_true]

/-- the plans of a handle with an accessor, bound to a listed release -/
theorem plan_bound (fs : Fs) (x : Handle) (v : Nat) (hr : x.rel = some v) (hl : relListed fs x.proj v = true) :
    (∀ a sid b, x.acc = some a → plan fs x (.dump sid b) = ⟨x, .write x.proj v sid b, none⟩)
    ∧ ∀ ord, x.acc = some (ord, x.sids.length) →
        plan fs x .commit = ⟨{ x with done := true }, .close x.proj v ord x.sids, none⟩ :=
  ⟨fun a sid b ha => by simp [plan, ha, resolveRel_explicit fs x v hr hl],
    fun ord ha => by simp [plan, ha, resolveRel_explicit fs x v hr hl]⟩

/-- the dumps of a training step that goes through, replayed through a handle bound to that release -/
theorem dumps_simulate (v ord n h : Nat) (tags : List (Nat × (Nat × Nat × Nat) × Tag))
    (states : List (Nat × (Nat × Nat × Nat × Nat) × Bytes)) :
    ∀ (sts : List (Nat × Bytes)) (fs m : Fs) (hs : List (Nat × Handle)) (x : Handle), lookupH hs h = some x →
      relListed fs x.proj v = true → x.rel = some v → x.acc = some (ord, n) → FullTree fs (writeCalls x.proj v sts) m →
      ∃ hs', playH Impl.repaired ⟨fs, hs, tags, states⟩ (sts.map fun s => HEv.run h (.dump s.1 s.2))
          = ⟨m, hs', tags, states⟩
        ∧ lookupH hs' h = some { x with dumped := x.dumped ++ sts } ∧ relListed m x.proj v = true := by
  intro sts
  induction sts with
  | nil => intro fs m hs x hx hl _ _ hm; cases hm; exact ⟨hs, rfl, by simpa using hx, hl⟩
  | cons s r ih =>
    intro fs m hs x hx hl hr ha hm
    simp only [writeCalls, List.map_cons] at hm
    cases hm with
    | call _ _ _ fs' _ hrun hrest =>
      have hrc : runCalls fs [fun f => writeOps f x.proj v s.1 s.2] = ⟨fs', [writeOps fs x.proj v s.1 s.2], none⟩ := by
        simp [runCalls, run_runSome _ _ _ hrun]
      have hstep := perform_planned ⟨fs, hs, tags, states⟩ h (.dump s.1 s.2) x _ nofun nofun hx
        ((plan_bound fs x v hr hl).1 _ s.1 s.2 ha) rfl (by simp [runAct, hrc])
      -- a write to a listed release leaves it listed (`writeFoot` lies in `trainFoot … g` for every `g`: any number will do)
      obtain ⟨hp, hv⟩ := relListed_dirs fs x.proj v hl
      rw [atomsAll_writeOps] at hrun
      have hl' : relListed fs' x.proj v = true := (trained_relListed (g := 0) hp hv
        ((run_eqOff (writeOps_foot fs x.proj v s.1 s.2) hrun).mono fun _ hk => Or.inl hk.dump) x.proj v).trans hl
      obtain ⟨hs', hd, hx', hlm⟩ := ih fs' m (setH hs h { x with dumped := x.dumped ++ [(s.1, s.2)] }) _
        (lookupH_setH _ _ _) hl' hr ha hrest
      refine ⟨hs', ?_, by rw [hx', List.append_assoc]; rfl, hlm⟩
      simp only [List.map_cons, playH, applyH, hstep, runAct, hrc, afterOk]
      exact hd

/-- the single-writer step is one schedule of the handle model: a training step of Part 2 that succeeds on a tree
leaves exactly the tree that a fresh handle on that release leaves with `open`, `begin`, one `dump` per state, `commit`
— from any world with that tree, whatever other handles exist -/
theorem train_simulates (w : World) (h proc p v ord : Nat) (sts : List (Nat × Bytes))
    (hok : (exec Impl.repaired w.fs (.train p v ord sts)).err = none) :
    (playH Impl.repaired w (.run h (.open proc p (some v) none) :: trainEvents h ord sts)).fs
      = (exec Impl.repaired w.fs (.train p v ord sts)).fs := by
  cases hg : trainGuard w.fs p v with
  | some e => simp [exec, hg] at hok
  | none =>
    have hl0 := (trainGuard_none w.fs p v hg).1
    rw [exec_train Impl.repaired ord sts hg] at hok ⊢
    have hfull := runCalls_full _ w.fs hok
    generalize (runCalls w.fs (trainCalls Impl.repaired p v ord sts)).fs = x at hfull ⊢
    rw [trainCalls_eq] at hfull
    obtain ⟨m, hw, hc⟩ := hfull.append_inv
    have hopen : (perform Impl.repaired w h (.open proc p (some v) none)).w
        = ⟨w.fs, setH w.hs h ⟨proc, p, some v, none, none, [], false⟩, w.tags, w.states⟩ := by simp [perform]
    have hbegin : (perform Impl.repaired ⟨w.fs, setH w.hs h ⟨proc, p, some v, none, none, [], false⟩, w.tags, w.states⟩ h
          (.begin ord sts.length)).w
        = ⟨w.fs, setH (setH w.hs h ⟨proc, p, some v, none, none, [], false⟩) h
            ⟨proc, p, some v, none, some (ord, sts.length), [], false⟩, w.tags, w.states⟩ :=
      perform_planned ⟨w.fs, setH w.hs h ⟨proc, p, some v, none, none, [], false⟩, w.tags, w.states⟩ h
        (.begin ord sts.length) ⟨proc, p, some v, none, none, [], false⟩ _ nofun nofun (lookupH_setH _ _ _) rfl rfl rfl
    obtain ⟨hs', hd, hx', hlm⟩ := dumps_simulate v ord sts.length h w.tags w.states sts w.fs m _
      ⟨proc, p, some v, none, some (ord, sts.length), [], false⟩ (lookupH_setH _ _ _) hl0 rfl rfl hw
    have hcommit := perform_planned ⟨m, hs', w.tags, w.states⟩ h .commit _ _ nofun nofun hx'
      ((plan_bound m ⟨proc, p, some v, none, some (ord, sts.length), sts, false⟩ v rfl hlm).2 ord (by simp [Handle.sids]))
      rfl hc.runCalls.1
    simp only [trainEvents, playH, applyH, hopen, hbegin]
    rw [playH_append, hd]
    simp only [playH, applyH, hcommit]
    exact hc.runCalls.2

end ForML.Registry
