/-
C02 — every runner executes a compiled table with identical results.

Models: `ForML/Model/Symbols.lean` (tables, `run`, the denotation `Table.value`), `ForML/Model/Dask.lean`
(`mkjob`, `evalDask`), `ForML/Model/PyFunc.lean` (`expression`, `eval`), `ForML/Model/TableWF.lean` (`ranked`,
`applyMode`), `ForML/Model/Builder.lean` (actor builders, tables whose functors carry their builder, the `processes`
scheduler), `ForML/Model/PyFuncLegacy.lean` (the single-function runner before fixes/C02-pyfunc-replica-fork.diff, for
the counterexamples only).

A *valid* table is one accepted by `Table.ranked t r` for some numbering `r` (unique instructions, every
argument bound, arguments numbered strictly below their consumer): a decidable hypothesis; the harness
computes the numbering for every generated table and the driver evaluates the predicate.

The direct dependency-ordered evaluation of the property statement is the denotation `Table.value A t t.fuel`
(every instruction applied to the denotations of its arguments); `C02_run` shows that the executing reference
interpreter `run` (memoised, every instruction once) computes exactly it.
-/
import ForML.Lemmas.C02Dask
import ForML.Lemmas.C02PyExpr
import ForML.Lemmas.C02PyOnce
import ForML.Lemmas.C02Builder
import ForML.Lemmas.C02Token
import ForML.Model.PyFuncLegacy

namespace ForML.Flow

/-- The reference interpreter `run` holds, for every instruction of a valid table, the value of the direct
dependency-ordered evaluation, and executes every instruction exactly once. -/
theorem C02_run (A : Option Assets) (t : Table) (r : Key → Nat) (h : t.ranked r = true) :
    (∀ s ∈ t, (run A t).get s.id = some (Table.value A t t.fuel s.id)) ∧
    (run A t).trace.Nodup ∧ (∀ s ∈ t, s.id ∈ (run A t).trace) := by
  have hr : t.Ranked r := fun s hs a ha => ((ranked_spec h).args s hs a ha).2
  exact ⟨fun s hs => run_get A hr hs, run_trace_nodup A hr, fun s hs => (run_trace_mem A hr s.id).mpr ⟨s, hs, rfl⟩⟩

/-- **Dask runner = dependency-ordered evaluation.** For every valid non-empty table `mkjob` succeeds, hands
exactly the sinks of the table to `dask.compute`, and the memoised evaluation of the linked graph delivers for
every sink the value the reference interpreter delivers (which is the direct dependency-ordered evaluation);
no task runs twice. Store effects are values in this model (`dumped`, `committed` terms of the dumper /
committer instructions), so persisted states are covered by the sink values. -/
theorem C02_dask (A : Option Assets) (t : Table) (r : Key → Nat) (h : t.ranked r = true) (hne : t ≠ []) :
    ∃ job, mkjob t = .ok job ∧ job.outputs = t.sinks ∧
      (∀ k ∈ t.sinks, (evalDask A job).get k = (run A t).get k ∧
                      (evalDask A job).get k = some (Table.value A t t.fuel k)) ∧
      (evalDask A job).trace.Nodup := by
  have hr := ranked_spec h
  obtain ⟨job, hjob, hout, hfuel, hg, hhas⟩ := mkjob_ok hr hne
  obtain ⟨hinv, _, hvals⟩ := evalM_fold (hg.denOK A hr) job.fuel job.outputs ⟨[], []⟩ (MemoInv.empty _ _)
    fun k hk => ⟨hfuel ▸ (hr.sinks_bound k (hout ▸ hk)).2, hhas k (hout ▸ hk)⟩
  refine ⟨job, hjob, hout, fun k hk => ?_, hinv.nodup⟩
  have h1 : (evalDask A job).get k = some (den A t k) := hvals k (hout ▸ hk)
  obtain ⟨s, hs, rfl⟩ := List.mem_map.1 (mem_sinks.1 hk).1
  have h2 := (C02_run A t r h).1 s hs
  exact ⟨by rw [h1, h2]; rfl, h1⟩

/-- a cycle reachable from a leaf makes `link` recurse forever (Python: `RecursionError`), a table without any
leaf is refused ('Not acyclic'), a table binding an instruction twice is refused ('Duplicated symbols') — the
error branches of the model are exercised (tests, not theorems about all tables) -/
example : mkjob [⟨.uid 0, .functor 0 .apply [], [.uid 2]⟩, ⟨.uid 1, .functor 1 .apply [], [.uid 0]⟩,
                 ⟨.uid 2, .functor 2 .apply [], [.uid 1]⟩, ⟨.uid 3, .functor 3 .apply [], [.uid 2]⟩]
    = .error .recursion := by rfl
example : mkjob [⟨.uid 0, .functor 0 .apply [], [.uid 1]⟩, ⟨.uid 1, .functor 1 .apply [], [.uid 0]⟩]
    = .error .notAcyclic := by rfl
example : mkjob [⟨.uid 0, .functor 0 .apply [], []⟩, ⟨.uid 0, .functor 1 .apply [], []⟩]
    = .error .duplicated := by rfl

/-- non-vacuity: a train-mode table with a multi-output worker, a trainer, an applied fork taking the fresh
state, a state loader, dumper and committer satisfies the hypothesis of `C02_run` / `C02_dask` -/
def exTrain : Table :=
  [⟨.uid 0, .functor 0 .apply [], []⟩,
   ⟨.uid 1, .functor 1 .apply [], [.uid 0]⟩,
   ⟨.getter 1 0, .getter 0, [.uid 1]⟩,
   ⟨.getter 1 1, .getter 1, [.uid 1]⟩,
   ⟨.loader 2, .loader 2, []⟩,
   ⟨.uid 2, .functor 2 .train [.setState], [.loader 2, .getter 1 0, .getter 1 1]⟩,
   ⟨.uid 3, .functor 2 .apply [.setState], [.uid 2, .getter 1 0]⟩,
   ⟨.dumper 2, .dumper, [.uid 2]⟩,
   ⟨.committer, .committer, [.dumper 2]⟩]

def exTrainRank : Key → Nat
  | .uid 0 => 0 | .uid 1 => 1 | .getter 1 _ => 2 | .loader _ => 0 | .uid 2 => 3 | .uid 3 => 4
  | .dumper _ => 4 | .committer => 5 | _ => 0

example : exTrain.ranked exTrainRank = true := by decide +kernel
example : exTrain.sinks = [.uid 3, .committer] := by decide +kernel

open PyFunc

/-- **Full statement**: for every valid apply-mode table (`Table.applyMode`: apply functors whose state presets are
fed by loaders of persistent groups, getters, argument-free loaders, one sink, one head — any fan-out, any branch
lengths, any argument order, shared results, multi-output getters, shared loaders) the `Expression` is constructed
and every call returns the value of the direct dependency-ordered evaluation of the table whose head received the
input. (The code before fixes/C02-pyfunc-replica-fork.diff violated this: DESIGN.md D1, D2 — see
`C02_pyfunc_legacy_counterexample` below.) Proved for the repaired code as `C02_pyfunc`. -/
def C02_pyfunc_full : Prop :=
  ∀ (A : Option Assets) (t : Table) (r : Key → Nat), t.ranked r = true → t.applyMode A = true →
    ∃ U hd sink, expression A t = .ok U ∧ t.sinks = [sink] ∧ t.heads = [hd] ∧
      ∀ x, U.run x = valueIn A t hd x t.fuel sink

/-- **Whenever the expression is constructed, every call is right**: on a valid table whose loaders take no
arguments and whose sink is a functor / getter, a constructed `Expression` returns — on every input, on every call,
whatever the order in which the consumers of a shared result evaluate their arguments — the value that the
direct dependency-ordered evaluation assigns to the table's only sink when the head `hd` (a functor / getter of
the table) receives the input. The single-function runner can refuse a table, it cannot deliver different data. -/
theorem C02_pyfunc_partial (A : Option Assets) (t : Table) (r : Key → Nat) (h : t.ranked r = true)
    (hs : t.pyShape = true) (U : Term) (he : expression A t = .ok U) :
    ∃ hd sink, t.sinks = [sink] ∧ t.isNode hd = true ∧
      ∀ x, U.run x = valueIn A t hd x t.fuel sink ∧ evalExpr A t x = .ok (valueIn A t hd x t.fuel sink) := by
  obtain ⟨hd, sink, h1, h2, h3⟩ := expression_sound (ranked_spec h) hs he
  refine ⟨hd, sink, h1, h2, fun x => ⟨h3 x, ?_⟩⟩
  simp only [evalExpr, he]
  exact congrArg Except.ok (h3 x)

/-- **The single-function runner = dependency-ordered evaluation** on every valid apply-mode table: construction
never fails (`_order` terminates and lists every argument before its consumer, `_build` finds every term, no
provider deque is ever empty when popped, nothing is outstanding) and every call delivers the sink's value. -/
theorem C02_pyfunc : C02_pyfunc_full := by
  intro A t r h ham
  obtain ⟨U, hd, he, hh, sink, hs, hv⟩ := expression_ok (ranked_spec h) (applyMode_spec ham)
  exact ⟨U, hd, sink, he, hs, hh, hv⟩

/-- the two defect shapes of DESIGN.md section 7 and richer ones: fan-out at the head (D1), the shorter branch of a
shared result first (D2), getters, shared state loader — the expression is constructed and delivers the
dependency-ordered value (tests of the model on concrete tables, and non-vacuity of `C02_pyfunc_partial`) -/
def exHeadFanout : Table :=
  [⟨.uid 0, .functor 0 .apply [], []⟩, ⟨.uid 1, .functor 1 .apply [], [.uid 0]⟩,
   ⟨.uid 2, .functor 2 .apply [], [.uid 0]⟩, ⟨.uid 3, .functor 3 .apply [], [.uid 1, .uid 2]⟩]

def exShortFirst : Table :=
  [⟨.uid 0, .functor 0 .apply [], []⟩, ⟨.uid 1, .functor 1 .apply [], [.uid 0]⟩,
   ⟨.uid 2, .functor 2 .apply [], [.uid 1]⟩, ⟨.uid 3, .functor 3 .apply [], [.uid 1, .uid 2]⟩]

def exServing : Table :=
  [⟨.loader 7, .loader 7, []⟩,
   ⟨.uid 0, .functor 0 .apply [.setState], [.loader 7]⟩,
   ⟨.uid 1, .functor 1 .apply [], [.uid 0]⟩,
   ⟨.getter 1 0, .getter 0, [.uid 1]⟩,
   ⟨.getter 1 2, .getter 2, [.uid 1]⟩,
   ⟨.loader 8, .loader 8, []⟩,
   ⟨.uid 2, .functor 2 .apply [.setState], [.loader 8, .getter 1 2]⟩,
   ⟨.uid 3, .functor 2 .apply [.setState], [.loader 8, .getter 1 0, .uid 2, .uid 0]⟩]

def exAssets : Option Assets := some ⟨[8, 9, 7], [.stored 0, .stored 1]⟩

def idRank : Key → Nat
  | .uid n => n | _ => 0

def servRank : Key → Nat
  | .uid 0 => 1 | .uid 1 => 2 | .getter _ _ => 3 | .uid 2 => 4 | .uid 3 => 5 | _ => 0

example : exHeadFanout.ranked idRank = true ∧ exHeadFanout.applyMode none = true := by decide +kernel
example : exShortFirst.ranked idRank = true ∧ exShortFirst.applyMode none = true := by decide +kernel
example : exServing.ranked servRank = true ∧ exServing.applyMode exAssets = true := by decide +kernel
example : (expression none exHeadFanout).toOption.isSome = true := by decide +kernel
example : (expression none exShortFirst).toOption.isSome = true := by decide +kernel
example : (expression exAssets exServing).toOption.isSome = true := by decide +kernel
example : exHeadFanout.heads = [.uid 0] ∧ exShortFirst.heads = [.uid 0] ∧ exServing.heads = [.uid 0] := by decide +kernel

/-- the instructions of a table that a request has to execute: functors and getters (loaders are read once, when
the expression is built, and condensed into the prepared actors) -/
def Table.requestNodes (t : Table) : List Key :=
  (t.filter fun s => match s.instr with | .functor _ _ _ => true | .getter _ => true | _ => false).map (·.id)

/-- **Full statement (open: stated, neither proved nor refuted)**: on every valid apply-mode table every request
executes every functor / getter of the table exactly once and nothing else — like the direct dependency-ordered
evaluation (`C02_run`). On the real code this is observed by the harness (execution nonces, signature
`pyfunc:execution-count`); the model's instrumented evaluator `evalT` is compared with those observations. -/
def C02_pyfunc_once_full : Prop :=
  ∀ (A : Option Assets) (t : Table) (r : Key → Nat), t.ranked r = true → t.applyMode A = true →
    ∀ U, expression A t = .ok U → ∀ x k, (U.executed x).count k = if k ∈ t.requestNodes then 1 else 0

/-- **The instrumented evaluator is the evaluator**: erasing the execution trace of `evalT` gives `eval` from every
queue state, so `Term.run` (and with it `C02_pyfunc`, `C02_pyfunc_partial`) speaks about the very evaluation whose
executions are listed. -/
theorem C02_pyfunc_trace_erasure (x : Val) (U : Term) (q : Queues) :
    ((evalT x U q).1, (evalT x U q).2.1) = eval x U q ∧ U.run x = (evalT x U []).1 := by
  refine ⟨evalT_erase x U q, ?_⟩
  have := evalT_erase x U []
  simp only [Term.run, ← this]

/-- **What is proved about executions, for every term and every input**: (1) a request executes nothing but nodes
of the term — from whatever queue state; (2) a term without replica cells (no shared result) executes each of its
nodes exactly once, arguments before consumers (post-order), and leaves the queues as they were; (3) of the
replica cells of a fork the one evaluated while the queue is empty executes the shared term and queues its value
once per remaining consumer, a cell that finds a queued value executes nothing. -/
theorem C02_pyfunc_once_partial (x : Val) (U : Term) :
    (∀ q k, k ∈ (evalT x U q).2.2 → k ∈ U.nodes) ∧
    (U.plain = true → U.executed x = U.nodes ∧ ∀ q, (evalT x U q).2.2 = U.nodes ∧ (evalT x U q).2.1 = q) ∧
    (∀ k n q, q.get k = [] →
      (evalT x (.replica k U n) q).2.2 = (evalT x U q).2.2 ∧
      (evalT x (.replica k U n) q).2.1.get k = (evalT x U q).2.1.get k ++ List.replicate n (evalT x U q).1) ∧
    (∀ k n q v d, q.get k = v :: d → evalT x (.replica k U n) q = (v, q.set k d, [])) :=
  ⟨evalT_sound x U, fun h => ⟨(evalT_plain x U [] h).1, fun q => evalT_plain x U q h⟩,
   fun k n q h => by rw [evalT_replica, h]; exact ⟨rfl, by simp [Queues.get_set]⟩,
   fun k n q v d h => by rw [evalT_replica, h]⟩

/-- **Every node at least once, nothing else**: if all replica cells of one fork wrap one shared term (`cellsOk`:
the cell named `k` wraps a term with nodes `C k` — what `Branch.fork` builds), a request, started from empty queues,
executes exactly the *set* of nodes of the term: no node is skipped because a consumer was served from a queue (a
queue holds values only after the shared term ran in this request), no other node runs. What separates this from
`C02_pyfunc_once_full` is the multiplicity on terms with replica cells. -/
theorem C02_pyfunc_executes_all (C : Key → List Key) (x : Val) (U : Term) (h : U.cellsOk C = true) (k : Key) :
    k ∈ U.executed x ↔ k ∈ U.nodes := by
  refine ⟨evalT_sound x U [] k, fun hk => ?_⟩
  have hempty : Served C [] [] := fun k h => absurd rfl h
  simpa [Term.executed] using (evalT_covers C x U [] [] h hempty).2 k hk

/-- non-vacuity of `C02_pyfunc_executes_all`: the forks of the example expressions satisfy `cellsOk` -/
example : (expression none exHeadFanout).toOption.map
    (·.cellsOk fun k => if k = .uid 0 then [.uid 0] else []) = some true := by decide +kernel
example : (expression none exShortFirst).toOption.map
    (·.cellsOk fun k => if k = .uid 1 then [.uid 0, .uid 1] else []) = some true := by decide +kernel

example : (expression exAssets exServing).toOption.map (·.uniform) = some true := by decide +kernel

/-- instances of `C02_pyfunc_once_full` (tests of the model, non-vacuity): fan-out at the head, the shorter branch
of a shared result first, shared loader + getters + stateful head — every functor / getter once per request, no
loader, although `exHeadFanout`'s head and `exShortFirst`'s node 1 occur in two replica cells each -/
example : (expression none exHeadFanout).toOption.map (·.executed (.input 0)) =
    some [.uid 0, .uid 1, .uid 2, .uid 3] := by decide +kernel
example : (expression none exShortFirst).toOption.map (·.executed (.input 0)) =
    some [.uid 0, .uid 1, .uid 2, .uid 3] := by decide +kernel
example : (expression none exHeadFanout).toOption.map (·.nodes) =
    some [.uid 0, .uid 1, .uid 0, .uid 2, .uid 3] := by decide +kernel
example : ((expression exAssets exServing).toOption.map fun U =>
    exServing.requestNodes.map fun k => (U.executed (.input 0)).count k) = some [1, 1, 1, 1, 1, 1] ∧
    ((expression exAssets exServing).toOption.map fun U =>
      ((U.executed (.input 0)).length, (U.executed (.input 0)).count (.loader 7))) = some (6, 0) := by decide +kernel

/-- **Both preset paths configure the actor identically - for every preset value, falsy or not.** `Functor.execute`
(dask under every scheduler, the direct evaluation) runs `Preset.__call__` on a fresh actor with the *values* of all
arguments (`execFunctor`); the single-function runner runs `Preset.reduce` once, when the expression is built, on the
loaded values `evs` (the remaining arguments still being instructions) and keeps the prepared actor `Task(actor,
action)` (`PyFunc.reduce`, `Raw.task`). Whenever the build-time reduction goes through, the prepared actor applied to
the values of the remaining arguments (`D` = any valuation of the instructions, `extra` = the external input of the
head) is what the inline path computes from all the values: the same state was set or - `None`, `b''`, an empty
sequence, `0`: any falsy value - skipped on both paths. -/
theorem C02_preset_paths (D : Key → Val) (a : Actor) (act : Action) (ps : List Preset) (evs : List Evaluated)
    (st : Val) (rem : List Evaluated) (h : PyFunc.reduce ps .none evs = .ok (st, rem)) (extra : List Val) :
    execFunctor a act ps (evs.map (rho D) ++ extra) = (Raw.task a st act).call (rem.map (rho D) ++ extra) := by
  simp only [execFunctor]
  rw [(reduce_spec D h).2 extra]
  exact task_call a st act _

/-- one state preset fed by a loader: the value is set iff it is truthy, on both paths -/
theorem C02_preset_paths_one (a : Actor) (v : Val) (args : List Val) :
    PyFunc.reduce [.setState] .none [.value v] = .ok (if v.truthy then v else .none, []) ∧
    execFunctor a .apply [.setState] (v :: args) = .apply a (if v.truthy then v else .none) args := by
  constructor
  · simp [PyFunc.reduce]
  · simp [execFunctor, reducePresets]

/-- non-vacuity: a falsy payload that is not `None` exists in the model, is skipped by both paths, and is told apart
from `None` wherever it travels as data -/
example : (Val.stored falsyBase).truthy = false ∧ (Val.stored 0).truthy = true ∧
    execFunctor 7 .apply [.setState] [.stored falsyBase, .stored falsyBase] = .apply 7 .none [.stored falsyBase] ∧
    execFunctor 7 .apply [.setState] [.stored 0, .stored 0] = .apply 7 (.stored 0) [.stored 0] :=
  ⟨by decide +kernel, by decide +kernel, by rfl, by rfl⟩

/-- **Pickling contract of a builder**: `pickle.loads(pickle.dumps(spec))` - `Spec.__getnewargs_ex__` followed by
`Spec.__new__` - is the same builder, for every builder `Spec.__new__` has accepted: same class, same positional
arguments, same keyword arguments whatever their values (an explicit `None`, a falsy value, the default itself). -/
theorem C02_spec_pickle (s : Spec) (h : s.valid = true) : s.roundtrip = some s :=
  Spec.roundtrip_valid h

/-- builders come into being through `Spec.__new__` only, so every one of them is valid -/
theorem C02_spec_new_valid (c : ActorClass) (a : List Hyper) (k : Kwargs) (s : Spec) (h : Spec.new c a k = some s) :
    s.valid = true ∧ s.roundtrip = some s :=
  ⟨(Spec.new_spec h).2, Spec.roundtrip_valid (Spec.new_spec h).2⟩

/-- **What a builder configures**: if the actor can be instantiated, the instance lists every constructor parameter
once, in signature order; every keyword argument of the builder is bound as given (also `name=None` over a non-`None`
default); positional arguments are bound to the leading parameters; whatever was not passed holds the constructor
default. -/
theorem C02_builder_call (s : Spec) (i : Instance) (h : s.call = some i) :
    i.sym = s.cls.sym ∧ i.params.map (·.1) = s.cls.params.map (·.name) ∧
    (∀ n v, (n, v) ∈ s.kwargs → (n, v) ∈ i.params) ∧
    (∀ e ∈ List.zip ((s.cls.params.take s.args.length).map (·.name)) s.args, e ∈ i.params) ∧
    (∀ p ∈ s.cls.params.drop s.args.length, s.kwargs.get p.name = none →
      ∃ d, p.default = some d ∧ (p.name, d) ∈ i.params) := by
  unfold Spec.call at h
  split at h
  · cases h
  · rename_i ps hps
    cases h
    obtain ⟨b, rest, r, hb, _, _, rfl⟩ := bindCall_some hps
    obtain ⟨h1, h2, _⟩ := bindPos_spec hb
    exact ⟨rfl, bindCall_names hps, fun n v hm => bindCall_kw hps hm,
      fun e he => List.mem_append_left _ (h1 ▸ he), fun p hp hk => bindCall_default hps hb (h2 ▸ hp) hk⟩

/-- non-vacuity and sensitivity: `Clip(upper=100)`; the builder with the explicit `upper=None` makes an actor holding
`None`, the builder without arguments one holding `100`; both survive pickling unchanged, so the two stay different
behind a process boundary -/
def exClip : ActorClass := ⟨1, [⟨0, some (.int 100), false⟩]⟩

example : (Spec.new exClip [] [(0, .none)]).bind Spec.call = some ⟨1, [(0, .none)]⟩ ∧
    (Spec.new exClip [] []).bind Spec.call = some ⟨1, [(0, .int 100)]⟩ ∧
    (Spec.new exClip [.none] []).bind Spec.call = some ⟨1, [(0, .none)]⟩ ∧
    ((Spec.new exClip [] [(0, .none)]).bind Spec.roundtrip).bind Spec.call = some ⟨1, [(0, .none)]⟩ ∧
    Spec.new exClip [.none] [(0, .none)] = none ∧ Spec.new exClip [] [(1, .none)] = none ∧
    Spec.new exClip [.none, .none] [] = none := by decide +kernel

/-- **The `processes` scheduler executes what the in-process schedulers execute**: shipping every instruction of a
table of accepted builders through its pickle changes nothing, so the run delivers the very same values. -/
theorem C02_processes (code : Instance → Actor) (A : Option Assets) (T : PTable) (h : T.valid = true) :
    T.ship = some T ∧ runDaskProcesses code A T = runDaskLocal code A T :=
  ⟨PTable.ship_valid h, runDaskProcesses_eq code A h⟩

/-- **Every back-end evaluates the table with the actors its builders configure.** For a table of accepted builders
whose actors can be instantiated (`T.lower code = some t`, `code` any naming of the configured instances) and that is
valid: the Dask runner under the in-process schedulers and under `processes` delivers for every sink the value of the
direct dependency-ordered evaluation of `t` - in which every functor is applied by the instance its builder makes -
and, if the table is an apply-mode table, so does every call of the single-function runner's expression (which
instantiates the builders once, at construction). -/
theorem C02_builders (code : Instance → Actor) (A : Option Assets) (T : PTable) (t : Table) (r : Key → Nat)
    (hv : T.valid = true) (hl : T.lower code = some t) (h : t.ranked r = true) (hne : t ≠ []) :
    (∃ m, runDaskLocal code A T = .ok m ∧ runDaskProcesses code A T = .ok m ∧
      ∀ k ∈ t.sinks, m.get k = some (Table.value A t t.fuel k) ∧ m.get k = (run A t).get k) ∧
    (t.applyMode A = true → ∃ U hd sink, expression A t = .ok U ∧ t.sinks = [sink] ∧ t.heads = [hd] ∧
      ∀ x, U.run x = valueIn A t hd x t.fuel sink) := by
  constructor
  · obtain ⟨job, hjob, _, hvals, _⟩ := C02_dask A t r h hne
    refine ⟨evalDask A job, ?_, ?_, fun k hk => ⟨(hvals k hk).2, (hvals k hk).1⟩⟩
    · simp [runDaskLocal, hl, runDask, hjob]
    · rw [runDaskProcesses_eq code A hv]
      simp [runDaskLocal, hl, runDask, hjob]
  · intro ham
    exact C02_pyfunc A t r h ham

/-- **The assignment is observable**: two builders that configure different instances (another class, or one
parameter with another value - `None` instead of the default, say) yield different results on the same arguments,
under any injective naming of instances: no back-end may confuse them. -/
theorem C02_builder_observable (code : Instance → Actor) (hinj : ∀ i j, code i = code j → i = j)
    (b1 b2 : Spec) (i1 i2 : Instance) (h1 : b1.call = some i1) (h2 : b2.call = some i2) (hne : i1 ≠ i2)
    (A : Option Assets) (ps : List Preset) (args : List Val) (hp : (reducePresets ps .none args).isSome = true)
    (f1 f2 : Instr) (hf1 : (PInstr.functor b1 .apply ps).lower code = some f1)
    (hf2 : (PInstr.functor b2 .apply ps).lower code = some f2) : exec A f1 args ≠ exec A f2 args := by
  simp only [PInstr.lower, h1, h2, Option.some.injEq] at hf1 hf2
  subst hf1 hf2
  simp only [exec, execFunctor]
  cases hr : reducePresets ps .none args with
  | none => simp [hr] at hp
  | some p =>
    simp only
    intro heq
    injection heq with ha
    exact hne (hinj _ _ ha)

/-- non-vacuity of `C02_builders`: a train-mode table whose trained group is built by `Clip.builder(upper=None)` -/
def exClipTable : PTable :=
  [⟨.uid 0, .functor ⟨⟨0, []⟩, [], []⟩ .apply [], []⟩,
   ⟨.uid 2, .functor ⟨exClip, [], [(0, .none)]⟩ .train [], [.uid 0, .uid 0]⟩,
   ⟨.uid 3, .functor ⟨exClip, [], [(0, .none)]⟩ .apply [.setState], [.uid 2, .uid 0]⟩,
   ⟨.dumper 2, .dumper, [.uid 2]⟩,
   ⟨.committer, .committer, [.dumper 2]⟩]

def exClipRank : Key → Nat
  | .uid 0 => 0 | .uid 2 => 1 | .uid 3 => 2 | .dumper _ => 2 | .committer => 3 | _ => 0

example : exClipTable.valid = true ∧
    (exClipTable.lower (internCode [⟨1, [(0, .none)]⟩])).isSome = true ∧
    ((exClipTable.lower (internCode [⟨1, [(0, .none)]⟩])).map fun t => t.ranked exClipRank) = some true := by decide +kernel

/-- **Merging equally named pure tasks is invisible in the data.** `dask.delayed(leaf, pure=True)` names a task by the
content of the instruction and the names of its argument tasks (`Table.token`); instructions with the same name become
one task whose single result all their consumers receive. The value of an instruction is a function of that name, so
every consumer receives exactly the value of the instruction it asked for. Here the name is built from the instruction
*content itself* (`Table.token`: equal names = equal instructions over equally named arguments); for an arbitrary
content naming see `C02_dask_merged_partial` / `_counterexample` below: equal names must imply equal content. -/
theorem C02_dask_pure_tasks (A : Option Assets) (t : Table) (k₁ k₂ : Key)
    (h : t.token t.fuel k₁ = t.token t.fuel k₂) : Table.value A t t.fuel k₁ = Table.value A t t.fuel k₂ :=
  value_of_token A t t.fuel k₁ k₂ h

/-- the same where it matters for configured actors: the content of a functor is its builder - class, positional and
keyword arguments - and its action chain; only functors that agree in all of that (and hence make the same actor) over
equally named arguments are merged -/
theorem C02_dask_pure_tasks_builders (code : Instance → Actor) (A : Option Assets) (T : PTable) (t : Table)
    (hl : T.lower code = some t) (k₁ k₂ : Key) (h : T.token t.fuel k₁ = T.token t.fuel k₂) :
    Table.value A t t.fuel k₁ = Table.value A t t.fuel k₂ :=
  value_of_token A t t.fuel k₁ k₂ (ptoken_lower hl t.fuel k₁ k₂ h)

/-- non-vacuity: the two equal workers of `[h; a(h); a(h); s(a, a)]` carry the same name, the head does not -/
example : let t : Table := [⟨.uid 0, .functor 0 .apply [], []⟩, ⟨.uid 1, .functor 1 .apply [], [.uid 0]⟩,
                            ⟨.uid 2, .functor 1 .apply [], [.uid 0]⟩, ⟨.uid 3, .functor 3 .apply [], [.uid 1, .uid 2]⟩]
    t.token t.fuel (.uid 1) = t.token t.fuel (.uid 2) := by rfl

/-- the statement for an arbitrary content naming `nm` (dask's `normalize_token` of the instruction object): on every
valid table the graph in which equally named tasks are one task delivers the dependency-ordered value of every sink.
False in general - it needs `nm` to tell instruction contents apart (`C02_dask_merged_partial`); a naming by what a
functor *prints* does not (`C02_dask_merged_counterexample`, `C02_repr_not_injective`). The runner leaves the naming to
dask's default (the pickled content of `Functor(builder, action)`: class, positional and keyword arguments, action
chain), which the harness checks to be injective on the instruction sets it generates. -/
def C02_dask_merged_full : Prop :=
  ∀ (nm : Instr → Nat) (A : Option Assets) (t : Table) (r : Key → Nat), t.ranked r = true →
    ∀ k ∈ t.sinks, Table.valueMerged nm A t t.fuel k = Table.value A t t.fuel k

/-- **Merging equally named tasks is invisible whenever equal names imply equal instruction content** (actor identity
- class and every constructor argument -, action, presets, getter index, loader key): then the merged graph computes
the dependency-ordered value of every instruction, whichever of the equally named instructions dask keeps. -/
theorem C02_dask_merged_partial [DecidableEq N] (nm : Instr → N) (A : Option Assets) (t : Table)
    (hinj : t.namesInjective nm) (k : Key) :
    Table.valueMerged nm A t t.fuel k = Table.value A t t.fuel k :=
  valueMerged_eq A hinj t.fuel k

/-- `nm = id` is the naming whose task names `C02_dask_pure_tasks` compares -/
theorem C02_dask_merged_id (A : Option Assets) (t : Table) (k : Key) :
    Table.valueMerged id A t t.fuel k = Table.value A t t.fuel k :=
  valueMerged_eq A (fun _ _ _ _ h => h) t.fuel k

/-- a naming that forgets which configured instance a functor applies (as a printed builder does when the differing
argument is not printed): two parallel branches over the same result, actors 4001 and 8001 of one class -/
def nmPrinted : Instr → Nat
  | .functor a _ _ => a % 4000
  | _ => 0

def exPrinted : Table :=
  [⟨.uid 0, .functor 0 .apply [], []⟩, ⟨.uid 1, .functor 4001 .apply [], [.uid 0]⟩,
   ⟨.uid 2, .functor 8001 .apply [], [.uid 0]⟩, ⟨.uid 3, .functor 3 .apply [], [.uid 1, .uid 2]⟩]

/-- which actor made the second argument of an `apply` term -/
def secondMaker : Val → Nat
  | .apply _ _ [_, .apply a _ _] => a
  | _ => 0

/-- under the printed naming the two branches are one task: the sink receives the result of actor 4001 twice, the
dependency-ordered evaluation hands it the results of 4001 and 8001 -/
theorem C02_dask_merged_counterexample : ¬ C02_dask_merged_full := by
  intro h
  have h3 := h nmPrinted none exPrinted idRank (by decide +kernel) (.uid 3) (by decide +kernel)
  have : secondMaker (Table.valueMerged nmPrinted none exPrinted exPrinted.fuel (.uid 3)) =
      secondMaker (Table.value none exPrinted exPrinted.fuel (.uid 3)) := by rw [h3]
  exact absurd this (by decide +kernel)

example : exPrinted.ranked idRank = true ∧ exPrinted.sinks = [.uid 3] ∧
    exPrinted.sameName nmPrinted exPrinted.fuel (.uid 1) (.uid 2) = true ∧
    exPrinted.sameName id exPrinted.fuel (.uid 1) (.uid 2) = false := by decide +kernel

/-- **What a builder prints does not determine it**: `Clip.builder(upper=None)` and `Clip.builder()` print the same
(`flow.name` drops `None` keyword arguments) and configure different actors - so a task name derived from the printed
form is not injective on instruction content. -/
theorem C02_repr_not_injective :
    ∃ b₁ b₂ : Spec, b₁.valid = true ∧ b₂.valid = true ∧ b₁.repr = b₂.repr ∧ b₁.call ≠ b₂.call :=
  ⟨⟨exClip, [], [(0, .none)]⟩, ⟨exClip, [], []⟩, by decide +kernel, by decide +kernel, by decide +kernel, by decide +kernel⟩

/-- the property as it would read for the code before the repair: every valid apply-mode table evaluates -/
def C02_pyfunc_legacy_full : Prop :=
  ∀ (A : Option Assets) (t : Table) (r : Key → Nat) (x : Val), t.ranked r = true → t.applyMode A = true →
    Legacy.outcome A t x = none

/-- D1: a head with two consumers — `IndexError: pop from an empty deque` while the expression is constructed -/
theorem C02_pyfunc_legacy_counterexample_fanout_head :
    exHeadFanout.ranked idRank = true ∧ exHeadFanout.applyMode none = true ∧
      Legacy.outcome none exHeadFanout (.input 0) = some .indexError := by decide +kernel

/-- D2: a shared result whose shorter branch comes first in the consumer's argument order — the `Pop` is evaluated
before its `Push`: `IndexError` at call time -/
theorem C02_pyfunc_legacy_counterexample_short_branch_first :
    exShortFirst.ranked idRank = true ∧ exShortFirst.applyMode none = true ∧
      (Legacy.expression none exShortFirst).toOption.isSome = true ∧
      Legacy.outcome none exShortFirst (.input 0) = some .indexError := by decide +kernel

theorem C02_pyfunc_legacy_counterexample : ¬ C02_pyfunc_legacy_full := by
  intro h
  have := h none exHeadFanout idRank (.input 0) (by decide +kernel) (by decide +kernel)
  exact absurd this (by decide +kernel)

end ForML.Flow
