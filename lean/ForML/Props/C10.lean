/-
C10 — Ordinal windows deliver each record as the delivery semantic promises.

For every strictly increasing sequence of bounds and every record ordinal over an arbitrary linearly
ordered type (`Std.IsLinearOrder` + `Std.LawfulOrderLT`: integers, strings, dates, timestamps, floats
without NaN).  All counts come from one closed form, `C10_deliveries_from`: splitting a window at a
bound inside it changes nothing, except that at-least-once delivers a record *at* that bound twice
(`inWindow_glue`); `C10_history` lifts the counts to the positions delivered by a history of launches.
-/
import ForML.Model.Ordinal

set_option linter.unusedSectionVars false

namespace ForML.Ordinal
open Std

theorem C10_table_exactly : onceTable .exactly = (.ge, .lt) := rfl
theorem C10_table_atmost : onceTable .atmost = (.gt, .le) := rfl
theorem C10_table_atleast : onceTable .atleast = (.ge, .le) := rfl

/-- the enum has exactly the three semantics the property names -/
theorem C10_table_members : ∀ s : Once, s ∈ Once.all := by
  intro s; cases s <;> decide

theorem C10_aliases_consistent :
    (∀ p ∈ aliasTable, parseOnce p.1 = .ok p.2) ∧
    (∀ s ∈ Once.all, parseOnce s.name = .ok s) ∧
    (aliasTable.map (·.1)).Nodup := by
  decide +kernel

/-- the first three are the spellings documented in the docstring of `Source.query` -/
theorem C10_aliases_documented :
    parseOnce "atleast" = .ok .atleast ∧ parseOnce "atmost" = .ok .atmost ∧
    parseOnce "exactly" = .ok .exactly ∧ parseOnce "At-Least-Once" = .ok .atleast ∧
    parseOnce "nonsense" = .error .valueError := by
  decide +kernel

private theorem ite_le_one (p : Prop) [Decidable p] : (if p then 1 else 0) ≤ 1 := by
  split <;> decide

section order
variable {α : Type} [LE α] [LT α] [DecidableLE α] [DecidableLT α] [DecidableEq α]
  [IsLinearOrder α] [LawfulOrderLT α]

private theorem inWindow_exactly (lo hi x : α) :
    inWindow .exactly (some lo) (some hi) x = (decide (lo ≤ x) && decide (x < hi)) := rfl
private theorem inWindow_atmost (lo hi x : α) :
    inWindow .atmost (some lo) (some hi) x = (decide (lo < x) && decide (x ≤ hi)) := rfl
private theorem inWindow_atleast (lo hi x : α) :
    inWindow .atleast (some lo) (some hi) x = (decide (lo ≤ x) && decide (x ≤ hi)) := rfl

/- A window is the conjunction of its two sides; what the table contributes is how the two sides of
one bound `b` relate: together they cover the axis, they overlap only under at-least-once and only
in `b`, and each side grows when the bound moves outwards. -/

private theorem inWindow_sides (sem : Once) (lo hi : Option α) (x : α) :
    inWindow sem lo hi x = (inWindow sem lo none x && inWindow sem none hi x) := by
  cases lo <;> cases hi <;> simp only [inWindow, Bool.true_and, Bool.and_true]

private theorem above_mono (sem : Once) (lo : Option α) (b x : α) (hlo : ∀ a ∈ lo, a ≤ b)
    (h : inWindow sem (some b) none x = true) : inWindow sem lo none x = true := by
  cases lo with
  | none => rfl
  | some a =>
    have hab := hlo a rfl
    cases sem <;> simp only [inWindow, onceTable, Cmp.eval, Bool.and_true, decide_eq_true_eq] at h ⊢
    · exact le_trans hab h
    · exact lt_of_le_of_lt hab h
    · exact le_trans hab h

private theorem below_mono (sem : Once) (hi : Option α) (b x : α) (hhi : ∀ c ∈ hi, b ≤ c)
    (h : inWindow sem none (some b) x = true) : inWindow sem none hi x = true := by
  cases hi with
  | none => rfl
  | some c =>
    have hbc := hhi c rfl
    cases sem <;> simp only [inWindow, onceTable, Cmp.eval, Bool.true_and, decide_eq_true_eq] at h ⊢
    · exact lt_of_lt_of_le h hbc
    · exact le_trans h hbc
    · exact le_trans h hbc

private theorem sides_cover (sem : Once) (b x : α) :
    (inWindow sem none (some b) x = true ∨ inWindow sem (some b) none x = true) ∧
    (inWindow sem none (some b) x = true ∧ inWindow sem (some b) none x = true ↔ sem = .atleast ∧ x = b) := by
  cases sem <;>
    simp only [inWindow, onceTable, Cmp.eval, Bool.true_and, Bool.and_true, decide_eq_true_eq, reduceCtorEq,
      false_and, true_and]
  · exact ⟨(Decidable.em (x < b)).imp_right not_lt.mp, iff_false_intro fun h => lt_irrefl (lt_of_lt_of_le h.1 h.2)⟩
  · exact ⟨(Decidable.em (x ≤ b)).imp_right not_le.mp, iff_false_intro fun h => lt_irrefl (lt_of_le_of_lt h.1 h.2)⟩
  · exact ⟨le_total, le_antisymm_iff⟩

/-- `p`, `q`: the outer sides (above `lo`, below `hi`); `u`, `l`: the two sides of the shared bound (below `b`,
above `b`) -/
private theorem glue_bool : ∀ p q u l : Bool, (l = true → p = true) → (u = true → q = true) → (u = true ∨ l = true) →
    (if (p && u) = true then 1 else 0) + (if (l && q) = true then 1 else 0)
      = (if (p && q) = true then 1 else 0) + (if u = true ∧ l = true then 1 else 0) := by
  decide

private theorem inWindow_glue (sem : Once) (lo hi : Option α) (b x : α) (hlo : ∀ a ∈ lo, a ≤ b)
    (hhi : ∀ c ∈ hi, b ≤ c) :
    (if inWindow sem lo (some b) x then 1 else 0) + (if inWindow sem (some b) hi x then 1 else 0)
      = (if inWindow sem lo hi x then 1 else 0) + (if sem = .atleast ∧ x = b then 1 else 0) := by
  rw [inWindow_sides sem lo (some b), inWindow_sides sem (some b) hi, inWindow_sides sem lo hi]
  -- say the extra delivery as "both sides of `b` accept `x`" (`sides_cover`): what is left is a fact about four Booleans
  simp only [← (sides_cover sem b x).2]
  exact glue_bool _ _ _ _ (above_mono sem lo b x hlo) (below_mono sem hi b x hhi) (sides_cover sem b x).1

private theorem head_lt (a : α) (r : List α) (h : StrictInc (a :: r)) : ∀ x ∈ r, a < x := by
  induction r generalizing a with
  | nil => intro x hx; cases hx
  | cons b r ih =>
    intro x hx
    rcases List.mem_cons.mp hx with rfl | hx
    · exact h.1
    · exact lt_trans h.1 (ih b h.2 x hx)

private theorem mem_le_last (a : α) (r : List α) (h : StrictInc (a :: r)) : ∀ x ∈ a :: r, x ≤ last a r := by
  induction r generalizing a with
  | nil => exact fun x hx => le_of_eq (List.mem_singleton.mp hx)
  | cons b r ih =>
    intro x hx
    rcases List.mem_cons.mp hx with rfl | hx
    · exact le_trans (le_of_lt h.1) (ih b h.2 b List.mem_cons_self)
    · exact ih b h.2 x hx

private theorem last_mem (a : α) (r : List α) : last a r ∈ a :: r := by
  induction r generalizing a with
  | nil => exact List.mem_singleton.mpr rfl
  | cons b r ih => exact List.mem_cons_of_mem a (ih b)

/-- the first bound lies below all later ones: prepended to a sequence it is one more bound strictly
inside, and not one the tail counts already (`P`: a side condition on all three counts) -/
private theorem inner_cons (P : Prop) [Decidable P] (b0 b1 : α) (r : List α)
    (h : StrictInc (b0 :: b1 :: r)) (x : α) :
    (if P ∧ x ∈ b1 :: r ∧ x < last b1 r then 1 else 0) + (if P ∧ x = b0 then 1 else 0)
      = if P ∧ x ∈ b0 :: b1 :: r ∧ x < last b1 r then 1 else 0 := by
  by_cases hx : x = b0
  · subst hx
    have h1 : x ∉ b1 :: r := fun hm => lt_irrefl (head_lt x _ h x hm)
    have h2 : x < last b1 r := lt_of_lt_of_le h.1 (mem_le_last b1 r h.2 b1 List.mem_cons_self)
    simp only [h1, h2, and_false, if_false, List.mem_cons_self, and_true, Nat.zero_add]
  · simp only [List.mem_cons (b := b0), hx, false_or, and_false, if_false, Nat.add_zero]

/-- The closed form behind all counting theorems; the window before `b₀` is open below (`lo = none`) or
starts at some `lo ≤ b₀`. -/
theorem C10_deliveries_from (sem : Once) (lo : Option α) (b0 : α) (r : List α) (hlo : ∀ a ∈ lo, a ≤ b0)
    (h : StrictInc (b0 :: r)) (x : α) :
    (if inWindow sem lo (some b0) x then 1 else 0) + deliveries sem (b0 :: r) x
      = (if inWindow sem lo (some (last b0 r)) x then 1 else 0)
        + (if sem = .atleast ∧ x ∈ b0 :: r ∧ x < last b0 r then 1 else 0) := by
  induction r generalizing b0 with
  | nil =>
    have : ¬ (sem = .atleast ∧ x ∈ [b0] ∧ x < last b0 []) :=
      fun ⟨_, hm, hl⟩ => lt_irrefl (List.mem_singleton.mp hm ▸ hl)
    rw [if_neg this]
    rfl
  | cons b1 r ih =>
    have h01 := le_of_lt h.1
    have hg := inWindow_glue sem lo (some b1) b0 x hlo (fun c hc => Option.some.inj hc ▸ h01)
    have hi := ih b1 (fun a ha => le_trans (hlo a ha) h01) h.2
    -- glue the window up to `b₀` onto `(b₀, b₁)`, let the induction hypothesis absorb the rest,
    -- and collect the two extra at-least-once deliveries
    rw [deliveries, ← Nat.add_assoc, hg, Nat.add_right_comm, hi, Nat.add_assoc,
      inner_cons (sem = .atleast) b0 b1 r h x]
    rfl

theorem C10_deliveries (sem : Once) (b0 b1 : α) (r : List α) (h : StrictInc (b0 :: b1 :: r)) (x : α) :
    deliveries sem (b0 :: b1 :: r) x
      = (if inWindow sem (some b0) (some (last b1 r)) x then 1 else 0)
        + (if sem = .atleast ∧ x ∈ b1 :: r ∧ x < last b1 r then 1 else 0) :=
  C10_deliveries_from sem (some b0) b1 r (fun _ ha => Option.some.inj ha ▸ le_of_lt h.1) h.2 x

/-- under exactly-once a record is delivered exactly once if `b₀ ≤ x < bₙ` and not at all otherwise -/
theorem C10_exactly (b0 : α) (r : List α) (h : StrictInc (b0 :: r)) (x : α) :
    deliveries .exactly (b0 :: r) x = if b0 ≤ x ∧ x < last b0 r then 1 else 0 := by
  cases r with
  | nil => exact (if_neg fun ⟨h1, h2⟩ => lt_irrefl (lt_of_le_of_lt h1 h2)).symm
  | cons b1 r =>
    rw [C10_deliveries .exactly b0 b1 r h x, inWindow_exactly]
    simp only [reduceCtorEq, false_and, if_false, Nat.add_zero, Bool.and_eq_true, decide_eq_true_eq]
    rfl

/-- under at-most-once a record is delivered exactly once if `b₀ < x ≤ bₙ` and not at all otherwise -/
theorem C10_atmost (b0 : α) (r : List α) (h : StrictInc (b0 :: r)) (x : α) :
    deliveries .atmost (b0 :: r) x = if b0 < x ∧ x ≤ last b0 r then 1 else 0 := by
  cases r with
  | nil => exact (if_neg fun ⟨h1, h2⟩ => lt_irrefl (lt_of_lt_of_le h1 h2)).symm
  | cons b1 r =>
    rw [C10_deliveries .atmost b0 b1 r h x, inWindow_atmost]
    simp only [reduceCtorEq, false_and, if_false, Nat.add_zero, Bool.and_eq_true, decide_eq_true_eq]
    rfl

theorem C10_atmost_never_twice (b : List α) (h : StrictInc b) (x : α) :
    deliveries .atmost b x ≤ 1 := by
  cases b with
  | nil => exact Nat.zero_le 1
  | cons b0 r => exact C10_atmost b0 r h x ▸ ite_le_one _

theorem C10_interior_eq (b0 : α) (r : List α) (h : StrictInc (b0 :: r)) (x : α) :
    interiorHits (b0 :: r) x = if x ∈ r ∧ x < last b0 r then 1 else 0 := by
  induction r generalizing b0 with
  | nil => exact (if_neg fun hx => nomatch hx.1).symm
  | cons b1 r ih =>
    cases r with
    | nil => exact (if_neg fun ⟨hm, hl⟩ => lt_irrefl (List.mem_singleton.mp hm ▸ hl)).symm
    | cons b2 r =>
      rw [interiorHits, ih b1 h.2, Nat.add_comm]
      have := inner_cons True b1 b2 r h.2 x
      simp only [true_and] at this
      exact this

/-- under at-least-once (at least one window): one delivery for being inside `[b₀, bₙ]` plus one for each
interior bound equal to `x` -/
theorem C10_atleast (b0 b1 : α) (r : List α) (h : StrictInc (b0 :: b1 :: r)) (x : α) :
    deliveries .atleast (b0 :: b1 :: r) x
      = (if b0 ≤ x ∧ x ≤ last b1 r then 1 else 0) + interiorHits (b0 :: b1 :: r) x := by
  rw [C10_deliveries .atleast b0 b1 r h x, inWindow_atleast, C10_interior_eq b0 (b1 :: r) h x]
  simp only [true_and, Bool.and_eq_true, decide_eq_true_eq]
  rfl

theorem C10_interior_le_one (b : List α) (h : StrictInc b) (x : α) : interiorHits b x ≤ 1 := by
  cases b with
  | nil => exact Nat.zero_le 1
  | cons b0 r => exact C10_interior_eq b0 r h x ▸ ite_le_one _

/-- only a record whose ordinal *is* a bound (other than the first and the last one) is hit -/
theorem C10_interior_mem (b0 : α) (r : List α) (h : StrictInc (b0 :: r)) (x : α)
    (hx : 0 < interiorHits (b0 :: r) x) : x ∈ r ∧ b0 < x ∧ x < last b0 r := by
  rw [C10_interior_eq b0 r h x] at hx
  split at hx
  · rename_i hin
    exact ⟨hin.1, head_lt b0 r h x hin.1, hin.2⟩
  · omega

theorem C10_interior_hit (b0 : α) (r : List α) (h : StrictInc (b0 :: r)) (x : α)
    (hm : x ∈ r) (hl : x < last b0 r) : interiorHits (b0 :: r) x = 1 := by
  rw [C10_interior_eq b0 r h x, if_pos ⟨hm, hl⟩]

/-- never zero times under at-least-once for a record inside `[b₀, bₙ]`; never more than twice;
twice only for a record whose ordinal equals an interior bound -/
theorem C10_atleast_bounds (b0 b1 : α) (r : List α) (h : StrictInc (b0 :: b1 :: r)) (x : α) :
    (b0 ≤ x ∧ x ≤ last b1 r → 1 ≤ deliveries .atleast (b0 :: b1 :: r) x) ∧
    deliveries .atleast (b0 :: b1 :: r) x ≤ 2 ∧
    (2 ≤ deliveries .atleast (b0 :: b1 :: r) x → x ∈ b1 :: r ∧ b0 < x ∧ x < last b1 r) := by
  rw [C10_atleast b0 b1 r h x]
  have hle := C10_interior_le_one (b0 :: b1 :: r) h x
  refine ⟨fun hin => ?_, Nat.add_le_add (ite_le_one _) hle, fun h2 => C10_interior_mem b0 (b1 :: r) h x ?_⟩
  · rw [if_pos hin]; exact Nat.le_add_right 1 _
  · exact Nat.pos_of_ne_zero fun h0 => by
      rw [h0] at h2
      exact absurd (Nat.le_trans h2 (ite_le_one _)) (by decide)

private theorem inWindow_between (sem : Once) (lo hi x : α) :
    (lo < x → x < hi → inWindow sem (some lo) (some hi) x = true) ∧
    (inWindow sem (some lo) (some hi) x = true → lo ≤ x ∧ x ≤ hi) := by
  cases sem <;> simp only [inWindow, onceTable, Cmp.eval, Bool.and_eq_true, decide_eq_true_eq]
  · exact ⟨fun h1 h2 => ⟨le_of_lt h1, h2⟩, fun h => ⟨h.1, le_of_lt h.2⟩⟩
  · exact ⟨fun h1 h2 => ⟨h1, le_of_lt h2⟩, fun h => ⟨le_of_lt h.1, h.2⟩⟩
  · exact ⟨fun h1 h2 => ⟨le_of_lt h1, le_of_lt h2⟩, id⟩

/-- a record strictly inside the covered range whose ordinal is not a bound is delivered exactly once
under all three semantics (only bound-valued records can be duplicated or dropped) -/
theorem C10_only_bounds (sem : Once) (b0 b1 : α) (r : List α) (h : StrictInc (b0 :: b1 :: r))
    (x : α) (hlo : b0 < x) (hhi : x < last b1 r) (hn : x ∉ b0 :: b1 :: r) :
    deliveries sem (b0 :: b1 :: r) x = 1 := by
  rw [C10_deliveries sem b0 b1 r h x, if_pos ((inWindow_between sem b0 _ x).1 hlo hhi),
    if_neg fun hx => hn (List.mem_cons_of_mem b0 hx.2.1)]

/-- a record outside `[b₀, bₙ]` is never delivered, whatever the semantic -/
theorem C10_outside (sem : Once) (b0 : α) (r : List α) (h : StrictInc (b0 :: r)) (x : α)
    (hx : x < b0 ∨ last b0 r < x) : deliveries sem (b0 :: r) x = 0 := by
  cases r with
  | nil => rfl
  | cons b1 r =>
    have hout : ¬ (b0 ≤ x ∧ x ≤ last b1 r) := fun ⟨h1, h2⟩ =>
      hx.elim (fun hx => lt_irrefl (lt_of_lt_of_le hx h1)) (fun hx => lt_irrefl (lt_of_lt_of_le hx h2))
    rw [C10_deliveries sem b0 b1 r h x, if_neg fun hw => hout ((inWindow_between sem b0 _ x).2 hw),
      if_neg fun hi => hout ⟨le_of_lt (head_lt b0 _ h x hi.2.1), le_of_lt hi.2.2⟩]

/-- **only records whose ordinal equals a bound may be duplicated or dropped**: whenever a record
inside `[b₀, bₙ]` is not delivered exactly once, its ordinal is one of the bounds -/
theorem C10_anomaly_only_at_bounds (sem : Once) (b0 b1 : α) (r : List α)
    (h : StrictInc (b0 :: b1 :: r)) (x : α) (hlo : b0 ≤ x) (hhi : x ≤ last b1 r)
    (hne : deliveries sem (b0 :: b1 :: r) x ≠ 1) : x ∈ b0 :: b1 :: r :=
  Classical.byContradiction fun hn =>
    hne (C10_only_bounds sem b0 b1 r h x
      (lt_of_le_of_ne hlo fun e => hn (e ▸ List.mem_cons_self))
      (lt_of_le_of_ne hhi fun e => hn (e ▸ List.mem_cons_of_mem b0 (last_mem b1 r))) hn)

/-- a missing bound imposes no constraint on that side -/
theorem C10_open_side (sem : Once) (b x : α) :
    inWindow sem none none x = true ∧
    inWindow sem (some b) none x = (onceTable sem).1.eval x b ∧
    inWindow sem none (some b) x = (onceTable sem).2.eval x b :=
  ⟨rfl, Bool.and_true _, Bool.true_and _⟩

theorem C10_open_count (sem : Once) (b0 : α) (r : List α) (h : StrictInc (b0 :: r)) (x : α) :
    deliveriesOpen sem b0 r x = 1 + if sem = .atleast ∧ x ∈ b0 :: r then 1 else 0 := by
  have hg := inWindow_glue sem none none (last b0 r) x nofun nofun
  -- the last bound, or an earlier one: every bound is one or the other
  have hb : (if sem = .atleast ∧ x = last b0 r then 1 else 0)
      + (if sem = .atleast ∧ x ∈ b0 :: r ∧ x < last b0 r then 1 else 0)
      = if sem = .atleast ∧ x ∈ b0 :: r then 1 else 0 := by
    by_cases hx : x = last b0 r
    · simp only [hx, lt_irrefl, and_false, if_false, Nat.add_zero, last_mem b0 r, and_true]
    · have hm : x ∈ b0 :: r → x < last b0 r := fun hm => lt_of_le_of_ne (mem_le_last b0 r h x hm) hx
      simp only [hx, and_false, if_false, Nat.zero_add, and_iff_left_of_imp hm]
  rw [deliveriesOpen, C10_deliveries_from sem none b0 r nofun h x, Nat.add_right_comm, hg, Nat.add_assoc, hb]
  rfl

/-- with an open first and an open last window the launches tile the whole axis: exactly-once and
at-most-once deliver *every* record exactly once, at-least-once delivers every record once plus
once more for each bound it equals -/
theorem C10_open_tiling (b0 : α) (r : List α) (h : StrictInc (b0 :: r)) (x : α) :
    deliveriesOpen .exactly b0 r x = 1 ∧ deliveriesOpen .atmost b0 r x = 1 ∧
    1 ≤ deliveriesOpen .atleast b0 r x := by
  simp only [C10_open_count _ b0 r h x, reduceCtorEq, false_and, if_false, true_and]
  omega

end order

section chain
variable {α : Type}

/-- **window chaining**: trainings launched without explicit lower bound extract consecutive
windows — from a tag without ordinal the first window is open below, then each training starts
where the previous one ended -/
theorem C10_train_chain (u : Raw α) (us : List (Raw α)) :
    trainChain none (u :: us) = (none, some u) :: consecutive (u :: us) ∧
    ∀ t : Raw α, trainChain (some t) (u :: us) = consecutive (t :: u :: us) := by
  have key : ∀ (us : List (Raw α)) (t : Raw α), trainChain (some t) us = consecutive (t :: us) := by
    intro us
    induction us with
    | nil => exact fun _ => rfl
    | cons v r ih => exact fun t => congrArg (_ :: ·) (ih v)
  exact ⟨congrArg (_ :: ·) (key us u), key _⟩

private theorem length_trainChain (tag : Option (Raw α)) (us : List (Raw α)) :
    (trainChain tag us).length = us.length := by
  induction us generalizing tag with
  | nil => rfl
  | cons u r ih => exact congrArg (· + 1) (ih (some u))

end chain

section prepared
variable {α : Type} [LE α] [LT α] [DecidableLE α] [DecidableLT α] [DecidableEq α]

/-- every bound that is given can be cast to the column's kind -/
def Castable (k : Kind) (b : Option (Raw α)) : Prop := ∀ r, b = some r → castRule k r.ty ≠ .err

private theorem cast_ok (k : Kind) (r : Raw α) (hr : castRule k r.ty ≠ .err) : cast k r = .ok r.pt := by
  unfold cast
  split
  · rename_i he; exact absurd he hr
  · rfl

/-- the statement produced by `Prepared.__call__` for an ordinal source selects exactly the
records of `inWindow` (bounds whose cast succeeds are interpreted as the point they denote) -/
theorem C10_prepared_window (sem : Once) (k : Kind) (lo hi : Option (Raw α))
    (hlo : Castable k lo) (hhi : Castable k hi) :
    ∃ ts, prepared (some (k, sem)) lo hi = .ok ts ∧
      ∀ x, evalTerms ts x = inWindow sem (lo.map (·.pt)) (hi.map (·.pt)) x := by
  cases lo with
  | none =>
    cases hi with
    | none => exact ⟨[], rfl, fun x => by simp [evalTerms, inWindow]⟩
    | some u =>
      refine ⟨[((onceTable sem).2, u.pt)], ?_, fun x => by simp [evalTerms, inWindow]⟩
      simp [prepared, whereTerms, whereTermsWith, cast_ok k u (hhi u rfl), bind, Except.bind, pure, Except.pure]
  | some l =>
    cases hi with
    | none =>
      refine ⟨[((onceTable sem).1, l.pt)], ?_, fun x => by simp [evalTerms, inWindow]⟩
      simp [prepared, whereTerms, whereTermsWith, cast_ok k l (hlo l rfl), bind, Except.bind, pure, Except.pure]
    | some u =>
      refine ⟨[((onceTable sem).1, l.pt), ((onceTable sem).2, u.pt)], ?_,
        fun x => by simp [evalTerms, inWindow]⟩
      simp [prepared, whereTerms, whereTermsWith, cast_ok k l (hlo l rfl), cast_ok k u (hhi u rfl), bind,
        Except.bind, pure, Except.pure]

/-- a bound that cannot be cast to the column's kind is refused (`CastError`), never ignored -/
theorem C10_uncastable_refused (sem : Once) (k : Kind) (lo hi : Option (Raw α))
    (h : (∃ r, lo = some r ∧ castRule k r.ty = .err) ∨ (∃ r, hi = some r ∧ castRule k r.ty = .err)) :
    prepared (some (k, sem)) lo hi = .error .castError := by
  rcases h with ⟨r, rfl, hr⟩ | ⟨r, rfl, hr⟩
  · simp [prepared, whereTerms, whereTermsWith, cast, hr, bind, Except.bind]
  · cases lo with
    | none => simp [prepared, whereTerms, whereTermsWith, cast, hr, bind, Except.bind, pure, Except.pure]
    | some l =>
      -- the lower bound is cast first; if that fails too, the error is a `CastError` just the same
      cases hl : castRule k l.ty <;>
        simp [prepared, whereTerms, whereTermsWith, cast, hl, hr, bind, Except.bind, pure, Except.pure]

/-- **lower and upper are cast by the same function** (`self.column.kind.cast`): `Ordinal.where`
is the two-parameter construction instantiated with the column kind's cast on *both* sides -/
theorem C10_where_same_cast (sem : Once) (k : Kind) (lo hi : Option (Raw α)) :
    whereTerms sem k lo hi = whereTermsWith sem (cast k) (cast k) lo hi := rfl

/-- hence **consecutive windows share the cast bound**: whatever point `p` the cast makes of a
caller-given bound `r` (it may differ from the value as given: `int(2.5) = 2`), that same `p` is
what closes the window `(…, r)` and what opens the next window `(r, …)` -/
theorem C10_consecutive_share_bound (sem : Once) (k : Kind) (r : Raw α) (p : α)
    (h : cast k r = .ok p) :
    whereTerms sem k none (some r) = .ok [((onceTable sem).2, p)] ∧
    whereTerms sem k (some r) none = .ok [((onceTable sem).1, p)] := by
  simp [whereTerms, whereTermsWith, h, bind, Except.bind, pure, Except.pure]

/-- the term of a bound never depends on which side the *other* bound is or how it is spelt -/
theorem C10_where_sides_independent (sem : Once) (k : Kind) (a b : Raw α) (p q : α)
    (ha : cast k a = .ok p) (hb : cast k b = .ok q) :
    whereTerms sem k (some a) (some b) = .ok [((onceTable sem).1, p), ((onceTable sem).2, q)] := by
  simp [whereTerms, whereTermsWith, ha, hb, bind, Except.bind, pure, Except.pure]

private theorem nodup_deliverIdx (ts : List (Term α)) (data : List α) : (deliverIdx ts data).Nodup :=
  (List.filter_sublist.map _).nodup (List.zipIdx_map_snd 0 data ▸ List.nodup_range' 1)

private theorem mem_deliverIdx (ts : List (Term α)) (data : List α) (i : Nat) :
    i ∈ deliverIdx ts data ↔ ∃ h : i < data.length, evalTerms ts data[i] = true := by
  simp only [deliverIdx, List.mem_map, List.mem_filter, List.mem_zipIdx_iff_getElem?,
    List.getElem?_eq_some_iff]
  constructor
  · rintro ⟨p, ⟨⟨h, hx⟩, hp⟩, rfl⟩
    exact ⟨h, hx ▸ hp⟩
  · rintro ⟨h, hp⟩
    exact ⟨(data[i], i), ⟨⟨h, rfl⟩, hp⟩, rfl⟩

private theorem count_deliverIdx (ts : List (Term α)) (data : List α) (i : Nat) (h : i < data.length) :
    (deliverIdx ts data).count i = if evalTerms ts data[i] then 1 else 0 := by
  rw [(nodup_deliverIdx ts data).count]
  simp only [mem_deliverIdx, h, exists_true_left]

/-- a history of launches whose bounds can all be cast to the column's kind is never refused, has one
result per launch, delivers only positions of the data, and delivers the record at position `i`
exactly as many times as there are windows that accept its ordinal -/
theorem C10_history (sem : Once) (k : Kind) (wins : List (Option (Raw α) × Option (Raw α)))
    (hc : ∀ w ∈ wins, Castable k w.1 ∧ Castable k w.2) (data : List α) :
    ∃ ls, launches (some (k, sem)) wins data = .ok ls ∧ ls.length = wins.length ∧
      (∀ i (h : i < data.length), timesDelivered ls i
        = hits sem (wins.map (fun w => (w.1.map (·.pt), w.2.map (·.pt)))) data[i]) ∧
      (∀ i, data.length ≤ i → timesDelivered ls i = 0) := by
  induction wins with
  | nil => exact ⟨[], rfl, rfl, fun _ _ => rfl, fun _ _ => rfl⟩
  | cons w r ih =>
    obtain ⟨ls, hls, hlen, hin, hout⟩ := ih (fun w' hw' => hc w' (List.mem_cons_of_mem w hw'))
    have hw := hc w List.mem_cons_self
    obtain ⟨ts, hts, hev⟩ := C10_prepared_window sem k w.1 w.2 hw.1 hw.2
    refine ⟨deliverIdx ts data :: ls, ?_, congrArg (· + 1) hlen, fun i h => ?_, fun i h => ?_⟩
    · simp only [launches, launch, hts, hls, Except.map]
    · show (deliverIdx ts data).count i + timesDelivered ls i = _
      rw [count_deliverIdx ts data i h, hev, hin i h]
      rfl
    · show (deliverIdx ts data).count i + timesDelivered ls i = 0
      rw [hout i h, List.count_eq_zero.mpr fun hm =>
        let ⟨h', _⟩ := (mem_deliverIdx ts data i).mp hm; Nat.not_le_of_lt h' h]

/-- a history that is not refused is, window by window, what the launches deliver each on its own -/
theorem launches_ok_map (ord : Option (Kind × Once)) (wins : List (Option (Raw α) × Option (Raw α)))
    (data : List α) (ls : List (List Nat)) (h : launches ord wins data = .ok ls) :
    wins.map (fun w => launch ord w.1 w.2 data) = ls.map .ok := by
  fun_induction launches ord wins data generalizing ls with
  | case1 => cases h; rfl
  | case2 => cases h
  | case3 => cases h
  | case4 w r data l hl ls' hr ih =>
    cases h
    rw [List.map_cons, List.map_cons, hl, ih ls' hr]

/-- a history containing a bound that cannot be cast is refused as a whole (nothing is delivered
under a wrongly interpreted bound) -/
theorem C10_history_refused (sem : Once) (k : Kind) (wins : List (Option (Raw α) × Option (Raw α)))
    (w : Option (Raw α) × Option (Raw α)) (hw : w ∈ wins)
    (h : (∃ r, w.1 = some r ∧ castRule k r.ty = .err) ∨ (∃ r, w.2 = some r ∧ castRule k r.ty = .err))
    (data : List α) : ∃ e, launches (some (k, sem)) wins data = .error e := by
  cases hl : launches (some (k, sem)) wins data with
  | error e => exact ⟨e, rfl⟩
  | ok ls =>
    -- were it not refused, no launch of it would be: but the launch of `w` is
    have hm := List.mem_map_of_mem (f := fun w => launch (some (k, sem)) w.1 w.2 data) hw
    rw [launches_ok_map _ _ _ _ hl, launch, C10_uncastable_refused sem k w.1 w.2 h] at hm
    obtain ⟨l, _, hl'⟩ := List.mem_map.mp hm
    cases hl'

/-- the windows of a chain of trainings from any tag accept `x` as often as the first window
`(tag, u₀)` and the consecutive windows of the upper bounds, read as points -/
private theorem hits_trainChain_pts (sem : Once) (tag : Option (Raw α)) (u : Raw α) (us : List (Raw α)) (x : α) :
    hits sem ((trainChain tag (u :: us)).map fun w => (w.1.map (·.pt), w.2.map (·.pt))) x
      = (if inWindow sem (tag.map (·.pt)) (some u.pt) x then 1 else 0) + deliveries sem ((u :: us).map (·.pt)) x := by
  induction us generalizing tag u with
  | nil => rfl
  | cons v r ih => exact congrArg (_ + ·) (ih (some u) v)

/-- every bound of a chain of trainings is the tag's ordinal or one of the upper bounds -/
private theorem castable_trainChain (k : Kind) (tag : Option (Raw α)) (us : List (Raw α))
    (hc : ∀ q ∈ tag.toList ++ us, castRule k q.ty ≠ .err) :
    ∀ w ∈ trainChain tag us, Castable k w.1 ∧ Castable k w.2 := by
  induction us generalizing tag with
  | nil => intro w hw; cases hw
  | cons u r ih =>
    intro w hw
    rcases List.mem_cons.mp hw with rfl | hw
    · exact ⟨fun q hq => hc q (List.mem_append_left _ (Option.mem_toList.mpr hq)),
        fun q hq => Option.some.inj hq ▸ hc u (List.mem_append_right _ List.mem_cons_self)⟩
    · exact ih (some u) (fun q hq => hc q (List.mem_append_right _ hq)) w hw

end prepared

section records
variable {α : Type} [LE α] [LT α] [DecidableLE α] [DecidableLT α] [DecidableEq α]
  [IsLinearOrder α] [LawfulOrderLT α]

/-- **the property statement per record.**  For every delivery semantic, every
sequence of caller-given bounds `b₀, b₁, …, bₙ` (n ≥ 1) that can be cast to the column's kind and
whose denoted points are strictly increasing, and all data: the history of consecutive launches
`(b₀,b₁), (b₁,b₂), …` is not refused and the record at every position `i` (ordinal `x`) is
delivered `c` times where
* exactly-once: `c = 1` if `b₀ ≤ x < bₙ`, else `c = 0`;
* at-most-once: `c ≤ 1`, and `c = 1` if `b₀ < x ≤ bₙ`;
* at-least-once: `c ≥ 1` if `b₀ ≤ x ≤ bₙ`, `c ≤ 2`;
* any semantic: `c = 0` outside `[b₀, bₙ]`; `c = 1` strictly inside when `x` is not a bound; and
  inside `[b₀, bₙ]`, `c ≠ 1` only if `x` is one of the bounds. -/
theorem C10_records (sem : Once) (k : Kind) (b0 b1 : Raw α) (r : List (Raw α))
    (hc : ∀ q ∈ b0 :: b1 :: r, castRule k q.ty ≠ .err)
    (hinc : StrictInc ((b0 :: b1 :: r).map (·.pt))) (data : List α) :
    ∃ ls, launches (some (k, sem)) (consecutive (b0 :: b1 :: r)) data = .ok ls ∧
      ∀ i (h : i < data.length),
        let x := data[i]
        let c := timesDelivered ls i
        let lo := b0.pt
        let hi := last b1.pt (r.map (·.pt))
        let pts := (b0 :: b1 :: r).map (·.pt)
        (sem = .exactly → c = if lo ≤ x ∧ x < hi then 1 else 0) ∧
        (sem = .atmost → c ≤ 1 ∧ (lo < x ∧ x ≤ hi → c = 1)) ∧
        (sem = .atleast → (lo ≤ x ∧ x ≤ hi → 1 ≤ c) ∧ c ≤ 2) ∧
        (x < lo ∨ hi < x → c = 0) ∧
        (lo < x → x < hi → x ∉ pts → c = 1) ∧
        (lo ≤ x → x ≤ hi → c ≠ 1 → x ∈ pts) := by
  rw [← (C10_train_chain b1 r).2 b0]
  obtain ⟨ls, hls, _, hin, _⟩ := C10_history sem k _ (castable_trainChain k (some b0) (b1 :: r) hc) data
  refine ⟨ls, hls, fun i h => ?_⟩
  intro x c lo hi pts
  have hcount : c = deliveries sem (lo :: b1.pt :: r.map (·.pt)) x :=
    (hin i h).trans (hits_trainChain_pts sem (some b0) b1 r x)
  rw [hcount]
  refine ⟨fun hs => ?_, fun hs => ?_, fun hs => ?_, C10_outside sem lo _ hinc x,
    C10_only_bounds sem lo _ _ hinc x, C10_anomaly_only_at_bounds sem lo _ _ hinc x⟩
  · subst hs
    exact C10_exactly lo _ hinc x
  · subst hs
    exact ⟨C10_atmost_never_twice _ hinc x, fun hx => (C10_atmost lo _ hinc x).trans (if_pos hx)⟩
  · subst hs
    exact ⟨(C10_atleast_bounds lo _ _ hinc x).1, (C10_atleast_bounds lo _ _ hinc x).2.1⟩

end records

/-- why the symmetry matters: if the upper bound were interpreted differently from the lower one
(here: upper left as given, `2.5` standing one rank above `int(2.5) = 2`), two consecutive
exactly-once windows sharing that bound would deliver the record with ordinal `2` twice — the
construction with two different interpretations does *not* satisfy the exactly-once clause -/
theorem C10_asymmetric_cast_counterexample :
    ¬ (∀ (castHi : Raw Int → Except Err Int) (a b c : Raw Int) (x : Int) (ta tb : List (Term Int)),
        whereTermsWith .exactly (cast .integer) castHi (some a) (some b) = .ok ta →
        whereTermsWith .exactly (cast .integer) castHi (some b) (some c) = .ok tb →
        (if evalTerms ta x then 1 else 0) + (if evalTerms tb x then 1 else 0) ≤ 1) := by
  intro h
  have := h (fun r => .ok (r.pt + 1)) ⟨.int, 0, false⟩ ⟨.float, 2, true⟩ ⟨.int, 5, true⟩ 2
    [(.ge, 0), (.lt, 3)] [(.ge, 2), (.lt, 6)] (by decide) (by decide)
  revert this
  decide

/-- **bounds are interpreted in the column's kind**: whatever `kind.cast` hands to the bound
operator is an instance of the kind's Python type: either the value itself, which passed the
`isinstance` test, or a value of the kind's own type -/
theorem C10_cast_in_kind : ∀ (k : Kind) (t t' : PyT), castType k t = some t' → isInstance k t' = true := by
  intro k t t' h
  unfold castType at h
  revert h
  fun_cases castRule k t with
  | case1 hi => intro h; exact Option.some.inj h ▸ hi
  | case2 => intro h; rw [← Option.some.inj h]; cases k <;> rfl
  | case3 => nofun

section refusal
variable {α : Type} [LE α] [LT α] [DecidableLE α] [DecidableLT α] [DecidableEq α]

/-- the statement at full strength, for a given implementation of `Prepared.__call__` -/
def C10_refusal_full
    (prep : Option (Kind × Once) → Option (Raw α) → Option (Raw α) → Except Err (List (Term α))) : Prop :=
  ∀ lo hi : Option (Raw α), (lo.isSome ∨ hi.isSome) → prep none lo hi = .error .unexpectedError

/-- holds for `Prepared.__call__` as it is in /repo (`is not None`) -/
theorem C10_refusal : C10_refusal_full (α := α) prepared :=
  fun _ _ h => if_pos (Bool.or_eq_true _ _ ▸ h)

/-- without bounds a source without ordinal is left alone (no false refusal) -/
theorem C10_refusal_only_bounds : prepared (α := α) none none none = .ok [] := rfl

/-- a history of launches on a source without ordinal is refused as soon as any bound is given -/
theorem C10_refusal_history (w : Option (Raw α) × Option (Raw α)) (h : w.1.isSome ∨ w.2.isSome)
    (r : List (Option (Raw α) × Option (Raw α))) (data : List α) :
    launches none (w :: r) data = .error .unexpectedError := by
  simp [launches, launch, C10_refusal w.1 w.2 h, Except.map]

/-- what the code before the repair (`elif lower or upper`) does guarantee: truthy bounds are refused -/
theorem C10_refusal_legacy_partial (lo hi : Option (Raw α)) (h : truthyOpt lo = true ∨ truthyOpt hi = true) :
    preparedLegacy none lo hi = .error .unexpectedError :=
  if_pos (Bool.or_eq_true _ _ ▸ h)

end refusal

/-- the code before the repair silently ignores a falsy bound such as `0`: witness lower = integer 0 -/
theorem C10_refusal_legacy_counterexample : ¬ C10_refusal_full (α := Int) preparedLegacy := by
  intro h
  have := h (some ⟨.int, 0, false⟩) none (by simp)
  revert this
  decide

section train
variable {α : Type}

/-- the statement at full strength, for a given implementation of `Runner.train`'s choice of the lower bound `f lower
tag.training.ordinal`: an explicit lower bound is kept whatever the tag says, a missing one is the tag's ordinal -/
def C10_train_lower_full (f : Option (Raw α) → Option (Raw α) → Option (Raw α)) : Prop :=
  (∀ (l : Raw α) (tag : Option (Raw α)), f (some l) tag = some l) ∧ (∀ tag, f none tag = tag)

/-- holds for `Runner.train` as it is in /repo (`if lower is None`) -/
theorem C10_train_lower : C10_train_lower_full (α := α) trainLower := ⟨fun _ _ => rfl, fun _ => rfl⟩

/-- what `lower or tag.training.ordinal` does guarantee: a truthy explicit lower bound is kept -/
theorem C10_train_lower_legacy_partial (l : Raw α) (tag : Option (Raw α)) (h : l.truthy = true) :
    trainLowerLegacy (some l) tag = some l := by
  simp [trainLowerLegacy, truthyOpt, h]

end train

/-- `lower or tag.training.ordinal` replaces an explicit `0` by the tag's ordinal -/
theorem C10_train_lower_legacy_counterexample : ¬ C10_train_lower_full (α := Int) trainLowerLegacy := by
  intro h
  have := h.1 ⟨.int, 0, false⟩ (some ⟨.int, 5, true⟩)
  revert this
  decide

section incremental
variable {α : Type} [LE α] [LT α] [DecidableLE α] [DecidableLT α] [DecidableEq α]
  [IsLinearOrder α] [LawfulOrderLT α]

/-- a model trained incrementally from scratch (first tag without
ordinal) with increasing upper bounds `u₀ < u₁ < … < uₙ` and no explicit lower bounds sees, over
the whole history of trainings and any data, every record
* exactly-once: exactly once if `x < uₙ`, not (yet) otherwise;
* at-most-once: exactly once if `x ≤ uₙ`, not (yet) otherwise;
* at-least-once: at least once if `x ≤ uₙ`, at most twice, and twice only if `x` is one of the
  earlier upper bounds. -/
theorem C10_incremental_training (sem : Once) (k : Kind) (u0 : Raw α) (us : List (Raw α))
    (hc : ∀ q ∈ u0 :: us, castRule k q.ty ≠ .err)
    (hinc : StrictInc ((u0 :: us).map (·.pt))) (data : List α) :
    ∃ ls, launches (some (k, sem)) (trainChain none (u0 :: us)) data = .ok ls ∧
      ls.length = (u0 :: us).length ∧
      ∀ i (h : i < data.length),
        let x := data[i]
        let c := timesDelivered ls i
        let hi := last u0.pt (us.map (·.pt))
        (sem = .exactly → c = if x < hi then 1 else 0) ∧
        (sem = .atmost → c = if x ≤ hi then 1 else 0) ∧
        (sem = .atleast → (x ≤ hi → 1 ≤ c) ∧ (hi < x → c = 0) ∧ c ≤ 2 ∧
          (2 ≤ c → x ∈ (u0 :: us).map (·.pt) ∧ x < hi)) := by
  obtain ⟨ls, hls, hlen, hin, _⟩ := C10_history sem k _ (castable_trainChain k none (u0 :: us) hc) data
  refine ⟨ls, hls, hlen.trans (length_trainChain none (u0 :: us)), fun i h => ?_⟩
  intro x c hi
  -- the first window is open below: all windows together deliver like the one window `(None, uₙ)`,
  -- at-least-once once more at an earlier upper bound
  have hcount : c = (if inWindow sem none (some hi) x then 1 else 0)
      + (if sem = .atleast ∧ x ∈ (u0 :: us).map (·.pt) ∧ x < hi then 1 else 0) :=
    ((hin i h).trans (hits_trainChain_pts sem none u0 us x)).trans
      (C10_deliveries_from sem none u0.pt (us.map (·.pt)) nofun hinc x)
  rw [hcount]
  refine ⟨fun hs => ?_, fun hs => ?_, fun hs => ?_⟩
  all_goals
    subst hs
    simp only [inWindow, onceTable, Cmp.eval, Bool.true_and, decide_eq_true_eq, reduceCtorEq, false_and,
      true_and, if_false, Nat.add_zero]
  -- that settles exactly-once and at-most-once: the count is the indicator of the one window
  refine ⟨fun hx => ?_, fun hx => ?_, Nat.add_le_add (ite_le_one _) (ite_le_one _), fun h2 => ?_⟩
  · rw [if_pos hx]; exact Nat.le_add_right 1 _
  · rw [if_neg (not_le.mpr hx), if_neg fun hm => lt_irrefl (lt_trans hx hm.2)]
  · exact Decidable.byContradiction fun hm => by
      rw [if_neg hm] at h2
      exact absurd (Nat.le_trans h2 (ite_le_one _)) (by decide)

end incremental

/-- a delivery semantic without an ordinal column is refused; with an ordinal the default is
exactly-once -/
theorem C10_extract_once (s : String) (hs : s ≠ "") :
    extractOrdinal false (some s) = .error .invalidError ∧
    extractOrdinal true none = .ok (some .exactly) ∧ extractOrdinal false none = .ok none := by
  simp [extractOrdinal, hs, ordinalOnce, Except.map]

example : StrictInc ([-3, 0, 2, 7] : List Int) := by decide +kernel
example : deliveries .exactly ([-3, 0, 2, 7] : List Int) 0 = 1 := by decide +kernel
example : deliveries .atmost ([-3, 0, 2, 7] : List Int) (-3) = 0 := by decide +kernel
example : deliveries .atleast ([-3, 0, 2, 7] : List Int) 2 = 2 := by decide +kernel
example : deliveries .atleast ([-3, 0, 2, 7] : List Int) 7 = 1 := by decide +kernel
example : interiorHits ([-3, 0, 2, 7] : List Int) 2 = 1 := by decide +kernel
example : deliveriesOpen .atleast (-3 : Int) [0, 2, 7] 7 = 2 := by decide +kernel
example : deliveriesOpen .atmost (-3 : Int) [0, 2, 7] 100 = 1 := by decide +kernel
example : launch (some (.integer, .atleast)) (some ⟨.strGood, (0 : Int), true⟩) (some ⟨.int, 2, true⟩) [5, 0, 1, 2, -1]
    = .ok [1, 2, 3] := by decide +kernel
example : launch none (some ⟨.int, (0 : Int), false⟩) none [1] = .error .unexpectedError := by decide +kernel
example : launch (some (.integer, .exactly)) (some ⟨.date, (0 : Int), true⟩) none [1] = .error .castError := by decide +kernel
example : castRule .timestamp .date = .conv ∧ castRule .date .datetime = .same := by decide +kernel
-- the hypotheses of C10_records / C10_incremental_training are satisfiable by non-trivial objects,
-- and the histories they talk about deliver what the theorems say (two records with ordinal 2)
example : launches (some (.integer, .atleast))
    (consecutive [(⟨.int, (0 : Int), false⟩ : Raw Int), ⟨.strGood, 2, true⟩, ⟨.float, 5, true⟩]) [2, 7, 0, 2, 5]
    = .ok [[0, 2, 3], [0, 3, 4]] := by decide +kernel
example : launches (some (.integer, .exactly))
    (trainChain none [(⟨.int, (0 : Int), false⟩ : Raw Int), ⟨.int, 2, true⟩, ⟨.int, 5, true⟩]) [2, 7, 0, 2, 5, -4]
    = .ok [[5], [2], [0, 3]] := by decide +kernel
example : timesDelivered [[0, 2, 3], [0, 3, 4]] 3 = 2 := by decide +kernel
-- the linear-order hypotheses hold for the types standing for the ordinal kinds
example : IsLinearOrder Int ∧ LawfulOrderLT Int := ⟨inferInstance, inferInstance⟩
example : IsLinearOrder String ∧ LawfulOrderLT String := ⟨inferInstance, inferInstance⟩
example : IsLinearOrder Nat ∧ LawfulOrderLT Nat := ⟨inferInstance, inferInstance⟩

end ForML.Ordinal
