/-
C18 — Persisted metadata and keys read back exactly as written.

The obligations, over the models in ForML.Model.{Tag,Keys,KeysValue,Manifest,ManifestStore,ManifestLoad}.  Nothing is
size-bounded: strings, key sets, release segments, local-version segments, state lists and module maps are arbitrary lists.
-/
import ForML.Lemmas.ListFacts
import ForML.Lemmas.C18Order
import ForML.Lemmas.C18GenKey
import ForML.Lemmas.C18Tag
import ForML.Lemmas.C18Manifest
import ForML.Lemmas.C18Proc
import ForML.Lemmas.C18Load
import ForML.Lemmas.C18Values
import ForML.Lemmas.C18Pep440

namespace ForML.Keys

/-- **listing is strictly sorted** (hence duplicate-free) for every strict total order and every input. -/
theorem C18_listing_sorted {cmp : α → α → Ordering} (h : Lawful cmp) (xs : List α) :
    (listing cmp xs).Pairwise (fun a b => cmp a b = .lt) :=
  foldl_insert_sorted h xs [] List.Pairwise.nil

/-- **listing has exactly the elements of the input** -/
theorem C18_listing_mem {cmp : α → α → Ordering} (h : Lawful cmp) (xs : List α) (x : α) :
    x ∈ listing cmp xs ↔ x ∈ xs := by
  simp [listing, foldl_insert_mem h]

/-- **listing is duplicate-free** -/
theorem C18_listing_nodup {cmp : α → α → Ordering} (h : Lawful cmp) (xs : List α) :
    (listing cmp xs).Nodup := by
  refine (C18_listing_sorted h xs).imp ?_
  intro a b hab e
  subst e
  rw [h.refl] at hab
  cases hab

/-- **"latest" is the maximum**: `last` of a listing is an element of the input and everything else is
strictly below it. -/
theorem C18_listing_last_max {cmp : α → α → Ordering} (h : Lawful cmp) (xs : List α) (m : α)
    (hl : last (listing cmp xs) = .ok m) : m ∈ xs ∧ ∀ x ∈ xs, x = m ∨ cmp x m = .lt := by
  unfold last at hl
  split at hl
  · rename_i y hy
    cases hl
    refine ⟨(C18_listing_mem h xs _).mp (List.mem_of_getLast? hy), ?_⟩
    intro x hx
    exact pairwise_getLast? (C18_listing_sorted h xs) hy x ((C18_listing_mem h xs x).mpr hx)
  · cases hl

/-- `last` raises `Listing.Empty` exactly on an empty input -/
theorem C18_listing_empty {cmp : α → α → Ordering} (h : Lawful cmp) (xs : List α) :
    last (listing cmp xs) = .error .empty ↔ xs = [] := by
  have hnil : listing cmp xs = [] ↔ xs = [] := by
    constructor
    · intro e
      cases xs with
      | nil => rfl
      | cons x r =>
        have := (C18_listing_mem h (x :: r) x).mpr List.mem_cons_self
        rw [e] at this
        cases this
    · intro e
      rw [e]
      rfl
  rw [← hnil, ← List.getLast?_eq_none_iff]
  unfold last
  cases (listing cmp xs).getLast? <;> simp

/-- **the key after the latest generation is unused** -/
theorem C18_listing_next_unused (xs : List Nat) (m : Nat) (hl : last (listing natCmp xs) = .ok m) :
    genNext m ∉ xs := by
  intro hin
  rcases (C18_listing_last_max lawful_nat xs m hl).2 _ hin with e | hlt
  · simp [genNext] at e
  · unfold natCmp genNext at hlt
    split at hlt
    · omega
    · split at hlt <;> cases hlt

/-- non-vacuity: a listing with duplicates -/
example : listing natCmp [3, 1, 3, 2] = [1, 2, 3] ∧ last (listing natCmp [3, 1, 3, 2]) = .ok 3 := by decide +kernel

/-- **generation keys**: a text is accepted exactly when it denotes an integer `>= 1`, and the key is that integer;
rejection is `not an integer` when the text does not parse and `not natural` when it parses below one. -/
theorem C18_genkey (s : List Nat) :
    (∀ k, genKey s = .ok k ↔ ∃ i : Int, parseInt s = some i ∧ 1 ≤ i ∧ i.toNat = k) ∧
    (genKey s = .error .notInteger ↔ parseInt s = none) ∧
    (genKey s = .error .notNatural ↔ ∃ i : Int, parseInt s = some i ∧ i < 1) := by
  unfold genKey genMin
  cases hp : parseInt s with
  | none => simp
  | some i =>
    by_cases hi : i < 1
    · simp [hi]
    · simp [hi]; omega

/-- non-vacuity / examples: `" +1_0 "` is 10, `"0"`, `"-1"` are not natural, `"1__0"`, `""`, `"1.0"` are not integers -/
example : genKey [32, 43, 49, 95, 48, 32] = .ok 10 ∧ genKey [48] = .error .notNatural ∧ genKey [45, 49] = .error .notNatural
    ∧ genKey [49, 95, 95, 48] = .error .notInteger ∧ genKey [] = .error .notInteger ∧ genKey [49, 46, 48] = .error .notInteger := by
  decide +kernel

/-- **a plain digit string is read as its positional value** (leading zeros allowed), and **`Key(str(k)) = k`**: the
decimal text of every natural `k ≥ 1` is accepted as `k`, `str(0)` is rejected — generation keys are the naturals from one. -/
theorem C18_genkey_text :
    (∀ ds : List Nat, ds ≠ [] → (∀ c ∈ ds, isDigit c = true) → parseInt ds = some (Int.ofNat (valOf 0 ds))) ∧
    (∀ n : Nat, genKey (natStr n) = if 1 ≤ n then .ok n else .error .notNatural) :=
  ⟨parseInt_digits, fun n => by
    unfold genKey genMin
    rw [parseInt_natStr]
    by_cases h : 1 ≤ n
    · simp [h]; omega
    · have : n = 0 := by omega
      subst this
      simp⟩

/-- generation keys compare as natural numbers (a strict total order) and `next` is the successor, above the key -/
theorem C18_genkey_order : Lawful natCmp ∧ ∀ k : Nat, natCmp k (genNext k) = .lt := by
  refine ⟨lawful_nat, fun k => ?_⟩
  simp [natCmp, genNext]

/-- **release keys are strictly totally ordered by their comparison key**: irreflexive, transitive, and exactly one of
`a < b`, `key a = key b`, `b < a` holds — for releases and local versions of any length. -/
theorem C18_version_order :
    (∀ a : Version, vcmp a a = .eq) ∧
    (∀ a b c : Version, vcmp a b = .lt → vcmp b c = .lt → vcmp a c = .lt) ∧
    (∀ a b : Version, vcmp a b = .eq ↔ cmpkey a = cmpkey b) ∧
    (∀ a b : Version, vcmp a b = .gt ↔ vcmp b a = .lt) ∧
    (∀ a b : Version, vcmp a b = .lt ∨ cmpkey a = cmpkey b ∨ vcmp b a = .lt) := by
  have h := lawful_cmpKey
  refine ⟨fun a => h.refl _, fun a b c => h.trans _ _ _, fun a b => h.eq_iff _ _, fun a b => h.gt_iff _ _, ?_⟩
  intro a b
  cases hab : vcmp a b with
  | lt => exact Or.inl rfl
  | eq => exact Or.inr (Or.inl ((h.eq_iff _ _).mp hab))
  | gt => exact Or.inr (Or.inr ((h.gt_iff _ _).mp hab))

/-- trailing zeros of the release are insignificant (`1.0.0 == 1`) -/
theorem C18_version_trailing_zero (v : Version) :
    vcmp { v with release := v.release ++ [0] } v = .eq := by
  have : cmpkey { v with release := v.release ++ [0] } = cmpkey v := by
    unfold cmpkey
    simp only [trim_snoc_zero]
  unfold vcmp
  rw [this]
  exact lawful_cmpKey.refl _

/-- **epoch first, then the release segment compared numerically position by position** (`1.9 < 1.10`, `1!0.1 > 99`),
for releases of any length -/
theorem C18_version_epoch_release (a b : Version) :
    (a.epoch < b.epoch → vcmp a b = .lt) ∧
    (a.epoch = b.epoch → listCmp natCmp (trim a.release) (trim b.release) = .lt → vcmp a b = .lt) := by
  obtain ⟨s1, l1, ha⟩ := cmpkey_head a
  obtain ⟨s2, l2, hb⟩ := cmpkey_head b
  unfold vcmp cmpKey
  rw [ha, hb]
  constructor
  · intro h
    simp [prodCmp, natCmp, h]
  · intro h hl
    have : natCmp a.epoch b.epoch = .eq := by rw [h]; exact lawful_nat.refl _
    simp [prodCmp, this, hl]

/-- **PEP 440 ordering rules** within one release `X` (any epoch, any release segment, any numbers):
`X.devN < XaN < XbN < XrcN < X < X.postN`, a dev release of a pre-release sorts before it, and a local version
sorts after its public version. -/
theorem C18_version_rules (e : Nat) (r : List Nat) (n m : Nat) :
    let X (pre : Option (Nat × Nat)) (post dev : Option Nat) (loc : Option (List Seg)) : Version :=
      { epoch := e, release := r, pre := pre, post := post, dev := dev, loc := loc }
    vcmp (X none none (some n) none) (X (some (0, m)) none none none) = .lt ∧
    vcmp (X (some (0, n)) none none none) (X (some (1, m)) none none none) = .lt ∧
    vcmp (X (some (1, n)) none none none) (X (some (2, m)) none none none) = .lt ∧
    vcmp (X (some (2, n)) none none none) (X none none none none) = .lt ∧
    vcmp (X none none none none) (X none (some m) none none) = .lt ∧
    vcmp (X (some (0, n)) none (some m) none) (X (some (0, n)) none none none) = .lt ∧
    vcmp (X none none none none) (X none none none (some [.num m])) = .lt := by
  intro X
  simp only [X, vcmp, cmpkey, cmpKey_same, stableSuffix]
  simp [prodCmp, listCmp, intCmp, optCmp]

/-- numeric, not textual, comparison of release segments: `1.9 < 1.10`; non-vacuity of the order theorem -/
example : vcmp ⟨0, [1, 9], none, none, none, none⟩ ⟨0, [1, 10], none, none, none, none⟩ = .lt ∧
    vcmp ⟨0, [1, 0], none, none, none, none⟩ ⟨0, [1], none, none, none, none⟩ = .eq ∧
    vcmp ⟨0, [1], none, none, none, some [.str [97]]⟩ ⟨0, [1], none, none, none, some [.num 1]⟩ = .lt := by decide +kernel

end ForML.Keys

namespace ForML.Tag

/-- **string ordinals round-trip through the TOML basic-string writer and reader** on the safe region (`safeStr`), at any
length and with any other characters (quotes, backslashes, tabs, newlines, `#`, `=`, non-ASCII …).  Left out: the model
takes every code point from U+0100 on as printable (written raw); non-printable ones, which `repr` writes as `\uXXXX`,
are outside it (finding F3 is checked on the real code only). -/
theorem C18_str_roundtrip (s : List Nat) (h : safeStr s = true) :
    ∃ lit, dumpStr s = .ok lit ∧ loadStr lit = .ok s :=
  ⟨_, (str_roundtrip s h).1, (str_roundtrip s h).2⟩

/-- non-vacuity: a string with quotes, backslashes, apostrophe, tab, newline, `#`, `=`, a non-ASCII letter and `\u`; it is
safe and its literal is what the writer emits -/
example : safeStr [97, 34, 92, 39, 9, 10, 35, 61, 233, 92, 117] = true ∧
    dumpStr [97, 34, 92] = .ok [34, 97, 92, 34, 92, 92, 34] := by decide +kernel

/-- the property at full strength: every tag reads back equal -/
def C18_tag_roundtrip_full : Prop := ∀ t : Tag, ∃ d, dumps t = .ok d ∧ loads d = .ok t

/-- **tags round-trip** for all timestamps (present or absent, both modes — the repaired `loads`), scores, state lists
and every ordinal except `Decimal` (finding F4) and strings outside the safe region (findings F1, F2). -/
theorem C18_tag_roundtrip_partial (t : Tag) (h : safeOrd t.ordinal = true) :
    ∃ d, dumps t = .ok d ∧ loads d = .ok t := by
  obtain ⟨ov, hd, hl⟩ := ordinal_roundtrip t.ordinal h
  exact tag_load_of_ordinal t ov t.ordinal hd hl

/-- **the rest of the tag never depends on the ordinal's kind**: whenever the ordinal itself is written and read back,
so is the whole tag (timestamps present or absent, score, any number of states). -/
theorem C18_tag_roundtrip_of_ordinal (t : Tag) (ov : Option TVal) (hd : dumpOrd? t.ordinal = .ok ov)
    (hl : loadOrd? ov = .ok t.ordinal) : ∃ d, dumps t = .ok d ∧ loads d = .ok t :=
  tag_load_of_ordinal t ov t.ordinal hd hl

/-- **timestamps present or absent** (the repaired D19): a tag without ordinal reads back equal whatever combination of
training / tuning timestamps, score and states it has — in particular the empty tag `Tag()`. -/
theorem C18_tag_timestamps_roundtrip (trainTs tuneTs : Option Ts) (score : Option Num) (states : List Nat) :
    ∃ d, dumps ⟨trainTs, none, tuneTs, score, states⟩ = .ok d ∧ loads d = .ok ⟨trainTs, none, tuneTs, score, states⟩ :=
  C18_tag_roundtrip_partial _ rfl

def ts0 : Ts := ⟨2020, 1, 2, 3, 4, 5, 0, none⟩

/-- non-vacuity: a fully populated tag satisfying the hypothesis -/
example : safeOrd (Tag.mk (some ts0) (some (.str [97, 34, 92, 10])) (some ts0) (some (.float 5)) [1, 2, 3]).ordinal = true := by
  decide +kernel

/-- the code before the repair (C18-X1): `Tag()` is written but `loads` raises `KeyError('timestamp')` -/
theorem C18_tag_unrepaired_counterexample :
    ∃ d, dumps ⟨none, none, none, none, []⟩ = .ok d ∧ loadsStrict d = .error (.keyError .timestamp) :=
  ⟨_, rfl, by decide +kernel⟩

/-- … and that is exactly the difference: the unrepaired reader fails on every written tag without a training
timestamp and agrees with the repaired one on all others -/
theorem C18_tag_unrepaired_exact (t : Tag) (d : Doc) (hd : dumps t = .ok d) :
    loadsStrict d = if t.trainTs.isSome then loads d else .error (.keyError .timestamp) := by
  obtain ⟨trainTs, ordinal, tuneTs, score, states⟩ := t
  unfold dumps at hd
  cases ho : dumpOrd? ordinal with
  | error e => simp [ho] at hd
  | ok ov =>
    simp only [ho, Except.ok.injEq] at hd
    subst hd
    cases trainTs with
    | none =>
      have l1 := (lookup_sect .timestamp .ordinal (by decide) none ov).1
      simp only [loadsStrict, Option.map_none, l1, Option.isSome_none, Bool.false_eq_true, if_false]
    | some ts =>
      have l1 := (lookup_sect .timestamp .ordinal (by decide) (some (.datetime ts)) ov).1
      simp only [loadsStrict, Option.map_some, l1, Option.isSome_some, if_true]

/-- `'a\x01b'` is written as `"ax01b"` and comes back as `'ax01b'`; `'\x85'` raises in the writer; `'a\\xb'` is written
with a reserved escape the reader rejects (known finding C18-F1) -/
theorem C18_tag_string_x_counterexample :
    dumpStr [97, 1, 98] = .ok [34, 97, 120, 48, 49, 98, 34] ∧ loadStr [34, 97, 120, 48, 49, 98, 34] = .ok [97, 120, 48, 49, 98]
    ∧ dumpStr [133] = .error .indexError
    ∧ dumpStr [97, 92, 120, 98] = .ok [34, 97, 92, 120, 98, 34] ∧ loadStr [34, 97, 92, 120, 98, 34] = .error .reserved := by
  decide +kernel

/-- `'"'` is written correctly as `"\""` but comes back empty (known finding C18-F2) -/
theorem C18_tag_string_quotes_counterexample :
    dumpStr [34] = .ok [34, 92, 34, 34] ∧ loadStr [34, 92, 34, 34] = .ok [] ∧
    dumpStr [34, 34, 97] = .ok [34, 92, 34, 92, 34, 97, 34] ∧ loadStr [34, 92, 34, 92, 34, 97, 34] = .ok [] := by
  decide +kernel

/-- **finding F2 is the whole region, not a sample**: every string that is `"` or starts with `""` (outside the `\x`
region) is written, read back without an error, and comes back different — `leadingQuotes` excludes nothing that works -/
theorem C18_tag_string_quotes_exact (s : List Nat) (hx : noXEsc s = true) (hb : hasBX s = false)
    (hq : leadingQuotes s = true) : ∃ lit t, dumpStr s = .ok lit ∧ loadStr lit = .ok t ∧ t ≠ s := by
  refine ⟨34 :: escape s ++ [34], finish (34 :: (s ++ [34])), dumpStr_noBX s (by rw [hasBX_escape s hx]; exact hb), ?_, ?_⟩
  · exact loadStr_quoted s hx
  · intro e
    cases s with
    | nil => cases hq
    | cons a r =>
      -- the triple-quote slice drops six of the `s.length + 2` characters read: what comes back is four shorter than `s`
      have hl := finish_triple_length _ ((looksTriple_quoted a r).trans hq)
      rw [e] at hl
      simp only [List.length_cons, List.length_append, List.length_nil] at hl
      omega

/-- each of the three conditions of `safeStr` is needed: the witnesses of F1 / F2 violate exactly one of them -/
example : (noXEsc [97, 1, 98] = false ∧ hasBX [97, 1, 98] = false ∧ leadingQuotes [97, 1, 98] = false) ∧
    (noXEsc [97, 92, 120, 98] = true ∧ hasBX [97, 92, 120, 98] = true ∧ leadingQuotes [97, 92, 120, 98] = false) ∧
    (noXEsc [34] = true ∧ hasBX [34] = false ∧ leadingQuotes [34] = true) := by decide +kernel

/-- a `Decimal` ordinal comes back as a float (known finding C18-F4) -/
theorem C18_tag_decimal_counterexample :
    ∃ d, dumps ⟨some ts0, some (.decimal [49, 46, 53] 1 4609434218613702656), none, none, []⟩ = .ok d ∧
      loads d = .ok ⟨some ts0, some (.float 4609434218613702656), none, none, []⟩ :=
  ⟨_, rfl, by decide +kernel⟩

/-- **finding F4 is the whole region**: whatever the rest of the tag, a `Decimal` ordinal reads back as the float or
the int of its text and everything else reads back intact -/
theorem C18_tag_decimal_exact (trainTs tuneTs : Option Ts) (score : Option Num) (states text : List Nat) (i : Int) (f : Nat) :
    ∃ d o', dumps ⟨trainTs, some (.decimal text i f), tuneTs, score, states⟩ = .ok d ∧
      loads d = .ok ⟨trainTs, some o', tuneTs, score, states⟩ ∧ (o' = .float f ∨ o' = .int i) := by
  by_cases h : text.any (fun c => c == 46 || c == 101 || c == 69) = true
  · obtain ⟨d, h1, h2⟩ := tag_load_of_ordinal ⟨trainTs, some (.decimal text i f), tuneTs, score, states⟩
      (some (.float f)) (some (.float f)) (by simp only [dumpOrd?, dumpOrdinal, h, if_true]) rfl
    exact ⟨d, .float f, h1, h2, Or.inl rfl⟩
  · obtain ⟨d, h1, h2⟩ := tag_load_of_ordinal ⟨trainTs, some (.decimal text i f), tuneTs, score, states⟩
      (some (.int i)) (some (.int i)) (by simp only [dumpOrd?, dumpOrdinal, h, Bool.false_eq_true, if_false]) rfl
    exact ⟨d, .int i, h1, h2, Or.inr rfl⟩

theorem C18_tag_roundtrip_counterexample : ¬ C18_tag_roundtrip_full := by
  intro h
  obtain ⟨d, hd, hl⟩ := h ⟨some ts0, some (.decimal [49, 46, 53] 1 4609434218613702656), none, none, []⟩
  obtain ⟨d', hd', hl'⟩ := C18_tag_decimal_counterexample
  rw [hd] at hd'
  cases hd'
  rw [hl] at hl'
  cases hl'

end ForML.Tag

namespace ForML.Manifest

/-- **string literals**: a name / version / package over a clean alphabet pasted between double quotes, and a module
path of BMP characters written by `json.dumps` (which escapes `"`, `\`, control characters and everything non-ASCII
as `\uXXXX`), are read back unchanged by Python. -/
theorem C18_manifest_literals (s rest : List Nat) :
    (clean s = true → pyStr (s ++ 34 :: rest) = .ok (s, rest)) ∧
    (bmp s = true → pyStr (jstr s ++ 34 :: rest) = .ok (s, rest)) :=
  ⟨pyStr_clean s rest, pyStr_jstr s rest⟩

/-- the module map alone: any number of entries, insertion order kept -/
theorem C18_manifest_modules (m : List (List Nat × List Nat)) (h : bmpPairs m = true) : pyDict (jdict m) = .ok m := by
  cases m with
  | nil => simp [jdict, pyDict, pyDictBody]
  | cons kv r =>
    obtain ⟨k, v⟩ := kv
    simp only [bmpPairs, List.all_cons, Bool.and_eq_true] at h
    obtain ⟨⟨hk, hv⟩, hr⟩ := h
    have hne : (jitem k v (jrest r) == [125]) = false := rfl
    have hlen : r.length < (jitem k v (jrest r)).length :=
      Nat.lt_trans (jrest_length r) (jitem_length k v (jrest r))
    simp only [jdict, pyDict, expect_cons_self, expect_nil, pyDictBody, hne, Bool.false_eq_true, if_false]
    exact pyItems_jitem k v r hk hv (by simpa [bmpPairs] using hr) _ hlen

/-- the statement for arbitrary module-map strings (names, versions, packages clean) -/
def C18_manifest_roundtrip_full : Prop :=
  ∀ m : Manifest, clean m.name = true → clean m.version = true → clean m.package = true → read (render m) = .ok m

/-- **manifests round-trip**: `read (write m) = m` for names / versions / packages without `"`, `\`, line breaks and
module maps (any number of entries, insertion order kept) whose keys and values are BMP text — quotes, backslashes,
control characters and non-ASCII letters included; only characters beyond U+FFFF are excluded (finding F5). -/
theorem C18_manifest_roundtrip_partial (m : Manifest) (h : legal m = true) : read (render m) = .ok m := by
  obtain ⟨name, version, package, modules⟩ := m
  simp only [legal, Bool.and_eq_true] at h
  obtain ⟨⟨⟨hn, hv⟩, hp⟩, hm⟩ := h
  unfold read render
  simp only [expect_append, pyStr_clean name _ hn, pyStr_clean version _ hv, pyStr_clean package _ hp,
    C18_manifest_modules modules hm]

/-- manifests over the legal alphabets of names (PEP 503), versions (PEP 440 normal form) and dotted packages read back -/
theorem C18_manifest_legal_alphabet (m : Manifest) (hn : m.name.all nameChar = true) (hv : m.version.all nameChar = true)
    (hp : m.package.all nameChar = true) (hm : bmpPairs m.modules = true) : read (render m) = .ok m := by
  apply C18_manifest_roundtrip_partial
  simp only [legal, clean_of_nameChars _ hn, clean_of_nameChars _ hv, clean_of_nameChars _ hp, hm, Bool.and_self]

/-- non-vacuity: a manifest with a three-entry module map containing a quote, a backslash, a newline and `é` -/
example : legal ⟨[102, 111, 111], [49, 46, 48, 114, 99, 49], [97, 46, 98],
    [([115], [120, 46, 121]), ([112], [97, 34, 98, 10]), ([101], [92, 233])]⟩ = true := by decide +kernel

/-- a module path with a character outside the BMP reads back as two surrogates (known finding C18-F5) -/
theorem C18_manifest_nonbmp_witness :
    (read (render ⟨[112], [49], [97], [([115], [119857])]⟩)).map (·.modules) = .ok [([115], [55349, 56369])] := by
  decide +kernel

/-- **finding F5 is the whole region**: every Unicode scalar value beyond the BMP, written by `json.dumps` as a surrogate
pair, is read back by Python as two code units — `bmp` excludes nothing that works -/
theorem C18_manifest_nonbmp_exact (c : Nat) (h : astral c = true) (rest : List Nat) :
    ∃ t, pyStr (jstr [c] ++ 34 :: rest) = .ok (t, rest) ∧ t ≠ [c] := by
  simp only [astral, Bool.and_eq_true, decide_eq_true_eq] at h
  refine ⟨utf16 c, ?_, ?_⟩
  · rw [jstr, jstr, List.append_nil, pyStr_jesc c h.2, pyStr_quote, push_ok, List.append_nil]
  · rw [utf16, if_neg (by omega)]
    simp

theorem C18_manifest_nonbmp_counterexample : ¬ C18_manifest_roundtrip_full := by
  intro h
  have h1 := h ⟨[112], [49], [97], [([115], [119857])]⟩ (by decide +kernel) (by decide +kernel) (by decide +kernel)
  have h2 := C18_manifest_nonbmp_witness
  rw [h1] at h2
  revert h2
  decide +kernel

/-- outside the legal alphabet the failure is characterised: a name with `\\` silently changes, one with `"` breaks the
module -/
theorem C18_manifest_illegal_name :
    (read (render ⟨[102, 92, 92, 111], [49], [97], []⟩)).map (·.name) = .ok [102, 92, 111] ∧
    read (render ⟨[102, 34, 111], [49], [97], []⟩) = .error .syntax := by
  decide +kernel

end ForML.Manifest

namespace ForML.Keys

/-- `int()` reads a text only over white space, digits, underscore and sign: anything else anywhere makes the key invalid -/
theorem C18_genkey_alphabet (s : List Nat) (c : Nat) (hc : c ∈ s) (hb : intChar c = false) :
    genKey s = .error .notInteger := by
  unfold genKey
  cases hp : parseInt s with
  | none => rfl
  | some i =>
    have := parseInt_chars s i hp c hc
    rw [hb] at this
    cases this

/-- **invalid generation keys are rejected, whatever their Python type**: `Generation.Key(value)` looks at `str(value)`.
A float is given by its `repr`; that every `repr(float)` has a `.`, an `e` or an `n` is not modelled, it is the hypothesis
`floatShape`. -/
theorem C18_genkey_values :
    (∀ i : Int, genKeyV (.int i) = if 1 ≤ i then .ok i.toNat else .error .notNatural) ∧
    (∀ b : Bool, genKeyV (.bool b) = .error .notInteger) ∧
    genKeyV .none = .error .notInteger ∧
    (∀ r : List Nat, genKeyV (.bytes r) = .error .notInteger) ∧
    (∀ r : List Nat, genKeyV (.tuple r) = .error .notInteger) ∧
    (∀ r : List Nat, floatShape r = true → genKeyV (.float r) = .error .notInteger) ∧
    (∀ s : List Nat, genKeyV (.str s) = genKey s) :=
  ⟨fun i => by
      unfold genKeyV genKey genMin pyStr
      rw [parseInt_intStr]
      by_cases h : 1 ≤ i
      · simp [h]
      · simp [h],
    fun b => by
      cases b
      · exact C18_genkey_alphabet _ 70 (by simp [pyStr]) (by decide)
      · exact C18_genkey_alphabet _ 84 (by simp [pyStr]) (by decide),
    C18_genkey_alphabet _ 78 (by simp [pyStr]) (by decide),
    fun r => C18_genkey_alphabet _ 98 (by simp [pyStr]) (by decide),
    fun r => C18_genkey_alphabet _ 40 (by simp [pyStr]) (by decide),
    fun r h => by
      unfold floatShape at h
      rw [List.any_eq_true] at h
      obtain ⟨c, hc, hp⟩ := h
      apply C18_genkey_alphabet _ c hc
      simp only [Bool.or_eq_true, beq_iff_eq] at hp
      rcases hp with (e | e) | e <;> subst e <;> decide,
    fun _ => rfl⟩

/-- non-vacuity: `1.5`, `2.0`, `1e+16`, `inf`, `nan` have the float shape; `True` is rejected, `7` accepted, `0` and `-3` not natural -/
example : floatShape [49, 46, 53] = true ∧ floatShape [50, 46, 48] = true ∧ floatShape [49, 101, 43, 49, 54] = true ∧
    floatShape [105, 110, 102] = true ∧ floatShape [110, 97, 110] = true ∧
    genKeyV (.bool true) = .error .notInteger ∧ genKeyV (.int 7) = .ok 7 ∧ genKeyV (.int 0) = .error .notNatural ∧
    genKeyV (.int (-3)) = .error .notNatural ∧ genKeyV (.float [49, 46, 53]) = .error .notInteger := by decide +kernel

/-- **values that are not versions are rejected by `Release.Key`**: `bool`, `None`, `bytes`, tuples and negative ints — a
PEP 440 text starts (after white space and an optional `v`) with a digit -/
theorem C18_relkey_values :
    (∀ b : Bool, relKeyV (.bool b) = none) ∧ relKeyV .none = none ∧ (∀ r : List Nat, relKeyV (.bytes r) = none) ∧
    (∀ r : List Nat, relKeyV (.tuple r) = none) ∧ (∀ n : Nat, relKeyV (.int (Int.negSucc n)) = none) ∧
    (∀ (c : Nat) (r : List Nat), isSpaceU c = false → (lower c == 118) = false → isDigit c = false → vparse (c :: r) = none) :=
  ⟨fun b => by
      cases b
      · exact vparse_bad_head 70 _ (by decide) (by decide) (by decide)
      · exact vparse_bad_head 84 _ (by decide) (by decide) (by decide),
    vparse_bad_head 78 _ (by decide) (by decide) (by decide),
    fun r => vparse_bad_head 98 _ (by decide) (by decide) (by decide),
    fun r => vparse_bad_head 40 _ (by decide) (by decide) (by decide),
    fun n => vparse_bad_head 45 _ (by decide) (by decide) (by decide),
    vparse_bad_head⟩

/-- **`Release.Key(str(k)) == k`**: the normalised text `str(v)` of every well-formed version (a release, pre kind a/b/rc,
local parts non-empty lower-case alphanumeric and not all digits) is parsed back to exactly the same fields — for releases
and local versions of any length; so a key made from a `Version` / `Release.Key` object, and a key made from a
non-negative `int`, are accepted as that version -/
theorem C18_version_str_roundtrip :
    (∀ v : Version, wfVersion v = true → vparse (vstr v) = some v) ∧
    (∀ v : Version, wfVersion v = true → relKeyV (.version v) = some v) ∧
    (∀ n : Nat, vparse (pyStr (.int (Int.ofNat n))) = some ⟨0, [n], none, none, none, none⟩) := by
  refine ⟨vparse_vstr, vparse_vstr, fun n => ?_⟩
  have := vparse_vstr ⟨0, [n], none, none, none, none⟩ rfl
  show vparse (natStr n) = _
  simpa [vstr, joinWith] using this

/-- non-vacuity: a version with every part is well-formed; its text is what `packaging` prints -/
example : wfVersion ⟨1, [2, 0], some (2, 1), some 2, some 0, some [.str [117, 98], .num 1]⟩ = true ∧
    vstr ⟨1, [2, 0], some (2, 1), some 2, some 0, some [.str [117, 98], .num 1]⟩ =
      [49, 33, 50, 46, 48, 114, 99, 49, 46, 112, 111, 115, 116, 50, 46, 100, 101, 118, 48, 43, 117, 98, 46, 49] := by decide +kernel

/-- non-vacuity of the text parser: every spelling group of PEP 440 (`v` prefix, epoch, `-rc.1`, implicit post `-2`,
`dev`, local version with mixed separators and case) -/
example : vparse [32, 86, 49, 33, 50, 46, 48, 45, 82, 67, 46, 49, 45, 50, 46, 100, 101, 118, 43, 85, 98, 45, 49, 95, 120, 10] =
    some ⟨1, [2, 0], some (2, 1), some 2, some 0, some [.str [117, 98], .num 1, .str [120]]⟩ ∧
    vparse [49, 46, 48, 97, 46] = some ⟨0, [1, 0], some (0, 0), none, none, none⟩ ∧
    vparse [49, 46, 48, 43] = none ∧ vparse [49, 46, 46, 48] = none ∧ vparse [49, 46, 48, 97, 108, 112, 104] = none := by decide +kernel

end ForML.Keys

namespace ForML.Store

/-- the statement at full strength: in one process, whatever sequence of `Manifest.write`, `Package.create`,
`Package.install`, `Manifest.read` and removals is run on a set of locations, with or without bytecode files, every
observation is that of the logical store `Path → Content` (every read returns the last write to that path) -/
def C18_store_read_your_writes_full : Prop :=
  ∀ (bc : Bool) (h : List Op), (prun bc Store.empty Memo.empty h).2.2 = (lrun (abs Store.empty) h).2

/-- **refinement with the finder cache**: from a fresh store and a consistent cache, as long as no operation changes the
kind of a location under a cached finder, the process observes exactly what the logical store `Path → Content` observes -/
theorem C18_store_refines (bc : Bool) (h : List Op) (s : Store) (k : Memo) (hf : Fresh s) (hc : Consistent k s)
    (hok : pokRun bc s k h = true) : (prun bc s k h).2.2 = (lrun (abs s) h).2 := by
  induction h generalizing s k with
  | nil => rfl
  | cons op h ih =>
    simp only [pokRun, Bool.and_eq_true] at hok
    obtain ⟨p1, p2, p3⟩ := pstep_refines bc s k op hc hok.1
    obtain ⟨h1, h2, h3⟩ := step_refines bc s op hf
    have := ih (pstep bc s k op).1 (pstep bc s k op).2.1 (by rw [p1]; exact h3) p3 hok.2
    simp only [prun, lrun]
    rw [this, p2, h1, p1, h2]

/-- **read-your-writes for every history** that does not change the kind (zip file / directory) of a location the
process has a path entry finder for (`okKind`) — whatever the clock and the bytecode setting -/
theorem C18_store_read_your_writes_partial (bc : Bool) (h : List Op) (hok : pokRun bc Store.empty Memo.empty h = true) :
    (prun bc Store.empty Memo.empty h).2.2 = (lrun (abs Store.empty) h).2 :=
  C18_store_refines bc h Store.empty Memo.empty (fun _ _ hp => by cases hp) consistent_empty hok

/-- **no read is ever served from stale bytecode (the repaired C18-F6)**: at the file level (mtimes in whole seconds,
`__pycache__`) every history from a fresh store observes the logical store — bytecode files on or off, no condition on
the clock — because `Manifest.write` removes the cache file of the module it writes -/
theorem C18_store_file_level (bc : Bool) (h : List Op) (s : Store) (hf : Fresh s) :
    (run bc s h).2 = (lrun (abs s) h).2 :=
  (run_refines bc h s hf).1

def m10 : SM := ⟨[112], ⟨0, [1, 0], none, none, none, none⟩, [97], []⟩
def m11 : SM := ⟨[112], ⟨0, [1, 1], none, none, none, none⟩, [97], []⟩
def m20 : SM := ⟨[112], ⟨0, [2, 0], none, none, none, none⟩, [97], []⟩

/-- the code before the repair (C18-F6): write `1.0`, read, write `1.1` within the same second (same length), read: the
old manifest comes back; the repaired write reads `1.1` -/
theorem C18_store_bytecode_unrepaired_counterexample :
    (runUnrepaired true Store.empty [.write 0 m10 5, .read 0, .write 0 m11 5, .read 0]).2 = [.done, .manifest m10, .done, .manifest m10] ∧
    (run true Store.empty [.write 0 m10 5, .read 0, .write 0 m11 5, .read 0]).2 = [.done, .manifest m10, .done, .manifest m11] := by
  decide +kernel

/-- C18-F7: a zip package at a location is read, removed, a manifest is written there (now a directory): unreadable -/
theorem C18_store_kind_counterexample :
    (prun false Store.empty Memo.empty [.create 0 m10 ⟨0, true⟩, .remove 0, .write 0 m20 1, .read 0]).2.2 =
      [.manifest m10, .done, .done, .error .missing] ∧
    (lrun (abs Store.empty) [.create 0 m10 ⟨0, true⟩, .remove 0, .write 0 m20 1, .read 0]).2 =
      [.manifest m10, .done, .done, .manifest m20] := by
  decide +kernel

theorem C18_store_read_your_writes_counterexample : ¬ C18_store_read_your_writes_full := by
  intro h
  have h1 := h false [.create 0 m10 ⟨0, true⟩, .remove 0, .write 0 m20 1, .read 0]
  rw [C18_store_kind_counterexample.1, C18_store_kind_counterexample.2] at h1
  revert h1
  decide +kernel

/-- non-vacuity: a history with every kind of operation on three locations satisfies the hypothesis, with bytecode files on -/
example : pokRun true Store.empty Memo.empty
    [.create 0 m10 ⟨0, false⟩, .create 1 m20 ⟨1, false⟩, .install 0 2 1, .read 2, .install 1 2 2, .read 2, .write 2 m11 3,
     .read 2, .remove 2, .install 0 2 4, .read 2] = true := by decide +kernel

/-- reading never changes the logical store; the observation is the manifest that is there, or `MissingError` -/
theorem C18_store_read_pure (s : LStore) (p : Path) :
    (lstep s (.read p)).1 = s ∧
    (lstep s (.read p)).2 = match lman (s p) with | some m => .manifest m | none => .error .missing := by
  simp only [lstep, lread]
  cases lman (s p) <;> exact ⟨rfl, rfl⟩

/-- **the logical store is read-your-writes**: after a successful `write` of `m` to `p`, any history that does not
target `p` (reads anywhere, operations on other locations), then `read p`, returns `m` -/
theorem C18_store_read_last_write (s : LStore) (p : Path) (m : SM) (t : Nat) (h : List Op)
    (hw : (lstep s (.write p m t)).2 = .done) (hf : ∀ op ∈ h, target op ≠ some p) :
    (lstep (lrun (lstep s (.write p m t)).1 h).1 (.read p)).2 = .manifest m := by
  rw [(C18_store_read_pure _ p).2, lrun_frame h p _ hf, lstep_write s p m t hw]

/-- … and the same for a package created at `p`: its manifest is read back, its content is what is there -/
theorem C18_store_read_last_create (s : LStore) (p : Path) (m : SM) (tr : Tree) (h : List Op)
    (hw : (lstep s (.create p m tr)).2 = .manifest m) (hf : ∀ op ∈ h, target op ≠ some p) :
    (lstep (lrun (lstep s (.create p m tr)).1 h).1 (.read p)).2 = .manifest m ∧
    (lrun (lstep s (.create p m tr)).1 h).1 p = some (.zip m tr) := by
  have := lstep_create s p m tr hw
  rw [(C18_store_read_pure _ p).2, lrun_frame h p _ hf, this]
  exact ⟨rfl, rfl⟩

/-- the statement at full strength for `install`: the artifact carries the package's manifest and the target holds the
package's content -/
def C18_store_install_full : Prop :=
  ∀ (s : LStore) (src dst : Path) (t : Nat) (m : SM) (tr : Option Tree),
    (lstep s (.install src dst t)).2 = .installed m tr → tr = ltree (s src)

/-- **install**: a successful `Package(src).install(dst)` reports the manifest of the package at `src`; afterwards `dst`
holds that manifest or one equal to it (`==`); the components loaded are those found at `dst`; and they are the
package's own **unless `dst` already held an equal manifest over other content** (the already-installed shortcut) -/
theorem C18_store_install_partial (s : LStore) (src dst : Path) (t : Nat) (m : SM) (tr : Option Tree)
    (h : (lstep s (.install src dst t)).2 = .installed m tr) :
    lman (s src) = some m ∧
    (∃ m', lman ((lstep s (.install src dst t)).1 dst) = some m' ∧ (m' = m ∨ meq m' m = true)) ∧
    tr = ltree ((lstep s (.install src dst t)).1 dst) ∧
    ((∀ m', lman (s dst) = some m' → meq m' m = true → ltree (s dst) = ltree (s src)) → tr = ltree (s src)) := by
  obtain ⟨hsrc, ⟨hg, hs, htr⟩ | ⟨_, _, hs, htr⟩⟩ := lstep_install_cases s src dst t m tr h
  · rw [hs]
    refine ⟨hsrc, ?_, htr, fun hyp => ?_⟩
    · rcases hg with rfl | ⟨m', hm', he⟩
      · exact ⟨m, hsrc, .inl rfl⟩
      · exact ⟨m', hm', .inr he⟩
    · rcases hg with rfl | ⟨m', hm', he⟩
      · exact htr
      · rw [htr]; exact hyp m' hm' he
  · have hc := lcopy_result s src dst m hsrc
    rw [hs]
    exact ⟨hsrc, ⟨m, hc.1, .inl rfl⟩, by rw [htr, hc.2.2], fun _ => htr⟩

/-- **the already-installed shortcut is taken only for a manifest equal in ALL fields** (`Manifest.__eq__`: name,
version, package, module map): when the target holds a manifest that differs from the package's in any of them, the package
is installed — the target then holds exactly the package's manifest and content and those are the components loaded -/
theorem C18_store_install_differs (s : LStore) (src dst : Path) (t : Nat) (m m' : SM) (tr : Option Tree)
    (h : (lstep s (.install src dst t)).2 = .installed m tr) (hsd : src ≠ dst) (hd : lman (s dst) = some m')
    (hne : meq m' m = false) :
    tr = ltree (s src) ∧ lman ((lstep s (.install src dst t)).1 dst) = some m ∧
    ltree ((lstep s (.install src dst t)).1 dst) = ltree (s src) := by
  obtain ⟨hsrc, ⟨hg, _, _⟩ | ⟨_, _, hs, htr⟩⟩ := lstep_install_cases s src dst t m tr h
  · rcases hg with e | ⟨m'', hm'', he⟩
    · exact absurd e hsd
    · rw [hd] at hm''
      cases hm''
      rw [hne] at he
      cases he
  · have hc := lcopy_result s src dst m hsrc
    rw [hs]
    exact ⟨htr, hc.1, hc.2.2⟩

/-- what "equal" means: all four fields; a different package name or a different module map is a different manifest -/
theorem C18_store_manifest_eq (a b : SM) :
    (meq a b = true ↔ a.name = b.name ∧ Keys.vcmp a.version b.version = .eq ∧ a.package = b.package ∧ modEq a.modules b.modules = true) ∧
    (a.package ≠ b.package → meq a b = false) ∧ (modEq a.modules b.modules = false → meq a b = false) := by
  refine ⟨meq_fields a b, ?_, ?_⟩
  · intro hp
    cases h : meq a b with
    | false => rfl
    | true => exact absurd ((meq_fields a b).mp h).2.2.1 hp
  · intro hm
    cases h : meq a b with
    | false => rfl
    | true => rw [((meq_fields a b).mp h).2.2.2] at hm; cases hm

def m10b : SM := ⟨[112], ⟨0, [1, 0], none, none, none, none⟩, [98, 46, 99], []⟩
def m10m : SM := ⟨[112], ⟨0, [1, 0], none, none, none, none⟩, [97], [([112, 105, 112, 101, 108, 105, 110, 101], [102, 108, 111, 119])]⟩

/-- **a name-and-version-only test would be wrong**: the target holds release `p 1.0` built in package `a`; the same
release rebuilt in package `b.c` (or with another module map) is installed.  The code that exists (`install` = the logical
install guarded by full equality) replaces the content; a guard on name and version keeps the old build while reporting
the new manifest -/
theorem C18_store_install_guard_counterexample :
    (∀ (s : LStore) (src dst : Path) (t : Nat), lstep s (.install src dst t) = linstallG meq s src dst) ∧
    (let s : LStore := fun p => if p = 0 then some (.zip m10b ⟨2, true⟩) else if p = 1 then some (.zip m10 ⟨1, true⟩)
      else if p = 2 then some (.zip m10m ⟨3, true⟩) else none
    (linstallG meq s 0 1).2 = .installed m10b (some ⟨2, true⟩) ∧ lman ((linstallG meq s 0 1).1 1) = some m10b ∧
    (linstallG nvEq s 0 1).2 = .installed m10b (some ⟨1, true⟩) ∧ lman ((linstallG nvEq s 0 1).1 1) = some m10 ∧
    (linstallG meq s 2 1).2 = .installed m10m (some ⟨3, true⟩) ∧ (linstallG nvEq s 2 1).2 = .installed m10m (some ⟨1, true⟩)) :=
  ⟨lstep_install_guard, by decide +kernel⟩

/-- two contents under one manifest: the target keeps the old content (a release is taken to be immutable) -/
theorem C18_store_install_counterexample : ¬ C18_store_install_full := by
  intro h
  have := h (fun p => if p = 0 then some (.zip m10 ⟨2, true⟩) else if p = 1 then some (.dir (some m10) (some ⟨1, true⟩)) else none)
    0 1 0 m10 (some ⟨1, true⟩) (by decide +kernel)
  revert this
  decide +kernel

end ForML.Store

namespace ForML.Load

/-- **relative names**: with a package, a module name without a dot — whatever it begins with, the package name
included — is looked up inside the package -/
theorem C18_resolve_relative (package : List Nat) (modules : List (List Nat × List Nat)) (component : List Nat)
    (hp : package ≠ []) (hd : 46 ∉ chosen modules component) :
    resolve package modules component = rstripDots package ++ 46 :: chosen modules component := by
  unfold resolve
  rw [pkgPrefix_nonempty package hp]
  have : startsWith (chosen modules component) (rstripDots package ++ [46]) = false := by
    cases h : startsWith (chosen modules component) (rstripDots package ++ [46]) with
    | false => rfl
    | true =>
      obtain ⟨r, hr⟩ := startsWith_exact _ _ h
      exact absurd (by rw [hr]; simp) hd
  rw [this]
  simp

/-- **absolute names**: a name made of the package prefix (name and dot) and anything is taken as it is; without a
package every name is -/
theorem C18_resolve_absolute (package : List Nat) (modules : List (List Nat × List Nat)) (component rest : List Nat) :
    (chosen modules component = pkgPrefix package ++ rest → resolve package modules component = chosen modules component) ∧
    resolve [] modules component = chosen modules component :=
  ⟨fun h => by
    unfold resolve
    rw [h, startsWith_append]
    rfl,
   by
    unfold resolve pkgPrefix
    cases chosen modules component <;> simp [startsWith]⟩

/-- **resolution is stable**: every resolved name lies inside the package, and writing the resolved names into the
module map resolves to the same modules (what an installed artifact is given is what the manifest says) -/
theorem C18_resolve_idempotent (package : List Nat) (modules : List (List Nat × List Nat)) (component : List Nat) :
    startsWith (resolve package modules component) (pkgPrefix package) = true ∧
    (resolve package modules component ≠ [] →
      resolve package [(component, resolve package modules component)] component = resolve package modules component) :=
  ⟨resolve_startsWith package modules component, fun hne => by
    have hc : chosen [(component, resolve package modules component)] component = resolve package modules component := by
      unfold chosen
      rw [lookup_single]
      cases h : resolve package modules component with
      | nil => exact absurd h hne
      | cons a r => rfl
    show (if startsWith (chosen [(component, resolve package modules component)] component) (pkgPrefix package) = true
          then chosen [(component, resolve package modules component)] component
          else pkgPrefix package ++ chosen [(component, resolve package modules component)] component) = _
    rw [hc, resolve_startsWith]
    rfl⟩

/-- non-vacuity / the adversarial shapes: package `pipe`, conventional component `pipeline` → `pipe.pipeline`; package
`t`, `s='t_s'` → `t.t_s` (the shape of `titanic`, `source='titanic_source'`); absolute `pipe.x` stays; a module named as
the package, `pipe`, is relative → `pipe.pipe`; the trailing dot of package `a.` is stripped → `a.s` -/
example :
    resolve [112, 105, 112, 101] [] [112, 105, 112, 101, 108, 105, 110, 101] = [112, 105, 112, 101, 46, 112, 105, 112, 101, 108, 105, 110, 101] ∧
    resolve [116] [([115], [116, 95, 115])] [115] = [116, 46, 116, 95, 115] ∧
    resolve [112, 105, 112, 101] [([115], [112, 105, 112, 101, 46, 120])] [115] = [112, 105, 112, 101, 46, 120] ∧
    resolve [112, 105, 112, 101] [([115], [112, 105, 112, 101])] [115] = [112, 105, 112, 101, 46, 112, 105, 112, 101] ∧
    resolve [97, 46] [] [115] = [97, 46, 115] := by decide +kernel

/-- **`Package.create` keeps every file the import looks at**: for any dotted name at any level of the tree whose
segments are names the archive keeps (`segsOk`: not `__pycache__`, no `.dist-info` suffix, not the root `__4ml__.py`) -/
theorem C18_archive_keeps (r : Bool) (ns : List Node) (segs : List (List Nat)) (hok : segsOk r segs = true) :
    locate (packList r ns) segs = locate ns segs := by
  induction segs generalizing r ns with
  | nil => rfl
  | cons a rest ih =>
    cases rest with
    | nil =>
      simp only [segsOk, Bool.and_eq_true] at hok
      simp only [locate]
      exact locateLeaf_pack r ns a hok.1 hok.2
    | cons b rest =>
      simp only [segsOk, Bool.and_eq_true] at hok
      simp only [locate]
      rw [findDir_pack r a hok.1]
      cases findDir a ns with
      | none => rfl
      | some cs =>
        simp only [Option.map, findFile_pack false initPy valid_initPy]
        split
        · exact ih false cs hok.2
        · rfl

/-- **installing keeps the component identities**: for every source tree, package and module map the import finds in the
installed package exactly what it finds in the source tree, the name's segments being names `Package.create` keeps -/
theorem C18_install_components (root : List Node) (package : List Nat) (modules : List (List Nat × List Nat))
    (component : List Nat) (hok : segsOk true (splitDots (resolve package modules component)) = true) :
    locate (installed root) (splitDots (resolve package modules component)) =
      locate root (splitDots (resolve package modules component)) := by
  generalize splitDots (resolve package modules component) = segs at hok ⊢
  unfold installed
  cases segs with
  | nil => rfl
  | cons a rest =>
    cases rest with
    | nil =>
      simp only [segsOk, Bool.and_eq_true] at hok
      have hne : (descriptor == a ++ dotPy) = false := ne_of_dropped hok.2 (by decide)
      have := locateLeaf_pack true root a hok.1 hok.2
      simp only [locate]
      unfold locateLeaf at this ⊢
      simp only [findDir, findFile, hne, Bool.false_or]
      exact this
    | cons b rest =>
      have := C18_archive_keeps true root (a :: b :: rest) hok
      simp only [locate] at this ⊢
      simp only [findDir]
      exact this

/-- the hypothesis is needed: a component module below `__pycache__` is in the source tree and not in the package -/
theorem C18_install_components_counterexample :
    locate [.dir [97] [.file initPy, .dir pycache [.file initPy, .file [115, 46, 112, 121]]]] [[97], pycache, [115]] = .module ∧
    locate (installed [.dir [97] [.file initPy, .dir pycache [.file initPy, .file [115, 46, 112, 121]]]]) [[97], pycache, [115]] = .nothing := by
  decide +kernel

/-- non-vacuity: a nested tree with a data file, a `__pycache__`, a `*.dist-info` and a stale root manifest -/
example :
    let root : List Node := [.dir [97] [.file initPy, .dir [98] [.file initPy, .file [115, 46, 112, 121], .file [100, 46, 99, 115, 118]],
                                        .dir pycache [.file [106]]], .dir ([120] ++ distInfo) [.file [77]], .file descriptor]
    segsOk true [[97], [98], [115]] = true ∧ locate root [[97], [98], [115]] = .module ∧
    locate (installed root) [[97], [98], [115]] = .module ∧
    archive root = [descriptor, [97, 47] ++ initPy, [97, 47, 98, 47] ++ initPy, [97, 47, 98, 47, 115, 46, 112, 121], [97, 47, 98, 47, 100, 46, 99, 115, 118]] ∧
    zipSafe (archive root) = false := by decide +kernel

end ForML.Load
