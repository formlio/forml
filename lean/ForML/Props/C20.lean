/-
C20 — Configuration layering and provider lookup are deterministic.

Reading of the statement in the models
  * a stack of sources is `stack base cs = cs.foldl merge base` (Config.__init__/update/read); what is visible at a key
    path `p` is `obs c p` (the scalar, the list, or "a table").  `untouched c p` = source `c` says nothing about `p`.
  * `layered` is the spec-shaped, newest-first reading of a stack (the newest source saying something about `p`
    decides; lists accumulate new-first without repeats; a source replacing a prefix of `p` hides everything older).
  * one bank: `addAll Bank.empty cs` registers the class definitions `cs` in list order (import/registration order);
    the process-level model (`get`) sorts its own representation of the path set, like the repaired `Bank.get`
    (`C20_lookup_order_free`: every permutation of the path list gives the same search list); only the legacy
    `getOnce` / `getUnsorted` of the counterexamples take the iteration order of the set as the parameter `order`.
  * a process is a history `runHist w St.empty ops` of `import` statements (each in try/except) and lookups; `Inv w st` is
    what its states satisfy in a world without registration defects (`worldClean`).
  * "abstract" is `isabstract tab k` of `Model/BankAbc.lean`, computed from the class statements that built the table `tab`.
  * section resolution is `chooseRef` / `resolveSection` / `resolveMulti` / `resolveMode` / `extractKw` of `Model/Conf.lean` and
    `Model/ConfSection.lean`.
-/
import ForML.Lemmas.C20Conf
import ForML.Lemmas.C20Bank
import ForML.Lemmas.C20Comm
import ForML.Lemmas.C20Mono
import ForML.Lemmas.C20Abc
import ForML.Lemmas.C20Hist
import ForML.Lemmas.C20Section

namespace ForML.Conf


/-- One more source, path by path: key by key at any depth (the statement is about every path `p`). -/
theorem C20_merge_step (acc c : Cfg) (p : Path) :
    obs (merge acc c) p = stepLeaf (obs acc p) (obs c p) (untouched c p) := obs_merge acc c p

/-- Every stack, every path: the real left fold of `merge` shows exactly the newest-first layered reading. -/
theorem C20_override (base : Cfg) (cs : List Cfg) (p : Path) :
    obs (stack base cs) p = layered (obs base p) cs.reverse p := obs_stack base cs p

private theorem layered_untouched (b : Option Leaf) (post rest : List Cfg) (p : Path)
    (h : ∀ d ∈ post, untouched d p = true) : layered b (post ++ rest) p = layered b rest p := by
  induction post with
  | nil => rfl
  | cons d post ih =>
    have hd := h d (by simp)
    simp only [List.cons_append, layered, untouched_obs_none d p hd, hd, stepLeaf]
    exact ih (fun x hx => h x (List.mem_cons_of_mem _ hx))

/-- Later sources override earlier ones: the last source defining `p` as a scalar decides, whatever was below. -/
theorem C20_override_scalar (base : Cfg) (pre post : List Cfg) (c : Cfg) (p : Path) (v : Nat)
    (hc : obs c p = some (.scalar v)) (hpost : ∀ d ∈ post, untouched d p = true) :
    obs (stack base (pre ++ c :: post)) p = some (.scalar v) := by
  rw [C20_override]
  simp only [List.reverse_append, List.reverse_cons, List.append_assoc, List.singleton_append]
  rw [layered_untouched _ _ _ _ (by simpa using hpost)]
  simp [layered, hc, stepLeaf]

/-- Unrelated keys survive: sources that do not mention `p` leave what is visible at `p` unchanged. -/
theorem C20_unrelated_survive (base : Cfg) (pre post : List Cfg) (p : Path)
    (hpost : ∀ d ∈ post, untouched d p = true) :
    obs (stack base (pre ++ post)) p = obs (stack base pre) p := by
  rw [C20_override, C20_override, List.reverse_append]
  exact layered_untouched _ _ _ _ (by simpa using hpost)

/-- Lists are merged new-first without repeating an element of the newer list. -/
theorem C20_list_merge (acc c : Cfg) (p : Path) (xs ys : List Nat)
    (ha : obs acc p = some (.list xs)) (hc : obs c p = some (.list ys)) :
    obs (merge acc c) p = some (.list (ys ++ xs.filter (fun v => !ys.contains v))) := by
  rw [C20_merge_step, ha, hc]; rfl

/-- The merged list has exactly the elements of both, and no duplicates if neither had any. -/
theorem C20_mergeList_spec (old new : List Nat) :
    (∀ v, v ∈ mergeList old new ↔ v ∈ new ∨ v ∈ old) ∧ (old.Nodup → new.Nodup → (mergeList old new).Nodup) :=
  ⟨mem_mergeList old new, nodup_mergeList old new⟩

private theorem stepLeaf_nodup {a c : Option Leaf} {u : Bool} (ha : ∀ xs, a = some (.list xs) → xs.Nodup)
    (hc : ∀ ys, c = some (.list ys) → ys.Nodup) (zs : List Nat) (h : stepLeaf a c u = some (.list zs)) : zs.Nodup := by
  unfold stepLeaf at h
  split at h
  · rename_i ys
    split at h
    · rename_i xs
      cases h
      exact nodup_mergeList xs ys (ha xs rfl) (hc ys rfl)
    · cases h
      exact hc _ rfl
  · cases h
    exact hc zs rfl
  · split at h
    · exact ha zs h
    · cases h

/-- For every stack of sources whose lists are duplicate-free, every list of the layered configuration is. -/
theorem C20_list_nodup (base : Cfg) (cs : List Cfg) (hb : allLists nodupB base = true)
    (hcs : ∀ c ∈ cs, allLists nodupB c = true) (p : Path) (xs : List Nat)
    (h : obs (stack base cs) p = some (.list xs)) : xs.Nodup := by
  have hleaf : ∀ c, allLists nodupB c = true → ∀ ys, obs c p = some (.list ys) → ys.Nodup :=
    fun c hc ys ho => (nodupB_iff ys).1 (allLists_obs nodupB c p ys hc ho)
  have hlay : ∀ l : List Cfg, (∀ c ∈ l, allLists nodupB c = true) →
      ∀ ys, layered (obs base p) l p = some (.list ys) → ys.Nodup := by
    intro l
    induction l with
    | nil => intro _; exact hleaf base hb
    | cons c l ih =>
      intro hl
      exact stepLeaf_nodup (ih (fun d hd => hl d (List.mem_cons_of_mem _ hd))) (hleaf c (hl c List.mem_cons_self))
  rw [obs_stack] at h
  exact hlay cs.reverse (fun c hc => hcs c (List.mem_reverse.1 hc)) xs h

/-- Override-associativity at full strength: grouping of the sources does not matter. -/
def C20_assoc_full : Prop :=
  ∀ (a b c : Cfg) (p : Path), obs (merge (merge a b) c) p = obs (merge a (merge b c)) p

/-- …which the code that exists does not satisfy when a key changes kind in the middle source
(`{x:{y:1}}`, `{x:5}`, `{x:{z:2}}`: left-grouped the scalar wipes `y`, right-grouped `y` survives). -/
theorem C20_assoc_counterexample : ¬ C20_assoc_full := by
  intro h
  have := h (.table [(0, .table [(1, .scalar 1)])]) (.table [(0, .scalar 5)]) (.table [(0, .table [(2, .scalar 2)])]) [0, 1]
  revert this
  decide +kernel

private theorem merge_tables (l r : Tbl) :
    ∃ x, merge (.table l) (.table r) = .table x ∧ ∀ k, lookup k x = combine (lookup k l) (lookup k r) := by
  refine ⟨mergeL l r ++ r.filter (fun e => (lookup e.1 l).isNone), by simp [merge], ?_⟩
  intro k
  have := child_merge_tables l r k
  simpa [merge, child] using this

/-- Associativity holds for all sources that agree on the kind of every common key (any depth, any size). -/
theorem C20_assoc_partial (a b c : Cfg) (hab : compat a b = true) (hbc : compat b c = true)
    (hac : compat a c = true) (p : Path) :
    obs (merge (merge a b) c) p = obs (merge a (merge b c)) p := by
  induction p generalizing a b c with
  | nil =>
    cases a <;> cases b <;> cases c <;> simp [compat] at hab hbc hac <;>
      simp [obs_nil, merge, leaf, mergeList_assoc]
  | cons k p ih =>
    cases a with
    | scalar va =>
      cases b <;> cases c <;> simp [compat] at hab hbc hac
      simp [obs_cons, merge, child]
    | list xa =>
      cases b <;> cases c <;> simp [compat] at hab hbc hac
      simp [obs_cons, merge, child]
    | table la =>
      cases b with
      | scalar _ => simp [compat] at hab
      | list _ => simp [compat] at hab
      | table lb =>
      cases c with
      | scalar _ => simp [compat] at hbc
      | list _ => simp [compat] at hbc
      | table lc =>
      simp only [compat] at hab hbc hac
      obtain ⟨xab, hxab, hlab⟩ := merge_tables la lb
      obtain ⟨xbc, hxbc, hlbc⟩ := merge_tables lb lc
      obtain ⟨x1, hx1, hl1⟩ := merge_tables xab lc
      obtain ⟨x2, hx2, hl2⟩ := merge_tables la xbc
      rw [hxab, hx1, hxbc, hx2, obs_cons, obs_cons]
      simp only [child, hl1, hl2, hlab, hlbc]
      cases ha : lookup k la <;> cases hb : lookup k lb <;> cases hc : lookup k lc <;> simp only [combine]
      rename_i va vb vc
      exact ih va vb vc (compatL_lookup la lb k va vb hab ha hb) (compatL_lookup lb lc k vb vc hbc hb hc)
        (compatL_lookup la lc k va vc hac ha hc)

/-- non-vacuity: three nested, kind-consistent sources with overlapping keys satisfy the hypotheses -/
example :
    let a : Cfg := .table [(0, .table [(1, .scalar 1), (3, .list [1, 2])]), (4, .scalar 0)]
    let b : Cfg := .table [(0, .table [(1, .scalar 7), (2, .scalar 2)])]
    let c : Cfg := .table [(0, .table [(3, .list [2, 5])]), (4, .scalar 9)]
    compat a b = true ∧ compat b c = true ∧ compat a c = true ∧
      obs (merge (merge a b) c) [0, 3] = some (.list [2, 5, 1]) := by decide +kernel

/-- non-vacuity of `C20_list_nodup` / `C20_override_scalar`: a three-source stack with a type flip -/
example :
    let s1 : Cfg := .table [(0, .list [1, 2]), (1, .table [(2, .scalar 3)])]
    let s2 : Cfg := .table [(0, .list [2, 3]), (1, .scalar 4)]
    let s3 : Cfg := .table [(5, .scalar 6)]
    allLists nodupB s1 = true ∧ allLists nodupB s2 = true ∧ untouched s3 [1] = true ∧
      obs (stack (.table []) [s1, s2, s3]) [0] = some (.list [2, 3, 1]) ∧
      obs (stack (.table []) [s1, s2, s3]) [1] = some (.scalar 4) ∧
      obs (stack (.table []) [s1, s2, s3]) [1, 2] = none := by decide +kernel

/-- A reference to a section that the layered configuration does not contain is the missing-section error. -/
theorem C20_section_missing (cfg : Cfg) (g r kp kq : Nat) (h : get cfg [g, r] = none)
    (hg : ∀ v, child cfg g = some v → ∃ t, v = .table t) :
    resolveSection cfg g r kp kq = .error .missing := by
  cases hc : child cfg g with
  | none => simp [resolveSection, hc]
  | some v =>
    obtain ⟨t, ht⟩ := hg v hc
    subst ht
    simp only [get] at h
    rw [hc] at h
    simp only [child] at h
    cases hl : lookup r t with
    | none => simp [resolveSection, hc, hl]
    | some w => simp [hl] at h

end ForML.Conf

namespace ForML.Bank


/-- Order independence of registration: for every collision-free set of class definitions and every two
registration (import) orders, both succeed and bind every reference to the same class. -/
theorem C20_bank_order (cs cs' : List ClassDef) (hp : cs.Perm cs') (hcf : collisionFree cs = true) :
    ∃ b b', addAll Bank.empty cs = .ok b ∧ addAll Bank.empty cs' = .ok b' ∧
      ∀ r, lookupRef r b.provider = lookupRef r b'.provider := by
  obtain ⟨b, hb, hr⟩ := addAll_regs hcf
  obtain ⟨b', hb', hr'⟩ := addAll_regs (collisionFree_perm hp hcf)
  exact ⟨b, b', hb, hb', fun r => by rw [hr, hr', regs_perm hp hcf r]⟩

/-- Colliding references are rejected at registration: two concrete classes that `Meta.__eq__` tells apart (another
module or another qualified name — two nested classes with the same bare name are different classes) and that share a
reference make the registration fail with the collision error — in whatever order the list is. -/
theorem C20_collision_rejected (cs : List ClassDef) (c d : ClassDef) (hc : c ∈ cs) (hd : d ∈ cs)
    (hca : c.abstract = false) (hda : d.abstract = false) (r : Ref) (hrc : r ∈ refs c) (hrd : r ∈ refs d)
    (hmeta : metaEq c.id d.id = false) : addAll Bank.empty cs = .error .collision := by
  have hne : c.id ≠ d.id := fun h => by rw [(metaEq_iff c.id d.id).2 h] at hmeta; cases hmeta
  cases h : addAll Bank.empty cs with
  | error e => rw [addAll_error_collision cs _ e h]
  | ok b =>
    have h1 := addAll_bound cs _ b h c hc hca r hrc
    have h2 := addAll_bound cs _ b h d hd hda r hrd
    rw [h1] at h2
    exact absurd (Option.some.inj h2) hne

/-- What `Meta.__eq__` takes for the same class (same module, same qualname: a factory function called twice, a class
statement executed again) is no collision: the statement re-registers the provider and every binding stays as it was. -/
theorem C20_same_class_reregisters (b b1 : Bank) (c : ClassDef) (h : b.add c = .ok b1) :
    ∃ b2, b1.add c = .ok b2 ∧ ∀ r, lookupRef r b2.provider = lookupRef r b1.provider := add_again h

/-- `Meta.__eq__` / `Meta.__hash__` are consistent: it is an equivalence that implies equal hashes (the `BANK` dictionary
keyed by interface classes finds the bank of a re-created interface class). -/
theorem C20_meta_eq_hash (hashOf : Nat → Nat) (a b c : ClassId) :
    metaEq a a = true ∧ (metaEq a b = true → metaEq b a = true) ∧
      (metaEq a b = true → metaEq b c = true → metaEq a c = true) ∧
      (metaEq a b = true → metaHash hashOf a = metaHash hashOf b) := by
  refine ⟨(metaEq_iff a a).2 rfl, ?_, ?_, metaHash_of_eq hashOf a b⟩
  · intro h; exact (metaEq_iff b a).2 ((metaEq_iff a b).1 h).symm
  · intro h1 h2; exact (metaEq_iff a c).2 (((metaEq_iff a b).1 h1).trans ((metaEq_iff b c).1 h2))

/-- `Meta.__eq__` comparing the bare class name (`__name__`) instead of the qualified name: `bare` maps a qualname to its
last component -/
def metaEqName (bare : Nat → Nat) (a b : ClassId) : Bool := a.mod == b.mod && bare a.qn == bare b.qn

/-- `Bank.add` with that equality -/
def addByName (bare : Nat → Nat) (b : Bank) (c : ClassDef) : Except Err Bank :=
  if (refs c).any (fun r => match lookupRef r b.provider with
      | some d => !metaEqName bare d c.id
      | none => false) then .error .collision
  else
    let paths := addPaths b.paths (c.paths.map (fun m => ⟨m, true⟩))
    if c.abstract then .ok ⟨b.provider, paths⟩ else .ok ⟨register b.provider c, paths⟩

def C20_collision_by_name_full : Prop :=
  ∀ (bare : Nat → Nat) (c d : ClassDef) (b1 : Bank), c.abstract = false → d.abstract = false → c.id ≠ d.id →
    (∃ r, r ∈ refs c ∧ r ∈ refs d) → addByName bare Bank.empty c = .ok b1 →
    (match addByName bare b1 d with
      | .error .collision => true
      | _ => false) = true

/-- Why the qualified name has to be compared: by the bare name two different classes of one module (`Production.Sink`
= 11, `Development.Sink` = 21, both `Sink` = 1) claiming the same alias are taken for one class — the second is not
rejected and takes the alias over. -/
theorem C20_collision_by_name_counterexample : ¬ C20_collision_by_name_full := by
  intro h
  have := h (fun n => n % 10) ⟨⟨⟨1, some 3⟩, 11⟩, some 5, false, false, [⟨⟨0, none⟩, 0⟩], []⟩
    ⟨⟨⟨1, some 3⟩, 21⟩, some 5, false, false, [⟨⟨0, none⟩, 0⟩], []⟩ _ rfl rfl (by decide +kernel) ⟨.alias 5, by decide, by decide⟩ rfl
  revert this
  decide +kernel

/-- …while `Bank.add` as it is rejects exactly that pair (non-vacuity of `C20_collision_rejected` for nested classes
with equal bare names), and accepts the same class statement executed twice -/
example :
    let c : ClassDef := ⟨⟨⟨1, some 3⟩, 11⟩, some 5, false, false, [⟨⟨0, none⟩, 0⟩], []⟩
    let d : ClassDef := ⟨⟨⟨1, some 3⟩, 21⟩, some 5, false, false, [⟨⟨0, none⟩, 0⟩], []⟩
    metaEq c.id d.id = false ∧
      (match addAll Bank.empty [c, d] with
        | .error .collision => true
        | _ => false) = true ∧
      (match addAll Bank.empty [c, c] with
        | .ok b => lookupRef (.alias 5) b.provider == some c.id
        | _ => false) = true := by decide +kernel

/-- `importlib.reload`: whatever it re-executes and however it ends, it removes nothing (bindings, search paths,
`sys.modules` entries) and binds nothing but concrete classes of the world carrying the reference.  (Whether a
re-executed class statement counts as the same class depends on the identity of its `__qualname__` string — `reloadClasses`:
interned names re-register, dotted qualnames raise the collision error — which the correspondence check compares.) -/
theorem C20_reload_sound (w : World) (interned : List Nat) (st : St) (m : Mod) (res : St × Option Err)
    (hs : StSound (InWorld w) st) (h : reloadMod w interned st m = some res) :
    StLe st res.1 ∧ StSound (InWorld w) res.1 := by
  unfold reloadMod at h
  cases hf : findMod m w with
  | none => simp [hf] at h
  | some d =>
    simp only [hf] at h
    split at h
    · cases h
      exact ⟨reloadClasses_induct (fun _ _ _ _ hle ha => hle.trans (act_le ha)) st (StLe.refl st),
        reloadClasses_induct (fun a ha _ _ => act_sound (m := m) hf (List.mem_append_left _ ha)) st hs⟩
    · cases h

/-- Abstract providers are never bound: every binding comes from a concrete class of the list carrying it. -/
theorem C20_abstract_never_registered (cs : List ClassDef) (b : Bank) (h : addAll Bank.empty cs = .ok b)
    (r : Ref) (i : ClassId) (hl : lookupRef r b.provider = some i) :
    ∃ c ∈ cs, c.abstract = false ∧ r ∈ refs c ∧ c.id = i :=
  addAll_sound (U := fun c => c ∈ cs) cs (fun _ hc => hc) Bank.empty b (bankSound_empty _) h r i (lookupRef_mem hl)

/-- …where "abstract" is the module's own extended predicate: a registered class has neither unimplemented abstract
methods / properties (own, inherited, from a mixin) nor an abstract inner class among its own attributes. -/
theorem C20_abstract_extended (cs : List ClassDef) (b : Bank) (h : addAll Bank.empty cs = .ok b)
    (r : Ref) (i : ClassId) (hl : lookupRef r b.provider = some i) :
    ∃ c ∈ cs, c.unimpl = false ∧ c.inner = false ∧ r ∈ refs c ∧ c.id = i := by
  obtain ⟨c, hc, ha, hr, hi⟩ := C20_abstract_never_registered cs b h r i hl
  simp only [ClassDef.abstract, Bool.or_eq_false_iff] at ha
  exact ⟨c, hc, ha.1, ha.2, hr, hi⟩

/-- `Bank.add` with the registration skip decided by the standard library's `inspect.isabstract` alone -/
def addStdlib (b : Bank) (c : ClassDef) : Except Err Bank :=
  if collides b c then .error .collision
  else
    let paths := addPaths b.paths (c.paths.map (fun m => ⟨m, true⟩))
    if c.unimpl then .ok ⟨b.provider, paths⟩
    else .ok ⟨register b.provider c, paths⟩

def C20_abstract_stdlib_full : Prop :=
  ∀ (c : ClassDef) (b : Bank), addStdlib Bank.empty c = .ok b → ∀ r i, lookupRef r b.provider = some i → c.abstract = false

/-- Why both sites must use the extended predicate: a class whose methods are all implemented but which carries an
abstract inner class would be registered (and returned by its qualified name). -/
theorem C20_abstract_stdlib_counterexample : ¬ C20_abstract_stdlib_full := by
  intro h
  have := h ⟨⟨⟨1, some 5⟩, 1⟩, none, false, true, [⟨⟨0, none⟩, 0⟩], []⟩ _ rfl (.qual ⟨⟨1, some 5⟩, 1⟩) ⟨⟨1, some 5⟩, 1⟩
    (by decide +kernel)
  revert this
  decide +kernel

/-- An alias on an abstract class is rejected by `__init_subclass__` before any bank is touched. -/
theorem C20_abstract_alias_rejected (st : St) (c : ClassDef) (a : Nat) (ha : c.alias = some a)
    (hab : c.abstract = true) : initSubclass st c = (st, some .abstractAlias) := by
  simp [initSubclass, ha, hab]

/-- `Service[reference]` only ever returns a concrete class of the world that carries the reference (never an abstract
one, never some other provider), and the state stays sound. -/
theorem C20_lookup_sound (w : World) (st : St) (iface : ClassId) (r : Ref)
    (hs : StSound (InWorld w) st) :
    StSound (InWorld w) (get w st iface r).1 ∧
      ∀ i, (get w st iface r).2 = .ok i → ∃ c, InWorld w c ∧ c.abstract = false ∧ r ∈ refs c ∧ c.id = i :=
  get_sound w st iface r hs

/-- An unknown reference (carried by no concrete class of the world) is an error — the missing-provider error unless an
import on the way raised first — and never yields some other provider. -/
theorem C20_missing (w : World) (st : St) (iface : ClassId) (r : Ref)
    (hs : StSound (InWorld w) st) (hun : ∀ c, InWorld w c → c.abstract = false → r ∉ refs c) :
    ∃ e, (get w st iface r).2 = .error e := by
  cases h : (get w st iface r).2 with
  | error e => exact ⟨e, rfl⟩
  | ok i =>
    obtain ⟨c, hw, ha, hr, _⟩ := (get_sound w st iface r hs).2 i h
    exact absurd hr (hun c hw ha)

/-- …and with nothing to import (no search paths registered for the interface, alias reference) it is exactly
the missing-provider error. -/
theorem C20_missing_exact (w : World) (st : St) (iface : ClassId) (a : Nat)
    (hp : (getBank iface st.banks).paths = []) (hl : lookupRef (.alias a) (getBank iface st.banks).provider = none) :
    (get w st iface (.alias a)).2 = .error .missing := by
  simp [get, searchFuel, getLoop, hl, nextPath, searchList, refPaths, hp, finish, sortPaths]

/-- In a world without registration defects (`worldClean`: no alias on an abstract class, no reference shared by two
class identities) whose declared search paths exist, an unknown reference raises exactly the missing-provider error —
from every state reached by imports and lookups (`Inv`, `C20_history_invariant`). -/
theorem C20_missing_clean (w : World) (st : St) (iface : ClassId) (r : Ref)
    (hw : worldClean w = true) (hpo : pathsOk w = true) (hI : Inv w st)
    (hun : ∀ c, InWorld w c → c.abstract = false → r ∉ refs c) :
    (get w st iface r).2 = .error .missing :=
  get_miss hw hpo hI iface r fun c hc ha _ => hun c hc ha

/-- non-vacuity of `C20_missing_clean`: a clean two-package world, the state after importing the interface, an unknown
alias and an unknown qualified name -/
example :
    let w : World :=
      [ (⟨0, none⟩, ⟨[], [⟨⟨⟨0, none⟩, 0⟩, none, true, false, [], [⟨1, none⟩, ⟨2, none⟩]⟩]⟩),
        (⟨1, none⟩, ⟨[5], []⟩), (⟨2, none⟩, ⟨[], []⟩),
        (⟨1, some 5⟩, ⟨[], [⟨⟨⟨1, some 5⟩, 1⟩, some 5, false, false, [⟨⟨0, none⟩, 0⟩], []⟩]⟩),
        (⟨2, some 6⟩, ⟨[], [⟨⟨⟨2, some 6⟩, 1⟩, some 6, false, false, [⟨⟨0, none⟩, 0⟩], []⟩]⟩) ]
    let st := runImports w St.empty [⟨0, none⟩]
    worldClean w = true ∧ pathsOk w = true ∧
      (get w st ⟨⟨0, none⟩, 0⟩ (.alias 7)).2 = .error .missing ∧
      (get w st ⟨⟨0, none⟩, 0⟩ (.qual ⟨⟨1, some 5⟩, 9⟩)).2 = .error .missing ∧
      (get w st ⟨⟨0, none⟩, 0⟩ (.alias 6)).2 = .ok ⟨⟨2, some 6⟩, 1⟩ := by decide +kernel

/-- Lazy lookup (since fix C20-sorted-search-paths): whatever order the set `self.paths` hands out its elements in
(string hashing, PYTHONHASHSEED, insertion history), `sorted(self.paths)` and with it the search list are the same;
with `C20_lookup_state_equiv` so are outcome and resulting state of the lookup. -/
theorem C20_lookup_order_free (b : Bank) (r : Ref) (ps : List PathE) (hp : ps.Perm b.paths) :
    searchList ⟨b.provider, ps⟩ r = searchList b r ∧
      ∀ searched, nextPath ⟨b.provider, ps⟩ r searched = nextPath b r searched := by
  have h : searchList ⟨b.provider, ps⟩ r = searchList b r := by simp only [searchList, sortPaths_perm hp]
  exact ⟨h, fun _ => by simp only [nextPath, h]⟩

/-- the world of the (fixed) finding C20-F1: interface `Base(path=[pk1, pk2])` in module 0, `pk1/dup.py` and
`pk2/dup.py` each defining a concrete class with alias `dup` (= 5) -/
def witnessWorld : World :=
  [ (⟨0, none⟩, ⟨[], [⟨⟨⟨0, none⟩, 0⟩, none, true, false, [], [⟨1, none⟩, ⟨2, none⟩]⟩]⟩),
    (⟨1, none⟩, ⟨[], []⟩), (⟨2, none⟩, ⟨[], []⟩),
    (⟨1, some 5⟩, ⟨[], [⟨⟨⟨1, some 5⟩, 1⟩, some 5, false, false, [⟨⟨0, none⟩, 0⟩], []⟩]⟩),
    (⟨2, some 5⟩, ⟨[], [⟨⟨⟨2, some 5⟩, 1⟩, some 5, false, false, [⟨⟨0, none⟩, 0⟩], []⟩]⟩) ]

def witnessState : St :=
  match importMod witnessWorld St.empty ⟨0, none⟩ with
  | some (st, _) => st
  | none => St.empty

/-- `Bank.get` as it was before the fix C20-F1: the search list is the set in its iteration order, unsorted (and built
once) -/
def getUnsorted (w : World) (st : St) (iface : ClassId) (r : Ref) (order : List Mod) : St × Res :=
  match lookupRef r (getBank iface st.banks).provider with
  | some c => (st, .ok c)
  | none =>
    let base := arrange (getBank iface st.banks).paths order
    finish iface r (getLoopOnce w iface r st (base ++ refPaths r base).reverse)

def C20_lookup_unsorted_full : Prop :=
  ∀ (w : World) (st : St) (iface : ClassId) (r : Ref) (o1 o2 : List Mod),
    validOrder (getBank iface st.banks).paths o1 = true → validOrder (getBank iface st.banks).paths o2 = true →
    (getUnsorted w st iface r o1).2 = (getUnsorted w st iface r o2).2

/-- Why the fix was needed: without the `sorted`, the same alias in two discoverable modules resolves to
`pk2.dup:Impl` under one iteration order and to `pk1.dup:Impl` under the other (finding C20-F1, fixed). -/
theorem C20_lookup_unsorted_counterexample : ¬ C20_lookup_unsorted_full := by
  intro h
  have := h witnessWorld witnessState ⟨⟨0, none⟩, 0⟩ (.alias 5) [⟨1, none⟩, ⟨2, none⟩] [⟨2, none⟩, ⟨1, none⟩]
    (by decide +kernel) (by decide +kernel)
  revert this
  decide +kernel

/-- the reference is carried by at most one class identity among the concrete classes of the world (decidable) -/
def uniqueRef (w : World) (r : Ref) : Bool :=
  let cs := (w.flatMap (fun e => e.2.classes)).filter (fun c => !c.abstract && (refs c).contains r)
  cs.all fun c => cs.all fun d => c.id == d.id

/-- The same single class whatever was imported before, in whatever order: for every world in which the reference is
carried by one class identity, any two lookups — from any two (sound) process states, i.e. after any two import
histories — that return a class return the same class. -/
theorem C20_lookup_single_class (w : World) (st st' : St) (iface iface' : ClassId) (r : Ref)
    (hs : StSound (InWorld w) st) (hs' : StSound (InWorld w) st') (hu : uniqueRef w r = true) (i j : ClassId)
    (h1 : (get w st iface r).2 = .ok i) (h2 : (get w st' iface' r).2 = .ok j) : i = j := by
  obtain ⟨c, ⟨mc, dc, hmc, hcc⟩, hca, hcr, hci⟩ := (get_sound w st iface r hs).2 i h1
  obtain ⟨d, ⟨md, dd, hmd, hdd⟩, hda, hdr, hdi⟩ := (get_sound w st' iface' r hs').2 j h2
  simp only [uniqueRef, List.all_eq_true, List.mem_filter, List.mem_flatMap, beq_iff_eq, Bool.and_eq_true,
    Bool.not_eq_true', List.contains_eq_mem, decide_eq_true_eq] at hu
  rw [← hci, ← hdi]
  exact hu c ⟨⟨(mc, dc), hmc, hcc⟩, hca, hcr⟩ d ⟨⟨(md, dd), hmd, hdd⟩, hda, hdr⟩

/-- Lookup cannot tell apart two process states with the same bindings, the same search paths up to their order and the
same set of imported modules (`StEq`), however they were built up: same outcome — class or error — and again
indistinguishable states (so this extends to any sequence of lookups). -/
theorem C20_lookup_state_equiv (w : World) (st st' : St) (iface : ClassId) (r : Ref) (h : StEq st st') :
    (get w st iface r).2 = (get w st' iface r).2 ∧ StEq (get w st iface r).1 (get w st' iface r).1 :=
  get_congr w iface r h

/-- Whatever the import order, at full strength: if a list of `import` statements succeeds from a fresh process, then
so does every permutation of it, and every later `Service[reference]` — by alias or by qualified name, known or
unknown — has the same outcome (the same class or the same error) after both. -/
theorem C20_import_order_free (w : World) (ms ms' : List Mod) (hp : ms.Perm ms') (s : St)
    (hs : importAll w St.empty ms = some s) :
    ∃ s', importAll w St.empty ms' = some s' ∧ StEq s s' ∧
      ∀ (iface : ClassId) (r : Ref), (get w s iface r).2 = (get w s' iface r).2 := by
  obtain ⟨s', hs', hE⟩ := importAll_perm w hp St.empty St.empty s (StEq.refl _) hs
  exact ⟨s', hs', hE, fun iface r => (get_congr w iface r hE).1⟩

/-- non-vacuity of `C20_import_order_free`: three modules of two packages (an abstract intermediate in one of them)
imported in two orders from a fresh process — both succeed, and the representations of the two states differ -/
example :
    let w : World :=
      [ (⟨0, none⟩, ⟨[], [⟨⟨⟨0, none⟩, 0⟩, none, true, false, [], [⟨1, none⟩, ⟨2, none⟩]⟩]⟩),
        (⟨1, none⟩, ⟨[5], []⟩), (⟨2, none⟩, ⟨[], []⟩),
        (⟨1, some 5⟩, ⟨[], [⟨⟨⟨1, some 5⟩, 1⟩, some 5, false, false, [⟨⟨0, none⟩, 0⟩], []⟩]⟩),
        (⟨1, some 7⟩, ⟨[], [⟨⟨⟨1, some 7⟩, 2⟩, none, true, false, [⟨⟨0, none⟩, 0⟩], [⟨3, none⟩]⟩,
                            ⟨⟨⟨1, some 7⟩, 1⟩, some 7, false, false, [⟨⟨1, some 7⟩, 2⟩, ⟨⟨0, none⟩, 0⟩], []⟩]⟩),
        (⟨2, some 6⟩, ⟨[], [⟨⟨⟨2, some 6⟩, 1⟩, some 6, false, false, [⟨⟨0, none⟩, 0⟩], []⟩]⟩) ]
    let ms : List Mod := [⟨0, none⟩, ⟨1, some 5⟩, ⟨1, some 7⟩, ⟨2, some 6⟩]
    let ms' : List Mod := [⟨0, none⟩, ⟨2, some 6⟩, ⟨1, some 7⟩, ⟨1, some 5⟩]
    ms.Perm ms' ∧ (importAll w St.empty ms).isSome = true ∧ (importAll w St.empty ms').isSome = true ∧
      importAll w St.empty ms ≠ importAll w St.empty ms' := by decide +kernel

/-- Nothing is ever consumed: a lookup keeps every binding, every search path of every bank (the path sets never
shrink) and every `sys.modules` entry — whatever it was asked and however it ended. -/
theorem C20_lookup_keeps_state (w : World) (st : St) (iface : ClassId) (r : Ref) :
    StLe st (get w st iface r).1 := get_le w st iface r

/-- Lookup-sequence independence for hits: once `Service[reference]` has returned a class, every later lookup of that
reference returns the same class, whatever imports (failing ones included) and lookups (hits and misses, of any
interface) happen in between. Together with `C20_lookup_single_class` (any two hits agree) the answer does not depend
on the position in a sequence. -/
theorem C20_lookup_stable (w : World) (st : St) (iface : ClassId) (r : Ref) (c : ClassId)
    (ops : List HOp) (h : (get w st iface r).2 = .ok c) :
    (get w (runHist w (get w st iface r).1 ops) iface r).2 = .ok c := by
  rw [get_of_bound w _ iface r c (((runHist_le w ops _).1 iface).1 r c (get_ok_bound w st iface r c h))]

/-- …and a hit anywhere in any history from a fresh process is the unique carrier of the reference. -/
theorem C20_lookup_history (w : World) (ops ops' : List HOp) (iface iface' : ClassId) (r : Ref)
    (hu : uniqueRef w r = true) (i j : ClassId)
    (h1 : (get w (runHist w St.empty ops) iface r).2 = .ok i)
    (h2 : (get w (runHist w St.empty ops') iface' r).2 = .ok j) : i = j :=
  C20_lookup_single_class w _ _ iface iface' r (runHist_lift (stSound_execStable w) ops _ (stSound_empty _))
    (runHist_lift (stSound_execStable w) ops' _ (stSound_empty _)) hu i j h1 h2

/-- …in particular after any two import histories (any modules, any order, failing imports included) from a fresh
process: the reference resolves to one and the same class or not at all. -/
theorem C20_lookup_import_order (w : World) (ms ms' : List Mod) (iface iface' : ClassId) (r : Ref)
    (hu : uniqueRef w r = true) (i j : ClassId)
    (h1 : (get w (runImports w St.empty ms) iface r).2 = .ok i)
    (h2 : (get w (runImports w St.empty ms') iface' r).2 = .ok j) : i = j := by
  rw [runImports_eq] at h1 h2
  exact C20_lookup_history w _ _ iface iface' r hu i j h1 h2

/-- non-vacuity: in the witness world the qualified reference of `pk1.dup:Impl` is unique and resolves to that class
from the state after importing the interface; the alias `dup` is not unique and resolves to `pk2.dup:Impl` (the later
name in sorted order is searched first) -/
example :
    uniqueRef witnessWorld (.qual ⟨⟨1, some 5⟩, 1⟩) = true ∧
      (get witnessWorld witnessState ⟨⟨0, none⟩, 0⟩ (.qual ⟨⟨1, some 5⟩, 1⟩)).2 = .ok ⟨⟨1, some 5⟩, 1⟩ ∧
      uniqueRef witnessWorld (.alias 5) = false ∧
      (get witnessWorld witnessState ⟨⟨0, none⟩, 0⟩ (.alias 5)).2 = .ok ⟨⟨2, some 5⟩, 1⟩ := by
  decide +kernel

/-- non-vacuity of `C20_bank_order` / `C20_collision_rejected`: an abstract intermediate, two aliased concrete classes -/
example :
    let mid : ClassDef := ⟨⟨⟨0, none⟩, 1⟩, none, true, false, [⟨⟨0, none⟩, 0⟩], []⟩
    let a : ClassDef := ⟨⟨⟨1, some 5⟩, 1⟩, some 5, false, false, [⟨⟨0, none⟩, 1⟩, ⟨⟨0, none⟩, 0⟩], []⟩
    let b : ClassDef := ⟨⟨⟨2, some 6⟩, 1⟩, some 6, false, false, [⟨⟨0, none⟩, 0⟩], []⟩
    let b' : ClassDef := ⟨⟨⟨2, some 6⟩, 1⟩, some 5, false, false, [⟨⟨0, none⟩, 0⟩], []⟩
    collisionFree [mid, a, b] = true ∧ collisionFree [mid, a, b'] = false ∧
      (match addAll Bank.empty [b', mid, a] with
        | .error .collision => true
        | _ => false) = true := by decide +kernel


/-- Way 1, an abstract method / property of its own: the class is abstract. -/
theorem C20_isabstract_own_method (tab : Tab) (s : ClsStmt) (habc : stmtAbc tab s = true) (e : Nat × Attr)
    (he : e ∈ s.ns) (hab : e.2 = .func true) : isabstract (tab ++ [mkCls tab s]) tab.length = true := by
  have : inspectAbstract (tab ++ [mkCls tab s]) tab.length = true :=
    (inspectAbstract_new_iff tab s).2 ⟨habc, Or.inl ⟨e, he, by rw [hab]; rfl⟩⟩
  simp [isabstract, this]

/-- Way 2, an abstract method inherited from a direct base (its own or one it inherited in turn — the base's
`__abstractmethods__` accumulates them) that the class does not resolve to an implementation: abstract. -/
theorem C20_isabstract_inherited_method (tab : Tab) (s : ClsStmt) (habc : stmtAbc tab s = true) (b : Nat) (hb : b ∈ s.bases)
    (cb : Cls) (hcb : tab[b]? = some cb) (n : Nat) (hn : n ∈ cb.abstracts)
    (hres : isAbsAttr (getattrNs tab s.ns s.mro n) = true) : isabstract (tab ++ [mkCls tab s]) tab.length = true := by
  have : inspectAbstract (tab ++ [mkCls tab s]) tab.length = true :=
    (inspectAbstract_new_iff tab s).2 ⟨habc, Or.inr ⟨b, hb, cb, hcb, n, hn, hres⟩⟩
  simp [isabstract, this]

/-- …and those are the only ways for `inspect.isabstract`: a class none of whose own attributes is abstract and which
resolves every abstract name of its direct bases to something concrete (overridden here or by a class earlier in the
MRO) is not abstract in the standard library's sense. -/
theorem C20_isabstract_implemented (tab : Tab) (s : ClsStmt) (hown : ∀ e ∈ s.ns, isAbsAttr (some e.2) = false)
    (hinh : ∀ b ∈ s.bases, ∀ cb, tab[b]? = some cb → ∀ n ∈ cb.abstracts, isAbsAttr (getattrNs tab s.ns s.mro n) = false) :
    inspectAbstract (tab ++ [mkCls tab s]) tab.length = false := by
  cases h : inspectAbstract (tab ++ [mkCls tab s]) tab.length with
  | false => rfl
  | true =>
    obtain ⟨_, h1 | h1⟩ := (inspectAbstract_new_iff tab s).1 h
    · obtain ⟨e, he, hab⟩ := h1
      rw [hown e he] at hab; cases hab
    · obtain ⟨b, hb, cb, hcb, n, hn, hab⟩ := h1
      rw [hinh b hb cb hcb n hn] at hab; cases hab

/-- Way 3, an abstract class among the class' own attributes (an inner class statement, `Writer = some.Abstract`, or
an override of the parent's inner class that is still abstract): abstract in forml's extended sense, although
`inspect.isabstract` may say no. -/
theorem C20_isabstract_own_inner (tab : Tab) (s : ClsStmt) (hwf : ∀ e ∈ s.ns, ∀ j, e.2 = .cls j → j < tab.length)
    (e : Nat × Attr) (he : e ∈ s.ns) (j : Nat) (hj : e.2 = .cls j) (hab : inspectAbstract tab j = true) :
    isabstract (tab ++ [mkCls tab s]) tab.length = true := by
  have : innerAbstract (tab ++ [mkCls tab s]) tab.length = true := by
    rw [innerAbstract_new tab s hwf, List.any_eq_true]
    exact ⟨e, he, by rw [hj]; exact hab⟩
  simp [isabstract, this]

/-- Ways out: a class that implements its methods (`C20_isabstract_implemented`) and none of whose OWN attributes is an
abstract class is concrete — whatever its bases hold: an abstract inner class that is merely inherited does not make
it abstract (a `Sink` subclass may override `consumer` instead of `Writer`), and overriding the inner class by a
concrete one removes the abstractness. -/
theorem C20_isabstract_concrete (tab : Tab) (s : ClsStmt) (hwf : ∀ e ∈ s.ns, ∀ j, e.2 = .cls j → j < tab.length)
    (hown : ∀ e ∈ s.ns, isAbsAttr (some e.2) = false)
    (hinh : ∀ b ∈ s.bases, ∀ cb, tab[b]? = some cb → ∀ n ∈ cb.abstracts, isAbsAttr (getattrNs tab s.ns s.mro n) = false)
    (hinner : ∀ e ∈ s.ns, attrAbstract tab e.2 = false) : isabstract (tab ++ [mkCls tab s]) tab.length = false := by
  have h1 := C20_isabstract_implemented tab s hown hinh
  have h2 : innerAbstract (tab ++ [mkCls tab s]) tab.length = false := by
    rw [innerAbstract_new tab s hwf, List.any_eq_false]
    intro e he
    rw [hinner e he]
    simp
  simp [isabstract, h1, h2]

/-- Class statements executed later never change what `inspect.isabstract` says of an existing class. -/
theorem C20_isabstract_stable (tab : Tab) (c : Cls) (j : Nat) (hj : j < tab.length) :
    inspectAbstract (tab ++ [c]) j = inspectAbstract tab j := inspectAbstract_old tab c hj

/-- non-vacuity, every shape at once.  Names: 1 = `run`, 10 = `work`, 20 = `Part`/`Writer`.
  0 `Part` (abstract `work`) · 1 `Base` (abstract `run`) · 2 `Iface` (no abstract method, `Part = <0>`: abstract only
  in the extended sense, like `forml.io.Sink`) · 3 `class A(Iface)` inheriting the abstract inner class: concrete ·
  4 `PartImpl(Part)` implementing `work` · 5 `class B(Iface)` with `Part = <4>`: concrete · 6 `PartStill(Part)` ·
  7 `class C(Iface)` with `Part = <6>`: abstract (override still abstract) · 8 `Impl(Base)` implementing `run` ·
  9 `Helper(Base)`: abstract (inherited) · 10 `Re(Impl)` declaring `run` abstract again · 11 `Deep(Helper)`
  implementing `run`: concrete · 12 a plain (non-ABC) class with an `abstractmethod`-decorated function: not abstract ·
  13 `class D(Iface)` with `Part = <12>`: concrete -/
def shapeStmts : List ClsStmt :=
  [ ⟨true, [(10, .func true)], [], []⟩, ⟨true, [(1, .func true)], [], []⟩, ⟨true, [(20, .cls 0), (2, .func false)], [], []⟩,
    ⟨false, [], [2], [2]⟩, ⟨false, [(10, .func false)], [0], [0]⟩, ⟨false, [(20, .cls 4)], [2], [2]⟩,
    ⟨false, [(3, .other)], [0], [0]⟩, ⟨false, [(20, .cls 6)], [2], [2]⟩, ⟨false, [(1, .func false)], [1], [1]⟩,
    ⟨false, [], [1], [1]⟩, ⟨false, [(1, .func true)], [8], [8, 1]⟩, ⟨false, [(1, .func false)], [9], [9, 1]⟩,
    ⟨false, [(10, .func true)], [], []⟩, ⟨false, [(20, .cls 12)], [2], [2]⟩ ]

example :
    (List.range 14).map (inspectAbstract (build shapeStmts)) =
      [true, true, false, false, false, false, true, false, false, true, true, false, false, false] ∧
    (List.range 14).map (isabstract (build shapeStmts)) =
      [true, true, true, false, false, false, true, true, false, true, true, false, false, false] := by decide +kernel

/-- Abstract providers are never bound, with "abstract" computed from the class statements themselves: for every
class table, every list of provider class statements in whatever registration order, a reference only ever maps to a
class that is not abstract in forml's extended sense (no unimplemented abstract method, own or inherited, and no
abstract class among its own attributes). -/
theorem C20_abstract_never_bound (tab : Tab) (ps : List ProvStmt) (b : Bank)
    (h : addAll Bank.empty (ps.map (·.toDef tab)) = .ok b) (r : Ref) (i : ClassId)
    (hl : lookupRef r b.provider = some i) :
    ∃ s ∈ ps, s.id = i ∧ r ∈ refs (s.toDef tab) ∧ isabstract tab s.k = false := by
  obtain ⟨c, hc, ha, hr, hi⟩ := C20_abstract_never_registered _ b h r i hl
  obtain ⟨s, hs, rfl⟩ := List.mem_map.1 hc
  exact ⟨s, hs, hi, hr, ha⟩

/-- …for every registration order: the same holds after registering any permutation of the statements, and (no
colliding references) all orders bind every reference to the same concrete class. -/
theorem C20_abstract_never_bound_any_order (tab : Tab) (ps ps' : List ProvStmt) (hp : ps.Perm ps')
    (hcf : collisionFree (ps.map (·.toDef tab)) = true) :
    ∃ b b', addAll Bank.empty (ps.map (·.toDef tab)) = .ok b ∧ addAll Bank.empty (ps'.map (·.toDef tab)) = .ok b' ∧
      ∀ r, lookupRef r b.provider = lookupRef r b'.provider ∧
        ∀ i, lookupRef r b'.provider = some i → ∃ s ∈ ps, s.id = i ∧ r ∈ refs (s.toDef tab) ∧ isabstract tab s.k = false := by
  obtain ⟨b, b', hb, hb', hr⟩ := C20_bank_order _ _ (hp.map (·.toDef tab)) hcf
  refine ⟨b, b', hb, hb', fun r => ⟨hr r, ?_⟩⟩
  intro i hi
  rw [← hr r] at hi
  exact C20_abstract_never_bound tab ps b hb r i hi

/-- `Service.__init_subclass__` registers a provider in the bank of EVERY Service ancestor of its MRO — whatever stands
between them (mixins: plain classes, ABCs, `typing.Generic`; several interfaces) and at whatever position of the bases the
interface is named: after a class statement that did not raise, the class is bound under all its references in its own bank
and in the bank of every MRO entry that is a Service subclass. -/
theorem C20_registered_in_every_ancestor (tab : Tab) (s : ProvStmt) (st : St) (hc : isabstract tab s.k = false)
    (h : (initSubclass st (s.toDef tab)).2 = none) (i : ClassId) (hi : i = s.id ∨ (i, true) ∈ s.mro) (r : Ref)
    (hr : r ∈ refs (s.toDef tab)) :
    lookupRef r (getBank i (initSubclass st (s.toDef tab)).1.banks).provider = some s.id := by
  refine (initSubclass_registered (s.toDef tab) st h i ?_).1 hc r hr
  rcases hi with hi | hi
  · subst hi; exact List.mem_cons_self
  · refine List.mem_cons_of_mem _ ?_
    simp only [ProvStmt.toDef, serviceParents, List.mem_map, List.mem_filter]
    exact ⟨(i, true), ⟨hi, rfl⟩, rfl⟩

/-- the MRO filter that stops at the first entry that is no Service subclass -/
def serviceParentsPrefix (mro : List (ClassId × Bool)) : List ClassId := (mro.takeWhile (·.2)).map (·.1)

def C20_registered_prefix_full : Prop :=
  ∀ (mro : List (ClassId × Bool)) (i : ClassId), (i, true) ∈ mro → i ∈ serviceParentsPrefix mro

/-- Why the whole MRO has to be filtered: a loop that `break`s at the first non-Service entry loses the interface of
`class Impl(Mixin, Interface)` — the provider would be bound in its own bank only. -/
theorem C20_registered_prefix_counterexample : ¬ C20_registered_prefix_full := by
  intro h
  have := h [(⟨⟨9, none⟩, 9⟩, false), (⟨⟨0, none⟩, 0⟩, true)] ⟨⟨0, none⟩, 0⟩ (by decide +kernel)
  revert this
  decide +kernel

/-- non-vacuity: `class Impl(Mixin, Base, Side)` — a plain mixin ahead of two interfaces — is bound by alias and by
qualified name in its own bank and in the banks of both interfaces -/
example :
    let base : ClassId := ⟨⟨0, none⟩, 0⟩
    let side : ClassId := ⟨⟨0, none⟩, 3⟩
    let s : ProvStmt := ⟨⟨⟨1, some 5⟩, 1⟩, some 5, 1, [(⟨⟨0, none⟩, 9⟩, false), (base, true), (side, true), (⟨⟨8, none⟩, 8⟩, false)], []⟩
    let tab := build [⟨true, [(1, .func true)], [], []⟩, ⟨false, [(1, .func false)], [0], [0]⟩]
    let st := (initSubclass St.empty (s.toDef tab)).1
    isabstract tab s.k = false ∧ (initSubclass St.empty (s.toDef tab)).2 = none ∧
      [s.id, base, side].all (fun i => lookupRef (.alias 5) (getBank i st.banks).provider == some s.id
        && lookupRef (.qual s.id) (getBank i st.banks).provider == some s.id) = true := by decide +kernel

/-- …and at the level of the process: whatever was imported or looked up before, by alias or by qualified name,
`Service[reference]` never returns a class that is abstract in that sense. -/
theorem C20_lookup_never_abstract (tab : Tab) (wt : WorldT) (st : St) (iface : ClassId) (r : Ref)
    (hs : StSound (InWorld (wt.toWorld tab)) st) (i : ClassId) (h : (get (wt.toWorld tab) st iface r).2 = .ok i) :
    ∃ m mt, (m, mt) ∈ wt ∧ ∃ s ∈ mt.classes, s.id = i ∧ r ∈ refs (s.toDef tab) ∧ isabstract tab s.k = false := by
  obtain ⟨c, ⟨m, d, hmd, hc⟩, ha, hr, hi⟩ := (get_sound _ st iface r hs).2 i h
  simp only [WorldT.toWorld, List.mem_map] at hmd
  obtain ⟨⟨m', mt⟩, hmt, heq⟩ := hmd
  cases heq
  obtain ⟨s, hs', rfl⟩ := List.mem_map.1 hc
  exact ⟨m', mt, hmt, s, hs', hi, hr, ha⟩

/-- non-vacuity: the shapes above as providers of `Iface` (bank of class 2) in both orders — the concrete ones (3, 5,
13) are bound by qualified name and alias, the abstract ones (2 itself, 7) are not -/
example :
    let tab := build shapeStmts
    let ifc : ClassId := ⟨⟨0, none⟩, 2⟩
    let ps : List ProvStmt :=
      [ ⟨ifc, none, 2, [], [⟨1, none⟩]⟩, ⟨⟨⟨1, some 3⟩, 3⟩, some 3, 3, [(ifc, true)], []⟩,
        ⟨⟨⟨1, some 5⟩, 5⟩, some 5, 5, [(⟨⟨9, none⟩, 9⟩, false), (ifc, true)], []⟩,
        ⟨⟨⟨1, some 7⟩, 7⟩, none, 7, [(ifc, true)], []⟩, ⟨⟨⟨1, some 13⟩, 13⟩, none, 13, [(ifc, true), (⟨⟨9, none⟩, 8⟩, false)], []⟩ ]
    collisionFree (ps.map (·.toDef tab)) = true ∧
      (match addAll Bank.empty (ps.map (·.toDef tab)) with
       | .ok b => some ([Ref.qual ifc, .alias 3, .qual ⟨⟨1, some 5⟩, 5⟩, .qual ⟨⟨1, some 7⟩, 7⟩,
           .qual ⟨⟨1, some 13⟩, 13⟩].map (fun r => lookupRef r b.provider))
       | .error _ => none) =
        some [none, some ⟨⟨1, some 3⟩, 3⟩, some ⟨⟨1, some 5⟩, 5⟩, none, some ⟨⟨1, some 13⟩, 13⟩] ∧
      (match addAll Bank.empty (ps.reverse.map (·.toDef tab)) with
       | .ok b => some ([Ref.qual ifc, .alias 3, .qual ⟨⟨1, some 7⟩, 7⟩].map (fun r => lookupRef r b.provider))
       | .error _ => none) = some [none, some ⟨⟨1, some 3⟩, 3⟩, none] := by decide +kernel


/-- Every history from a fresh process in a defect-free world — imports in any order (failing ones too), lookups of
any interface, hits and misses — reaches a state in which the classes and the search paths of every imported module are
registered and every binding and every search path comes from an imported module. -/
theorem C20_history_invariant (w : World) (hw : worldClean w = true) (ops : List HOp) :
    Inv w (runHist w St.empty ops) := inv_runHist hw ops _ (inv_empty w)

/-- How a single lookup ends (repaired `Bank.get`), in terms of the bank's lazy search state only: with the class bound,
or with exactly the missing-provider error in a state whose search is exhausted (`Closed`) — every importable module
covered by an entry of the final search list (the registered paths, those registered on the way included, and the
candidates the reference derives from them) is imported; the state keeps `Inv` (`get_end`), so none of them defines the
reference below the interface.  A reference that the registered search paths let the lookup find (`found`) is answered
with a class. -/
theorem C20_lookup_single_shot (w : World) (hw : worldClean w = true) (hpo : pathsOk w = true) (hpk : pkgsExist w = true)
    (st : St) (hI : Inv w st) (iface : ClassId) (r : Ref) :
    ((∃ c, (get w st iface r).2 = .ok c ∧ lookupRef r (getBank iface (get w st iface r).1.banks).provider = some c) ∨
       ((get w st iface r).2 = .error .missing ∧ Closed w iface r (get w st iface r).1)) ∧
    (found w iface r (searchList (getBank iface st.banks) r) = true → ∃ c, (get w st iface r).2 = .ok c) := by
  refine ⟨?_, get_found_hit hw hpo hpk hI iface r⟩
  rcases (get_end hw hpo hI iface r).2 with h | ⟨h1, _, h3⟩
  · exact Or.inl h
  · exact Or.inr ⟨h1, h3⟩

/-- A reference that resolves single-shot resolves — to the same class — after every history: whatever imports (failing
ones included) and lookups (misses, hits, repeated ones, other references, other interfaces) happen after any
pre-history, the later answer is the answer the process would have given at once.  (The search state is never
consumed: `C20_lookup_keeps_state`.) -/
theorem C20_history_hit_stable (w : World) (hw : worldClean w = true) (hpo : pathsOk w = true) (hpk : pkgsExist w = true)
    (pre ops : List HOp) (iface : ClassId) (r : Ref) (c : ClassId)
    (h : (get w (runHist w St.empty pre) iface r).2 = .ok c) :
    (get w (runHist w (runHist w St.empty pre) ops) iface r).2 = .ok c :=
  get_hit_mono hw hpo hpk (C20_history_invariant w hw pre)
    (inv_runHist hw ops _ (C20_history_invariant w hw pre)) (runHist_le w ops _).2 iface r c h

/-- History independence at full strength for discoverable provider packages (the layout of `forml.provider.*`:
every provider in a sub-module named after its alias or listed in `__all__` of a package on the interface's search
path): for every history of lookups and imports the answer for a reference — class or missing-provider error, alias
or qualified name, known or unknown — equals the single-shot answer. -/
theorem C20_history_independent (w : World) (hw : worldClean w = true) (hpo : pathsOk w = true) (hpk : pkgsExist w = true)
    (pre ops : List HOp) (iface : ClassId) (hd : discoverable w (runHist w St.empty pre) iface = true) (r : Ref) :
    (get w (runHist w (runHist w St.empty pre) ops) iface r).2 = (get w (runHist w St.empty pre) iface r).2 :=
  get_history_free hw hpo hpk (C20_history_invariant w hw pre) iface hd ops r

/-- Without discoverability the only thing a history can change is to turn a miss into the hit (a module imported
explicitly or by another lookup registers its providers): after any two histories the answers to one reference are
never two different classes, and never an error other than the missing-provider error. -/
theorem C20_history_answers (w : World) (hw : worldClean w = true) (hpo : pathsOk w = true)
    (ops : List HOp) (iface : ClassId) (r : Ref) :
    (get w (runHist w St.empty ops) iface r).2 = .error .missing ∨
      ∃ c, (get w (runHist w St.empty ops) iface r).2 = .ok c ∧
        ∀ ops' iface' c', (get w (runHist w St.empty ops') iface' r).2 = .ok c' → c' = c := by
  have hI := C20_history_invariant w hw ops
  rcases (get_end hw hpo hI iface r).2 with ⟨c, hc, _⟩ | ⟨hm, _, _⟩
  · exact Or.inr ⟨c, hc, fun ops' iface' c' hc' =>
      (get_unique hw hI.sound (C20_history_invariant w hw ops').sound iface iface' r c c' hc hc').symm⟩
  · exact Or.inl hm

/-- Asking twice gives the same answer, at full strength (repaired `Bank.get`, fix
C20-search-paths-registered-during-lookup): after any history in a defect-free world a
lookup that is repeated at once answers as it did the first time — class or missing-provider error, also when classes
discovered on the way declare further search paths. -/
theorem C20_lookup_repeat (w : World) (hw : worldClean w = true) (hpo : pathsOk w = true) (hpk : pkgsExist w = true)
    (pre : List HOp) (iface : ClassId) (r : Ref) :
    (get w (get w (runHist w St.empty pre) iface r).1 iface r).2 = (get w (runHist w St.empty pre) iface r).2 :=
  get_repeat hw hpo hpk (C20_history_invariant w hw pre) iface r

/-- the lazily searched package of the history examples: `ifc.py` (module 0) with `Base(path=[pk1])`; `pk1/__init__.py`
with `__all__ = [m7]`; `pk1/foo.py` (5) = `Impl(Base, alias=foo)`; `pk1/m7.py` = `Impl(Base, alias=baz)` (alias 8 ≠
module name, found through `__all__`); `pk1/m9.py` = `Other(Base, alias=qux)` (alias 6, neither named after it nor
listed: not discoverable) -/
def lazyWorld : World :=
  [ (⟨0, none⟩, ⟨[], [⟨⟨⟨0, none⟩, 0⟩, none, true, false, [], [⟨1, none⟩]⟩]⟩),
    (⟨1, none⟩, ⟨[7], []⟩),
    (⟨1, some 5⟩, ⟨[], [⟨⟨⟨1, some 5⟩, 1⟩, some 5, false, false, [⟨⟨0, none⟩, 0⟩], []⟩]⟩),
    (⟨1, some 7⟩, ⟨[], [⟨⟨⟨1, some 7⟩, 1⟩, some 8, false, false, [⟨⟨0, none⟩, 0⟩], []⟩]⟩),
    (⟨1, some 9⟩, ⟨[], [⟨⟨⟨1, some 9⟩, 2⟩, some 6, false, false, [⟨⟨0, none⟩, 0⟩], []⟩]⟩) ]

/-- the world of the (fixed) finding C20-F2: `ifc.py` (module 0) with `Base(path=[pk1])`; `pk1/__init__.py` with
`__all__ = [m5]`; `pk1/m5.py` = abstract `Mid2(Base, path=[pk2])`; `pk2/bar.py` (bar = 7) = `Impl(Base, alias=bar)` -/
def nestedWorld : World :=
  [ (⟨0, none⟩, ⟨[], [⟨⟨⟨0, none⟩, 0⟩, none, true, false, [], [⟨1, none⟩]⟩]⟩),
    (⟨1, none⟩, ⟨[5], []⟩), (⟨2, none⟩, ⟨[], []⟩),
    (⟨1, some 5⟩, ⟨[], [⟨⟨⟨1, some 5⟩, 1⟩, none, true, false, [⟨⟨0, none⟩, 0⟩], [⟨2, none⟩]⟩]⟩),
    (⟨2, some 7⟩, ⟨[], [⟨⟨⟨2, some 7⟩, 2⟩, some 7, false, false, [⟨⟨0, none⟩, 0⟩], []⟩]⟩) ]

/-- non-vacuity of the history theorems: the worlds are defect-free; after `import ifc` everything but `pk1.m9` is
discoverable; a history of two misses, a hit of another reference and a repeated miss leaves `Base['foo']`,
`Base['baz']` and the unknown `Base['nosuch']` (4) as they were; the undiscoverable alias `qux` is the case
`C20_history_answers` is about: a miss at once, the class after `Base['pk1.m9:Other']` was looked up; in the nested world
the very first `Base['bar']` finds the provider behind the search path that `pk1.m5:Mid2` registers on the way -/
example :
    let ifc : ClassId := ⟨⟨0, none⟩, 0⟩
    let pre : List HOp := [.imp ⟨0, none⟩]
    let hist : List HOp := [.get ifc (.alias 4), .get ifc (.qual ⟨⟨1, some 5⟩, 9⟩), .get ifc (.alias 8),
      .get ifc (.alias 4), .imp ⟨3, some 3⟩]
    let st := runHist lazyWorld St.empty pre
    worldClean lazyWorld = true ∧ pathsOk lazyWorld = true ∧ pkgsExist lazyWorld = true ∧
      worldClean nestedWorld = true ∧ pathsOk nestedWorld = true ∧ pkgsExist nestedWorld = true ∧
      discoverable lazyWorld st ifc = false ∧
      discoverable (lazyWorld.filter (fun e => e.1 != ⟨1, some 9⟩)) (runHist (lazyWorld.filter (fun e => e.1 != ⟨1, some 9⟩)) St.empty pre) ifc = true ∧
      (get lazyWorld st ifc (.alias 5)).2 = .ok ⟨⟨1, some 5⟩, 1⟩ ∧
      (get lazyWorld (runHist lazyWorld st hist) ifc (.alias 5)).2 = .ok ⟨⟨1, some 5⟩, 1⟩ ∧
      (get lazyWorld (runHist lazyWorld st hist) ifc (.alias 8)).2 = .ok ⟨⟨1, some 7⟩, 1⟩ ∧
      (get lazyWorld (runHist lazyWorld st hist) ifc (.alias 4)).2 = .error .missing ∧
      (get lazyWorld st ifc (.alias 6)).2 = .error .missing ∧
      (get lazyWorld (runHist lazyWorld st [.get ifc (.qual ⟨⟨1, some 9⟩, 2⟩)]) ifc (.alias 6)).2 = .ok ⟨⟨1, some 9⟩, 2⟩ ∧
      (get nestedWorld (runHist nestedWorld St.empty pre) ifc (.alias 7)).2 = .ok ⟨⟨2, some 7⟩, 2⟩ := by decide +kernel

/-- `Bank.get` with the "optimisation" of dropping every search path it has imported from the bank's set (what the
lazy search state must NOT do): the base paths are also the prefixes the alias candidates are derived from -/
def getDiscarding (w : World) (st : St) (iface : ClassId) (r : Ref) : St × Res :=
  let res := get w st iface r
  match lookupRef r (getBank iface st.banks).provider with
  | some _ => res
  | none =>
    let b := getBank iface res.1.banks
    ({ res.1 with banks := setBank iface ⟨b.provider, []⟩ res.1.banks }, res.2)

def C20_history_discarding_full : Prop :=
  ∀ (w : World) (st : St) (iface : ClassId) (r r' : Ref) (c : ClassId),
    (get w st iface r).2 = .ok c → (get w (getDiscarding w st iface r').1 iface r).2 = .ok c

/-- Why the search paths have to stay: with a consumed search state a valid alias raises the missing-provider error
after an earlier miss. -/
theorem C20_history_discarding_counterexample : ¬ C20_history_discarding_full := by
  intro h
  have := h lazyWorld (runHist lazyWorld St.empty [.imp ⟨0, none⟩]) ⟨⟨0, none⟩, 0⟩ (.alias 5) (.alias 4)
    ⟨⟨1, some 5⟩, 1⟩ (by decide +kernel)
  revert this
  decide +kernel

/-- Idempotence of a lookup for `Bank.get` as it was before the repair (`getOnce`: the search list built once). -/
def C20_lookup_repeat_legacy_full : Prop :=
  ∀ (w : World) (st : St) (iface : ClassId) (r : Ref) (o o' : List Mod),
    worldClean w = true → pathsOk w = true → pkgsExist w = true → Inv w st →
    validOrder (getBank iface st.banks).paths o = true →
    validOrder (getBank iface (getOnce w st iface r o).1.banks).paths o' = true →
    (getOnce w (getOnce w st iface r o).1 iface r o').2 = (getOnce w st iface r o).2

/-- Why the repair was needed (finding C20-F2, fixed): with the search list built once, a search path that a class
discovered by this very lookup declares (`path=`) is not searched by it — `Base['bar']` raises the missing-provider
error the first time and returns `pk2.bar:Impl` the second time. -/
theorem C20_lookup_repeat_legacy_counterexample : ¬ C20_lookup_repeat_legacy_full := by
  intro h
  have := h nestedWorld (runHist nestedWorld St.empty [.imp ⟨0, none⟩]) ⟨⟨0, none⟩, 0⟩ (.alias 7) [⟨1, none⟩]
    [⟨1, none⟩, ⟨2, none⟩] (by decide +kernel) (by decide +kernel) (by decide +kernel)
    (C20_history_invariant nestedWorld (by decide +kernel) [.imp ⟨0, none⟩]) (by decide +kernel) (by decide +kernel)
  revert this
  decide +kernel

end ForML.Bank

namespace ForML.Conf


/-- `Section.resolve`: an explicit reference is looked up as given, whatever the `[INDEX] default` says; with neither an
explicit reference nor a default it is the missing error.  (`some r` stands for a truthy `reference`: for
`reference or …` a falsy one — `''`, `[]` — is no reference, `none` here.) -/
theorem C20_section_reference_choice (cfg : Cfg) (index sel : Nat) (r : Cfg) :
    chooseRef cfg index sel (some r) = .ok r ∧
      (defaultRef cfg index sel = .ok none → chooseRef cfg index sel none = .error .missing) := by
  refine ⟨rfl, ?_⟩
  intro h
  simp [chooseRef, h]

/-- The feeds a multi-instance section resolves to are exactly the resolved references (nothing dropped, nothing
invented), in `Feed.__lt__` order: by priority, equal priorities by provider reference. -/
theorem C20_section_multi_sorted (cfg : Cfg) (index group sel kp kq kr prio0 : Nat) (rs : List Nat) (out : List Entry)
    (h : resolveMulti cfg index group sel kp kq kr prio0 (some (.list rs)) = .ok out) :
    ∃ xs, entries cfg group kp kq kr prio0 rs = .ok xs ∧ out.Perm xs ∧ out.Pairwise (fun a b => b.lt a = false) := by
  simp only [resolveMulti, chooseRef] at h
  cases he : entries cfg group kp kq kr prio0 rs with
  | error e => simp [he, Except.map] at h
  | ok xs =>
    simp only [he, Except.map, Except.ok.injEq] at h
    subst h
    refine ⟨xs, rfl, sortE_perm xs, ?_⟩
    have := sortE_sorted xs
    simp only [SortedE, Entry.le, Bool.not_eq_true'] at this
    exact this

/-- Deterministic whatever the order in which the references are listed (in the `[FEED] default` list or by the
caller): the same sections with pairwise distinct (priority, provider) keys resolve to the same sequence. -/
theorem C20_section_multi_order_free (cfg : Cfg) (group kp kq kr prio0 : Nat) (rs rs' : List Nat) (hp : rs.Perm rs')
    (xs : List Entry) (h : entries cfg group kp kq kr prio0 rs = .ok xs) (hk : KeysDistinct xs) :
    ∃ xs', entries cfg group kp kq kr prio0 rs' = .ok xs' ∧ sortE xs' = sortE xs := by
  obtain ⟨xs', hxs', hperm⟩ := entries_perm cfg group kp kq kr prio0 hp xs h
  exact ⟨xs', hxs', (sortE_perm_eq hperm hk).symm⟩

/-- A reference to a section that does not exist (or is ill-formed) anywhere in the list makes the resolution fail; it
never yields the remaining sections only. -/
theorem C20_section_multi_missing (cfg : Cfg) (index group sel kp kq kr prio0 : Nat) (rs : List Nat) (r : Nat) (hr : r ∈ rs)
    (e : SecErr) (h : feedEntry cfg group r kp kq kr prio0 = .error e) :
    ∃ e', resolveMulti cfg index group sel kp kq kr prio0 (some (.list rs)) = .error e' := by
  obtain ⟨e', he'⟩ := entries_error cfg group kp kq kr prio0 rs r hr e h
  exact ⟨e', by simp [resolveMulti, chooseRef, he', Except.map]⟩

/-- `Sink.Mode.resolve` with neither `apply` nor `eval` configured: both modes fall back to `default`, which is what an
explicit reference to the default's section — serving both modes — resolves to. -/
theorem C20_section_mode_fallback (cfg : Cfg) (index group kd ka ke kp kq : Nat) (t : Tbl) (d : Cfg)
    (hi : child cfg index = some (.table t)) (hd : lookup kd t = some d) (ha : lookup ka t = none)
    (he : lookup ke t = none) :
    resolveMode cfg index group kd ka ke kp kq none = resolveMode cfg index group kd ka ke kp kq (some d) := by
  simp only [resolveMode, hi, hd, ha, he, Option.orElse]
  cases resolveSingle cfg index group kd kp kq (some d) <;> rfl

/-- non-vacuity: `[FEED] default = [r2, r0, r1]`, priorities 5 / default 0 / 5, providers `b` / (own name) / `a` (numbers
in string order: a=10 < b=11 < r0=20 < r1=21 < r2=22; priorities 0 ↦ 30, 5 ↦ 31); a `priority` inside `params` stays a
generic option; a missing reference fails; `[SINK] default = r0, eval = r1` -/
example :
    let cfg : Cfg := .table [
      (1, .table [(2, .list [22, 20, 21]),
        (20, .table [(4, .table [(5, .scalar 31)])]),
        (21, .table [(3, .scalar 10), (5, .scalar 31)]),
        (22, .table [(3, .scalar 11), (5, .scalar 31), (6, .scalar 7)])]),
      (8, .table [(2, .scalar 20), (9, .scalar 21), (20, .table []), (21, .table [(3, .scalar 10)])])]
    ((resolveMulti cfg 1 1 2 3 4 5 30 none).toOption.map (fun es => es.map (fun e => (e.ref, e.prio)))) =
        some [(20, 30), (10, 31), (11, 31)] ∧
      ((resolveMulti cfg 1 1 2 3 4 5 30 (some (.list [21, 22, 20]))).toOption.map (fun es => es.map (fun e => (e.ref, e.prio)))) =
        some [(20, 30), (10, 31), (11, 31)] ∧
      ((resolveMulti cfg 1 1 2 3 4 5 30 (some (.scalar 20))).toOption.map (fun es => es.map (fun e => e.params.map (·.1)))) =
        some [[5]] ∧
      (match resolveMulti cfg 1 1 2 3 4 5 30 (some (.list [20, 23])) with
        | .error .missing => true
        | _ => false) = true ∧
      ((resolveMode cfg 8 8 2 7 9 3 4 none).toOption.map (fun p => (p.1.1.isSome, p.2.1.isSome))) = some (false, true) := by
  decide +kernel


/-- Reading the same source twice in a row — the same file reached through two of the configuration directories
(`FORML_HOME` pointing at `/etc/forml`), `read` called again — shows at every key path exactly what reading it
once shows, anywhere in the stack (older sources below, newer sources on top): lists do not grow, nothing reappears. -/
theorem C20_reread_idempotent (base : Cfg) (older newer : List Cfg) (c : Cfg) (p : Path) :
    obs (stack base (older ++ c :: c :: newer)) p = obs (stack base (older ++ c :: newer)) p := by
  have h2 : stack base (older ++ c :: c :: newer) = stack (merge (merge (stack base older) c) c) newer := by
    simp [stack, List.foldl_append]
  have h1 : stack base (older ++ c :: newer) = stack (merge (stack base older) c) newer := by
    simp [stack, List.foldl_append]
  rw [h2, h1, obs_stack, obs_stack (merge (stack base older) c)]
  congr 1
  rw [obs_merge, obs_merge, stepLeaf_idem]

/-- The idempotence is one of the right argument only, and of adjacent sources only: a source repeated with another one
in between is NOT the same as reading it once (the source in between is overridden again). -/
def C20_reread_apart_full : Prop :=
  ∀ (base c d : Cfg) (p : Path), obs (stack base [c, d, c]) p = obs (stack base [c, d]) p

theorem C20_reread_apart_counterexample : ¬ C20_reread_apart_full := by
  intro h
  have := h (.table []) (.table [(0, .scalar 1)]) (.table [(0, .scalar 2)]) [0]
  revert this
  decide +kernel

/-- `Provider._extract`, every key of the resolved section (`provider` ≠ `params` as keys): the provider option is
exactly what the section says under `provider`; the generic options are the entries of the `params` table first
(`dict.update`: they win over the section's own option of the same name), then the section's own options without
`provider` and `params`; a `params` that is not a table fails the resolution. -/
theorem C20_section_extract (kw : Tbl) (kp kq : Nat) (hne : kq ≠ kp) :
    (lookup kq kw = none →
      ∃ out, extractKw kw kp kq = .ok (lookup kp kw, out) ∧ ∀ k, lookup k out = restKw kw kp kq k) ∧
    (∀ ps, lookup kq kw = some (.table ps) →
      ∃ out, extractKw kw kp kq = .ok (lookup kp kw, out) ∧
        ∀ k, lookup k out = match lookup k ps with
          | some v => some v
          | none => restKw kw kp kq k) ∧
    (∀ v, lookup kq kw = some v → (∀ ps, v ≠ .table ps) → extractKw kw kp kq = .error .malformed) :=
  ⟨extractKw_plain kw kp kq hne, fun ps h => extractKw_params kw kp kq ps hne h,
   fun v h hv => extractKw_malformed kw kp kq v hne h hv⟩

/-- non-vacuity: a list grows by nothing when its source is read again; `params = {x: 9, provider: 8}` over the section
`{provider: 5, x: 1, y: 2, params: …}` (keys provider=3, params=4, x=6, y=7) -/
example :
    obs (stack (.table [(0, .list [1, 2])]) [.table [(0, .list [3, 1])], .table [(0, .list [3, 1])]]) [0]
        = some (.list [3, 1, 2]) ∧
      obs (stack (.table [(0, .list [1, 2])]) [.table [(0, .list [3, 1])]]) [0] = some (.list [3, 1, 2]) ∧
      ((extractKw [(3, .scalar 5), (6, .scalar 1), (7, .scalar 2), (4, .table [(6, .scalar 9), (3, .scalar 8)])] 3 4).toOption.map
          (fun r => (r.1.map leaf, (lookup 6 r.2).map leaf, (lookup 7 r.2).map leaf, (lookup 3 r.2).map leaf,
            (lookup 4 r.2).isNone)))
        = some (some (.scalar 5), some (.scalar 9), some (.scalar 2), some (.scalar 8), true) := by
  decide +kernel

end ForML.Conf
