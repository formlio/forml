/-
C04 — persisted states are bound to the actors that produced them in every mode.

Model: ForML/Model/Persist*.lean (composition graph as data, `Composition.persistent`, positional `asset.State`, what
`flow.compile` wires into stateful workers, mode drivers, registry of generations, histories on fresh expansions; the
copy of the apply segment, commits micro-step by micro-step, expansion from expressions, long-lived handles, sparse
listings).  The theorems are stated for arbitrary composition graphs, histories and injective renamings of node and
group ids, under the hypotheses each of them names; the `C04_` theorems say in their docstrings what they claim of forml,
each `_counterexample` which unrestricted statement or seeded change it refutes.
-/
import ForML.Lemmas.C04Modes
import ForML.Lemmas.C04Copy
import ForML.Lemmas.C04Commit
import ForML.Lemmas.C04Mech
import ForML.Lemmas.C04Crash
import ForML.Lemmas.C04ExprWf
import ForML.Lemmas.C04Handles
import ForML.Lemmas.C04Sparse

namespace ForML.Persist

/-- Two fresh expansions (arbitrary injective renamings of node uids and group gids) of one composition have
persistent lists of equal length whose i-th entries are groups of the same actor occurrence. -/
theorem C04_positional_stability (c : Comp) (ρ₁ σ₁ ρ₂ σ₂ : Nat → Nat)
    (h₁ : Inj ρ₁) (k₁ : Inj σ₁) (h₂ : Inj ρ₂) (k₂ : Inj σ₂) :
    (c.rename ρ₁ σ₁).persistent.length = (c.rename ρ₂ σ₂).persistent.length ∧
    (c.rename ρ₁ σ₁).persistentTags = (c.rename ρ₂ σ₂).persistentTags ∧
    ∀ i : Nat, ((c.rename ρ₁ σ₁).persistent[i]?).map (c.rename ρ₁ σ₁).tagOfGid
       = ((c.rename ρ₂ σ₂).persistent[i]?).map (c.rename ρ₂ σ₂).tagOfGid := by
  have e : (c.rename ρ₁ σ₁).persistentTags = (c.rename ρ₂ σ₂).persistentTags := by
    rw [Comp.persistentTags_rename h₁ k₁, Comp.persistentTags_rename h₂ k₂]
  refine ⟨?_, e, ?_⟩
  · rw [Comp.persistent_rename h₁ k₁, Comp.persistent_rename h₂ k₂]
    simp
  · intro i
    have := congrArg (fun (l : List (Option Nat)) => l[i]?) e
    simpa [Comp.persistentTags, List.getElem?_map] using this

/-- The persistent list of a fresh expansion is the positional image of the original one. -/
theorem C04_persistent_fresh (c : Comp) (ρ σ : Nat → Nat) (hρ : Inj ρ) (hσ : Inj σ) :
    (c.rename ρ σ).persistent = c.persistent.map σ :=
  Comp.persistent_rename hρ hσ c

/-- An action performed on a fresh expansion has the same registry effect and hands the same states to the same
actor occurrences as on the original expansion (only list positions tie an expansion to the registry). -/
theorem C04_action_rename_invariant (cs : Case) (ρ σ : Nat → Nat) (hρ : Inj ρ) (hσ : Inj σ) (reg : Registry)
    (a : Action) : step (cs.rename ρ σ) reg a = step cs reg a :=
  step_rename hρ hσ cs reg a

/-- every observation of every successful action of a history satisfies the property -/
def HistoryOk (cs : Case) (hist : List (Action × Fresh)) : Prop :=
  ∀ entry ∈ runHistory cs [] hist, ∀ obs, entry.2.2 = .ok obs → ∀ o ∈ obs, obsOk entry.2.1 entry.1 o = true

def FreshOk (hist : List (Action × Fresh)) : Prop := ∀ e ∈ hist, Inj e.2.1 ∧ Inj e.2.2

/-- The property at full strength over the model's domain: every composition graph, every history. -/
def C04_binding_full : Prop := ∀ (cs : Case) (hist : List (Action × Fresh)), FreshOk hist → HistoryOk cs hist

theorem runHistory_ok (cs : Case) (hwf : cs.Ok) :
    ∀ (hist : List (Action × Fresh)) (reg : Registry), RegInv cs.plain.persistentTags reg → FreshOk hist →
      ∀ entry ∈ runHistory cs reg hist,
        RegInv cs.plain.persistentTags entry.2.1 ∧
        ∀ obs, entry.2.2 = .ok obs → ∀ o ∈ obs, obsOk entry.2.1 entry.1 o = true := by
  intro hist reg hreg hfresh
  refine history_inv (I := RegInv cs.plain.persistentTags) (run := runHistory cs) (fun _ => rfl) ?_ hist reg hreg hfresh
  intro reg (a, f) rest hreg hx
  rcases step_cases hwf hreg hx.1 hx.2 a with ⟨e, hs⟩ | ⟨reg', obs, hs, hinv, hobs⟩
  · exact ⟨(a, reg, .error e), reg, by simp only [runHistory, hs], ⟨hreg, fun _ h => nomatch h⟩, hreg⟩
  · exact ⟨(a, reg, .ok obs), reg', by simp only [runHistory, hs], ⟨hreg, fun _ h => by cases h; exact hobs⟩, hinv⟩

/-- **Binding.** On a well-formed case, for every history of lifecycle actions, each performed on its own fresh
expansion: every stateful actor applied while generation `k` is loaded (batch apply, serving, perftrack) holds the
state its own occurrence produced in the run that committed `k`; a re-trained actor that starts from a state starts
from exactly that state (`obsOk` also accepts a trainer that starts from scratch; that a trainer of a persisted group
finds a state once a generation is selected is `C04_load_total`); a member applied on the train path holds its own
trainer's new state; the hyper-parameters are those of the action's code. -/
theorem C04_binding_partial (cs : Case) (hwf : cs.wf = true) (hist : List (Action × Fresh)) (hfresh : FreshOk hist) :
    HistoryOk cs hist := by
  intro entry he obs hobs o ho
  exact (runHistory_ok cs (.of_wf hwf) hist [] (RegInv.nil _) hfresh entry he).2 obs hobs o ho

/-- Every generation found in the registry at any point of a history lists, position by position, states of the
occurrences behind `Composition.persistent`, all of them produced by the run that committed the generation. -/
theorem C04_registry_invariant (cs : Case) (hwf : cs.wf = true) (hist : List (Action × Fresh)) (hfresh : FreshOk hist) :
    ∀ entry ∈ runHistory cs [] hist, ∀ g ∈ entry.2.1,
      g.states.map (fun s => some s.tag) = cs.plain.persistentTags ∧ ∀ s ∈ g.states, s.run = g.run := by
  intro entry he g hg
  exact (runHistory_ok cs (.of_wf hwf) hist [] (RegInv.nil _) hfresh entry he).1 g hg

/-- A load never fails positionally on a well-formed case: once a generation is selected, every persistent worker
finds a state at its offset (no `IndexError`, no silent "no state"). -/
theorem C04_load_total (c : Comp) (reg : Registry) (hreg : RegInv c.persistentTags reg) (k : Option Nat)
    (g : Generation) (hsel : select reg k = .ok (some g)) (gid : Nat) (hmem : c.persistent.contains gid = true) :
    ∃ s, Assets.load ⟨c.persistent, select reg k⟩ gid = .ok (some s) := by
  have hg := hreg g (select_mem hsel)
  simp only [Assets.load, hmem, if_true, hsel]
  have hlen : g.states.length = c.persistent.length := by
    have := congrArg List.length hg.1
    simpa [Comp.persistentTags] using this
  have hidx : List.idxOf gid c.persistent < g.states.length := by
    rw [hlen]
    exact List.idxOf_lt_length_of_mem (List.contains_iff_mem.mp hmem)
  rw [List.getElem?_eq_getElem hidx]
  exact ⟨_, rfl⟩

/-- `flow.Composition(source, m1 >> m2)` with two stateful mappers, as extracted from forml (canonical ids):
0 source(apply) → 1 m1 → 2 m2;  3 source(train) → 4 label extractor → {5 trainer of m1, 6 m1 (train path) → {7 trainer
of m2, 8 m2 (train path)}};  9, 10 the prototype workers of the two groups. -/
def chain2 : Comp where
  nodes := [⟨0, 0, 0, false, false⟩, ⟨1, 1, 1, true, false⟩, ⟨2, 2, 2, true, false⟩, ⟨3, 3, 0, false, false⟩,
    ⟨4, 4, 0, false, false⟩, ⟨5, 1, 1, true, true⟩, ⟨6, 1, 1, true, false⟩, ⟨7, 2, 2, true, true⟩,
    ⟨8, 2, 2, true, false⟩, ⟨9, 1, 1, true, false⟩, ⟨10, 2, 2, true, false⟩]
  edges := [(0, 1), (1, 2), (3, 4), (4, 5), (4, 6), (4, 5), (4, 7), (6, 7), (6, 8)]
  applyHead := 0
  applyTail := 2
  trainHead := 3
  trainTail := 8

/-- the composition of `m1 >> m2 >> PerfTrackScore` (repaired forml): apply segment 0 → 1 → 2 (copy of the pipeline),
train segment 3 → 4 → 5 (m1) → 6 (m2) → 7 (metric); 10 and 13 are the trainers (not part of either segment) -/
def chain2Perf (firstTrainerRegistered : Bool) : Comp where
  nodes := [⟨0, 0, 0, false, false⟩, ⟨1, 1, 1, true, false⟩, ⟨2, 2, 2, true, false⟩, ⟨3, 3, 0, false, false⟩,
    ⟨4, 4, 0, false, false⟩, ⟨5, 1, 1, true, false⟩, ⟨6, 2, 2, true, false⟩, ⟨7, 5, 0, false, false⟩,
    ⟨8, 1, 1, true, false⟩, ⟨9, 1, 1, true, false⟩, ⟨10, 1, 1, true, firstTrainerRegistered⟩,
    ⟨11, 2, 2, true, false⟩, ⟨12, 2, 2, true, false⟩, ⟨13, 2, 2, true, true⟩]
  edges := [(0, 1), (1, 2), (3, 4), (4, 5), (4, 7), (5, 6), (6, 7), (9, 13), (9, 11)]
  applyHead := 0
  applyTail := 2
  trainHead := 3
  trainTail := 7

/-- the repaired code: the first trainer keeps its `Train`/`Label` registrations -/
def chain2Case : Case := ⟨chain2, .ok (chain2Perf true)⟩

/-- the code before the repair: the pipeline's dangling train/label head `Future`s die when `PerfTrackScore.compose`
returns, `Subscription.__del__` discards the ports of the first trainer (node 10) -/
def chain2Released : Case := ⟨chain2, .ok (chain2Perf false)⟩

def idFresh : Fresh := (id, id)

theorem inj_id : Inj id := fun _ _ h => h

/-- train, then perftrack on the latest generation -/
def trainThenPerftrack : List (Action × Fresh) :=
  [(⟨.train, none, 0, 3⟩, idFresh), (⟨.perftrack, none, 1, 5⟩, idFresh)]

/-- the observations of the successful actions of a history (`none`: the action was refused) -/
def outcomes (l : List (Action × Registry × Except Err (List Obs))) : List (Option (List Obs)) :=
  l.map (fun e => match e.2.2 with
    | .ok obs => some obs
    | .error _ => none)

/-- some observation of some successful action violates the property -/
def anyBad (l : List (Action × Registry × Except Err (List Obs))) : Bool :=
  l.any (fun e => match e.2.2 with
    | .ok obs => obs.any (fun o => !obsOk e.2.1 e.1 o)
    | .error _ => false)

theorem anyBad_spec {l : List (Action × Registry × Except Err (List Obs))} (h : anyBad l = true) :
    ∃ entry ∈ l, ∃ obs, entry.2.2 = .ok obs ∧ ∃ o ∈ obs, obsOk entry.2.1 entry.1 o = false := by
  simp only [anyBad, List.any_eq_true] at h
  obtain ⟨entry, he, hb⟩ := h
  cases hr : entry.2.2 with
  | error e => rw [hr] at hb; cases hb
  | ok obs =>
    rw [hr] at hb
    simp only [List.any_eq_true, Bool.not_eq_true'] at hb
    obtain ⟨o, ho, hbad⟩ := hb
    exact ⟨entry, he, obs, hr, o, ho, hbad⟩

private theorem chain2Case_wf : chain2Case.wf = true := by decide +kernel

/-- one evaluation of each of the two train-then-perftrack histories; the examples and `C04_binding_counterexample`
are its parts -/
private theorem chain2_run :
    (outcomes (runHistory chain2Case [] trainThenPerftrack) =
    [some [.trained 1 3 none, .applied 1 3 (some ⟨1, 0, 3, none⟩), .trained 2 3 none, .applied 2 3 (some ⟨2, 0, 3, none⟩)],
     some [.applied 1 5 (some ⟨1, 0, 3, none⟩), .applied 2 5 (some ⟨2, 0, 3, none⟩)]] ∧ anyBad (runHistory chain2Case [] trainThenPerftrack) = false) ∧
    outcomes (runHistory chain2Released [] trainThenPerftrack) =
    [some [.trained 1 3 none, .applied 1 3 (some ⟨1, 0, 3, none⟩), .trained 2 3 none, .applied 2 3 (some ⟨2, 0, 3, none⟩)],
     some [.applied 1 5 none, .applied 2 5 (some ⟨1, 0, 3, none⟩)]] ∧ anyBad (runHistory chain2Released [] trainThenPerftrack) = true := by decide +kernel

/-- non-vacuity: the witness of the repaired code is well-formed, persists two groups, and its history produces
observations that load real states -/
example : chain2Case.wf = true := chain2Case_wf
example : chain2.persistentTags = [some 1, some 2] := by decide +kernel
example : outcomes (runHistory chain2Case [] trainThenPerftrack) =
    [some [.trained 1 3 none, .applied 1 3 (some ⟨1, 0, 3, none⟩), .trained 2 3 none, .applied 2 3 (some ⟨2, 0, 3, none⟩)],
     some [.applied 1 5 (some ⟨1, 0, 3, none⟩), .applied 2 5 (some ⟨2, 0, 3, none⟩)]] := chain2_run.1.1
example : anyBad (runHistory chain2Case [] trainThenPerftrack) = false := chain2_run.1.2

/-- the defect on the model: with the released trainer `m1` gets no state and `m2` gets the state of `m1` -/
example : outcomes (runHistory chain2Released [] trainThenPerftrack) =
    [some [.trained 1 3 none, .applied 1 3 (some ⟨1, 0, 3, none⟩), .trained 2 3 none, .applied 2 3 (some ⟨2, 0, 3, none⟩)],
     some [.applied 1 5 none, .applied 2 5 (some ⟨1, 0, 3, none⟩)]] := chain2_run.2.1

example : chain2Released.wf = false := by
  simp only [Case.wf, show chain2Released.wfPerf = false by decide +kernel, Bool.and_false]

theorem freshOk_trainThenPerftrack : FreshOk trainThenPerftrack := by
  intro e he
  simp only [trainThenPerftrack, List.mem_cons, List.mem_nil_iff, or_false] at he
  rcases he with rfl | rfl <;> exact ⟨inj_id, inj_id⟩

/-- The statement is false without well-formedness: the perftrack composition of the unrepaired code mis-binds. -/
theorem C04_binding_counterexample : ¬ C04_binding_full := by
  intro h
  have hh := h chain2Released trainThenPerftrack freshOk_trainThenPerftrack
  have : ∃ entry ∈ runHistory chain2Released [] trainThenPerftrack, ∃ obs, entry.2.2 = .ok obs ∧
      ∃ o ∈ obs, obsOk entry.2.1 entry.1 o = false := anyBad_spec chain2_run.2.2
  obtain ⟨entry, he, obs, hobs, o, ho, hbad⟩ := this
  have := hh entry he obs hobs o ho
  rw [this] at hbad
  cases hbad

/-- `Comp.fuel` steps always suffice: any additional fuel leaves the visit order unchanged. -/
theorem C04_traversal_total (c : Comp) (head tail extra : Nat) :
    c.dfs tail (c.fuel + extra) [head] [] = c.visit head tail :=
  Comp.visit_fuel c head tail extra

/-- `Comp.visit` lists exactly what `Traversal.each` can reach: no node is listed twice, and a node is listed iff it
is reachable from the head over the subscriptions `each` follows (all of them, at the tail only the trained
subscribers).  (The order of the list is not part of the statement.) -/
theorem C04_traversal_complete (c : Comp) (head tail : Nat) :
    (c.visit head tail).Nodup ∧ ∀ v, v ∈ c.visit head tail ↔ Comp.Reach c tail head v :=
  Comp.visit_spec c head tail

/-- `Composition.persistent` of `pipeline >> PerfTrackScore` (computed on the forked copy of the apply segment) is
the persistent list of the plain composition — same groups, same positions. -/
theorem C04_perftrack_persistent (c : Comp) (ρ : Nat → Nat) (hf : FreshFor ρ c) (htail : c.tailClean = true)
    (hdist : c.uidsDistinct = true) (hnt : c.noTrainer c.applyHead c.applyTail = true) :
    (c.copied ρ).persistent = c.persistent ∧ (c.copied ρ).persistentTags = c.persistentTags := by
  rw [Comp.copied_eq_withCopy]
  exact ⟨Comp.persistent_withCopy hf htail hdist hnt (Comp.edgesFaithful_copied c),
    Comp.persistentTags_withCopy hf htail hdist hnt (Comp.edgesFaithful_copied c)⟩

/-- `eval_perftrack` hands every stateful worker exactly what batch apply of the same generation hands it; it is
refused when the composition has no sink and the apply segment is not a simple chain. -/
theorem C04_perftrack_as_apply (c : Comp) (ρ : Nat → Nat) (hf : FreshFor ρ c) (htail : c.tailClean = true)
    (hdist : c.uidsDistinct = true) (hnt : c.noTrainer c.applyHead c.applyTail = true) (reg : Registry)
    (closed : Bool) (gen : Option Nat) (run hp : Nat) :
    step ⟨c, c.perfOf ρ closed⟩ reg ⟨.perftrack, gen, run, hp⟩ =
      if closed || c.isChain then step ⟨c, c.perfOf ρ closed⟩ reg ⟨.apply, gen, run, hp⟩ else .error .topology := by
  cases hch : (closed || c.isChain) with
  | false => simp only [step, Comp.perfOf, hch, Bool.false_eq_true, if_false]
  | true =>
    simp only [step, Comp.perfOf, hch, if_true]
    show runSegment (c.copied ρ) c.applyHead c.applyTail reg ⟨.perftrack, gen, run, hp⟩ = _
    rw [Comp.copied_eq_withCopy, runSegment_withCopy hf htail hdist hnt (Comp.edgesFaithful_copied c)]
    simp only [runSegment]

/-- **Binding, hypotheses on the plain composition only**: with the perftrack composition derived in the model, every
history on a well-formed plain composition (whose apply tail feeds no trainer) satisfies the property in all four
modes. -/
theorem C04_binding_derived (c : Comp) (ρ : Nat → Nat) (closed : Bool) (hf : FreshFor ρ c) (hwf : c.wfPlain = true)
    (htail : c.tailClean = true) (hist : List (Action × Fresh)) (hfresh : FreshOk hist) :
    HistoryOk ⟨c, c.perfOf ρ closed⟩ hist :=
  fun entry he => (runHistory_ok _ (ok_perfOf closed hf hwf htail) hist [] (RegInv.nil _) hfresh entry he).2

/-- non-vacuity: fresh uids `+ 100` for the two-mapper chain; the derived perftrack composition exists and persists
the same two occurrences -/
example : chain2.isChain = true ∧ chain2.tailClean = true ∧ chain2.uidsDistinct = true
    ∧ chain2.noTrainer chain2.applyHead chain2.applyTail = true := by decide +kernel
example : (chain2.copied (· + 100)).persistentTags = [some 1, some 2] := by decide +kernel
example : chain2.wfPlain = true := (Case.Ok.of_wf chain2Case_wf).plain
example : FreshFor (· + 100) chain2 := freshFor_add (by decide +kernel)

/-- `Composition.persistent` of the evaluation's composition, with the copy of the apply segment produced the way
`Traversal.copy` produces it (mapper paths depth first, the subscriptions between the members of each path re-created
once, per output port in creation order): the persistent list of the plain composition — provided the copy is
*faithful* on this graph (`Comp.copyFaithful`, decidable: every visited worker is forked and its fork publishes to
the forks of its subscribers in the original order). -/
theorem C04_copy_mech_persistent (c : Comp) (ρ : Nat → Nat) (pe : List PEdge) (m : Comp) (hf : FreshFor ρ c)
    (htail : c.tailClean = true) (hdist : c.uidsDistinct = true) (hnt : c.noTrainer c.applyHead c.applyTail = true)
    (hcf : c.copyFaithful pe = true) (hm : c.copiedMech ρ pe = .ok m) :
    m.persistent = c.persistent ∧ m.persistentTags = c.persistentTags := by
  obtain ⟨paths, hp, rfl⟩ := Comp.copiedMech_eq_withCopy hm
  have hE := Comp.copyFaithful_spec hp hcf
  exact ⟨Comp.persistent_withCopy hf htail hdist hnt hE, Comp.persistentTags_withCopy hf htail hdist hnt hE⟩

/-- `eval_perftrack` on that composition hands every stateful worker exactly what batch apply hands it (or is
refused: no sink and a branching apply segment, a cyclic graph). -/
theorem C04_perftrack_mech_as_apply (c : Comp) (ρ : Nat → Nat) (pe : List PEdge) (hf : FreshFor ρ c)
    (htail : c.tailClean = true) (hdist : c.uidsDistinct = true) (hnt : c.noTrainer c.applyHead c.applyTail = true)
    (hcf : c.copyFaithful pe = true) (reg : Registry) (closed : Bool) (gen : Option Nat) (run hp : Nat) :
    step ⟨c, c.perfMech ρ closed pe⟩ reg ⟨.perftrack, gen, run, hp⟩ =
      match c.perfMech ρ closed pe with
      | .error e => .error e
      | .ok _ => step ⟨c, c.perfMech ρ closed pe⟩ reg ⟨.apply, gen, run, hp⟩ := by
  cases hm : c.perfMech ρ closed pe with
  | error e => simp only [step]
  | ok m =>
    obtain ⟨paths, hp', rfl⟩ := Comp.copiedMech_eq_withCopy (Comp.copiedMech_of_perfMech hm)
    have hE := Comp.copyFaithful_spec hp' hcf
    simp only [step]
    show runSegment (c.withCopy ρ _ _) c.applyHead c.applyTail reg ⟨.perftrack, gen, run, hp⟩ = _
    rw [runSegment_withCopy hf htail hdist hnt hE]
    simp only [runSegment]

/-- **Binding with the mechanical copy**: hypotheses on the plain composition only (well-formed, no trainer off the
apply tail, `Traversal.copy` faithful on it). -/
theorem C04_binding_mech (c : Comp) (ρ : Nat → Nat) (closed : Bool) (pe : List PEdge) (hf : FreshFor ρ c)
    (hwf : c.wfPlain = true) (htail : c.tailClean = true) (hcf : c.copyFaithful pe = true)
    (hist : List (Action × Fresh)) (hfresh : FreshOk hist) : HistoryOk ⟨c, c.perfMech ρ closed pe⟩ hist :=
  fun entry he => (runHistory_ok _ (ok_perfMech closed pe hf hwf htail hcf) hist [] (RegInv.nil _) hfresh entry he).2

/-- `flow.Composition(source, Parallel(m1, m2), sink)` — two parallel stateful branches merged by one worker — as
extracted from forml (canonical ids): 0 source(apply) → {1 m1, 4 m2} → 2 merger → 3 sink;  5 source(train) → 6 label
extractor → {7 trainer of m1, 8 m1 (train path), 11 trainer of m2, 12 m2 (train path)}, 8 → 9 merger ← 12, 9 → 10 sink;
13..15 prototype workers. -/
def fan2 : Comp where
  nodes := [⟨0, 0, 0, false, false⟩, ⟨1, 1, 1, true, false⟩, ⟨2, 2, 3, false, false⟩, ⟨3, 3, 0, false, false⟩,
    ⟨4, 4, 2, true, false⟩, ⟨5, 5, 0, false, false⟩, ⟨6, 6, 0, false, false⟩, ⟨7, 1, 1, true, true⟩,
    ⟨8, 1, 1, true, false⟩, ⟨9, 2, 3, false, false⟩, ⟨10, 3, 0, false, false⟩, ⟨11, 4, 2, true, true⟩,
    ⟨12, 4, 2, true, false⟩, ⟨13, 1, 1, true, false⟩, ⟨14, 3, 0, false, false⟩, ⟨15, 4, 2, true, false⟩]
  edges := [(0, 1), (0, 4), (1, 2), (2, 3), (4, 2), (5, 6), (6, 7), (6, 8), (6, 11), (6, 12), (6, 7), (6, 11), (8, 9),
    (9, 10), (12, 9)]
  applyHead := 0
  applyTail := 3
  trainHead := 5
  trainTail := 10

/-- its subscriptions with ports -/
def fan2Ports : List PEdge :=
  [⟨0, 1, 0, 0⟩, ⟨0, 4, 0, 0⟩, ⟨1, 2, 0, 0⟩, ⟨2, 3, 0, 0⟩, ⟨4, 2, 0, 1⟩, ⟨5, 6, 0, 0⟩, ⟨6, 7, 0, 1000⟩, ⟨6, 8, 0, 0⟩,
    ⟨6, 11, 0, 1000⟩, ⟨6, 12, 0, 0⟩, ⟨6, 7, 1, 1001⟩, ⟨6, 11, 1, 1001⟩, ⟨8, 9, 0, 0⟩, ⟨9, 10, 0, 0⟩, ⟨12, 9, 0, 1⟩]

/-- non-vacuity: the hypotheses hold for the fan-out; the mechanical copy walks two paths and persists the two
occurrences in the order of the plain composition -/
example : fan2.portsOk fan2Ports = true ∧ fan2.wfPlain = true ∧ fan2.tailClean = true
    ∧ fan2.copyFaithful fan2Ports = true := by decide +kernel
example : fan2.mpaths.toOption = some [[3, 2, 1, 0], [3, 2, 4, 0]] := by decide +kernel
example : fan2.persistentTags = [some 1, some 2] := by decide +kernel
example : ((fan2.copiedMech (· + 100) fan2Ports).toOption.map Comp.persistentTags) = some [some 1, some 2] := by decide +kernel
example : FreshFor (· + 100) fan2 := freshFor_add (by decide +kernel)

/-- the evaluation's composition of the fan-out with the path enumeration of the seeded change C04-m1 (explicit LIFO
stack): the copy registers the subscribers of the source in reversed order -/
def fan2Lifo : Case := ⟨fan2, fan2.copiedLifo (· + 100) fan2Ports⟩

example : fan2.mpathsLifo.toOption = some [[3, 2, 4, 0], [3, 2, 1, 0]] := by decide +kernel
example : ((fan2.copiedLifo (· + 100) fan2Ports).toOption.map Comp.persistentTags) = some [some 2, some 1] := by decide +kernel

/-- With the LIFO enumeration the persistent list of the evaluation's composition is ordered differently from the
list the training run committed with: `eval_perftrack` hands `m1` the state of `m2` and vice versa. -/
theorem C04_copy_lifo_counterexample :
    outcomes (runHistory fan2Lifo [] trainThenPerftrack) =
      [some [.trained 1 3 none, .applied 1 3 (some ⟨1, 0, 3, none⟩), .trained 2 3 none, .applied 2 3 (some ⟨2, 0, 3, none⟩)],
       some [.applied 1 5 (some ⟨2, 0, 3, none⟩), .applied 2 5 (some ⟨1, 0, 3, none⟩)]]
    ∧ anyBad (runHistory fan2Lifo [] trainThenPerftrack) = true := by decide +kernel

/-- **Every expansion is well-formed.** The composition graph of every pipeline expression over `wrap.Operator`s
(mapper, apply-only, train-only and label builders, stateful or stateless), `>>` and two-branch fan-outs merged by one
worker (`compOf`, Model/PersistExpr.lean — compared by the check with the graph extracted from the real expansion on
every generated pipeline of this grammar), with or without a sink, satisfies `Comp.wfPlain` and `Comp.tailClean`: one
builder per group, distinct uids, only stateful workers trained, a trainer of every persistent group visited on the
train segment, every applied stateful worker derived, no trainer on the apply segment or off its tail. -/
theorem C04_expansion_wellformed (e : PExpr) (sink : Bool) :
    (compOf e sink).wfPlain = true ∧ (compOf e sink).tailClean = true :=
  ⟨wfPlain_compOf e sink, tailClean_compOf e sink⟩

/-- **Binding for every such pipeline — no hypothesis left**: every expression, every history of lifecycle actions on
fresh expansions (any injective renamings of node and group ids), all four modes. -/
theorem C04_binding_expr (e : PExpr) (sink closed : Bool) (hist : List (Action × Fresh)) (hfresh : FreshOk hist) :
    HistoryOk ⟨compOf e sink, (compOf e sink).perfOf (· + (compOf e sink).bound) closed⟩ hist :=
  C04_binding_derived (compOf e sink) _ closed (Comp.freshFor_bound _) (wfPlain_compOf e sink)
    (tailClean_compOf e sink) hist hfresh

/-- non-vacuity: an operator with three different stateful builders (label 1, apply 2, train 3) followed by a mapper 4:
the apply-only actor 2 and the mapper 4 are persisted (the train-only and the label actor are not: they are never
applied in apply mode), batch apply hands both their own states -/
def wrapExpr : PExpr := .seq (.seq (.seq (.labelOp 1 true) (.applyOnly 2 true)) (.trainOnly 3 true)) (.mapper 4 true)

example : (compOf wrapExpr false).persistentTags = [some 2, some 4] := by decide +kernel
example : (outcomes (runHistory ⟨compOf wrapExpr false, (compOf wrapExpr false).perfOf (· + 1000) false⟩ []
      [(⟨.train, none, 0, 3⟩, idFresh), (⟨.apply, none, 1, 5⟩, idFresh)])).getLast? =
    some (some [.applied 2 5 (some ⟨2, 0, 3, none⟩), .applied 4 5 (some ⟨4, 0, 3, none⟩)]) := by decide +kernel

/-- non-vacuity: `m1 >> Parallel(m2 >> m3, m4) >> m5` with a sink persists its five stateful occurrences in the
depth-first order of the apply segment (the merger's successor `m5` before the second branch), and a train / perftrack
history hands every one of them its own state -/
def fanExpr : PExpr :=
  .seq (.seq (.mapper 1 true) (.par (.seq (.mapper 2 true) (.mapper 3 true)) (.mapper 4 true) 6)) (.mapper 5 true)

example : (compOf fanExpr true).persistentTags = [some 1, some 2, some 3, some 5, some 4] := by decide +kernel
example : outcomes (runHistory ⟨compOf fanExpr true, (compOf fanExpr true).perfOf (· + 1000) true⟩ []
      [(⟨.train, none, 0, 3⟩, idFresh), (⟨.perftrack, none, 1, 5⟩, idFresh)]) =
    [some [.trained 1 3 none, .applied 1 3 (some ⟨1, 0, 3, none⟩), .trained 2 3 none, .applied 2 3 (some ⟨2, 0, 3, none⟩),
           .trained 3 3 none, .applied 3 3 (some ⟨3, 0, 3, none⟩), .trained 5 3 none, .applied 5 3 (some ⟨5, 0, 3, none⟩),
           .trained 4 3 none, .applied 4 3 (some ⟨4, 0, 3, none⟩)],
     some [.applied 1 5 (some ⟨1, 0, 3, none⟩), .applied 2 5 (some ⟨2, 0, 3, none⟩), .applied 3 5 (some ⟨3, 0, 3, none⟩),
           .applied 5 5 (some ⟨5, 0, 3, none⟩), .applied 4 5 (some ⟨4, 0, 3, none⟩)]] := by decide +kernel

/-- **Pinned generation.** Once the first load of an action has resolved the generation (explicit key or `latest`),
every later load of that action reads the same generation — the one `select` names on the registry as it was at the
first load — no matter how many generations other processes commit between the loads. -/
theorem C04_generation_pinned (P : List Nat) (sel : Option Nat) (reg : Registry) (g : Generation)
    (hsel : select reg sel = .ok (some g)) (gid₀ : Nat) (h₀ : P.contains gid₀ = true) (evs : List Ev) :
    runEvents P ⟨sel⟩ reg (.load gid₀ :: evs)
      = (gid₀ :: loadsOf evs).map (fun gid => Assets.load ⟨P, select reg sel⟩ gid) := by
  obtain ⟨k, hk0, hk, hfirst⟩ := first_load_pins P hsel h₀
  simp only [runEvents, hfirst, List.map_cons, hsel, runEvents_pinned P hk0 evs reg hk]

/-- the same without requiring that a generation is selected at the first load -/
def C04_generation_pinned_full : Prop :=
  ∀ (P : List Nat) (sel : Option Nat) (reg : Registry) (gid₀ : Nat) (evs : List Ev), P.contains gid₀ = true →
    runEvents P ⟨sel⟩ reg (.load gid₀ :: evs)
      = (gid₀ :: loadsOf evs).map (fun gid => Assets.load ⟨P, select reg sel⟩ gid)

/-- An action on a release without generations pins nothing (`Listing.Empty` → null tag): if the first generation
is committed between two of its loads, the first actor runs without state and the second with a state of generation 1. -/
theorem C04_generation_pinned_counterexample : ¬ C04_generation_pinned_full := by
  intro h
  have h1 := h [7, 8] none [] 7 [.commit ⟨0, [⟨1, 0, 0, none⟩, ⟨2, 0, 0, none⟩]⟩, .load 8] (by decide +kernel)
  have h2 := congrArg (List.map Except.toOption) h1
  revert h2
  decide +kernel

/-- Without storing the resolved key (`latest` looked up again by every load) one action mixes generations. -/
theorem C04_unpinned_counterexample :
    (runEventsUnpinned [7, 8] none [⟨0, [⟨1, 0, 0, none⟩, ⟨2, 0, 0, none⟩]⟩]
        [.load 7, .commit ⟨1, [⟨1, 1, 0, some (1, 0)⟩, ⟨2, 1, 0, some (2, 0)⟩]⟩, .load 8]).map Except.toOption
      = [some (some ⟨1, 0, 0, none⟩), some (some ⟨2, 1, 0, some (2, 0)⟩)] := by decide +kernel

/-- **Crash consistency of the binding.** Whatever prefix of the micro-steps of a training run's commit has been
executed (stage the state files, create the directory, move the files, write and publish the tag), every *listed*
generation holds every state its tag lists — so no load of a listed generation can answer "no state". -/
theorem C04_listed_complete (s : Store) (hs : s.ok = true) (k run : Nat) (states : List (Nat × Origin)) (n : Nat) :
    (runOps s ((trainOps k run states).take n)).ok = true := by
  by_cases hn : n ≤ (prepareOps k states).length
  · rw [trainOps, List.take_append_of_le_length hn]
    exact runOps_ok_prep _ s hs (fun op hop => prepareOps_prepFor k states op (List.mem_of_mem_take hop))
  · have hlen : (trainOps k run states).length ≤ n := by
      simp only [trainOps, List.length_append, List.length_cons, List.length_nil]
      omega
    rw [List.take_of_length_le hlen, trainOps, runOps_append]
    cases hp : runAll s (prepareOps k states) with
    | none => exact runOps_ok_prep _ s hs (prepareOps_prepFor k states)
    | some s' =>
      have hs' := runOps_of_runAll _ s s' hp ▸ runOps_ok_prep _ s hs (prepareOps_prepFor k states)
      have hfiles := prepare_hasFiles k states s s' hp
      simp only [runOps]
      cases ha : applyOp s' (Op.publishTag k run (states.map (·.1))) with
      | none => exact hs'
      | some s'' => exact publish_ok hs' hfiles s'' ha

/-- Publishing the tag before the state files are moved leaves a window in which a listed generation lacks a state. -/
theorem C04_tag_first_counterexample :
    (runOps ⟨[], []⟩ ((tagFirstOps 1 0 [(11, ⟨1, 0, 0, none⟩), (12, ⟨2, 0, 0, none⟩)]).take 6)).ok = false := by
  decide +kernel

/-- **A commit is atomic for the readers.** Whatever prefix of its micro-steps a training run completes before it
dies, the registry reads either exactly as before (any proper prefix) or as before plus exactly the committed
generation with exactly the states of that run (all micro-steps) — never a generation with a state missing,
replaced or out of position. -/
theorem C04_commit_atomic (reg : Registry) (g : Generation) (n : Nat) :
    (n < (commitOps reg g).length → crashedCommit reg g n = reg) ∧
    ((commitOps reg g).length ≤ n → crashedCommit reg g n = reg ++ [g]) :=
  ⟨crashedCommit_crashed reg g n, crashedCommit_complete reg g n⟩

/-- non-vacuity: a complete commit is listed with both states, a crashed one is not listed at all -/
example : crashedCommit [] ⟨0, [⟨1, 0, 0, none⟩, ⟨2, 0, 0, none⟩]⟩ 7 = [⟨0, [⟨1, 0, 0, none⟩, ⟨2, 0, 0, none⟩]⟩] := by
  decide +kernel
example : crashedCommit [] ⟨0, [⟨1, 0, 0, none⟩, ⟨2, 0, 0, none⟩]⟩ 6 = [] := by decide +kernel
example : (commitOps [] ⟨0, [⟨1, 0, 0, none⟩, ⟨2, 0, 0, none⟩]⟩).length = 7 := by decide +kernel

/-- every observation of every successful action of a history with faults satisfies the property (judged against the
registry the action started from: its loads are pinned, `C04_generation_pinned`) -/
def FaultyHistoryOk (cs : Case) (hist : List (Action × Fresh × Fault)) : Prop :=
  ∀ entry ∈ runFaulty cs [] hist, ∀ obs, entry.2.2 = .ok obs → ∀ o ∈ obs, obsOk entry.2.1 entry.1 o = true

/-- **Binding under faults.** On a well-formed case, for every history in which any training run may die after any
number of micro-steps of its commit and any other action may be overtaken by a re-training of another process that
commits a new generation after the action's first state load: every stateful actor applied while generation `k` is
loaded holds the state its own occurrence produced in the run that committed `k`, a re-training that starts from a
state starts from exactly that state, hyper-parameters are the action's.  (The observations of an action are those of
`step` on the registry it started from: `runFaulty` does not interleave the racing commit with the action's loads,
`C04_generation_pinned` is the separate statement that this makes no difference.) -/
theorem C04_binding_faulty (cs : Case) (hwf : cs.wf = true) (hist : List (Action × Fresh × Fault))
    (hfresh : FaultyFreshOk hist) : FaultyHistoryOk cs hist := by
  intro entry he obs hobs o ho
  exact (runFaulty_ok cs (.of_wf hwf) hist [] (RegInv.nil _) hfresh entry he).2 obs hobs o ho

/-- ... and every generation listed at any point of such a history holds, position by position, the states of the
occurrences behind `Composition.persistent`, all of the run that committed it: a crashed commit leaves nothing
half-listed behind (so `C04_load_total` applies: no later load answers "no state"). -/
theorem C04_registry_invariant_faulty (cs : Case) (hwf : cs.wf = true) (hist : List (Action × Fresh × Fault))
    (hfresh : FaultyFreshOk hist) :
    ∀ entry ∈ runFaulty cs [] hist, ∀ g ∈ entry.2.1,
      g.states.map (fun s => some s.tag) = cs.plain.persistentTags ∧ ∀ s ∈ g.states, s.run = g.run := by
  intro entry he g hg
  exact (runFaulty_ok cs (.of_wf hwf) hist [] (RegInv.nil _) hfresh entry he).1 g hg

/-- non-vacuity: train; a re-training that dies right before publishing its tag; apply overtaken by another
re-training; apply of the latest generation.  Generation 2 is the racing run's (run 9), not the crashed one's. -/
def faultyWitness : List (Action × Fresh × Fault) :=
  [(⟨.train, none, 0, 3⟩, idFresh, ⟨none, none⟩), (⟨.train, none, 1, 4⟩, idFresh, ⟨some 6, none⟩),
   (⟨.apply, none, 2, 5⟩, idFresh, ⟨none, some (9, 7, idFresh)⟩), (⟨.apply, none, 3, 6⟩, idFresh, ⟨none, none⟩)]

example : outcomes (runFaulty chain2Case [] faultyWitness) =
    [some [.trained 1 3 none, .applied 1 3 (some ⟨1, 0, 3, none⟩), .trained 2 3 none, .applied 2 3 (some ⟨2, 0, 3, none⟩)],
     some [.trained 1 4 (some ⟨1, 0, 3, none⟩), .applied 1 4 (some ⟨1, 1, 4, some (1, 0)⟩),
           .trained 2 4 (some ⟨2, 0, 3, none⟩), .applied 2 4 (some ⟨2, 1, 4, some (2, 0)⟩)],
     some [.applied 1 5 (some ⟨1, 0, 3, none⟩), .applied 2 5 (some ⟨2, 0, 3, none⟩)],
     some [.applied 1 6 (some ⟨1, 9, 7, some (1, 0)⟩), .applied 2 6 (some ⟨2, 9, 7, some (2, 0)⟩)]] := by decide +kernel

/-- **Numbering.** `Release.put` numbers a new generation with the successor of the greatest listed key: on every
ascending listing — gap-free or not, whatever an administrator has removed — that key is greater than every listed one,
in particular not listed. -/
theorem C04_numbering_fresh (r : SReg) (h : r.Ascending) : (∀ k ∈ r.keys, k < r.nextKey) ∧ r.nextKey ∉ r.keys := by
  have hlt : ∀ k ∈ r.keys, k < r.nextKey := by
    intro k hk
    simp only [SReg.keys, List.mem_map] at hk
    obtain ⟨e, he, rfl⟩ := hk
    exact SReg.lt_nextKey r h e he
  exact ⟨hlt, fun hm => Nat.lt_irrefl _ (hlt _ hm)⟩

/-- an action on a sparse registry keeps every listed generation as it is and lists at most one more, under a new key -/
theorem C04_sparse_append_only (cs : Case) (hwf : cs.wf = true) (r r' : SReg) (hinv : SInv cs.plain.persistentTags r)
    (hasc : r.Ascending) (a : Action) (obs : List Obs) (h : stepS cs r a = .ok (r', obs)) :
    (r' = r ∨ ∃ g, r' = r ++ [(r.nextKey, g)]) ∧ r'.Ascending :=
  ⟨stepS_append h, stepS_ascending h hasc⟩

/-- **Binding with housekeeping.** On a well-formed case, for every history of lifecycle actions (each on a fresh
expansion) and removals of generations: every listed generation stays bound to the occurrences behind
`Composition.persistent`, and every observation satisfies the property with respect to the generation the action
selects on the sparse listing (the latest listed one, or the explicit one if it is listed). -/
theorem C04_binding_sparse (cs : Case) (hwf : cs.wf = true) (hist : List SAct) (hfresh : SparseFreshOk hist) :
    ∀ entry ∈ runSparse cs [] hist,
      SInv cs.plain.persistentTags entry.1 ∧ entry.1.Ascending ∧
      ∀ a obs, entry.2.2 = some (a, .ok obs) → ∀ o ∈ obs, obsOk (judged entry.1 a).1 (judged entry.1 a).2 o = true :=
  runSparse_ok cs (.of_wf hwf) hist [] (fun e he => by cases he) List.Pairwise.nil hfresh

/-- non-vacuity: three trainings, generation 1 removed, a fourth training is listed as 4 (not 3), generations 2 and 3
are untouched; applying the removed generation is refused -/
def sparseWitness : List SAct :=
  [.act ⟨.train, none, 0, 1⟩ idFresh, .act ⟨.train, none, 1, 2⟩ idFresh, .act ⟨.train, none, 2, 3⟩ idFresh, .prune 1,
   .act ⟨.train, none, 3, 4⟩ idFresh, .act ⟨.apply, some 3, 4, 5⟩ idFresh, .act ⟨.apply, some 1, 5, 6⟩ idFresh]

example : (runSparse chain2Case [] sparseWitness).map (·.2.1) =
    [[1], [1, 2], [1, 2, 3], [2, 3], [2, 3, 4], [2, 3, 4], [2, 3, 4]] := by decide +kernel
example : ((runSparse chain2Case [] sparseWitness).map (fun e => e.2.2.map (fun r => r.2.toOption))).drop 5 =
    [some (some [.applied 1 5 (some ⟨1, 2, 3, some (1, 1)⟩), .applied 2 5 (some ⟨2, 2, 3, some (2, 1)⟩)]), some none] := by
  decide +kernel

/-- the same for histories whose actions all run in ONE process (warm `TAGS`/`STATES` caches): every observation is
bound to the generation *listed* under the key the action addresses -/
def C04_binding_sparse_cached_full : Prop :=
  ∀ (cs : Case) (hist : List SAct), cs.wf = true → SparseFreshOk hist →
    ∀ entry ∈ runSparseShared cs [] [] hist, ∀ a obs, entry.2.2 = some (a, .ok obs) →
      ∀ o ∈ obs, obsOk (judged entry.1 a).1 (judged entry.1 a).2 o = true

/-- some observation of some successful action is not bound to the listed generation -/
def sparseBad (l : List (SReg × List Nat × Option (Action × Except Err (List Obs)))) : Bool :=
  l.any (fun e => match e.2.2 with
    | some (a, .ok obs) => obs.any (fun o => !obsOk (judged e.1 a).1 (judged e.1 a).2 o)
    | _ => false)

theorem sparseBad_spec {l : List (SReg × List Nat × Option (Action × Except Err (List Obs)))} (h : sparseBad l = true) :
    ∃ entry ∈ l, ∃ a obs, entry.2.2 = some (a, .ok obs) ∧
      ∃ o ∈ obs, obsOk (judged entry.1 a).1 (judged entry.1 a).2 o = false := by
  simp only [sparseBad, List.any_eq_true] at h
  obtain ⟨entry, he, hb⟩ := h
  cases hr : entry.2.2 with
  | none => rw [hr] at hb; cases hb
  | some p =>
    obtain ⟨a, res⟩ := p
    cases res with
    | error e => rw [hr] at hb; cases hb
    | ok obs =>
      rw [hr] at hb
      simp only [List.any_eq_true, Bool.not_eq_true'] at hb
      obtain ⟨o, ho, hbad⟩ := hb
      exact ⟨entry, he, a, obs, hr, o, ho, hbad⟩

/-- train, apply generation 1, the administrator removes generation 1, train again (generation 1 once more), apply
generation 1 — in one process -/
def staleWitness : List SAct :=
  [.act ⟨.train, none, 0, 3⟩ idFresh, .act ⟨.apply, some 1, 1, 0⟩ idFresh, .prune 1, .act ⟨.train, none, 3, 4⟩ idFresh,
   .act ⟨.apply, some 1, 4, 1⟩ idFresh]

/-- In one process the caches are never invalidated: once the number of a removed generation is used again, the
process keeps applying the removed generation's states (finding C04-F3, reproduced on the real code on every run);
with every action in a process of its own (`C04_binding_sparse`) the binding holds. -/
theorem C04_binding_sparse_cached_counterexample : ¬ C04_binding_sparse_cached_full := by
  intro h
  have hh := h chain2Case staleWitness chain2Case_wf (by
    intro x hx
    simp only [staleWitness, List.mem_cons, List.mem_nil_iff, or_false] at hx
    have hid : Inj idFresh.1 ∧ Inj idFresh.2 := ⟨inj_id, inj_id⟩
    rcases hx with rfl | rfl | rfl | rfl | rfl
    · exact hid
    · exact hid
    · trivial
    · exact hid
    · exact hid)
  have hbad := sparseBad_spec (l := runSparseShared chain2Case [] [] staleWitness) (by decide +kernel)
  obtain ⟨entry, he, a, obs, hobs, o, ho, hfalse⟩ := hbad
  have := hh entry he a obs hobs o ho
  rw [this] at hfalse
  cases hfalse

/-- The seeded change C04-mc2 on the model: numbering with `len(listing) + 1` hits an existing key as soon as the
listing has a gap. -/
theorem C04_numbering_len_counterexample :
    SReg.nextKeyLen [(2, ⟨1, []⟩), (3, ⟨2, []⟩)] ∈ SReg.keys [(2, ⟨1, []⟩), (3, ⟨2, []⟩)]
      ∧ SReg.nextKey [(2, ⟨1, []⟩), (3, ⟨2, []⟩)] = 4 := by decide +kernel

/-- **Binding is per group.** When the occurrence tags tell the stateful groups apart (`Comp.groupsDistinct`; the
harness numbers the groups built from one builder object `builder * 100 + rank`), the state an applied worker holds
was produced by a trainer of *its own group* — whatever other groups were built from the same builder
(`builderOf`): any stateful worker carrying the tag of the held state is a member of the applied worker's group. -/
theorem C04_binding_per_group (cs : Case) (hwf : cs.wf = true) (hgd : cs.plain.groupsDistinct = true)
    (hist : List (Action × Fresh)) (hfresh : FreshOk hist) :
    ∀ entry ∈ runHistory cs [] hist, ∀ obs, entry.2.2 = .ok obs → ∀ tag hp s, Obs.applied tag hp (some s) ∈ obs →
      (entry.1.kind = .train ∨ (loaded entry.2.1 entry.1).isSome) →
      ∀ n ∈ cs.plain.nodes, ∀ m ∈ cs.plain.nodes, n.stateful = true → m.stateful = true → n.tag = tag → m.tag = s.tag →
        m.gid = n.gid := by
  intro entry he obs hobs tag hp s hmem hsel n hn m hm hns hms hnt hmt
  have hok := C04_binding_partial cs hwf hist hfresh entry he obs hobs _ hmem
  have htag : s.tag = tag := by
    simp only [obsOk, Bool.and_eq_true, beq_iff_eq] at hok
    cases hk : entry.1.kind with
    | train =>
      rw [hk] at hok
      simp only [Bool.and_eq_true, beq_iff_eq] at hok
      exact hok.2.1
    | apply | serve | perftrack =>
      rw [hk] at hok
      rcases hsel with h | h
      · rw [hk] at h; cases h
      · cases hl : loaded entry.2.1 entry.1 with
        | none => rw [hl] at h; cases h
        | some g =>
          rw [hl] at hok
          simp only [boundTo, Bool.and_eq_true, beq_iff_eq] at hok
          exact hok.2.1
  simp only [Comp.groupsDistinct, List.all_eq_true, Bool.or_eq_true, Bool.not_eq_true', Bool.and_eq_false_imp,
    bne_iff_ne, ne_eq, beq_iff_eq] at hgd
  have := hgd m hm n hn
  rcases this with (h | h) | h
  · exact absurd hns (by simpa [hms] using h)
  · exact absurd (by rw [hmt, htag, hnt]) h
  · exact h

/-- two consecutive passes of ONE builder (builder 1: occurrences 100 and 101) followed by a mapper (200) -/
def passesExpr : PExpr := .seq (.seq (.mapper 100 true) (.mapper 101 true)) (.mapper 200 true)

example : builderOf 100 = builderOf 101 ∧ (compOf passesExpr true).groupsDistinct = true
    ∧ (compOf passesExpr true).wfPlain = true := by decide +kernel
example : (outcomes (runHistory ⟨compOf passesExpr true, (compOf passesExpr true).perfOf (· + 1000) true⟩ []
      [(⟨.train, none, 0, 3⟩, idFresh), (⟨.serve, none, 1, 5⟩, idFresh)])).getLast? =
    some (some [.applied 100 5 (some ⟨100, 0, 3, none⟩), .applied 101 5 (some ⟨101, 0, 3, none⟩),
                .applied 200 5 (some ⟨200, 0, 3, none⟩)]) := by decide +kernel

/-- The seeded change C04-mc1 on the model: one actor per builder in the serving expression — the first pass runs with
the state of the second one. -/
theorem C04_shared_actor_counterexample :
    shareByBuilder [.applied 100 5 (some ⟨100, 0, 3, none⟩), .applied 101 5 (some ⟨101, 0, 3, none⟩),
                    .applied 200 5 (some ⟨200, 0, 3, none⟩)]
      = [.applied 100 5 (some ⟨101, 0, 3, none⟩), .applied 101 5 (some ⟨101, 0, 3, none⟩),
         .applied 200 5 (some ⟨200, 0, 3, none⟩)] := by decide +kernel

/-- **Binding through long-lived handles.** On a well-formed case, for every history in which each action works
through a fresh chain of objects or through one of any number of long-lived handles (an `asset.Instance` kept across
actions, possibly together with its runners): every observation satisfies the property with respect to the generation
the handle *addresses* — the key its instance resolved at its first use on a non-empty release (`Outcome.act.gen`),
for a kept serving runner the generation and the hyper-parameters of the moment it was built. -/
theorem C04_binding_handles (cs : Case) (hwf : cs.wf = true) (hist : List (Action × Fresh × Option Via))
    (hfresh : ViaFreshOk hist) (vs : Views) :
    ∀ out ∈ runHandles cs [] vs hist, ∀ obs, out.result = .ok obs → ∀ o ∈ obs, obsOk out.seen out.act o = true :=
  fun out ho => (runHandles_ok cs (.of_wf hwf) hist [] vs (RegInv.nil _) hfresh out ho).2

/-- Whatever a handle has cached, an action through it only appends to the registry: a committed generation is never
replaced (`Release.put` numbers the new generation from a fresh listing). -/
theorem C04_handles_append_only (cs : Case) (reg : Registry) (v : HandleView) (keeps : Bool) (a : Action) :
    ∃ l, (stepVia cs reg v keeps a).1 = reg ++ l :=
  stepVia_prefix cs reg v keeps a

/-- the long-lived handle `1`: an `asset.Instance` kept across actions, runners built anew -/
def viaA : Option Via := some ⟨1, false⟩

/-- non-vacuity (and the behaviour of the real code, reproduced by the check): three trainings through one instance —
the second one pins generation 1, so the third one re-trains from generation 1 again and commits generation 3; batch
apply through the same handle still addresses generation 1, a fresh chain the latest one -/
def handleWitness : List (Action × Fresh × Option Via) :=
  [(⟨.train, none, 0, 1⟩, idFresh, viaA), (⟨.train, none, 1, 2⟩, idFresh, viaA), (⟨.train, none, 2, 3⟩, idFresh, viaA),
   (⟨.apply, none, 3, 4⟩, idFresh, viaA), (⟨.apply, none, 4, 5⟩, idFresh, none)]

example : (runHandles chain2Case [] [] handleWitness).map (fun o => (o.act.gen, o.seen.length)) =
    [(none, 0), (some 1, 1), (some 1, 2), (some 1, 3), (none, 3)] := by decide +kernel
example : ((runHandles chain2Case [] [] handleWitness).map (fun o => o.result.toOption)).drop 2 =
    [some [.trained 1 3 (some ⟨1, 0, 1, none⟩), .applied 1 3 (some ⟨1, 2, 3, some (1, 0)⟩),
           .trained 2 3 (some ⟨2, 0, 1, none⟩), .applied 2 3 (some ⟨2, 2, 3, some (2, 0)⟩)],
     some [.applied 1 4 (some ⟨1, 0, 1, none⟩), .applied 2 4 (some ⟨2, 0, 1, none⟩)],
     some [.applied 1 5 (some ⟨1, 2, 3, some (1, 0)⟩), .applied 2 5 (some ⟨2, 2, 3, some (2, 0)⟩)]] := by decide +kernel

/-- The seeded change C04-mb2 on the model: a `Release` object that memoises its first non-empty listing numbers every
further generation from it — the third training through one handle replaces generation 2, which then holds the states
of run 2 although run 1 committed it, and generation 3 never appears. -/
theorem C04_stale_listing_counterexample :
    trainStale chain2Case [] none [⟨.train, none, 0, 1⟩, ⟨.train, none, 1, 2⟩, ⟨.train, none, 2, 3⟩]
      = [⟨0, [⟨1, 0, 1, none⟩, ⟨2, 0, 1, none⟩]⟩, ⟨2, [⟨1, 2, 3, some (1, 1)⟩, ⟨2, 2, 3, some (2, 1)⟩]⟩] := by decide +kernel

/-- **Current hyper-parameters.** Whatever the actor's state handling (`Flavour`: forml's default, an own codec
whose snapshot carries the training-time hyper-parameters, a pickled `__dict__` installed as it is, a codec without
hyper-parameters), after `SetState.set` the actor holds exactly the loaded state together with the hyper-parameters it
was built with — those of the current code; an empty state leaves the actor as built. -/
theorem C04_params_current (fl : Flavour) (a : ActorCfg) (s : Option Origin) :
    (presetActor fl a s).hp = a.hp ∧ (presetActor fl a s).state = (match s with | some o => some o | none => a.state) := by
  cases s with
  | none => exact ⟨rfl, rfl⟩
  | some o => cases fl <;> exact ⟨rfl, rfl⟩

/-- what the model's observations say is therefore what the actor runs with: the hyper-parameter of the action -/
theorem C04_params_observed (fl : Flavour) (hp : Nat) (s : Option Origin) (tag : Nat) :
    Obs.applied tag (presetActor fl ⟨hp, none⟩ s).hp (presetActor fl ⟨hp, none⟩ s).state = Obs.applied tag hp s := by
  cases s with
  | none => rfl
  | some o => cases fl <;> rfl

/-- The seeded change C04-mb3 on the model: without saving and restoring the hyper-parameters around `set_state`, an
actor whose snapshot carries them runs with those of the training-time code. -/
theorem C04_params_unrestored_counterexample :
    (presetActorUnrestored .ownCodec ⟨5, none⟩ (some ⟨1, 0, 3, none⟩)).hp = 3 ∧
    (presetActorUnrestored .default ⟨5, none⟩ (some ⟨1, 0, 3, none⟩)).hp = 5 := by decide +kernel

/-- **Binding for every pipeline of the grammar of `C04_binding_expr`, under faults** — no hypothesis on the
composition: trainings that die at any micro-step of their commit, re-trainings of other processes committing after
the first state load of an action (`runFaulty`). -/
theorem C04_binding_expr_faulty (e : PExpr) (sink closed : Bool) (hist : List (Action × Fresh × Fault))
    (hfresh : FaultyFreshOk hist) :
    FaultyHistoryOk ⟨compOf e sink, (compOf e sink).perfOf (· + (compOf e sink).bound) closed⟩ hist :=
  fun entry he => (runFaulty_ok _
    (ok_perfOf closed (Comp.freshFor_bound _) (wfPlain_compOf e sink) (tailClean_compOf e sink)) hist []
    (RegInv.nil _) hfresh entry he).2

end ForML.Persist
