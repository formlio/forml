/-
C09 — A feed is selected exactly when it can resolve the statement.

Over the models `ForML.Model.Matcher`, `MatcherConf`, `MatcherParser` and `MatcherLru`.  All theorems are for every
statement, every advertised set, every pool, every configuration section and every concrete parser (unbounded);
`example`s are non-vacuity tests.
-/
import ForML.Model.Matcher
import ForML.Model.MatcherConf
import ForML.Lemmas.C09
import ForML.Lemmas.C09Conf
import ForML.Model.MatcherParser
import ForML.Lemmas.C09Parser
import ForML.Lemmas.C09Memo

namespace ForML.Matcher

open ForML.Dsl

deriving instance DecidableEq for Except

/-- `Importer.Matcher` accepts a statement exactly when the advertised sources cover everything it reads, directly
or through an advertised sub-statement. -/
theorem C09_covers_spec (S : Sources) (s : Source) : covers S s = coversSpec S s :=
  (visit_eq_spec S s true).trans (Bool.true_and _)

/-- once the flag is down it stays down (`if self and …`) -/
theorem C09_visit_false (S : Sources) (s : Source) : visit S s false = false :=
  (visit_eq_spec S s false).trans (Bool.false_and _)

/-- a feed advertising more covers at least as much -/
theorem C09_covers_mono {S S' : Sources} (h : ∀ x, x ∈ S → x ∈ S') (s : Source) (hc : covers S s = true) :
    covers S' s = true := by
  rw [C09_covers_spec] at *
  exact coversSpec_mono h s hc

/-- Feed `i` is the highest-priority feed of the pool that covers `s`, ties broken by construction order. -/
def isFirstCovering (pool : Pool) (s : Source) (i : Nat) : Prop :=
  ∃ f, pool[i]? = some f ∧ covers f.sources s = true ∧
    ∀ j g, pool[j]? = some g → covers g.sources s = true → j ≠ i →
      g.prio.lt f.prio = true ∨ (g.prio = f.prio ∧ i < j)

/-- `Importer.match` returns feed `i` iff `i` is the first feed in priority order (descending priority, equal
priorities in construction order) whose advertised sources cover the statement. -/
theorem C09_select (pool : Pool) (s : Source) (i : Nat) : select pool s = some i ↔ isFirstCovering pool s i := by
  rw [select_eq_some]
  refine exists_congr fun f => and_congr_right fun _ => and_congr_right fun _ =>
    forall_congr' fun j => forall_congr' fun g => imp_congr_right fun _ => imp_congr_right fun _ => ?_
  exact Decidable.or_iff_not_imp_left.trans (imp_congr_right fun _ => or_congr_right (and_congr_left' eq_comm))

/-- `Importer._feeds` holds every feed of the pool exactly once … -/
theorem C09_order_complete (pool : Pool) :
    (order pool).length = pool.length ∧ ∀ z : Nat × Slot, z ∈ order pool ↔ pool[z.1]? = some z.2 :=
  ⟨length_order pool, fun _ => mem_order⟩

/-- … sorted by descending priority, feeds of equal priority in construction order (`sorted(…, reverse=True)`). -/
theorem C09_order_sorted (pool : Pool) :
    (order pool).Pairwise (fun x y => y.2.prio.lt x.2.prio = true ∨ (x.2.prio = y.2.prio ∧ x.1 < y.1)) :=
  pairwise_order pool

/-- no feed is returned iff no feed of the pool covers the statement -/
theorem C09_select_none (pool : Pool) (s : Source) :
    select pool s = none ↔ ∀ f ∈ pool, covers f.sources s = false := by
  rw [select_eq_none]
  exact ⟨fun h f hf => (List.getElem?_of_mem hf).elim fun j hj => h j f hj,
    fun h j g hj => h g (List.mem_of_getElem? hj)⟩

/-- `Importer.match` raises the missing-source error exactly when no feed of the pool covers the statement
(and returns a feed otherwise). -/
theorem C09_missing_error (pool : Pool) (s : Source) :
    importerMatch pool s = .error .missing ↔ ∀ f ∈ pool, covers f.sources s = false :=
  importerMatch_eq_error.trans (C09_select_none pool s)

theorem C09_match_ok (pool : Pool) (s : Source) (i : Nat) :
    importerMatch pool s = .ok i ↔ isFirstCovering pool s i :=
  importerMatch_eq_ok.trans (C09_select pool s i)

/-- an explicit instance (infinite priority) that covers is never beaten by a lazily configured feed -/
theorem C09_select_explicit (pool : Pool) (s : Source) (i j : Nat) (f g : Slot)
    (hsel : select pool s = some i) (hi : pool[i]? = some f) (hj : pool[j]? = some g) (hg : g.prio = .inf)
    (hc : covers g.sources s = true) : f.prio = .inf := by
  obtain ⟨f', hf', _, hall⟩ := (select_eq_some pool s i).mp hsel
  obtain rfl : f = f' := Option.some.inj (hi.symm.trans hf')
  rcases hall j g hj hc with rfl | hlt | ⟨he, _⟩
  · exact Option.some.inj (hj.symm.trans hi) ▸ hg
  · rw [hg, Prio.inf_not_lt] at hlt
    cases hlt
  · exact he.trans hg

/-- A memo keyed by `key statement` answers every history on which `key` is injective exactly like the function it
memoises (an exception is not remembered, hence recomputed). -/
theorem C09_memo_transparent {κ ε α : Type} [DecidableEq κ] (key : Source → κ) (f : Source → Except ε α)
    (ss : List Source) (hinj : ∀ a ∈ ss, ∀ b ∈ ss, key a = key b → a = b) : memoSeq key f ss = ss.map f :=
  cache_transparent (memoStep key f) (memoSeqFrom key f) memoStep_call (fun _ => rfl) (fun _ _ _ => rfl) ss [] hinj
    (fun _ h => nomatch h)

/-- forml's key is the statement itself (`functools.lru_cache`): transparent for EVERY history, whatever is memoised -/
theorem C09_memo_by_statement {ε α : Type} (f : Source → Except ε α) (ss : List Source) :
    memoSeq id f ss = ss.map f :=
  C09_memo_transparent id f ss (fun _ _ _ _ h => h)

/-- the importer's cache (`matchSeq`) is that memo -/
theorem C09_match_cache_is_memo (pool : Pool) (ss : List Source) :
    matchSeq pool ss = memoSeq id (importerMatch pool) ss :=
  matchSeqFrom_eq_memo pool ss []

/-- History independence: whatever an `Importer` was asked before (covered or uncovered statements, repetitions), every
answer is the single-shot answer `importerMatch pool s` — to which `C09_select` / `C09_missing_error` apply. -/
theorem C09_match_history_independent (pool : Pool) (ss : List Source) :
    matchSeq pool ss = ss.map (importerMatch pool) := by
  rw [C09_match_cache_is_memo, C09_memo_by_statement]

/-- … in particular the answer to the last request of any history -/
theorem C09_match_after_history (pool : Pool) (before : List Source) (s : Source) :
    (matchSeq pool (before ++ [s])).getLast? = some (importerMatch pool s) := by
  rw [C09_match_history_independent]
  simp

private def cV1 : Source := .table "Customer" [("id", .integer)]
private def cV2 : Source := .table "Customer" [("id", .integer), ("segment", .string)]

/-- A key as coarse as `repr(statement)` (a table shows as its name, not its schema) is NOT transparent: two catalog
versions of `Customer`, each served by its own feed — the second request gets the feed of the first. -/
theorem C09_memo_coarse_key_counterexample :
    ¬ ∀ (key : Source → String) (pool : Pool) (ss : List Source),
        memoSeq key (importerMatch pool) ss = ss.map (importerMatch pool) := by
  intro h
  have h1 := h nameKey [⟨.fin 2, [cV1]⟩, ⟨.fin 2, [cV2]⟩] [cV1, cV2]
  revert h1
  decide +kernel

/-- The skeleton gets through exactly when every table the statement reads is advertised: whatever else the feed
advertises (joins, sets, sub-queries, references) makes no difference, because `bypass` runs the wrapped `visit_*`
before it looks the override up and `visit_reference` has no override. -/
theorem C09_resolves_iff_tables (S : Sources) : ∀ s, resolvesSkeleton S s = (tables s).all (adv S) := by
  intro s
  rw [← firstMissing_isNone, ← parseSkeleton_raised, resolvesSkeleton]
  cases parseSkeleton S s <;> rfl

/-- the error names a table the statement reads that the feed does not advertise -/
theorem C09_parse_error (S : Sources) (s t : Source) (h : parseSkeleton S s = .error t) :
    t ∈ tables s ∧ adv S t = false :=
  firstMissing_eq_some ((parseSkeleton_raised S s).symm.trans (congrArg raised h))

/-- a feed whose skeleton resolves the statement is accepted by the matcher -/
theorem C09_resolves_covers (S : Sources) (s : Source) (h : resolvesSkeleton S s = true) : covers S s = true := by
  rw [C09_covers_spec]
  rw [C09_resolves_iff_tables] at h
  exact coversSpec_of_tables S s h

/-! `Hooks σ τ` is everything a feed's `Reader.parser` supplies — its native symbols, every `generate_*`,
`resolve_feature`, the `Tables` registry, `Source.features`, each of which may raise.  The theorems below quantify
over all of them: they hold for the parser of any feed. -/

section parser
variable {σ τ : Type}

/-- A parser that gets through has resolved every table the statement reads. -/
theorem C09_parser_ok (H : Hooks σ τ) (S : Sources) (s : Source) (x : σ) (h : parseFull H S s = .ok x) :
    (tables s).all (adv S) = true := by
  rw [← firstMissing_isNone, (parseFull_sound H S s).1 x h]
  rfl

/-- The unprovisioned source a parser reports is a table the statement reads which the feed does not advertise: the
first one in visiting order (the one the source skeleton reports). -/
theorem C09_parser_reports (H : Hooks σ τ) (S : Sources) (s t : Source)
    (h : parseFull H S s = .error (.unprovisioned t)) :
    parseSkeleton S s = .error t ∧ t ∈ tables s ∧ adv S t = false := by
  have hm := (parseFull_sound H S s).2 t h
  exact ⟨raised_eq_some ((parseSkeleton_raised S s).trans hm), firstMissing_eq_some hm⟩

/-- If every table the statement reads is advertised, no parser reports an unprovisioned source (whatever else it may
fail on). -/
theorem C09_parser_no_report (H : Hooks σ τ) (S : Sources) (s : Source) (h : (tables s).all (adv S) = true) :
    reportsUnprovisioned H S s = none := by
  unfold reportsUnprovisioned
  split
  · rename_i t ht
    rw [← firstMissing_isNone, (parseFull_sound H S s).2 t ht] at h
    cases h
  · rfl

/-- A feed passed over for lacking a source could not have parsed the statement — whatever its parser is. -/
theorem C09_passed_over (H : Hooks σ τ) (S : Sources) (s : Source) (h : covers S s = false) :
    parsesOk H S s = false := by
  unfold parsesOk
  split
  · rename_i x hx
    rw [C09_covers_spec, coversSpec_of_tables S s (C09_parser_ok H S s x hx)] at h
    cases h
  · rfl

/-- … in the pool: every feed the importer iterates before the selected one (higher priority, or the same priority
and constructed earlier) does not cover and could not have parsed the statement. -/
theorem C09_passed_over_pool (H : Hooks σ τ) (pool : Pool) (s : Source) (i j : Nat) (f g : Slot)
    (hsel : select pool s = some i) (hi : pool[i]? = some f) (hj : pool[j]? = some g)
    (hb : before (j, g) (i, f)) : covers g.sources s = false ∧ parsesOk H g.sources s = false := by
  obtain ⟨f', hf', _, hall⟩ := (select_eq_some pool s i).mp hsel
  obtain rfl : f = f' := Option.some.inj (hi.symm.trans hf')
  have hc : covers g.sources s = false := by
    rw [Bool.eq_false_iff]
    intro hc
    rcases hall j g hj hc with rfl | hb'
    · exact before_irrefl _ (Option.some.inj (hj.symm.trans hi) ▸ hb)
    · exact before_asymm hb hb'
  exact ⟨hc, C09_passed_over H _ _ hc⟩

/-- nobody covers ⇒ nobody could have parsed it -/
theorem C09_missing_nobody_parses (H : Hooks σ τ) (pool : Pool) (s : Source)
    (h : importerMatch pool s = .error .missing) : ∀ f ∈ pool, parsesOk H f.sources s = false :=
  fun f hf => C09_passed_over H _ _ ((C09_missing_error pool s).mp h f hf)

end parser

/-- The property at full strength, for every parser: a feed whose parser gets through is accepted by the matcher, and
the parser of an accepted feed does not report an unprovisioned source. -/
def C09_agreement_full : Prop :=
  ∀ (σ τ : Type) (H : Hooks σ τ) (S : Sources) (s : Source),
    (parsesOk H S s = true → covers S s = true) ∧ (covers S s = true → reportsUnprovisioned H S s = none)

/-- … and its pool form: the selected feed's parser does not report an unprovisioned source. -/
def C09_selected_resolves_full : Prop :=
  ∀ (σ τ : Type) (H : Hooks σ τ) (pool : Pool) (s : Source) (i : Nat) (f : Slot),
    select pool s = some i → pool[i]? = some f → reportsUnprovisioned H f.sources s = none

/-- the free parser (what the harness' tuple parser builds) over a `Tables` registry that registers nothing -/
def nullParser : Hooks Term Unit :=
  freeHooks (fun _ => .ok []) () (fun _ _ => .ok ()) (fun _ _ => .ok ()) (fun _ _ => .ok []) (fun _ _ => .ok none)

private def tA : Source := .table "A" [("id", .integer)]
private def tB : Source := .table "B" [("id", .integer)]
private def jAB : Source := .join tA tB .cross .none
private def rA : Source := .ref tA "r"

/-- DESIGN §7 D10 (finding C09-F1): a feed advertising only the denormalised join `A × B` is accepted by the matcher
for that join, its parser raises `UnprovisionedError` for `A` — the wrapped `visit_join` runs before the override. -/
theorem C09_agreement_counterexample : ¬ C09_agreement_full := by
  intro h
  have h1 : covers [jAB] jAB = true := by decide +kernel
  have h2 : reportsUnprovisioned nullParser [jAB] jAB = some tA := by decide +kernel
  rw [(h _ _ nullParser [jAB] jAB).2 h1] at h2
  cases h2

/-- finding C09-F2: the same for an advertised reference (`visit_reference` has no override at all) -/
theorem C09_agreement_ref_counterexample :
    covers [rA] (.query rA .nil .none .nil .none .nil none) = true ∧
    reportsUnprovisioned nullParser [rA] (.query rA .nil .none .nil .none .nil none) = some tA := by decide +kernel

theorem C09_selected_resolves_counterexample : ¬ C09_selected_resolves_full := by
  intro h
  have h2 : reportsUnprovisioned nullParser [jAB] jAB = some tA := by decide +kernel
  rw [h _ _ nullParser [⟨.inf, [jAB]⟩] jAB 0 ⟨.inf, [jAB]⟩ (by decide +kernel) rfl] at h2
  cases h2

section parser
variable {σ τ : Type}

/-- What holds for the code that exists, for every parser: on a feed whose advertised sub-statements (the places where
the matcher cuts its descent) have all their tables advertised as well, a parser that gets through implies the matcher
accepts, and the parser of an accepted feed does not report an unprovisioned source. -/
theorem C09_agreement_partial (H : Hooks σ τ) (S : Sources) (s : Source) (hc : cutsProvisioned S s = true) :
    (parsesOk H S s = true → covers S s = true) ∧ (covers S s = true → reportsUnprovisioned H S s = none) := by
  constructor
  · intro hp
    cases hcv : covers S s
    · rw [C09_passed_over H S s hcv] at hp
      cases hp
    · rfl
  · intro h
    apply C09_parser_no_report
    rw [C09_covers_spec] at h
    exact tables_of_cuts S s hc h

/-- … and when the parser fails for no other reason (no unsupported construct, no failing `generate_*`, every column
in scope), the matcher accepts exactly the statements the parser gets through. -/
theorem C09_agreement_iff (H : Hooks σ τ) (S : Sources) (s : Source) (hc : cutsProvisioned S s = true)
    (ho : otherFailure H S s = false) : covers S s = true ↔ parsesOk H S s = true := by
  constructor
  · intro h
    have hr := (C09_agreement_partial H S s hc).2 h
    unfold reportsUnprovisioned at hr
    unfold otherFailure at ho
    unfold parsesOk
    cases hp : parseFull H S s with
    | ok x => rfl
    | error e =>
      rw [hp] at hr ho
      cases e with
      | unprovisioned t => cases hr
      | _ => cases ho
  · exact (C09_agreement_partial H S s hc).1

/-- feeds that advertise tables only (every feed shipped with forml): matcher and parser agree on every statement -/
theorem C09_agreement_tables_only (H : Hooks σ τ) (S : Sources) (s : Source) (h : tablesOnly S = true) :
    (parsesOk H S s = true → covers S s = true) ∧ (covers S s = true → reportsUnprovisioned H S s = none) :=
  C09_agreement_partial H S s (cuts_of_tablesOnly h s)

/-- the selected feed's parser does not report an unprovisioned source, provided the selected feed's cuts are
provisioned -/
theorem C09_selected_resolves_partial (H : Hooks σ τ) (pool : Pool) (s : Source) (i : Nat) (f : Slot)
    (hsel : select pool s = some i) (hi : pool[i]? = some f) (h : cutsProvisioned f.sources s = true) :
    reportsUnprovisioned H f.sources s = none := by
  obtain ⟨f', hf', hc, _⟩ := (select_eq_some pool s i).mp hsel
  obtain rfl : f = f' := Option.some.inj (hi.symm.trans hf')
  exact (C09_agreement_partial H _ _ h).2 hc

end parser

/-- `Feed._extract`: the pool priority of a configured feed is the section's own `priority` option (0 when there is
none) — whatever the `params` sub-table carries. -/
theorem C09_extract_priority (ref : String) (kw : Options) (d : Descriptor) (h : feedExtract ref kw = .ok d) :
    configuredPriority kw = .scalar (.num d.priority) :=
  (feedExtract_ok h).1

/-- `Feed._extract`: the keyword arguments of the feed constructor, as a mapping, are the `params` sub-table first
and the section's own generic options (everything but `priority`, `provider`, `params`) otherwise. -/
theorem C09_extract_params (ref : String) (kw : Options) (d : Descriptor) (h : feedExtract ref kw = .ok d)
    (k : String) : d.params.lookup k = ctorSpec kw k :=
  feedExtract_params h k

/-- … in particular every option of the `params` sub-table reaches the constructor untouched, whatever it is called
(`priority`, `provider` and `params` included: that is what the sub-table is for). -/
theorem C09_params_subtable_untouched (ref : String) (kw : Options) (d : Descriptor) (ps : List (String × Scalar))
    (k : String) (v : Scalar) (h : feedExtract ref kw = .ok d) (hp : kw.lookup "params" = some (.table ps))
    (hk : ps.lookup k = some v) : d.params.lookup k = some (.scalar v) := by
  rw [C09_extract_params ref kw d h k]
  simp [ctorSpec, hp, hk]

/-- … and the options the config parser consumes itself never reach the constructor from the section's top level. -/
theorem C09_reserved_consumed (ref : String) (kw : Options) (d : Descriptor) (k : String)
    (h : feedExtract ref kw = .ok d) (hk : k ∈ reserved) (hp : ∀ ps, kw.lookup "params" = some (.table ps) → ps.lookup k = none) :
    d.params.lookup k = none := by
  rw [C09_extract_params ref kw d h k]
  have hc : reserved.contains k = true := by simpa using hk
  unfold ctorSpec
  cases hq : kw.lookup "params" with
  | none => simp only [if_pos hc]
  | some v =>
    cases v with
    | scalar sv => simp only [if_pos hc]
    | table ps => simp only [hp ps hq, if_pos hc]

/-- The slots `io.Importer` builds from the members are the slots of their property-shaped reading: ∞ for an instance,
the configured priority and the feed constructed from the generic options for a descriptor. -/
theorem C09_conf_pool (members : List Member) (pool : Pool) (h : poolSingle members = .ok pool) (i : Nat) :
    (members[i]?).bind Member.slotSpec = pool[i]? :=
  poolSingle_get h i

/-- Member `i` is the first covering one in descending *configured* priority (ties in argument order). -/
def isFirstCoveringConf (members : List Member) (s : Source) (i : Nat) : Prop :=
  ∃ f, (members[i]?).bind Member.slotSpec = some f ∧ covers f.sources s = true ∧
    ∀ (j : Nat) (g : Slot), (members[j]?).bind Member.slotSpec = some g → covers g.sources s = true → j ≠ i →
      g.prio.lt f.prio = true ∨ (g.prio = f.prio ∧ i < j)

/-- `io.Importer(setup.Feed(a), feed, …).match(s)` returns member `i` iff `i` is the first covering member in
descending configured priority. -/
theorem C09_conf_match (members : List Member) (pool : Pool) (s : Source) (i : Nat)
    (h : poolSingle members = .ok pool) : matchConf members s = .ok (.ok i) ↔ isFirstCoveringConf members s i := by
  rw [matchConf_eq h, Except.ok.injEq, C09_match_ok]
  simp only [isFirstCovering, isFirstCoveringConf, poolSingle_get h]

/-- … and raises the missing-source error iff no member covers. -/
theorem C09_conf_missing (members : List Member) (pool : Pool) (s : Source) (h : poolSingle members = .ok pool) :
    matchConf members s = .ok (.error .missing) ↔
      ∀ (j : Nat) (g : Slot), (members[j]?).bind Member.slotSpec = some g → covers g.sources s = false := by
  rw [matchConf_eq h, Except.ok.injEq, importerMatch_eq_error, select_eq_none]
  simp only [poolSingle_get h]

/-- when a pool cannot be built, some section is missing or malformed and the error is that section's (the converse,
that such a section always prevents the pool, is not stated) -/
theorem C09_conf_error (members : List Member) (s : Source) (e : ConfErr) (h : matchConf members s = .error e) :
    ∃ m ∈ members, slotOf m = .error e := by
  unfold matchConf at h
  split at h
  · next hp =>
    cases h
    exact poolSingle_error hp
  · cases h

/-- A pool member given by its reference string (`io.Importer` documents `Union[setup.Feed, str, io.Feed]`) stands for
the descriptor resolved from that section of the configuration: to which `C09_conf_match` / `C09_conf_missing` /
`C09_conf_error` apply.  (For the code as repaired by fixes/C09-slot-reference-string.diff, finding C09-F3.) -/
theorem C09_reference_string_full (args : List Arg) (s : Source) :
    matchArgs args s = matchConf (args.map Arg.toMember) s := by
  unfold matchArgs matchConf
  rw [argPool_eq]

/-- Before the repair this was false: `Slot.__init__` kept the 1-tuple `setup.Feed.resolve(str)` returns as the slot's
instance, and `match` raised `AttributeError` when it reached it. -/
theorem C09_reference_string_legacy_counterexample :
    ¬ ∀ (args : List Arg) (s : Source), matchArgsLegacy args s = liftMatch (matchConf (args.map Arg.toMember) s) := by
  intro h
  have h1 := h [.reference "a" (some [("priority", .scalar (.num 2))]) (fun _ => [.table "A" [("id", .integer)]])]
    (.table "A" [("id", .integer)])
  revert h1
  decide +kernel

/-- `io.Importer(*instances, *setup.Feed.resolve([refs]))`: the pool holds every member exactly as its
property-shaped reading says (`Multi._lookup` only re-orders the descriptors). -/
theorem C09_multi_pool (members : List Member) (tagged : List (Nat × Slot)) (h : poolMulti members = .ok tagged)
    (z : Nat × Slot) : z ∈ tagged ↔ (members[z.1]?).bind Member.slotSpec = some z.2 :=
  mem_poolMulti h z

/-- … so the member returned covers the statement and no covering member has a higher configured priority … -/
theorem C09_multi_match (members : List Member) (tagged : List (Nat × Slot)) (s : Source) (i : Nat)
    (h : poolMulti members = .ok tagged) (hs : selectMulti members s = .ok (some i)) :
    ∃ f, (members[i]?).bind Member.slotSpec = some f ∧ covers f.sources s = true ∧
      ∀ (j : Nat) (g : Slot), (members[j]?).bind Member.slotSpec = some g → covers g.sources s = true → f.prio.lt g.prio = false := by
  simp only [selectMulti, h, Except.ok.injEq] at hs
  obtain ⟨k, hk, hs⟩ := Option.bind_eq_some_iff.mp hs
  obtain ⟨⟨i', f⟩, htk, rfl⟩ := Option.map_eq_some_iff.mp hs
  obtain ⟨f', hf', hc, hall⟩ := (select_eq_some _ s k).mp hk
  obtain rfl : f = f' := by simpa [htk] using hf'
  refine ⟨f, (mem_poolMulti h (i', f)).mp (List.mem_of_getElem? htk), hc, fun j g hj hg => ?_⟩
  obtain ⟨p, hp⟩ := List.getElem?_of_mem ((mem_poolMulti h (j, g)).mpr hj)
  have hpg : (tagged.map (·.2))[p]? = some g := by simp [hp]
  rcases hall p g hpg hg with rfl | hb
  · rw [Option.some.inj (hpg.symm.trans hf')]
    exact Prio.lt_irrefl _
  · exact before_not_lt hb

/-- … and the missing-source error is raised iff no member covers. -/
theorem C09_multi_missing (members : List Member) (tagged : List (Nat × Slot)) (s : Source)
    (h : poolMulti members = .ok tagged) :
    selectMulti members s = .ok none ↔
      ∀ (j : Nat) (g : Slot), (members[j]?).bind Member.slotSpec = some g → covers g.sources s = false := by
  -- a selected position of the pool always is a member: the `bind` yields `none` only when `select` does
  have hsel : (select (tagged.map (·.2)) s).bind (fun k => (tagged[k]?).map (·.1)) = none ↔
      select (tagged.map (·.2)) s = none := by
    cases hk : select (tagged.map (·.2)) s with
    | none => simp
    | some k =>
      obtain ⟨f, hf, _⟩ := (select_eq_some _ s k).mp hk
      cases ht : tagged[k]? <;> simp [ht] at hf ⊢
  simp only [selectMulti, h, Except.ok.injEq, hsel, select_eq_none, List.getElem?_map, Option.map_eq_some_iff]
  constructor
  · intro hall j g hj
    obtain ⟨p, hp⟩ := List.getElem?_of_mem ((mem_poolMulti h (j, g)).mpr hj)
    exact hall p g ⟨(j, g), hp, rfl⟩
  · rintro hall p g ⟨⟨j, g'⟩, hp, rfl⟩
    exact hall j g' ((mem_poolMulti h (j, g')).mp (List.mem_of_getElem? hp))

/-- the pool as `Importer.__init__` sees it (priorities are known without bringing a feed up) -/
def FPool.slots (pool : FPool) : Pool := pool.map FSlot.slot

/-- member `j` ends the scan: it fails to come up, or it covers -/
abbrev FPool.ends (pool : FPool) (s : Source) (j : Nat) (y : Slot) : Bool := ForML.Matcher.decisive pool.fails s (j, y)

/-- `match` returns member `i` iff `i` comes up and covers, and every other member that fails to come up or covers is
iterated AFTER `i` (lower priority, or the same priority and constructed later).  Nothing is said — nothing matters —
about what the members after `i` are. -/
theorem C09_fault_selected (pool : FPool) (s : Source) (i : Nat) :
    (matchFault pool s).1 = .selected i ↔
      ∃ x, pool.slots[i]? = some x ∧ pool.fails i = none ∧ covers x.sources s = true ∧
        ∀ (j : Nat) (y : Slot), pool.slots[j]? = some y → pool.ends s j y = true → j = i ∨ before (i, x) (j, y) := by
  unfold matchFault
  rw [scan_eq_find, outcomeOf_selected]
  refine exists_congr fun x => ?_
  rw [find?_order]
  constructor
  · rintro ⟨⟨hx, hd, hall⟩, hfail⟩
    exact ⟨hx, hfail, by simpa [decisive, hfail] using hd, hall⟩
  · rintro ⟨hx, hfail, hc, hall⟩
    exact ⟨⟨hx, by simp [decisive, hc], hall⟩, hfail⟩

/-- `match` raises what bringing member `i` up raises iff every other member that fails or covers is iterated after
`i`: a fault ABOVE the first covering feed surfaces, a fault below it never does. -/
theorem C09_fault_raised (pool : FPool) (s : Source) (e : String) :
    (matchFault pool s).1 = .raised e ↔
      ∃ i x, pool.slots[i]? = some x ∧ pool.fails i = some e ∧
        ∀ (j : Nat) (y : Slot), pool.slots[j]? = some y → pool.ends s j y = true → j = i ∨ before (i, x) (j, y) := by
  unfold matchFault
  rw [scan_eq_find, outcomeOf_raised]
  refine exists_congr fun i => exists_congr fun x => ?_
  rw [find?_order]
  constructor
  · rintro ⟨⟨hx, _, hall⟩, hfail⟩
    exact ⟨hx, hfail, hall⟩
  · rintro ⟨hx, hfail, hall⟩
    exact ⟨⟨hx, by simp [decisive, hfail], hall⟩, hfail⟩

/-- the missing-source error iff every member comes up and none covers -/
theorem C09_fault_missing (pool : FPool) (s : Source) :
    (matchFault pool s).1 = .missing ↔
      ∀ (j : Nat) (y : Slot), pool.slots[j]? = some y → pool.ends s j y = false := by
  unfold matchFault
  rw [scan_eq_find, outcomeOf_missing, find?_order_eq_none]
  rfl

/-- with every member healthy this is `Importer.match` of the plain pool (to which `C09_select` etc. apply) -/
theorem C09_fault_healthy (pool : FPool) (s : Source) (h : ∀ i, pool.fails i = none) :
    (matchFault pool s).1 = match importerMatch pool.slots s with
      | .ok i => .selected i
      | .error _ => .missing := by
  have hd : decisive pool.fails s = fun p => covers p.2.sources s := funext fun p => by simp [decisive, h]
  unfold matchFault importerMatch select FPool.slots
  rw [scan_eq_find, hd]
  cases (order (pool.map FSlot.slot)).find? (fun p => covers p.2.sources s) with
  | none => rfl
  | some p => simp [outcomeOf, h]

/-- Laziness: every member `match` touches (brings up) is the one that ends the scan or is iterated before every
member that could end it — a member below the selected feed (or below the fault that surfaced) is never touched. -/
theorem C09_fault_touched (pool : FPool) (s : Source) (j : Nat) (hj : j ∈ (matchFault pool s).2) :
    ∃ x, pool.slots[j]? = some x ∧
      ∀ (k : Nat) (y : Slot), pool.slots[k]? = some y → pool.ends s k y = true → k = j ∨ before (j, x) (k, y) := by
  obtain ⟨x, hx, hall⟩ := scan_touched _ _ _ (pairwise_order _) j hj
  exact ⟨x, mem_order.mp hx, fun k y hk hd => (hall (k, y) (mem_order.mpr hk) hd).imp_left (congrArg Prod.fst)⟩

/-- … and a history of requests on such a pool is answered request by request (memo by the statement itself; a raised
exception is not remembered; bringing a feed up is deterministic) -/
theorem C09_fault_history_independent (pool : FPool) (ss : List Source) :
    memoSeq id (fun s => (matchFault pool s).1.toExcept) ss = ss.map (fun s => (matchFault pool s).1.toExcept) :=
  C09_memo_by_statement _ ss

/-- A bounded LRU table of ANY capacity `n` (hits refresh their entry, a full table drops its least recently used entry,
exceptions are not remembered) is transparent for every memoised function and every history on which the key is
injective: eviction only ever forgets, it never makes an answer stale. -/
theorem C09_lru_transparent {κ ε α : Type} [DecidableEq κ] (n : Nat) (key : Source → κ) (f : Source → Except ε α)
    (ss : List Source) (hinj : ∀ a ∈ ss, ∀ b ∈ ss, key a = key b → a = b) : lruSeq n key f ss = ss.map f :=
  cache_transparent (lruStep n key f) (lruSeqFrom n key f) (lruStep_call n) (fun _ => rfl) (fun _ _ _ => rfl) ss []
    hinj (fun _ h => nomatch h)

/-- keyed by the statement itself: every capacity, every history, every memoised function -/
theorem C09_lru_by_statement {ε α : Type} (n : Nat) (f : Source → Except ε α) (ss : List Source) :
    lruSeq n id f ss = ss.map f :=
  C09_lru_transparent n id f ss (fun _ _ _ _ h => h)

/-- `Importer.match` as decorated in the code (`@functools.lru_cache`, 128 entries): every answer of one importer
instance to ANY request history - however long, however many distinct statements, whatever got evicted in between -
is the single-shot answer, so `C09_select` / `C09_missing_error` apply to it. -/
theorem C09_match_lru_history_independent (pool : Pool) (ss : List Source) :
    matchLru pool ss = ss.map (importerMatch pool) :=
  C09_lru_by_statement _ _ ss

/-- the bounded cache answers exactly as the unbounded one of `C09_match_history_independent`, whatever the capacity -/
theorem C09_lru_eq_unbounded (n : Nat) (pool : Pool) (ss : List Source) :
    lruSeq n id (importerMatch pool) ss = matchSeq pool ss := by
  rw [C09_lru_by_statement, C09_match_history_independent]

/-- … the same on pools whose lazily configured members may fail to come up -/
theorem C09_fault_lru_history_independent (n : Nat) (pool : FPool) (ss : List Source) :
    lruSeq n id (fun s => (matchFault pool s).1.toExcept) ss = ss.map (fun s => (matchFault pool s).1.toExcept) :=
  C09_lru_by_statement n _ ss

/-- the table never outgrows its capacity: after any history a fresh `lru_cache(maxsize = n)` holds at most `n` answers -/
theorem C09_lru_bounded {κ ε α : Type} [DecidableEq κ] (n : Nat) (key : Source → κ) (f : Source → Except ε α)
    (ss : List Source) : (lruStateFrom n key f [] ss).length ≤ n :=
  lruStateFrom_bounded n key f ss [] (Nat.zero_le n)

/-- eviction does not rescue a coarse key: with the code's capacity a cache keyed by `repr` still hands the second
catalog version of `Customer` the feed of the first -/
theorem C09_lru_coarse_key_counterexample :
    ¬ ∀ (key : Source → String) (pool : Pool) (ss : List Source),
        lruSeq lruDefaultSize key (importerMatch pool) ss = ss.map (importerMatch pool) := by
  intro h
  have h1 := h nameKey [⟨.fin 2, [cV1]⟩, ⟨.fin 2, [cV2]⟩] [cV1, cV2]
  revert h1
  decide +kernel

-- eviction really happens in the model: an evicted entry is gone, a hit moves its entry to the front, a `MissingError`
-- is not remembered, capacity 0 keeps nothing, an evicted statement is recomputed
example : (lruStateFrom 1 id (importerMatch [⟨.fin 1, [.table "A" [], .table "B" []]⟩]) []
    [.table "A" [], .table "B" []]).map (·.1) = [.table "B" []] := by decide +kernel
example : (lruStateFrom 2 id (importerMatch [⟨.fin 1, [.table "A" [], .table "B" []]⟩]) []
    [.table "A" [], .table "B" [], .table "A" []]).map (·.1) = [.table "A" [], .table "B" []] := by decide +kernel
example : (lruStateFrom 2 id (importerMatch [⟨.fin 1, [.table "A" []]⟩]) []
    [.table "A" [], .table "B" []]).map (·.1) = [.table "A" []] := by decide +kernel
example : (lruStateFrom 0 id (importerMatch [⟨.fin 1, [.table "A" []]⟩]) [] [.table "A" []]).length = 0 := by decide +kernel
example : lruSeq 1 id (importerMatch [⟨.fin 1, [.table "A" []]⟩, ⟨.fin 2, [.table "B" []]⟩])
    [.table "A" [], .table "B" [], .table "A" [], .table "C" []] = [.ok 0, .ok 1, .ok 0, .error .missing] := by decide +kernel

private def qAB : Source := .query jAB .nil .none .nil .none .nil none

-- the hypothesis of the partial theorem is satisfiable by a feed that does advertise a join, in both outcomes
example : cutsProvisioned [jAB, tA, tB] qAB = true ∧ covers [jAB, tA, tB] qAB = true := by decide +kernel
example : cutsProvisioned [tA] qAB = true ∧ covers [tA] qAB = false := by decide +kernel
example : cutsProvisioned [jAB] qAB = false := by decide +kernel
example : tablesOnly [tA, tB] = true ∧ covers [tA, tB] qAB = true ∧ resolvesSkeleton [tA, tB] qAB = true ∧
    parsesOk nullParser [tA, tB] qAB = true := by decide +kernel
-- the hypotheses of `C09_agreement_iff` hold in both outcomes
example : cutsProvisioned [jAB, tA, tB] qAB = true ∧ otherFailure nullParser [jAB, tA, tB] qAB = false ∧
    parsesOk nullParser [jAB, tA, tB] qAB = true := by decide +kernel
example : cutsProvisioned [tA] qAB = true ∧ otherFailure nullParser [tA] qAB = false ∧ parsesOk nullParser [tA] qAB = false ∧
    reportsUnprovisioned nullParser [tA] qAB = some tB := by decide +kernel
-- selection: priorities 3 / inf / 3 / 7, ties in construction order, explicit instance first, nobody covers
example : select [⟨.fin 3, [tA]⟩, ⟨.fin 3, [tA, tB]⟩, ⟨.fin 3, [jAB]⟩] qAB = some 1 := by decide +kernel
example : select [⟨.fin 3, [tA, tB]⟩, ⟨.fin 7, [jAB]⟩, ⟨.inf, [tB]⟩] qAB = some 1 := by decide +kernel
example : select [⟨.fin 9, [tA, tB]⟩, ⟨.inf, [qAB]⟩] qAB = some 1 := by decide +kernel
example : importerMatch [⟨.fin 9, [tA]⟩, ⟨.inf, [tB]⟩] qAB = .error .missing := by decide +kernel
example : matchSeq [⟨.fin 9, [tA]⟩, ⟨.fin 1, [tA, tB]⟩] [qAB, tA, qAB, tB, tA] = [.ok 1, .ok 0, .ok 1, .ok 1, .ok 0] := by decide +kernel
example : (order [⟨.fin 3, []⟩, ⟨.inf, []⟩, ⟨.fin 3, []⟩, ⟨.fin 7, []⟩]).map (·.1) = [1, 3, 0, 2] := by decide +kernel
-- the parser's result skeleton: the override replaces the join only after both tables were resolved
example : parseSkeleton [jAB, tA, tB] qAB = .ok (.query (.native jAB)) := by decide +kernel
example : parseSkeleton [jAB, tB] qAB = .error tA := by decide +kernel
-- the parser machine: the override replaces the symbol after the wrapped visit; columns resolve through the origins registry
example : parseFull nullParser [jAB, tA, tB] jAB = .ok (.native jAB) := by decide +kernel
example : parseFull nullParser [tA, tB] (.query jAB (.cons (.elem tA "id") .nil) .none .nil .none .nil none)
    = .ok (.query (.join (.native tA) (.native tB) .cross)) := by decide +kernel
example : parseFull nullParser [tA] (.query rA (.cons (.elem rA "id") .nil) .none .nil .none .nil none)
    = .ok (.query (.ref (.native tA) "r")) := by decide +kernel
-- a nested query has a context of its own: a column of its table is not in scope outside (`KeyError`, no unprovisioned source)
example : parseFull nullParser [tA] (.query (.query tA (.cons (.elem tA "id") .nil) .none .nil .none .nil none)
    (.cons (.elem tA "id") .nil) .none .nil .none .nil none) = .error (.keyError tA) := by decide +kernel
example : otherFailure nullParser [tA, tB] (.query tA (.cons (.elem tB "id") .nil) .none .nil .none .nil none) = true := by
  decide +kernel

-- configured pools: a `priority` inside `params` is a constructor option, not the pool priority
private def secA : Options :=
  [("provider", .scalar (.text "p")), ("priority", .scalar (.num 2)),
   ("params", .table [("identity", .text "alpha"), ("priority", .num 100)])]
private def secB : Options := [("provider", .scalar (.text "p")), ("priority", .scalar (.num 20)), ("region", .scalar (.text "eu"))]
private def secC : Options := [("params", .table [("priority", .num 100)])]
example : (feedExtract "a" secA).toOption.map (fun d => (d.reference, d.priority, d.params.lookup "priority", d.params.lookup "identity"))
    = some ("p", 2, some (.scalar (.num 100)), some (.scalar (.text "alpha"))) := by decide +kernel
example : (feedExtract "c" secC).toOption.map (fun d => (d.reference, d.priority, d.params.lookup "priority")) =
    some ("c", 0, some (.scalar (.num 100))) := by decide +kernel
example : matchConf [.conf "a" (some secA) (fun _ => [tA, tB]), .conf "b" (some secB) (fun _ => [tA, tB])] qAB = .ok (.ok 1) := by
  decide +kernel
example : matchConf [.conf "c" (some secC) (fun _ => [tA, tB]), .inst [tA], .conf "b" (some secB) (fun _ => [tA, tB])] qAB
    = .ok (.ok 2) := by decide +kernel
example : matchConf [.conf "a" (some secA) (fun _ => [tA, tB]), .conf "z" none (fun _ => [])] qAB = .error .missing := by decide +kernel
example : feedExtract "x" [("priority", .scalar (.text "high"))] = .error .valueError := by decide +kernel
-- the feed constructed depends on the options it receives
example : matchConf [.conf "a" (some secA) (fun kw => if kw "priority" = some (.scalar (.num 100)) then [tA, tB] else [])] qAB
    = .ok (.ok 0) := by decide +kernel
-- a member given by its reference string is the configured feed (priority 2 here, against 20 and ∞) …
example : matchArgs [.reference "a" (some secA) (fun _ => [tA, tB])] qAB = .ok (.ok 0) := by decide +kernel
example : matchArgs [.reference "a" (some secA) (fun _ => [tA, tB]), .member (.conf "b" (some secB) (fun _ => [tA, tB]))] qAB
    = .ok (.ok 1) := by decide +kernel
example : matchArgs [.member (.inst [tA]), .reference "a" (some secA) (fun _ => [tA, tB])] qAB = .ok (.ok 1) := by decide +kernel
example : matchArgs [.reference "z" none (fun _ => [tA, tB])] qAB = .error .missing := by decide +kernel
-- … before the repair: `AttributeError` when reached
example : matchArgsLegacy [.reference "a" (some secA) (fun _ => [tA, tB])] qAB = .ok (.error .attributeError) := by decide +kernel
-- through `setup.Feed.resolve`: equal priorities are ordered by the provider reference
example : selectMulti [.conf "a" (some [("provider", .scalar (.text "zeta"))]) (fun _ => [tA, tB]),
    .conf "b" (some [("provider", .scalar (.text "alpha"))]) (fun _ => [tA, tB])] qAB = .ok (some 1) := by decide +kernel

-- memo: keyed by the statement two catalog versions of a table are told apart, keyed by the name they are not
example : memoSeq id (importerMatch [⟨.fin 2, [cV1]⟩, ⟨.fin 2, [cV2]⟩]) [cV1, cV2, cV1] = [.ok 0, .ok 1, .ok 0] := by decide +kernel
example : memoSeq nameKey (importerMatch [⟨.fin 2, [cV1]⟩, ⟨.fin 2, [cV2]⟩]) [cV1, cV2, cV1] = [.ok 0, .ok 0, .ok 0] := by decide +kernel
-- faults: below the covering feed they do not exist, above it they surface; only what was needed is touched
example : matchFault [⟨.fin 9, .feed [tA, tB]⟩, ⟨.fin 1, .fails "ConnectionRefusedError"⟩, ⟨.fin 5, .feed [tA]⟩] qAB
    = (.selected 0, [0]) := by decide +kernel
example : matchFault [⟨.fin 1, .feed [tA, tB]⟩, ⟨.fin 9, .fails "ConnectionRefusedError"⟩] qAB
    = (.raised "ConnectionRefusedError", [1]) := by decide +kernel
example : matchFault [⟨.fin 1, .feed [tA, tB]⟩, ⟨.fin 9, .feed [tA]⟩, ⟨.inf, .feed []⟩, ⟨.fin 0, .fails "x"⟩] qAB
    = (.selected 0, [2, 1, 0]) := by decide +kernel
example : matchFault [⟨.fin 1, .feed [tA]⟩, ⟨.fin 9, .feed [tB]⟩] qAB = (.missing, [1, 0]) := by decide +kernel

end ForML.Matcher
