/-
C17 — Model-selection strategies honour their contract on every request history.

Reading of the statement in the model: after `n` requests slot `i` (weight `w`, count `c`, all
weights summing to `W`) is "within one request of its share" iff
    w * n < (c + 1) * W   (c > share*n - 1)   and   c * W < w * n + W   (c < share*n + 1).
-/
import ForML.Lemmas.C17Slots
import ForML.Lemmas.C17Float
import ForML.Lemmas.C17LatestFresh
import ForML.Lemmas.C17Explicit
import ForML.Lemmas.C17Builder

namespace ForML.Strategy

/-- Invariant of the run: counts sum to the number of requests, weights are unchanged. -/
structure Inv (ws : List Nat) (s : State) : Prop where
  weights : s.slots.map (·.1) = ws
  counts : sumC s.slots = s.total

theorem Inv.sumW_eq {ws : List Nat} {s : State} (hi : Inv ws s) : sumW s.slots = ws.sum := by
  rw [sumW_eq_sum, hi.weights]

theorem inv_init (ws : List Nat) : Inv ws (init ws) := by
  refine ⟨?_, ?_⟩
  · simp only [init, List.map_map, Function.comp_def, List.map_id']
  · show sumC (ws.map fun w => (w, 0)) = 0
    induction ws with
    | nil => rfl
    | cons w r ih => simp only [List.map_cons, sumC, ih]

theorem inv_step (ws : List Nat) (s s' : State) (hi : Inv ws s) (h : step s = some s') :
    Inv ws s' := by
  obtain ⟨ht, pre, w, c, post, e, e', _⟩ := step_some h
  have hw := hi.weights
  have hc := hi.counts
  rw [e] at hw hc
  rw [sumC_append] at hc
  refine ⟨?_, ?_⟩
  · rw [e', ← hw]; simp only [List.map_append, List.map_cons]
  · rw [e', ht, ← hc]; simp only [sumC_append, sumC]; omega

/-- One step never fails when some weight is positive (all are, `Variant` refuses `target <= 0`). -/
theorem C17_step_never_fails (ws : List Nat) (s : State) (hi : Inv ws s) (hpos : 0 < sumW s.slots) :
    (step s).isSome := by
  unfold step
  cases hsl : hitFirst (sumW s.slots) (s.total + 1) s.slots with
  | some _ => rfl
  | none =>
    -- `W * (t + 1) ≤ t * W` with `W > 0`
    have := none_eligible hsl
    rw [hi.counts, Nat.mul_succ, Nat.mul_comm] at this
    omega

/-- every slot satisfies `c * W < w * n + W` -/
def UpperOK (W n : Nat) (sl : List Slot) : Prop := ∀ x ∈ sl, x.2 * W < x.1 * n + W

/-- the slot that is hit was behind its share, the others only get more room -/
private theorem upper_hit {W n w c : Nat} {pre post : List Slot} (hu : UpperOK W n (pre ++ (w, c) :: post))
    (hlt : c * W < w * (n + 1)) : UpperOK W (n + 1) (pre ++ (w, c + 1) :: post) := by
  have mono : ∀ y ∈ pre ++ (w, c) :: post, y.2 * W < y.1 * (n + 1) + W := fun y hy =>
    Nat.lt_of_lt_of_le (hu y hy) (Nat.add_le_add_right (Nat.mul_le_mul_left _ (Nat.le_succ n)) W)
  intro y hy
  rw [List.mem_append, List.mem_cons] at hy
  rcases hy with hy | rfl | hy
  · exact mono y (List.mem_append_left _ hy)
  · show (c + 1) * W < w * (n + 1) + W
    rw [Nat.succ_mul]
    exact Nat.add_lt_add_right hlt W
  · exact mono y (List.mem_append_right _ (List.mem_cons_of_mem _ hy))

theorem run_reach (ws : List Nat) (hpos : 0 < ws.sum) (n : Nat) :
    ∃ s, run (init ws) n = some s ∧ Inv ws s ∧ s.total = n ∧ UpperOK ws.sum n s.slots := by
  refine run_all (P := fun n s => Inv ws s ∧ s.total = n ∧ UpperOK ws.sum n s.slots) ⟨inv_init ws, rfl, ?_⟩ ?_ n
  · intro x hx
    obtain ⟨w, _, rfl⟩ := List.mem_map.mp hx
    simpa using hpos
  · intro n s ⟨hi, ht, hu⟩
    obtain ⟨s', hs⟩ := Option.isSome_iff_exists.mp (C17_step_never_fails ws s hi (hi.sumW_eq ▸ hpos))
    obtain ⟨ht', pre, w, c, post, e, e', hlt⟩ := step_some hs
    rw [hi.sumW_eq, ht] at hlt
    exact ⟨s', hs, inv_step ws s s' hi hs, by rw [ht', ht], e' ▸ upper_hit (e ▸ hu) hlt⟩

theorem run_reach_of {ws : List Nat} {n : Nat} {s : State} (hpos : 0 < ws.sum) (h : run (init ws) n = some s) :
    Inv ws s ∧ s.total = n ∧ UpperOK ws.sum n s.slots := by
  obtain ⟨s', h', hr⟩ := run_reach ws hpos n
  cases h.symm.trans h'
  exact hr

/-- For every weight vector with a positive sum and every `n`, `n` consecutive
`select` calls all succeed (`RuntimeError('No eligible slots')` is unreachable). -/
theorem C17_never_fails (ws : List Nat) (hpos : 0 < ws.sum) (n : Nat) :
    ∃ s, run (init ws) n = some s ∧ Inv ws s ∧ sumW s.slots = ws.sum ∧ s.total = n := by
  obtain ⟨s, h, hi, ht, _⟩ := run_reach ws hpos n
  exact ⟨s, h, hi, hi.sumW_eq, ht⟩

/-- After any number `n` of requests every variant's count `c` satisfies
`c * W < w * n + W`, i.e. `c < share * n + 1`. -/
theorem C17_upper (ws : List Nat) (hpos : 0 < ws.sum) (n : Nat) :
    ∀ s, run (init ws) n = some s → UpperOK ws.sum n s.slots :=
  fun _ h => (run_reach_of hpos h).2.2

/-- every slot satisfies `w * n < (c + k) * W`, i.e. `c > share * n - k` -/
def LowerOK (W n k : Nat) (sl : List Slot) : Prop := ∀ x ∈ sl, x.1 * n < (x.2 + k) * W

private theorem upper_sum (W n : Nat) (sl : List Slot) (hu : UpperOK W n sl) :
    sumC sl * W + sl.length ≤ sumW sl * n + sl.length * W := by
  induction sl with
  | nil => simp [sumW, sumC]
  | cons x r ih =>
    obtain ⟨w, c⟩ := x
    have hx := hu (w, c) List.mem_cons_self
    have := ih (fun y hy => hu y (List.mem_cons_of_mem _ hy))
    simp only [sumC, sumW, Nat.add_mul, List.length_cons, Nat.one_mul] at *
    omega

/-- A variant is never `k - 1` or more requests behind its share, `k` the
number of variants:  `w * n < (c + (k - 1)) * W`, i.e. `c > share * n - (k - 1)`, for `k ≥ 2`.
(The full "within one request" lower bound is *false* for `k ≥ 3`, see the counterexample.) -/
theorem C17_lower_partial (ws : List Nat) (hpos : 0 < ws.sum) (hk : 2 ≤ ws.length) (n : Nat) :
    ∀ s, run (init ws) n = some s → LowerOK ws.sum n (ws.length - 1) s.slots := by
  intro s hs x hx
  obtain ⟨hi, ht, hu⟩ := run_reach_of hpos hs
  obtain ⟨others, hW, hC, hlen, hsub⟩ := mem_others hx
  -- the upper bound of all the other slots together
  have ho := upper_sum ws.sum n others fun y hy => hu y (hsub y hy)
  have hm : others.length + 1 = ws.length := by rw [← hlen, ← hi.weights, List.length_map]
  rw [← hm] at hk ⊢
  exact behind_of_others (hi.sumW_eq ▸ hW) (ht ▸ hi.counts ▸ hC) ho (Nat.le_of_succ_le_succ hk)

/-- With exactly two variants both are within one request of their share, both ways. -/
theorem C17_two (w1 w2 : Nat) (hpos : 0 < w1 + w2) (n : Nat) :
    ∀ s, run (init [w1, w2]) n = some s →
      (∀ x ∈ s.slots, x.2 * (w1 + w2) < x.1 * n + (w1 + w2)) ∧
      (∀ x ∈ s.slots, x.1 * n < (x.2 + 1) * (w1 + w2)) := by
  intro s hs
  have e : [w1, w2].sum = w1 + w2 := by simp only [List.sum_cons, List.sum_nil, Nat.add_zero]
  have hu := C17_upper [w1, w2] (e ▸ hpos) n s hs
  have hl := C17_lower_partial [w1, w2] (e ▸ hpos) (Nat.le_refl 2) n s hs
  rw [e] at hu hl
  exact ⟨hu, hl⟩

/-- one request: in a state of the run within the bound, the binary64 mechanism picks the slot, and moves to the state,
of the exact model -/
theorem fstep_eq {ws : List Nat} (hpos : ∀ w ∈ ws, 0 < w) {s : State} (hi : Inv ws s)
    (hb : (s.total + 1) * ws.sum < 2 ^ 52) :
    fPickIdx (sumW s.slots) (s.total + 1) s.slots = pickIdx (sumW s.slots) (s.total + 1) s.slots ∧
      fstep s = step s := by
  have hok : SlotsOK (sumW s.slots) (s.total + 1) s.slots := fun x hx =>
    ⟨hpos _ (hi.weights ▸ List.mem_map_of_mem hx), mem_le_sumW hx,
      Nat.le_succ_of_le (hi.counts ▸ mem_le_sumC hx)⟩
  have hnW : (s.total + 1) * sumW s.slots < 2 ^ 52 := hi.sumW_eq ▸ hb
  refine ⟨fPickIdx_eq (Nat.succ_pos _) hnW s.slots hok, ?_⟩
  unfold fstep step
  rw [fHitFirst_eq (Nat.succ_pos _) hnW s.slots hok]
  cases hitFirst (sumW s.slots) (s.total + 1) s.slots <;> rfl

private theorem ftraceS_eq (ws : List Nat) (hpos : ∀ w ∈ ws, 0 < w) :
    ∀ k s, Inv ws s → (s.total + k) * ws.sum < 2 ^ 52 → ftraceS s k = trace s k := by
  intro k
  induction k with
  | zero => intro s _ _; rfl
  | succ k ih =>
    intro s hi hb
    obtain ⟨e1, e2⟩ := fstep_eq hpos hi (Nat.lt_of_le_of_lt (Nat.mul_le_mul_right _ (by omega)) hb)
    simp only [ftraceS, trace, e1, e2]
    cases hp : pickIdx (sumW s.slots) (s.total + 1) s.slots with
    | none => rfl
    | some i =>
      cases hs : step s with
      | none => rfl
      | some s' =>
        simp only
        rw [ih s' (inv_step ws s s' hi hs) (by rw [(step_some hs).1, Nat.add_right_comm]; exact hb)]

/-- For positive integer weights `ws` (the constructor's targets `w / W` are then correctly
rounded quotients of integers; integers and dyadic fractions scale to this) and any number of requests `n` with
`n * W < 2^52`, the selection sequence computed with the binary64 test `count / total < target` is the selection
sequence `trace` of the exact model: the indices of the slots hit along the states of `run` (the theorems above speak
of `run`; none of them relates its counts to `trace`).
(A flip needs `n * W ≥ 2^52`: with `W ≤ 1000` more than `4.5 * 10^12` requests.) -/
theorem C17_float_agrees (ws : List Nat) (hpos : ∀ w ∈ ws, 0 < w) (n : Nat) (hb : n * ws.sum < 2 ^ 52) :
    ftrace ws n = trace (init ws) n := by
  exact ftraceS_eq ws hpos n (init ws) (inv_init ws) (by rw [show (init ws).total = 0 from rfl, Nat.zero_add]; exact hb)

/-- one eligibility test: binary64 = exact, including the boundary `count / total = w / W` -/
theorem C17_float_eligible (W n w c : Nat) (hn : 0 < n) (hcn : c ≤ n) (hw : 0 < w) (hwW : w ≤ W)
    (hnW : n * W < 2 ^ 52) : fEligible W n w c = true ↔ c * W < w * n :=
  fEligible_iff hn hcn hw hwW hnW

/-- the rounded quotient is a normal binary64 within half an ulp of the exact one -/
theorem C17_float_round (a b : Nat) (ha : 0 < a) (hab : a ≤ b) :
    2 ^ 52 ≤ (fdiv a b).1 ∧ (fdiv a b).1 < 2 ^ 53 ∧
      2 * (a * 2 ^ (fdiv a b).2) ≤ 2 * (fdiv a b).1 * b + b ∧
      2 * (fdiv a b).1 * b ≤ 2 * (a * 2 ^ (fdiv a b).2) + b ∧ 52 ≤ (fdiv a b).2 :=
  fdiv_spec ha hab

/-- equal ratios round alike -/
theorem C17_float_ratio (a b a' b' : Nat) (ha : 0 < a) (ha' : 0 < a') (hb : 0 < b) (hb' : 0 < b')
    (h : a * b' = a' * b) : fdiv a b = fdiv a' b' := fdiv_ratio ha ha' hb hb' h

/-- The property as stated: every variant within one request of its share after every `n`. -/
def C17_within_one_full : Prop :=
  ∀ (ws : List Nat), 0 < ws.sum → 2 ≤ ws.length → ∀ n s, run (init ws) n = some s →
    ∀ x ∈ s.slots, x.2 * ws.sum < x.1 * n + ws.sum ∧ x.1 * n < (x.2 + 1) * ws.sum

/-- weights 12/5/5 (the constructor's slot order for 5/12/5), 15 requests: counts 9/4/2; the third
variant's share is 15*5/22 = 3.41 and it has been selected twice: 1.41 requests behind. -/
theorem C17_counterexample : ¬ C17_within_one_full := by
  intro h
  have := h [12, 5, 5] (by decide) (by decide) 15 ⟨[(12, 9), (5, 4), (5, 2)], 15⟩ (by decide)
    (5, 2) (by simp)
  revert this
  decide

/-- slot order is by non-increasing weight -/
def DescSorted : List (Nat × Nat) → Prop
  | [] => True
  | [_] => True
  | x :: y :: r => y.1 ≤ x.1 ∧ DescSorted (y :: r)

private theorem descSorted_of_pairwise : ∀ {l : List (Nat × Nat)}, l.Pairwise (fun x y => y.1 ≤ x.1) → DescSorted l
  | [], _ => trivial
  | [_], _ => trivial
  | _ :: y :: _, h =>
    ⟨(List.pairwise_cons.mp h).1 y List.mem_cons_self, descSorted_of_pairwise (List.pairwise_cons.mp h).2⟩

private theorem insertDescStable_isInsert :
    IsInsert sortDesc.insertDescStable (fun x y => !decide (x.1 < y.1)) :=
  ⟨fun _ => rfl, fun x y r => by simp only [sortDesc.insertDescStable]; split <;> rename_i h <;> simp [h]⟩

/-- The constructor's slot order is a permutation of the variants, sorted by
non-increasing target. -/
theorem C17_slot_order (ws : List Nat) :
    DescSorted (slotOrder ws) ∧ (slotOrder ws).Perm (indexed ws) := by
  unfold slotOrder
  generalize indexed ws = l
  -- sorted as a relation between any two positions, which insertion keeps (`IsInsert.pairwise`)
  suffices h : (sortDesc l).Pairwise (fun x y => y.1 ≤ x.1) ∧ (sortDesc l).Perm l from ⟨descSorted_of_pairwise h.1, h.2⟩
  induction l with
  | nil => exact ⟨.nil, .refl _⟩
  | cons x r ih =>
    exact ⟨insertDescStable_isInsert.pairwise (R := fun x y => y.1 ≤ x.1) (fun e y h => by simpa using h)
        (fun e y h => Nat.le_of_lt (n := e.1) (by simpa using h)) (fun _ _ _ h1 h2 => Nat.le_trans h2 h1) x ih.1,
      (insertDescStable_isInsert.perm x _).trans (.cons x ih.2)⟩

/-- When every target is given, shares are the targets over their sum
(weights unchanged). -/
theorem C17_normalise_explicit (ns : List Nat) (d : Nat) :
    weights (ns.map some) d = ns := by
  have hm : missingCount (ns.map some) = 0 := by
    induction ns with
    | nil => rfl
    | cons n r ih => simp [missingCount, ih]
  simp [weights, hm, Function.comp_def]

private theorem weights_sum_complement (ts : List (Option Nat)) (m : Nat) (e : Nat) :
    (ts.map (fillWith m e)).sum = explicitSum ts * m + missingCount ts * e := by
  induction ts with
  | nil => simp [explicitSum, missingCount]
  | cons t r ih =>
    cases t with
    | none => simp [explicitSum, missingCount, fillWith, ih, Nat.add_mul]; omega
    | some n => simp [explicitSum, missingCount, fillWith, ih, Nat.add_mul]; omega

/-- With targets missing and the explicit ones summing below 1, the
missing variants share the complement: the weights sum to `d * missing`, i.e. shares are the
explicit targets themselves and `(1 - explicit)/missing` for each missing one. -/
theorem C17_normalise_complement (ts : List (Option Nat)) (d : Nat)
    (hm : 0 < missingCount ts) (he : explicitSum ts < d) :
    (weights ts d).sum = d * missingCount ts := by
  rw [weights, if_neg (Nat.ne_of_gt hm), if_pos he, weights_sum_complement, Nat.mul_comm (explicitSum ts), ← Nat.mul_add,
    Nat.add_sub_of_le (Nat.le_of_lt he), Nat.mul_comm]

private theorem map_getD_of_no_missing (ts : List (Option Nat)) (h : missingCount ts = 0) :
    ts.map (fun t => t.getD 0) = ts.map (fillWith 1 0) := by
  induction ts with
  | nil => rfl
  | cons t r ih =>
    cases t with
    | none => simp [missingCount] at h
    | some n => simp [missingCount] at h; simp [fillWith, ih h]

private theorem givenCount_pos (ts : List (Option Nat)) (h : 0 < explicitSum ts) : 0 < givenCount ts := by
  induction ts with
  | nil => simp [explicitSum] at h
  | cons t r ih =>
    cases t with
    | none => simp [explicitSum] at h; simp [givenCount, ih h]
    | some n => simp [givenCount]

/-- Whatever rule fills the omitted targets, the weights are the declared targets
*position by position*: every explicit target scaled by one common positive factor, every omitted one replaced by
one common implicit weight – a weight never moves to another variant. -/
theorem C17_normalise_positions (ts : List (Option Nat)) (d : Nat) (hd : 0 < d) :
    ∃ scale implicit, 0 < scale ∧ weights ts d = ts.map (fillWith scale implicit) := by
  fun_cases weights ts d with
  | case1 h => exact ⟨1, 0, Nat.one_pos, map_getD_of_no_missing ts h⟩
  | case2 h _ => exact ⟨missingCount ts, d - explicitSum ts, Nat.pos_of_ne_zero h, rfl⟩
  | case3 _ h2 =>
    exact ⟨givenCount ts, explicitSum ts, givenCount_pos ts (Nat.lt_of_lt_of_le hd (Nat.le_of_not_lt h2)), rfl⟩

/-- the mean rule: with the explicit targets summing to at least 1, every omitted target weighs the mean of the
explicit ones (`explicit / given`), i.e. the weights sum to `explicit * (given + missing)` over the common scale. -/
theorem C17_normalise_mean (ts : List (Option Nat)) (d : Nat) (hm : 0 < missingCount ts) (he : d ≤ explicitSum ts) :
    (weights ts d).sum = explicitSum ts * (givenCount ts + missingCount ts) := by
  rw [weights, if_neg (Nat.ne_of_gt hm), if_neg (Nat.not_lt.mpr he), weights_sum_complement, Nat.mul_add,
    Nat.mul_comm (missingCount ts)]

/-- `compare(first).over(a₁)…against(aₙ)` builds, coordinate by coordinate, the declared variant
list: each variant has its own generation and target, and the project / release given last at or before it. -/
theorem C17_builder (first : Variant) (args : List VArg) : Builder.build first args = declared first args :=
  build_eq_declared first args

theorem C17_builder_length (first : Variant) (args : List VArg) :
    (Builder.build first args).length = args.length + 1 := by
  simp [build_eq_declared, declared, declaredFrom_length]

/-- the targets reach the constructor in declaration order (so every ABTest theorem above speaks about the declared
variants) -/
theorem C17_builder_targets (first : Variant) (args : List VArg) :
    (Builder.build first args).map (·.target) = first.target :: args.map (·.target) := by
  rw [build_eq_declared, declared, List.map_cons, declaredFrom_targets]

/-- the closing variant (`against`) is the one configured: its generation and target, and the project / release it
names (a cross-project test ends on the named project, not on the preceding variant's). -/
theorem C17_builder_against (first : Variant) (overs : List VArg) (a : VArg) :
    ∃ v, (Builder.build first (overs ++ [a])).getLast? = some v ∧ v.generation = a.generation ∧ v.target = a.target ∧
      (∀ p, a.project = some p → v.project = p) ∧ (∀ r, a.release = some r → v.release = r) := by
  obtain ⟨p', r', h⟩ := declaredFrom_last first first.project first.release overs a
  refine ⟨⟨a.project.getD p', a.release.getD r', a.generation, a.target⟩, build_eq_declared first _ ▸ h, rfl, rfl, ?_, ?_⟩
  · intro p hp; simp [hp]
  · intro r hr; simp [hr]

/-- `Latest._pick` on a static registry, no release configured: it finds nothing exactly when no release has a generation -/
theorem C17_latest_none (rels : List (Nat × List Nat)) :
    pickLatest rels = none ↔ ∀ x ∈ rels, x.2 = [] := pickLatest_none_iff rels

/-- what it returns otherwise: the last generation of a release that only empty releases stand after (the last
generation listed is the newest one: listings are sorted, C18) -/
theorem C17_latest_some (rels : List (Nat × List Nat)) (r g : Nat)
    (h : pickLatest rels = some (r, g)) :
    ∃ pre post gs, rels = pre ++ (r, gs) :: post ∧ gs.getLast? = some g ∧ ∀ x ∈ post, x.2 = [] :=
  pickLatest_some h

/-- after a commit has appended generation `g` to the listing of release `r`, the highest release with generations,
a new `pickLatest` returns `(r, g)`. -/
theorem C17_latest_refresh (pre post : List (Nat × List Nat)) (r g : Nat) (gs : List Nat)
    (hpost : ∀ x ∈ post, x.2 = []) :
    pickLatest (pre ++ (r, gs ++ [g]) :: post) = some (r, g) := by
  induction pre with
  | nil =>
    simp only [List.nil_append, pickLatest]
    rw [(C17_latest_none post).mpr hpost]
    simp
  | cons x pre ih =>
    obtain ⟨rk, gs'⟩ := x
    simp only [List.cons_append, pickLatest, ih]

/-! Latest over registry histories `publish r | commit r | tick | select use | fault e`

`execL survive cfg (LState.init rels0) ops` is the state any history `ops` leads to from a registry `rels0`
(`survive = true`: `_refresh` as it is; `cfg`: the configured release or none; `fault e`: the next registry call of
the refresher raises `e`, once).  `Spec cfg rels r g` is the property
text: `g` is the newest generation of the highest release that has any (or of the configured release `r`).  The
request observed is `select` followed by a use of the instance (`Obs.served r g`). -/

/-- The first use of a registry – after any history – resolves to the newest generation of the
highest release having any, resp. of the configured release (both configurations, either refresher). -/
theorem C17_latest_first (sv : Bool) (cfg : Option Nat) (rels0 : Rels) (hwf : WF rels0) (ops : List LOp) (r g : Nat) :
    (execL sv cfg (LState.init rels0) ops).cache = none →
    Spec cfg (execL sv cfg (LState.init rels0) ops).rels r g →
    (stepL sv cfg (execL sv cfg (LState.init rels0) ops) (.select true)).2 = .served r g :=
  fun hc hs => first_select (invL_exec ops (invL_init hwf)).wf hc hs

/-- … and raises (`Level.Listing.Empty` / `Level.Invalid`) exactly when there is no such generation. -/
theorem C17_latest_first_none (sv : Bool) (cfg : Option Nat) (rels0 : Rels) (hwf : WF rels0) (ops : List LOp) :
    (execL sv cfg (LState.init rels0) ops).cache = none →
    (∀ r g, ¬ Spec cfg (execL sv cfg (LState.init rels0) ops).rels r g) →
    ∃ e, (stepL sv cfg (execL sv cfg (LState.init rels0) ops) (.select true)).2 = .err e :=
  fun hc hs => first_select_none (invL_exec ops (invL_init hwf)).wf hc hs

/-- For the code as it is since 0762d05 (`except Exception` around one refresh round), both
configurations and *every* history of `publish | commit | tick | select use | fault e` (any number of transient registry
faults of any kind): once the selector has been used the refresher is alive; a refresh round with no fault pending
brings the newest generation of the highest release that has any (or of the configured release); and whatever is
pending, two rounds do – a round after the last fault and after a commit picks the commit up. -/
theorem C17_latest (cfg : Option Nat) (rels0 : Rels) (hwf : WF rels0) (ops : List LOp) (r g : Nat) :
    (execL true cfg (LState.init rels0) ops).cache ≠ none →
    Spec cfg (execL true cfg (LState.init rels0) ops).rels r g →
    (execL true cfg (LState.init rels0) ops).alive = true ∧
    ((execL true cfg (LState.init rels0) ops).pending = false →
      (stepL true cfg (stepL true cfg (execL true cfg (LState.init rels0) ops) .tick).1 (.select true)).2
        = .served r g) ∧
    (stepL true cfg (execL true cfg (LState.init rels0) (ops ++ [.tick, .tick])) (.select true)).2 = .served r g := by
  intro hc hs
  obtain ⟨hinv, halive, _⟩ := reach_inv (sv := true) (cfg := cfg) hwf ops (Or.inl rfl)
  refine ⟨halive hc, ?_, ?_⟩
  · intro hpd
    obtain ⟨h1, _, h3⟩ := tick_fresh (sv := true) hinv (halive hc) hpd hc hs
    exact obs_select_served h3 h1
  · rw [execL_append]
    obtain ⟨h1, h3⟩ := tick_twice_fresh hinv (halive hc) hc hs
    exact obs_select_served h3 h1

/-- The one-round conjunct of `C17_latest` on its own (the conclusion of
`C17_latest_configured_full`, which is false of the refresher with `survive = false`). -/
theorem C17_latest_repaired (cfg : Option Nat) (rels0 : Rels) (hwf : WF rels0) (ops : List LOp) (r g : Nat) :
    (execL true cfg (LState.init rels0) ops).cache ≠ none →
    (execL true cfg (LState.init rels0) ops).pending = false →
    Spec cfg (execL true cfg (LState.init rels0) ops).rels r g →
    (stepL true cfg (stepL true cfg (execL true cfg (LState.init rels0) ops) .tick).1 (.select true)).2
      = .served r g :=
  fun hc hpd hs => (C17_latest cfg rels0 hwf ops r g hc hs).2.1 hpd

/-! the refresher that ends with its first exception (`survive = false`): `_refresh` before 0762d05 (finding C17-F2),
and what any narrowing of the handler brings back for the exceptions it lets through -/

/-- no release configured, no registry fault: that refresher too stays alive and every round brings the newest
generation of the highest release that has any. -/
theorem C17_latest_fragile_unconfigured (rels0 : Rels) (hwf : WF rels0) (ops : List LOp) (hnf : NoFault ops)
    (r g : Nat) :
    (execL false none (LState.init rels0) ops).cache ≠ none →
    Spec none (execL false none (LState.init rels0) ops).rels r g →
    (execL false none (LState.init rels0) ops).alive = true ∧
    (stepL false none (stepL false none (execL false none (LState.init rels0) ops) .tick).1 (.select true)).2
      = .served r g := by
  intro hc hs
  obtain ⟨hinv, halive, hsafe⟩ := reach_inv (sv := false) (cfg := none) hwf ops (Or.inr ⟨hnf, nofun⟩)
  obtain ⟨h1, _, h3⟩ := tick_fresh hinv (halive hc) (hsafe.resolve_left Bool.false_ne_true).1 hc hs
  exact ⟨halive hc, obs_select_served h3 h1⟩

/-- unconfigured, and something was cached: there always is something to resolve to -/
theorem C17_latest_spec_exists (sv : Bool) (rels0 : Rels) (hwf : WF rels0) (ops : List LOp) :
    (execL sv none (LState.init rels0) ops).cache ≠ none →
    ∃ r g, Spec none (execL sv none (LState.init rels0) ops).rels r g :=
  fun hc => cached_spec_none (invL_exec ops (invL_init hwf)) hc

/-- The statement for a configured release and fault-free histories at full strength: false for that refresher. -/
def C17_latest_configured_full : Prop :=
  ∀ (rels0 : Rels) (c : Nat) (ops : List LOp) (r g : Nat), WF rels0 → NoFault ops →
    (execL false (some c) (LState.init rels0) ops).cache ≠ none →
    Spec (some c) (execL false (some c) (LState.init rels0) ops).rels r g →
    (stepL false (some c) (stepL false (some c) (execL false (some c) (LState.init rels0) ops) .tick).1
      (.select true)).2 = .served r g

/-- decidable form of "the configured release has a generation" -/
def hasGenB (rels : Rels) (c : Nat) : Bool :=
  match gensOf rels c with
  | some (_ :: _) => true
  | _ => false

/-- When the configured release has a generation in the registry the selector
first meets, every fault-free history keeps that refresher alive and every refresh round brings the newest
generation of the configured release – commits to other (higher or lower) releases change nothing. -/
theorem C17_latest_configured_partial (rels0 : Rels) (c : Nat) (hwf : WF rels0) (hgen : hasGenB rels0 c = true)
    (ops : List LOp) (hnf : NoFault ops) (r g : Nat) :
    (execL false (some c) (LState.init rels0) ops).cache ≠ none →
    Spec (some c) (execL false (some c) (LState.init rels0) ops).rels r g →
    (execL false (some c) (LState.init rels0) ops).alive = true ∧
    (stepL false (some c) (stepL false (some c) (execL false (some c) (LState.init rels0) ops) .tick).1
      (.select true)).2 = .served r g := by
  intro hc hs
  have hg : HasGen rels0 c := by
    unfold hasGenB at hgen
    split at hgen
    · rename_i a l h; exact ⟨a :: l, h, by simp⟩
    · cases hgen
  obtain ⟨hinv, halive, hsafe⟩ := reach_inv (sv := false) hwf ops (Or.inr ⟨hnf, fun _ hc' => Option.some.inj hc' ▸ hg⟩)
  obtain ⟨h1, _, h3⟩ := tick_fresh hinv (halive hc) (hsafe.resolve_left Bool.false_ne_true).1 hc hs
  exact ⟨halive hc, obs_select_served h3 h1⟩

/-- release 1 is published but empty when `Latest(project, release=1)` is first used: the first refresh round
raises `Listing.Empty` in `new != old` and ends the thread; generation 1 is committed and served (pinned);
generation 2 is committed – and never picked up (finding C17-F2, repaired in /repo 0762d05). -/
theorem C17_latest_configured_counterexample : ¬ C17_latest_configured_full := by
  intro h
  have hwf : WF [(1, [])] := by simp [WF]
  have hnf : NoFault [.select false, .tick, .commit 1, .select true, .commit 1] := by
    intro op hop e he; subst he; simp at hop
  have := h [(1, [])] 1 [.select false, .tick, .commit 1, .select true, .commit 1] 1 2 hwf hnf (by decide)
    ⟨rfl, [1, 2], by decide, by decide, by decide⟩
  revert this
  decide

/-- Liveness under transient faults for that refresher: false. -/
def C17_latest_fragile_faults_full : Prop :=
  ∀ (rels0 : Rels) (ops : List LOp) (r g : Nat), WF rels0 →
    (execL false none (LState.init rels0) ops).cache ≠ none →
    Spec none (execL false none (LState.init rels0) ops).rels r g →
    (stepL false none (execL false none (LState.init rels0) (ops ++ [.tick, .tick])) (.select true)).2 = .served r g

/-- one transient fault (say `OSError: Stale file handle` out of a listing) ends it: generation 2, committed
afterwards, is never served however many rounds follow. -/
theorem C17_latest_fragile_faults_counterexample : ¬ C17_latest_fragile_faults_full := by
  intro h
  have hwf : WF [(1, [1])] := by simp [WF]
  have := h [(1, [1])] [.select true, .fault .os, .tick, .commit 1] 1 2 hwf (by decide)
    ⟨⟨[1, 2], by decide, by decide, by decide⟩, by decide⟩
  revert this
  decide

/-- every history keeps the listings as `Level.Listing` yields them and what is cached listed -/
theorem C17_latest_invariant (sv : Bool) (cfg : Option Nat) (rels0 : Rels) (hwf : WF rels0) (ops : List LOp) :
    InvL cfg (execL sv cfg (LState.init rels0) ops) := invL_exec ops (invL_init hwf)

/-- what `Spec` names is unique -/
theorem C17_latest_spec_unique (cfg : Option Nat) (rels : Rels) (hwf : WF rels) (r g r' g' : Nat) :
    Spec cfg rels r g → Spec cfg rels r' g' → r = r' ∧ g = g' := spec_unique hwf

/-- `a == b` is `True` exactly for the same project, the same release and the same resolved
generation (a comparison by generation number alone would keep a refresher on an older release) … -/
theorem C17_instance_eq (rels : Rels) (a b a' b' : Inst) (v : Bool) (h : instEq rels a b = .ok (v, a', b')) :
    v = true ↔ a.project = b.project ∧ a.release = b.release ∧ genKey rels a = genKey rels b :=
  instEq_true_iff h

/-- … and equal instances hash alike. -/
theorem C17_instance_hash (rels : Rels) (a b a' b' : Inst) (h : instEq rels a b = .ok (true, a', b')) :
    instHash rels a = instHash rels b := instEq_hash h

/-- Over every history of the registry every `select` of the explicit strategy returns the
configured instance: a request is served by exactly `(r, g)` when that generation is listed and is refused
(`Level.Invalid`) otherwise – nothing else is ever observed. -/
theorem C17_explicit (r g : Nat) (rels0 : Rels) (ops : List EOp) :
    (stepE r g (execE r g ⟨rels0, none⟩ ops) .select).2 = explicitObs r g (execE r g ⟨rels0, none⟩ ops).rels ∧
    ∀ o ∈ (runE r g ⟨rels0, none⟩ ops).2, o = .quiet ∨ o = .served r g ∨ o = .err .invalid :=
  ⟨by rw [stepE_select_eq (invE_exec ops (Or.inl rfl))], runE_obs ops (Or.inl rfl)⟩

/-- constructor parameters of `Latest` (project, configured release, refresh interval in ms). -/
structure LatestParams where
  project : Nat
  release : Option Nat
  interval : Nat
deriving DecidableEq, Repr

/-- `Latest.__reduce__`: the argument tuple handed to the class on unpickling. -/
def LatestParams.reduce (p : LatestParams) : Nat × Option Nat × Nat := (p.project, p.release, p.interval)
/-- `Latest(*args)`. -/
def LatestParams.rebuild (a : Nat × Option Nat × Nat) : LatestParams := ⟨a.1, a.2.1, a.2.2⟩
/-- a reduce that leaves the interval to the constructor default (what the property excludes). -/
def LatestParams.reduceDefault (dflt : Nat) (p : LatestParams) : Nat × Option Nat × Nat := (p.project, p.release, dflt)

/-- A pickle round-trip is the identity on every constructor parameter. -/
theorem C17_reduce_rebuild (p : LatestParams) : LatestParams.rebuild p.reduce = p := by cases p; rfl

/-- The unpickled selector has the interval of the pickled one, and the two-round conjunct of
`C17_latest` holds of it. -/
theorem C17_latest_rebuilt (p : LatestParams) (rels0 : Rels) (hwf : WF rels0) (ops : List LOp) (r g : Nat) :
    (LatestParams.rebuild p.reduce).interval = p.interval ∧
    ((execL true (LatestParams.rebuild p.reduce).release (LState.init rels0) ops).cache ≠ none →
     Spec p.release (execL true p.release (LState.init rels0) ops).rels r g →
     (stepL true (LatestParams.rebuild p.reduce).release
        (execL true (LatestParams.rebuild p.reduce).release (LState.init rels0) (ops ++ [.tick, .tick])) (.select true)).2
       = .served r g) := by
  rw [C17_reduce_rebuild]
  exact ⟨rfl, fun hc hs => (C17_latest p.release rels0 hwf ops r g hc hs).2.2⟩

/-- non-vacuity: dropping the interval is *not* a round trip (30 s default vs a 20 ms selector). -/
example : LatestParams.rebuild (LatestParams.reduceDefault 30000 ⟨0, some 1, 20⟩) ≠ ⟨0, some 1, 20⟩ := by decide +kernel
example : LatestParams.rebuild (LatestParams.reduce ⟨0, some 1, 20⟩) = ⟨0, some 1, 20⟩ := by decide +kernel


example : run (init [12, 5, 5]) 15 = some ⟨[(12, 9), (5, 4), (5, 2)], 15⟩ := by decide +kernel
example : trace (init [9, 1]) 10 = [0, 0, 0, 0, 0, 0, 0, 0, 0, 1] := by decide +kernel
example : weights [some 9, none] 10 = [9, 1] := by decide +kernel
example : weights [some 3, none, none] 1 = [3, 3, 3] := by decide +kernel
example : weights [some 1, none, none] 4 = [2, 3, 3] := by decide +kernel
example : weights [none, some 7] 8 = [1, 7] := by decide +kernel
example : weights [none, some 6, none, some 1] 8 = [1, 12, 1, 2] := by decide +kernel
example : ftrace [12, 5, 5] 15 = trace (init [12, 5, 5]) 15 := by decide +kernel
example : fdiv 1 3 = (6004799503160661, 54) := by decide +kernel
example : slotOrder [5, 12, 5] = [(12, 1), (5, 0), (5, 2)] := by decide +kernel
example : pickLatest [(1, [1, 2]), (2, []), (3, [1]), (4, [])] = some (3, 1) := by decide +kernel

-- histories: unconfigured picks up a commit to a higher release; configured (non-empty) ignores it and follows its own
example : (runL false none (LState.init [(1, [1]), (2, [])])
    [.select true, .commit 2, .tick, .select true, .commit 1, .tick, .select true]).2
    = [.served 1 1, .quiet, .quiet, .served 2 1, .quiet, .quiet, .served 2 1] := by decide +kernel
example : (runL false (some 1) (LState.init [(1, [1]), (2, [1])])
    [.select true, .commit 2, .commit 1, .select true, .tick, .select true]).2
    = [.served 1 1, .quiet, .quiet, .served 1 1, .quiet, .served 1 2] := by decide +kernel
-- finding C17-F2: configured release empty at first use (`survive = false` / `true`)
example : (runL false (some 1) (LState.init [(1, [])])
    [.select false, .tick, .commit 1, .select true, .commit 1, .tick, .select true]).2
    = [.picked 1, .quiet, .quiet, .served 1 1, .quiet, .quiet, .served 1 1] := by decide +kernel
example : (runL true (some 1) (LState.init [(1, [])])
    [.select false, .tick, .commit 1, .select true, .commit 1, .tick, .select true]).2
    = [.picked 1, .quiet, .quiet, .served 1 1, .quiet, .quiet, .served 1 2] := by decide +kernel
-- a transient fault costs one round, no more (`survive = true`); it ends the refresher with `survive = false`
example : (runL true none (LState.init [(1, [1])])
    [.select true, .fault .os, .commit 1, .tick, .select true, .tick, .select true]).2
    = [.served 1 1, .quiet, .quiet, .quiet, .served 1 1, .quiet, .served 1 2] := by decide +kernel
example : (runL false none (LState.init [(1, [1])])
    [.select true, .fault .os, .commit 1, .tick, .select true, .tick, .select true]).2
    = [.served 1 1, .quiet, .quiet, .quiet, .served 1 1, .quiet, .served 1 1] := by decide +kernel
example : NoFault [.select true, .commit 1, .tick] := by intro op hop e he; subst he; simp at hop
example : Builder.build ⟨0, 1, 1, some 3⟩ [⟨2, none, none, none⟩, ⟨1, some 2, some 1, some 1⟩, ⟨5, none, none, none⟩]
    = [⟨0, 1, 1, some 3⟩, ⟨0, 1, 2, none⟩, ⟨1, 2, 1, some 1⟩, ⟨1, 2, 5, none⟩] := by decide +kernel
example : exclusive (Builder.build ⟨0, 1, 1, none⟩ [⟨2, none, none, none⟩, ⟨1, none, some 1, none⟩]) = true := by decide +kernel
example : exclusive (Builder.build ⟨0, 1, 1, none⟩ [⟨2, none, none, none⟩, ⟨1, none, none, none⟩]) = false := by decide +kernel
example : WF [(1, [1, 2]), (3, []), (7, [1])] := ⟨by decide, by decide⟩
example : Spec none [(1, [1, 2]), (3, []), (7, [4, 9]), (8, [])] 7 9 :=
  ⟨⟨[4, 9], by decide, by decide, by decide⟩, by decide⟩
example : hasGenB [(1, [1]), (2, [])] 1 = true := by decide +kernel
example : instEq [(1, [1]), (2, [1])] ⟨0, 1, some 1⟩ ⟨0, 2, some 1⟩ = .ok (false, ⟨0, 1, some 1⟩, ⟨0, 2, some 1⟩) := by rfl
example : instEq [(1, [1, 2])] ⟨0, 1, none⟩ ⟨0, 1, some 2⟩ = .ok (true, ⟨0, 1, some 2⟩, ⟨0, 1, some 2⟩) := by rfl
example : (runE 1 2 ⟨[(1, [1])], none⟩ [.select, .commit 1, .select, .commit 2, .select]).2
    = [.err .invalid, .quiet, .served 1 2, .quiet, .served 1 2] := by decide +kernel

end ForML.Strategy
