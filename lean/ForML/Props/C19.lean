/-
C19 — Content negotiation picks the client's most preferred supported encoding.
All statements quantify over every header text / every pattern / every list of encodings; `example`s are
non-vacuity tests.
The header as a string and the gateway are in Props/C19Header.lean, whole tables through the codecs in
Props/C19Table.lean.

Reading of the statement in the model (ForML/Model/Codec.lean):
* "parsed encodings are ordered by descending quality with ties kept in header order":
  `parse h` is `Range.enc` mapped over a permutation of the header's ranges `ranges h` that is
  pairwise `q`-non-increasing and, for every quality `k`, has the ranges of quality `k` in header order.
* "a pattern matches a concrete encoding exactly when its kind matches as a wildcard pattern and all
  of its options are present with equal values": `Encoding.matches` ⇔ no `*` in the concrete kind ∧
  `Matches (compile p.kind) c.kind` (declarative wildcard semantics) ∧ every option pair of `p` is
  found in `c`.
* "the chosen encoder is the first supported one in the client's preference order ... otherwise
  the unsupported-encoding error": `getEncoder` characterised by the first client range that
  matches any table entry (and the first table entry for it); `none` iff nothing matches.
* "the chosen decoder matches the declared content type": `getDecoder`.
* round trip ("encoding then decoding a table with a matching codec pair returns the same table"):
  proved on the unquoted `text/csv` token slice (`C19_codec_roundtrip_partial`); refuted at full
  strength for typed cells by two kernel-checked witnesses that the harness replays on the real
  code — a text cell that looks like a number through `text/csv` (`C19_codec_cell_roundtrip_*`,
  finding C19-F1) and a float cell with more than ten decimal places through any JSON encoder
  (`C19_codec_float_roundtrip_*`, finding C19-F2; `C19_codec_float_rounding_bound` says how far off).
-/
import ForML.Lemmas.C19
import ForML.Generated.C19Tables

namespace ForML.Codec

/-- For every header: a bad `q` anywhere raises; otherwise the result is the header's ranges
permuted, by non-increasing quality, ties (indeed every quality class) in header order. -/
theorem C19_parse_order (h : Str) :
    match ranges h with
    | .error e => parse h = .error e
    | .ok rs => ∃ out : List Range, parse h = .ok (out.map Range.enc) ∧ out.Perm rs ∧
        out.Pairwise (fun a b => a.q ≥ b.q) ∧
        ∀ k, out.filter (fun r => r.q == k) = rs.filter (fun r => r.q == k) := by
  unfold parse
  cases hr : ranges h with
  | error e => rfl
  | ok rs => exact ⟨sortDesc rs, rfl, sortDesc_perm rs, sortDesc_sorted rs, sortDesc_stable rs⟩

/-- ties keep header order, stated on `sortDesc` (the sort `parse` applies to the header's ranges, here
`l₁ ++ a :: l₂ ++ b :: l₃`): of two ranges of one quality the one written first comes first -/
theorem C19_parse_ties (l₁ l₂ l₃ : List Range) (a b : Range) (hq : a.q = b.q) :
    ∃ m₁ m₂ m₃, (sortDesc (l₁ ++ a :: l₂ ++ b :: l₃)).filter (fun r => r.q == a.q) = m₁ ++ a :: m₂ ++ b :: m₃ := by
  rw [sortDesc_stable]
  refine ⟨l₁.filter (fun r => r.q == a.q), l₂.filter (fun r => r.q == a.q), l₃.filter (fun r => r.q == a.q), ?_⟩
  simp [List.filter_append, hq]

/-- a header always yields at least one encoding (`Encoding.parse(content_type)[0]` in the REST
gateway cannot raise `IndexError`) -/
theorem C19_parse_nonempty (h : Str) (es : List Encoding) (hp : parse h = .ok es) : es ≠ [] := by
  unfold parse at hp
  cases hr : ranges h with
  | error e => simp [hr, Except.map] at hp
  | ok rs =>
    simp [hr, Except.map] at hp
    subst hp
    intro he
    -- no encoding: no range (`sortDesc` permutes), so no item (`rangesOf` is a `mapM`) — but a split is never empty
    have hrs : rs = [] := List.length_eq_zero_iff.mp (by
      rw [← (sortDesc_perm rs).length_eq, List.map_eq_nil_iff.mp he]; rfl)
    have hm := mapM_eq_ok_iff_map.1 ((rangesOf_eq _).symm.trans hr)
    rw [hrs, List.map_nil, List.map_eq_nil_iff, splitCsv, List.map_eq_nil_iff] at hm
    exact splitOn_ne_nil ',' h hm

/-- the head of the result (what the REST gateway takes as *the* content type:
`Encoding.parse(content_type)[0]`) is a range of maximal quality, and the first written among those;
stated on `sortDesc`, the sort `parse` applies to the header's ranges -/
theorem C19_parse_head (rs : List Range) (r : Range) (t : List Range) (h : sortDesc rs = r :: t) :
    r ∈ rs ∧ (∀ r' ∈ rs, r'.q ≤ r.q) ∧ (rs.filter (fun x => x.q == r.q)).head? = some r := by
  have hperm := sortDesc_perm rs
  have hsorted := sortDesc_sorted rs
  have hstable := sortDesc_stable rs r.q
  rw [h] at hperm hsorted hstable
  refine ⟨hperm.mem_iff.mp (by simp), ?_, ?_⟩
  · intro r' hr'
    have := hperm.mem_iff.mpr hr'
    rcases List.mem_cons.mp this with rfl | ht
    · exact Int.le_refl _
    · exact (List.pairwise_cons.mp hsorted).1 r' ht
  · rw [← hstable]; simp

/-- `fnmatch` as modelled decides the declarative wildcard semantics of the compiled pattern -/
theorem C19_glob (pat name : Str) : glob pat name = true ↔ Matches (compile pat) name :=
  globToks_iff _ _

/-- `*` stands for any run of characters, every other element for exactly one accepted character -/
theorem C19_glob_star (ts : List Tok) (s : Str) :
    Matches (.star :: ts) s ↔ ∃ pre suf, s = pre ++ suf ∧ Matches ts suf :=
  Matches_star_iff ts s

theorem C19_glob_one (t : Tok) (ht : t ≠ .star) (ts : List Tok) (s : Str) :
    Matches (t :: ts) s ↔ ∃ c r, s = c :: r ∧ t.Accepts c ∧ Matches ts r :=
  Matches_cons_iff t ht ts s

/-- a pattern without `*`, `?`, `[` matches exactly itself -/
theorem C19_glob_literal (pat name : Str) (hp : pat.all plain = true) : glob pat name = true ↔ name = pat := by
  unfold glob compile
  rw [compileAux_plain _ _ (Nat.le_refl _) hp]
  exact globToks_lits pat name

/-- `*/*` matches exactly the kinds that contain a `/` -/
theorem C19_glob_any (name : Str) : glob ['*', '/', '*'] name = true ↔ '/' ∈ name := by
  rw [C19_glob]
  have hc : compile ['*', '/', '*'] = [.star, .lit '/', .star] := by decide +kernel
  rw [hc, Matches_star_iff]
  constructor
  · rintro ⟨pre, suf, rfl, hm⟩
    obtain ⟨c, r, rfl, ha, _⟩ := (Matches_cons_iff (.lit '/') (by simp) _ _).mp hm
    simp only [Tok.Accepts] at ha
    subst ha
    simp
  · intro h
    obtain ⟨s, t, rfl⟩ := List.append_of_mem h
    refine ⟨s, '/' :: t, rfl, Matches.one _ _ _ _ rfl ?_⟩
    exact (Matches_star_iff [] t).mpr ⟨t, [], by simp, Matches.nil⟩

/-- `Encoding.match`: no `*` in the other kind, kind matches as a wildcard pattern, every option of
the pattern is found in the other with an equal value -/
theorem C19_match (p c : Encoding) :
    p.matches c = true ↔
      ('*' ∉ c.kind ∧ Matches (compile p.kind) c.kind ∧
        ∀ kv ∈ p.options, getOpt kv.1 c.options = some kv.2) := by
  simp only [Encoding.matches, Bool.and_eq_true, Bool.not_eq_true', List.all_eq_true, beq_iff_eq]
  rw [C19_glob]
  constructor
  · rintro ⟨⟨h1, h2⟩, h3⟩
    exact ⟨by simpa using h1, h2, h3⟩
  · rintro ⟨h1, h2, h3⟩
    exact ⟨⟨by simpa using h1, h2⟩, h3⟩

/-- the same with "is present with an equal value" as membership of the pair, for option
dictionaries (unique keys — what `parse` and the constructor produce) -/
theorem C19_match_mem (p c : Encoding) (hu : UniqueKeys c.options) :
    p.matches c = true ↔
      ('*' ∉ c.kind ∧ Matches (compile p.kind) c.kind ∧ ∀ kv ∈ p.options, kv ∈ c.options) := by
  rw [C19_match]
  constructor
  · rintro ⟨h1, h2, h3⟩
    exact ⟨h1, h2, fun kv hkv => (getOpt_iff_mem kv.1 kv.2 _ hu).mp (h3 kv hkv)⟩
  · rintro ⟨h1, h2, h3⟩
    exact ⟨h1, h2, fun kv hkv => (getOpt_iff_mem kv.1 kv.2 _ hu).mpr (h3 kv hkv)⟩

/-- the parameter dictionary of `cgi.parse_header` has unique keys, for every parameter list -/
theorem C19_params_unique (line : Str) : UniqueKeys (parseHeader line).2 := by
  unfold parseHeader
  split
  · simp [UniqueKeys]
  · exact paramDict_unique _

/-- `get_decoder`: the chosen entry's pattern matches the declared content type and no earlier
entry does; `Unsupported` exactly when no entry matches -/
theorem C19_decoder (decoders : List Encoding) (source : Encoding) :
    match getDecoder decoders source with
    | some i => ∃ pat, decoders[i]? = some pat ∧ pat.matches source = true ∧
        ∀ j, j < i → ∀ q, decoders[j]? = some q → q.matches source = false
    | none => ∀ pat ∈ decoders, pat.matches source = false := by
  unfold getDecoder
  cases h : findIdx? (fun pat => pat.matches source) decoders with
  | none => exact (findIdx?_none_iff _ _).mp h
  | some i => exact (findIdx?_some_iff _ _ i).mp h

/-- `get_encoder`, error branch: `Unsupported` exactly when no client range matches any supported encoding -/
theorem C19_encoder_none (encoders targets : List Encoding) :
    getEncoder encoders targets = none ↔ ∀ t ∈ targets, ∀ e ∈ encoders, t.matches e = false := by
  rw [getEncoder_eq, List.findSome?_eq_none_iff]
  simp only [findIdx?_none_iff]

/-- `get_encoder`, success branch: encoder `i` is chosen exactly when some client range `t` is the
first (in client order) that matches any supported encoding, and `i` is the first table entry `t` matches -/
theorem C19_encoder_first (encoders targets : List Encoding) (i : Nat) :
    getEncoder encoders targets = some i ↔
      ∃ pre t post e, targets = pre ++ t :: post ∧
        (∀ p ∈ pre, ∀ e' ∈ encoders, p.matches e' = false) ∧
        encoders[i]? = some e ∧ t.matches e = true ∧
        ∀ j, j < i → ∀ e', encoders[j]? = some e' → t.matches e' = false := by
  rw [getEncoder_eq, List.findSome?_eq_some_iff]
  constructor
  · rintro ⟨pre, t, post, rfl, ht, hpre⟩
    obtain ⟨e, he, hm, hlt⟩ := (findIdx?_some_iff _ _ i).mp ht
    exact ⟨pre, t, post, e, rfl, fun p hp => (findIdx?_none_iff _ _).mp (hpre p hp), he, hm, hlt⟩
  · rintro ⟨pre, t, post, e, rfl, hpre, he, hm, hlt⟩
    exact ⟨pre, t, post, rfl, (findIdx?_some_iff _ _ i).mpr ⟨e, he, hm, hlt⟩,
      fun p hp => (findIdx?_none_iff _ _).mpr (hpre p hp)⟩

/-- every supported encoding is concrete (no `*`) and has unique option keys, so the first
conjunct of `match` never rejects a table entry -/
theorem C19_tables_concrete :
    ∀ e ∈ Tables.encoders ++ Tables.decoders, (!e.kind.contains '*' && decide (UniqueKeys e.options)) = true := by
  decide +kernel

/-- whatever an encoder produces is decoded by the decoder registered for exactly that encoding
(the option-less `application/json` entry comes after the `format=pandas-*` ones) -/
theorem C19_tables_decoder_for_encoder :
    ∀ e ∈ Tables.encoders, (getDecoder Tables.decoders e).bind (Tables.decoders[·]?) = some e := by
  decide +kernel

/-- the tables are not empty and `*/*` selects the first encoder -/
theorem C19_tables_any :
    getEncoder Tables.encoders [⟨['*', '/', '*'], []⟩] = some 0 := by
  decide +kernel

/-- cells free of separator and terminator, no row without a cell -/
def CsvSlice (rows : List (List Str)) : Prop :=
  ∀ r ∈ rows, r ≠ [] ∧ ∀ cell ∈ r, ',' ∉ cell ∧ '\n' ∉ cell

instance (rows : List (List Str)) : Decidable (CsvSlice rows) := by unfold CsvSlice; infer_instance

/-- `loads (dumps table) = table` on the slice, for every table (header row + data rows) -/
theorem C19_codec_roundtrip_partial (rows : List (List Str)) (h : CsvSlice rows) :
    csvLoads (csvDumps rows) = rows := by
  unfold csvLoads csvDumps
  have hl : ∀ l ∈ rows.map (joinWith ','), '\n' ∉ l := by
    intro l hl
    obtain ⟨r, hr, rfl⟩ := List.mem_map.mp hl
    exact joinWith_free ',' '\n' (by decide) r (fun c hc => ((h r hr).2 c hc).2)
  have : rows.flatMap (fun r => joinWith ',' r ++ ['\n']) =
      (rows.map (joinWith ',')).flatMap (fun l => l ++ ['\n']) := by
    simp [List.flatMap_map]
  rw [this, splitOn_lines _ hl]
  simp only [List.dropLast_concat, List.map_map]
  have : ∀ r ∈ rows, (splitOn ',' ∘ joinWith ',') r = r := by
    intro r hr
    exact splitOn_join ',' r (h r hr).1 (fun c hc => ((h r hr).2 c hc).1)
  rw [List.map_congr_left this]
  simp

/-! ### typed cells through `text/csv` (known finding C19-F1)

CSV carries no types: the reader infers them from the text, so a *text* cell that looks like a
number does not come back as the text it was. Single-cell model of that mechanism; whole columns
and the inference over them are in Props/C19Table.lean. -/

/-- the statement at full strength: every cell is read back as written -/
def C19_codec_cell_roundtrip_full : Prop := ∀ c : Cell, Cell.read c.render = c

/-- false: the text `007` is read back as the number 7 -/
theorem C19_codec_cell_roundtrip_counterexample : ¬ C19_codec_cell_roundtrip_full := by
  intro h
  exact absurd (h (.text ['0', '0', '7'])) (by decide +kernel)

/-- text cells that do not look like a number are read back as written -/
theorem C19_codec_cell_roundtrip_partial (s : Str) (h : looksNumeric s = false) :
    Cell.read (Cell.text s).render = .text s := by
  simp [Cell.read, Cell.render, h]

/-! ### float cells through the JSON encoders (known finding C19-F2)

`DataFrame.to_json` is used with its default `double_precision=10` by every JSON entry of
`ENCODERS`: decimal places beyond the tenth are rounded away by the *encoder*, whichever decoder
reads the text. -/

/-- the statement at full strength: the written number is the cell's number -/
def C19_codec_float_roundtrip_full : Prop := ∀ d : Dec, d.jsonRender.same d = true

/-- false: `1e-12` is written as `0.0` -/
theorem C19_codec_float_roundtrip_counterexample : ¬ C19_codec_float_roundtrip_full := by
  intro h
  exact absurd (h ⟨1, 12⟩) (by decide +kernel)

/-- cells with at most ten decimal places are written as they are -/
theorem C19_codec_float_roundtrip_partial (d : Dec) (h : d.scale ≤ jsonPrecision) :
    d.jsonRender = d ∧ d.jsonRender.same d = true := by
  simp [Dec.jsonRender, h, Dec.same]

/-- beyond ten places the written number is the cell's number rounded to ten places: it is off by
at most half a unit of the tenth place (`2·|written − cell| ≤ 10⁻¹⁰`, scaled by `10^scale`) -/
theorem C19_codec_float_rounding_bound (d : Dec) (h : jsonPrecision < d.scale) :
    d.jsonRender.scale = jsonPrecision ∧
    2 * (d.jsonRender.n * 10 ^ (d.scale - jsonPrecision)) ≤ 2 * d.n + 10 ^ (d.scale - jsonPrecision) ∧
    2 * d.n < 2 * (d.jsonRender.n * 10 ^ (d.scale - jsonPrecision)) + 10 ^ (d.scale - jsonPrecision) + 1 := by
  have hns : ¬ d.scale ≤ jsonPrecision := by omega
  have hm : 10 ^ (d.scale - jsonPrecision) = 2 * (5 * 10 ^ (d.scale - jsonPrecision - 1)) := by
    obtain ⟨k, hk⟩ : ∃ k, d.scale - jsonPrecision = k + 1 := ⟨d.scale - jsonPrecision - 1, by omega⟩
    rw [hk, Nat.add_sub_cancel, Nat.pow_succ]; omega
  have hb := roundDiv_bound d.n _ _ hm (Nat.pow_pos (by decide))
  simp only [Dec.jsonRender, hns, if_false]
  exact ⟨trivial, hb⟩

-- A string literal is `String.ofList` of its characters and the kernel is slow at evaluating `String.toList` on it:
-- the tests rewrite with `String.toList_ofList` once for every distinct literal, then evaluate.

example : (⟨12345, 4⟩ : Dec).jsonRender = ⟨12345, 4⟩ := by decide +kernel
example : (⟨123456789016, 12⟩ : Dec).jsonRender = ⟨1234567890, 10⟩ := by decide +kernel
example : (⟨123456789096, 12⟩ : Dec).jsonRender = ⟨1234567891, 10⟩ := by decide +kernel
example : glob "text/csv".toList "text/csv".toList = true := by
  rw [String.toList_ofList]
  exact (C19_glob_literal _ _ (by decide +kernel)).mpr rfl
example : glob "*/*".toList "text/csv".toList = true := by
  rw [String.toList_ofList, String.toList_ofList]
  exact (C19_glob_any _).mpr (by decide +kernel)
example : sortDesc [⟨"a".toList, [], 500⟩, ⟨"b".toList, [], 1000⟩, ⟨"c".toList, [], 1000⟩]
    = [⟨"b".toList, [], 1000⟩, ⟨"c".toList, [], 1000⟩, ⟨"a".toList, [], 500⟩] := by
  rw [String.toList_ofList, String.toList_ofList, String.toList_ofList]
  decide +kernel
-- a negative or > 1 quality is ordered like any number (`float` accepts it)
example : (parse "a;q=-1, b;q=2, c;q=+0.5, d;q=-0.0, e;q=0".toList).toOption.map (·.map (·.kind))
    = some ["b".toList, "c".toList, "d".toList, "e".toList, "a".toList] := by
  rw [String.toList_ofList, String.toList_ofList, String.toList_ofList, String.toList_ofList, String.toList_ofList, String.toList_ofList]
  decide +kernel

example : looksNumeric "x7".toList = false := by
  rw [String.toList_ofList]
  decide +kernel
example : Cell.read (Cell.int 42).render = .int 42 := by decide +kernel

-- the docstring example of `Encoding.parse`
example : (parse "image/GIF; q=0.6; a=x, text/html; q=1.0".toList).toOption
    = some [⟨"text/html".toList, []⟩, ⟨"image/gif".toList, [("a".toList, "x".toList)]⟩] := by
  rw [String.toList_ofList, String.toList_ofList, String.toList_ofList, String.toList_ofList, String.toList_ofList]
  decide +kernel

-- ties keep header order, a missing q is 1, q is removed from the options, a bad q raises
example : (parse "a/b;q=0.5, c/d;q=.5, e/f;q=0.50;x=1, g/h".toList).toOption.map (·.map (·.kind))
    = some ["g/h".toList, "a/b".toList, "c/d".toList, "e/f".toList] := by
  rw [String.toList_ofList, String.toList_ofList, String.toList_ofList, String.toList_ofList, String.toList_ofList]
  decide +kernel
example : (match parse "a/b;q=abc".toList with | .error .badQ => true | .ok _ => false) = true := by
  rw [String.toList_ofList]
  decide +kernel

example : compile "te?t/[!a-c]*".toList
    = [.lit 't', .lit 'e', .any, .lit 't', .lit '/', .set true [.rng 'a' 'c'], .star] := by
  rw [String.toList_ofList]
  decide +kernel
example : glob "te?t/[!a-c]*".toList "text/csv".toList = false := by
  rw [String.toList_ofList, String.toList_ofList]
  decide +kernel
example : glob "te?t/[!a-b]*".toList "text/csv".toList = true := by
  rw [String.toList_ofList, String.toList_ofList]
  decide +kernel
example : Matches [.star, .lit 'v'] "csv".toList := by
  rw [String.toList_ofList]
  exact (C19_glob ['*', 'v'] _).mp (by decide +kernel)

-- the docstring example of `get_encoder`: foo/bar is skipped, application/* picks pandas-records (#0)
example : getEncoder Tables.encoders [⟨"foo/bar".toList, []⟩, ⟨"application/*".toList, []⟩] = some 0 := by
  rw [String.toList_ofList, String.toList_ofList]
  decide +kernel
-- client order beats table order; an option narrows the choice; nothing supported -> Unsupported
example : getEncoder Tables.encoders [⟨"text/*".toList, []⟩, ⟨"application/json".toList, []⟩] = some 6 := by
  rw [String.toList_ofList, String.toList_ofList]
  decide +kernel
example : getEncoder Tables.encoders [⟨"application/json".toList, [("format".toList, "pandas-split".toList)]⟩]
    = some 3 := by
  rw [String.toList_ofList, String.toList_ofList, String.toList_ofList]
  decide +kernel
example : getEncoder Tables.encoders [⟨"foo/bar".toList, []⟩] = none := by
  rw [String.toList_ofList]
  decide +kernel
example : getDecoder Tables.decoders ⟨"application/json".toList, [("charset".toList, "utf-8".toList)]⟩ = some 6 := by
  rw [String.toList_ofList, String.toList_ofList, String.toList_ofList]
  decide +kernel
example : getDecoder Tables.decoders ⟨"*/*".toList, []⟩ = none := by
  rw [String.toList_ofList]
  decide +kernel

example : CsvSlice [["A".toList, "B".toList], ["1".toList, "x".toList]] := by
  rw [String.toList_ofList, String.toList_ofList, String.toList_ofList, String.toList_ofList]
  decide +kernel
example : csvDumps [["A".toList, "B".toList], ["1".toList, "x".toList]] = "A,B\n1,x\n".toList := by
  rw [String.toList_ofList, String.toList_ofList, String.toList_ofList, String.toList_ofList, String.toList_ofList]
  decide +kernel

end ForML.Codec
