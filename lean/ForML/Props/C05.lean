/-
C05 — Registry history is append-only, gap-free and crash-consistent.

Reading of the statement in the model (ForML.Model.Fs / ForML.Model.Registry):
* the reader's view of a tree is `vis fs : Path → Option Node` (what a fresh `asset.Directory` reaches through
  the listings); `ViewEq a b` = the two trees are indistinguishable for a fresh reader;
* a process death during a registry call = `run fs (crashOps ops k cut)`: `k` atomic micro-operations of the
  call completed, optionally `cut` bytes of the next write; inside a history step (guard + several calls)
  it is `crashIn impl fs step k cut`;
* a history is a list of events `Ev.step s` (the step runs to its end or raises), `Ev.crash s k cut` (the process
  dies inside the step and a new process carries on with what is on disk) and `Ev.fault s j` (a file-system call of the
  step raises a transient `OSError` once: the step raises, the process lives on); `play impl Fs.empty evs` is the tree
  after it.

`Impl.repaired` is the code in /repo (fix commits 3387543, dc51650), `Impl.original` the code before them: the theorems
named `…_original_…` are about the latter (counterexamples replayed by the harness, findings C05-F1..F4).

Part 1: single registry calls on arbitrary trees.  Part 2: whole histories, by induction over the events, the calls of
a step and the micro-operations of a call (lemmas in ForML/Lemmas/C05*.lean).  Part 3: several writers — interleaved
histories over any number of long-lived or fresh HANDLES (object chains with what they memoise) in any number of PROCESSES
(each with its TAGS and STATES cache), at the granularity of registry calls, with process deaths and transient faults
(ForML.Model.RegistryHandles).  Part 4: the volatile registry (ForML.Model.RegistryVolatile): listing in memory,
generations in a temporary directory.  Last, the walk inside `shutil.rmtree` split into its calls (ForML.Lemmas.C05Rmtree).
-/
import ForML.Lemmas.C05Volatile
import ForML.Lemmas.C05Owed
import ForML.Lemmas.C05States
import ForML.Lemmas.C05Rmtree

namespace ForML.Registry
open ForML.Fs

/-! ## Part 1 — single calls, any tree -/

/-- The statement for a commit: whenever the process dies, a fresh reader sees the previous content or the complete
new generation.  Hypotheses = what `Release.put` guarantees when it calls `close`: the release is listed (its
directories exist) and generation `g` has no tag yet. -/
def CommitCrashConsistent (impl : Impl) : Prop :=
  ∀ (fs c : Fs) (p v g : Nat) (t : Tag) (k : Nat) (cut : Option Nat),
    get fs (projectP p) ≠ none → get fs (releaseP p v) ≠ none → get fs (tagP p v g) = none →
    run fs (crashOps (closeOps impl fs p v g t) k cut) = some c →
    ViewEq c fs ∨ run fs (closeOps impl fs p v g t) = some c

/-- **C05_commit_crash**: with the tag written to a temporary sibling and renamed (the code that exists), a commit is
crash consistent at *every* crash point (between any two micro-operations and inside the tag write), for every tree,
release, generation number, tag and number of states. -/
theorem C05_commit_crash (kf : Bool) : CommitCrashConsistent ⟨true, kf⟩ := by
  intro fs c p v g t k cut hp hv ht hc
  exact (commit_crash_raw kf fs c p v g t k cut ht hc).imp_left (close_prefix_viewEq hp hv ht)

/-- **C05_commit_crash_original_partial**: the code before the fix (tag written in place) is crash consistent at every
crash point *except* the two after `open(tag, 'wb')`: `k = n + 1` where `n` = number of micro-operations before the
tag is created (tag empty, or partially written with `cut`). -/
theorem C05_commit_crash_original_partial (kf : Bool) (fs c : Fs) (p v g : Nat) (t : Tag) (k : Nat) (cut : Option Nat)
    (hp : get fs (projectP p) ≠ none) (hv : get fs (releaseP p v) ≠ none) (ht : get fs (tagP p v g) = none)
    (hk : k ≠ (mkdirP fs (generationP p v g)).length + t.sids.length + 1)
    (hc : run fs (crashOps (closeOps ⟨false, kf⟩ fs p v g t) k cut) = some c) :
    ViewEq c fs ∨ run fs (closeOps ⟨false, kf⟩ fs p v g t) = some c := by
  let A := mkdirP fs (generationP p v g)
      ++ t.sids.map (fun s => Op.rename (stagedStateP p v s) (stateP p v g s))
  let B := [Op.createEmpty (tagP p v g), Op.append (tagP p v g) (encodeTag t)]
  have hsplit : closeOps ⟨false, kf⟩ fs p v g t = A ++ B := by
    simp [closeOps, tagWriteOps, A, B]
  have hlen : A.length = (mkdirP fs (generationP p v g)).length + t.sids.length := by simp [A]
  by_cases hle : k ≤ A.length
  · left
    rw [hsplit, crashOps_append_le A B k cut hle (by intro p b h; simp [B] at h)] at hc
    refine close_prefix_viewEq hp hv ht (close_prefix ⟨false, kf⟩ fs c p v g t A k cut ?_ ?_ ht hc)
    · intro op hop; rw [hsplit]; exact List.mem_append_left _ hop
    · have := closePrefix_not_tag fs p v g t.sids [] (by simp)
      simpa [A, renOps] using this
  · right
    have hge : (A ++ B).length ≤ k := by simp [B]; omega
    rw [hsplit] at hc ⊢
    unfold crashOps at hc
    rw [List.take_of_length_le hge, List.getElem?_eq_none hge] at hc
    cases cut <;> simpa using hc

/-- the tree after `publish 0/1 (file package)` and two staged states 0, 1 -/
def witnessTree : Fs :=
  (runSome Fs.empty (pushOps Impl.original Fs.empty 0 1 (.file [7, 7])
    ++ [.mkdir (stageP 0 1), .copyFile (stagedStateP 0 1 0) [1], .copyFile (stagedStateP 0 1 1) [2]])).1

/-- one kernel evaluation of the crash after `open(tag, 'wb')` on `witnessTree` for the three theorems below -/
private theorem witnessTree_facts :
    (let c := (runSome witnessTree (crashOps (closeOps Impl.original witnessTree 0 1 1 ⟨5, [0, 1]⟩) 4 none)).1
    (get witnessTree (projectP 0) ≠ none ∧ get witnessTree (releaseP 0 1) ≠ none ∧ get witnessTree (tagP 0 1 1) = none
      ∧ run witnessTree (crashOps (closeOps Impl.original witnessTree 0 1 1 ⟨5, [0, 1]⟩) 4 none) = some c)
    ∧ vis c (tagP 0 1 1) ≠ vis witnessTree (tagP 0 1 1)
    ∧ run witnessTree (closeOps Impl.original witnessTree 0 1 1 ⟨5, [0, 1]⟩) ≠ some c)
    ∧ (let c := (runSome witnessTree (crashOps (closeOps Impl.original witnessTree 0 1 1 ⟨5, [0, 1]⟩) 4 none)).1
    genListed c 0 1 1 = true ∧ tagOf c 0 1 1 = none)
    ∧ (let c := (runSome witnessTree (crashOps (closeOps Impl.original witnessTree 0 1 1 ⟨5, [0, 1]⟩) 4 (some 2))).1
    genListed c 0 1 1 = true ∧ tagOf c 0 1 1 = none) := by decide +kernel

/-- **C05_commit_crash_original_counterexample**: in the code before the fix a process death right after
`open(tag, 'wb')` (4 of 5 micro-operations done) leaves generation 1 *listed* with an unreadable (empty) tag: the view
is neither the old one (no generation) nor the new one.  (Finding C05-F1.) -/
theorem C05_commit_crash_original_counterexample : ¬ CommitCrashConsistent Impl.original := by
  intro h
  have ⟨⟨hp, hv, ht, hc⟩, hvis, hfull⟩ := witnessTree_facts.1
  exact (h _ _ _ _ _ _ _ _ hp hv ht hc).elim (fun e => hvis (e _)) hfull

/-- the crashed tree of the counterexample shows generation 1 as listed and its tag does not decode -/
theorem C05_commit_crash_original_counterexample_corrupt :
    let c := (runSome witnessTree (crashOps (closeOps Impl.original witnessTree 0 1 1 ⟨5, [0, 1]⟩) 4 none)).1
    genListed c 0 1 1 = true ∧ tagOf c 0 1 1 = none := witnessTree_facts.2.1

/-- the same crash point with 2 bytes of the tag written: generation 1 is listed and its tag does not decode -/
theorem C05_commit_crash_original_counterexample_partial_write :
    let c := (runSome witnessTree (crashOps (closeOps Impl.original witnessTree 0 1 1 ⟨5, [0, 1]⟩) 4 (some 2))).1
    genListed c 0 1 1 = true ∧ tagOf c 0 1 1 = none := witnessTree_facts.2.2

/-- **C05_commit_append_only**: after a completed commit (either variant) every node a fresh reader could see
before is still seen, byte-identical (older generations, tags, states, packages of every project). -/
theorem C05_commit_append_only (impl : Impl) (fs fs' : Fs) (p v g : Nat) (t : Tag)
    (hp : get fs (projectP p) ≠ none) (hv : get fs (releaseP p v) ≠ none) (ht : get fs (tagP p v g) = none)
    (hr : run fs (closeOps impl fs p v g t) = some fs') :
    ∀ key n, vis fs key = some n → vis fs' key = some n := by
  intro key n hvis
  exact (Keeps.of_frame (run_eqOff (closeOps_foot impl fs p v g t) hr) fun _ hf =>
    trainFoot_free (fun _ hm => absurd hm (not_missing hp hv)) ht hf.train).grows hvis

/-- **C05_commit_content**: a completed commit leaves generation `g` with exactly the given tag, the tag's state ids
are pairwise distinct and each named state file holds what was staged under that id. -/
theorem C05_commit_content (kf : Bool) (fs fs' : Fs) (p v g : Nat) (t : Tag)
    (hr : run fs (closeOps ⟨true, kf⟩ fs p v g t) = some fs') :
    tagOf fs' p v g = some t ∧ t.sids.Nodup ∧
    ∀ s ∈ t.sids, get fs' (stateP p v g s) = get fs (stagedStateP p v s) := by
  obtain ⟨_, c2, c3, c4⟩ := close_content kf fs fs' p v g t hr
  exact ⟨tagOf_encoded c2, c3, c4⟩

/-- **C05_next_generation**: `Release.put` numbers the new generation 1 for an empty listing and otherwise one
above *every* listed generation (so above the highest one), the number below being listed. -/
theorem C05_next_generation (fs : Fs) (p v : Nat) :
    (generationsOf fs p v = [] → nextGen fs p v = 1) ∧
    (∀ g ∈ generationsOf fs p v, g < nextGen fs p v) ∧
    (generationsOf fs p v ≠ [] → nextGen fs p v - 1 ∈ generationsOf fs p v) := nextGen_spec fs p v

/-- **C05_latest_is_highest**: an implicit generation / release key (`get(None)`) resolves to a listed key that is
at least every listed one; it is undefined (`Listing.Empty`) exactly for an empty listing. -/
theorem C05_latest_is_highest (fs : Fs) (p v : Nat) :
    (∀ m, latestGen fs p v = some m → m ∈ generationsOf fs p v ∧ ∀ g ∈ generationsOf fs p v, g ≤ m)
    ∧ (latestGen fs p v = none ↔ generationsOf fs p v = [])
    ∧ (∀ m, latestRel fs p = some m → m ∈ releasesOf fs p ∧ ∀ w ∈ releasesOf fs p, w ≤ m)
    ∧ (latestRel fs p = none ↔ releasesOf fs p = []) := by
  have key : ∀ l : List Nat, (∀ m, maxOf l = some m → m ∈ l ∧ ∀ g ∈ l, g ≤ m) ∧ (maxOf l = none ↔ l = []) := by
    intro l
    rcases maxOf_spec l with ⟨hn, rfl⟩ | ⟨m, hm, hin, hle⟩
    · rw [hn]; exact ⟨nofun, fun _ => rfl, fun _ => rfl⟩
    · rw [hm]
      exact ⟨fun m' h => (by cases h; exact ⟨hin, hle⟩), nofun, fun h => by rw [h] at hin; cases hin⟩
  exact ⟨(key _).1, (key _).2, (key _).1, (key _).2⟩

/-- The statement for releases: `Project.put` accepts a package `(name, v)` only if `v` is greater than every
listed release of project `name`. -/
def ReleaseMonotonic (impl : Impl) : Prop :=
  ∀ (fs : Fs) (dirProj name v : Nat), publishGuard impl fs dirProj name v = none →
    ∀ w ∈ releasesOf fs name, w < v

/-- **C05_release_monotonic**: with the project key compared first (the code that exists), an accepted release is
greater than every listed release of the project it is pushed to. -/
theorem C05_release_monotonic (st : Bool) : ReleaseMonotonic ⟨st, true⟩ :=
  fun fs dp name v hg => (publishGuard_none fs dp name v hg).2.1

/-- **C05_release_monotonic_original_partial**: the code before the fix guarantees it when the package is put through
its own project's key. -/
theorem C05_release_monotonic_original_partial (st : Bool) (fs : Fs) (name v : Nat)
    (hg : publishGuard ⟨st, false⟩ fs name name v = none) : ∀ w ∈ releasesOf fs name, w < v := by
  -- through its own key a package meets the same checks in both variants
  have e : publishGuard ⟨st, false⟩ fs name name v = publishGuard Impl.repaired fs name name v := by
    simp [publishGuard]
  exact (publishGuard_none fs name name v (e ▸ hg)).2.1

/-- **C05_release_monotonic_original_counterexample**: release 3 of project 0 exists; putting the package `(0, 1)`
through the unlisted project key 2 was accepted by the code before the fix.  (Finding C05-F4.) -/
theorem C05_release_monotonic_original_counterexample : ¬ ReleaseMonotonic Impl.original := by
  intro h
  have := h (runSome Fs.empty (pushOps Impl.original Fs.empty 0 3 (.file [7]))).1 2 0 1 (by decide +kernel) 3 (by decide +kernel)
  revert this; decide +kernel

/-- The statement for a publish: whenever the process dies, a fresh reader sees the previous content or the
complete new release.  Hypotheses: the tree is well formed (`WF`: every entry's parent is a directory) and the release is not
listed (`Project.put` accepts a version only above every listed one). -/
def PublishCrashConsistent (impl : Impl) : Prop :=
  ∀ (fs c : Fs) (p v : Nat) (pkg : Pkg) (k : Nat) (cut : Option Nat),
    WF fs → relListed fs p v = false →
    run fs (crashOps (atomsAll (pushOps impl fs p v pkg)) k cut) = some c →
    ViewEq c fs ∨ run fs (atomsAll (pushOps impl fs p v pkg)) = some c

/-- **C05_publish_crash**: with the package (file or directory tree) written under a temporary sibling name and
renamed (the code that exists), a publish is crash consistent at every crash point, for every well-formed tree
(including leftovers of earlier interrupted publishes) and package. -/
theorem C05_publish_crash (kf : Bool) : PublishCrashConsistent ⟨true, kf⟩ := by
  intro fs c p v pkg k cut w hnl hc
  exact (push_crash_raw kf fs c p v pkg k cut hc).imp_left (pushed_viewEq w (package_absent fs p v w hnl))

/-- **C05_publish_crash_original_counterexample_file**: in the code before the fix a process death right after the
package file is opened leaves release 0/1 listed with an empty package.  (Finding C05-F2.) -/
theorem C05_publish_crash_original_counterexample_file : ¬ PublishCrashConsistent Impl.original := by
  intro h
  have := h Fs.empty (runSome Fs.empty (crashOps (atomsAll (pushOps Impl.original Fs.empty 0 1 (.file [7, 7]))) 3 none)).1
    0 1 (.file [7, 7]) 3 none (by decide +kernel) (by decide +kernel) (by decide +kernel)
  rcases this with h1 | h1
  · have := h1 (packageP 0 1); revert this; decide +kernel
  · revert h1; decide +kernel

/-- **C05_publish_crash_original_counterexample_tree**: the same for a directory package: after `mkdir package.4ml`
and one copied member the release is listed with an incomplete tree.  (Finding C05-F3.) -/
theorem C05_publish_crash_original_counterexample_tree :
    let ops := atomsAll (pushOps Impl.original Fs.empty 0 1 (.dir [(1, [4]), (0, [5, 6])]))
    let c := (runSome Fs.empty (crashOps ops 5 none)).1
    let full := (runSome Fs.empty ops).1
    relListed c 0 1 = true ∧ vis c (packageP 0 1 ++ [.member 0]) = none
      ∧ vis full (packageP 0 1 ++ [.member 0]) = some (.file [5, 6]) := by decide +kernel

/-! ## Part 2 — whole histories of the code that exists (`Impl.repaired`)

`evs` ranges over *all* lists of events: publishes and trainings with arbitrary arguments (valid or not), each either
run to its end, killed at an arbitrary micro-operation / inside an arbitrary write, or made to raise by a transient fault
at an arbitrary micro-operation, after which the history goes on. -/

/-- **C05_history_crash_consistent**: after *any* history, for *any* next step and *any* crash point of it (after `k`
completed micro-operations of the step's registry calls, optionally inside the next write): a fresh reader sees
exactly the previous content, or the step had completed successfully and the reader sees its complete result. -/
theorem C05_history_crash_consistent (evs : List Ev) (s : Step) (k : Nat) (cut : Option Nat) :
    let fs := play Impl.repaired Fs.empty evs
    ViewEq (crashIn Impl.repaired fs s k cut) fs
      ∨ ((exec Impl.repaired fs s).err = none ∧ crashIn Impl.repaired fs s k cut = (exec Impl.repaired fs s).fs) :=
  (step_left _ (history_good evs) s _ (Or.inr ⟨k, cut, rfl⟩)).2.2

/-- **C05_history_never_corrupt**: after any history — in particular right after any process death — every generation
a fresh reader lists has a tag that decodes, and every state the tag names is there to be read: never a listed
generation whose metadata or states are missing or unreadable. -/
theorem C05_history_never_corrupt (evs : List Ev) (p v g : Nat)
    (h : genListed (play Impl.repaired Fs.empty evs) p v g = true) :
    ∃ t, tagOf (play Impl.repaired Fs.empty evs) p v g = some t
      ∧ ∀ s ∈ t.sids, ∃ b, vis (play Impl.repaired Fs.empty evs) (stateP p v g s) = some (.file b) :=
  listed_readable _ (history_good evs) p v g h

/-- **C05_history_release_has_package**: every listed release has its package (listing = package present). -/
theorem C05_history_release_has_package (evs : List Ev) (p v : Nat)
    (h : relListed (play Impl.repaired Fs.empty evs) p v = true) :
    ∃ n, vis (play Impl.repaired Fs.empty evs) (packageP p v) = some n := by
  have := h
  simp only [relListed, Bool.and_eq_true, Option.isSome_iff_exists] at this
  obtain ⟨n, hn⟩ := this.2
  exact ⟨n, by simp only [vis, packageP, h, if_true]; exact hn⟩

/-- **C05_history_gap_free**: after any history the generations a reader lists for a release are exactly `1 .. n`. -/
theorem C05_history_gap_free (evs : List Ev) (p v g : Nat)
    (h : g ∈ generationsOf (play Impl.repaired Fs.empty evs) p v) :
    1 ≤ g ∧ ∀ g', 1 ≤ g' → g' ≤ g → g' ∈ generationsOf (play Impl.repaired Fs.empty evs) p v :=
  generations_gapfree _ (history_good evs) p v g h

/-- **C05_history_failed_step_invisible**: a step that raises (refused by a guard, or a failing system call half-way)
changes nothing a reader can see. -/
theorem C05_history_failed_step_invisible (evs : List Ev) (s : Step)
    (h : (exec Impl.repaired (play Impl.repaired Fs.empty evs) s).err ≠ none) :
    ViewEq (exec Impl.repaired (play Impl.repaired Fs.empty evs) s).fs (play Impl.repaired Fs.empty evs) := by
  rcases (step_left _ (history_good evs) s _ (Or.inl rfl)).2.2 with hv | ⟨he, _⟩
  · exact hv
  · exact absurd he h

/-- **C05_history_train**: after any history, a successful training of release `p/v` (i) requires the release to be
listed, (ii) adds generation `nextGen` — 1 for an empty listing, else above every listed number with the number below
listed, i.e. (with `C05_history_gap_free`) one above the highest — listed, with a
tag holding the run's ordinal and exactly the run's state ids in the run's (actor) order, (iii) each named state holds
that run's bytes, and (iv) every other path — every older generation, tag, state, every package of every project —
looks to a fresh reader byte-for-byte as before (so exactly one generation was added). -/
theorem C05_history_train (evs : List Ev) (p v ord : Nat) (sts : List (Nat × Bytes))
    (h : (exec Impl.repaired (play Impl.repaired Fs.empty evs) (.train p v ord sts)).err = none) :
    let fs := play Impl.repaired Fs.empty evs
    let fs' := (exec Impl.repaired fs (.train p v ord sts)).fs
    relListed fs p v = true
    ∧ ((generationsOf fs p v = [] → nextGen fs p v = 1)
        ∧ (∀ g ∈ generationsOf fs p v, g < nextGen fs p v)
        ∧ (generationsOf fs p v ≠ [] → nextGen fs p v - 1 ∈ generationsOf fs p v))
    ∧ genListed fs' p v (nextGen fs p v) = true
    ∧ tagOf fs' p v (nextGen fs p v) = some ⟨ord, sts.map (·.1)⟩
    ∧ (sts.map (·.1)).Nodup
    ∧ (∀ sb ∈ sts, vis fs' (stateP p v (nextGen fs p v) sb.1) = some (.file sb.2))
    ∧ (∀ key, ¬ (generationP p v (nextGen fs p v) <+: key) → vis fs' key = vis fs key) := by
  obtain ⟨h1, h2⟩ := train_ok _ (history_good evs) p v ord sts h
  exact ⟨h1, nextGen_spec _ p v, h2⟩

/-- **C05_history_publish**: after any history, a successful publish of package `(name, v)` through project key `dp`
(i) has `dp = name` and `v` greater than every listed release of `name`, (ii) lists the new release with exactly
that package at its place (a file with the package bytes, or a directory whose members — distinct names — hold their
bytes), and (iii) every path outside the new release directory looks byte-for-byte as before. -/
theorem C05_history_publish (evs : List Ev) (dp name v : Nat) (pkg : Pkg)
    (h : (exec Impl.repaired (play Impl.repaired Fs.empty evs) (.publish dp name v pkg)).err = none) :
    let fs := play Impl.repaired Fs.empty evs
    let fs' := (exec Impl.repaired fs (.publish dp name v pkg)).fs
    dp = name ∧ (∀ w ∈ releasesOf fs name, w < v)
    ∧ relListed fs' name v = true
    ∧ pkg.placedAs (vis fs' (packageP name v))
    ∧ (∀ ms, pkg = .dir ms → (ms.map (·.1)).Nodup → ∀ m ∈ ms,
        vis fs' (packageP name v ++ [.member m.1]) = some (.file m.2))
    ∧ (∀ key, ¬ (releaseP name v <+: key) → vis fs' key = vis fs key) :=
  publish_ok _ (history_good evs) dp name v pkg h

/-- **C05_history_fault_is_crash**: a transient I/O fault (an `OSError` raised once by the file-system call that would
have been the `j`-th atomic micro-operation of the step, or by a read before it; the process lives on) inside a training
leaves exactly the tree a process death at that point leaves — for every tree, every variant of the code: `write` and
`close` absorb nothing. -/
theorem C05_history_fault_is_crash (impl : Impl) (fs : Fs) (p v ord : Nat) (sts : List (Nat × Bytes)) (j : Nat) :
    faultIn impl fs (.train p v ord sts) j = crashIn impl fs (.train p v ord sts) j none :=
  faultIn_train impl fs p v ord sts j

/-- **C05_history_fault_publish**: a transient I/O fault inside a publish leaves the tree of a process death at that point,
or (a member copy failing inside `shutil.copytree`, which collects the error and copies the other members before it
raises) the tree differs from the one before only below the invisible temporary package name and in newly created,
still package-less directories. -/
theorem C05_history_fault_publish (evs : List Ev) (dp name v : Nat) (pkg : Pkg) (j : Nat) :
    let fs := play Impl.repaired Fs.empty evs
    faultIn Impl.repaired fs (.publish dp name v pkg) j = crashIn Impl.repaired fs (.publish dp name v pkg) j none
    ∨ (relListed fs name v = false ∧ QuietPub (faultIn Impl.repaired fs (.publish dp name v pkg) j) fs name v) :=
  (fault_publish_cases _ dp name v pkg j).imp_right fun h => ⟨h.1, .of_foot h.2⟩

/-- **C05_history_fault_invisible**: after any history (with process deaths and faults), a step hit by a transient I/O
fault is observationally a crashed one plus an error report: a fresh reader sees exactly the previous content — it never
renumbers, overwrites or accepts what the undisturbed step would have refused — unless the fault came after the last
micro-operation of a step that had completed without error: then the reader sees its complete, correct result. -/
theorem C05_history_fault_invisible (evs : List Ev) (s : Step) (j : Nat) :
    let fs := play Impl.repaired Fs.empty evs
    ViewEq (faultIn Impl.repaired fs s j) fs
      ∨ ((exec Impl.repaired fs s).err = none ∧ faultIn Impl.repaired fs s j = (exec Impl.repaired fs s).fs) :=
  (fault_left _ (history_good evs) s j).2.2

/-- **C05_history_append_only**: whatever a fresh reader can see after a history (a package, a package member, a
tag, a state) it sees byte-identical after *any* continuation of that history — completed steps, refused steps,
process deaths and transient faults at any point.  (This is also why the process-wide `lru_cache`s `TAGS` / `STATES` / `ARTIFACTS` of a
long-lived reader never go stale: a cached item equals what a fresh reader would read.) -/
theorem C05_history_append_only (evs evs' : List Ev) (key : Path) (n : Node)
    (h : vis (play Impl.repaired Fs.empty evs) key = some n) :
    vis (play Impl.repaired Fs.empty (evs ++ evs')) key = some n := by
  rw [play_append]
  exact (play_left evs' _ (history_good evs)).2.grows h

def demoHistory : List Step :=
  [.publish 0 0 2 (.file [1, 2, 3]), .publish 1 1 1 (.dir [(0, [9]), (1, [8, 8])]),
   .train 0 2 1 [(0, [1, 2, 3])], .publish 0 0 3 (.file [4]), .train 0 3 2 [(1, [4]), (2, [5, 6])],
   .train 0 2 3 [(3, [7])]]

/-- a crash-recovery history: a directory publish killed while copying and a training killed after the first state was
moved, both retried by a new process; a refused publish of a lower version -/
def demoEvents : List Ev :=
  [.step (.publish 0 0 2 (.file [1, 2, 3])), .crash (.publish 1 1 1 (.dir [(0, [9]), (1, [8, 8])])) 6 (some 1),
   .step (.publish 1 1 1 (.dir [(0, [9]), (1, [8, 8])])), .step (.train 0 2 1 [(0, [1, 2, 3])]),
   .crash (.train 0 2 2 [(1, [4]), (2, [5, 6])]) 6 none, .step (.train 0 2 3 [(3, [7]), (4, [8])]),
   .step (.publish 0 0 1 (.file [4])), .step (.publish 0 0 3 (.file [4]))]

/-- one kernel evaluation of `demoHistory` under the code that exists for the two tests below -/
private theorem demoHistory_facts :
    (((execAll Impl.repaired Fs.empty demoHistory).2.all (fun o => o.err.isNone)) = true)
    ∧ (let fs := (execAll Impl.repaired Fs.empty demoHistory).1
    generationsOf fs 0 2 = [2, 1] ∧ generationsOf fs 0 3 = [1] ∧ releasesOf fs 0 = [3, 2] ∧ releasesOf fs 1 = [1]
    ∧ tagOf fs 0 3 1 = some ⟨2, [1, 2]⟩ ∧ vis fs (stateP 0 3 1 2) = some (.file [5, 6]) ∧ nextGen fs 0 2 = 3
    ∧ WF fs ∧ get fs (projectP 0) ≠ none ∧ get fs (releaseP 0 2) ≠ none ∧ get fs (tagP 0 2 3) = none) := by
  decide +kernel

/-- the same under the code before the fixes -/
private theorem demoHistory_original_facts :
    (((execAll Impl.original Fs.empty demoHistory).2.all (fun o => o.err.isNone)) = true)
    ∧ ((exec Impl.original (execAll Impl.original Fs.empty demoHistory).1 (.publish 0 0 2 (.file [1]))).err
    = some .invalid) := by
  decide +kernel

/-- one kernel evaluation of `demoEvents` (its first two events on the way) for the three tests of it below -/
private theorem demoEvents_facts :
    (let fs := play Impl.repaired Fs.empty demoEvents
    generationsOf fs 0 2 = [2, 1] ∧ releasesOf fs 0 = [3, 2] ∧ releasesOf fs 1 = [1]
    ∧ tagOf fs 0 2 2 = some ⟨3, [3, 4]⟩ ∧ vis fs (stateP 0 2 2 4) = some (.file [8])
    ∧ vis fs (stateP 0 2 2 1) = none ∧ get fs (stateP 0 2 2 1) = some (.file [4])
    ∧ vis fs (packageP 1 1 ++ [.member 1]) = some (.file [8, 8]))
    ∧ (let fs := play Impl.repaired Fs.empty (demoEvents.take 2)
    get fs (packageTmpP 1 1) = some .dir ∧ get fs (packageTmpP 1 1 ++ [.member 1]) = some (.file [8])
    ∧ releasesOf fs 1 = [])
    ∧ (((exec Impl.repaired (play Impl.repaired Fs.empty (demoEvents.take 2))
    (.publish 1 1 1 (.dir [(0, [9]), (1, [8, 8])]))).calls.head?.bind List.head?)
    = some (.rmtree (packageTmpP 1 1))) := by
  decide +kernel

/-- every step of the demo history succeeds under both variants, generations are numbered 1, 2 / 1 and hold the
runs' states in order; the tree is well formed and satisfies the hypotheses of the commit theorems for the next
generation -/
example : ((execAll Impl.repaired Fs.empty demoHistory).2.all (fun o => o.err.isNone)) = true := demoHistory_facts.1
example : ((execAll Impl.original Fs.empty demoHistory).2.all (fun o => o.err.isNone)) = true :=
  demoHistory_original_facts.1
example : let fs := (execAll Impl.repaired Fs.empty demoHistory).1
    generationsOf fs 0 2 = [2, 1] ∧ generationsOf fs 0 3 = [1] ∧ releasesOf fs 0 = [3, 2] ∧ releasesOf fs 1 = [1]
    ∧ tagOf fs 0 3 1 = some ⟨2, [1, 2]⟩ ∧ vis fs (stateP 0 3 1 2) = some (.file [5, 6]) ∧ nextGen fs 0 2 = 3
    ∧ WF fs ∧ get fs (projectP 0) ≠ none ∧ get fs (releaseP 0 2) ≠ none ∧ get fs (tagP 0 2 3) = none := demoHistory_facts.2
example : (exec Impl.original (execAll Impl.original Fs.empty demoHistory).1 (.publish 0 0 2 (.file [1]))).err
    = some .invalid := demoHistory_original_facts.2
example : (exec Impl.repaired Fs.empty (.publish 2 0 1 (.file [1]))).err = some .mismatch := by decide +kernel
/-- the crash-recovery history: the killed publish left a temporary tree that the retry removes (`rmtree`), the killed
training left generation directory 2 with one moved state and no tag, the retry reuses number 2; the refused publish
(version 1 < 2) changes nothing -/
example : let fs := play Impl.repaired Fs.empty demoEvents
    generationsOf fs 0 2 = [2, 1] ∧ releasesOf fs 0 = [3, 2] ∧ releasesOf fs 1 = [1]
    ∧ tagOf fs 0 2 2 = some ⟨3, [3, 4]⟩ ∧ vis fs (stateP 0 2 2 4) = some (.file [8])
    ∧ vis fs (stateP 0 2 2 1) = none ∧ get fs (stateP 0 2 2 1) = some (.file [4])
    ∧ vis fs (packageP 1 1 ++ [.member 1]) = some (.file [8, 8]) := demoEvents_facts.1
example : let fs := play Impl.repaired Fs.empty (demoEvents.take 2)
    get fs (packageTmpP 1 1) = some .dir ∧ get fs (packageTmpP 1 1 ++ [.member 1]) = some (.file [8])
    ∧ releasesOf fs 1 = [] := demoEvents_facts.2.1
example : ((exec Impl.repaired (play Impl.repaired Fs.empty (demoEvents.take 2))
    (.publish 1 1 1 (.dir [(0, [9]), (1, [8, 8])]))).calls.head?.bind List.head?)
    = some (.rmtree (packageTmpP 1 1)) := demoEvents_facts.2.2

/-- non-vacuity of the fault model: a transient error at the copy of the first member of a tree publish — `copytree` still
copies the second member and raises before the rename: nothing is listed; the retry (another build of that version)
removes the left-over and publishes exactly its own members -/
example : let fs := faultIn Impl.repaired Fs.empty (.publish 0 0 1 (.dir [(0, [9]), (1, [8, 8])])) 3
    get fs (packageTmpP 0 1 ++ [.member 1]) = some (.file [8, 8]) ∧ get fs (packageTmpP 0 1 ++ [.member 0]) = none
    ∧ get fs (packageP 0 1) = none ∧ releasesOf fs 0 = []
    ∧ (let fs' := play Impl.repaired fs [.step (.publish 0 0 1 (.dir [(0, [7]), (2, [6])]))]
       releasesOf fs' 0 = [1] ∧ vis fs' (packageP 0 1 ++ [.member 1]) = none
       ∧ vis fs' (packageP 0 1 ++ [.member 2]) = some (.file [6])) := by decide +kernel
/-- a fault in the second move of a commit = the process death there; the retry by the same (living) process re-uses the
number -/
example : let evs := [Ev.step (.publish 0 0 1 (.file [1])), .step (.train 0 1 1 [(0, [1])]),
      .fault (.train 0 1 2 [(1, [2]), (2, [3])]) 6, .step (.train 0 1 3 [(3, [2]), (4, [3])])]
    generationsOf (play Impl.repaired Fs.empty evs) 0 1 = [2, 1]
    ∧ tagOf (play Impl.repaired Fs.empty evs) 0 1 2 = some ⟨3, [3, 4]⟩
    ∧ generationsOf (play Impl.repaired Fs.empty (evs.take 3)) 0 1 = [1] := by decide +kernel

/-! ## Part 3 — several writers: handles in processes (`Impl.repaired`)

`evs` ranges over *all* lists of handle events: any number of handles (each bound to a project and an explicit or
implicit release / generation key, each in some process), opened at any time and used for any number of operations —
publishes, `begin` / `dump` / `commit` of trainings whose registry calls interleave arbitrarily with those of the other
handles, reads — each operation run to its end, with its process killed at any micro-operation, or made to raise by a
transient fault at any micro-operation.  What a handle remembers (`Level._key` of an implicit key) and what its process
has cached (TAGS, STATES) is part of the state. -/

/-- the world after an interleaved history -/
abbrev worldAfter (evs : List HEv) : World := playH Impl.repaired World.empty evs

/-- **C05_handles_never_corrupt**: after any interleaved history of any number of writers — in particular right after
any process death — every generation a fresh reader lists has a tag that decodes and every state it names is there. -/
theorem C05_handles_never_corrupt (evs : List HEv) (p v g : Nat)
    (h : genListed (worldAfter evs).fs p v g = true) :
    ∃ t, tagOf (worldAfter evs).fs p v g = some t
      ∧ ∀ s ∈ t.sids, ∃ b, vis (worldAfter evs).fs (stateP p v g s) = some (.file b) :=
  listed_readable _ (playH_good2 evs).good p v g h

/-- **C05_handles_gap_free**: after any interleaved history the generations of every release are exactly `1 .. n`. -/
theorem C05_handles_gap_free (evs : List HEv) (p v g : Nat)
    (h : g ∈ generationsOf (worldAfter evs).fs p v) :
    1 ≤ g ∧ ∀ g', 1 ≤ g' → g' ≤ g → g' ∈ generationsOf (worldAfter evs).fs p v :=
  generations_gapfree _ (playH_good2 evs).good p v g h

/-- **C05_handles_crash_consistent**: after any interleaved history, whatever the next event — any operation through
any handle (long-lived, with whatever it has memoised, or fresh), run to its end, raising, or with its process killed
after any number of micro-operations / inside a write, or made to raise by a transient I/O fault at any of them — a fresh
reader sees exactly the previous content, or the operation has completed without error and the reader sees its complete
result. -/
theorem C05_handles_crash_consistent (evs : List HEv) (e : HEv) :
    let w := worldAfter evs
    ViewEq (applyH Impl.repaired w e).fs w.fs
      ∨ ∃ h op, (e = .run h op ∨ (∃ k cut, e = .die h op k cut) ∨ ∃ j, e = .fault h op j)
          ∧ (perform Impl.repaired w h op).err = none
          ∧ (applyH Impl.repaired w e).fs = (perform Impl.repaired w h op).w.fs := by
  intro w
  obtain ⟨h, op, he, hl⟩ := applyH_left w e
  rcases (act_left_F w.fs (playH_good2 evs) _ (actOf_ok w h op) _ hl).2.2 with hv | ⟨hok, hx⟩
  · exact Or.inl hv
  · cases hpe : (perform Impl.repaired w h op).err with
    | none => exact Or.inr ⟨h, op, he, hpe, by rw [hx, (perform_act w h op).1]⟩
    | some e' =>
      -- the call completed although the operation raised: it was refused before any call
      rcases perform_fail w h op (by rw [hpe]; nofun) with hne | hidle
      · exact absurd hok hne
      · rw [hidle] at hx
        exact Or.inl (by rw [hx]; exact ViewEq.refl _)

/-- **C05_handles_fault**: in any interleaved history an operation through any handle that a transient I/O fault makes
raise leaves — outside a publish — exactly the tree the death of its process at that point would have left, but the
process, its handles (keys stay resolved, nothing is added to the dumps) and its caches live on (stated for the TAGS
cache); the handle table changes at that handle only. -/
theorem C05_handles_fault (evs : List HEv) (h : Nat) (op : HOp) (j : Nat) (x : Handle)
    (hl : lookupH (worldAfter evs).hs h = some x) (hnp : ∀ name v pkg, op ≠ .publish name v pkg) :
    let w := worldAfter evs
    (applyH Impl.repaired w (.fault h op j)).fs = (applyH Impl.repaired w (.die h op j none)).fs
    ∧ (applyH Impl.repaired w (.fault h op j)).hs = setH w.hs h (faultHandle w.fs x op)
    ∧ (applyH Impl.repaired w (.fault h op j)).tags = w.tags := by
  intro w
  have hl' : lookupH w.hs h = some x := hl
  refine ⟨?_, by simp only [applyH, hl'], by simp only [applyH, hl']⟩
  simp only [applyH, hl', killProc_fs]
  have hne : ∀ dp name v pkg, actOf w h op ≠ .publish dp name v pkg := by
    intro dp name v pkg e'
    rcases actOf_shape w h op with h1 | ⟨_, name', v', pkg', _, hop, _⟩ | ⟨_, _, _, _, _, _, h1, _⟩ | ⟨_, _, _, _, _, h1, _⟩
    · rw [h1] at e'; cases e'
    · exact hnp name' v' pkg' hop
    · rw [h1] at e'; cases e'
    · rw [h1] at e'; cases e'
  have := faultTree_crash w.fs (actOf w h op) j hne
  simp only [faultTree] at this
  rw [← (perform_act w h op).2] at this
  exact this

/-- **C05_handles_commit**: after any interleaved history, a successful commit through ANY handle — long-lived or
fresh, whatever it has memoised, whoever committed since it was opened or since its states were dumped — (i) addresses a
listed release `v` of the handle's project, (ii) adds generation `nextGen` OF THE TREE AT COMMIT TIME — 1 for an empty
listing, else above every generation on disk with the number below listed, i.e. (with `C05_handles_gap_free`) one above
the highest existing one —, listed, (iii) tagged with the accessor's ordinal and exactly the state ids dumped through the
handle since `begin`, in order, as many as there are nodes, pairwise distinct, (iv) each state holding the bytes staged
under its id, and (v) every path outside that generation directory — every other generation, tag, state, package — looks
to a fresh reader byte-for-byte as before. -/
theorem C05_handles_commit (evs : List HEv) (h : Nat)
    (hok : (perform Impl.repaired (worldAfter evs) h .commit).err = none) :
    let w := worldAfter evs
    let fs' := (perform Impl.repaired w h .commit).w.fs
    ∃ x ord v, lookupH w.hs h = some x ∧ x.acc = some (ord, x.sids.length) ∧ (resolveRel w.fs x).2 = .ok v
      ∧ relListed w.fs x.proj v = true
      ∧ ((generationsOf w.fs x.proj v = [] → nextGen w.fs x.proj v = 1)
          ∧ (∀ g ∈ generationsOf w.fs x.proj v, g < nextGen w.fs x.proj v)
          ∧ (generationsOf w.fs x.proj v ≠ [] → nextGen w.fs x.proj v - 1 ∈ generationsOf w.fs x.proj v))
      ∧ genListed fs' x.proj v (nextGen w.fs x.proj v) = true
      ∧ tagOf fs' x.proj v (nextGen w.fs x.proj v) = some ⟨ord, x.sids⟩
      ∧ x.sids.Nodup
      ∧ (∀ s ∈ x.sids, ∃ b, get w.fs (stagedStateP x.proj v s) = some (.file b)
          ∧ vis fs' (stateP x.proj v (nextGen w.fs x.proj v) s) = some (.file b))
      ∧ (∀ key, ¬ (generationP x.proj v (nextGen w.fs x.proj v) <+: key) → vis fs' key = vis w.fs key) := by
  intro w fs'
  obtain ⟨x, hl, hpe, hrun, hfs⟩ := perform_ok_plan w h .commit nofun nofun hok
  obtain ⟨ord, v, hacc, hres, hact, _⟩ := plan_commit_ok w.fs x hpe
  have hlst := (resolveRel_ok w.fs x v hres).1
  rw [hact] at hrun hfs
  rw [show fs' = _ from hfs]
  exact ⟨x, ord, v, hl, hacc, hres, hlst, nextGen_spec _ _ _,
    close_ok w.fs (playH_good2 evs) x.proj v ord x.sids hlst hrun⟩

/-- **C05_handles_dump**: a successful dump through any handle stages exactly the given bytes under the drawn id in the
stage directory of a listed release, leaves every other staged state alone, and changes nothing a reader can see
(nothing at all outside that stage directory). -/
theorem C05_handles_dump (evs : List HEv) (h sid : Nat) (b : Bytes)
    (hok : (perform Impl.repaired (worldAfter evs) h (.dump sid b)).err = none) :
    let w := worldAfter evs
    let fs' := (perform Impl.repaired w h (.dump sid b)).w.fs
    ∃ x v, lookupH w.hs h = some x ∧ (resolveRel w.fs x).2 = .ok v ∧ relListed w.fs x.proj v = true
      ∧ get fs' (stagedStateP x.proj v sid) = some (.file b)
      ∧ (∀ s, s ≠ sid → get fs' (stagedStateP x.proj v s) = get w.fs (stagedStateP x.proj v s))
      ∧ ViewEq fs' w.fs
      ∧ (∀ key, ¬ (stageP x.proj v <+: key) → get fs' key = get w.fs key) := by
  intro w fs'
  obtain ⟨x, hl, hpe, hrun, hfs⟩ := perform_ok_plan w h (.dump sid b) nofun nofun hok
  obtain ⟨v, hres, hact, _⟩ := plan_dump_ok w.fs x sid b hpe
  have hlst := (resolveRel_ok w.fs x v hres).1
  rw [hact] at hrun hfs
  obtain ⟨d1, d2⟩ := write_ok w.fs x.proj v sid b hrun
  have htree := runCalls_left_tree w.fs [fun f => writeOps f x.proj v sid b] _
    (Or.inl (rfl : (runAct Impl.repaired w.fs (.write x.proj v sid b)).fs = _))
  obtain ⟨_, hview, hframe⟩ := write_left w.fs _ (playH_good2 evs) x.proj v sid b hlst htree
  rw [show fs' = _ from hfs]
  exact ⟨x, v, hl, hres, hlst, d1, d2, hview, hframe⟩

/-- **C05_handles_publish**: a successful publish through any (long-lived) project handle: the package's name is the
handle's project, its version is above every release of that project ON DISK at that moment, the release is listed and
shows the package at its path (the file with its bytes; for a tree package the statement says only that the directory is
there — the members' bytes are stated in `C05_history_publish` only), and every path outside the new release directory
looks as before. -/
theorem C05_handles_publish (evs : List HEv) (h name v : Nat) (pkg : Pkg)
    (hok : (perform Impl.repaired (worldAfter evs) h (.publish name v pkg)).err = none) :
    let w := worldAfter evs
    let fs' := (perform Impl.repaired w h (.publish name v pkg)).w.fs
    ∃ x, lookupH w.hs h = some x ∧ x.proj = name ∧ (∀ u ∈ releasesOf w.fs name, u < v)
      ∧ relListed fs' name v = true
      ∧ pkg.placedAs (vis fs' (packageP name v))
      ∧ (∀ key, ¬ (releaseP name v <+: key) → vis fs' key = vis w.fs key) := by
  intro w fs'
  obtain ⟨x, hl, _, hrun, hfs⟩ := perform_ok_plan w h (.publish name v pkg) nofun nofun hok
  have hact : (plan w.fs x (.publish name v pkg)).act = .publish x.proj name v pkg := rfl
  rw [hact] at hrun hfs
  obtain ⟨p1, p2, p3, p4, _, p6⟩ := publish_ok w.fs (playH_good2 evs).good x.proj name v pkg hrun
  rw [show fs' = _ from hfs]
  exact ⟨x, hl, p1, p2, p3, p4, p6⟩

/-- **C05_handles_append_only**: whatever a fresh reader can see after an interleaved history it sees byte-identical
after any continuation — operations of old and new handles, process deaths and transient faults at any point. -/
theorem C05_handles_append_only (evs evs' : List HEv) (key : Path) (n : Node)
    (h : vis (worldAfter evs).fs key = some n) : vis (worldAfter (evs ++ evs')).fs key = some n := by
  show vis (playH Impl.repaired World.empty (evs ++ evs')).fs key = some n
  rw [playH_append]
  exact (playH_left evs' _ (playH_good2 evs)).2.grows h

/-- **C05_handles_cache_coherent**: after any interleaved history every tag any process holds in its (never
invalidated) TAGS cache is the tag a fresh reader reads for that — still listed — generation. -/
theorem C05_handles_cache_coherent (evs : List HEv) :
    ∀ e ∈ (worldAfter evs).tags, genListed (worldAfter evs).fs e.2.1.1 e.2.1.2.1 e.2.1.2.2 = true
      ∧ tagOf (worldAfter evs).fs e.2.1.1 e.2.1.2.1 e.2.1.2.2 = some e.2.2 := by
  intro e he
  obtain ⟨b, hb, hd⟩ := playH_tagsOk evs e he
  exact tagOf_of_vis _ _ _ _ b _ hb hd

/-- **C05_handles_look**: what a handle reads (`Instance.tag`) — cached or not, however long the handle and its process
have lived — is the tag a fresh reader reads for the generation the handle is bound to (explicit, remembered, or the
latest at this moment), a listed generation of a listed release. -/
theorem C05_handles_look (evs : List HEv) (h : Nat) (t : Tag)
    (hlook : (perform Impl.repaired (worldAfter evs) h .look).look = some (some t)) :
    let w := worldAfter evs
    ∃ x v g, lookupH w.hs h = some x ∧ (resolveRel w.fs x).2 = .ok v
      ∧ (resolveGen w.fs x.proj v (resolveRel w.fs x).1).2 = .ok (some g)
      ∧ genListed w.fs x.proj v g = true ∧ tagOf w.fs x.proj v g = some t := by
  obtain ⟨x, v, g, hl, _, _, h1, h2, h3, h4⟩ := perform_look _ (playH_tagsOk evs) h t hlook
  exact ⟨x, v, g, hl, h1, h2, h3, h4⟩

/-- **C05_handles_states_coherent**: after any interleaved history every state any process holds in its (never
invalidated) STATES cache is the state a fresh reader reads. -/
theorem C05_handles_states_coherent (evs : List HEv) :
    ∀ e ∈ (worldAfter evs).states,
      vis (worldAfter evs).fs (stateP e.2.1.1 e.2.1.2.1 e.2.1.2.2.1 e.2.1.2.2.2) = some (.file e.2.2) :=
  playH_statesOk evs

/-- **C05_handles_read_states**: the states a handle loads after the tag (`State.load` → `Generation.get` through the
STATES cache) are, in the tag's order, exactly the bytes a fresh reader reads for the generation the handle is bound to —
each of them a visible file. -/
theorem C05_handles_read_states (evs : List HEv) (h : Nat) (t : Tag)
    (hlook : (perform Impl.repaired (worldAfter evs) h .look).look = some (some t)) :
    let w := worldAfter evs
    ∃ x v g, lookupH w.hs h = some x ∧ boundGen w.fs x = some (v, g) ∧ tagOf w.fs x.proj v g = some t
      ∧ lookStates w h = t.sids.map (fun s => visBytes w.fs (stateP x.proj v g s))
      ∧ ∀ s ∈ t.sids, ∃ b, vis w.fs (stateP x.proj v g s) = some (.file b) := by
  intro w
  obtain ⟨x, v, g, hl, hlook, hb, _, _, hgl, htag⟩ := perform_look w (playH_tagsOk evs) h t hlook
  have hst := listed_states w.fs (playH_good2 evs).good x.proj v g t hgl htag
  refine ⟨x, v, g, hl, hb, htag, ?_, fun s hs => (hst s hs).imp fun b hb' => hb'.1⟩
  simp only [lookStates, hl, hlook, hb]
  exact (readStates_ok w.fs x.proc x.proj v g t.sids w.states hst (playH_statesOk evs)).2

/-- **C05_handles_dumps_stay_staged**: along any interleaved history in which every dump draws a fresh state id (uuid4),
for every handle with a training in progress — states dumped since `begin`, not yet committed — every dumped state is
still staged, byte for byte, in the stage directory of the release the handle is bound to: whatever the other handles
did in between (dumps, commits, publishes, process deaths at any point). -/
theorem C05_handles_dumps_stay_staged (evs : List HEv) (nd : (dumpSids evs).Nodup) (h : Nat) (x : Handle)
    (hl : lookupH (worldAfter evs).hs h = some x) (hd : x.done = false) :
    ∀ sb ∈ x.dumped, ∃ v, x.rel = some v
      ∧ get (worldAfter evs).fs (stagedStateP x.proj v sb.1) = some (.file sb.2) :=
  (playH_owed evs nd).staged (h, x) (lookupH_mem _ _ _ hl) hd

/-- **C05_handles_training**: in any interleaved history with fresh state ids, a successful commit through a handle that
is the first of its commits since `begin` to get as far as the registry call (`done = false`: none raised or was faulted
inside `Registry.close` before) adds — as generation `nextGen` of what is on disk at commit time (`C05_handles_commit`) —
a generation tagged with exactly the ids of the states dumped through THAT handle since `begin`, in dump (= actor) order, each state
holding exactly the bytes handed to that dump: no state of another writer, nothing lost, whatever interleaved. -/
theorem C05_handles_training (evs : List HEv) (nd : (dumpSids evs).Nodup) (h : Nat) (x : Handle)
    (hl : lookupH (worldAfter evs).hs h = some x) (hd : x.done = false)
    (hok : (perform Impl.repaired (worldAfter evs) h .commit).err = none) :
    let w := worldAfter evs
    let fs' := (perform Impl.repaired w h .commit).w.fs
    ∃ ord v, x.acc = some (ord, x.dumped.length) ∧ (resolveRel w.fs x).2 = .ok v
      ∧ genListed fs' x.proj v (nextGen w.fs x.proj v) = true
      ∧ tagOf fs' x.proj v (nextGen w.fs x.proj v) = some ⟨ord, x.dumped.map (·.1)⟩
      ∧ ∀ sb ∈ x.dumped, vis fs' (stateP x.proj v (nextGen w.fs x.proj v) sb.1) = some (.file sb.2) := by
  intro w fs'
  obtain ⟨x0, ord, v, hl0, hacc, hres, _, _, hgl, htag, _, hst, _⟩ := C05_handles_commit evs h hok
  have hx : x0 = x := by
    have : lookupH w.hs h = some x := hl
    rw [hl0] at this; cases this; rfl
  subst hx
  refine ⟨ord, v, by simpa [Handle.sids] using hacc, hres, hgl, htag, ?_⟩
  intro sb hsb
  obtain ⟨b, hb, hvis⟩ := hst sb.1 (mem_sids _ _ hsb)
  obtain ⟨v', hv', hg⟩ := C05_handles_dumps_stay_staged evs nd h x0 hl hd sb hsb
  have hvv : v = v' := resolveRel_same w.fs x0 v' v hv' hres
  subst hvv
  have : (Node.file b) = .file sb.2 := by
    have h1 : get w.fs (stagedStateP x0.proj v sb.1) = some (.file b) := hb
    rw [hg] at h1; cases h1; rfl
  rw [hvis, this]

/-- **C05_handles_generalise_train**: the handle model contains the single-writer model of Part 2 — a training step
`exec … (.train p v ord sts)` that succeeds on the shared tree of ANY world leaves exactly the tree that a fresh handle on
release `p/v` (in any process) leaves with `open`, `begin`, one `dump` per state and `commit`, run back to back. -/
theorem C05_handles_generalise_train (evs : List HEv) (h proc p v ord : Nat) (sts : List (Nat × Bytes))
    (hok : (exec Impl.repaired (worldAfter evs).fs (.train p v ord sts)).err = none) :
    (worldAfter (evs ++ .run h (.open proc p (some v) none) :: trainEvents h ord sts)).fs
      = (exec Impl.repaired (worldAfter evs).fs (.train p v ord sts)).fs := by
  show (playH Impl.repaired World.empty (evs ++ _)).fs = _
  rw [playH_append]
  exact train_simulates _ h proc p v ord sts hok

/-- **C05_handles_generalise_publish**: a publish through a handle of project `dp` is the publish step of Part 2 through
project key `dp` — same tree, same registry calls, same refusals. -/
theorem C05_handles_generalise_publish (evs : List HEv) (h : Nat) (x : Handle) (name v : Nat) (pkg : Pkg)
    (hl : lookupH (worldAfter evs).hs h = some x) :
    let o := perform Impl.repaired (worldAfter evs) h (.publish name v pkg)
    let o' := exec Impl.repaired (worldAfter evs).fs (.publish x.proj name v pkg)
    o.w.fs = o'.fs ∧ o.calls = o'.calls ∧ (o.err = none ↔ o'.err = none) := by
  intro o o'
  have hperf := perform_general (worldAfter evs) h (.publish name v pkg) nofun nofun
  rw [hl] at hperf
  have hplan : plan (worldAfter evs).fs x (.publish name v pkg) = ⟨x, .publish x.proj name v pkg, none⟩ := rfl
  simp only [hplan] at hperf
  refine ⟨by show (perform _ _ _ _).w.fs = _; rw [hperf]; rfl, by show (perform _ _ _ _).calls = _; rw [hperf]; rfl, ?_⟩
  show (perform _ _ _ _).err = none ↔ _
  rw [hperf]
  exact actErr_none _ _ _

/-- handle 0 publishes `0/1`; the long-lived handle 1 (process 1, implicit release) trains; handle 2 (process 2) trains;
handle 1 dumps its first state, handle 2 trains again in between, handle 1 dumps its second state and commits (number 4
= one above what is on disk AT THAT MOMENT); handle 3 dies after the first of two moves of its commit; handle 1, still
alive and bound to release 1 although release 2 was published meanwhile, commits once more and re-uses number 5 -/
def demoHandles : List HEv :=
  [.run 0 (.open 0 0 none none), .run 0 (.publish 0 1 (.file [7])),
   .run 1 (.open 1 0 none none), .run 1 (.begin 1 1), .run 1 (.dump 10 [1]), .run 1 .commit,
   .run 2 (.open 2 0 (some 1) none), .run 2 (.begin 2 1), .run 2 (.dump 20 [2]), .run 2 .commit,
   .run 1 (.begin 3 2), .run 1 (.dump 11 [3]),
   .run 2 (.begin 4 0), .run 2 .commit,
   .run 1 (.dump 12 [4, 4]), .run 1 .commit, .run 1 .look,
   .run 0 (.publish 0 2 (.file [8])),
   .run 3 (.open 3 0 (some 1) none), .run 3 (.begin 5 2), .run 3 (.dump 30 [5]), .run 3 (.dump 31 [6]),
   .die 3 .commit 2 none, .run 3 .look,
   .run 1 (.begin 6 1), .run 1 (.dump 13 [9]), .run 1 .commit]

/-- one kernel evaluation of `demoHandles` for the tests of its end state and of the state after 23 events -/
private theorem demoHandles_facts :
    (let w := worldAfter demoHandles
    generationsOf w.fs 0 1 = [5, 4, 3, 2, 1] ∧ generationsOf w.fs 0 2 = []
    ∧ tagOf w.fs 0 1 4 = some ⟨3, [11, 12]⟩ ∧ vis w.fs (stateP 0 1 4 12) = some (.file [4, 4])
    ∧ tagOf w.fs 0 1 5 = some ⟨6, [13]⟩ ∧ get w.fs (stateP 0 1 5 30) = some (.file [5]) ∧ vis w.fs (stateP 0 1 5 30) = none
    ∧ (lookupH w.hs 1).map (·.rel) = some (some 1) ∧ (lookupH w.hs 1).map (·.gen) = some (some 4)
    ∧ lookupH w.hs 3 = none ∧ w.tags = [(1, (0, 1, 4), ⟨3, [11, 12]⟩)])
    ∧ (let o := perform Impl.repaired (worldAfter demoHandles) 1 .commit
    o.err = some .invalid ∧ get o.w.fs (generationP 0 1 6) = some .dir ∧ generationsOf o.w.fs 0 1 = [5, 4, 3, 2, 1])
    ∧ ((perform Impl.repaired (worldAfter (demoHandles.take 23)) 3 .look).err = some .dead) := by
  decide +kernel

/-- one kernel evaluation of the first 15 events of `demoHandles` for the three tests there (a theorem of its own: one
`Decidable` instance for all six tests is larger than instance synthesis accepts) -/
private theorem demoHandles_prefix_facts :
    ((perform Impl.repaired (worldAfter (demoHandles.take 15)) 1 .commit).err = none)
    ∧ ((dumpSids demoHandles).Nodup ∧ (dumpSids (demoHandles.take 15)).Nodup
    ∧ (lookupH (worldAfter (demoHandles.take 15)).hs 1).map (fun x => (x.dumped, x.done))
        = some ([(11, [3]), (12, [4, 4])], false))
    ∧ (let w := applyH Impl.repaired (worldAfter (demoHandles.take 15)) (.fault 1 .commit 2)
    generationsOf w.fs 0 1 = [3, 2, 1] ∧ (lookupH w.hs 1).map (·.done) = some true
    ∧ (perform Impl.repaired w 1 .commit).err = some .invalid
    ∧ generationsOf (playH Impl.repaired w [.run 1 (.begin 9 1), .run 1 (.dump 77 [1]), .run 1 .commit]).fs 0 1
        = [4, 3, 2, 1]) := by
  decide +kernel

example : let w := worldAfter demoHandles
    generationsOf w.fs 0 1 = [5, 4, 3, 2, 1] ∧ generationsOf w.fs 0 2 = []
    ∧ tagOf w.fs 0 1 4 = some ⟨3, [11, 12]⟩ ∧ vis w.fs (stateP 0 1 4 12) = some (.file [4, 4])
    ∧ tagOf w.fs 0 1 5 = some ⟨6, [13]⟩ ∧ get w.fs (stateP 0 1 5 30) = some (.file [5]) ∧ vis w.fs (stateP 0 1 5 30) = none
    ∧ (lookupH w.hs 1).map (·.rel) = some (some 1) ∧ (lookupH w.hs 1).map (·.gen) = some (some 4)
    ∧ lookupH w.hs 3 = none ∧ w.tags = [(1, (0, 1, 4), ⟨3, [11, 12]⟩)] := demoHandles_facts.1

example : (perform Impl.repaired (worldAfter (demoHandles.take 15)) 1 .commit).err = none := demoHandles_prefix_facts.1
/-- the hypotheses of `C05_handles_training` hold there: fresh ids, handle 1 has dumped two states and not committed -/
example : (dumpSids demoHandles).Nodup ∧ (dumpSids (demoHandles.take 15)).Nodup
    ∧ (lookupH (worldAfter (demoHandles.take 15)).hs 1).map (fun x => (x.dumped, x.done))
        = some ([(11, [3]), (12, [4, 4])], false) := demoHandles_prefix_facts.2.1
example : (perform Impl.repaired (worldAfter (demoHandles.take 23)) 3 .look).err = some .dead := demoHandles_facts.2.2
/-- a transient fault in the commit of handle 1 (after the first move): it raises, the handle lives on; another commit of it
finds the first state gone (`Level.Invalid`), a new `begin … commit` works and takes the number -/
example : let w := applyH Impl.repaired (worldAfter (demoHandles.take 15)) (.fault 1 .commit 2)
    generationsOf w.fs 0 1 = [3, 2, 1] ∧ (lookupH w.hs 1).map (·.done) = some true
    ∧ (perform Impl.repaired w 1 .commit).err = some .invalid
    ∧ generationsOf (playH Impl.repaired w [.run 1 (.begin 9 1), .run 1 (.dump 77 [1]), .run 1 .commit]).fs 0 1
        = [4, 3, 2, 1] := demoHandles_prefix_facts.2.2
/-- a second commit of the same accessor finds nothing staged (`Level.Invalid`) after creating the generation directory -/
example : let o := perform Impl.repaired (worldAfter demoHandles) 1 .commit
    o.err = some .invalid ∧ get o.w.fs (generationP 0 1 6) = some .dir ∧ generationsOf o.w.fs 0 1 = [5, 4, 3, 2, 1] :=
  demoHandles_facts.2.1

/-! ## Part 4 — the volatile registry (`Impl.repaired`)

`volatile.Registry` keeps projects and releases in memory and inherits `write` / `close` / `generations` from the posix
registry on a temporary directory in which project and release directories appear only with the first dump or commit.
`steps` ranges over all lists of publishes and trainings with arbitrary arguments; a call may raise half-way (there is
no process death to survive: the registry is gone with its process). -/

/-- the volatile registry after a history -/
abbrev volatileAfter (steps : List Step) : VReg := vPlay Impl.repaired VReg.empty steps

/-- **C05_volatile_never_corrupt**: every generation a reader of the volatile registry lists has a tag that decodes and
every state it names is there to be read. -/
theorem C05_volatile_never_corrupt (steps : List Step) (p v g : Nat)
    (h : vGenListed (volatileAfter steps) p v g = true) :
    ∃ t, tagOf (volatileAfter steps).fs p v g = some t
      ∧ ∀ s ∈ t.sids, ∃ b, vVis (volatileAfter steps) (stateP p v g s) = some (.file b) := by
  have hv : genValid (volatileAfter steps).fs p v g = true := by
    simp only [vGenListed, Bool.and_eq_true] at h; exact h.2
  obtain ⟨t, ht, hs⟩ := (vPlay_good steps).g2.good.healthy p v g hv
  refine ⟨t, ht, fun s hsin => ?_⟩
  obtain ⟨b, hb⟩ := hs s hsin
  have hc : t.sids.contains s = true := by simp only [List.contains_iff_mem]; exact hsin
  exact ⟨b, by simp only [vVis, stateP, h, ht, hc, Bool.and_self, if_true]; exact hb⟩

/-- **C05_volatile_gap_free**: the generations of every release of the volatile registry are exactly `1 .. n`, and a
tagged generation directory exists only under a listed release. -/
theorem C05_volatile_gap_free (steps : List Step) (p v g : Nat)
    (h : g ∈ generationsOf (volatileAfter steps).fs p v) :
    vRelListed (volatileAfter steps) p v = true ∧ 1 ≤ g
      ∧ ∀ g', 1 ≤ g' → g' ≤ g → g' ∈ generationsOf (volatileAfter steps).fs p v :=
  ⟨(vPlay_good steps).listed p v g ((mem_generationsOf _ p v g).mp h),
    generations_gapfree _ (vPlay_good steps).g2.good p v g h⟩

/-- **C05_volatile_failed_step_invisible**: a step that raises — refused by a guard, or a registry call failing
half-way (directories created, states moved) — changes nothing a reader of the volatile registry can see. -/
theorem C05_volatile_failed_step_invisible (steps : List Step) (s : Step)
    (h : (vExec Impl.repaired (volatileAfter steps) s).err ≠ none) :
    VViewEq (vExec Impl.repaired (volatileAfter steps) s).st (volatileAfter steps)
      ∧ (vExec Impl.repaired (volatileAfter steps) s).st.arts = (volatileAfter steps).arts :=
  (vExec_view _ (vPlay_good steps) s).1 h

/-- **C05_volatile_train**: a successful training on the volatile registry: the release is listed; generation
`nextGen` (1, or one above every listed one with the number below listed) appears, listed, tagged with the run's ordinal
and state ids in order, each state holding the run's bytes; the in-memory listing is unchanged and every path outside
that generation looks as before. -/
theorem C05_volatile_train (steps : List Step) (p v ord : Nat) (sts : List (Nat × Bytes))
    (h : (vExec Impl.repaired (volatileAfter steps) (.train p v ord sts)).err = none) :
    let st := volatileAfter steps
    let st' := (vExec Impl.repaired st (.train p v ord sts)).st
    vRelListed st p v = true ∧ st'.arts = st.arts
    ∧ ((generationsOf st.fs p v = [] → nextGen st.fs p v = 1)
        ∧ (∀ g ∈ generationsOf st.fs p v, g < nextGen st.fs p v)
        ∧ (generationsOf st.fs p v ≠ [] → nextGen st.fs p v - 1 ∈ generationsOf st.fs p v))
    ∧ vGenListed st' p v (nextGen st.fs p v) = true
    ∧ tagOf st'.fs p v (nextGen st.fs p v) = some ⟨ord, sts.map (·.1)⟩
    ∧ (sts.map (·.1)).Nodup
    ∧ (∀ sb ∈ sts, vVis st' (stateP p v (nextGen st.fs p v) sb.1) = some (.file sb.2))
    ∧ (∀ key, ¬ (generationP p v (nextGen st.fs p v) <+: key) → vVis st' key = vVis st key) := by
  intro st st'
  obtain ⟨h1, h2, h3, h4, h5, h6, h7⟩ := (vExec_view st (vPlay_good steps) (.train p v ord sts)).2 h
  exact ⟨h1, h2, nextGen_spec _ _ _, h3, h4, h5, h6, h7⟩

/-- **C05_volatile_publish**: a successful publish on the volatile registry: the package's name is the project key it
was put through, its version is above every listed release of that project, the release becomes listed — with no
generation —, the temporary directory is untouched and nothing else a reader can see changes. -/
theorem C05_volatile_publish (steps : List Step) (dp name v : Nat) (pkg : Pkg)
    (h : (vExec Impl.repaired (volatileAfter steps) (.publish dp name v pkg)).err = none) :
    let st := volatileAfter steps
    let st' := (vExec Impl.repaired st (.publish dp name v pkg)).st
    dp = name ∧ (∀ w ∈ vReleasesOf st name, w < v) ∧ vRelListed st name v = false ∧ vRelListed st' name v = true
      ∧ st'.fs = st.fs ∧ (∀ p' v', (p', v') ≠ (name, v) → vRelListed st' p' v' = vRelListed st p' v')
      ∧ (∀ g, vGenListed st' name v g = false) ∧ VViewEq st' st :=
  (vExec_view _ (vPlay_good steps) (.publish dp name v pkg)).2 h

/-- **C05_volatile_append_only**: whatever a reader of the volatile registry can see after a history it sees
byte-identical after any continuation (so the never-invalidated tag / state caches stay right there too). -/
theorem C05_volatile_append_only (steps steps' : List Step) (key : Path) (n : Node)
    (h : vVis (volatileAfter steps) key = some n) : vVis (volatileAfter (steps ++ steps')) key = some n := by
  show vVis (vPlay Impl.repaired VReg.empty (steps ++ steps')) key = some n
  rw [vPlay_append]
  exact (vPlay_left steps' _ (vPlay_good steps)).2 key n h

/-- non-vacuity: the demo history on the volatile registry — same generations, no package, project / release
directories created by the first dump -/
example : let st := vPlay Impl.repaired VReg.empty demoHistory
    st.arts = [(0, 2), (1, 1), (0, 3)] ∧ generationsOf st.fs 0 2 = [2, 1] ∧ generationsOf st.fs 0 3 = [1]
    ∧ tagOf st.fs 0 3 1 = some ⟨2, [1, 2]⟩ ∧ vVis st (stateP 0 3 1 2) = some (.file [5, 6])
    ∧ get st.fs (packageP 0 2) = none ∧ get st.fs (releaseP 1 1) = none ∧ get st.fs (releaseP 0 2) = some .dir := by
  decide +kernel
/-- a zero-state training right after the publish creates project, release and generation directory in the commit -/
example : let o := vExec Impl.repaired (vExec Impl.repaired VReg.empty (.publish 0 0 1 (.file [1]))).st (.train 0 1 7 [])
    o.err = none ∧ o.calls = [[.mkdir (projectP 0), .mkdir (releaseP 0 1), .mkdir (generationP 0 1 1),
      .createEmpty (tagTmpP 0 1 1), .append (tagTmpP 0 1 1) (encodeTag ⟨7, []⟩), .rename (tagTmpP 0 1 1) (tagP 0 1 1)]]
    ∧ vGenListed o.st 0 1 1 = true := by decide +kernel

/-! ## The walk inside `shutil.rmtree`

`Fs.step (.rmtree p)` removes a left-over temporary package in one step; `runUnlinks` (ForML.Lemmas.C05Rmtree) is the
walk split into its `os.unlink` / `os.rmdir` calls, a process death possible after each. -/

/-- **C05_rmtree_partial_invisible**: `Registry.push` starts a directory publish with
`shutil.rmtree(staged, ignore_errors=True)`; split into its `os.unlink` / `os.rmdir` calls (files and empty
directories at or below the temporary package name, in any order) and killed after ANY number of them, it leaves a
tree that is well formed if the previous one was, equals the previous one everywhere outside the temporary name and
shows a fresh reader exactly the previous view - for every tree, not only the reachable ones. -/
theorem C05_rmtree_partial_invisible (fs fs' : Fs) (p v : Nat) (ks : List Path)
    (h : runUnlinks fs (packageTmpP p v) ks = some fs') :
    ViewEq fs' fs ∧ (WF fs → WF fs') ∧ (∀ key, ¬ (packageTmpP p v <+: key) → get fs' key = get fs key) :=
  ⟨vis_frame_tmp fs' fs p v (fun key hk => runUnlinks_frame _ key hk ks fs fs' h),
   runUnlinks_wf _ ks fs fs' h,
   fun key hk => runUnlinks_frame _ key hk ks fs fs' h⟩

/-- **C05_rmtree_partial_resume**: the retried publish's `rmtree` of a partly removed left-over (the directory itself
still there) produces exactly the tree the undisturbed `rmtree` would have produced, so everything proved about the
one-step `rmtree` of `pushOps` (Parts 1-3) carries over to a retry after a death inside it; every entry of the
partly removed tree is an entry of the tree before (nothing is created, nothing is rewritten). -/
theorem C05_rmtree_partial_resume (fs fs' : Fs) (p v : Nat) (ks : List Path)
    (h : runUnlinks fs (packageTmpP p v) ks = some fs') :
    (get fs' (packageTmpP p v) = some .dir →
      step fs' (.rmtree (packageTmpP p v)) = step fs (.rmtree (packageTmpP p v)))
    ∧ (∀ key n, get fs' key = some n → get fs key = some n) :=
  ⟨fun hd => rmtree_resume fs fs' _ ks h (by simp [packageTmpP]) hd,
   fun key n hn => runUnlinks_sub _ key n ks fs fs' h hn⟩

/-- **C05_rmtree_walk_complete**: a walk that has removed the temporary directory itself (its last `rmdir`, accepted
only on an empty directory) has removed everything below it and nothing else: the tree IS the one of the one-step
`rmtree` of the model, and no further call of the walk is accepted.  With `C05_rmtree_partial_invisible` / `_resume`:
every crash point inside `shutil.rmtree` is either invisible and resumable or the completed `rmtree` step. -/
theorem C05_rmtree_walk_complete (fs fs' : Fs) (p v : Nat) (ks : List Path)
    (h : runUnlinks fs (packageTmpP p v) ks = some fs') (hd : get fs (packageTmpP p v) = some .dir)
    (hn : get fs' (packageTmpP p v) = none) :
    step fs (.rmtree (packageTmpP p v)) = some fs' ∧ ∀ k, unlinkStep fs' (packageTmpP p v) k = none := by
  have e := runUnlinks_done _ ks fs fs' h hd hn
  have hne : packageTmpP p v ≠ [] := by simp [packageTmpP]
  refine ⟨by simp only [step, hd, e]; rw [if_pos ⟨hne, trivial⟩], fun k => ?_⟩
  unfold unlinkStep
  split
  · rename_i c
    have := c.2.1
    rw [e, get_rmtree] at this
    simp [c.1] at this
  · rfl

/-- non-vacuity of the completed walk: both calls (the member, then the emptied directory), bottom-up -/
example : let fs : Fs := [(packageTmpP 0 1 ++ [.member 0], .file [1]), (packageTmpP 0 1, .dir), (packageP 0 1, .file [9]),
      (releaseP 0 1, .dir), (projectP 0, .dir), ([], .dir)]
    runUnlinks fs (packageTmpP 0 1) [packageTmpP 0 1 ++ [.member 0], packageTmpP 0 1] = step fs (.rmtree (packageTmpP 0 1))
    ∧ get fs (packageTmpP 0 1) = some .dir := by decide +kernel

/-- non-vacuity: a left-over with two members below a published release; two of its three unlinks done, the listed
package is untouched, the retry's `rmtree` gives the same tree as on the intact left-over; `rmdir` of the non-empty
directory and an unlink outside the temporary name are refused -/
example : let fs : Fs := [(packageTmpP 0 1 ++ [.member 1], .file [2]), (packageTmpP 0 1 ++ [.member 0], .file [1]),
      (packageTmpP 0 1, .dir), (packageP 0 1, .file [9]), (releaseP 0 1, .dir), (projectP 0, .dir), ([], .dir)]
    (∃ fs', runUnlinks fs (packageTmpP 0 1) [packageTmpP 0 1 ++ [.member 0], packageTmpP 0 1 ++ [.member 1]] = some fs'
      ∧ get fs' (packageTmpP 0 1) = some .dir ∧ get fs' (packageTmpP 0 1 ++ [.member 0]) = none
      ∧ vis fs' (packageP 0 1) = some (.file [9])
      ∧ step fs' (.rmtree (packageTmpP 0 1)) = step fs (.rmtree (packageTmpP 0 1)))
    ∧ runUnlinks fs (packageTmpP 0 1) [packageTmpP 0 1] = none
    ∧ runUnlinks fs (packageTmpP 0 1) [packageP 0 1] = none := by
  refine ⟨⟨_, rfl, ?_⟩, ?_⟩ <;> decide +kernel

end ForML.Registry
