/-
C15 — served entries reach the pipeline in the query's schema: an entry whose columns are a permutation or superset of
the query's is delivered with exactly the query's columns in the query's order, each value cast to the declared kind;
an entry lacking a column is refused. The kind match relation is a parameter, of which only reflexivity is used.
-/
import ForML.Model.Entry
import ForML.Generated.C15Kinds
import ForML.Generated.C15Lattice
import ForML.Lemmas.C15Match
import ForML.Lemmas.C15Matrix
import ForML.Lemmas.C15Kind
import ForML.Lemmas.C15Memo

namespace ForML.Entry

/-- **refusal** — the entry is reported incomplete exactly when some query name is absent from it
(for *all* name lists: duplicates, extras, any order, any lengths). -/
theorem C15_match_refused_iff (q e : List Name) :
    (matchEntry q e).1 = false ↔ ∃ c ∈ q, c ∉ e := by
  rcases matchEntry_cases q e with ⟨h, hc⟩ | ⟨h, rfl⟩ | ⟨idx, h, _, hlen, hidx⟩
  · simp [h, hc]
  · simp [h]
  · simp only [h, Bool.true_eq_false, false_iff]
    rintro ⟨c, hc, hne⟩
    obtain ⟨j, hj⟩ := List.getElem?_of_mem hc
    have hj' : j < idx.length := by
      rw [hlen]; exact (List.getElem?_eq_some_iff.mp hj).1
    obtain ⟨c', hc', hl⟩ := hidx j idx[j] (by simp [hj'])
    rw [hj] at hc'; cases hc'
    rw [(lastIdx_none c e 0).mpr hne] at hl; cases hl

/-- every permutation or superset of the query names (in particular with duplicates, extras, in any
order) is accepted. -/
theorem C15_match_complete (q e : List Name) (h : ∀ c ∈ q, c ∈ e) : (matchEntry q e).1 = true := by
  cases hm : (matchEntry q e).1 with
  | true => rfl
  | false =>
    obtain ⟨c, hc, hne⟩ := (C15_match_refused_iff q e).mp hm
    exact absurd (h c hc) hne

/-- the `identical` shortcut: `(True, None)` is returned exactly when the entry names *are* the
query names in the query's order. -/
theorem C15_match_identical_iff (q e : List Name) : matchEntry q e = (true, none) ↔ e = q := by
  rcases matchEntry_cases q e with ⟨h, c, hc, hn⟩ | ⟨h, rfl⟩ | ⟨idx, h, hne, _⟩
  · simp [h]; rintro rfl; exact hn hc
  · simp [h]
  · simp [h]; exact fun h' => hne h'.symm

/-- **index derivation** — when an index list is returned it has the query's length and position `j`
points at an entry column carrying the `j`-th query name: `idx.map e.get = q`. -/
theorem C15_match_spec (q e : List Name) (idx : List Nat) (h : matchEntry q e = (true, some idx)) :
    idx.map (e[·]?) = q.map some := by
  rcases matchEntry_cases q e with ⟨h', _⟩ | ⟨h', _⟩ | ⟨idx', h', _, hlen, hidx⟩
  · rw [h'] at h; cases h
  · rw [h'] at h; cases h
  · rw [h'] at h; cases h
    apply List.ext_getElem?
    intro j
    simp only [List.getElem?_map]
    cases hj : idx[j]? with
    | none =>
      have : q[j]? = none := by
        rw [List.getElem?_eq_none_iff] at hj ⊢; omega
      rw [this]; rfl
    | some k =>
      obtain ⟨c, hc, hl⟩ := hidx j k hj
      rw [hc]; exact congrArg some (lastIdx_some c e k hl).1

/-- **duplicate names** — position `j` of the index list points at the **last** entry column carrying
the `j`-th query name (dict assignment overwrites): no later entry column has that name. For an entry
without duplicate names this is *the* column of that name. -/
theorem C15_duplicates (q e : List Name) (idx : List Nat) (h : matchEntry q e = (true, some idx))
    (j k : Nat) (hj : idx[j]? = some k) :
    ∃ c, q[j]? = some c ∧ e[k]? = some c ∧ ∀ k', k < k' → e[k']? ≠ some c := by
  rcases matchEntry_cases q e with ⟨h', _⟩ | ⟨h', _⟩ | ⟨idx', h', _, hlen, hidx⟩
  · rw [h'] at h; cases h
  · rw [h'] at h; cases h
  · rw [h'] at h; cases h
    obtain ⟨c, hc, hl⟩ := hidx j k hj
    exact ⟨c, hc, lastIdx_some c e k hl⟩

section tabular
variable {α : Type}

/-- **views** — for both implementations `to_rows()[i][j]` and `to_columns()[j][i]` are the matrix
cell `(i, j)`: `to_columns = transpose ∘ to_rows`, cell by cell. -/
theorem C15_matrix_views (t : Tab α) (h : t.WF) (i j : Nat) :
    t.toRows[i]?.bind (·[j]?) = t.get i j ∧ t.toColumns[j]?.bind (·[i]?) = t.get i j := by
  cases t with
  | dense d => exact ⟨rfl, Mat.toMinor_cell d h i j⟩
  | frame f => exact ⟨Mat.toMinor_cell f h j i, rfl⟩

/-- **shape of the views** — `to_rows()` has `nrows` items of `ncols` cells each, `to_columns()` has `ncols`
items of `nrows` cells each, in both implementations (so together with `C15_matrix_views`:
`to_columns = transpose ∘ to_rows`, exactly). -/
theorem C15_matrix_shape (t : Tab α) (h : t.WF) :
    t.toRows.length = t.nrows ∧ t.toColumns.length = t.ncols ∧
    (∀ r ∈ t.toRows, r.length = t.ncols) ∧ (∀ c ∈ t.toColumns, c.length = t.nrows) := by
  cases t with
  | dense d =>
    exact ⟨rfl, transposeN_length _ _, h, transposeN_wf d.minor d.major h⟩
  | frame f =>
    exact ⟨transposeN_length _ _, rfl, transposeN_wf f.minor f.major h, h⟩

/-- **take_rows** — the result is rectangular with one row per index and row `k` is row
`is[k]` (negative indices counted from the end) of the original, in both implementations. -/
theorem C15_take_rows (t r : Tab α) (h : t.WF) (is : List Int) (hr : t.takeRows is = some r) :
    r.WF ∧ r.nrows = is.length ∧ r.ncols = t.ncols ∧
    ∀ (k : Nat) (ι : Int) (i : Nat), is[k]? = some ι → normIdx t.nrows ι = some i →
      ∀ j, r.get k j = t.get i j := by
  cases t with
  | dense d =>
    obtain ⟨m, hm, rfl⟩ := Option.map_eq_some_iff.mp hr
    exact Mat.takeMajor_spec d h is m hm
  | frame f =>
    obtain ⟨m, hm, rfl⟩ := Option.map_eq_some_iff.mp hr
    exact Mat.takeMinor_spec f h is m hm

/-- **take_columns** — dually: column `k` of the result is column `js[k]` of the original. -/
theorem C15_take_columns (t r : Tab α) (h : t.WF) (js : List Int) (hr : t.takeColumns js = some r) :
    r.WF ∧ r.ncols = js.length ∧ r.nrows = t.nrows ∧
    ∀ (k : Nat) (ι : Int) (j : Nat), js[k]? = some ι → normIdx t.ncols ι = some j →
      ∀ i, r.get i k = t.get i j := by
  cases t with
  | dense d =>
    obtain ⟨m, hm, rfl⟩ := Option.map_eq_some_iff.mp hr
    exact Mat.takeMinor_spec d h js m hm
  | frame f =>
    obtain ⟨m, hm, rfl⟩ := Option.map_eq_some_iff.mp hr
    exact Mat.takeMajor_spec f h js m hm

/-- **IndexError** — a selection fails exactly when some index is outside `[-n, n)`. -/
theorem C15_take_error (t : Tab α) (is : List Int) :
    (t.takeRows is = none ↔ ∃ ι ∈ is, normIdx t.nrows ι = none) ∧
    (t.takeColumns is = none ↔ ∃ ι ∈ is, normIdx t.ncols ι = none) := by
  cases t with
  | dense d =>
    simp only [Tab.takeRows, Tab.takeColumns, Mat.takeMajor, Mat.takeMinor, Option.map_eq_none_iff,
      Tab.nrows, Tab.ncols]
    exact ⟨takeIdx_none _ _, by rw [takeIdx_none, transposeN_length]⟩
  | frame f =>
    simp only [Tab.takeRows, Tab.takeColumns, Mat.takeMajor, Mat.takeMinor, Option.map_eq_none_iff,
      Tab.nrows, Tab.ncols]
    exact ⟨by rw [takeIdx_none, transposeN_length], takeIdx_none _ _⟩

private theorem normIdx_ofNat (n k : Nat) (h : k < n) : normIdx n (Int.ofNat k) = some k := by
  simp [normIdx, h]

private theorem Tab.toColumns_length (t : Tab α) : t.toColumns.length = t.ncols := by
  cases t with
  | dense d => exact transposeN_length _ _
  | frame f => rfl

/-- **Slicer.apply** — with the positions it was built with (any index lists), the first output is the
rows of the feature columns and the second the label column (scalar) or the rows of the label
columns (vector): cell `(i, k)` of an output is cell `(i, positions[k])` of the dataset. -/
theorem C15_slicer (t : Tab α) (h : t.WF) (fs : List Int) (ls : Int ⊕ List Int)
    (f : List (List α)) (lab : List α ⊕ List (List α)) (hs : slicer fs ls t = some (f, lab)) :
    (∀ (k : Nat) (ι : Int) (j : Nat), fs[k]? = some ι → normIdx t.ncols ι = some j →
        ∀ i, f[i]?.bind (·[k]?) = t.get i j) ∧
    (match ls, lab with
     | .inl l, .inl c => ∀ j, normIdx t.ncols l = some j → ∀ i : Nat, c[i]? = t.get i j
     | .inr js, .inr rows => ∀ (k : Nat) (ι : Int) (j : Nat), js[k]? = some ι →
          normIdx t.ncols ι = some j → ∀ i, rows[i]?.bind (·[k]?) = t.get i j
     | _, _ => False) := by
  unfold slicer at hs
  cases hf : t.takeColumns fs with
  | none => rw [hf] at hs; cases hs
  | some ft =>
    simp only [hf] at hs
    have hrows : ∀ (js : List Int) (s : Tab α), t.takeColumns js = some s → ∀ (k : Nat) (ι : Int) (j : Nat),
        js[k]? = some ι → normIdx t.ncols ι = some j → ∀ i, s.toRows[i]?.bind (·[k]?) = t.get i j := by
      intro js s hjs k ι j hk hj i
      obtain ⟨swf, _, _, scell⟩ := C15_take_columns t s h js hjs
      rw [(C15_matrix_views s swf i k).1]; exact scell k ι j hk hj i
    cases ls with
    | inl l =>
      simp only at hs
      cases hc : (normIdx t.toColumns.length l).bind (t.toColumns[·]?) with
      | none => rw [hc] at hs; cases hs
      | some c =>
        rw [hc] at hs; cases hs
        refine ⟨hrows fs ft hf, fun j hj i => ?_⟩
        rw [Tab.toColumns_length, hj] at hc
        have := (C15_matrix_views t h i j).2
        rw [show t.toColumns[j]? = some c from hc] at this
        exact this
    | inr js =>
      simp only at hs
      cases hl : t.takeColumns js with
      | none => rw [hl] at hs; cases hs
      | some lt =>
        rw [hl] at hs; cases hs
        exact ⟨hrows fs ft hf, hrows js lt hl⟩

/-- **Slicer.from_columns** — the positions are `0 … n-1` for the features and `n` (scalar label) or
`n … n+k-1` (label vector): the combined column list `(*features, *labels)` is split back exactly. -/
theorem C15_slicer_positions (nf : Nat) (nl : Option Nat) :
    (∀ k, k < nf → (slicerPositions nf nl).1[k]? = some (Int.ofNat k)) ∧
    (slicerPositions nf nl).1.length = nf ∧
    (match nl with
     | none => (slicerPositions nf nl).2 = .inl (Int.ofNat nf)
     | some n => ∃ js, (slicerPositions nf nl).2 = .inr js ∧ js.length = n ∧
          ∀ k, k < n → js[k]? = some (Int.ofNat (nf + k))) := by
  refine ⟨?_, by simp [slicerPositions], ?_⟩
  · intro k hk; simp [slicerPositions, hk]
  · cases nl with
    | none => rfl
    | some n => exact ⟨_, rfl, by simp, by intro k hk; simp [hk]⟩

/-- what `_cast` does to one cell of a column declared `qk` by the query whose (paired) entry field
declares `ek`: left as is when `ek` is of kind `qk`, otherwise cast to `qk` (`none` = `CastError`). -/
def castCell (km : Kind → Kind → Bool) (cast : Kind → α → Option α) (qk ek : Kind) (v : α) : Option α :=
  if km qk ek then some v else cast qk v

/-- What the pipeline must receive: exactly the query's columns in the query's order; column `j` is
an entry column `k` carrying the `j`-th query name, every cell cast to the query's kind unless the
(paired) entry kind already is of that kind, no cell lost or invented. (Cell-level, i.e. plain matrix
semantics of the delivered payload; `none = none` beyond the last row.) `pair j k` is the position of the
entry field whose kind decides about the cast: `k` itself is what the property demands. -/
def Delivered (km : Kind → Kind → Bool) (cast : Kind → α → Option α) (pair : Nat → Nat → Nat) (q e : List Field) (data out : Tab α) : Prop :=
  out.ncols = q.length ∧
  ∀ (j : Nat) (qf : Field), q[j]? = some qf →
    ∃ (k : Nat) (ef pf : Field), e[k]? = some ef ∧ ef.name = qf.name ∧ e[pair j k]? = some pf ∧
      ∀ i, out.get i j = (data.get i k).bind (castCell km cast qf.kind pf.kind) ∧
        ((data.get i k).isSome → (out.get i j).isSome)

/-- every value of a required column that needs a cast can be cast -/
def Castable (km : Kind → Kind → Bool) (cast : Kind → α → Option α) (q e : List Field) (data : Tab α) : Prop :=
  ∀ (j k : Nat) (qf ef : Field) (i : Nat) (v : α), q[j]? = some qf → e[k]? = some ef → ef.name = qf.name →
    km qf.kind ef.kind = false → data.get i k = some v → (cast qf.kind v).isSome

private theorem castCell_none (km : Kind → Kind → Bool) (cast : Kind → α → Option α) (qk ek : Kind) (v : α) :
    castCell km cast qk ek v = none ↔ km qk ek = false ∧ cast qk v = none := by
  unfold castCell
  cases km qk ek <;> simp

private theorem castColumn_eq (km : Kind → Kind → Bool) (cast : Kind → α → Option α) (e a : Field) (c : List α) :
    castColumn km cast e a c = mapOpt (castCell km cast e.kind a.kind) c := by
  unfold castColumn
  cases hk : km e.kind a.kind
  · exact congrArg (mapOpt · c) (funext fun v => by simp only [castCell, hk, Bool.false_eq_true, if_false])
  · have : castCell km cast e.kind a.kind = some := funext fun v => by simp only [castCell, hk, if_true]
    rw [this, mapOpt_pure]; rfl

private theorem castColumns_eq (km : Kind → Kind → Bool) (cast : Kind → α → Option α) (es as : List Field)
    (cs : List (List α)) :
    castColumns km cast es as cs =
      mapOpt (fun p => (castColumn km cast p.1 p.2.1 p.2.2).map (p.1.name, ·)) (es.zip (as.zip cs)) := by
  induction es generalizing as cs with
  | nil => rfl
  | cons e es ih =>
    cases as with
    | nil => rfl
    | cons a as =>
      cases cs with
      | nil => rfl
      | cons c cs =>
        simp only [castColumns, List.zip_cons_cons, mapOpt, ih]
        cases castColumn km cast e a c <;> cases mapOpt _ (es.zip (as.zip cs)) <;> rfl

private theorem frameOf_get (cols : List (Name × List α)) (i j : Nat) :
    (frameOf cols).get i j = (cols[j]?).bind (·.2[i]?) := by
  simp only [frameOf, Tab.get, Mat.cell, List.getElem?_map]
  cases cols[j]? <;> rfl

private theorem frameOf_ncols (cols : List (Name × List α)) : (frameOf cols).ncols = cols.length :=
  List.length_map _

/-- the cells of `_cast`'s result (the non-shortcut path): column `j` is column `j` of the payload it
was handed, cast as decided by the `j`-th expected and `j`-th actual field -/
private theorem castStep_cells (km : Kind → Kind → Bool) (cast : Kind → α → Option α) (q actual : List Field) (d out : Tab α)
    (dwf : d.WF) (h : castStep km cast false q actual d = some out)
    (hal : q.length ≤ actual.length) (hdn : q.length ≤ d.ncols) :
    out.ncols = q.length ∧
    ∀ (j : Nat) (qf pf : Field), q[j]? = some qf → actual[j]? = some pf →
      ∀ i, out.get i j = (d.get i j).bind (castCell km cast qf.kind pf.kind) ∧
        ((d.get i j).isSome → (out.get i j).isSome) := by
  obtain ⟨cols, hc, rfl⟩ := Option.map_eq_some_iff.mp h
  rw [castColumns_eq] at hc
  refine ⟨?_, fun j qf pf hj hp i => ?_⟩
  · rw [frameOf_ncols, (mapOpt_some _ cols hc).1, List.length_zip, List.length_zip, Tab.toColumns_length]
    omega
  · have hjd : j < d.toColumns.length := by
      have := (List.getElem?_eq_some_iff.mp hj).1
      rw [Tab.toColumns_length]; omega
    have hcj := List.getElem?_eq_getElem hjd
    obtain ⟨y, hy, hcol⟩ :=
      mapOpt_getElem hc (x := (qf, pf, d.toColumns[j]))
        (List.getElem?_zip_eq_some.mpr ⟨hj, List.getElem?_zip_eq_some.mpr ⟨hp, hcj⟩⟩)
    obtain ⟨c', hc', rfl⟩ := Option.map_eq_some_iff.mp hy
    rw [castColumn_eq] at hc'
    have hv := (C15_matrix_views d dwf i j).2
    rw [hcj] at hv
    rw [frameOf_get, hcol, ← hv]
    refine ⟨(mapOpt_some _ c' hc').2 i, fun hs => ?_⟩
    obtain ⟨v, hv'⟩ := Option.isSome_iff_exists.mp hs
    obtain ⟨w, _, hw⟩ := mapOpt_getElem hc' hv'
    exact Option.isSome_iff_exists.mpr ⟨w, hw⟩

/-- when `_cast` raises, some cell of a delivered column that needs a cast cannot be cast -/
private theorem castStep_none (km : Kind → Kind → Bool) (cast : Kind → α → Option α) (b : Bool) (q actual : List Field) (d : Tab α)
    (dwf : d.WF) (h : castStep km cast b q actual d = none) :
    ∃ (j : Nat) (qf pf : Field) (i : Nat) (v : α), q[j]? = some qf ∧ actual[j]? = some pf ∧
      km qf.kind pf.kind = false ∧ d.get i j = some v ∧ cast qf.kind v = none := by
  unfold castStep at h
  split at h
  · cases h
  · rw [Option.map_eq_none_iff, castColumns_eq, mapOpt_none] at h
    obtain ⟨⟨qf, pf, c⟩, hmem, hn⟩ := h
    obtain ⟨j, hz⟩ := List.getElem?_of_mem hmem
    obtain ⟨hj, hz'⟩ := List.getElem?_zip_eq_some.mp hz
    obtain ⟨hp, hcj⟩ := List.getElem?_zip_eq_some.mp hz'
    rw [Option.map_eq_none_iff, castColumn_eq, mapOpt_none] at hn
    obtain ⟨v, hv, hcv⟩ := hn
    obtain ⟨i, hi⟩ := List.getElem?_of_mem hv
    obtain ⟨hk, hn⟩ := (castCell_none km cast _ _ v).mp hcv
    have hview := (C15_matrix_views d dwf i j).2
    rw [hcj] at hview
    exact ⟨j, qf, pf, i, v, hj, hp, hk, hview ▸ hi, hn⟩

/-- two lists with equal images agree position by position -/
private theorem map_eq_map_getElem {β γ δ : Type} {f : β → δ} {g : γ → δ} {xs : List β} {ys : List γ}
    (h : xs.map f = ys.map g) :
    xs.length = ys.length ∧ ∀ (j : Nat) (y : γ), ys[j]? = some y → ∃ x, xs[j]? = some x ∧ f x = g y := by
  refine ⟨by simpa using congrArg List.length h, fun j y hj => ?_⟩
  have := congrArg (·[j]?) h
  simp only [List.getElem?_map, hj, Option.map_some] at this
  exact Option.map_eq_some_iff.mp this

private theorem idx_pointwise (q e : List Field) (idx : List Nat)
    (hidx : idx.map ((e.map (·.name))[·]?) = (q.map (·.name)).map some) :
    idx.length = q.length ∧
    ∀ (j : Nat) (qf : Field), q[j]? = some qf →
      ∃ k ef, idx[j]? = some k ∧ e[k]? = some ef ∧ ef.name = qf.name := by
  obtain ⟨hl, hp⟩ := map_eq_map_getElem (hidx.trans List.map_map)
  refine ⟨hl, fun j qf hj => ?_⟩
  obtain ⟨k, hk, hkn⟩ := hp j qf hj
  obtain ⟨ef, he, hnm⟩ := Option.map_eq_some_iff.mp ((List.getElem?_map ..).symm.trans hkn)
  exact ⟨k, ef, hk, he, hnm⟩

private theorem idx_in_range (q e : List Field) (idx : List Nat)
    (hidx : idx.map ((e.map (·.name))[·]?) = (q.map (·.name)).map some) :
    ∀ k ∈ idx, k < e.length := by
  intro k hk
  -- the name at `k` is one of the `some`s on the right
  have hm : (e.map (·.name))[k]? ∈ (q.map (·.name)).map some := hidx ▸ List.mem_map_of_mem hk
  obtain ⟨c, _, hc⟩ := List.mem_map.mp hm
  have := (List.getElem?_eq_some_iff.mp hc.symm).1
  rwa [List.length_map] at this

private theorem take_cells (data d : Tab α) (hwf : data.WF) (idx : List Nat)
    (hd : data.takeColumns (idx.map Int.ofNat) = some d) :
    d.WF ∧ d.ncols = idx.length ∧
      ∀ (j k : Nat), idx[j]? = some k → k < data.ncols → ∀ i, d.get i j = data.get i k := by
  obtain ⟨dwf, dnc, _, dcell⟩ := C15_take_columns data d hwf _ hd
  exact ⟨dwf, dnc.trans (List.length_map _), fun j k hi hk i =>
    dcell j (Int.ofNat k) k (by rw [List.getElem?_map, hi]; rfl) (normIdx_ofNat _ _ hk) i⟩

private theorem take_ok (e : List Field) (data : Tab α) (idx : List Nat) (hlen : data.ncols = e.length)
    (hin : ∀ k ∈ idx, k < e.length) : (data.takeColumns (idx.map Int.ofNat)).isSome := by
  cases hd : data.takeColumns (idx.map Int.ofNat) with
  | some d => rfl
  | none =>
    obtain ⟨ι, hι, hn⟩ := (C15_take_error data _).2.mp hd
    obtain ⟨k, hk, rfl⟩ := List.mem_map.mp hι
    rw [normIdx_ofNat _ _ (by rw [hlen]; exact hin k hk)] at hn; cases hn

/-- **refusal** — `Reader.__call__` raises `MissingError` exactly when the entry lacks a query column
(both for the released and the repaired code; nothing is padded). -/
theorem C15_refusal (km : Kind → Kind → Bool) (cast : Kind → α → Option α) (legacy : Bool) (q e : List Field) (data : Tab α) :
    readerCall km cast legacy q e data = .missing ↔ ∃ c ∈ q.map (·.name), c ∉ e.map (·.name) := by
  rw [← C15_match_refused_iff]
  unfold readerCall readerCallWith
  cases hm : matchEntry (q.map (·.name)) (e.map (·.name)) with
  | mk b o =>
    cases b with
    | false => simp
    | true =>
      cases o with
      | none => simp only; split <;> simp
      | some idx =>
        cases idx with
        | nil => simp only; split <;> simp
        | cons i is =>
          simp only
          cases data.takeColumns ((i :: is).map Int.ofNat) with
          | none => simp
          | some d => simp only; split <;> simp

private theorem readerCall_branches (km : Kind → Kind → Bool) (cast : Kind → α → Option α) (legacy : Bool) (q e : List Field)
    (data : Tab α) (hlen : data.ncols = e.length) :
    (readerCall km cast legacy q e data = .missing) ∨
    ((e.map (·.name) = q.map (·.name) ∨ q = []) ∧
      readerCall km cast legacy q e data =
        match castStep km cast (decide (e = q)) q e data with | none => .castError | some o => .data o) ∨
    (∃ idx d, idx.map ((e.map (·.name))[·]?) = (q.map (·.name)).map some ∧
      data.takeColumns (idx.map Int.ofNat) = some d ∧
      readerCall km cast legacy q e data =
        match castStep km cast false q (actualFields legacy e idx) d with | none => .castError | some o => .data o) := by
  unfold readerCall readerCallWith
  cases hm : matchEntry (q.map (·.name)) (e.map (·.name)) with
  | mk b o =>
    cases b with
    | false => exact Or.inl rfl
    | true =>
      cases o with
      | none => exact Or.inr (Or.inl ⟨Or.inl ((C15_match_identical_iff _ _).mp hm), rfl⟩)
      | some idx =>
        have hspec := C15_match_spec _ _ _ hm
        cases idx with
        | nil =>
          have hq : q = [] := List.map_eq_nil_iff.mp (List.map_eq_nil_iff.mp hspec.symm)
          exact Or.inr (Or.inl ⟨Or.inr hq, rfl⟩)
        | cons i is =>
          have hok := take_ok e data (i :: is) hlen (idx_in_range q e _ hspec)
          cases hd : data.takeColumns ((i :: is).map Int.ofNat) with
          | none => rw [hd] at hok; cases hok
          | some d => exact Or.inr (Or.inr ⟨i :: is, d, hspec, hd, by simp only [hd]; rfl⟩)

/-- `take_columns(indices)` never raises on a payload as wide as its schema. -/
theorem C15_no_index_error (km : Kind → Kind → Bool) (cast : Kind → α → Option α) (legacy : Bool) (q e : List Field) (data : Tab α)
    (hlen : data.ncols = e.length) : readerCall km cast legacy q e data ≠ .indexError := by
  rcases readerCall_branches km cast legacy q e data hlen with hb | ⟨_, hb⟩ | ⟨_, _, _, _, hb⟩
  · rw [hb]; nofun
  · rw [hb]; split <;> nofun
  · rw [hb]; split <;> nofun

private theorem actualFields_fixed (e : List Field) (idx : List Nat) (hin : ∀ k ∈ idx, k < e.length) :
    (actualFields false e idx).length = idx.length ∧
    ∀ (j k : Nat), idx[j]? = some k → (actualFields false e idx)[j]? = e[k]? := by
  have := filterMap_total (e[·]?) idx (fun k hk => by simp [hin k hk])
  simp only [actualFields, Bool.false_eq_true, if_false]
  refine ⟨this.1, ?_⟩
  intro j k hj
  rw [this.2 j, hj]; rfl

/-- Every call that does not raise `MissingError` ends in one `_cast(expected, actual, d)`, whichever branch was taken;
`flag` is its `actual == expected` test. The field `_cast` pairs with column `j` is entry field `k` in the repaired code,
entry field `j` in the released one (which needs `hq`). -/
private theorem reader_plan (km : Kind → Kind → Bool) (cast : Kind → α → Option α) (legacy : Bool) (q e : List Field)
    (data : Tab α) (hwf : data.WF) (hlen : data.ncols = e.length) (hq : legacy = true → q.length ≤ e.length) :
    readerCall km cast legacy q e data = .missing ∨
    ∃ (flag : Bool) (actual : List Field) (d : Tab α),
      (readerCall km cast legacy q e data =
        match castStep km cast flag q actual d with | none => .castError | some o => .data o) ∧
      d.WF ∧ q.length ≤ actual.length ∧ q.length ≤ d.ncols ∧ (flag = true → e = q ∧ actual = q ∧ d = data) ∧
      ∀ (j : Nat) (qf : Field), q[j]? = some qf → ∃ (k : Nat) (ef pf : Field), e[k]? = some ef ∧ ef.name = qf.name ∧
        actual[j]? = some pf ∧ e[bif legacy then j else k]? = some pf ∧ ∀ i, d.get i j = data.get i k := by
  rcases readerCall_branches km cast legacy q e data hlen with hb | ⟨hn, hb⟩ | ⟨idx, d, hspec, hd, hb⟩
  · exact .inl hb
  · refine .inr ⟨decide (e = q), e, data, hb, hwf, ?_, ?_, fun hf => ?_, fun j qf hj => ?_⟩
    · rcases hn with hn | rfl
      · exact Nat.le_of_eq (map_eq_map_getElem hn).1.symm
      · exact Nat.zero_le _
    · rcases hn with hn | rfl
      · exact Nat.le_of_eq ((map_eq_map_getElem hn).1.symm.trans hlen.symm)
      · exact Nat.zero_le _
    · have := of_decide_eq_true hf
      exact ⟨this, this, rfl⟩
    · rcases hn with hn | rfl
      · obtain ⟨ef, he, hnm⟩ := (map_eq_map_getElem hn).2 j qf hj
        exact ⟨j, ef, ef, he, hnm, he, by cases legacy <;> exact he, fun _ => rfl⟩
      · cases hj
  · obtain ⟨hl, hk⟩ := idx_pointwise q e idx hspec
    obtain ⟨dwf, dnc, dcell⟩ := take_cells data d hwf idx hd
    have hin := idx_in_range q e idx hspec
    refine .inr ⟨false, actualFields legacy e idx, d, hb, dwf, ?_, Nat.le_of_eq (hl.symm.trans dnc.symm), nofun,
      fun j qf hj => ?_⟩
    · cases legacy with
      | true => exact hq rfl
      | false => exact Nat.le_of_eq (hl.symm.trans (actualFields_fixed e idx hin).1.symm)
    · obtain ⟨k, ef, hi, he, hnm⟩ := hk j qf hj
      have hkl : k < data.ncols := hlen ▸ (List.getElem?_eq_some_iff.mp he).1
      cases legacy with
      | false => exact ⟨k, ef, ef, he, hnm, ((actualFields_fixed e idx hin).2 j k hi).trans he, he, dcell j k hi hkl⟩
      | true =>
        have hjl : j < e.length := Nat.lt_of_lt_of_le (List.getElem?_eq_some_iff.mp hj).1 (hq rfl)
        exact ⟨k, ef, e[j], he, hnm, List.getElem?_eq_getElem hjl, List.getElem?_eq_getElem hjl, dcell j k hi hkl⟩

private theorem reader_delivers (km : Kind → Kind → Bool) (hkm : ∀ k, km k k = true)
    (cast : Kind → α → Option α) (legacy : Bool) (q e : List Field) (data out : Tab α)
    (hwf : data.WF) (hlen : data.ncols = e.length) (hq : legacy = true → q.length ≤ e.length)
    (h : readerCall km cast legacy q e data = .data out) :
    Delivered km cast (fun j k => bif legacy then j else k) q e data out := by
  rcases reader_plan km cast legacy q e data hwf hlen hq with hb | ⟨flag, actual, d, hb, dwf, hal, hdn, hflag, hcol⟩
  · rw [hb] at h; cases h
  · rw [hb] at h
    cases hcs : castStep km cast flag q actual d with
    | none => rw [hcs] at h; cases h
    | some o =>
      rw [hcs] at h; cases h
      cases flag with
      | false =>
        obtain ⟨h1, h2⟩ := castStep_cells km cast q actual d out dwf hcs hal hdn
        refine ⟨h1, fun j qf hj => ?_⟩
        obtain ⟨k, ef, pf, he, hnm, hpf, hp, hcell⟩ := hcol j qf hj
        exact ⟨k, ef, pf, he, hnm, hp, fun i => hcell i ▸ h2 j qf pf hj hpf i⟩
      | true =>
        -- `_cast` returned the payload itself, and `actual` is the query's schema: no cell needs a cast
        obtain ⟨rfl, rfl, rfl⟩ := hflag rfl
        cases hcs
        refine ⟨hlen, fun j qf hj => ?_⟩
        obtain ⟨k, ef, pf, he, hnm, hpf, hp, hcell⟩ := hcol j qf hj
        rw [hj] at hpf; cases hpf
        have hc : ∀ x : Option α, x = x.bind (castCell km cast qf.kind qf.kind) := fun x => by
          cases x with
          | none => rfl
          | some v => exact (if_pos (hkm qf.kind)).symm
        exact ⟨k, ef, qf, he, hnm, hp, fun i => hcell i ▸ ⟨hc _, id⟩⟩

/-- **the cast, column by column** (the code in /repo, repaired by 8698b70) — for every query schema, entry schema and
rectangular payload of the entry's width, in both tabular implementations: if data is delivered it has
exactly the query's columns in the query's order, column `j` is an entry column `k` named like query
field `j`, and its cells are cast to the query kind exactly when that kind does not match the kind of
**that entry column** (`pair j k = k`); no row is lost or invented. -/
theorem C15_cast (km : Kind → Kind → Bool) (hkm : ∀ k, km k k = true)
    (cast : Kind → α → Option α) (q e : List Field) (data out : Tab α)
    (hwf : data.WF) (hlen : data.ncols = e.length)
    (h : readerCall km cast false q e data = .data out) :
    Delivered km cast (fun _ k => k) q e data out :=
  reader_delivers km hkm cast false q e data out hwf hlen nofun h

/-- **a `CastError` is always justified** — when the reader refuses a complete entry with `CastError`,
some value of a required column that needs a cast (its entry kind is not of the query kind) cannot be
cast to the declared kind. -/
theorem C15_cast_error_sound (km : Kind → Kind → Bool) (cast : Kind → α → Option α) (q e : List Field) (data : Tab α)
    (hwf : data.WF) (hlen : data.ncols = e.length)
    (h : readerCall km cast false q e data = .castError) :
    ∃ (j k : Nat) (qf ef : Field) (i : Nat) (v : α), q[j]? = some qf ∧ e[k]? = some ef ∧ ef.name = qf.name ∧
      km qf.kind ef.kind = false ∧ data.get i k = some v ∧ cast qf.kind v = none := by
  rcases reader_plan km cast false q e data hwf hlen nofun with hb | ⟨flag, actual, d, hb, dwf, _, _, _, hcol⟩
  · rw [hb] at h; cases h
  · rw [hb] at h
    cases hcs : castStep km cast flag q actual d with
    | some o => rw [hcs] at h; cases h
    | none =>
      obtain ⟨j, qf, pf, i, v, hj, hp, hk, hg, hc⟩ := castStep_none km cast flag q actual d dwf hcs
      obtain ⟨k, ef, pf', he, hnm, hpf, hp', hcell⟩ := hcol j qf hj
      cases hp.symm.trans hpf
      cases he.symm.trans (hp' : e[k]? = some pf)
      exact ⟨j, k, qf, _, i, v, hj, he, hnm, hk, hcell i ▸ hg, hc⟩

/-- **the property, first sentence, as a total statement about the code in /repo** — for
every query schema, every entry schema containing all the query's names (any order, any extra
columns) and every rectangular payload of the entry's width whose required values can be cast, in both
tabular implementations: the reader does deliver, and what it delivers is `Delivered` — exactly the
query's columns, in the query's order, each from an entry column of that name, each value cast to the
declared kind (or left when the entry already declares that kind). -/
theorem C15_served (km : Kind → Kind → Bool) (hkm : ∀ k, km k k = true)
    (cast : Kind → α → Option α) (q e : List Field) (data : Tab α)
    (hwf : data.WF) (hlen : data.ncols = e.length)
    (hsub : ∀ c ∈ q.map (·.name), c ∈ e.map (·.name)) (hcast : Castable km cast q e data) :
    ∃ out, readerCall km cast false q e data = .data out ∧ Delivered km cast (fun _ k => k) q e data out := by
  cases h : readerCall km cast false q e data with
  | missing =>
    obtain ⟨c, hc, hn⟩ := (C15_refusal km cast false q e data).mp h
    exact absurd (hsub c hc) hn
  | indexError => exact absurd h (C15_no_index_error km cast false q e data hlen)
  | castError =>
    obtain ⟨j, k, qf, ef, i, v, hj, he, hnm, hk, hg, hc⟩ := C15_cast_error_sound km cast q e data hwf hlen h
    have := hcast j k qf ef i v hj he hnm hk hg
    rw [hc] at this; cases this
  | data out => exact ⟨out, rfl, C15_cast km hkm cast q e data out hwf hlen h⟩

/-- entry field names are pairwise distinct (what `dsl.Schema` enforces) -/
def DistinctNames (e : List Field) : Prop :=
  ∀ (k k' : Nat) (ef ef' : Field), e[k]? = some ef → e[k']? = some ef' → ef.name = ef'.name → k = k'

theorem C15_distinct_of_nodup (e : List Field) (h : (e.map (·.name)).Nodup) : DistinctNames e := by
  intro k k' ef ef' hk hk' hn
  have hlt : k < (e.map (·.name)).length := by
    rw [List.length_map]; exact (List.getElem?_eq_some_iff.mp hk).1
  refine (List.getElem?_inj hlt h).mp ?_
  rw [List.getElem?_map, List.getElem?_map, hk, hk']
  exact congrArg some hn

/-- **un-castable values are refused, never delivered** — for an entry with distinct names: if some
value of a required column that needs a cast cannot be cast, no data is delivered (the outcome is
`CastError`, or `MissingError` if a column is lacking as well). -/
theorem C15_uncastable_refused (km : Kind → Kind → Bool) (hkm : ∀ k, km k k = true)
    (cast : Kind → α → Option α) (q e : List Field) (data : Tab α)
    (hwf : data.WF) (hlen : data.ncols = e.length) (hd : DistinctNames e)
    (j k : Nat) (qf ef : Field) (i : Nat) (v : α) (hj : q[j]? = some qf) (he : e[k]? = some ef)
    (hnm : ef.name = qf.name) (hk : km qf.kind ef.kind = false) (hg : data.get i k = some v)
    (hc : cast qf.kind v = none) :
    ∀ out, readerCall km cast false q e data ≠ .data out := by
  intro out h
  obtain ⟨_, h2⟩ := C15_cast km hkm cast q e data out hwf hlen h
  obtain ⟨k', ef', pf, he', hnm', hp, hcell⟩ := h2 j qf hj
  have hkk : k' = k := hd k' k ef' ef he' he (by rw [hnm', hnm])
  subst hkk
  rw [he] at he' hp; cases he'; cases hp
  obtain ⟨h3, h4⟩ := hcell i
  rw [hg] at h3 h4
  simp only [Option.bind_some, castCell, hk, Bool.false_eq_true, if_false, hc] at h3
  have := h4 rfl
  rw [h3] at this; cases this

/-- **the code as released before 8698b70** (defect D16 characterised) — the same as
`C15_cast`, except that the kind deciding the cast of delivered column `j` is the kind of entry field
**`j`** (`pair j k = j`), not of the entry column `k` that was delivered. -/
theorem C15_cast_legacy (km : Kind → Kind → Bool) (hkm : ∀ k, km k k = true)
    (cast : Kind → α → Option α) (q e : List Field) (data out : Tab α)
    (hwf : data.WF) (hlen : data.ncols = e.length) (hq : q.length ≤ e.length)
    (h : readerCall km cast true q e data = .data out) :
    Delivered km cast (fun j _ => j) q e data out :=
  reader_delivers km hkm cast true q e data out hwf hlen (fun _ => hq) h

/-- the statement at full strength for the released code -/
def C15_cast_legacy_full : Prop :=
  ∀ (α : Type) (km : Kind → Kind → Bool) (cast : Kind → α → Option α) (q e : List Field) (data out : Tab α),
    (∀ k, km k k = true) → data.WF → data.ncols = e.length → readerCall km cast true q e data = .data out →
    Delivered km cast (fun _ k => k) q e data out

/-- kinds of the entry are all the same -/
def homogeneous (e : List Field) : Bool :=
  e.all (fun f => f.kind == ((e.head?).map (·.kind)).getD .integer)

/-- **partial** — the released code is right whenever all entry columns have one kind … -/
theorem C15_cast_legacy_partial (km : Kind → Kind → Bool) (hkm : ∀ k, km k k = true)
    (cast : Kind → α → Option α) (q e : List Field) (data out : Tab α)
    (hwf : data.WF) (hlen : data.ncols = e.length) (hq : q.length ≤ e.length)
    (hyp : homogeneous e = true)
    (h : readerCall km cast true q e data = .data out) :
    Delivered km cast (fun _ k => k) q e data out := by
  obtain ⟨h1, h2⟩ := C15_cast_legacy km hkm cast q e data out hwf hlen hq h
  refine ⟨h1, ?_⟩
  intro j qf hj
  obtain ⟨k, ef, pf, he, hn, hp, hc⟩ := h2 j qf hj
  refine ⟨k, ef, ef, he, hn, he, ?_⟩
  have hk : pf.kind = ef.kind := by
    simp only [homogeneous, List.all_eq_true, beq_iff_eq] at hyp
    rw [hyp pf (List.mem_of_getElem? hp), hyp ef (List.mem_of_getElem? he)]
  intro i; rw [← hk]; exact hc i

/-- **same names, same order** — `take_columns` is not called and the entry schema reaches `_cast`
un-permuted: the outcome is that of `_cast(expected, actual, entry.data)` alone. -/
theorem C15_same_names (km : Kind → Kind → Bool) (cast : Kind → α → Option α) (legacy : Bool) (q e : List Field)
    (data : Tab α) (hyp : e.map (·.name) = q.map (·.name)) :
    readerCall km cast legacy q e data =
      match castStep km cast (decide (e = q)) q e data with
      | none => .castError
      | some out => .data out := by
  have hm := (C15_match_identical_iff (q.map (·.name)) (e.map (·.name))).mpr hyp
  unfold readerCall readerCallWith
  rw [hm]
  rfl

/-- on that path the released and the repaired reader are the same function (the defect D16 needs a
re-ordering), for every payload and without any assumption on the outcome. -/
theorem C15_same_names_legacy_irrelevant (km : Kind → Kind → Bool) (cast : Kind → α → Option α) (q e : List Field)
    (data : Tab α) (hyp : e.map (·.name) = q.map (·.name)) :
    readerCall km cast true q e data = readerCall km cast false q e data := by
  rw [C15_same_names km cast true q e data hyp, C15_same_names km cast false q e data hyp]

/-- **partial** — … or the entry columns come in the query's order (names agree position by position). -/
theorem C15_cast_legacy_partial_identity (km : Kind → Kind → Bool) (hkm : ∀ k, km k k = true)
    (cast : Kind → α → Option α) (q e : List Field) (data out : Tab α)
    (hwf : data.WF) (hlen : data.ncols = e.length) (hyp : e.map (·.name) = q.map (·.name))
    (h : readerCall km cast true q e data = .data out) :
    Delivered km cast (fun _ k => k) q e data out :=
  C15_cast km hkm cast q e data out hwf hlen (C15_same_names_legacy_irrelevant km cast q e data hyp ▸ h)

/-- **counterexample (D16)** — query `(a : string)`, entry `(b : string, a : integer)`, one row
`b = 5, a = 7`: the released code delivers `7` as is (the cast is decided by `b`'s kind) where the
query declares a string. Values are naturals, "cast" is `+ 100` to make it visible. -/
theorem C15_cast_legacy_counterexample : ¬ C15_cast_legacy_full := by
  intro hfull
  obtain ⟨_, h2⟩ := hfull Nat kmatch (fun _ v => some (v + 100)) [⟨0, .string⟩] [⟨1, .string⟩, ⟨0, .integer⟩]
    (.dense ⟨[[5, 7]], 2⟩) (.frame ⟨[[7]], 1⟩) (by intro k; cases k <;> rfl)
    (by intro r hr; cases List.mem_singleton.mp hr; rfl) rfl (by decide +kernel)
  obtain ⟨k, ef, pf, he, hn, hp, hc⟩ := h2 0 ⟨0, .string⟩ rfl
  rcases k with _ | _ | k
  · cases he; cases hn
  · cases hp
    exact absurd (hc 0).1 (by decide +kernel)
  · cases he

/-- The match relation of the code (`X().match(Y())` evaluated on the imported kind classes,
`ForML.Generated.C15Kinds.liveMatch`, which is what the driver runs the model with) is reflexive — the only
fact about it the theorems above need (`hkm`); they therefore apply to the live relation as it is. -/
theorem C15_kind_table : ∀ k : Kind, ForML.Generated.C15Kinds.liveMatch k k = true := by
  intro k; cases k <;> rfl

theorem C15_served_live (cast : Kind → α → Option α) (q e : List Field) (data : Tab α)
    (hwf : data.WF) (hlen : data.ncols = e.length)
    (hsub : ∀ c ∈ q.map (·.name), c ∈ e.map (·.name))
    (hcast : Castable ForML.Generated.C15Kinds.liveMatch cast q e data) :
    ∃ out, readerCall ForML.Generated.C15Kinds.liveMatch cast false q e data = .data out ∧
      Delivered ForML.Generated.C15Kinds.liveMatch cast (fun _ k => k) q e data out :=
  C15_served _ C15_kind_table cast q e data hwf hlen hsub hcast

end tabular

section real
open ForML.Generated.C15Lattice ForML.Generated.C15Kinds

/-- the value cast the code has: `Primitive.cast` with the live native-type table -/
abbrev realCast : Kind → PyVal → Option PyVal := pcast liveIsInstance
/-- `isinstance(value, kind.__type__)` with the live table -/
abbrev ofKind (k : Kind) (v : PyVal) : Bool := hasKind liveIsInstance k v

/-- **`match` follows the class hierarchy** — whenever `X().match(Y())` holds on the live singletons, the class of `X`
occurs in the MRO of the class of `Y` (both tables are read off the imported classes): kinds unrelated in the hierarchy
never match. -/
theorem C15_kind_lattice (e a : Kind) (h : liveMatch e a = true) : classMatch liveClass liveMro e a = true := by
  have : ∀ e ∈ Kind.all, ∀ a ∈ Kind.all, liveMatch e a = true → classMatch liveClass liveMro e a = true := by
    decide +kernel
  exact this e (mem_kindAll e) a (mem_kindAll a) h

/-- the lattice is a pre-order (reflexive: `C15_kind_table`; transitive) -/
theorem C15_kind_match_trans (a b c : Kind) (h1 : liveMatch a b = true) (h2 : liveMatch b c = true) :
    liveMatch a c = true := by
  have : ∀ a ∈ Kind.all, ∀ b ∈ Kind.all, liveMatch a b = true → ∀ c ∈ Kind.all,
      liveMatch b c = true → liveMatch a c = true := by decide +kernel
  exact this a (mem_kindAll a) b (mem_kindAll b) h1 c (mem_kindAll c) h2

/-- what every constructor returns is an instance of its kind's native type (live table) -/
theorem C15_type_table : TypeTable liveIsInstance := by
  intro k; cases k <;> rfl

/-- **the direction of `match`** — when the *declared* kind matches the *entry* kind (`declared.match(entry)`, i.e.
the entry kind's class derives from the declared kind's class) every value of the entry kind is a value of the
declared kind: leaving such a column uncast is sound. -/
theorem C15_kind_match_sound (qk ek : Kind) (v : PyVal) (hm : liveMatch qk ek = true) (hv : ofKind ek v = true) :
    ofKind qk v = true := by
  have : ∀ qk ∈ Kind.all, ∀ ek ∈ Kind.all, liveMatch qk ek = true → ∀ c ∈ VClass.all,
      liveIsInstance ek c = true → liveIsInstance qk c = true := by decide +kernel
  exact this qk (mem_kindAll qk) ek (mem_kindAll ek) hm _ (mem_vclassAll _) hv

/-- … and the other direction is not (released lattice: `Timestamp` derives from `Date`): a `Date` entry matches under
`entry.match(declared)` for a declared `Timestamp`, but a date is no timestamp. -/
theorem C15_kind_match_direction :
    ¬ ∀ (qk ek : Kind) (v : PyVal), kmatch ek qk = true → hasKind snapIsInstance ek v = true →
        hasKind snapIsInstance qk v = true := by
  intro h
  exact absurd (h .timestamp .date (.date 5) rfl rfl) (by decide)

/-- **each value cast to the declared kind** — whatever `kind.cast` returns is an instance of the declared kind's
native type. -/
theorem C15_cast_to_kind (k : Kind) (v w : PyVal) (h : realCast k v = some w) : ofKind k w = true :=
  pcast_hasKind liveIsInstance C15_type_table k v w h

/-- a value that already is of the declared kind is returned untouched -/
theorem C15_cast_shortcut (k : Kind) (v : PyVal) (h : ofKind k v = true) : realCast k v = some v :=
  pcast_shortcut liveIsInstance k v h

/-- **failure on un-castable values** — the cast raises exactly when the value is no instance of the native type
and the kind's constructor refuses it. -/
theorem C15_cast_fails_iff (k : Kind) (v : PyVal) :
    realCast k v = none ↔ ofKind k v = false ∧ rawCast k v = none :=
  pcast_none liveIsInstance k v

/-- the cast keeps what the value denotes, as far as the declared kind can express it — at full strength (whatever the
native-type table) -/
def C15_cast_denotes_full : Prop :=
  ∀ (isinst : Kind → VClass → Bool) (k : Kind) (v w : PyVal) (x : Den), TypeTable isinst →
    denAs k (den v) = some x → pcast isinst k v = some w → denAs k (den w) = some x

/-- **partial** — it does for every kind but `Boolean` (numbers stay the number, ISO texts / dates / timestamps
the day resp. the moment, `str(…)` denotes what the value did) -/
theorem C15_cast_denotes_partial (isinst : Kind → VClass → Bool) (k : Kind) (hk : k ≠ .boolean) (v w : PyVal) (x : Den)
    (hd : denAs k (den v) = some x) (h : pcast isinst k v = some w) : denAs k (den w) = some x :=
  pcast_den isinst k hk v w x hd h

/-- **counterexample** — `Boolean.cast('False')` is `bool('False')` = `True` -/
theorem C15_cast_denotes_counterexample : ¬ C15_cast_denotes_full := by
  intro h
  exact absurd (h snapIsInstance .boolean (.str (.boolLit false)) (.bool true) (.truth false)
    (by intro k; cases k <;> rfl) rfl rfl) (by decide)

/-- `kind.reflect` (what the decoder labels a column with) answers a kind the value is an instance of … -/
theorem C15_reflect_sound (c : VClass) (k : Kind) (h : reflectClass liveIsInstance liveRank c = some k) :
    liveIsInstance k c = true :=
  (reflectClass_spec _ _ c k h).1

/-- … the one of the least rank … -/
theorem C15_reflect_minimal (c : VClass) (k k' : Kind) (h : reflectClass liveIsInstance liveRank c = some k)
    (h' : liveIsInstance k' c = true) : liveRank k ≤ liveRank k' :=
  (reflectClass_spec _ _ c k h).2 k' h'

/-- … and the set-iteration order Python breaks rank ties with does not matter: accepting kinds never tie. -/
theorem C15_reflect_unambiguous (c : VClass) (k k' : Kind) (h : liveIsInstance k c = true)
    (h' : liveIsInstance k' c = true) (hr : liveRank k = liveRank k') : k = k' := by
  have : ∀ c ∈ VClass.all, ∀ k ∈ Kind.all, liveIsInstance k c = true → ∀ k' ∈ Kind.all,
      liveIsInstance k' c = true → liveRank k = liveRank k' → k = k' := by decide +kernel
  exact this c (mem_vclassAll c) k (mem_kindAll k) h k' (mem_kindAll k') h' hr

/-- every cell of the entry payload is a value of the kind its entry column declares -/
def EntryTyped (e : List Field) (data : Tab PyVal) : Prop :=
  ∀ (k : Nat) (ef : Field) (i : Nat) (v : PyVal), e[k]? = some ef → data.get i k = some v → ofKind ef.kind v = true

/-- **the property's "each value cast to the declared kind", for the real lattice and the real cast** — for every
query schema, entry schema and rectangular payload whose cells are of their entry kinds, in both tabular implementations: every cell the reader delivers in column `j` is an instance of the native type of the kind
the query declares for column `j`. -/
theorem C15_delivered_kind (q e : List Field) (data out : Tab PyVal)
    (hwf : data.WF) (hlen : data.ncols = e.length) (ht : EntryTyped e data)
    (h : readerCall liveMatch realCast false q e data = .data out) :
    ∀ (j : Nat) (qf : Field) (i : Nat) (w : PyVal), q[j]? = some qf → out.get i j = some w → ofKind qf.kind w = true := by
  intro j qf i w hj hw
  obtain ⟨_, h2⟩ := C15_cast liveMatch C15_kind_table realCast q e data out hwf hlen h
  obtain ⟨k, ef, pf, he, _, hp, hc⟩ := h2 j qf hj
  rw [he] at hp; cases hp
  obtain ⟨v, hg, h3⟩ := Option.bind_eq_some_iff.mp ((hc i).1.symm.trans hw)
  unfold castCell at h3
  split at h3
  · rename_i hm
    cases h3
    exact C15_kind_match_sound qf.kind ef.kind w hm (ht k ef i w he hg)
  · exact C15_cast_to_kind qf.kind v w h3

/-- the same reader with the operands of `match` swapped (released lattice) delivers a `datetime.date` where a
`Timestamp` is declared -/
theorem C15_delivered_kind_swapped_counterexample :
    ¬ ∀ (q e : List Field) (data out : Tab PyVal), data.WF → data.ncols = e.length →
        (∀ (k : Nat) (ef : Field) (i : Nat) (v : PyVal), e[k]? = some ef → data.get i k = some v →
          hasKind snapIsInstance ef.kind v = true) →
        readerCall (fun a b => kmatch b a) (pcast snapIsInstance) false q e data = .data out →
        ∀ (j : Nat) (qf : Field) (i : Nat) (w : PyVal), q[j]? = some qf → out.get i j = some w →
          hasKind snapIsInstance qf.kind w = true := by
  intro h
  refine absurd (h [⟨0, .timestamp⟩] [⟨0, .date⟩] (.dense ⟨[[.date 5]], 1⟩) (.frame ⟨[[.date 5]], 1⟩)
    (by intro r hr; cases List.mem_singleton.mp hr; rfl) rfl ?_
    (by decide +kernel) 0 ⟨0, .timestamp⟩ 0 (.date 5) rfl rfl) (by decide +kernel)
  intro k ef i v he hg
  rcases k with _ | k
  · cases he
    rcases i with _ | i
    · cases hg; rfl
    · cases hg
  · cases he

/-- **the first sentence of the property for the code as it is, lattice and cast included** — a
complete entry (any order, any extras) whose cells are of their entry kinds and whose required values the real cast
accepts is served; what is served has exactly the query's columns in the query's order (`Delivered`), and every
delivered value is of the kind the query declares. -/
theorem C15_served_real (q e : List Field) (data : Tab PyVal)
    (hwf : data.WF) (hlen : data.ncols = e.length)
    (hsub : ∀ c ∈ q.map (·.name), c ∈ e.map (·.name))
    (hcast : Castable liveMatch realCast q e data) (ht : EntryTyped e data) :
    ∃ out, readerCall liveMatch realCast false q e data = .data out ∧
      Delivered liveMatch realCast (fun _ k => k) q e data out ∧
      ∀ (j : Nat) (qf : Field) (i : Nat) (w : PyVal), q[j]? = some qf → out.get i j = some w → ofKind qf.kind w = true := by
  obtain ⟨out, h1, h2⟩ := C15_served liveMatch C15_kind_table realCast q e data hwf hlen hsub hcast
  exact ⟨out, h1, h2, C15_delivered_kind q e data out hwf hlen ht h1⟩

end real

section histories
open ForML.Generated.C15Lattice ForML.Generated.C15Kinds
variable {α : Type}

/-- **`_match_entry` under `functools.lru_cache`** — over every history of requests through one
reader instance, whatever the capacity of the cache: every request is answered exactly as `Reader.__call__` answers it
with nothing cached. -/
theorem C15_reader_history (km : Kind → Kind → Bool) (cast : Kind → α → Option α) (legacy : Bool) (cap : Option Nat)
    (reqs : List (Req α)) :
    readerRun km cast legacy cap exactKey [] reqs = reqs.map (fun r => readerCall km cast legacy r.q r.e r.data) :=
  readerRun_eq km cast legacy cap reqs [] (MemoInv.nil _ _ _)

/-- the result for an entry is independent of the entries served before it -/
theorem C15_reader_history_last (km : Kind → Kind → Bool) (cast : Kind → α → Option α) (legacy : Bool) (cap : Option Nat)
    (earlier : List (Req α)) (r : Req α) :
    (readerRun km cast legacy cap exactKey [] (earlier ++ [r])).getLast? = some (readerCall km cast legacy r.q r.e r.data) := by
  rw [C15_reader_history]; simp

/-- **the key matters** — memoised under an order-insensitive key (what hashing the two schemas gives) the same reader
answers a re-ordered entry with the indices of the arrangement it saw first. -/
theorem C15_reader_history_key_matters :
    ¬ ∀ (reqs : List (Req Nat)), readerRun kmatch (fun _ v => some v) false none weakKey [] reqs =
        reqs.map (fun r => readerCall kmatch (fun _ v => some v) false r.q r.e r.data) := by
  intro h
  have := h [⟨[⟨0, .integer⟩, ⟨1, .integer⟩], [⟨0, .integer⟩, ⟨1, .integer⟩], .dense ⟨[[5, 7]], 2⟩⟩,
             ⟨[⟨0, .integer⟩, ⟨1, .integer⟩], [⟨1, .integer⟩, ⟨0, .integer⟩], .dense ⟨[[7, 5]], 2⟩⟩]
  exact absurd this (by decide +kernel)

/-- `Pandas.Schema.from_frame` over the requests of one process: every frame is labelled as a fresh inference would
label it — at full strength (whatever the native-type table and the ranks) -/
def C15_schema_cache_full : Prop :=
  ∀ (isinst : Kind → VClass → Bool) (rank : Kind → Nat) (frames : List DFrame),
    (fromFrameRun isinst rank [] frames).1 = frames.map (inferSchema isinst rank)

/-- **partial** — it is for frames with rows whose dtypes determine the classes of their values (no `object`
column): the key `(label, dtype)…` then determines the schema. In particular frames of the same dtypes with other
labels or another column order never share a cache slot. -/
theorem C15_schema_cache_partial (isinst : Kind → VClass → Bool) (rank : Kind → Nat) (frames : List DFrame)
    (h : ∀ fr ∈ frames, Determined fr) :
    (fromFrameRun isinst rank [] frames).1 = frames.map (inferSchema isinst rank) :=
  memoRun_eq none frameKey _ Option.isSome Determined (frameKey_sound isinst rank) frames h []
    (MemoInv.nil _ _ _)

/-- **counterexample** — an `object` column hides what it holds: after a frame whose column `0` holds dates, a frame
whose column `0` holds decimals is labelled `Date` (finding C15-F2; on the serving path the same happens with
list-valued and dict-valued columns). -/
theorem C15_schema_cache_counterexample : ¬ C15_schema_cache_full := by
  intro h
  have := h snapIsInstance snapRank [⟨[⟨0, .object, some .date⟩], 1⟩, ⟨[⟨0, .object, some .decimal⟩], 1⟩]
  exact absurd this (by decide +kernel)

/-- labels differ ⇒ keys differ: frames of the same dtypes under other labels / in another order are never confused -/
theorem C15_schema_cache_key_labels (a b : DFrame) (h : frameKey a = frameKey b) :
    a.cols.map (·.name) = b.cols.map (·.name) ∧ a.cols.map (·.dtype) = b.cols.map (·.dtype) := by
  unfold frameKey at h
  have h1 := congrArg (List.map Prod.fst) h
  have h2 := congrArg (List.map Prod.snd) h
  simp only [List.map_map] at h1 h2
  exact ⟨h1, h2⟩

/-- **`Pandas.Decoder.loads`** (`Entry(Schema.from_frame(frame), Frame(frame))`) — read on the
frame's columns, what the hypotheses `hlen` and `EntryTyped` of the reader theorems ask of a decoded entry; `DFrame`
records a class per column, not cells, and no theorem carries it over to a `Tab PyVal`. -/
theorem C15_decoded_entry (fr : DFrame) (fields : List Field)
    (h : inferSchema liveIsInstance liveRank fr = some fields) :
    fields.map (·.name) = fr.cols.map (·.name) ∧
    ∀ (j : Nat) (f : Field), fields[j]? = some f → ∃ c v, fr.cols[j]? = some c ∧ c.cls = some v ∧ liveIsInstance f.kind v = true := by
  unfold inferSchema at h
  split at h
  · cases h
  · have hc := (mapOpt_some fr.cols fields h).2
    have key : ∀ (j : Nat) (c : FCol), fr.cols[j]? = some c → ∃ k v, fields[j]? = some ⟨c.name, k⟩ ∧ c.cls = some v ∧
        reflectClass liveIsInstance liveRank v = some k := by
      intro j c hcj
      obtain ⟨y, hy, hf⟩ := mapOpt_getElem h hcj
      obtain ⟨k, hk, rfl⟩ := Option.map_eq_some_iff.mp hy
      obtain ⟨v, hv, hr⟩ := Option.bind_eq_some_iff.mp hk
      exact ⟨k, v, hf, hv, hr⟩
    constructor
    · apply List.ext_getElem?
      intro j
      rw [List.getElem?_map, List.getElem?_map]
      cases hcj : fr.cols[j]? with
      | none => rw [hc j, hcj]; rfl
      | some c => obtain ⟨k, v, hf, _⟩ := key j c hcj; rw [hf]; rfl
    · intro j f hf
      cases hcj : fr.cols[j]? with
      | none => rw [hc j, hcj] at hf; cases hf
      | some c =>
        obtain ⟨k, v, hf', hv, hr⟩ := key j c hcj
        rw [hf] at hf'; cases hf'
        exact ⟨c, v, rfl, hv, C15_reflect_sound v k hr⟩

end histories

section chained
variable {α : Type}

/-- **take_rows twice** — selecting from a selection is selecting with the composed indices: row `k` of
`t.take_rows(is).take_rows(js)` is row `is[js[k]]` of `t` (negatives from the end at both levels). -/
theorem C15_take_rows_twice (t r r' : Tab α) (h : t.WF) (is js : List Int)
    (hr : t.takeRows is = some r) (hr' : r.takeRows js = some r')
    (k : Nat) (ι : Int) (m : Nat) (ι' : Int) (i : Nat)
    (hk : js[k]? = some ι) (hm : normIdx is.length ι = some m) (hm' : is[m]? = some ι') (hi : normIdx t.nrows ι' = some i) :
    ∀ j, r'.get k j = t.get i j := by
  obtain ⟨rwf, rn, _, rcell⟩ := C15_take_rows t r h is hr
  obtain ⟨_, _, _, rcell'⟩ := C15_take_rows r r' rwf js hr'
  intro j
  rw [rcell' k ι m hk (by rw [rn]; exact hm) j, rcell m ι' i hm' hi j]

/-- **take_columns twice** — dually -/
theorem C15_take_columns_twice (t r r' : Tab α) (h : t.WF) (is js : List Int)
    (hr : t.takeColumns is = some r) (hr' : r.takeColumns js = some r')
    (k : Nat) (ι : Int) (m : Nat) (ι' : Int) (j : Nat)
    (hk : js[k]? = some ι) (hm : normIdx is.length ι = some m) (hm' : is[m]? = some ι') (hj : normIdx t.ncols ι' = some j) :
    ∀ i, r'.get i k = t.get i j := by
  obtain ⟨rwf, rn, _, rcell⟩ := C15_take_columns t r h is hr
  obtain ⟨_, _, _, rcell'⟩ := C15_take_columns r r' rwf js hr'
  intro i
  rw [rcell' k ι m hk (by rw [rn]; exact hm) i, rcell m ι' j hm' hj i]

/-- rows then columns = the sub-matrix -/
theorem C15_take_rows_columns (t r r' : Tab α) (h : t.WF) (is js : List Int)
    (hr : t.takeRows is = some r) (hr' : r.takeColumns js = some r')
    (a b : Nat) (ι κ : Int) (i j : Nat)
    (ha : is[a]? = some ι) (hi : normIdx t.nrows ι = some i) (hb : js[b]? = some κ) (hj : normIdx t.ncols κ = some j) :
    r'.get a b = t.get i j := by
  obtain ⟨rwf, _, rc, rcell⟩ := C15_take_rows t r h is hr
  obtain ⟨_, _, _, rcell'⟩ := C15_take_columns r r' rwf js hr'
  rw [rcell' b κ j hb (by rw [rc]; exact hj) a, rcell a ι i ha hi j]

/-- **the train-mode path** (`Slicer.from_columns` → `TableDriver` → `Slicer.apply`) — the statement's columns are
`(*features, *labels)`; when the reader delivers `out` for it and the slicer built by `from_columns(nf features,
labels)` is applied, feature cell `(i, k)` is delivered cell `(i, k)` and label cell `(i, k)` is delivered cell
`(i, nf + k)` — i.e. by `C15_cast` the (cast) entry cell of the column named like the `k`-th feature resp. label. -/
theorem C15_train_path (out : Tab α) (h : out.WF) (nf : Nat) (nl : Option Nat)
    (hw : nf + (nl.getD 1) ≤ out.ncols)
    (f : List (List α)) (lab : List α ⊕ List (List α))
    (hs : slicer (slicerPositions nf nl).1 (slicerPositions nf nl).2 out = some (f, lab)) :
    (∀ k, k < nf → ∀ i, f[i]?.bind (·[k]?) = out.get i k) ∧
    (match nl, lab with
     | none, .inl c => ∀ i : Nat, c[i]? = out.get i nf
     | some n, .inr rows => ∀ k, k < n → ∀ i, rows[i]?.bind (·[k]?) = out.get i (nf + k)
     | _, _ => False) := by
  obtain ⟨hf, hl⟩ := C15_slicer out h _ _ f lab hs
  obtain ⟨hpos, _, hlab⟩ := C15_slicer_positions nf nl
  refine ⟨fun k hk i => hf k _ k (hpos k hk)
    (normIdx_ofNat _ _ (Nat.lt_of_lt_of_le hk (Nat.le_trans (Nat.le_add_right _ _) hw))) i, ?_⟩
  cases nl with
  | none =>
    cases lab with
    | inl c => exact fun i => hl nf (normIdx_ofNat _ _ hw) i
    | inr rows => exact hl
  | some n =>
    obtain ⟨js, hjs, _, hget⟩ := hlab
    cases hjs
    cases lab with
    | inl c => exact hl
    | inr rows =>
      exact fun k hk i => hl k _ (nf + k) (hget k hk)
        (normIdx_ofNat _ _ (Nat.lt_of_lt_of_le (Nat.add_lt_add_left hk nf) hw)) i

end chained

example : matchEntry [1, 2, 3] [3, 9, 1, 2] = (true, some [2, 3, 0]) := by decide +kernel
example : matchEntry [1, 2] [1, 2] = (true, none) := by decide +kernel
example : matchEntry [1, 2] [2, 1, 2, 1] = (true, some [3, 2]) := by decide +kernel   -- duplicates: last wins
example : matchEntry [1, 2] [1] = (false, none) := by decide +kernel                  -- early refusal
example : matchEntry [1, 2] [1, 3] = (false, none) := by decide +kernel               -- refusal in the 2nd loop
example : (Tab.dense ⟨[[11, 12, 13], [21, 22, 23]], 3⟩).takeColumns [-1, 0, 0] =
    some (.dense ⟨[[13, 11, 11], [23, 21, 21]], 3⟩) := by decide +kernel
example : (Tab.frame ⟨[[11, 21], [12, 22], [13, 23]], 2⟩).takeRows [1, 1, -2] =
    some (.frame ⟨[[21, 21, 11], [22, 22, 12], [23, 23, 13]], 3⟩) := by decide +kernel
example : (Tab.frame ⟨[[11, 21], [12, 22], [13, 23]], 2⟩).takeRows [2] = none := by decide +kernel
example : readerCall kmatch (fun _ v => some (v + 100)) false [⟨0, .string⟩] [⟨1, .string⟩, ⟨0, .integer⟩]
    (.dense ⟨[[5, 7]], 2⟩) = .data (.frame ⟨[[107]], 1⟩) := by decide +kernel
example : readerCall kmatch (fun _ v => some (v + 100)) true [⟨0, .string⟩] [⟨1, .string⟩, ⟨0, .integer⟩]
    (.dense ⟨[[5, 7]], 2⟩) = .data (.frame ⟨[[7]], 1⟩) := by decide +kernel
-- a value that cannot be cast: refused, in the identical and in a re-ordered arrangement
example : readerCall kmatch (fun _ v => if v < 10 then some (v + 100) else none) false [⟨0, .string⟩, ⟨1, .integer⟩]
    [⟨1, .integer⟩, ⟨0, .integer⟩] (.frame ⟨[[1, 2], [3, 44]], 2⟩) = .castError := by decide +kernel
example : readerCall kmatch (fun _ v => if v < 10 then some (v + 100) else none) false [⟨0, .string⟩]
    [⟨0, .integer⟩] (.dense ⟨[[3], [44]], 1⟩) = .castError := by decide +kernel
-- an empty payload (no rows) keeps the query's columns
example : readerCall kmatch (fun _ v => some (v + 100)) false [⟨0, .string⟩] [⟨1, .string⟩, ⟨0, .integer⟩]
    (.dense ⟨[], 2⟩) = .data (.frame ⟨[[]], 0⟩) := by decide +kernel
-- the hypotheses of `C15_served` are satisfiable by a non-trivial object (superset, re-ordered, casts needed)
example : Castable kmatch (fun _ v => if v < 10 then some (v + 100) else none) [⟨0, .string⟩, ⟨1, .integer⟩]
    [⟨1, .integer⟩, ⟨2, .float⟩, ⟨0, .integer⟩] (.frame ⟨[[1, 2], [50, 60], [3, 4]], 2⟩) := by
  intro j k qf ef i v hj he hnm hk hg
  rcases j with _ | _ | j
  · cases hj
    rcases k with _ | _ | _ | k
    · cases he; cases hnm
    · cases he; cases hnm
    · rcases i with _ | _ | i
      · cases hg; rfl
      · cases hg; rfl
      · cases hg
    · cases he
  · cases hj
    rcases k with _ | _ | _ | k
    · cases he; cases hk
    · cases he; cases hnm
    · cases he; cases hnm
    · cases he
  · cases hj
example : DistinctNames [⟨1, .integer⟩, ⟨2, .float⟩, ⟨0, .integer⟩] :=
  C15_distinct_of_nodup _ (by decide)
example : homogeneous [⟨1, .float⟩, ⟨0, .float⟩] = true := by decide +kernel
example : slicer (slicerPositions 2 none).1 (slicerPositions 2 none).2
    (Tab.dense ⟨[[11, 12, 13], [21, 22, 23]], 3⟩) = some ([[11, 12], [21, 22]], .inl [13, 23]) := by decide +kernel
-- the value level (released lattice / native types, so that a harmless change of the live tables breaks no example)
example : pcast snapIsInstance .integer (.str (.intLit 12)) = some (.int 12) := by decide +kernel
example : pcast snapIsInstance .integer (.str (.floatLit 12)) = none := by decide +kernel          -- int("12.0")
example : pcast snapIsInstance .float (.int 5) = some (.int 5) := by decide +kernel                -- an int is a Real
example : pcast snapIsInstance .timestamp (.date 5) = some (.ts 5 0) := by decide +kernel          -- midnight
example : pcast snapIsInstance .date (.ts 5 77) = some (.ts 5 77) := by decide +kernel             -- a timestamp is a date
example : pcast snapIsInstance .date (.int (-5)) = some (.date (-1)) := by decide +kernel          -- ns since the epoch
example : pcast snapIsInstance .decimal (.npint 5) = none := by decide +kernel                     -- Decimal(numpy.int64)
example : pcast snapIsInstance .string (.ts 5 77) = some (.str (.tsLit 5 77)) := by decide +kernel
example : pcast snapIsInstance .integer (.date 5) = none := by decide +kernel
example : reflectClass snapIsInstance snapRank .datetime = some .timestamp := by decide +kernel
example : reflectClass snapIsInstance snapRank .bool = some .boolean := by decide +kernel
example : reflectClass snapIsInstance snapRank .npbool = none := by decide +kernel
-- the reader with the real cast: re-ordered superset, casts in both directions, a date entry for a timestamp query
example : readerCall kmatch (pcast snapIsInstance) false [⟨0, .string⟩, ⟨1, .timestamp⟩, ⟨2, .integer⟩]
    [⟨2, .string⟩, ⟨3, .float⟩, ⟨1, .date⟩, ⟨0, .integer⟩]
    (.dense ⟨[[.str (.intLit 4), .float 9, .date 5, .int 7]], 4⟩) =
    .data (.frame ⟨[[.str (.intLit 7)], [.ts 5 0], [.int 4]], 1⟩) := by decide +kernel
example : readerCall kmatch (pcast snapIsInstance) false [⟨0, .integer⟩] [⟨1, .integer⟩, ⟨0, .string⟩]
    (.frame ⟨[[.int 1], [.str (.word 3)]], 1⟩) = .castError := by decide +kernel
-- histories: the second arrangement of the same fields is answered with its own indices …
example : readerRun kmatch (fun _ (v : Nat) => some v) false (some 1) exactKey []
    [⟨[⟨0, .integer⟩, ⟨1, .integer⟩], [⟨0, .integer⟩, ⟨1, .integer⟩], .dense ⟨[[5, 7]], 2⟩⟩,
     ⟨[⟨0, .integer⟩, ⟨1, .integer⟩], [⟨1, .integer⟩, ⟨0, .integer⟩], .dense ⟨[[7, 5]], 2⟩⟩] =
    [.data (.dense ⟨[[5, 7]], 2⟩), .data (.frame ⟨[[5], [7]], 1⟩)] := by decide +kernel
-- … where an order-insensitive key hands it the first one's (identity) answer
example : readerRun kmatch (fun _ (v : Nat) => some v) false none weakKey []
    [⟨[⟨0, .integer⟩, ⟨1, .integer⟩], [⟨0, .integer⟩, ⟨1, .integer⟩], .dense ⟨[[5, 7]], 2⟩⟩,
     ⟨[⟨0, .integer⟩, ⟨1, .integer⟩], [⟨1, .integer⟩, ⟨0, .integer⟩], .dense ⟨[[7, 5]], 2⟩⟩] =
    [.data (.dense ⟨[[5, 7]], 2⟩), .data (.frame ⟨[[7], [5]], 1⟩)] := by decide +kernel
-- frames of the same dtypes under other labels / in another order: each gets its own schema
example : (fromFrameRun snapIsInstance snapRank []
    [⟨[⟨0, .int64, some .int⟩, ⟨1, .int64, some .int⟩], 2⟩, ⟨[⟨1, .int64, some .int⟩, ⟨0, .int64, some .int⟩], 1⟩,
     ⟨[⟨4, .int64, some .int⟩, ⟨5, .int64, some .int⟩], 1⟩]).1 =
    [some [⟨0, .integer⟩, ⟨1, .integer⟩], some [⟨1, .integer⟩, ⟨0, .integer⟩], some [⟨4, .integer⟩, ⟨5, .integer⟩]] := by decide +kernel
example : Determined ⟨[⟨0, .int64, some .int⟩, ⟨1, .str, some .str⟩], 2⟩ := by
  refine ⟨by decide, ?_⟩
  intro c hc
  simp at hc
  rcases hc with rfl | rfl
  · exact ⟨by decide, .int, rfl, rfl, by decide, by decide, by decide⟩
  · exact ⟨by decide, .str, rfl, rfl, by decide, by decide, by decide⟩
-- an empty frame is refused on a cold cache and labelled from the cache on a warm one (why `Determined` asks for rows)
example : (fromFrameRun snapIsInstance snapRank [] [⟨[⟨0, .float64, some .float⟩], 0⟩]).1 = [none] := by decide +kernel
example : (fromFrameRun snapIsInstance snapRank [] [⟨[⟨0, .float64, some .float⟩], 2⟩, ⟨[⟨0, .float64, some .float⟩], 0⟩]).1 =
    [some [⟨0, .float⟩], some [⟨0, .float⟩]] := by decide +kernel
example : (Tab.frame ⟨[[11, 21, 31], [12, 22, 32]], 3⟩).takeRows [2, 0] >>= (·.takeRows [0]) =
    some (.frame ⟨[[31], [32]], 1⟩) := by decide +kernel

section passthrough
variable {α : Type}

/-- **pass-through** — an entry that already carries the query's schema is handed over as it is: no
selection, no cast, no copy; whatever the payload (not even rectangular), the match relation, the cast,
released or repaired code. -/
theorem C15_passthrough (km : Kind → Kind → Bool) (cast : Kind → α → Option α) (legacy : Bool) (q : List Field)
    (data : Tab α) : readerCall km cast legacy q q data = .data data := by
  rw [C15_same_names km cast legacy q q data rfl]
  simp [castStep]

/-- **re-reading is idempotent** — what the reader delivered, labelled with the query's schema and read
again under the same query, comes back unchanged (the reader is a projection onto the query's schema).
An instance of `C15_passthrough`: the hypothesis only says where `out` comes from, the proof does not use it. -/
theorem C15_reread (km : Kind → Kind → Bool) (cast : Kind → α → Option α) (legacy : Bool) (q e : List Field)
    (data out : Tab α) (_h : readerCall km cast legacy q e data = .data out) :
    readerCall km cast legacy q q out = .data out :=
  C15_passthrough km cast legacy q out

/-- **no needless cast** — when every declared kind matches the kind of the entry field zipped with it,
the dict comprehension of `_cast` never calls `kind.cast` and never raises: the columns are re-labelled
with the query's names and otherwise the very lists they were. -/
theorem C15_kinds_match_untouched (km : Kind → Kind → Bool) (cast : Kind → α → Option α) (q e : List Field)
    (cols : List (List α))
    (hk : ∀ (j : Nat) (qf ef : Field), q[j]? = some qf → e[j]? = some ef → km qf.kind ef.kind = true) :
    castColumns km cast q e cols =
      some (List.zipWith (fun (p : Field × Field) c => (p.1.name, c)) (q.zip e) cols) := by
  induction q generalizing e cols with
  | nil => cases e <;> cases cols <;> simp [castColumns]
  | cons f fs ih =>
    cases e with
    | nil => simp [castColumns]
    | cons a as =>
      cases cols with
      | nil => simp [castColumns]
      | cons c cs =>
        have h0 : km f.kind a.kind = true := hk 0 f a rfl rfl
        have ih' := ih as cs (fun j qf ef h1 h2 => hk (j + 1) qf ef h1 h2)
        simp only [castColumns, castColumn, h0, if_true, ih', List.zip_cons_cons, List.zipWith_cons_cons]

/-- … hence a request whose columns come in the query's order under kinds that all match is always
served (no `CastError`, no `MissingError`, whatever the cast would do), and the delivered columns are the
entry's own column lists. -/
theorem C15_kinds_match_served (km : Kind → Kind → Bool) (cast : Kind → α → Option α) (legacy : Bool) (q e : List Field)
    (data : Tab α) (hyp : e.map (·.name) = q.map (·.name))
    (hk : ∀ (j : Nat) (qf ef : Field), q[j]? = some qf → e[j]? = some ef → km qf.kind ef.kind = true) :
    ∃ out, readerCall km cast legacy q e data = .data out ∧
      (e = q → out = data) ∧
      (e ≠ q → out.toColumns =
        (List.zipWith (fun (p : Field × Field) c => (p.1.name, c)) (q.zip e) data.toColumns).map (·.2)) := by
  rw [C15_same_names km cast legacy q e data hyp]
  by_cases heq : e = q
  · exact ⟨data, by simp [castStep, heq], fun _ => rfl, fun h => absurd heq h⟩
  · refine ⟨frameOf (List.zipWith (fun (p : Field × Field) c => (p.1.name, c)) (q.zip e) data.toColumns), ?_,
      fun h => absurd h heq, fun _ => ?_⟩
    · simp [castStep, heq, C15_kinds_match_untouched km cast q e data.toColumns hk]
    · simp [frameOf, Tab.toColumns, Mat.toMajor]

end passthrough

example : readerCall kmatch (fun _ (v : Nat) => some (v + 100)) false [⟨1, .string⟩, ⟨2, .integer⟩] [⟨1, .string⟩, ⟨2, .integer⟩]
    (.dense ⟨[[5, 7], [6]], 2⟩) = .data (.dense ⟨[[5, 7], [6]], 2⟩) := by decide +kernel    -- untouched, even ragged
example : readerCall kmatch (fun _ (v : Nat) => some (v + 100)) false [⟨1, .string⟩, ⟨2, .integer⟩] [⟨1, .integer⟩, ⟨2, .integer⟩]
    (.dense ⟨[[5, 7]], 2⟩) = .data (.frame ⟨[[105], [7]], 1⟩) := by decide +kernel          -- same names, one kind differs: only it is cast
example : readerCall kmatch (fun _ (v : Nat) => some (v + 100)) false [⟨1, .date⟩, ⟨2, .integer⟩] [⟨1, .timestamp⟩, ⟨2, .integer⟩]
    (.dense ⟨[[5, 7]], 2⟩) = .data (.frame ⟨[[5], [7]], 1⟩) := by decide +kernel            -- every kind matches: no cell cast
example : castColumns kmatch (fun _ (_ : Nat) => none) [⟨1, .date⟩, ⟨2, .integer⟩] [⟨8, .timestamp⟩, ⟨9, .integer⟩] [[5], [7]] =
    some [(1, [5]), (2, [7])] := by decide +kernel                                          -- … even under a cast that always raises

end ForML.Entry
