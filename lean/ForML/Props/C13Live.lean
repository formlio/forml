/-
C13 — operation sequences on live instances: the mechanism-shaped model of every actor flavour refines the contract
machine `specMach`, the simplest actor "(attributes, logical state)", for ALL operation sequences.  A stale copy, a
forgotten invalidation, an alias anywhere in an implementation shows as a departure from this machine
(`C13_memo_per_training_counterexample`), while a memo that every mutating operation drops is proved harmless
(`C13_memo_sound`).  The native, custom and class-wrapped flavours and a wrapped origin with its own state methods
are one class-based implementation `classImpl` of their contracts, with one simulation (`class_sim`); the
function-decorated flavour has a simulation of its own.  The file also holds the theorems about `wrap.Actor.type`
definitions (`Class.__new__`, `__getattribute__`) over ForML.Model.ActorWrap.
-/
import ForML.Props.C13
import ForML.Lemmas.C13Machine
import ForML.Model.ActorWrap

namespace ForML.Actor

variable {σ : Type}

/-- what every reachable instance of a flavour satisfies -/
def FlavourSpec.Inv (fs : FlavourSpec) (o : Obj σ) : Prop :=
  match fs with
  | .native s _ => accepts s o.params = true
  | .custom s => accepts s o.params = true
  | .decorated _ _ => True
  | .wrapped s tm => WrappedInv s tm o

/-- model instance ~ contract instance: same logical state, same attribute values (dict order and
shadowed entries are not observable), and the flavour's invariant -/
def LiveRo (fs : FlavourSpec) (o : Obj σ) (a : SAct σ) : Prop :=
  o.state = a.state ∧ (∀ k, pget o.params k = pget a.attrs k) ∧ fs.Inv o

/-- model bytes ~ logical export -/
def LiveRb (fs : FlavourSpec) (b : Blob σ) (sb : SBlob σ) : Prop :=
  match b, sb with
  | none, .empty => True
  | some (.whole p st), .own p' st' =>
    fs.contract.carries = true ∧ st = st' ∧ (∀ k, pget p k = pget p' k) ∧ accepts fs.sig p = true
  | some (.value v), .own _ st' => fs.contract.carries = false ∧ st' = some v
  | some (.whole _ _), .foreign => fs.contract.carries = false
  | some (.value _), .foreign => fs.contract.carries = true
  | _, _ => False

/-- two hyper-parameter dicts with the same key→value content -/
def SameContent (kw1 kw2 : PMap) : Prop := ∀ k, pget kw1 k = pget kw2 k

/-- the part of `LiveRo` that the operations compute with -/
def Alike (o : Obj σ) (a : SAct σ) : Prop := o.state = a.state ∧ ∀ k, pget o.params k = pget a.attrs k

/-- `LiveRb` by cases: the five ways an exported state and a logical export are related -/
inductive LiveRbCase (fs : FlavourSpec) : Blob σ → SBlob σ → Prop
  | empty : LiveRbCase fs none .empty
  | dict {p p' : PMap} {st : Option σ} : fs.contract.carries = true → SameContent p p' → accepts fs.sig p = true →
      LiveRbCase fs (some (.whole p st)) (.own p' st)
  | value {v : σ} {p' : PMap} : fs.contract.carries = false → LiveRbCase fs (some (.value v)) (.own p' (some v))
  | foreignDict {p : PMap} {st : Option σ} : fs.contract.carries = false → LiveRbCase fs (some (.whole p st)) .foreign
  | foreignValue {v : σ} : fs.contract.carries = true → LiveRbCase fs (some (.value v)) .foreign

private theorem LiveRb.cases {fs : FlavourSpec} {b : Blob σ} {sb : SBlob σ} (hb : LiveRb fs b sb) :
    LiveRbCase fs b sb := by
  cases b with
  | none =>
    cases sb with
    | empty => exact .empty
    | own _ _ | foreign => exact hb.elim
  | some pl =>
    cases pl with
    | whole p st =>
      cases sb with
      | empty => exact hb.elim
      | own p' st' => obtain ⟨hc, rfl, hp, hacc⟩ := hb; exact .dict hc hp hacc
      | foreign => exact .foreignDict hb
    | value v =>
      cases sb with
      | empty => exact hb.elim
      | own p' st' => obtain ⟨hc, rfl⟩ := hb; exact .value hc
      | foreign => exact .foreignValue hb

private theorem isEmpty_rel (fs : FlavourSpec) (b : Blob σ) (sb : SBlob σ) (hb : LiveRb fs b sb) :
    b.isNone = sb.isEmpty := by
  cases hb.cases <;> rfl

private theorem liveRb_accepts {fs : FlavourSpec} (hfs : fs.contract.carries = true) {b : Blob σ} {sb : SBlob σ}
    (hb : LiveRb fs b sb) (p : PMap) (st : Option σ) (hp : b = some (.whole p st)) : accepts fs.sig p = true := by
  cases hb.cases with
  | dict _ _ h => cases hp; exact h
  | foreignDict hc => exact absurd (hfs.symm.trans hc) (by decide)
  | _ => cases hp

/-- The class-based implementation of a contract `c` (`remembers`: the constructor keeps its arguments for the
reducer).  The native, custom and class-wrapped flavours and a wrapped origin with its own state methods are this
flavour for their contracts (`native_class` … `wrappedOwn_class`). -/
def classImpl (u : User σ) (c : Contract) (remembers : Bool) (rp : Obj σ → Except Err (Obj σ)) : Flavour σ where
  specSig := { c.sig with anon := c.anon }
  build := if remembers then wrappedBuild c.sig else ctorStore c.sig
  apply := classApply u c.trains
  train := fun o x y =>
    if c.trains then .ok { o with state := some (u.trainFn (pget o.params) o.state x y) } else .error c.trainErr
  getState := dictGetState c.trains
  setState := if c.protects then dictSetState c.sig c.trains else (nativeCustom u c.sig).setState
  getParams := reported c.sig
  setParams := storeParams c.sig
  isStateful := c.trains
  hasTrain := c.trains
  repickle := rp

private theorem native_class (u : User σ) (s : Sig) (t : Bool) :
    native u s t = classImpl u (FlavourSpec.native s t).contract false .ok := rfl

private theorem custom_class (u : User σ) (s : Sig) :
    nativeCustom u s = classImpl u (FlavourSpec.custom s).contract false .ok := rfl

private theorem wrapped_class (u : User σ) (s : Sig) (tm : TrainMap) :
    wrapped u s tm = classImpl u (FlavourSpec.wrapped s tm).contract true (wrappedRepickle s tm.stateful) := by
  cases tm <;> rfl

/-- One simulation for every class-based actor, over any invariant `I` of its instances that makes every attribute a
constructor name.  `hpro`: the naive user-written `set_state` takes a non-empty state whether or not the actor
trains, the contract raises `UnexpectedError` without a training implementation -- `protects = false` is covered
only together with `trains`. -/
private theorem class_sim [Inhabited σ] (u : User σ) (c : Contract) (hl : c.late = false) (hcar : c.carries = true)
    (hpro : c.protects = false → c.trains = true) (fs : FlavourSpec) (hfs : fs.contract.carries = true)
    (hsig : fs.sig = c.sig) {rem : Bool} {rp : Obj σ → Except Err (Obj σ)} {f : Flavour σ}
    (hf : f = classImpl u c rem rp) (I : Obj σ → Prop) (hacc : ∀ o, I o → accepts c.sig o.params = true)
    (ib : ∀ a kw o, f.build a kw = .ok o → I o)
    (it : ∀ o o' x y, I o → f.train o x y = .ok o' → accepts c.sig o'.params = true → o'.ctor = o.ctor → I o')
    (ip : ∀ o o' kw, I o → f.setParams o kw = .ok o' → I o')
    (is : ∀ o o' b, I o → (∀ p st, b = some (.whole p st) → accepts c.sig p = true) → f.setState o b = .ok o' →
      accepts c.sig o'.params = true → o'.ctor = o.ctor → I o')
    (ir : ∀ o, I o → ∃ o', f.repickle o = .ok o' ∧ Equiv o' o ∧ I o') :
    Sim (f.toMach (some (.value default))) (specMach u c)
      (fun o a => o.state = a.state ∧ (∀ k, pget o.params k = pget a.attrs k) ∧ I o) (LiveRb fs) SameContent := by
  subst hf
  exact {
    specSig := rfl
    isStateful := rfl
    build := fun args kw => by
      -- the constructor, without and with the remembered arguments (the relation does not look at them)
      have : RelE Alike ((classImpl u c rem rp).build args kw) ((specMach u c).build args kw) := by
        unfold specMach
        cases rem <;> simp only [classImpl, wrappedBuild, ctorStore, Contract.construct, hl, Bool.false_eq_true, if_false,
          if_true] <;> cases bind c.sig args kw <;> first | rfl | exact ⟨rfl, fun _ => rfl⟩
      exact relE_imp this fun o _ e h => ⟨h.1, h.2, ib args kw o e⟩
    apply := fun o a x ho => by
      unfold specMach
      simp only [Flavour.toMach, classImpl, classApply, Contract.usable, hl, Bool.not_false, Bool.true_or, if_true,
        show pget o.params = pget a.attrs from funext ho.2.1, ho.1]
      cases c.trains <;> cases a.state <;> rfl
    train := fun o a x y ho => by
      have : RelE (fun o' a' => Alike o' a' ∧ o'.params = o.params ∧ o'.ctor = o.ctor)
          ((classImpl u c rem rp).train o x y) ((specMach u c).train a x y) := by
        unfold specMach
        simp only [classImpl, Contract.usable, hl, Bool.not_false, Bool.true_or, if_true, show pget o.params = pget a.attrs from funext ho.2.1, ho.1]
        cases c.trains with
        | false => rfl
        | true => exact ⟨⟨rfl, ho.2.1⟩, rfl, rfl⟩
      exact relE_imp this fun o' _ e h =>
        ⟨h.1.1, h.1.2, it o o' x y ho.2.2 e ((congrArg (accepts c.sig) h.2.1).trans (hacc o ho.2.2)) h.2.2⟩
    getState := fun o a ho => by
      refine ⟨ho, ?_⟩
      show LiveRb fs (dictGetState c.trains o) _
      unfold specMach
      cases c.trains with
      | false => trivial
      | true => simp only [hcar]; exact ⟨hfs, ho.1, ho.2.1, hsig ▸ hacc o ho.2.2⟩
    setState := fun o a b sb ho hb => by
      have hoacc := hacc o ho.2.2
      have hbacc : ∀ p st, b = some (.whole p st) → accepts c.sig p = true :=
        fun p st e => hsig ▸ liveRb_accepts hfs hb p st e
      have : RelE (fun o' a' => Alike o' a' ∧ accepts c.sig o'.params = true ∧ o'.ctor = o.ctor)
          ((classImpl u c rem rp).setState o b) ((specMach u c).setState a sb) := by
        cases hpr : c.protects with
        | true =>
          simp only [classImpl, hpr, if_true]
          cases hb.cases with
          | empty => exact ⟨⟨ho.1, ho.2.1⟩, hoacc, rfl⟩
          | @dict p p' st _ hp hpacc =>
            unfold specMach
            cases c.trains with
            | false => rfl
            | true =>
              rw [dictSetState_whole c.sig o p st hoacc]
              simp only [hpr, hcar, if_true]
              refine ⟨⟨rfl, fun k => ?_⟩, accepts_pupdate c.sig _ _ (hsig ▸ hpacc) (accepts_reported c.sig o hoacc), rfl⟩
              simp only [overlay, pget_pupdate, pget_reported, pget_pfilter, ho.2.1 k, hp k]
          | foreignValue => unfold specMach; cases c.trains <;> rfl
          | value hc | foreignDict hc => exact absurd (hfs.symm.trans hc) (by decide)
        | false =>
          simp only [classImpl, hpr, Bool.false_eq_true, if_false]
          cases hb.cases with
          | empty => exact ⟨⟨ho.1, ho.2.1⟩, hoacc, rfl⟩
          | dict _ hp hpacc =>
            unfold specMach
            simp only [hpr, hpro hpr, hcar, Bool.false_eq_true, if_false, if_true]
            exact ⟨⟨rfl, hp⟩, hsig ▸ hpacc, rfl⟩
          | foreignValue => unfold specMach; simp only [hpro hpr]; rfl
          | value hc | foreignDict hc => exact absurd (hfs.symm.trans hc) (by decide)
      exact relE_imp this fun o' _ e h => ⟨h.1.1, h.1.2, is o o' b ho.2.2 hbacc e h.2.1 h.2.2⟩
    look := fun _ _ h => h
    refl := fun _ _ => rfl
    getParams := fun o a ho k => by
      unfold specMach
      simp only [Flavour.toMach, classImpl, Contract.reports, hl, Bool.false_eq_true, if_false, pget_reported,
        pget_pfilter, ho.2.1 k]
    setParams := fun o a kw1 kw2 ho hk => by
      have : RelE Alike (storeParams c.sig o kw1) ((specMach u c).setParams a kw2) := by
        unfold specMach
        simp only [storeParams, hl, Bool.false_or, settable_congr c.sig kw1 kw2 hk]
        cases settable c.sig kw2 with
        | false => rfl
        | true => exact ⟨ho.1, fun k => by simp only [pget_pupdate, ho.2.1 k, hk k]⟩
      exact relE_imp this fun o' _ e h => ⟨h.1, h.2, ip o o' kw1 ho.2.2 e⟩
    repickle := fun o a ho => by
      obtain ⟨o', h1, h2, h3⟩ := ir o ho.2.2
      show RelE _ (rp o) (.ok a)
      rw [show rp o = .ok o' from h1]
      exact ⟨h2.1.trans ho.1, fun k => (h2.2 k).trans (ho.2.1 k), h3⟩
    empty := trivial
    isEmpty := isEmpty_rel _
    foreign := hfs }

private theorem live_sim_decorated [Inhabited σ] (u : User σ) (s : Sig) (p : Bool) :
    Sim (FlavourSpec.toMach u (.decorated s p)) (specMach u (FlavourSpec.decorated s p).contract)
      (LiveRo (.decorated s p)) (LiveRb (.decorated s p)) SameContent where
  specSig := rfl
  isStateful := rfl
  build := fun args kw => by
    unfold FlavourSpec.toMach Flavour.toMach FlavourSpec.toFlavour decorated specMach FlavourSpec.contract
    simp only [Contract.construct, if_true]
    cases args.isEmpty with
    | false => rfl
    | true =>
      simp only [Bool.not_true, Bool.false_eq_true, if_false]
      cases bind { s with anon := 0 } [] kw with
      | error e => rfl
      | ok b => exact ⟨rfl, fun _ => rfl, trivial⟩
  apply := fun o a x ho => by
    have hf : pget o.params = pget a.attrs := funext ho.2.1
    unfold FlavourSpec.toMach Flavour.toMach FlavourSpec.toFlavour decorated specMach FlavourSpec.contract
    simp only [Contract.usable, Bool.not_true, Bool.false_or, hf, accepts_congr s o.params a.attrs ho.2.1, ho.1]
    cases p <;> cases a.state <;> rfl
  train := fun o a x y ho => by
    have hf : pget o.params = pget a.attrs := funext ho.2.1
    unfold FlavourSpec.toMach Flavour.toMach FlavourSpec.toFlavour decorated specMach FlavourSpec.contract
    simp only [Contract.usable, Bool.not_true, Bool.false_or, hf, accepts_congr s o.params a.attrs ho.2.1, ho.1]
    cases p with
    | false => rfl
    | true =>
      cases accepts s a.attrs with
      | false => rfl
      | true => exact ⟨rfl, ho.2.1, trivial⟩
  getState := fun o a ho => by
    refine ⟨ho, ?_⟩
    unfold FlavourSpec.toMach Flavour.toMach FlavourSpec.toFlavour decorated specMach FlavourSpec.contract
    simp only [← ho.1]
    cases p with
    | false => trivial
    | true =>
      cases o.state with
      | none => trivial
      | some v => exact ⟨rfl, rfl⟩
  setState := fun o a b sb ho hb => by
    cases hb.cases with
    | empty => cases p <;> exact ho
    | value =>
      cases p with
      | false => rfl
      | true => exact ⟨rfl, ho.2.1, trivial⟩
    | foreignDict => cases p <;> rfl
    | dict hc | foreignValue hc => exact Bool.noConfusion hc
  look := fun _ _ h => h
  refl := fun _ _ => rfl
  getParams := fun _ _ ho => ho.2.1
  setParams := fun o a kw1 kw2 ho hk =>
    ⟨ho.1, fun k => by simp only [pget_pupdate, ho.2.1 k, hk k], trivial⟩
  repickle := fun _ _ ho => ho
  empty := trivial
  isEmpty := isEmpty_rel _
  foreign := rfl

theorem C13_live_sim [Inhabited σ] (u : User σ) (fs : FlavourSpec) (hwf : fs.sig.wf = true) :
    Sim (fs.toMach u) (specMach u fs.contract) (LiveRo fs) (LiveRb fs) SameContent := by
  cases fs with
  | native s t =>
    exact class_sim u _ rfl rfl (fun h => Bool.noConfusion h) (.native s t) rfl rfl (native_class u s t) _ (fun _ h => h)
      (ib := ctorStore_accepts s hwf)
      (it := fun _ _ _ _ _ _ h _ => h)
      (ip := fun _ _ _ h e => storeParams_accepts h e)
      (is := fun _ _ _ _ _ _ h _ => h)
      (ir := fun o h => ⟨o, rfl, ⟨rfl, fun _ => rfl⟩, h⟩)
  | custom s =>
    exact class_sim u _ rfl rfl (fun _ => rfl) (.custom s) rfl rfl (custom_class u s) _ (fun _ h => h)
      (ib := ctorStore_accepts s hwf)
      (it := fun _ _ _ _ _ _ h _ => h)
      (ip := fun _ _ _ h e => storeParams_accepts h e)
      (is := fun _ _ _ _ _ _ h _ => h)
      (ir := fun o h => ⟨o, rfl, ⟨rfl, fun _ => rfl⟩, h⟩)
  | decorated s p => exact live_sim_decorated u s p
  | wrapped s tm =>
    have hi := C13_wrapped_invariant u s tm hwf
    exact class_sim u _ rfl rfl (fun h => Bool.noConfusion h) (.wrapped s tm) rfl rfl (wrapped_class u s tm) _
      (fun _ h => h.accepts)
      (ib := hi.1)
      (it := fun o o' x y h e _ _ => hi.2.1 o o' x y h e)
      (ip := hi.2.2.1)
      (is := fun _ _ _ h hb e _ _ => wrappedInv_setState s tm h hb e)
      (ir := fun o h => (C13_pickle_wrapped u s tm o hwf h).imp fun _ h => ⟨h.1, h.2.1, h.2.2.2⟩)

/-- **Refinement, for all operation sequences.**  For every flavour, every user code, every
signature: whatever sequence of operations a program performs on one actor definition -- on builders,
on any number of live instances, on any number of exported states, through the actor API, through
pickling and through the platform -- every observation is the one the contract machine
"(attributes, logical state)" gives. -/
theorem C13_live_refines [Inhabited σ] (u : User σ) (fs : FlavourSpec) (hwf : fs.sig.wf = true) (ops : List MOp) :
    observe (fs.toMach u) ops = observe (specMach u fs.contract) ops :=
  sim_observe (C13_live_sim u fs hwf) ops

/-- … and it continues to hold from every pair of related worlds (e.g. in the middle of a program) -/
theorem C13_live_refines_from [Inhabited σ] (u : User σ) (fs : FlavourSpec) (hwf : fs.sig.wf = true) (ops : List MOp)
    (w : World (Obj σ) (Blob σ)) (sw : World (SAct σ) (SBlob σ)) (h : RelW (LiveRo fs) (LiveRb fs) w sw) :
    (runW (fs.toMach u) w ops).2 = (runW (specMach u fs.contract) sw ops).2 ∧
    RelW (LiveRo fs) (LiveRb fs) (runW (fs.toMach u) w ops).1 (runW (specMach u fs.contract) sw ops).1 :=
  sim_run (C13_live_sim u fs hwf) ops h

private theorem mget_eq_lookup (m : WMapping) (k : Nat) : mget m k = m.lookup k := by
  induction m with
  | nil => rfl
  | cons kv r ih =>
    obtain ⟨k', t⟩ := kv
    by_cases h : k' = k
    · simp [mget, h]
    · simp [mget, h, List.lookup_cons, beq_false_of_ne (Ne.symm h), ih]

private theorem mget_append (m1 m2 : WMapping) (k : Nat) :
    mget (m1 ++ m2) k = match mget m1 k with
      | some t => some t
      | none => mget m2 k := by
  simp only [mget_eq_lookup, List.lookup_append]
  cases m1.lookup k <;> rfl

private theorem mget_msetdefault (m : WMapping) (k : Nat) (t : Target) (k' : Nat) :
    mget (msetdefault m k t) k' = match mget m k' with
      | some x => some x
      | none => if k = k' then some t else none := by
  unfold msetdefault
  cases hk : mget m k with
  | some x =>
    simp only
    cases hk' : mget m k' with
    | some y => rfl
    | none =>
      by_cases h : k = k'
      · subst h; rw [hk] at hk'; cases hk'
      · simp [h]
  | none =>
    simp only [mget_append, mget]

private theorem mget_mem (m : WMapping) (k : Nat) (t : Target) (h : mget m k = some t) : (k, t) ∈ m :=
  mem_of_lookup (mget_eq_lookup m k ▸ h)

private theorem mget_defaults (names : List Nat) (g : WMapping) (k : Nat) :
    mget (names.foldl (fun m n => msetdefault m n (.name n)) g) k =
      match mget g k with
      | some t => some t
      | none => if k ∈ names then some (.name k) else none := by
  induction names generalizing g with
  | nil =>
    rw [List.foldl_nil]
    cases mget g k <;> simp
  | cons n r ih =>
    rw [List.foldl_cons, ih, mget_msetdefault]
    cases mget g k with
    | some t => rfl
    | none =>
      by_cases h : n = k
      · subst h; simp
      · simp [h, Ne.symm h]

private theorem has_of_callable {o : OriginDef} {n : Nat} (h : o.callable n = true) : o.has n = true := by
  unfold OriginDef.has
  rw [show o.methods.contains n = true from h]
  rfl

private theorem classNew_ok (o : OriginDef) (g m : WMapping) (h : classNew o g = .ok m) :
    m = Wrap.apiNames.foldl (fun m n => msetdefault m n (.name n)) g ∧
      g.any (fun kv => kv.2 == .invalid) = false ∧ m.all (targetOk o) = true := by
  unfold classNew at h
  split at h
  · cases h
  · split at h
    · cases h
    · rename_i hinv
      dsimp only at h
      split at h
      · rename_i hall
        cases h
        exact ⟨rfl, Bool.eq_false_iff.2 hinv, hall⟩
      · cases h

/-- **`Class.__new__` completes and validates the mapping**: when a definition is accepted, each of the
four Actor methods has a target that is a name or a callable; what the user gave is kept; a method the
user did not map goes to the origin's method of the same name; and every name target of a method other
than `train` is a callable attribute of the origin. -/
theorem C13_classnew_complete (o : OriginDef) (g m : WMapping) (h : classNew o g = .ok m) :
    (∀ n, n ∈ Wrap.apiNames → ∃ t, mget m n = some t ∧ t ≠ .invalid) ∧
    (∀ k t, mget g k = some t → mget m k = some t) ∧
    (∀ k, mget g k = none → k ∈ Wrap.apiNames → mget m k = some (.name k)) ∧
    (∀ k n, k ≠ Wrap.train → mget m k = some (.name n) → o.callable n = true) := by
  obtain ⟨hm, hinv, hall⟩ := classNew_ok o g m h
  subst hm
  refine ⟨fun n hn => ?_, fun k t hk => ?_, fun k hk hapi => ?_, fun k n hk hm => ?_⟩
  · rw [mget_defaults]
    cases hg : mget g n with
    | some t =>
      refine ⟨t, rfl, fun hti => ?_⟩
      have := List.any_eq_false.1 hinv _ (mget_mem g n t hg)
      simp [hti] at this
    | none => exact ⟨.name n, if_pos hn, Target.noConfusion⟩
  · rw [mget_defaults, hk]
  · rw [mget_defaults, hk]; exact if_pos hapi
  · have := List.all_eq_true.1 hall _ (mget_mem _ _ _ hm)
    simp only [targetOk, Bool.or_eq_true, beq_iff_eq] at this
    rcases this with h1 | h1
    · exact absurd h1 hk
    · exact h1

/-- **The Actor API of an accepted definition is always implemented by the mapping**: `apply`,
`get_params`, `set_params` resolve to the mapped callable applied to the origin or to a callable method
of the origin -- never to the wrapper's own (abstract / default) method, never to a missing attribute. -/
theorem C13_getattribute_api (o : OriginDef) (g m : WMapping) (h : classNew o g = .ok m) (n : Nat)
    (hn : n = Wrap.apply ∨ n = Wrap.getParams ∨ n = Wrap.setParams) :
    getattribute m o n = .decorated n ∨ ∃ t, getattribute m o n = .originAttr t ∧ o.callable t = true := by
  obtain ⟨hapi, _, _, hcall⟩ := C13_classnew_complete o g m h
  have hmem : n ∈ Wrap.apiNames := by rcases hn with h | h | h <;> subst h <;> decide
  have hnt : n ≠ Wrap.train := by rcases hn with h | h | h <;> subst h <;> decide
  have hres : Wrap.reserved.contains n = false := by rcases hn with h | h | h <;> subst h <;> decide
  obtain ⟨t, ht, hti⟩ := hapi n hmem
  unfold getattribute
  simp only [hres, Bool.false_eq_true, if_false, ht]
  cases t with
  | fn => exact Or.inl rfl
  | invalid => exact absurd rfl hti
  | name x =>
    have hc := hcall n x hnt ht
    have hh := has_of_callable hc
    simp only [hh, if_true]
    exact Or.inr ⟨x, rfl, hc⟩

/-- **`train` and `is_stateful`**: `is_stateful()` is true exactly when the `train` target resolves to
something callable (`TrainMap.stateful` of what the mapping resolves to), and `actor.train` is then that
callable; with a non-callable attribute it is that attribute (calling it raises `TypeError`), with a
missing one the access raises `AttributeError` -- the four cases the `wrapped` flavour is written for. -/
theorem C13_wrapped_train_resolution (o : OriginDef) (g m : WMapping) (h : classNew o g = .ok m) :
    isStatefulW m o = (trainMapOf m o).stateful ∧ (trainMapOf m o).stateful = (trainMapOf m o).trains ∧
    (match trainMapOf m o with
      | .callable => getattribute m o Wrap.train = .decorated Wrap.train
      | .method => ∃ n, getattribute m o Wrap.train = .originAttr n ∧ o.callable n = true
      | .noncallable => ∃ n, getattribute m o Wrap.train = .originAttr n ∧ o.callable n = false
      | .absent => ∃ n, getattribute m o Wrap.train = .missing n) := by
  obtain ⟨hapi, _, _, _⟩ := C13_classnew_complete o g m h
  obtain ⟨t, ht, hti⟩ := hapi Wrap.train (by decide)
  have hres : Wrap.reserved.contains Wrap.train = false := by decide
  refine ⟨?_, by cases trainMapOf m o <;> rfl, ?_⟩
  · unfold isStatefulW trainMapOf
    rw [ht]
    cases t with
    | fn => rfl
    | invalid => exact absurd rfl hti
    | name x => cases hc : o.callable x <;> cases hh : o.has x <;> simp [TrainMap.stateful, hc, hh]
  · unfold trainMapOf getattribute
    simp only [hres, Bool.false_eq_true, if_false, ht]
    cases t with
    | fn => rfl
    | invalid => exact absurd rfl hti
    | name x =>
      cases hc : o.callable x with
      | true =>
        have hh := has_of_callable hc
        simp only [hc, if_true, hh]; exact ⟨x, rfl, hc⟩
      | false =>
        cases hh : o.has x with
        | true => simp only [hc, hh, Bool.false_eq_true, if_false, if_true]; exact ⟨x, rfl, hc⟩
        | false => simp only [hc, hh, Bool.false_eq_true, if_false]; exact ⟨x, rfl⟩

/-- **Redirection of everything else**: the wrapper's four own attributes are never redirected; the
instance `__dict__` (what `flow.Actor.get_state/set_state` pickle and update) is the ORIGIN's; and
`get_state`/`set_state` themselves are `flow.Actor`'s unless the origin defines them -- then the
redirection hands out the origin's (`ownsState`, flavour `wrappedOwn`). -/
theorem C13_getattribute_redirection (o : OriginDef) (m : WMapping) :
    (∀ r, r ∈ Wrap.reserved → getattribute m o r = .own) ∧
    (mget m Wrap.dict = none → getattribute m o Wrap.dict = .originAttr Wrap.dict) ∧
    (∀ n, n = Wrap.getState ∨ n = Wrap.setState → mget m n = none →
      getattribute m o n = if o.has n then .originAttr n else .own) := by
  refine ⟨fun r hr => ?_, fun hd => ?_, fun n hn hm => ?_⟩
  · have : Wrap.reserved.contains r = true := by simpa using hr
    simp only [getattribute, this, if_true]
  · have hres : Wrap.reserved.contains Wrap.dict = false := by decide
    have hh : o.has Wrap.dict = true := by simp [OriginDef.has]
    simp only [getattribute, hres, Bool.false_eq_true, if_false, hd, hh, if_true]
  · have hres : Wrap.reserved.contains n = false := by rcases hn with h | h <;> subst h <;> decide
    simp only [getattribute, hres, Bool.false_eq_true, if_false, hm]

/-- the contract flags of `wrappedOwn` -/
def ownContract (s : Sig) (tm : TrainMap) : Contract :=
  { sig := s, anon := s.anon, trains := tm.trains,
    trainErr := (match tm with
      | .noncallable => .typeError
      | _ => .attributeError),
    carries := true, protects := false, late := false }

/-- `wrappedOwn` instance ~ contract instance, with what the reachable instances satisfy -/
def OwnRo (s : Sig) (o : Obj σ) (a : SAct σ) : Prop :=
  o.state = a.state ∧ (∀ k, pget o.params k = pget a.attrs k) ∧
    accepts s o.params = true ∧ ∃ o0 : Obj σ, ctorStore s o.ctor.1 o.ctor.2 = .ok o0

private theorem wrappedOwn_class (u : User σ) (s : Sig) (tm : TrainMap) (htr : tm.trains = true) :
    wrappedOwn u s tm = classImpl u (ownContract s tm) true (wrappedOwnRepickle s) := by
  cases tm <;> first | rfl | cases htr

/-- The exports are related as those of a native actor with its own state methods (`LiveRb (.custom s)`).  `htr`:
without a training implementation `wrappedOwn` still exports its dict while the contract exports the empty state. -/
theorem C13_wrapped_own_sim [Inhabited σ] (u : User σ) (s : Sig) (tm : TrainMap) (hwf : s.wf = true)
    (htr : tm.trains = true) :
    Sim ((wrappedOwn u s tm).toMach (some (.value default))) (specMach u (ownContract s tm))
      (OwnRo s) (LiveRb (.custom s)) SameContent :=
  class_sim u (ownContract s tm) rfl rfl (fun _ => htr) (.custom s) rfl rfl (wrappedOwn_class u s tm htr) _ (fun _ h => h.1)
    (ib := fun a kw o e => by
      obtain ⟨o1, h1, rfl⟩ := wrappedBuild_ok s a kw o e
      exact ⟨ctorStore_accepts s hwf a kw o1 h1, o1, h1⟩)
    (it := fun _ _ _ _ hi _ h hc => ⟨h, hc ▸ hi.2⟩)
    (ip := fun _ _ _ hi e => ⟨storeParams_accepts hi.1 e, (storeParams_ok e).2 ▸ hi.2⟩)
    (is := fun _ _ _ hi _ _ h hc => ⟨h, hc ▸ hi.2⟩)
    (ir := fun o hi => by
      obtain ⟨o0, h0⟩ := hi.2
      refine ⟨⟨pupdate o.params (reported s o), o.state, (o.ctor.1, o.ctor.2)⟩, ?_,
        ⟨rfl, pget_pupdate_reported s o o.params (fun _ _ => rfl) (fun _ _ h => h)⟩,
        accepts_pupdate s _ _ hi.1 (accepts_reported s o hi.1), o0, h0⟩
      show wrappedOwnRepickle s o = _
      rw [wrappedOwnRepickle, wrappedBuild_of s _ _ o0 h0]
      exact storeParams_reported s _ o hi.1)

/-- **A class-wrapped actor whose origin brings its own state methods** and which has a training
implementation (`htr`; without one nothing is claimed): for all operation sequences it is
the contract machine of an actor with user-written state methods (a direct `set_state` takes everything
from the state; the platform's preset and the pickle reducer keep the hyper-parameters). -/
theorem C13_wrapped_own_refines [Inhabited σ] (u : User σ) (s : Sig) (tm : TrainMap) (hwf : s.wf = true)
    (htr : tm.trains = true) (ops : List MOp) :
    observe ((wrappedOwn u s tm).toMach (some (.value default))) ops = observe (specMach u (ownContract s tm)) ops :=
  sim_observe (C13_wrapped_own_sim u s tm hwf htr) ops

/-- **A memo that every mutating operation drops is invisible** (harmless refactoring): wrapped around
any flavour, for every operation sequence the observations are still the contract's. -/
theorem C13_memo_sound [Inhabited σ] (u : User σ) (fs : FlavourSpec) (hwf : fs.sig.wf = true) (ops : List MOp) :
    observe (memoMach (fs.toMach u) Policy.sound) ops = observe (specMach u fs.contract) ops :=
  (sim_observe (memo_sim (fs.toMach u) Policy.sound (fun _ => rfl) rfl rfl (Or.inl rfl) (Or.inl rfl)) ops).trans
    (C13_live_refines u fs hwf ops)

/-- Function-based actors export the bare state value: dropping the memo on `train` **and `set_state`**
is enough (the bytes cannot change through `set_params` or pickling). -/
theorem C13_memo_decorated_state_only_sound [Inhabited σ] (u : User σ) (s : Sig) (p : Bool) (ops : List MOp) :
    observe (memoMach ((FlavourSpec.decorated s p).toMach u) Policy.stateOnly) ops
      = observe (specMach u (FlavourSpec.decorated s p).contract) ops := by
  refine (sim_observe (memo_sim _ Policy.stateOnly (fun _ => rfl) rfl rfl (Or.inr ?_) (Or.inr ?_)) ops).trans
    (sim_observe (live_sim_decorated u s p) ops)
  · intro o kw o' h
    cases h; rfl
  · intro o o' h
    cases h; rfl

/-- checkpoint, train on, checkpoint, roll back to the first checkpoint, export, rebuild from the export -/
def rollbackOps : List MOp :=
  [.spec [] [(0, 2)], .build 0 [] [], .train 0 1 2, .getState 0 0, .train 0 3 4, .getState 0 1, .setState 0 0,
   .apply 0 5, .getState 0 2, .fapply 2 5]

/-- "serialise once per training" (only `train` drops the memo), full statement: refuted below -/
def C13_memo_per_training_full : Prop :=
  ∀ ops : List MOp,
    observe (memoMach ((FlavourSpec.decorated exKwSig true).toMach toyUser) Policy.perTraining) ops
      = observe (specMach toyUser (FlavourSpec.decorated exKwSig true).contract) ops

/-- after the roll-back the live actor answers from the first checkpoint (`apply 0 5`), but what it
exports is still the second checkpoint's bytes: the rebuilt actor answers differently (`fapply 2 5`) -/
theorem C13_memo_per_training_counterexample : ¬ C13_memo_per_training_full := by
  intro h
  have := congrArg (List.map Out.int?) (h rollbackOps)
  revert this
  decide +kernel

/-- the roll-back program on the contract machine: the live actor and the actor rebuilt from its export agree -/
example : (observe (specMach toyUser (FlavourSpec.decorated exKwSig true).contract) rollbackOps).map Out.int?
    = [none, none, none, none, none, none, none, some 43, none, some 43] := by decide +kernel

/-- … on the model of the code that exists as well … -/
example : (observe ((FlavourSpec.decorated exKwSig true).toMach toyUser) rollbackOps).map Out.int?
    = [none, none, none, none, none, none, none, some 43, none, some 43] := by decide +kernel

/-- … and with a per-training memo the export is stale -/
example : (observe (memoMach ((FlavourSpec.decorated exKwSig true).toMach toyUser) Policy.perTraining) rollbackOps).map Out.int?
    = [none, none, none, none, none, none, none, some 43, none, some 109] := by decide +kernel

/-- `wrap.Actor.type(Origin, apply='predict', train='fit')` over an origin with `get_params set_params predict fit`
is accepted, completed with `get_params`/`set_params`, trains through the origin's method; the same origin with an
own `apply`/`train` (decoys) changes nothing; an origin with `get_state`/`set_state` owns its state -/
example :
    (classNew { methods := [2, 3, 4, 5] } [(0, .name 4), (1, .name 5)]).toOption
      = some [(0, .name 4), (1, .name 5), (2, .name 2), (3, .name 3)] ∧
    wrapDef { methods := [2, 3, 4, 5] } [(0, .name 4), (1, .name 5)] = .plain .method ∧
    wrapDef { methods := [0, 1, 2, 3, 4, 5] } [(0, .name 4), (1, .name 5)] = .plain .method ∧
    getattribute [(0, .name 4), (1, .name 5), (2, .name 2), (3, .name 3)] { methods := [0, 1, 2, 3, 4, 5] } 0 = .originAttr 4 ∧
    wrapDef { methods := [2, 3, 4, 5, 8, 9] } [(0, .name 4), (1, .fn)] = .own .callable ∧
    wrapDef { methods := [2, 3, 4], flags := [5] } [(0, .name 4), (1, .name 5)] = .plain .noncallable ∧
    wrapDef { methods := [2, 3, 4, 5] } [(0, .name 15), (1, .name 5)] = .failed .typeError ∧
    wrapDef { methods := [3, 4, 5] } [(0, .name 4)] = .failed .typeError ∧
    wrapDef { methods := [2, 3, 4, 5] } [(0, .name 4), (1, .invalid)] = .failed .typeError ∧
    wrapDef { methods := [0, 2, 3], isActor := true } [] = .failed .assertionError := by decide +kernel

/-- an origin with its own state methods: a direct `set_state` takes the state's `a=2`, the preset and the pickle
reducer keep the receiver's `a=5` -/
example : (observe ((wrappedOwn toyUser exSig .method).toMach (some (.value 0)))
      [.spec [] [(0, 2)], .build 0 [] [], .train 0 1 2, .getState 0 0, .update [] [(0, 5)], .build 1 [] [], .setState 1 0,
       .apply 1 1, .build 2 [] [], .preset 2 0, .apply 2 1, .pickle 2, .apply 2 1]).map Out.int?
    = [none, none, none, none, none, none, none, some 35, none, none, some 38, none, some 38] := by decide +kernel

/-- a native actor: transfer into a differently parameterised receiver, pickling, re-export -/
example : (observe ((FlavourSpec.native exSig true).toMach toyUser)
      [.spec [] [(0, 2)], .build 0 [] [], .train 0 1 2, .getState 0 0, .update [] [(0, 3)], .build 1 [] [], .setState 1 0,
       .apply 1 5, .pickle 1, .getState 1 1, .fapply 1 5, .params 1]).map Out.int?
    = [none, none, none, none, none, none, none, some 48, none, none, some 48, none] := by decide +kernel

end ForML.Actor
