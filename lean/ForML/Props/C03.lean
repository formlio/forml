/-
C03 — Operator composition realises train/apply coherence for every expression.

Reading of the statement in the model (`Model/Compose.lean` = the compose methods of the operator library over the
graph-with-holes API, `Model/Denote.lean` = the documentation's coherence rule):

  for every expression `e` the library accepts, expanding `e` from the empty graph succeeds, and evaluating the
  three tails of the resulting trunk (holes = the source's outputs) and the inputs of every trainer yields exactly
  `⟦e⟧`: train-mode output, apply-mode output, label output and the list of `(actor, state)` trained — where a
  state is `state a _ features labels` with `features`/`labels` the values of the train/label path preceding the
  actor, the train-mode output applies the freshly trained actor and the apply-mode output applies the same actors
  (same groups, hence those very states) in the same order.

Proof architecture (Lemmas/C03*.lean): a *certified valuation* (`World`, `Inv`) assigns a value and a rank to every
evaluable node such that each node's local constraint holds; the fuel-indexed evaluator agrees with it
(`eval_live`); every construction step extends the valuation (`Spec`), a hole is bound by adding the constraint of
that hole only; `Spec` quantifies over the start graph, so a scope may be expanded any number of times.

What is proved:  `C03_coherence : C03_coherence_full`, by structural induction over every expression the library accepts.
The induction hypothesis is `Spec True`: the graph an expression composes is certified *and* its apply path is a copyable
region (`reg`/`regTail`/`sep`/`closed` of `TrunkOk`: closed under inputs, separated from the train and label paths,
evaluable), which is what `Segment.copy` of an enclosing ensemble consumes; `spec_stack` (`Lemmas/C03Stack.lean`)
re-establishes it for the ensemble's own graph, whose apply side `Lemmas/C03Areg.lean` tracks through the loops.
-/
import ForML.Lemmas.C03WrapSpec
import ForML.Lemmas.C03MapReduce
import ForML.Lemmas.C03Stack
import ForML.Lemmas.C03Api

namespace ForML.Compose

mutual
  /-- an expression the operator library accepts: `payload.Dump`'s train-mode actor is trained, hence stateful
  (`Worker.train` refuses a stateless actor with a TopologyError — see `C03_debug_stateless_refused`),
  `payload.MapReduce` has at least one mapper (its constructor raises `ValueError('Mappers required')` otherwise) and
  `ensemble.FullStack` has at least one base (`ValueError('Base models required')`), at least two folds
  (`ValueError('At least 2 splits required')`) and acceptable bases -/
  def Expr.trainable : Expr → Bool
    | .seq l r => l.trainable && r.trainable
    | .debug _ t => t.stateful
    | .wrap .. => true
    | .mapreduce ms _ => !ms.isEmpty
    | .stack bases n _ _ _ _ => !bases.isEmpty && decide (2 ≤ n) && Expr.trainableAll bases
    | .api (.monitor a) => a.stateful
    | .api _ => true

  def Expr.trainableAll : List Expr → Bool
    | [] => true
    | b :: bs => b.trainable && Expr.trainableAll bs
end

def Expr.stackFree : Expr → Bool
  | .seq l r => l.stackFree && r.stackFree
  | .stack .. => false
  | .debug .. => true
  | .wrap .. => true
  | .mapreduce .. => true
  | .api .. => true

def Expr.isStack : Expr → Bool
  | .stack .. => true
  | _ => false

/-- the shallow fragment: no stacking ensemble inside the bases or the scope of another one (the hypothesis of
`C03_coherence_partial`).  (The scope handed to `r` by `l >> r` is `l`, unless `r` is itself a `>>`, which expands its
own left side.) -/
def Expr.shallow : Expr → Bool
  | .seq l r => l.shallow && r.shallow && (l.stackFree || !r.isStack)
  | .stack bases .. => bases.all Expr.stackFree
  | .debug .. => true
  | .wrap .. => true
  | .mapreduce .. => true
  | .api .. => true

/-- the graphs composed for `e` evaluate to the denotation of `e` -/
def Coherent (e : Expr) : Prop :=
  ∃ o, run e = .ok o ∧
    o.train = some (denote e (.input 0) (.input 1) (.input 2)).train ∧
    o.apply = some (denote e (.input 0) (.input 1) (.input 2)).apply ∧
    o.label = some (denote e (.input 0) (.input 1) (.input 2)).label ∧
    o.states = some (denote e (.input 0) (.input 1) (.input 2)).states

/-- **C03 at full strength**: every expression (any nesting, any scoping, every operator family). -/
def C03_coherence_full : Prop := ∀ e : Expr, e.trainable = true → Coherent e

private theorem inv_empty : Inv {} World.empty := by
  refine ⟨Bounded.empty.nodesLt, Bounded.empty.gidsLt, Bounded.empty.edgesLt, Bounded.empty.trainsLt, ?_, ?_⟩
  · intro n h; exact absurd h id
  · intro n h; exact absurd h id

private theorem sem_eta (t : Sem) : (⟨t.apply, t.train, t.label, [] ++ t.states⟩ : Sem) = t := by
  cases t; simp

private theorem denoteC_seq_origin (l r : Expr) :
    denoteC (.seq l r) Scope.origin = denoteC r (denoteC l Scope.origin) := by
  funext xa xt xl
  rw [denoteC]
  exact sem_eta _

private theorem spec_seqOf {full : Prop} {l r : Expr}
    (hm : Spec full (compose r (expand l)) (denoteC r (denoteC l Scope.origin))) :
    (∀ (scope : GraphM Trunk) (S : Scope), Spec full scope S → Spec full (compose (.seq l r) scope) (denoteC (.seq l r) S)) ∧
      Spec full (expand (.seq l r)) (denoteC (.seq l r) Scope.origin) := by
  refine ⟨fun scope S hs => ?_, ?_⟩
  · rw [compose]
    have : denoteC (.seq l r) S = seqSem S (denoteC r (denoteC l Scope.origin)) := by
      rw [denoteC]; rfl
    rw [this]
    exact spec_seq hs hm
  · rw [expand, denoteC_seq_origin]
    exact hm


/-- every stack-free expression realises its denotation: composed onto any scope (`compose`) and expanded on its own
(`expand`), at either certification level (`full = True`: the graph built is moreover a copyable region).
Structural induction; `>>` expands its right side with the left side as *its* scope. -/
private theorem realisesSF : ∀ (e : Expr), e.stackFree = true → e.trainable = true → ∀ (full : Prop),
    (∀ (scope : GraphM Trunk) (S : Scope), Spec full scope S → Spec full (compose e scope) (denoteC e S)) ∧
      Spec full (expand e) (denoteC e Scope.origin)
  | .wrap lab app trn, _, _, full => by
    refine ⟨fun scope S hs => ?_, ?_⟩
    · rw [compose, denoteC]; exact spec_wrap hs lab app trn
    · rw [expand, denoteC]; exact spec_wrap spec_new lab app trn
  | .mapreduce ms red, _, htr, full => by
    have hms : ms ≠ [] := by
      intro e; subst e; simp [Expr.trainable] at htr
    refine ⟨fun scope S hs => ?_, ?_⟩
    · rw [compose, denoteC]; exact spec_mapreduce hs ms hms red
    · rw [expand, denoteC]; exact spec_mapreduce spec_new ms hms red
  | .debug a t, _, ht, full => by
    have ht' : t.stateful = true := by simpa [Expr.trainable] using ht
    refine ⟨fun scope S hs => ?_, ?_⟩
    · rw [compose, denoteC]; exact spec_debug hs a t ht'
    · rw [expand, denoteC]; exact spec_debug spec_new a t ht'
  | .seq l r, hsf, htr, full => by
    have hsf' : l.stackFree = true ∧ r.stackFree = true := by simpa [Expr.stackFree] using hsf
    have htr' : l.trainable = true ∧ r.trainable = true := by simpa [Expr.trainable] using htr
    exact spec_seqOf ((realisesSF r hsf'.2 htr'.2 full).1 _ _ (realisesSF l hsf'.1 htr'.1 full).2)
  | .api op, _, htr, full => by
    have hop : ∀ a, op = .monitor a → a.stateful = true := by
      intro a e; subst e; simpa [Expr.trainable] using htr
    refine ⟨fun scope S hs => ?_, ?_⟩
    · rw [compose, denoteC]; exact spec_api hs op hop
    · rw [expand, denoteC]; exact spec_api spec_new op hop
  | .stack .., hsf, _, _ => by simp [Expr.stackFree] at hsf

private theorem shallow_of_stackFree : ∀ (e : Expr), e.stackFree = true → e.shallow = true
  | .wrap .., _ => rfl
  | .mapreduce .., _ => rfl
  | .debug .., _ => rfl
  | .api .., _ => rfl
  | .stack .., h => by simp [Expr.stackFree] at h
  | .seq l r, h => by
    have h' : l.stackFree = true ∧ r.stackFree = true := by simpa [Expr.stackFree] using h
    simp [Expr.shallow, shallow_of_stackFree l h'.1, shallow_of_stackFree r h'.2, h'.1]

private theorem expandAll_ne_nil : ∀ (bases : List Expr), bases ≠ [] → expandAll bases ≠ []
  | [], h => absurd rfl h
  | b :: bs, _ => by simp [expandAll]

private theorem spec_stackAll {bases : List Expr} (hne : bases ≠ [])
    (hp : ∃ pairs : List (GraphM Trunk × Scope), pairs.map (·.1) = expandAll bases ∧ pairs.map (·.2) = denoteAll bases ∧
      ∀ p ∈ pairs, Spec True p.1 p.2 ∧ p.2.Indep)
    (n sp ap st rd : Nat) (hn : 0 < n) {scope : GraphM Trunk} {S : Scope} (hs : Spec True scope S) (hS : S.Indep) :
    Spec True (composeStack (expandAll bases) n sp ap st rd scope) (denoteStack (denoteAll bases) n sp ap st rd S) := by
  obtain ⟨pairs, h1, h2, h3⟩ := hp
  rw [← h1, ← h2]
  refine spec_stack hs hS pairs h3 (fun e => ?_) n sp ap st rd hn
  have := expandAll_ne_nil bases hne
  rw [← h1, e] at this
  exact this rfl

mutual
  /-- **every** accepted expression realises its denotation as a copyable region: composed onto any copyable,
  input-independent certified scope (`compose`; the scope may be expanded any number of times), and expanded on its own
  (`expand`).  Structural induction; `>>` expands its right side with the left side as *its* scope; the stacking
  ensemble consumes the region certificates of its scope and of its base models (`Segment.copy`) and re-establishes one
  for its own graph (`spec_stack`). -/
  private theorem realises : ∀ (e : Expr), e.trainable = true →
      (∀ (scope : GraphM Trunk) (S : Scope), Spec True scope S → S.Indep → Spec True (compose e scope) (denoteC e S)) ∧
        Spec True (expand e) (denoteC e Scope.origin)
    | .wrap .., htr | .mapreduce .., htr | .debug .., htr | .api .., htr => by
      have h := realisesSF _ (by rfl) htr True
      exact ⟨fun scope S hs _ => h.1 scope S hs, h.2⟩
    | .stack bases n sp ap st rd, htr => by
      have htr' : (bases ≠ [] ∧ 2 ≤ n) ∧ Expr.trainableAll bases = true := by
        simpa [Expr.trainable] using htr
      have hp := realisesAll bases htr'.2
      have hn : 0 < n := by have := htr'.1.2; omega
      refine ⟨fun scope S hs hS => ?_, ?_⟩
      · rw [compose, denoteC]; exact spec_stackAll htr'.1.1 hp n sp ap st rd hn hs hS
      · rw [expand, denoteC]; exact spec_stackAll htr'.1.1 hp n sp ap st rd hn spec_new indep_origin
    | .seq l r, htr => by
      have htr' : l.trainable = true ∧ r.trainable = true := by simpa [Expr.trainable] using htr
      have h := spec_seqOf ((realises r htr'.2).1 _ _ (realises l htr'.1).2 (indep_denoteC l _ indep_origin))
      exact ⟨fun scope S hs _ => h.1 scope S hs, h.2⟩

  /-- the bases of a stacking ensemble, paired with their meanings: each one a copyable, input-independent region -/
  private theorem realisesAll : ∀ (bases : List Expr), Expr.trainableAll bases = true →
      ∃ pairs : List (GraphM Trunk × Scope), pairs.map (·.1) = expandAll bases ∧ pairs.map (·.2) = denoteAll bases ∧
        ∀ p ∈ pairs, Spec True p.1 p.2 ∧ p.2.Indep
    | [], _ => ⟨[], by simp [expandAll], by simp [denoteAll], fun p hp => by cases hp⟩
    | b :: bs, htr => by
      have htr' : b.trainable = true ∧ Expr.trainableAll bs = true := by simpa [Expr.trainableAll] using htr
      obtain ⟨pairs, h1, h2, h3⟩ := realisesAll bs htr'.2
      refine ⟨(expand b, denoteC b Scope.origin) :: pairs, by simp [expandAll, h1], by simp [denoteAll, h2], ?_⟩
      intro p hp
      rcases List.mem_cons.mp hp with e | hp
      · subst e
        exact ⟨(realises b htr'.1).2, indep_denoteC b _ indep_origin⟩
      · exact h3 p hp
end

/-- a certified trunk gives every open evaluable node it created — its three heads — the value an environment gives the
heads -/
private theorem TrunkOk.env {full : Prop} {g g' : Graph} {W W' : World} {t : Trunk} {xa xt xl : Val} {r : Nat} {s : Sem}
    (hok : TrunkOk full g g' W W' t xa xt xl r s) {ρ : Nat → Val} (ea : ρ t.apply.head = xa) (et : ρ t.train.head = xt)
    (el : ρ t.label.head = xl) : ∀ n, g.next ≤ n → W'.live n → g'.isOpen n → ∀ i, W'.σ ⟨n, i⟩ = ρ n := by
  intro n hn hl ho i
  rcases hok.opens n hn hl ho with h | h | h <;> subst h
  · rw [hok.ha.val i, ea]
  · rw [hok.ht.val i, et]
  · rw [hok.hl.val i, el]

section
variable {g : Graph} {W : World} (hi : Inv g W) {ρ : Nat → Val} (hρ : ∀ n, W.live n → g.isOpen n → ∀ i, W.σ ⟨n, i⟩ = ρ n)
include hi hρ

private theorem eval_tail {u : Nat} {v : Val} (h : W.live u ∧ W.σ ⟨u, 0⟩ = v) : eval g ρ g.fuel ⟨u, 0⟩ = some v :=
  (eval_live hi ρ hρ ⟨u, 0⟩ h.1).trans (congrArg some h.2)

private theorem trainedStates_live (ts : List Training) (hl : ∀ t ∈ ts, W.live t.train.node ∧ W.live t.label.node) :
    trainedStates g ρ g.fuel ts = some (ts.map (trainedUnder W)) := by
  unfold trainedStates
  apply mapM_eq_pure
  intro x hx
  rw [eval_live hi ρ hρ _ (hl x hx).1, eval_live hi ρ hρ _ (hl x hx).2]
  rfl

end

private theorem coherent_of_spec {e : Expr} (hspec : Spec True (expand e) (denoteC e Scope.origin)) : Coherent e := by
  obtain ⟨t, g', W', hrun, hok⟩ := hspec {} World.empty (.input 0) (.input 1) (.input 2) 0
    inv_empty Wired.empty (Nat.le_refl _)
  have hexp : expand e {} = .ok (t, g') := hrun
  obtain ⟨d1, d2, d3⟩ := hok.distinct
  -- the environment of the run gives the three heads the source's outputs, as the valuation does
  have hρ : ∀ n, W'.live n → g'.isOpen n → ∀ i, W'.σ ⟨n, i⟩ = inputs t n := fun n =>
    hok.env (by simp [inputs]) (by simp [inputs, d1.symm]) (by simp [inputs, d2.symm, d3.symm]) n (Nat.zero_le _)
  obtain ⟨ts, hts, hlive, hstates⟩ := hok.trains
  refine ⟨_, by unfold run; rw [hexp], eval_tail hok.inv hρ hok.tt, eval_tail hok.inv hρ hok.ta, eval_tail hok.inv hρ hok.tl, ?_⟩
  show trainedStates g' (inputs t) g'.fuel g'.trains = _
  rw [hts, show ({} : Graph).trains ++ ts = ts from rfl, trainedStates_live hok.inv hρ _ hlive, hstates]
  rfl

/-- the evaluator agrees with any certified valuation on every live port (the tool all coherence proofs use) -/
theorem C03_eval_certified {g : Graph} {W : World} (hi : Inv g W) (ρ : Nat → Val)
    (hρ : ∀ n, W.live n → g.isOpen n → ∀ i, W.σ ⟨n, i⟩ = ρ n) (p : PubRef) (hl : W.live p.node) :
    eval g ρ g.fuel p = some (W.σ p) := eval_live hi ρ hρ p hl

/-- **C03, coherence at full strength**: for every expression the operator library accepts — `wrap` operators in every
slot combination, `MapReduce`, debug operators, the stacking ensemble (also nested in the bases or in the scope of another
one, to any depth), the operators of `ApiOp` and `>>` in every nesting and explicit scoping — the composed train-mode
graph trains each stateful actor on exactly the features/labels the preceding path produces and passes on the output of the freshly trained actor;
the apply-mode graph applies the same actors with those states in the same order; i.e. `run e = ⟦e⟧`. -/
theorem C03_coherence : C03_coherence_full :=
  fun e htr => coherent_of_spec (realises e htr).2

/-- the shallow fragment (no ensemble in the bases or scope of another one): a corollary of `C03_coherence`; the
hypothesis `_hsh` is not needed -/
theorem C03_coherence_partial (e : Expr) (_hsh : e.shallow = true) (htr : e.trainable = true) : Coherent e :=
  C03_coherence e htr

/-- the same statement for an expression composed onto an arbitrary *certified* scope and start graph: whatever a
copyable, input-independent scope realises, `scope >> e`'s graphs realise `⟦e⟧` over it — and are a copyable region
again (this is the induction hypothesis made public: it is what lets a scope-wrapping operator expand its left side
several times, and what lets ensembles nest). -/
theorem C03_compose_realises (e : Expr) (htr : e.trainable = true)
    (scope : GraphM Trunk) (S : Scope) (hs : Spec True scope S) (hS : S.Indep) : Spec True (compose e scope) (denoteC e S) :=
  (realises e htr).1 scope S hs hS

/-- … and expanded on its own (`Operator.expand() = compose(Origin())`, `Compound.expand`): what `flow.Composition`
puts behind the source -/
theorem C03_expand_realises (e : Expr) (htr : e.trainable = true) : Spec True (expand e) (denote e) :=
  (realises e htr).2

/-- for a stack-free expression the scope is expanded exactly once and need not be input-independent -/
theorem C03_compose_realises_stackfree (e : Expr) (hsf : e.stackFree = true) (htr : e.trainable = true)
    (scope : GraphM Trunk) (S : Scope) (hs : Spec True scope S) : Spec True (compose e scope) (denoteC e S) :=
  (realisesSF e hsf htr True).1 scope S hs

/-- the induction case of the stacking ensemble made public: over **any** acceptable bases (ensembles included) and any
copyable, input-independent certified scope (in particular: every expression's expansion), from any certified start
graph, the graph `FullStack.compose` builds — scope expanded once per fold, every base copied once per fold, all
copies of a base's actor in one group per fold — evaluates to the documented cross-validated stacking semantics, and
its apply path is a closed, separated, evaluable region (`Spec True`), so that an enclosing ensemble can copy it. -/
theorem C03_stack_realises (bases : List Expr) (hne : bases ≠ []) (htr : Expr.trainableAll bases = true)
    (n splitter appender stacker reducer : Nat) (hn : 0 < n)
    (scope : GraphM Trunk) (S : Scope) (hs : Spec True scope S) (hS : S.Indep) :
    Spec True (compose (.stack bases n splitter appender stacker reducer) scope)
      (denoteC (.stack bases n splitter appender stacker reducer) S) := by
  rw [compose, denoteC]
  exact spec_stackAll hne (realisesAll bases htr) n splitter appender stacker reducer hn hs hS

/-- scoping is semantic: `a >> (b >> c)` hands `c` the scope `b`, `(a >> b) >> c` hands it `a >> b` — both are inside
the theorem, and both graphs evaluate to their own denotation (for every accepted `a`, `b`, `c`, ensembles included) -/
theorem C03_scoping (a b c : Expr) (htr : (a.trainable && b.trainable && c.trainable) = true) :
    Coherent (.seq a (.seq b c)) ∧ Coherent (.seq (.seq a b) c) := by
  have h2 : a.trainable = true ∧ b.trainable = true ∧ c.trainable = true := by
    simp only [Bool.and_eq_true] at htr; exact ⟨htr.1.1, htr.1.2, htr.2⟩
  exact ⟨C03_coherence _ (by simp [Expr.trainable, h2]), C03_coherence _ (by simp [Expr.trainable, h2])⟩

/-- **Repeated expansion** (every accepted expression): expanding the same expression twice (as an ensembling operator does
with its scope) yields two independent graphs.  In the graph holding both expansions
* nothing the first expansion built is touched by the second (`Frame`: every node, subscription and trainer lookup
  below `g1.next` is unchanged), the workers and groups of the first all lie below `g1.next`, and every worker with a
  uid drawn by the second that the valuation `W2` makes evaluable belongs to a group created by the second (no shared
  group — hence no shared state; `W2` is bound existentially and occurs in this clause only);
* fed with *different* inputs, each trunk evaluates to `⟦e⟧` of its own inputs, and the states trained are those of
  `⟦e⟧` on the first inputs followed by those of `⟦e⟧` on the second inputs: no state of one depends on the other. -/
theorem C03_independent_expansions (e : Expr) (htr : e.trainable = true)
    (a1 t1 l1 a2 t2 l2 : Val) :
    ∃ (T1 : Trunk) (g1 : Graph) (T2 : Trunk) (g2 : Graph) (W2 : World), expand e {} = .ok (T1, g1) ∧ expand e g1 = .ok (T2, g2) ∧ Frame g1 g2 ∧
      (∀ n, g1.next ≤ n → W2.live n → ∀ gid a i o, g2.kindOf n = some (.worker gid a i o) → g1.next ≤ gid) ∧
      (∀ n gid a i o, g1.kindOf n = some (.worker gid a i o) → n < g1.next ∧ gid < g1.next) ∧
      ∀ ρ : Nat → Val,
        ρ T1.apply.head = a1 → ρ T1.train.head = t1 → ρ T1.label.head = l1 →
        ρ T2.apply.head = a2 → ρ T2.train.head = t2 → ρ T2.label.head = l2 →
        eval g2 ρ g2.fuel T1.train.publisher = some (denote e a1 t1 l1).train ∧
        eval g2 ρ g2.fuel T1.apply.publisher = some (denote e a1 t1 l1).apply ∧
        eval g2 ρ g2.fuel T1.label.publisher = some (denote e a1 t1 l1).label ∧
        eval g2 ρ g2.fuel T2.train.publisher = some (denote e a2 t2 l2).train ∧
        eval g2 ρ g2.fuel T2.apply.publisher = some (denote e a2 t2 l2).apply ∧
        eval g2 ρ g2.fuel T2.label.publisher = some (denote e a2 t2 l2).label ∧
        trainedStates g2 ρ g2.fuel g2.trains = some ((denote e a1 t1 l1).states ++ (denote e a2 t2 l2).states) := by
  have hspec := (realises e htr).2
  obtain ⟨T1, g1, W1, hrun1, ok1⟩ := hspec {} World.empty a1 t1 l1 0 inv_empty Wired.empty (Nat.le_refl _)
  obtain ⟨T2, g2, W2, hrun2, ok2⟩ := hspec g1 W1 a2 t2 l2 0 ok1.inv ok1.wired (Nat.zero_le _)
  have hlt1 : ∀ n, W1.live n → n < g1.next := fun n hn => (ok1.inv.liveLt n hn).1
  have K : Keeps W1 W2 := ok2.agree.keeps hlt1
  have old : ∀ {u : Nat} {v : Val}, W1.live u ∧ W1.σ ⟨u, 0⟩ = v → W2.live u ∧ W2.σ ⟨u, 0⟩ = v := fun h =>
    ⟨(K ⟨_, 0⟩ h.1).1, (K ⟨_, 0⟩ h.1).2.1.trans h.2⟩
  refine ⟨T1, g1, T2, g2, W2, hrun1, hrun2, ok2.frame, ok2.fresh,
    fun n gid a i o hk => ⟨ok1.inv.bounded.uid_lt hk, ok1.inv.bounded.gid_lt hk⟩, ?_⟩
  intro ρ e1 e2 e3 e4 e5 e6
  have hρ : ∀ n, W2.live n → g2.isOpen n → ∀ i, W2.σ ⟨n, i⟩ = ρ n := by
    intro n hl ho i
    by_cases hn : n < g1.next
    · rw [(ok2.agree n hn).2.2 i]
      exact ok1.env e1 e2 e3 n (Nat.zero_le _) (((ok2.agree n hn).1).mp hl) ((ok2.frame.isOpen hn).mp ho) i
    · exact ok2.env e4 e5 e6 n (Nat.le_of_not_lt hn) hl ho i
  obtain ⟨ts1, hts1, hlive1, hst1⟩ := ok1.trains
  obtain ⟨ts2, hts2, hlive2, hst2⟩ := ok2.trains
  refine ⟨eval_tail ok2.inv hρ (old ok1.tt), eval_tail ok2.inv hρ (old ok1.ta), eval_tail ok2.inv hρ (old ok1.tl),
    eval_tail ok2.inv hρ ok2.tt, eval_tail ok2.inv hρ ok2.ta, eval_tail ok2.inv hρ ok2.tl, ?_⟩
  rw [hts2, hts1, show ({} : Graph).trains ++ ts1 = ts1 from rfl, trainedStates_live ok2.inv hρ (ts1 ++ ts2) fun x hx =>
    (List.mem_append.mp hx).elim (fun h => ⟨(K _ (hlive1 x h).1).1, (K _ (hlive1 x h).2).1⟩) (hlive2 x),
    List.map_append, hst2]
  show some (_ ++ _) = some ((denoteC e Scope.origin a1 t1 l1).states ++ _)
  rw [← hst1]
  congr 2
  apply List.map_congr_left
  intro x hx
  unfold trainedUnder
  rw [(K _ (hlive1 x hx).1).2.1, (K _ (hlive1 x hx).2).2.1]

/-- **`Trunk.extend` keeps an omitted segment as it is** — head *and tail*: whatever has been subscribed to the tail of a
segment in the meantime (an untrained side branch tapping the train features, say), a segment the operator does not
supply to `left.extend(...)` is handed on unchanged (`Trunk.use` likewise, by definition: `Option.getD`). This is what
makes `C03_coherence` hold for operators written against the composition API that extend only some of the segments. -/
theorem C03_trunk_extend_omitted (t : Trunk) (a tr l : Option Segment) (g : Graph) (t' : Trunk) (g' : Graph)
    (h : Run (t.extend a tr l) g t' g') :
    (a = none → t'.apply = t.apply) ∧ (tr = none → t'.train = t.train) ∧ (l = none → t'.label = t.label) :=
  trunk_extend_omitted t a tr l g t' g' h

/-- the family of operators written against the composition API (`ApiOp`: `Trunk.extend` / `Trunk.use` with any subset of
segments supplied, labels rewritten from the train features through an untrained side branch, a trained side branch, an
untrained sink on the train tail) realises its hand-written denotation on any certified scope — and hands on a
copyable region -/
theorem C03_api_realises (op : ApiOp) (hop : ∀ a, op = .monitor a → a.stateful = true) (scope : GraphM Trunk) (S : Scope)
    (hs : Spec True scope S) : Spec True (composeApi op scope) (denoteApi op S) :=
  spec_api hs op hop

/-- refusal branch: a debug operator whose train-mode actor is stateless cannot be composed (`Worker.train` raises
`TopologyError('Stateless node training')`), whatever precedes it -/
theorem C03_debug_stateless_refused (a t : Actor) (ht : t.stateful = false) (scope : GraphM Trunk) (g : Graph)
    (left : Trunk) (g1 : Graph) (hs : scope g = .ok (left, g1)) :
    composeDebug a t scope g = .error .statelessTrain := by
  have h1 : newWorker a 1 1 g1 = .ok (_, _) := run_newWorker a 1 1 g1
  have h2 : newWorker t 1 1 (g1.bump.bump.pushNode ⟨g1.next, .worker (g1.next + 1) a 1 1⟩) = .ok (_, _) :=
    run_newWorker t 1 1 _
  unfold composeDebug
  rw [bind_apply, hs]
  simp only [bind_apply, h1, h2]
  simp [train, ht]

/-! ### non-vacuity: concrete expressions satisfying the hypotheses -/

example : (Expr.seq (.wrap (some ⟨1, true⟩) none none)
    (.seq (.wrap none (some ⟨2, true⟩) (some ⟨2, true⟩)) (.mapreduce [⟨3, true⟩, ⟨4, false⟩] 5))).stackFree = true := by decide +kernel

example : (Expr.seq (.debug ⟨1, false⟩ ⟨2, true⟩) (.wrap (some ⟨3, true⟩) (some ⟨3, true⟩) (some ⟨4, false⟩))).trainable = true := by
  decide +kernel

/-- the hypothesis of `C03_coherence` holds for a three-operator pipeline with a label operator, a shared
mapper and a map-reduce: it is coherent -/
example : Coherent (.seq (.wrap (some ⟨1, true⟩) none none)
    (.seq (.wrap none (some ⟨2, true⟩) (some ⟨2, true⟩)) (.mapreduce [⟨3, true⟩, ⟨4, false⟩] 5))) :=
  C03_coherence _ (by decide +kernel)

/-- ... and for `mapper >> FullStack(estimator, mapper >> estimator; 3 folds) >> estimator`: it is coherent -/
example : Coherent (.seq (.seq (.wrap none (some ⟨1, true⟩) (some ⟨1, true⟩))
    (.stack [.wrap none (some ⟨2, true⟩) (some ⟨2, true⟩),
      .seq (.wrap none (some ⟨3, true⟩) (some ⟨3, true⟩)) (.wrap none (some ⟨4, true⟩) (some ⟨4, true⟩))] 3 5 6 7 8))
    (.wrap none (some ⟨9, true⟩) (some ⟨9, true⟩))) :=
  C03_coherence _ (by decide +kernel)

example : (Expr.seq (.stack [.wrap none none none] 2 0 0 0 0) (.stack [.wrap none none none] 2 0 0 0 0)).shallow = false := by
  decide +kernel

example : Coherent (.seq (.stack [.wrap none (some ⟨1, true⟩) (some ⟨1, true⟩)] 2 2 3 4 5)
    (.stack [.wrap none (some ⟨6, true⟩) (some ⟨6, true⟩)] 2 7 8 9 10)) :=
  C03_coherence _ (by decide +kernel)

/-- ... an ensemble whose base model is `ensemble >> debug >> estimator`, behind a label operator and a mapper ... -/
example : Coherent (.seq (.seq (.wrap (some ⟨1, true⟩) none none) (.wrap none (some ⟨2, true⟩) (some ⟨2, true⟩)))
    (.stack [.seq (.seq (.stack [.wrap none (some ⟨3, true⟩) (some ⟨3, true⟩), .mapreduce [⟨4, true⟩, ⟨5, false⟩] 6] 2 7 8 9 10)
        (.debug ⟨11, false⟩ ⟨12, true⟩)) (.wrap none (some ⟨13, true⟩) (some ⟨13, true⟩)),
      .wrap none (some ⟨14, false⟩) (some ⟨14, false⟩)] 3 15 16 17 18)) :=
  C03_coherence _ (by decide +kernel)

/-- ... and `(mapper >> ensemble) >> ensemble`: the scope of the second ensemble — expanded once per fold and copied —
contains the first one -/
example : Coherent (.seq (.seq (.wrap none (some ⟨1, true⟩) (some ⟨1, true⟩))
      (.stack [.wrap none (some ⟨2, true⟩) (some ⟨2, true⟩)] 2 3 4 5 6))
    (.stack [.stack [.wrap none (some ⟨7, true⟩) (some ⟨7, true⟩)] 2 8 9 10 11] 2 12 13 14 15)) :=
  C03_coherence _ (by decide +kernel)

/-- operators written against the composition API: `mapper >> labelMix >> mapper` (the labels of the second mapper are
rewritten from the first mapper's train output; its features are not), and `extend >> monitor` in front of an ensemble
whose base is `tee >> extend (via use) >> estimator` -/
example : Coherent (.seq (.wrap none (some ⟨1, true⟩) (some ⟨1, true⟩))
    (.seq (.api (.labelMix 2)) (.wrap none (some ⟨3, true⟩) (some ⟨3, true⟩)))) :=
  C03_coherence _ (by decide +kernel)

example : Coherent (.seq (.seq (.api (.extend (some 1) none (some 2) false)) (.api (.monitor ⟨3, true⟩)))
    (.stack [.seq (.api (.tee 4)) (.seq (.api (.extend none (some 5) none true)) (.wrap none (some ⟨6, true⟩) (some ⟨6, true⟩)))]
      2 7 8 9 10)) :=
  C03_coherence _ (by decide +kernel)

end ForML.Compose
