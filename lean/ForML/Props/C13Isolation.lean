/-
C13 — live instances of one actor definition are isolated from each other.  The contract talks about "an actor"
and "its state": nothing that is done to ONE live instance -- building it, training it, giving it hyper-parameters,
an imported / empty / preset state, pickling it, asking it -- may be visible through ANOTHER instance, the builder
or an exported state.  `C13_instances_isolated` proves this for EVERY machine (hence every flavour's model, the
contract machine and every memo variant) and every operation sequence that never exports from the instance: an
export is the one channel between instances (`C13_instances_isolated_export_counterexample`).
-/
import ForML.Props.C13
import ForML.Model.ActorMachine

namespace ForML.Actor

variable {ω β σ : Type}

/-- operations that touch only the instance in register `r` (builder and slots are read at most) -/
def MOp.localTo (r : Nat) : MOp → Bool
  | .build r' _ _ => r' == r
  | .train r' _ _ => r' == r
  | .apply r' _ => r' == r
  | .params r' => r' == r
  | .setParams r' _ => r' == r
  | .setState r' _ => r' == r
  | .setEmpty r' => r' == r
  | .preset r' _ => r' == r
  | .pickle r' => r' == r
  | _ => false

/-- `slots[k] = regs[r].get_state()`: the instance in `r` hands something out -/
def MOp.exportsFrom (r : Nat) : MOp → Bool
  | .getState r' _ => r' == r
  | _ => false

/-- the program as it was observed: every operation with what it showed -/
def trace (m : Mach ω β) : World ω β → List MOp → List (MOp × Out)
  | _, [] => []
  | w, op :: rest => (op, (stepW m w op).2) :: trace m (stepW m w op).1 rest

/-- the observed program started from nothing -/
def traceInit (m : Mach ω β) (ops : List MOp) : List (MOp × Out) := trace m (World.init m) ops

theorem trace_observations (m : Mach ω β) (w : World ω β) (ops : List MOp) :
    (trace m w ops).map Prod.snd = (runW m w ops).2 := by
  induction ops generalizing w with
  | nil => rfl
  | cons op rest ih => simp [trace, runW, ih]

/-- same builder, same exported states, same instances everywhere except (possibly) in register `r` -/
def World.AgreeOff (r : Nat) (w w' : World ω β) : Prop :=
  w.builder = w'.builder ∧ w.blobs = w'.blobs ∧ ∀ i, i ≠ r → w.regs i = w'.regs i

theorem World.AgreeOff.refl (r : Nat) (w : World ω β) : World.AgreeOff r w w := ⟨rfl, rfl, fun _ _ => rfl⟩

private theorem agree_setReg_left {r : Nat} {w w' : World ω β} (h : World.AgreeOff r w w') (o : ω) :
    World.AgreeOff r (w.setReg r o) w' :=
  ⟨h.1, h.2.1, fun i hi => (if_neg hi).trans (h.2.2 i hi)⟩

private theorem agree_setReg {r : Nat} {w w' : World ω β} (h : World.AgreeOff r w w') (i : Nat) (o : ω) :
    World.AgreeOff r (w.setReg i o) (w'.setReg i o) :=
  ⟨h.1, h.2.1, fun j hj => by simp only [World.setReg, h.2.2 j hj]⟩

private theorem agree_setBlob {r : Nat} {w w' : World ω β} (h : World.AgreeOff r w w') (k : Nat) (b : β) :
    World.AgreeOff r (w.setBlob k b) (w'.setBlob k b) :=
  ⟨h.1, by simp only [World.setBlob, h.2.1], h.2.2⟩

private theorem agree_onReg_local {r : Nat} {w w' : World ω β} (h : World.AgreeOff r w w')
    (f : ω → Except Err ω) : World.AgreeOff r (w.onReg r f).1 w' := by
  unfold World.onReg
  split
  · exact h
  · split
    · exact agree_setReg_left h _
    · exact h

private theorem readReg_fst {r : Nat} (w : World ω β) (g : ω → Out) : (w.readReg r g).1 = w := by
  unfold World.readReg; split <;> rfl

private theorem onReg_other {r r' : Nat} {w w' : World ω β} (h : World.AgreeOff r w w') (hne : r' ≠ r)
    (f : ω → Except Err ω) :
    (w.onReg r' f).2 = (w'.onReg r' f).2 ∧ World.AgreeOff r (w.onReg r' f).1 (w'.onReg r' f).1 := by
  unfold World.onReg
  rw [h.2.2 r' hne]
  split
  · exact ⟨rfl, h⟩
  · split
    · exact ⟨rfl, agree_setReg h _ _⟩
    · exact ⟨rfl, h⟩

private theorem readReg_other {r r' : Nat} {w w' : World ω β} (h : World.AgreeOff r w w') (hne : r' ≠ r)
    (g : ω → Out) :
    (w.readReg r' g).2 = (w'.readReg r' g).2 ∧ World.AgreeOff r (w.readReg r' g).1 (w'.readReg r' g).1 := by
  rw [readReg_fst, readReg_fst]
  refine ⟨?_, h⟩
  unfold World.readReg
  rw [h.2.2 r' hne]
  split <;> rfl

private theorem onBuilder_agree {r : Nat} {w w' : World ω β} (h : World.AgreeOff r w w')
    (f : Option Spec → Except Err Spec) :
    (w.onBuilder f).2 = (w'.onBuilder f).2 ∧ World.AgreeOff r (w.onBuilder f).1 (w'.onBuilder f).1 := by
  unfold World.onBuilder
  rw [h.1]
  split
  · exact ⟨rfl, rfl, h.2.1, h.2.2⟩
  · exact ⟨rfl, h⟩

theorem step_local (m : Mach ω β) {r : Nat} {w w' : World ω β} (h : World.AgreeOff r w w') (op : MOp)
    (hl : op.localTo r = true) : World.AgreeOff r (stepW m w op).1 w' := by
  cases op with
  | spec | update | reset | bpickle | stateful | forge | getState | fapply | ftrain => cases hl
  | build r' a kw =>
    cases eq_of_beq hl
    simp only [stepW]
    split
    · exact agree_setReg_left h _
    · exact h
  | apply r' _ | params r' =>
    cases eq_of_beq hl
    exact (readReg_fst w _).symm ▸ h
  | train r' _ _ | setParams r' _ | setState r' _ | setEmpty r' | preset r' _ | pickle r' =>
    cases eq_of_beq hl
    exact agree_onReg_local h _

theorem step_other (m : Mach ω β) {r : Nat} {w w' : World ω β} (h : World.AgreeOff r w w') (op : MOp)
    (hl : op.localTo r = false) (he : op.exportsFrom r = false) :
    (stepW m w op).2 = (stepW m w' op).2 ∧ World.AgreeOff r (stepW m w op).1 (stepW m w' op).1 := by
  cases op with
  | spec | update | reset | bpickle => exact onBuilder_agree h _
  | build r' a kw =>
    simp only [stepW]
    rw [h.1]
    split
    · exact ⟨rfl, agree_setReg h _ _⟩
    · exact ⟨rfl, h⟩
  | train r' _ _ | setParams r' _ | setEmpty r' | pickle r' => exact onReg_other h (ne_of_beq_false hl) _
  | setState r' k | preset r' k =>
    simp only [stepW]
    rw [h.2.1]
    exact onReg_other h (ne_of_beq_false hl) _
  | apply r' _ | params r' => exact readReg_other h (ne_of_beq_false hl) _
  | stateful => exact ⟨rfl, h⟩
  | forge k => exact ⟨rfl, agree_setBlob h _ _⟩
  | getState r' k =>
    simp only [stepW]
    rw [h.2.2 r' (ne_of_beq_false he)]
    split
    · exact ⟨rfl, h⟩
    · exact ⟨rfl, agree_setBlob (agree_setReg h _ _) _ _⟩
  | fapply k x =>
    simp only [stepW]
    rw [h.1, h.2.1]
    exact ⟨rfl, h⟩
  | ftrain k x y j =>
    simp only [stepW]
    rw [h.1, h.2.1]
    split
    · exact ⟨rfl, agree_setBlob h _ _⟩
    · exact ⟨rfl, h⟩

/-- **isolation of live instances**, every machine, every operation sequence: from worlds that agree outside
register `r`, a program that never exports from `r` shows -- on all its operations that are not local to `r` --
exactly what the program without the operations local to `r` shows. -/
theorem C13_instances_isolated (m : Mach ω β) (r : Nat) (ops : List MOp) (w w' : World ω β)
    (h : World.AgreeOff r w w') (hexp : ∀ op ∈ ops, op.exportsFrom r = false) :
    (trace m w ops).filter (fun p => !p.1.localTo r) = trace m w' (ops.filter (fun op => !op.localTo r)) := by
  induction ops generalizing w w' with
  | nil => rfl
  | cons op rest ih =>
    have hexp' : ∀ op ∈ rest, op.exportsFrom r = false := fun o ho => hexp o (List.mem_cons_of_mem _ ho)
    cases hl : op.localTo r with
    | true =>
      simp only [trace, List.filter_cons, hl, Bool.not_true, Bool.false_eq_true, if_false]
      exact ih _ _ (step_local m h op hl) hexp'
    | false =>
      obtain ⟨ho, hw⟩ := step_other m h op hl (hexp op (List.mem_cons_self ..))
      simp only [trace, List.filter_cons, hl, Bool.not_false, if_true, ho]
      rw [ih _ _ hw hexp']

theorem C13_instances_isolated_flavour [Inhabited σ] (u : User σ) (fs : FlavourSpec) (r : Nat) (ops : List MOp)
    (hexp : ∀ op ∈ ops, op.exportsFrom r = false) :
    (traceInit (fs.toMach u) ops).filter (fun p => !p.1.localTo r)
      = traceInit (fs.toMach u) (ops.filter (fun op => !op.localTo r)) :=
  C13_instances_isolated (fs.toMach u) r ops _ _ (World.AgreeOff.refl r _) hexp

/-- isolation claimed also for programs that export from `r` -/
def C13_instances_isolated_export_full : Prop :=
  ∀ (ops : List MOp) (r : Nat),
    ((traceInit ((FlavourSpec.decorated exKwSig true).toMach toyUser) ops).filter
        (fun p => !p.1.localTo r)).map (fun p => p.2.int?)
      = (traceInit ((FlavourSpec.decorated exKwSig true).toMach toyUser)
          (ops.filter (fun op => !op.localTo r))).map (fun p => p.2.int?)

def exportOps : List MOp :=
  [.spec [] [(0, 2)], .build 0 [] [], .train 0 1 2, .getState 0 0, .build 1 [] [], .setState 1 0, .apply 1 5]

/-- the hypothesis is necessary: the export is the channel (training of instance 0 reaches instance 1 through
slot 0; without the training the receiver is untrained) -/
theorem C13_instances_isolated_export_counterexample : ¬ C13_instances_isolated_export_full := by
  intro h
  have := h exportOps 0
  revert this
  decide +kernel

/-- non-vacuity: a program over two instances where register 0 is built, trained, re-parameterised, pickled and
given states but never exported; the observations on register 1 are those of the program without register 0 -/
def isoOps : List MOp :=
  [.spec [] [(0, 2)], .build 0 [] [], .build 1 [] [], .train 0 1 2, .train 1 3 4, .setParams 0 [(0, 9)],
   .getState 1 0, .setState 0 0, .pickle 0, .apply 0 5, .apply 1 5, .params 1, .fapply 0 5]

example : (∀ op ∈ isoOps, op.exportsFrom 0 = false) ∧ (isoOps.filter (fun op => !op.localTo 0)).length = 7 ∧
    ((traceInit ((FlavourSpec.native exKwSig true).toMach toyUser) isoOps).filter
        (fun p => !p.1.localTo 0)).map (fun p => p.2.int?)
      = (traceInit ((FlavourSpec.native exKwSig true).toMach toyUser)
          (isoOps.filter (fun op => !op.localTo 0))).map (fun p => p.2.int?) := by decide +kernel

end ForML.Actor
