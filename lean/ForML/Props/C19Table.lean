/-
C19 — "encoding then decoding a table with a matching codec pair returns the same table", characterised for the pairs
usable in the sandbox, and the schema cache every decoded frame of a process goes through.  Every statement quantifies over all
tables / all texts / all sequences of frames; `example`s are non-vacuity tests.

The sentence is false at full strength for every usable pair (`*_full` + `*_counterexample`, each witness replayed by the
harness on the real code: findings C19-F1 … C19-F6).  It is proved under the decidable verdict of the model
(`Table.csvVerdict` / `Table.jsonVerdict` = `same`), which says for which tables the round trip holds (that it fails
under the other verdicts is shown on the witnesses below and otherwise tested by the harness on the real code):

  text/csv → text/csv                at least one column and one row; no cell or name with a carriage return outside quotes (F3);
                                     not a one-column table with a cell of blanks only (F4); every text column is read back as
                                     texts: no cell is a missing-value marker (`""`, `NA`, `null`, …) and the column is neither
                                     all numbers (`007`, ` 12`, `1e3`, `inf`) nor all `true`/`false` (F1)
  pandas-records → application/json  at least one column and one row; no boolean column with a missing cell (F6); no float
                                     cell with more than ten decimal places (F2)
  pandas-columns → application/json  the same, and no column called `instances` or `inputs` (F5)

Integer, float, text and boolean columns with missing cells, empty strings, numeric-looking strings, quoting (`,` `"` LF inside
cells and names), column order and the order of rows are inside the theorems.  Duplicate column names are not tables
(`dsl.Schema` refuses them: `Table.wf`).
-/
import ForML.Lemmas.C19TableJson
import ForML.Lemmas.C19Schema

namespace ForML.Codec

/-- the statement at full strength on the level of records: what the writer writes is taken apart into the same fields -/
def C19_codec_csv_lines_full : Prop :=
  ∀ records : List (List Str), (∀ r ∈ records, r ≠ []) → csvRead (csvText records) = records

/-- false: a carriage return is written unquoted and read as a record end -/
theorem C19_codec_csv_lines_counterexample : ¬ C19_codec_csv_lines_full := by
  intro h
  have := h [["x\ry".toList, ['1']]] (by simp)
  revert this
  decide +kernel

/-- a second witness of the same: a one-field record of blanks is written as a blank line and skipped -/
theorem C19_codec_csv_blank_line_counterexample : ¬ C19_codec_csv_lines_full := by
  intro h
  have := h [['a'] :: [], [' '] :: [], ['b'] :: []] (by simp)
  revert this
  decide +kernel

/-- it holds for every list of records whose fields keep a carriage return inside quotes and that has no one-field record of
blanks only — quoting (`,` `"` LF in fields, doubled quotes), empty fields, the `""` record and any number of fields included -/
theorem C19_codec_csv_lines_partial (records : List (List Str)) (hok : ∀ r ∈ records, recordOK r = true) :
    csvRead (csvText records) = records := csvRead_csvText records hok

/-- every column — integers (also written as floats when a cell is missing), floats, booleans, texts that are kept as texts —
is read back cell by cell as the same values -/
theorem C19_codec_csv_column (c : Column) (hcells : c.cells.all (Val.ofKind c.kind) = true) (hnn : c.cells.any (· != .null) = true)
    (hs : c.kind = .str → c.csvTextKept = true) : sameCells (readColumn c.csvTexts) c.cells = true :=
  column_csv c hcells hnn hs

/-- numbers as written are numbers as read: the texts of integers and floats look like numbers to the inference, are no
missing-value markers, and are read as the value written -/
theorem C19_codec_csv_number_texts (i : Int) (neg : Bool) (d : Dec) :
    NumCell (.int i) (csvCell false (.int i)) ∧ NumCell (.int i) (csvCell true (.int i)) ∧
    NumCell (.float neg d) (csvCell false (.float neg d)) :=
  ⟨numCell_int i, numCell_int_float i, numCell_float neg d⟩

/-- the sentence of the property for `text/csv`, at full strength -/
def C19_codec_csv_roundtrip_full : Prop :=
  ∀ t : Table, t.wf = true → t.cols ≠ [] → t.nrows ≠ 0 →
    ∃ f, csvDecode t.csv = some f ∧ (Frame.table f (t.cols.map (·.kind))).same t = true

private def retypedTable : Table := ⟨[⟨['B'], .str, [.text "007".toList, .text "12".toList]⟩]⟩

/-- false: the text column `B = ['007', '12']` comes back as the numbers 7 and 12 (finding C19-F1) -/
theorem C19_codec_csv_roundtrip_counterexample : ¬ C19_codec_csv_roundtrip_full := by
  intro h
  obtain ⟨f, hf, hs⟩ := h retypedTable (by decide +kernel) (by decide +kernel) (by decide +kernel)
  have hd : csvDecode retypedTable.csv = some [(['B'], [.int 7, .int 12])] := by decide +kernel
  rw [hd] at hf
  cases hf
  revert hs
  decide +kernel

/-- it holds under the verdict of the model: writer, quoting, tokeniser, transposition and type inference composed -/
theorem C19_codec_csv_roundtrip_partial (t : Table) (hwf : t.wf = true) (hv : t.csvVerdict = .same) :
    ∃ f, csvDecode t.csv = some f ∧ (Frame.table f (t.cols.map (·.kind))).same t = true :=
  table_csv_roundtrip t hwf hv

/-- the sentence of the property for `pandas-records` → `application/json`, at full strength -/
def C19_codec_json_records_full : Prop :=
  ∀ t : Table, t.wf = true → t.cols ≠ [] → t.nrows ≠ 0 →
    ∃ f, jsonDecode t.jsonRecords = some f ∧ (Frame.table f (t.cols.map (·.kind))).same t = true

private def roundedTable : Table := ⟨[⟨['A'], .float, [.float false ⟨1, 12⟩]⟩]⟩
private def nullBoolTable : Table := ⟨[⟨['A'], .bool, [.bool true, .null]⟩]⟩

/-- false: the float cell `1e-12` is written as `0.0` by the encoder (finding C19-F2) -/
theorem C19_codec_json_records_counterexample : ¬ C19_codec_json_records_full := by
  intro h
  obtain ⟨f, hf, hs⟩ := h roundedTable (by decide +kernel) (by decide +kernel) (by decide +kernel)
  have hd : jsonDecode roundedTable.jsonRecords = some [(['A'], [.float false ⟨0, 10⟩])] := by decide +kernel
  rw [hd] at hf
  cases hf
  revert hs
  decide +kernel

/-- false also for booleans with a missing cell: the decoded frame holds an object column with `None`, which
`Schema.from_frame` cannot type (finding C19-F6) -/
theorem C19_codec_json_null_object_counterexample : ¬ C19_codec_json_records_full := by
  intro h
  obtain ⟨f, hf, _⟩ := h nullBoolTable (by decide +kernel) (by decide +kernel) (by decide +kernel)
  have hd : jsonDecode nullBoolTable.jsonRecords = none := by decide +kernel
  rw [hd] at hf
  cases hf

/-- it holds under the verdict of the model -/
theorem C19_codec_json_records_partial (t : Table) (hwf : t.wf = true) (hv : t.jsonVerdict false = .same) :
    ∃ f, jsonDecode t.jsonRecords = some f ∧ (Frame.table f (t.cols.map (·.kind))).same t = true :=
  table_json_roundtrip false t hwf hv _ (table_json_records_frame t hwf hv)

/-- the sentence of the property for `pandas-columns` → `application/json`, at full strength -/
def C19_codec_json_columns_full : Prop :=
  ∀ t : Table, t.wf = true → t.cols ≠ [] → t.nrows ≠ 0 →
    ∃ f, jsonDecode t.jsonColumns = some f ∧ (Frame.table f (t.cols.map (·.kind))).same t = true

private def sniffedTable : Table := ⟨[⟨"inputs".toList, .int, [.int 1, .int 2]⟩, ⟨['B'], .str, [.text ['a'], .text ['b']]⟩]⟩

/-- false: a column called `inputs` is taken for the TF-serving envelope (finding C19-F5) -/
theorem C19_codec_json_columns_counterexample : ¬ C19_codec_json_columns_full := by
  intro h
  obtain ⟨f, hf, _⟩ := h sniffedTable (by decide +kernel) (by decide +kernel) (by decide +kernel)
  have hd : jsonDecode sniffedTable.jsonColumns = none := by decide +kernel
  rw [hd] at hf
  cases hf

/-- it holds under the verdict of the model -/
theorem C19_codec_json_columns_partial (t : Table) (hwf : t.wf = true) (hv : t.jsonVerdict true = .same) :
    ∃ f, jsonDecode t.jsonColumns = some f ∧ (Frame.table f (t.cols.map (·.kind))).same t = true :=
  table_json_roundtrip true t hwf hv _ (table_json_columns_frame t hv)

/-- the rounding of the encoder is the only thing that happens to a float cell: what comes back is `Dec.jsonRender` of it
(`C19_codec_float_rounding_bound` says how far that is) -/
theorem C19_codec_json_cell (asFloat : Bool) (v : Val) : (jsonCell asFloat v).cell = some (jsonBack asFloat v) :=
  jsonCell_cell asFloat v

/-- the labels written for the rows are pairwise distinct for every number of rows (`"0"` … `"9"`, `"10"`, … never collide as
keys of the JSON object) -/
theorem C19_codec_json_row_labels_distinct (n : Nat) : (rowLabels n).Nodup := by
  unfold rowLabels List.Nodup
  rw [List.pairwise_map]
  refine List.Pairwise.imp ?_ (List.pairwise_lt_range (n := n))
  intro a b hlt h
  have ha := (natText_spec a).1
  rw [h, (natText_spec b).1] at ha
  omega

/-- `from_dict(orient='columns')` takes the rows in **document order**, whatever their labels are (default, strings, unsorted):
every column comes back as its cells in the order written -/
theorem C19_codec_json_columns_document_order (members : List (Str × List (Str × Val))) :
    fromColumns (members.map fun m => (m.1, JVal.obj (m.2.map fun lc => (lc.1, jsonCell false lc.2))))
      = some (members.map fun m => (m.1, m.2.map fun lc => jsonBack false lc.2)) := by
  unfold fromColumns
  rw [List.mapM_map]
  refine mapM_eq_pure (m := Option) fun m _ => ?_
  show Option.map _ (List.mapM _ (m.2.map _)) = _
  rw [List.mapM_map, mapM_eq_pure (g := fun lc => jsonBack false lc.2)]
  · rfl
  · intro lc _; exact jsonCell_cell false lc.2

/-- for every number of rows the decoded columns layout has the rows in the order of the table: the frame that
`C19_codec_json_columns_partial` rests on -/
theorem C19_codec_json_columns_row_order (t : Table) (hwf : t.wf = true) (hv : t.jsonVerdict true = .same) :
    jsonToPandas t.jsonColumns = some (t.cols.map fun c => (c.name, c.cells.map (jsonBack (c.kind == .int && c.hasNull)))) :=
  table_json_columns_frame t hv

private def elevenRows : Table := ⟨[⟨['A'], .int, (List.range 11).map fun i => .int (Int.ofNat i)⟩]⟩

/-- a decoder that sorted the rows by their labels would break the round trip from eleven rows on: the labels are strings and
`"10"` sorts between `"1"` and `"2"` (up to ten rows nothing shows) -/
theorem C19_codec_json_label_sorting_counterexample :
    (∃ f, (match elevenRows.jsonColumns with | .obj ms => fromColumnsSorted ms | _ => none) = some f ∧
      (Frame.table f (elevenRows.cols.map (·.kind))).same elevenRows = false) ∧
    (∃ f, (match (Table.mk [⟨['A'], .int, (List.range 10).map fun i => .int (Int.ofNat i)⟩]).jsonColumns with | .obj ms => fromColumnsSorted ms | _ => none) = some f ∧
      (Frame.table f [.int]).same (Table.mk [⟨['A'], .int, (List.range 10).map fun i => .int (Int.ofNat i)⟩]) = true) := by
  constructor
  · refine ⟨[(['A'], [.int 0, .int 1, .int 10, .int 2, .int 3, .int 4, .int 5, .int 6, .int 7, .int 8, .int 9])], by decide +kernel, by decide +kernel⟩
  · refine ⟨[(['A'], (List.range 10).map fun i => .int (Int.ofNat i))], by decide +kernel, by decide +kernel⟩

/-- for every sequence of frames decoded by one process, with any key function that determines the column names: every frame
gets its answer (so the pairing below leaves none out), every schema handed out carries the names of the frame it was asked
for; `Empty frame` is raised only for an empty frame and the `None`-typing error only for a frame with such a column -/
theorem C19_schema_cache_key {κ : Type} [DecidableEq κ] (key : FrameSig → κ) (hkey : ∀ f g, key f = key g → f.names = g.names)
    (fs : List FrameSig) :
    (runFrames key [] fs).length = fs.length ∧
    ∀ fr ∈ fs.zip (runFrames key [] fs),
      (∀ ns, fr.2 = .schema ns → ns = fr.1.names) ∧ (fr.2 = .emptyFrame → fr.1.empty = true) ∧
      (fr.2 = .untypable → fr.1.untypable = true) :=
  ⟨runFrames_length key [] fs, fun fr h => (runFrames_ok key hkey [] (by intro kv h; cases h) fs fr h).spec⟩

/-- the key of the code — `hash(tuple(frame.dtypes.items()))`: names *and* dtypes, modelled as the pairs themselves (collisions
of the hash are left out) — is such a key -/
theorem C19_schema_cache (fs : List FrameSig) :
    ∀ fr ∈ fs.zip (runFrames keyItems [] fs), ∀ ns, fr.2 = .schema ns → ns = fr.1.names :=
  fun fr h => ((C19_schema_cache_key keyItems keyItems_names fs).2 fr h).1

/-- a frame that is neither empty nor untypable always gets its own names, whatever was decoded before -/
theorem C19_schema_cache_total (fs : List FrameSig) :
    ∀ fr ∈ fs.zip (runFrames keyItems [] fs), fr.1.empty = false → fr.1.untypable = false → fr.2 = .schema fr.1.names := by
  intro fr h he hu
  obtain ⟨h1, h2, h3⟩ := (C19_schema_cache_key keyItems keyItems_names fs).2 fr h
  cases hr : fr.2 with
  | schema ns => rw [h1 ns hr]
  | emptyFrame => rw [h2 hr] at he; cases he
  | untypable => rw [h3 hr] at hu; cases hu

/-- the names are needed in the key: with a key made of the dtypes alone, two frames of equal column types and different names
through one process — the second is described by the names of the first -/
theorem C19_schema_cache_needs_names :
    ¬ ∀ fs : List FrameSig, ∀ fr ∈ fs.zip (runFrames keyDtypes [] fs), ∀ ns, fr.2 = .schema ns → ns = fr.1.names := by
  intro h
  have := h [⟨[['A']], [['i']], false, false⟩, ⟨[['x']], [['i']], false, false⟩]
    (⟨[['x']], [['i']], false, false⟩, .schema [['A']]) (by decide +kernel) [['A']] rfl
  revert this
  decide +kernel

/-- a frame without rows is refused on first sight and accepted once its columns are known to the cache -/
theorem C19_schema_cache_empty_history :
    runFrames keyItems [] [⟨[['A']], [['o']], true, false⟩, ⟨[['A']], [['o']], false, false⟩, ⟨[['A']], [['o']], true, false⟩]
      = [.emptyFrame, .schema [['A']], .schema [['A']]] := by
  decide +kernel

-- A string literal is `String.ofList` of its characters and the kernel is slow at evaluating `String.toList` on it:
-- the tests rewrite with `String.toList_ofList` once for every distinct literal, then evaluate.

private def exTable : Table :=
  ⟨[⟨"id".toList, .int, [.int 1, .int (-20), .null]⟩,
    ⟨"note, \"q\"".toList, .str, [.text "a,b".toList, .text "x\"y".toList, .text "two\nlines".toList]⟩,
    ⟨"v".toList, .float, [.float false ⟨15, 1⟩, .float true ⟨5, 3⟩, .null]⟩,
    ⟨"ok".toList, .bool, [.bool true, .bool false, .bool true]⟩]⟩

private theorem exTable_wf : exTable.wf = true := by
  unfold exTable
  rw [String.toList_ofList, String.toList_ofList, String.toList_ofList, String.toList_ofList, String.toList_ofList, String.toList_ofList, String.toList_ofList]
  decide +kernel

private theorem exTable_csvVerdict : exTable.csvVerdict = .same := by
  unfold exTable
  rw [String.toList_ofList, String.toList_ofList, String.toList_ofList, String.toList_ofList, String.toList_ofList, String.toList_ofList, String.toList_ofList]
  decide +kernel

example : exTable.wf = true := exTable_wf
example : exTable.csvVerdict = .same ∧ exTable.jsonVerdict true = .same := by
  refine ⟨exTable_csvVerdict, ?_⟩
  unfold exTable
  rw [String.toList_ofList, String.toList_ofList, String.toList_ofList, String.toList_ofList, String.toList_ofList, String.toList_ofList, String.toList_ofList]
  decide +kernel
example : exTable.csv
    = "id,\"note, \"\"q\"\"\",v,ok\n1.0,\"a,b\",1.5,True\n-20.0,\"x\"\"y\",-0.005,False\n,\"two\nlines\",,True\n".toList := by
  unfold exTable
  rw [String.toList_ofList, String.toList_ofList, String.toList_ofList, String.toList_ofList, String.toList_ofList, String.toList_ofList, String.toList_ofList, String.toList_ofList]
  decide +kernel
example : ∃ f, csvDecode exTable.csv = some f ∧ (Frame.table f (exTable.cols.map (·.kind))).same exTable = true :=
  C19_codec_csv_roundtrip_partial exTable exTable_wf exTable_csvVerdict
example : retypedTable.csvVerdict = .csvRetyped ∧ roundedTable.jsonVerdict false = .jsonRounded
    ∧ sniffedTable.jsonVerdict true = .jsonSniffed ∧ sniffedTable.jsonVerdict false = .same
    ∧ nullBoolTable.jsonVerdict false = .jsonNullObject ∧ nullBoolTable.csvVerdict = .same := by
  unfold retypedTable sniffedTable
  rw [String.toList_ofList, String.toList_ofList, String.toList_ofList]
  decide +kernel
example : (Table.mk [⟨['B'], .str, [.text ['a'], .text [' '], .text ['b']]⟩]).csvVerdict = .csvBlankLine := by decide +kernel
example : (Table.mk [⟨['A'], .str, [.text "x\ry".toList]⟩, ⟨['B'], .int, [.int 1]⟩]).csvVerdict = .csvCR := by
  rw [String.toList_ofList]
  decide +kernel
example : inferKind ["007".toList, " 12".toList, "1e3".toList, "".toList] = .numbers := by
  rw [String.toList_ofList, String.toList_ofList, String.toList_ofList, String.toList_ofList]
  decide +kernel
example : inferKind ["007".toList, "x".toList] = .texts ∧ inferKind ["TRUE".toList, "false".toList] = .bools := by
  rw [String.toList_ofList, String.toList_ofList, String.toList_ofList, String.toList_ofList]
  decide +kernel
example : elevenRows.jsonVerdict true = .same ∧ elevenRows.csvVerdict = .same ∧ rowLabels 11 = ((List.range 11).map fun i => (toString i).toList) := by
  decide +kernel
example : recordOK ["a\r,b".toList, []] = true ∧ recordOK [[' ']] = false ∧ recordOK [[]] = true := by
  rw [String.toList_ofList]
  decide +kernel

end ForML.Codec
