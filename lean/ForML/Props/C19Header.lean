/-
C19 — the header *string* level of content negotiation and the gateway around it.  Property theorems
(helper lemmas: ForML/Lemmas/C19Header.lean; concrete syntax and gateway model:
ForML/Model/CodecHeader.lean).  Every statement quantifies over all texts / all lists of ranges / all
tables; `example`s are non-vacuity tests.

* `C19_parse_render`: `Encoding.parse` (regex split on commas, `cgi.parse_header`, `float(q)`) reads every
  well-formed header text back as the ranges it was written from — any white space around `,` `;` `=`, any
  case of parameter names, token and quoted-string values (escaped quotes and backslashes, `;` and `=`
  inside), empty values, repeated parameters (dict semantics), parameters without `=`; the first `q` that
  is not a number raises.  `C19_parse_render_order` is `C19_parse_order` on the string level.
* `C19_parse_render_full` is the same without "no comma inside a quoted-string" (what RFC 9110 allows):
  false, the `_CSV` regex splits inside quoted strings (`_counterexample`, replayed by the harness).
* `C19_q_spelling` / `C19_q_error`: `float(q)` on the grammar `ws* [+-]? DIGIT* [. DIGIT{0,3}] ws*` is the
  number written, and (in the model) the `ValueError` is raised exactly outside that grammar;
  `1`, `1.`, `1.0`, `1.000`, `01` are one key, `.5` = `0.5` = `0.500`.
* `C19_header_parse`: the response Content-Type written by `Encoding.header` parses back to the encoding.
* `C19_gateway*`: `rest.py` `Apply` + `Generic.receive/respond`: which header feeds `parse`, the defaults
  (`application/octet-stream`; Accept absent or empty = the content type), `ValueError` → 500,
  `Unsupported` → 415.
-/
import ForML.Lemmas.C19Header
import ForML.Props.C19

namespace ForML.Codec

/-- reading back the concrete syntax (see `ranges_render`) -/
theorem C19_parse_render (rs : List RangeSpec) (hne : rs ≠ []) (hwf : ∀ r ∈ rs, r.wf = true) :
    ranges (renderHeader rs) = specRanges rs ∧
    parse (renderHeader rs) = (specRanges rs).map (fun xs => (sortDesc xs).map Range.enc) := by
  have h := ranges_render rs hne hwf
  exact ⟨h, by unfold parse; rw [h]⟩

/-- one range as written means: kind as written, lower-cased names, un-quoted values, quality of the `q` entry -/
theorem C19_parse_item (r : RangeSpec) (hwf : r.wfRfc = true) :
    parseHeader r.core = (r.kind, r.opts) ∧ range1 (trim r.render) = r.range :=
  ⟨parseHeader_core r hwf, range1_render r hwf⟩

/-- `C19_parse_order` on the string level: a well-formed header text whose `q` values are numbers is parsed
into the encodings of its ranges, permuted, by non-increasing quality, every quality class in the order written -/
theorem C19_parse_render_order (rs : List RangeSpec) (hne : rs ≠ []) (hwf : ∀ r ∈ rs, r.wf = true)
    (xs : List Range) (hq : specRanges rs = .ok xs) :
    ∃ out : List Range, parse (renderHeader rs) = .ok (out.map Range.enc) ∧ out.Perm xs ∧
      out.Pairwise (fun a b => a.q ≥ b.q) ∧ ∀ k, out.filter (fun r => r.q == k) = xs.filter (fun r => r.q == k) := by
  refine ⟨sortDesc xs, ?_, sortDesc_perm xs, sortDesc_sorted xs, sortDesc_stable xs⟩
  rw [(C19_parse_render rs hne hwf).2, hq]; rfl

/-- the error mapping of the header parser: `ValueError` exactly when some item carries a `q` that `float` refuses -/
theorem C19_parse_error (h : Str) :
    parse h = .error .badQ ↔
      ∃ item ∈ splitCsv h, ∃ v, getOpt ['q'] (parseHeader item).2 = some v ∧ parseQ v = none := by
  unfold parse ranges
  generalize splitCsv h = items
  have key : ∀ items : List Str, rangesOf items = .error .badQ ↔
      ∃ item ∈ items, ∃ v, getOpt ['q'] (parseHeader item).2 = some v ∧ parseQ v = none := by
    intro items
    induction items with
    | nil => simp [rangesOf]
    | cons i is ih =>
      have h1 : range1 i = .error .badQ ↔ ∃ v, getOpt ['q'] (parseHeader i).2 = some v ∧ parseQ v = none := by
        unfold range1
        cases hg : getOpt ['q'] (parseHeader i).2 with
        | none => simp [hg]
        | some v => cases hp : parseQ v <;> simp [hg, hp]
      simp only [rangesOf, List.mem_cons, exists_eq_or_imp, ← h1, ← ih]
      cases hr : range1 i with
      | error e => cases e; simp
      | ok r =>
        cases hrs : rangesOf is with
        | error e => cases e; simp
        | ok rs => simp
  rw [← key items]
  cases rangesOf items with
  | error e => cases e; simp [Except.map]
  | ok rs => simp [Except.map]

/-- with distinct (lower-cased) names, the dictionary is the parameters in the order written -/
theorem C19_opts_distinct (r : RangeSpec) (hd : (r.params.filterMap ParamSpec.sem).map (·.1) |>.Nodup) :
    r.opts = r.params.filterMap ParamSpec.sem := by
  show r.params.foldl semStep [] = _
  suffices h : ∀ (d : Options) (ps : List ParamSpec), ((d ++ ps.filterMap ParamSpec.sem).map (·.1)).Nodup →
      ps.foldl semStep d = d ++ ps.filterMap ParamSpec.sem by simpa using h [] r.params (by simpa using hd)
  intro d ps
  induction ps generalizing d with
  | nil => simp
  | cons p ps ih =>
    intro hnd
    simp only [List.foldl_cons, List.filterMap_cons]
    cases hs : p.sem with
    | none =>
      have hstep : semStep d p = d := by simp [semStep, hs]
      rw [hstep]
      exact ih d (by simpa [List.filterMap_cons, hs] using hnd)
    | some kv =>
      obtain ⟨k, v⟩ := kv
      have hstep : semStep d p = setOpt k v d := by simp [semStep, hs]
      simp only [List.filterMap_cons, hs] at hnd
      have hk : k ∉ d.map (·.1) := by
        intro hk
        rw [List.map_append, List.nodup_append] at hnd
        exact hnd.2.2 k hk k (by simp) rfl
      rw [hstep, setOpt_isSet.of_not_mem k v d hk, ih (d ++ [(k, v)]) (by simpa [List.append_assoc] using hnd)]
      simp [List.append_assoc]

/-- the statement at full strength: every header that RFC 9110 allows (a quoted-string may hold a comma) -/
def C19_parse_render_full : Prop :=
  ∀ rs : List RangeSpec, rs ≠ [] → (∀ r ∈ rs, r.wfRfc = true) → ranges (renderHeader rs) = specRanges rs

/-- `text/csv;a="x,y"` — the `_CSV` regex does not know about quoting and cuts inside the string: two "ranges" -/
theorem C19_parse_render_counterexample : ¬ C19_parse_render_full := by
  intro h
  have := h [⟨[], ['t', 'e', 'x', 't', '/', 'c', 's', 'v'], [.kv [] [] ['a'] [] [] ['x', ',', 'y'] true], []⟩] (by simp) (by decide +kernel)
  have h2 := congrArg Except.toOption this
  revert h2
  decide +kernel

/-- it holds for the headers without a comma inside a quoted-string -/
theorem C19_parse_render_partial (rs : List RangeSpec) (hne : rs ≠ []) (hwf : ∀ r ∈ rs, r.wf = true) :
    ranges (renderHeader rs) = specRanges rs := ranges_render rs hne hwf

/-- `float(q)` of a spelling of the grammar is the number written -/
theorem C19_q_spelling (s : QSpec) (h : s.wf = true) : parseQ s.render = some s.value := parseQ_render s h

/-- the `ValueError` (model: `none`) is raised exactly for the texts that are not such a spelling -/
theorem C19_q_error (s : Str) : parseQ s = none ↔ ¬ ∃ spec : QSpec, spec.wf = true ∧ s = spec.render := by
  constructor
  · rintro hn ⟨spec, hwf, rfl⟩
    rw [parseQ_render spec hwf] at hn; cases hn
  · intro hne
    cases hq : parseQ s with
    | none => rfl
    | some q =>
      obtain ⟨spec, hwf, hs, _⟩ := parseQ_some s q hq
      exact absurd ⟨spec, hwf, hs⟩ hne

/-- `0.5` = `0.50` = `0.500`, `1.` = `1.0` …: a trailing zero does not change the key (so such ranges tie) -/
theorem C19_q_trailing_zero (w1 w2 w1' w2' : Str) (sg : Option Bool) (i f : Str) (h : f.length < 3) :
    (QSpec.mk w1 sg i (some (f ++ ['0'])) w2).value = (QSpec.mk w1' sg i (some f) w2').value := by
  have hX : digitsVal (f ++ ['0']) * 10 ^ (3 - (f ++ ['0']).length) = digitsVal f * 10 ^ (3 - f.length) := by
    have hk : 3 - f.length = (3 - (f.length + 1)) + 1 := by omega
    have h0 : ('0'.toNat - '0'.toNat) = 0 := by decide
    rw [digitsVal_snoc, List.length_append, List.length_singleton, hk, Nat.pow_succ, h0, Nat.add_zero,
      Nat.mul_comm 10 (digitsVal f), Nat.mul_assoc, Nat.mul_comm 10]
  simp only [QSpec.value, QSpec.absValue, hX]

/-- `1` = `1.`: the point alone changes nothing; `01` = `1`: nor does a leading zero -/
theorem C19_q_point_and_zero (w1 w2 : Str) (sg : Option Bool) (i : Str) (fr : Option Str) :
    (QSpec.mk w1 sg i none w2).value = (QSpec.mk w1 sg i (some []) w2).value ∧
    (QSpec.mk w1 sg ('0' :: i) fr w2).value = (QSpec.mk w1 sg i fr w2).value := by
  constructor
  · simp [QSpec.value, QSpec.absValue, digitsVal]
  · simp only [QSpec.value, QSpec.absValue, digitsVal_zero_cons]

/-- the Content-Type the gateway writes for an encoding parses back to that encoding (kind normalised as the
constructor does): for every encoding whose option names are lower-case tokens other than `q` and pairwise
distinct and whose values are tokens -/
theorem C19_header_parse (e : Encoding) (hwf : e.spec.wf = true) (hq : getOpt ['q'] e.options = none)
    (hlow : ∀ kv ∈ e.options, lower kv.1 = kv.1) (hu : UniqueKeys e.options) :
    parse e.header = .ok [Encoding.mk' e.kind e.options] := by
  -- every option as written means itself: its name is lower case already
  have hsem : e.spec.params.filterMap ParamSpec.sem = e.options := by
    simp only [Encoding.spec, List.filterMap_map]
    rw [show (ParamSpec.sem ∘ fun kv : Str × Str => ParamSpec.kv [] [' '] kv.1 [] [] kv.2 false)
      = some ∘ fun kv => (lower kv.1, kv.2) from rfl, List.filterMap_eq_map]
    exact (List.map_congr_left fun kv hkv => by rw [hlow kv hkv]; rfl).trans (List.map_id _)
  have hopts : e.spec.opts = e.options := by
    rw [C19_opts_distinct _ (by rw [hsem]; exact hu), hsem]
  have hr : e.spec.range = .ok ⟨e.kind, e.options, 1000⟩ := by
    unfold RangeSpec.range
    rw [hopts, hq]; rfl
  rw [header_eq_render, (C19_parse_render [e.spec] (by simp) (by simpa using hwf)).2]
  simp only [specRanges, hr]
  have hf : e.options.filter (fun kv => kv.1 != ['q']) = e.options := by
    rw [List.filter_eq_self]
    intro kv hkv
    simp only [bne_iff_ne, ne_eq]
    intro hk
    have := (getOpt_iff_mem kv.1 kv.2 e.options hu).mpr hkv
    rw [hk, hq] at this; cases this
  simp [Except.map, sortDesc, insertDesc, Range.enc, hf]

/-- every encoder of the live table announces itself with a Content-Type that parses back to its encoding -/
theorem C19_tables_header : ∀ e ∈ Tables.encoders, parse e.header = .ok [e] := by
  decide +kernel

/-- 500 exactly when a header does not parse (`ValueError` of `float(q)`, raised outside the `try`): the
Content-Type (default `application/octet-stream`) or a non-empty Accept -/
theorem C19_gateway_500 (encoders decoders : List Encoding) (ct accept : Option Str) :
    gateway encoders decoders ct accept = .serverError ↔
      (parse (ct.getD defaultContentType) = .error .badQ ∨ ∃ a, accept = some a ∧ a ≠ [] ∧ parse a = .error .badQ) := by
  rw [gateway_eq]
  cases hp : parse (ct.getD defaultContentType) with
  | error e => cases e; simp
  | ok es =>
    cases es with
    | nil => exact absurd rfl (C19_parse_nonempty _ _ hp)
    | cons enc rest =>
      have hserve := serve_ne_serverError encoders decoders enc
      simp only [reduceCtorEq, false_or]
      cases accept with
      | none => simp [acceptedOf, hserve]
      | some a =>
        by_cases ha : a.isEmpty = true
        · have : a = [] := by simpa using ha
          subst this
          simp [acceptedOf, hserve]
        · have hne : a ≠ [] := by intro h; subst h; simp at ha
          simp only [acceptedOf, ha, Bool.false_eq_true, if_false, Option.some.injEq, exists_eq_left', hne,
            ne_eq, not_false_eq_true, true_and]
          cases hpa : parse a with
          | error e => cases e; simp [Except.map]
          | ok acc => simp [Except.map, hserve]

/-- otherwise the head of the parsed Content-Type goes to `get_decoder` and the accepted encodings (the
parsed Accept; the content type itself when Accept is absent or empty) to `get_encoder`: 200 with exactly
their choices -/
theorem C19_gateway_200 (encoders decoders : List Encoding) (ct accept : Option Str) (e d : Nat) :
    gateway encoders decoders ct accept = .ok e d ↔
      ∃ enc rest accs, parse (ct.getD defaultContentType) = .ok (enc :: rest) ∧ acceptedOf enc accept = .ok accs ∧
        getDecoder decoders enc = some d ∧ getEncoder encoders accs = some e := by
  rw [gateway_eq]
  cases hp : parse (ct.getD defaultContentType) with
  | error x => simp
  | ok es =>
    cases es with
    | nil => simp
    | cons enc rest =>
      cases hacc : acceptedOf enc accept with
      | error x => simp [hacc]
      | ok accs => simp [hacc, serve_eq_ok]

/-- 415 exactly when the headers parse and `get_decoder` or `get_encoder` raises `Unsupported` -/
theorem C19_gateway_415 (encoders decoders : List Encoding) (ct accept : Option Str) :
    gateway encoders decoders ct accept = .unsupported ↔
      ∃ enc rest accs, parse (ct.getD defaultContentType) = .ok (enc :: rest) ∧ acceptedOf enc accept = .ok accs ∧
        (getDecoder decoders enc = none ∨ getEncoder encoders accs = none) := by
  rw [gateway_eq]
  cases hp : parse (ct.getD defaultContentType) with
  | error x => simp
  | ok es =>
    cases es with
    | nil => simp
    | cons enc rest =>
      cases hacc : acceptedOf enc accept with
      | error x => simp [hacc]
      | ok accs => simp [hacc, serve_eq_unsupported]

/-- Accept absent or empty: the response is negotiated against the request's own content type -/
theorem C19_gateway_default_accept (encoders decoders : List Encoding) (ct : Option Str) :
    gateway encoders decoders ct none = gateway encoders decoders ct (some []) ∧
    ∀ enc rest, parse (ct.getD defaultContentType) = .ok (enc :: rest) →
      gateway encoders decoders ct none = serve encoders decoders enc [enc] := by
  constructor
  · rw [gateway_eq, gateway_eq]; rfl
  · intro enc rest hp
    rw [gateway_eq, hp]; rfl

/-- Content-Type absent: `application/octet-stream`, for which the live tables have no decoder — 415 unless
the Accept header does not parse (500: it is parsed first) -/
theorem C19_gateway_default_content_type (accept : Option Str) :
    gateway Tables.encoders Tables.decoders none accept =
      (match accept with
       | none => .unsupported
       | some a => if a.isEmpty then .unsupported else match parse a with
         | .error _ => .serverError
         | .ok _ => .unsupported) := by
  have hp : parse ((none : Option Str).getD defaultContentType) = .ok [⟨defaultContentType, []⟩] := by
    unfold defaultContentType; rw [String.toList_ofList]; decide +kernel
  have hd : ∀ accs, serve Tables.encoders Tables.decoders ⟨defaultContentType, []⟩ accs = .unsupported := by
    intro accs
    have : getDecoder Tables.decoders ⟨defaultContentType, []⟩ = none := by
      unfold defaultContentType; rw [String.toList_ofList]; decide +kernel
    unfold serve; rw [this]
  rw [gateway_eq, hp]
  cases accept with
  | none => exact hd _
  | some a =>
    by_cases ha : a.isEmpty = true
    · simp only [acceptedOf, ha, if_true]; exact hd _
    · simp only [acceptedOf, ha, Bool.false_eq_true, if_false]
      cases parse a with
      | error e => rfl
      | ok acc => exact hd _

/-- a header that does not parse is a 500, never a 415 or a 200, whatever the tables hold -/
theorem C19_gateway_bad_q (encoders decoders : List Encoding) (ct accept : Option Str)
    (h : parse (ct.getD defaultContentType) = .error .badQ) : gateway encoders decoders ct accept = .serverError := by
  rw [gateway_eq, h]

-- A string literal is `String.ofList` of its characters and the kernel is slow at evaluating `String.toList` on it:
-- the tests rewrite with `String.toList_ofList` once for every distinct literal, then evaluate.

private def exSpec : List RangeSpec :=
  [⟨[' ', ' '], "Text/CSV".toList,
     [.kv [' '] [' '] ['Q'] [' '] [' '] "0.50".toList true,
      .kv [] [] ['a'] [] [] "say \"hi\"; x=1".toList true,
      .flag [] [] [],
      .flag [] [] "flag".toList,
      .kv [] [' '] "FORMAT".toList [] [' '] [] false,
      .kv [' '] [] ['a'] [] [] ['z'] false], [' ']⟩,
   ⟨[' '], "*/*".toList, [.kv [] [] ['q'] [] [] ".5".toList false], []⟩]

private theorem exSpec_wf : ∀ r ∈ exSpec, r.wf = true := by
  unfold exSpec
  rw [String.toList_ofList, String.toList_ofList, String.toList_ofList, String.toList_ofList, String.toList_ofList, String.toList_ofList, String.toList_ofList]
  decide +kernel

example : renderHeader exSpec
    = "  Text/CSV ; Q = \"0.50\";a=\"say \\\"hi\\\"; x=1\";;flag; FORMAT= ;a=z , */*;q=.5".toList := by
  unfold exSpec
  rw [String.toList_ofList, String.toList_ofList, String.toList_ofList, String.toList_ofList, String.toList_ofList, String.toList_ofList, String.toList_ofList, String.toList_ofList]
  decide +kernel
example : ∀ r ∈ exSpec, r.wf = true := exSpec_wf
-- the ranges meant: the repeated `a` keeps its place and takes the last value, `Q` is the quality, `FORMAT=` is kept
example : specRanges exSpec = .ok
    [⟨"Text/CSV".toList, [(['q'], "0.50".toList), (['a'], ['z']), ("format".toList, [])], 500⟩,
     ⟨"*/*".toList, [(['q'], ".5".toList)], 500⟩] := by
  unfold exSpec
  rw [String.toList_ofList, String.toList_ofList, String.toList_ofList, String.toList_ofList, String.toList_ofList, String.toList_ofList, String.toList_ofList, String.toList_ofList]
  decide +kernel
example : (parse (renderHeader exSpec)).toOption
    = some [⟨"text/csv".toList, [(['a'], ['z']), ("format".toList, [])]⟩, ⟨"*/*".toList, []⟩] := by
  rw [(C19_parse_render exSpec (by decide) exSpec_wf).2]
  unfold exSpec
  rw [String.toList_ofList, String.toList_ofList, String.toList_ofList, String.toList_ofList, String.toList_ofList, String.toList_ofList, String.toList_ofList, String.toList_ofList, String.toList_ofList]
  decide +kernel
example : (QSpec.mk [' '] (some false) ['0', '1'] (some ['5', '0']) ['\t']).wf = true := by decide +kernel
example : (QSpec.mk [' '] (some false) ['0', '1'] (some ['5', '0']) ['\t']).render = " +01.50\t".toList := by
  rw [String.toList_ofList]
  decide +kernel
example : parseQ " +01.50\t".toList = some 1500 := by
  rw [String.toList_ofList]
  decide +kernel
example : parseQ "1e3".toList = none ∧ parseQ "0.5x".toList = none ∧ parseQ "".toList = none ∧ parseQ ".".toList = none
    ∧ parseQ "0.1234".toList = none ∧ parseQ "- 1".toList = none := by
  rw [String.toList_ofList, String.toList_ofList, String.toList_ofList, String.toList_ofList, String.toList_ofList, String.toList_ofList]
  decide +kernel
example : parseQ "1".toList = parseQ "1.000".toList ∧ parseQ ".5".toList = parseQ "0.50".toList := by
  rw [String.toList_ofList, String.toList_ofList, String.toList_ofList, String.toList_ofList]
  decide +kernel
example : gateway Tables.encoders Tables.decoders (some "Text/CSV".toList) none = .ok 6 7 := by
  rw [String.toList_ofList]
  decide +kernel
-- without Accept the content type itself is the accepted pattern, options included: no encoder announces a charset
example : gateway Tables.encoders Tables.decoders (some "Text/CSV; charset=utf-8".toList) none = .unsupported := by
  rw [String.toList_ofList]
  decide +kernel
example : gateway Tables.encoders Tables.decoders (some "Text/CSV; charset=utf-8".toList) (some "*/*".toList) = .ok 0 7 := by
  rw [String.toList_ofList, String.toList_ofList]
  decide +kernel
example : gateway Tables.encoders Tables.decoders (some "text/csv;q=0.1, application/json".toList)
    (some "foo/bar, application/*;q=0.5".toList) = .ok 0 6 := by
  rw [String.toList_ofList, String.toList_ofList]
  decide +kernel
example : gateway Tables.encoders Tables.decoders (some "text/csv".toList) (some "foo/bar".toList) = .unsupported := by
  rw [String.toList_ofList, String.toList_ofList]
  decide +kernel
example : gateway Tables.encoders Tables.decoders (some "text/csv".toList) (some "*/*;q=high".toList) = .serverError := by
  rw [String.toList_ofList, String.toList_ofList]
  decide +kernel
example : (Encoding.mk "application/json".toList [("format".toList, "pandas-split".toList)]).header
    = "application/json; format=pandas-split".toList := by
  rw [String.toList_ofList, String.toList_ofList, String.toList_ofList, String.toList_ofList]
  decide +kernel

end ForML.Codec
