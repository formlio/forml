/-
C14 — Push-down hints offered to storage back-ends never lose required data.

Model: `ForML.Model.PushDown` (the parser's per-scan segments, `Predicate.Factors`, the `visit_*` traversal that offers
the hints, a row-level denotation run against a back-end that ignores / honours them, and `lazy._Columns`), in two
variants: `fix = false` the code that exists, `fix = true` the code as repaired by
fixes/C14-outer-join-and-scan-segments.diff (findings C14-F1, C14-F2).

Columns (`C14_columns…`, `C14_lazy_…`) and factors (`C14_factors`): proved in full, both variants.  Row filters
(`C14_filter_full fix`): proved for the repaired code (`C14_filter_fixed`); for the code that exists refuted
(`C14_filter_counterexample_outer`, `…_alias`) and proved on every statement outside the regions of the two findings
(`C14_filter_partial`, `safe false`).  `Factors.merge` with the `hash()` test /repo had before 7aea4fe (finding C14-X7):
refuted (`C14_factors_hash_counterexample`), with two proved parts.
-/
import ForML.Lemmas.C14Outer
import ForML.Lemmas.C14Proj
import ForML.Lemmas.C14Lazy
import ForML.Lemmas.C14Ctx
import ForML.Lemmas.C14Uses
import ForML.Lemmas.C14V1

namespace ForML.PushDown
open ForML.Dsl

/-- **C14 (columns).** Whatever the statement, the back-end and the data: the parser makes exactly one
`generate_table` call per scan and each call offers all the columns the scanned origin is used with (projection,
filters, grouping, ordering, conditions of the joins it takes part in) — nested queries on either join side, set
operations, references and several contexts scanning one table included. -/
theorem C14_columns (fix len : Bool) (S : Sem) (B : Backend) (db : Db) (s : Source) :
    ColsOK (needs [] s) (run fix len S B db s {}).hints :=
  (run_cols fix len S B db s [] {} (covers_nil _ _)).1

/-- the same for the hints as the driver reports them -/
theorem C14_columns_hints (fix len : Bool) (s : Source) (hs : List Hint) (h : hints fix len s = .ok hs) :
    ColsOK (needs [] s) hs := by
  unfold hints at h
  simp only at h
  cases he : (run fix len trivialSem Backend.ignore (fun _ => []) s {}).st.err with
  | some e => simp [he] at h
  | none =>
    simp only [he, Except.ok.injEq] at h
    exact h ▸ C14_columns fix len trivialSem .ignore (fun _ => []) s

/-- `needs` (join conditions collected along the path to a scan) is no weaker than the property's own reading `usesIn`
(every clause and *every* join condition of the query), on every statement the grammar admits -/
theorem C14_needs_uses (s : Source) (hg : grammarScoped s = true) (hs : isStmt s = true) :
    Forall2 (fun u n => ∀ c ∈ u, c ∈ n) (usesIn [] s) (needs [] s) :=
  (needs_uses s hg).2 hs [] []

/-- **C14 (columns, the property's reading).** Every scan is offered every column of its origin the statement uses
anywhere in that scan's query: output features, WHERE, HAVING, GROUP BY (with or without HAVING), ORDER BY and every
join condition. -/
theorem C14_columns_uses (fix len : Bool) (S : Sem) (B : Backend) (db : Db) (s : Source) (hg : grammarScoped s = true)
    (hs : isStmt s = true) : ColsOK (usesIn [] s) (run fix len S B db s {}).hints :=
  (C14_needs_uses s hg hs).trans' (C14_columns fix len S B db s) (fun _ _ _ h h' n hn => h' n (h n hn))

/-- what `hints` reports to the driver (trivial semantics, no data) are the hints of every run -/
theorem C14_hints_independent (fix len : Bool) (S : Sem) (B : Backend) (db : Db) (s : Source) :
    (run fix len S B db s {}).hints = (run fix len trivialSem .ignore (fun _ => []) s {}).hints :=
  (run_indep fix len S trivialSem B .ignore db (fun _ => []) s {}).2

/-- **C14 (contexts).** The hints offered inside a statement — and the rows it yields — do not depend on anything
registered before the statement is visited: a nested query, a side of a set operation or a second context scanning the
same table gets exactly the hints it gets on its own. -/
theorem C14_context_independent (fix len : Bool) (S : Sem) (B : Backend) (db : Db) (q : Source) (st : Segs)
    (hq : isStmt q = true) (hw : shaped q = true) :
    (run fix len S B db q st).hints = (run fix len S B db q {}).hints ∧
      (run fix len S B db q st).envs = (run fix len S B db q {}).envs :=
  stmt_indep fix len S B db q st {} hq hw

/-- … and a nested statement leaves the segments of the enclosing context as they were: the hints of the scans that
follow it are those the enclosing context alone determines -/
theorem C14_context_isolated (fix len : Bool) (S : Sem) (B : Backend) (db : Db) (q : Source) (st : Segs)
    (hq : isStmt q = true) (hw : shaped q = true) :
    (run fix len S B db q st).st.fields = st.fields ∧ (run fix len S B db q st).st.factors = st.factors :=
  (run_state fix len S B db q hw).2 hq st

/-- **C14 (columns, lazy feed).** The per-table column sets `lazy._Columns.extract` hands to `Origin.partitions`
contain, for every scan of the statement, every column its origin is used with — columns used only through a reference
to the table or only inside a referenced statement included. -/
theorem C14_lazy_columns (s : Source) :
    Forall2 (fun need t => ∀ n ∈ need, (t, n) ∈ lazyS s) (needs [] s) (scanTables s) :=
  lazy_needs s [] (lazyS s) (covers_nil _ _) (fun _ hx => hx)

/-- the same against the property's own reading of "uses" -/
theorem C14_lazy_uses (s : Source) (hg : grammarScoped s = true) (hs : isStmt s = true) :
    Forall2 (fun use t => ∀ n ∈ use, (t, n) ∈ lazyS s) (usesIn [] s) (scanTables s) :=
  (C14_needs_uses s hg hs).trans' (C14_lazy_columns s) (fun _ _ _ h h' n hn => h' n (h n hn))

/-- **C14 (factors).** A factor offered for table `t` only mentions columns of `t`, and every row combination on
which the condition is TRUE satisfies it. -/
theorem C14_factors (len : Bool) (S : Sem) (p : Feature) (m : FMap) (h : factorsOf len p = .ok m)
    (t : Source) (f : Feature) (hf : (t, f) ∈ m) :
    isTable t = true ∧ (∀ e ∈ elems f, e.1 = t) ∧ (∀ e ∈ elems f, e ∈ elems p) ∧
      ∀ env, eval S env p = .bool true → eval S env f = .bool true :=
  (factorsP_sound len S (toPred p) m h t f hf).spec

/-- with the lenient variant of the code (every `Operable` has factors) factorisation never fails -/
theorem C14_factors_total_lenient (p : Pred) : ∃ m, factorsP true p = .ok m := by
  induction p with
  | atom f => exact ⟨_, rfl⟩
  | other f => exact ⟨[], rfl⟩
  | and a b iha ihb =>
    obtain ⟨l, hl⟩ := iha
    obtain ⟨r, hr⟩ := ihb
    exact ⟨andF l r, by simp [factorsP, hl, hr]⟩
  | or a b iha ihb =>
    obtain ⟨l, hl⟩ := iha
    obtain ⟨r, hr⟩ := ihb
    exact ⟨orF l r, by simp [factorsP, hl, hr]⟩

/-! ### `Factors.merge` as /repo had it before 7aea4fe: sameness of two factors decided by `hash()` (finding C14-X7)

`factorsP` above (structural identity) is the code as repaired by fixes/C14-merge-hash-dedup.diff (/repo 7aea4fe). -/

theorem C14_factors_structural (len : Bool) (p : Pred) : factorsPG (fun a b => decide (a = b)) len p = factorsP len p :=
  factorsPG_structural len p

/-- the soundness clause of `C14_factors` for the factorisation with the hash test (`hash(left[k]) != hash(right[k])`,
/repo before 7aea4fe) — refuted by `C14_factors_hash_counterexample` -/
def C14_factors_hash_full : Prop :=
  ∀ (len : Bool) (S : Sem) (p : Feature) (m : FMap), factorsOfHash len p = .ok m → ∀ (t : Source) (f : Feature),
    (t, f) ∈ m → ∀ env, eval S env p = .bool true → eval S env f = .bool true

def tH : Source := .table "A" [("x", .integer)]
def gtLit (n : Int) : Feature := binop .gt (.elem tH "x") (.lit (.int n))

/-- `hash(-1) == hash(-2)`: `(A.x > -1) | (A.x > -2)` is factorised to `A.x > -1` alone, which the row `x = -1` fails
although it satisfies the condition; the same with `2^61 - 1` and `0` -/
theorem C14_factors_hash_counterexample : ¬ C14_factors_hash_full := by
  intro h
  have := h true simpleSem (binop .or (gtLit (-1)) (gtLit (-2))) [(tH, gtLit (-1))] rfl tH (gtLit (-1))
    (by simp) [(tH, [("x", .int (-1))])] (by decide +kernel)
  revert this
  decide +kernel

example : (factorsOfHash true (binop .or (gtLit 2305843009213693951) (gtLit 0))).toOption = some [(tH, gtLit 2305843009213693951)] ∧
    (factorsOf true (binop .or (gtLit 2305843009213693951) (gtLit 0))).toOption =
      some [(tH, binop .or (gtLit 2305843009213693951) (gtLit 0))] ∧
    (factorsOfHash true (binop .or (gtLit 1) (gtLit 2))).toOption = (factorsOf true (binop .or (gtLit 1) (gtLit 2))).toOption := by
  decide +kernel

/-- **proved part**: on every condition whose atoms contain no integer literal that differs from its own CPython hash
(no `-1`, nothing beyond ±(2^61 - 2)) the hash test changes nothing — `C14_factors` and everything built on it apply -/
theorem C14_factors_hash_partial (len : Bool) (p : Feature) (hp : plainP (toPred p) = true) :
    factorsOfHash len p = factorsOf len p :=
  (factorsPG_hash_plain len (toPred p) hp).trans (factorsPG_structural len (toPred p))

example : plainP (toPred (binop .or (gtLit 1) (binop .and (gtLit (-2)) (gtLit 3)))) = true ∧
    plainP (toPred (binop .or (gtLit (-1)) (gtLit (-2)))) = false := by decide +kernel

/-- **conjunctions are safe under any sameness test**: on a condition without a disjunction `Factors.merge` can only
keep `left[k]` alone where it should have AND-ed the two — a weaker filter.  Every factor is a predicate over its own
table that holds whenever the condition holds, whatever `same` is. -/
theorem C14_factors_conjunctive_any_test (same : Feature → Feature → Bool) (len : Bool) (S : Sem) (p : Feature)
    (hp : orFree (toPred p) = true) (m : FMap) (h : factorsPG same len (toPred p) = .ok m)
    (t : Source) (f : Feature) (hf : (t, f) ∈ m) :
    isTable t = true ∧ (∀ e ∈ elems f, e.1 = t) ∧ (∀ e ∈ elems f, e ∈ elems p) ∧
      ∀ env, eval S env p = .bool true → eval S env f = .bool true :=
  (factorsPG_sound len S (toPred p) (Or.inl hp) m h t f hf).spec

/-- **second proved part for the hash test**: `C14_factors` at full strength — hash-colliding literals
allowed — on every condition without a disjunction.  Together with `C14_factors_hash_counterexample`: a lost conjunct is
harmless, only a lost disjunct (`Or.factors`) withholds rows. -/
theorem C14_factors_hash_conjunctive (len : Bool) (S : Sem) (p : Feature) (hp : orFree (toPred p) = true) (m : FMap)
    (h : factorsOfHash len p = .ok m) (t : Source) (f : Feature) (hf : (t, f) ∈ m) :
    isTable t = true ∧ (∀ e ∈ elems f, e.1 = t) ∧ (∀ e ∈ elems f, e ∈ elems p) ∧
      ∀ env, eval S env p = .bool true → eval S env f = .bool true :=
  C14_factors_conjunctive_any_test sameHash len S p hp m h t f hf

/-- non-vacuity: `(A.x > -1) & (A.x > -2)` has no disjunction, is not `plainP` (outside `C14_factors_hash_partial`), the
hash test really loses the conjunct `A.x > -2` (structural identity keeps both) — and the factor left is sound; the
refuting condition of `C14_factors_hash_counterexample` is outside the hypothesis -/
example : orFree (toPred (binop .and (gtLit (-1)) (gtLit (-2)))) = true ∧
    plainP (toPred (binop .and (gtLit (-1)) (gtLit (-2)))) = false ∧
    (factorsOfHash true (binop .and (gtLit (-1)) (gtLit (-2)))).toOption = some [(tH, gtLit (-1))] ∧
    (factorsOf true (binop .and (gtLit (-1)) (gtLit (-2)))).toOption = some [(tH, binop .and (gtLit (-1)) (gtLit (-2)))] ∧
    orFree (toPred (binop .or (gtLit (-1)) (gtLit (-2)))) = false := by decide +kernel

/-- **what `Factors.merge`'s sameness test has to guarantee** for every factor to be sound, disjunctions included:
`ImpliedTest`.  Structural identity (the repaired code, `C14_factors`) is an instance; so is any finer or semantically
justified test (`repr` equality). -/
theorem C14_factors_any_sound_test (same : Feature → Feature → Bool) (len : Bool) (S : Sem) (hsame : ImpliedTest S same)
    (p : Feature) (m : FMap) (h : factorsPG same len (toPred p) = .ok m) (t : Source) (f : Feature) (hf : (t, f) ∈ m) :
    isTable t = true ∧ (∀ e ∈ elems f, e.1 = t) ∧ (∀ e ∈ elems f, e ∈ elems p) ∧
      ∀ env, eval S env p = .bool true → eval S env f = .bool true :=
  (factorsPG_sound len S (toPred p) (Or.inr hsame) m h t f hf).spec

/-- non-vacuity of the hypothesis: structural identity satisfies it for every semantics -/
theorem C14_structural_test_implied (S : Sem) : ImpliedTest S (fun a b => decide (a = b)) :=
  impliedTest_structural S

/-- the hash test does not: it calls `A.x > -1` and `A.x > -2` the same, the row `x = -1` tells them apart
(the root cause of C14-X7 as one property of the test, independent of the condition it is used on) -/
theorem C14_hash_test_not_implied : ¬ ImpliedTest simpleSem sameHash := by
  intro h
  have := h (gtLit (-1)) (gtLit (-2)) (by decide +kernel) [(tH, [("x", .int (-1))])] (by decide +kernel)
  revert this
  decide +kernel

/-- the property at full strength: for every statement the grammar admits, honouring the offered row filters does not
change the result — for every semantics of the parameters and all table contents -/
def C14_filter_full (fix : Bool) : Prop :=
  ∀ (len : Bool) (S : Sem) (db : Db) (s : Source), isStmt s = true → grammarScoped s = true →
    result fix len S .honourRows db s = result fix len S .ignore db s

/-- the repaired parser is outside the regions of both findings on every statement -/
theorem C14_safe_fixed (len : Bool) : ∀ (s : Source) (P Q : List Feature), safe true len P Q s = true
  | .table _ _, _, _ => rfl
  | .ref i _, _, _ => by
    by_cases ht : isTable i = true
    · simp [safe, ht]
    · simpa [safe, ht] using C14_safe_fixed len i [] []
  | .join l r k c, P, Q => by
    cases k <;> simp only [safe, C14_safe_fixed len l, C14_safe_fixed len r, Bool.true_or, Bool.and_self]
  | .set l r _, _, _ => by simp [safe, C14_safe_fixed len l, C14_safe_fixed len r]
  | .query src _ pre _ _ _ _, _, _ => by simpa [safe] using C14_safe_fixed len src (optList pre) (optList pre)

/-- **C14 (filter), the repaired code: the full statement.**  Inner, cross, left, right and full joins, self-joins
through references, nested queries, sets; every semantics of the scalar operators, aggregation, ordering, limits and
set operators; all table contents. -/
theorem C14_filter_fixed : C14_filter_full true := by
  intro len S db s hs hg
  unfold result
  rw [(run_prune true len S db s hg).2 hs (C14_safe_fixed len s [] []) {}]

/-- **C14 (filter), the code that exists: proved part** — every statement outside the regions of C14-F1 (a factor of
an outer join's ON condition for a table of a side the join preserves; a factor of a condition above an outer join for
a table of a side it extends with NULLs) and C14-F2 (a factor registered for a table by the time it is scanned through a
reference). -/
theorem C14_filter_partial (len : Bool) (S : Sem) (db : Db) (s : Source) (hs : isStmt s = true)
    (hg : grammarScoped s = true) (hsafe : safe false len [] [] s = true) :
    result false len S .honourRows db s = result false len S .ignore db s := by
  unfold result
  rw [(run_prune false len S db s hg).2 hs hsafe {}]

/-- `innerOnly` and `wellScopedV1` (no outer join anywhere, no table scanned both directly and through a reference)
imply the hypotheses of `C14_filter_partial`; the converse fails (`wLeftOk`, `wLeftOnRight`, `wAliasLate` below) -/
theorem C14_safe_of_v1 (len : Bool) (s : Source) (hs : isStmt s = true) (hi : innerOnly s = true)
    (hw : wellScopedV1 s = true) : grammarScoped s = true ∧ safe false len [] [] s = true :=
  ⟨wellScopedV1_grammar s hw, safe_of_v1 len s hi hw hs [] []⟩

/-- inside a query, every row combination of the source that is missing when the back-end honours the row filters is
doomed by the prefilter: the prefilter is TRUE on no environment that extends it -/
theorem C14_filter_contributes (fix len : Bool) (S : Sem) (db : Db) (src : Source) (sel : Features) (pre : FeatureOpt)
    (grp : Features) (post : FeatureOpt) (ord : Orderings) (rows : Option Rows)
    (hg : grammarScoped (.query src sel pre grp post ord rows) = true)
    (hsafe : safe fix len [] [] (.query src sel pre grp post ord rows) = true) :
    Prune (Doomed S (optList pre))
      (run fix len S .honourRows db src (queryCtx fix len none src sel pre grp post ord)).envs
      (run fix len S .ignore db src (queryCtx fix len none src sel pre grp post ord)).envs := by
  simp only [safe] at hsafe
  simp only [grammarScoped, Bool.and_eq_true, decide_eq_true_eq] at hg
  exact (run_prune fix len S db src hg.2).1 hg.1.2 hg.1.1 (optList pre) (optList pre) _ hsafe
    (fun _ hx => queryCtx_factors_mem hx) (fun _ hx _ => queryCtx_factors_mem hx)

/-- the concrete semantics used for the witnesses and the SQLite tie is local -/
theorem C14_simpleSem_finishLocal : FinishLocal simpleSem := by
  intro src sel pre grp post ord rows envs' envs h
  simp only [simpleSem, simpleFinish]
  induction h with
  | nil => rfl
  | cons hab _ ih =>
    simp only [List.map_cons, ih, List.cons.injEq, and_true]
    apply List.map_congr_left
    intro f hf
    rw [eval_congr simpleScalar _ _ f (fun el hel => hab.2 el ?_)]
    unfold queryFeatures
    refine mem_elemsAll_append.mpr (Or.inl (mem_elemsAll_append.mpr (Or.inl (mem_elemsAll_append.mpr
      (Or.inl (mem_elemsAll_append.mpr (Or.inl ?_)))))))
    exact List.mem_flatMap.mpr ⟨f, hf, hel⟩

/-- **C14 (columns, semantically).** The column restriction alone never changes the result: any join kind, self-joins
through references included, both variants of the parser; only the shape every constructible statement has is assumed,
and that the query post-processing looks at nothing but the elements the query mentions (`FinishLocal`, see
`C14_finishLocal_needed`). -/
theorem C14_columns_equivalence (fix len : Bool) (S : Sem) (db : Db) (s : Source) (hS : FinishLocal S)
    (hs : isStmt s = true) (hw : shaped s = true) :
    result fix len S .honourCols db s = result fix len S .ignore db s := by
  unfold result
  rw [honourCols_eq_proj, (run_proj fix len S .ignore db hS s hw).2 hs {}]

/-- **C14 (equivalence), the repaired code: the full statement.** A back-end that restricts every scan to the offered
columns *and* pre-filters it by the offered row filter (`SELECT cols FROM table WHERE filter`) returns what a back-end
ignoring the hints returns, for every statement the grammar admits. -/
theorem C14_equivalence_fixed (len : Bool) (S : Sem) (db : Db) (s : Source) (hS : FinishLocal S)
    (hs : isStmt s = true) (hg : grammarScoped s = true) :
    result true len S .honour db s = result true len S .ignore db s := by
  rw [← C14_filter_fixed len S db s hs hg]
  unfold result
  rw [honour_eq_proj, (run_proj true len S .honourRows db hS s (shaped_of_grammarScoped s hg)).2 hs {}]

/-- **C14 (equivalence), the code that exists: proved part** (outside the regions of the two findings) -/
theorem C14_equivalence_partial (len : Bool) (S : Sem) (db : Db) (s : Source) (hS : FinishLocal S)
    (hs : isStmt s = true) (hg : grammarScoped s = true) (hsafe : safe false len [] [] s = true) :
    result false len S .honour db s = result false len S .ignore db s := by
  rw [← C14_filter_partial len S db s hs hg hsafe]
  unfold result
  rw [honour_eq_proj, (run_proj false len S .honourRows db hS s (shaped_of_grammarScoped s hg)).2 hs {}]

def tA : Source := .table "A" [("x", .integer)]
def tB : Source := .table "B" [("z", .integer)]
def xA : Feature := .elem tA "x"
def gt1 (f : Feature) : Feature := binop .gt f (.lit (.int 1))

/-- `SELECT A.x FROM A LEFT JOIN B ON A.x > 1` -/
def wOuter : Source :=
  .query (.join tA tB .left (.some (gt1 xA))) (.cons xA .nil) .none .nil .none .nil none

/-- `SELECT A.x, r.x FROM A CROSS JOIN A AS r WHERE A.x > 1` -/
def wAlias : Source :=
  .query (.join tA (.ref tA "r") .cross .none) (.cons xA (.cons (.elem (.ref tA "r") "x") .nil)) (.some (gt1 xA))
    .nil .none .nil none

def dbOuter : Db := fun t => if t = tA then [[("x", .int 0)]] else []
def dbAlias : Db := fun t => if t = tA then [[("x", .int 2)], [("x", .int 0)]] else []

/-- the LEFT JOIN keeps the `A` row with `x = 0` (NULL-extended); pre-filtered by the offered `A.x > 1` it is gone -/
theorem C14_filter_counterexample_outer : ¬ C14_filter_full false := by
  intro h
  have := h true simpleSem dbOuter wOuter (by decide +kernel) (by decide +kernel)
  revert this
  decide +kernel

/-- the filter `A.x > 1` of the directly scanned `A` is also offered for the scan behind the reference `r`:
the pair `(2, 0)` is lost -/
theorem C14_filter_counterexample_alias : ¬ C14_filter_full false := by
  intro h
  have := h true simpleSem dbAlias wAlias (by decide +kernel) (by decide +kernel)
  revert this
  decide +kernel

/-- each witness lies in the region of exactly one finding; the repaired parser offers no filter where it hurts -/
example : safe false true [] [] wOuter = false ∧ safe false true [] [] wAlias = false := by decide +kernel
example : (hints true true wOuter).toOption.map (fun hs => hs.map (fun h => h.pred.length)) = some [0, 0] ∧
    (hints false true wOuter).toOption.map (fun hs => hs.map (fun h => h.pred.length)) = some [1, 0] := by decide +kernel
example : (hints true true wAlias).toOption.map (fun hs => hs.map (fun h => (h.cols, h.pred.length))) = some [(["x"], 1), (["x"], 0)] ∧
    (hints false true wAlias).toOption.map (fun hs => hs.map (fun h => (h.cols, h.pred.length))) = some [(["x"], 1), (["x"], 1)] := by
  decide +kernel
example : result true true simpleSem .honourRows dbOuter wOuter = result true true simpleSem .ignore dbOuter wOuter ∧
    result true true simpleSem .honourRows dbAlias wAlias = result true true simpleSem .ignore dbAlias wAlias := by decide +kernel
/-- the column theorem covers both witnesses -/
example : shaped wOuter = true ∧ shaped wAlias = true := by decide +kernel

/-- `SELECT A.x FROM A JOIN B ON A.x = B.z WHERE A.x > 1` (non-vacuity of `C14_safe_of_v1`) -/
def wInnerV1 : Source :=
  .query (.join tA tB .inner (.some (binop .eq xA (.elem tB "z")))) (.cons xA .nil) (.some (gt1 xA)) .nil .none .nil none

/-- `SELECT A.x, B.z FROM A LEFT JOIN B ON A.x = B.z WHERE A.x > 1`: the usual shape of a left join is in the proved
fragment (the preserved side is offered `A.x > 1`, the NULL-supplying side nothing) -/
def wLeftOk : Source :=
  .query (.join tA tB .left (.some (binop .eq xA (.elem tB "z")))) (.cons xA (.cons (.elem tB "z") .nil)) (.some (gt1 xA))
    .nil .none .nil none

/-- `… LEFT JOIN B ON A.x = B.z AND B.z > 1`: a factor of the ON condition for the *optional* side is harmless (a `B`
row failing it never matches) — inside the proved fragment of the code that exists, and kept by the repaired code -/
def wLeftOnRight : Source :=
  .query (.join tA tB .left (.some (binop .and (binop .eq xA (.elem tB "z")) (gt1 (.elem tB "z")))))
    (.cons xA (.cons (.elem tB "z") .nil)) .none .nil .none .nil none

/-- `… WHERE B.z IS NULL`: the NULL-supplying side would be offered `B.z IS NULL` -/
def wLeftIsNull : Source :=
  .query (.join tA tB .left (.some (binop .eq xA (.elem tB "z")))) (.cons xA .nil)
    (.some (.expr .isnull (.cons (.elem tB "z") .nil))) .nil .none .nil none

/-- `SELECT A.x FROM A FULL JOIN B ON A.x = B.z AND B.z > 1`: both sides are preserved -/
def wFullOn : Source :=
  .query (.join tA tB .full (.some (binop .and (binop .eq xA (.elem tB "z")) (gt1 (.elem tB "z")))))
    (.cons xA (.cons (.elem tB "z") .nil)) .none .nil .none .nil none

/-- `SELECT A.x FROM A AS r JOIN A ON r.x = A.x AND A.x > 1`: the ON condition is registered before either side is
visited, so the factor of `A` is there when `r` is scanned: region of C14-F2. -/
def wAliasOn : Source :=
  .query (.join (.ref tA "r") tA .inner (.some (binop .and (binop .eq (.elem (.ref tA "r") "x") xA) (gt1 xA))))
    (.cons xA .nil) .none .nil .none .nil none

/-- `SELECT r.x FROM A AS r JOIN (A JOIN B ON A.x = B.z AND A.x > 1) ON r.x = B.z`: here the factor of `A` is
registered only after `r` has been scanned — outside the region -/
def wAliasLate : Source :=
  .query (.join (.ref tA "r") (.join tA tB .inner (.some (binop .and (binop .eq xA (.elem tB "z")) (gt1 xA)))) .inner
      (.some (binop .eq (.elem (.ref tA "r") "x") (.elem tB "z"))))
    (.cons (.elem (.ref tA "r") "x") .nil) .none .nil .none .nil none

example : safe false false [] [] wLeftOk = true ∧ grammarScoped wLeftOk = true ∧ innerOnly wLeftOk = false ∧
    (hints false false wLeftOk).toOption.map (fun hs => hs.map (fun h => h.pred.length)) = some [1, 0] ∧
    (hints true false wLeftOk).toOption.map (fun hs => hs.map (fun h => h.pred.length)) = some [1, 0] := by decide +kernel
example : safe false false [] [] wLeftOnRight = true ∧ grammarScoped wLeftOnRight = true ∧
    (hints false false wLeftOnRight).toOption.map (fun hs => hs.map (fun h => h.pred.length)) = some [0, 1] ∧
    (hints true false wLeftOnRight).toOption.map (fun hs => hs.map (fun h => h.pred.length)) = some [0, 1] := by decide +kernel
example : safe false false [] [] wLeftIsNull = false ∧ safe false false [] [] wFullOn = false ∧
    safe false false [] [] wAliasOn = false ∧ safe false false [] [] wAliasLate = true ∧
    grammarScoped wAliasLate = true ∧ noAliasedScan (origins (.join (.ref tA "r") (.join tA tB .inner .none) .inner .none)) = false := by
  decide +kernel
example : innerOnly wLeftOk = false ∧ innerOnly wLeftOnRight = false ∧ innerOnly wAliasLate = true ∧
    wellScopedV1 wAliasLate = false ∧ wellScopedV1 wInnerV1 = true ∧ innerOnly wInnerV1 = true := by decide +kernel
/-- the IS NULL statement really loses the equivalence: `A = {1}`, `B = {1}` gives no row, pre-filtered `B = {}` gives one -/
example : result false false simpleSem .honourRows (fun t => if t = tA then [[("x", .int 1)]] else [[("z", .int 1)]]) wLeftIsNull
    ≠ result false false simpleSem .ignore (fun t => if t = tA then [[("x", .int 1)]] else [[("z", .int 1)]]) wLeftIsNull := by decide +kernel
/-- so does the full join: `A = {}`, `B = {0}` gives the NULL-extended `B` row, pre-filtered `B = {}` gives nothing -/
example : result false false simpleSem .honourRows (fun t => if t = tA then [] else [[("z", .int 0)]]) wFullOn
    ≠ result false false simpleSem .ignore (fun t => if t = tA then [] else [[("z", .int 0)]]) wFullOn := by decide +kernel
/-- … and the repaired parser offers neither filter -/
example : (hints true false wLeftIsNull).toOption.map (fun hs => hs.map (fun h => h.pred.length)) = some [0, 0] ∧
    (hints true false wFullOn).toOption.map (fun hs => hs.map (fun h => h.pred.length)) = some [0, 0] := by decide +kernel

/-- `FinishLocal` cannot be dropped from the column theorems: a post-processing that returns the bound rows as they are
(instead of evaluating the query's features) sees the columns the scan was not asked for -/
theorem C14_finishLocal_needed : ∃ (S : Sem) (db : Db) (s : Source), isStmt s = true ∧ grammarScoped s = true ∧
    result true true S .honourCols db s ≠ result true true S .ignore db s := by
  refine ⟨{ simpleSem with finish := fun _ envs => envs.map firstRow },
    (fun _ => [[("x", .int 1), ("y", .int 2)]]),
    .query (.table "A" [("x", .integer), ("y", .integer)]) (.cons (.elem (.table "A" [("x", .integer), ("y", .integer)]) "x") .nil)
      .none .nil .none .nil none, by decide +kernel, by decide +kernel, by decide +kernel⟩

def yB : Feature := .elem tB "z"

/-- `SELECT A.x, B.z FROM A JOIN B ON A.x = B.z WHERE A.x > 1 AND (B.z > 1 OR NOT B.z > 1)` -/
def wInner : Source :=
  .query (.join tA tB .inner (.some (binop .eq xA yB))) (.cons xA (.cons yB .nil))
    (.some (binop .and (gt1 xA) (binop .or (gt1 yB) (.expr .not (.cons (gt1 yB) .nil))))) .nil .none .nil none

def dbInner : Db := fun t =>
  if t = tA then [[("x", .int 2)], [("x", .int 0)], [("x", .null)]] else [[("z", .int 2)], [("z", .int 0)]]

/-- non-vacuity of `C14_filter_partial`: both tables are offered a filter, the one for `A` removes rows from its scan,
and the (non-empty) result is the same -/
example : isStmt wInner = true ∧ grammarScoped wInner = true ∧ safe false false [] [] wInner = true ∧
    (hints false false wInner).toOption.map (fun hs => hs.map (fun h => (h.cols, h.pred.length))) = some [(["x"], 1), (["z"], 1)] ∧
    Backend.honourRows.scan simpleSem dbInner ⟨tA, ["x"], [gt1 xA]⟩ = [[("x", .int 2)]] ∧
    result false false simpleSem .honour dbInner wInner = [[("x", .int 2), ("z", .int 2)]] ∧
    result false false simpleSem .ignore dbInner wInner = [[("x", .int 2), ("z", .int 2)]] := by
  decide +kernel

/-- the repaired parser on a left join whose ON condition has a factor for the optional side: `B` alone is offered a
filter (it removes the row `z = 0` from the scan) and the result, NULL-extended rows included, stays -/
example : (hints true false wLeftOnRight).toOption.map (fun hs => hs.map (fun h => (h.cols, h.pred.length))) = some [(["x"], 0), (["z"], 1)] ∧
    result true false simpleSem .honour dbInner wLeftOnRight = result true false simpleSem .ignore dbInner wLeftOnRight ∧
    result true false simpleSem .ignore dbInner wLeftOnRight =
      [[("x", .int 2), ("z", .int 2)], [("x", .int 0), ("z", .null)], [("x", .null), ("z", .null)]] := by
  decide +kernel

/-- one entry per occurrence -/
example : needs [] wInner = [["x", "x", "x"], ["z", "z", "z", "z"]] := by decide +kernel

def tC : Source := .table "C" [("k", .integer), ("g", .integer), ("v", .integer), ("w", .integer)]
def eC (n : String) : Feature := .elem tC n

/-- `SELECT count(C.v) FROM C GROUP BY C.g` — a grouping column used nowhere else and no HAVING: it is needed and
offered (both variants) -/
def wGroup : Source :=
  .query tC (.cons (.expr .count (.cons (eC "v") .nil)) .nil) .none (.cons (eC "g") .nil) .none .nil none

example : usesIn [] wGroup = [["v", "g"]] ∧
    (hints false false wGroup).toOption.map (fun hs => hs.map (·.cols)) = some [["v", "g"]] ∧
    (hints true false wGroup).toOption.map (fun hs => hs.map (·.cols)) = some [["v", "g"]] := by decide +kernel

/-- `SELECT q.k FROM (SELECT C.k FROM C WHERE C.v > 1) AS q JOIN (SELECT C.k, C.w FROM C WHERE C.g > 1) AS p ON q.k = p.k
ORDER BY p.w` — nested queries on both join sides, two contexts scanning the same table: each scan gets the columns
and the filter of its own context -/
def wTwoCtx : Source :=
  let q : Source := .ref (.query tC (.cons (eC "k") .nil) (.some (gt1 (eC "v"))) .nil .none .nil none) "q"
  let p : Source := .ref (.query tC (.cons (eC "k") (.cons (eC "w") .nil)) (.some (gt1 (eC "g"))) .nil .none .nil none) "p"
  .query (.join q p .inner (.some (binop .eq (.elem q "k") (.elem p "k")))) (.cons (.elem q "k") .nil) .none .nil .none
    (.cons (.mk (.elem p "w") .asc) .nil) none

example : grammarScoped wTwoCtx = true ∧ usesIn [] wTwoCtx = [["k", "v"], ["k", "w", "g"]] ∧
    (hints true false wTwoCtx).toOption.map (fun hs => hs.map (fun h => (h.cols, h.pred))) =
      some [(["k", "v"], [gt1 (eC "v")]), (["k", "w", "g"], [gt1 (eC "g")])] ∧
    (hints false false wTwoCtx).toOption.map (fun hs => hs.map (fun h => (h.table, h.cols, h.pred))) =
      (hints true false wTwoCtx).toOption.map (fun hs => hs.map (fun h => (h.table, h.cols, h.pred))) := by decide +kernel

/-- a set operation over the same table and a column used only through a reference: the lazy feed loads the union -/
def wSetRef : Source :=
  .set (.query tC (.cons (eC "k") .nil) .none .nil .none .nil none)
    (.query (.ref tC "r") (.cons (.elem (.ref tC "r") "g") .nil) (.some (gt1 (.elem (.ref tC "r") "w"))) .nil .none .nil none)
    .union

example : usesIn [] wSetRef = [["k"], ["g", "w"]] ∧ scanTables wSetRef = [tC, tC] ∧
    (lazyS wSetRef).map (·.2) = ["k", "g", "w"] ∧
    (hints true false wSetRef).toOption.map (fun hs => hs.map (·.cols)) = some [["k"], ["g", "w"]] := by decide +kernel

end ForML.PushDown
