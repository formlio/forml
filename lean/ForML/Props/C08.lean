/-
C08 — DSL objects are equal exactly when they are structurally identical.

Specification = the derived structural equality of `ForML.Model.Dsl`.  Implementation = `identEq` / `hashAgree` /
`repickle` / `dictGet` of `ForML.Model.DslIdent` (the code as repaired by fixes/C08-*.diff: class test + `tuple.__eq__`
on features, class name test + `tuple.__eq__` on sources) over the hash model `H` of `ForML.Model.DslEq` (`pyIntHash`
exact, every other component of `hash` a parameter: the theorems hold for *every* hash environment, collisions
included).  `C08_hier_table` is about the tables of class hierarchies (`ForML.Model.DslSchema`), the `C08_anon_*`
theorems about anonymous references made in different processes (`anonRef`), the `C08_dict_*` theorems about lookups
keyed by DSL objects; the theorems about the code before the repair are in `ForML.Lemmas.C08Legacy`.
-/
import ForML.Model.DslIdent
import ForML.Lemmas.C08Eq
import ForML.Lemmas.C08Schema

namespace ForML.Dsl

theorem C08_modulus : pyHashModulus = 2 ^ 61 - 1 := by decide

/-- `hash(n) = n` for every n with |n| < 2^61 - 1 except n = -1 -/
theorem C08_pyIntHash_small (n : Int) (h : n.natAbs < pyHashModulus) (h1 : n ≠ -1) : pyIntHash n = n := by
  have hn : (if n < 0 then -(n.natAbs : Int) else n.natAbs) = n := by split <;> omega
  simp only [pyIntHash, Nat.mod_eq_of_lt h, Int.ofNat_eq_natCast, hn, if_neg h1]

/-- … hence the integer hash is injective there: small literals never collide -/
theorem C08_pyIntHash_inj_small (a b : Int) (ha : a.natAbs < pyHashModulus) (hb : b.natAbs < pyHashModulus)
    (ha1 : a ≠ -1) (hb1 : b ≠ -1) (h : pyIntHash a = pyIntHash b) : a = b := by
  rw [C08_pyIntHash_small a ha ha1, C08_pyIntHash_small b hb hb1] at h
  exact h

/-- the collision families: `-1 / -2`, and `n / n + k·(2^61-1)` -/
theorem C08_pyIntHash_neg1 : pyIntHash (-1) = pyIntHash (-2) := by decide

theorem pyIntHash_natCast (m : Nat) :
    pyIntHash m = if ((m % pyHashModulus : Nat) : Int) = -1 then -2 else ((m % pyHashModulus : Nat) : Int) := by
  have : ¬ ((m : Int) < 0) := Int.not_lt.2 (Int.natCast_nonneg m)
  simp only [pyIntHash, this, if_false, Int.natAbs_natCast, Int.ofNat_eq_natCast]

theorem C08_pyIntHash_period (n : Int) (k : Nat) (h : 0 ≤ n) :
    pyIntHash (n + k * pyHashModulus) = pyIntHash n := by
  obtain ⟨m, rfl⟩ := Int.eq_ofNat_of_zero_le h
  rw [← Int.natCast_mul, ← Int.natCast_add, pyIntHash_natCast, pyIntHash_natCast, Nat.add_mul_mod_self_right]

/-- equal structure, equal hash (congruence; this is all that is assumed about `hash`) -/
theorem C08_sound_hash {α : Type} (env : HashEnv α) :
    (∀ a b : Feature, a = b → a.H env = b.H env) ∧ (∀ a b : Source, a = b → a.H env = b.H env)
    ∧ (∀ a b : Kind, a = b → a.H env = b.H env) :=
  ⟨fun _ _ h => h ▸ rfl, fun _ _ h => h ▸ rfl, fun _ _ h => h ▸ rfl⟩

/-- kinds and schemas: the implementation's equality *is* the structural one -/
theorem C08_kind_iff (a b : Kind) : Kind.implEq a b = true ↔ a = b := by simp [Kind.implEq]

theorem C08_schema_iff (a b : Fields) : fieldsEq a b = true ↔ a = b := by simp [fieldsEq]

/-- literals `(value, kind)`: equal iff the same value of the same type (`1`, `1.0`, `True` are three literals),
whatever a float/int comparison says -/
theorem C08_lit_iff (cf : Lit → Lit → Bool) (v w : Lit) : Lit.identEq cf v w = true ↔ v = w := by
  cases v <;> cases w <;> simp [Lit.identEq, Lit.valueEq, Lit.kind, Kind.implEq]

/- Each case takes the `eqAnd` chain of one constructor apart (`eqAnd_eq_true`, ForML.Lemmas.C08Eq); two different
constructors answer `some false` by computation, which `cases h` sees.  The recursion is declared structural: left to
itself Lean settles on well-founded recursion over `sizeOf` here, which is far slower to check. -/
mutual
private theorem Feature.identEq_sound (cf : Lit → Lit → Bool) :
    (a b : Feature) → Feature.identEq cf a b = some true → a = b
  | .lit v, b, h => by
    cases b with
    | lit w => rw [(C08_lit_iff cf v w).mp (Option.some.inj h)]
    | _ => cases h
  | .elem oa na, b, h => by
    cases b with
    | elem ob nb =>
      obtain ⟨h1, h2⟩ := eqAnd_decide_eq_true.1 (classTest_eq_true.1 h).2
      rw [Source.identEq_sound cf oa ob h1, h2]
    | _ => cases h
  | .alias fa na, b, h => by
    cases b with
    | alias fb nb =>
      obtain ⟨h1, h2⟩ := eqAnd_decide_eq_true.1 h
      rw [Feature.identEq_sound cf fa fb h1, h2]
    | _ => cases h
  | .expr opa as, b, h => by
    cases b with
    | expr opb bs =>
      obtain ⟨h1, h2⟩ := classTest_eq_true.1 h
      rw [h1, Features.identEq_sound cf as bs h2]
    | _ => cases h
  | .cast fa ka, b, h => by
    cases b with
    | cast fb kb =>
      obtain ⟨h1, h2⟩ := eqAnd_decide_eq_true.1 h
      rw [Feature.identEq_sound cf fa fb h1, h2]
    | _ => cases h
  | .window _ _ _, b, h => by cases b <;> cases h
termination_by structural a => a
private theorem Features.identEq_sound (cf : Lit → Lit → Bool) :
    (as bs : Features) → Features.identEq cf as bs = some true → as = bs
  | .nil, .nil, _ => rfl
  | .cons a as, .cons b bs, h => by
    obtain ⟨h1, h2⟩ := eqAnd_eq_true.1 h
    rw [Feature.identEq_sound cf a b h1, Features.identEq_sound cf as bs h2]
termination_by structural as => as
private theorem FeatureOpt.identEq_sound (cf : Lit → Lit → Bool) :
    (a b : FeatureOpt) → FeatureOpt.identEq cf a b = Option.some true → a = b
  | .none, .none, _ => rfl
  | .some x, .some y, h => by rw [Feature.identEq_sound cf x y h]
termination_by structural a => a
private theorem Ordering.identEq_sound (cf : Lit → Lit → Bool) :
    (a b : Ordering) → Ordering.identEq cf a b = some true → a = b
  | .mk fa da, .mk fb db, h => by
    obtain ⟨h1, h2⟩ := eqAnd_decide_eq_true.1 h
    rw [Feature.identEq_sound cf fa fb h1, h2]
termination_by structural a => a
private theorem Orderings.identEq_sound (cf : Lit → Lit → Bool) :
    (as bs : Orderings) → Orderings.identEq cf as bs = some true → as = bs
  | .nil, .nil, _ => rfl
  | .cons a as, .cons b bs, h => by
    obtain ⟨h1, h2⟩ := eqAnd_eq_true.1 h
    rw [Ordering.identEq_sound cf a b h1, Orderings.identEq_sound cf as bs h2]
termination_by structural as => as
private theorem Source.identEq_sound (cf : Lit → Lit → Bool) :
    (a b : Source) → Source.identEq cf a b = some true → a = b
  | .table na fa, b, h => by
    cases b with
    | table nb fb =>
      obtain ⟨h1, h2⟩ := Bool.and_eq_true_iff.1 (Option.some.inj h)
      rw [of_decide_eq_true h1, (C08_schema_iff fa fb).1 h2]
    | _ => cases h
  | .ref sa na, b, h => by
    cases b with
    | ref sb nb =>
      obtain ⟨h1, h2⟩ := eqAnd_decide_eq_true.1 h
      rw [Source.identEq_sound cf sa sb h1, h2]
    | _ => cases h
  | .join la ra ka ca, b, h => by
    cases b with
    | join lb rb kb cb =>
      obtain ⟨h1, h⟩ := eqAnd_eq_true.1 h
      obtain ⟨h2, h⟩ := eqAnd_eq_true.1 h
      obtain ⟨h3, h4⟩ := eqAnd_eq_true.1 h
      rw [Source.identEq_sound cf la lb h1, Source.identEq_sound cf ra rb h2, of_decide_eq_true (Option.some.inj h3),
        FeatureOpt.identEq_sound cf ca cb h4]
    | _ => cases h
  | .set la ra ka, b, h => by
    cases b with
    | set lb rb kb =>
      obtain ⟨h1, h⟩ := eqAnd_eq_true.1 h
      obtain ⟨h2, h3⟩ := eqAnd_decide_eq_true.1 h
      rw [Source.identEq_sound cf la lb h1, Source.identEq_sound cf ra rb h2, h3]
    | _ => cases h
  | .query sa sela prea grpa posta orda rowsa, b, h => by
    cases b with
    | query sb selb preb grpb postb ordb rowsb =>
      obtain ⟨h1, h⟩ := eqAnd_eq_true.1 h
      obtain ⟨h2, h⟩ := eqAnd_eq_true.1 h
      obtain ⟨h3, h⟩ := eqAnd_eq_true.1 h
      obtain ⟨h4, h⟩ := eqAnd_eq_true.1 h
      obtain ⟨h5, h⟩ := eqAnd_eq_true.1 h
      obtain ⟨h6, h7⟩ := eqAnd_decide_eq_true.1 h
      rw [Source.identEq_sound cf sa sb h1, Features.identEq_sound cf sela selb h2,
        FeatureOpt.identEq_sound cf prea preb h3, Features.identEq_sound cf grpa grpb h4,
        FeatureOpt.identEq_sound cf posta postb h5, Orderings.identEq_sound cf orda ordb h6, h7]
    | _ => cases h
termination_by structural a => a
end

mutual
private theorem Feature.identEq_refl (cf : Lit → Lit → Bool) :
    (f : Feature) → f.windowFree = true → Feature.identEq cf f f = some true
  | .lit v, _ => congrArg some ((C08_lit_iff cf v v).mpr rfl)
  | .elem o _, h => classTest_eq_true.2 ⟨rfl, eqAnd_decide_eq_true.2 ⟨Source.identEq_refl cf o h, rfl⟩⟩
  | .alias f _, h => eqAnd_decide_eq_true.2 ⟨Feature.identEq_refl cf f h, rfl⟩
  | .expr _ args, h => classTest_eq_true.2 ⟨rfl, Features.identEq_refl cf args h⟩
  | .cast f _, h => eqAnd_decide_eq_true.2 ⟨Feature.identEq_refl cf f h, rfl⟩
  | .window _ _ _, h => nomatch h
termination_by structural f => f
private theorem Features.identEq_refl (cf : Lit → Lit → Bool) :
    (fs : Features) → fs.windowFree = true → Features.identEq cf fs fs = some true
  | .nil, _ => rfl
  | .cons f fs, h =>
    have ⟨h1, h2⟩ := Bool.and_eq_true_iff.1 h
    eqAnd_eq_true.2 ⟨Feature.identEq_refl cf f h1, Features.identEq_refl cf fs h2⟩
termination_by structural fs => fs
private theorem FeatureOpt.identEq_refl (cf : Lit → Lit → Bool) :
    (o : FeatureOpt) → o.windowFree = true → FeatureOpt.identEq cf o o = Option.some true
  | .none, _ => rfl
  | .some f, h => Feature.identEq_refl cf f h
termination_by structural o => o
private theorem Ordering.identEq_refl (cf : Lit → Lit → Bool) :
    (o : Ordering) → o.windowFree = true → Ordering.identEq cf o o = some true
  | .mk f _, h => eqAnd_decide_eq_true.2 ⟨Feature.identEq_refl cf f h, rfl⟩
termination_by structural o => o
private theorem Orderings.identEq_refl (cf : Lit → Lit → Bool) :
    (os : Orderings) → os.windowFree = true → Orderings.identEq cf os os = some true
  | .nil, _ => rfl
  | .cons o os, h =>
    have ⟨h1, h2⟩ := Bool.and_eq_true_iff.1 h
    eqAnd_eq_true.2 ⟨Ordering.identEq_refl cf o h1, Orderings.identEq_refl cf os h2⟩
termination_by structural os => os
private theorem Source.identEq_refl (cf : Lit → Lit → Bool) :
    (s : Source) → s.windowFree = true → Source.identEq cf s s = some true
  | .table _ fs, _ => congrArg some (Bool.and_eq_true_iff.2 ⟨decide_eq_true rfl, (C08_schema_iff fs fs).2 rfl⟩)
  | .ref s _, h => eqAnd_decide_eq_true.2 ⟨Source.identEq_refl cf s h, rfl⟩
  | .join l r _ c, h => by
    obtain ⟨h, h3⟩ := Bool.and_eq_true_iff.1 h
    obtain ⟨h1, h2⟩ := Bool.and_eq_true_iff.1 h
    exact eqAnd_eq_true.2 ⟨Source.identEq_refl cf l h1, eqAnd_eq_true.2 ⟨Source.identEq_refl cf r h2,
      eqAnd_eq_true.2 ⟨congrArg some (decide_eq_true rfl), FeatureOpt.identEq_refl cf c h3⟩⟩⟩
  | .set l r _, h => by
    obtain ⟨h1, h2⟩ := Bool.and_eq_true_iff.1 h
    exact eqAnd_eq_true.2 ⟨Source.identEq_refl cf l h1, eqAnd_decide_eq_true.2 ⟨Source.identEq_refl cf r h2, rfl⟩⟩
  | .query s sel pre grp post ord _, h => by
    obtain ⟨h, h6⟩ := Bool.and_eq_true_iff.1 h
    obtain ⟨h, h5⟩ := Bool.and_eq_true_iff.1 h
    obtain ⟨h, h4⟩ := Bool.and_eq_true_iff.1 h
    obtain ⟨h, h3⟩ := Bool.and_eq_true_iff.1 h
    obtain ⟨h1, h2⟩ := Bool.and_eq_true_iff.1 h
    exact eqAnd_eq_true.2 ⟨Source.identEq_refl cf s h1, eqAnd_eq_true.2 ⟨Features.identEq_refl cf sel h2,
      eqAnd_eq_true.2 ⟨FeatureOpt.identEq_refl cf pre h3, eqAnd_eq_true.2 ⟨Features.identEq_refl cf grp h4,
        eqAnd_eq_true.2 ⟨FeatureOpt.identEq_refl cf post h5,
          eqAnd_decide_eq_true.2 ⟨Orderings.identEq_refl cf ord h6, rfl⟩⟩⟩⟩⟩⟩
termination_by structural s => s
end

/-- Different objects never compare equal — no hypothesis on hashes, windows or well-formedness: whatever `hash`
does, `==` holds only between structurally identical features / sources. -/
theorem C08_eq_structural (cf : Lit → Lit → Bool) :
    (∀ a b : Feature, Feature.identEq cf a b = some true → a = b)
    ∧ (∀ a b : Source, Source.identEq cf a b = some true → a = b) :=
  ⟨Feature.identEq_sound cf, Source.identEq_sound cf⟩

theorem C08_feature_iff (cf : Lit → Lit → Bool) (a b : Feature) (ha : a.windowFree = true) :
    Feature.identEq cf a b = some true ↔ a = b :=
  ⟨Feature.identEq_sound cf a b, fun h => h ▸ Feature.identEq_refl cf a ha⟩

theorem C08_source_iff (cf : Lit → Lit → Bool) (a b : Source) (ha : a.windowFree = true) :
    Source.identEq cf a b = some true ↔ a = b :=
  ⟨Source.identEq_sound cf a b, fun h => h ▸ Source.identEq_refl cf a ha⟩

theorem C08_symm (cf : Lit → Lit → Bool) :
    (∀ a b : Feature, a.windowFree = true → b.windowFree = true →
      (Feature.identEq cf a b = some true ↔ Feature.identEq cf b a = some true))
    ∧ (∀ a b : Source, a.windowFree = true → b.windowFree = true →
      (Source.identEq cf a b = some true ↔ Source.identEq cf b a = some true)) := by
  refine ⟨fun a b ha hb => ?_, fun a b ha hb => ?_⟩
  · rw [C08_feature_iff cf a b ha, C08_feature_iff cf b a hb]; exact eq_comm
  · rw [C08_source_iff cf a b ha, C08_source_iff cf b a hb]; exact eq_comm

/-- a comparison raises (an optional clause present on one side only) only between different objects -/
theorem C08_raise_distinct (cf : Lit → Lit → Bool) :
    (∀ a b : Feature, a.windowFree = true → Feature.identEq cf a b = none → a ≠ b)
    ∧ (∀ a b : Source, a.windowFree = true → Source.identEq cf a b = none → a ≠ b) := by
  refine ⟨fun a b ha h e => ?_, fun a b ha h e => ?_⟩
  · rw [← e, Feature.identEq_refl cf a ha] at h; cases h
  · rw [← e, Source.identEq_refl cf a ha] at h; cases h

/-- "compare equal — and hash equal — iff built from the same structure; identity survives pickling", for all
features, sources and kinds, in every hash environment -/
def C08_full : Prop :=
  ∀ (α : Type) [DecidableEq α] (env : HashEnv α) (cf : Lit → Lit → Bool),
    (∀ a b : Feature, (Feature.identEq cf a b = some true ∧ Feature.hashAgree env a b = true) ↔ a = b)
    ∧ (∀ a b : Source, (Source.identEq cf a b = some true ∧ Source.hashAgree env a b = true) ↔ a = b)
    ∧ (∀ a b : Kind, (Kind.implEq a b = true ∧ a.H env = b.H env) ↔ a = b)
    ∧ (∀ f : Feature, f.repickle = some f) ∧ (∀ s : Source, s.repickle = some s) ∧ (∀ k : Kind, k.repickle = some k)

/-- the window `RowNumber() OVER ()` -/
def rowNumberWindow : Feature := .window (.expr .rownumber .nil) .nil .nil

/-- finding C08-F1: a window built twice is not equal to itself, does not hash equal and does not pickle -/
theorem C08_window (cf : Lit → Lit → Bool) :
    Feature.identEq cf rowNumberWindow rowNumberWindow = some false
    ∧ Feature.hashAgree freeEnv rowNumberWindow rowNumberWindow = false
    ∧ rowNumberWindow.repickle = none :=
  ⟨rfl, rfl, rfl⟩

theorem C08_counterexample : ¬ C08_full := by
  intro h
  have := ((h HTerm freeEnv (fun _ _ => false)).1 rowNumberWindow rowNumberWindow).mpr rfl
  rw [(C08_window _).1] at this
  exact absurd this.1 (by decide)

/-- the full statement for every window-free object (all hash environments, collisions included) -/
theorem C08_partial {α : Type} [DecidableEq α] (env : HashEnv α) (cf : Lit → Lit → Bool) :
    (∀ a b : Feature, a.windowFree = true →
      ((Feature.identEq cf a b = some true ∧ Feature.hashAgree env a b = true) ↔ a = b))
    ∧ (∀ a b : Source, a.windowFree = true →
      ((Source.identEq cf a b = some true ∧ Source.hashAgree env a b = true) ↔ a = b))
    ∧ (∀ a b : Kind, (Kind.implEq a b = true ∧ a.H env = b.H env) ↔ a = b)
    ∧ (∀ f : Feature, f.windowFree = true → f.repickle = some f)
    ∧ (∀ s : Source, s.windowFree = true → s.repickle = some s) ∧ (∀ k : Kind, k.repickle = some k) := by
  refine ⟨fun a b ha => ⟨fun h => Feature.identEq_sound cf a b h.1, fun h => ?_⟩,
    fun a b ha => ⟨fun h => Source.identEq_sound cf a b h.1, fun h => ?_⟩,
    fun a b => ⟨fun h => (C08_kind_iff a b).mp h.1, fun h => ?_⟩,
    fun f hf => by simp [Feature.repickle, hf], fun s hs => by simp [Source.repickle, hs], fun k => rfl⟩
  · subst h; exact ⟨Feature.identEq_refl cf a ha, by simp [Feature.hashAgree, ha]⟩
  · subst h; exact ⟨Source.identEq_refl cf a ha, by simp [Source.hashAgree, ha]⟩
  · subst h; exact ⟨(C08_kind_iff a a).mpr rfl, rfl⟩

theorem tableOf_windowFree (ds : List Decl) (h : Heap) (i : Nat) (t : Source) (ht : tableOf ds h i = some t) :
    t.windowFree = true := by
  unfold tableOf at ht
  split at ht
  · cases ht
    rfl
  · cases ht

/-- The tables of two class statements — of any two programs, whatever their inheritance — compare equal and hash equal
exactly when they are the same structure (class name + resolved ordered fields), in every hash environment; and the
table a statement denotes is the same after every class of its program went through the `copyreg` reducer. -/
theorem C08_hier_table {α : Type} [DecidableEq α] (env : HashEnv α) (cf : Lit → Lit → Bool) (ds ds' : List Decl) (i j : Nat)
    (t t' : Source) (ht : tableOf ds (buildAll ds) i = some t) (ht' : tableOf ds' (buildAll ds') j = some t') :
    ((Source.identEq cf t t' = some true ∧ Source.hashAgree env t t' = true) ↔ t = t')
    ∧ tableOf (encode ds (buildAll ds)) (buildAll (encode ds (buildAll ds))) i = some t
    ∧ t.repickle = some t := by
  have hw := tableOf_windowFree ds _ i t ht
  -- `ht'` plays no part: the equivalence holds against every source `t'`
  have _ := ht'
  exact ⟨(C08_partial env cf).2.1 t t' hw, by rw [C08_schema_table_pickle]; exact ht, (C08_partial env cf).2.2.2.2.1 t hw⟩

/-- two anonymous references to one (window-free) source, made anywhere, compare equal after shipping exactly when
their names are equal — and then they hash equal too, in every hash environment -/
theorem C08_anon_shipped_iff {P : Type} {α : Type} [DecidableEq α] (env : HashEnv α) (cf : Lit → Lit → Bool)
    (name : AnonNamer P) (s : Source) (hs : s.windowFree = true) (p q : P) (i j : Nat) :
    ((Source.identEq cf (anonRef name s p i) (anonRef name s q j) = some true
      ∧ Source.hashAgree env (anonRef name s p i) (anonRef name s q j) = true) ↔ name p i = name q j) := by
  have hw : (anonRef name s p i).windowFree = true := hs
  rw [(C08_partial env cf).2.1 _ _ hw]
  simp [anonRef]

/-- "distinct anonymous references stay distinct wherever their copies meet" for a naming scheme -/
def C08_anon_full {P : Type} (name : AnonNamer P) : Prop :=
  ∀ (cf : Lit → Lit → Bool) (s : Source), s.windowFree = true → ∀ (p q : P) (i j : Nat), (p, i) ≠ (q, j) →
    Source.identEq cf (anonRef name s p i) (anonRef name s q j) ≠ some true

/-- **identity after shipping requires names that are fresh ACROSS processes**: the statement holds exactly for the naming
schemes that never give one name to two creations — of one process or of two -/
theorem C08_anon_fresh_iff {P : Type} (name : AnonNamer P) :
    C08_anon_full name ↔ ∀ (p q : P) (i j : Nat), name p i = name q j → (p, i) = (q, j) := by
  constructor
  · intro h p q i j hn
    by_cases hpq : (p, i) = (q, j)
    · exact hpq
    · exfalso
      have hs : (Source.table "T" []).windowFree = true := rfl
      refine h (fun _ _ => false) (.table "T" []) hs p q i j hpq ?_
      exact ((C08_anon_shipped_iff freeEnv (fun _ _ => false) name _ hs p q i j).2 hn).1
  · intro h cf s _ p q i j hne heq
    have := Source.identEq_sound cf _ _ heq
    simp only [anonRef, Source.ref.injEq, true_and] at this
    exact hne (h p q i j this)

theorem C08_anon_counter_counterexample {P : Type} (p q : P) (hpq : p ≠ q) : ¬ C08_anon_full (counterNamer (P := P)) := by
  intro h
  have := (C08_anon_fresh_iff counterNamer).1 h p q 0 0 rfl
  exact hpq (Prod.ext_iff.1 this).1

/-- under a per-process counter the `i`-th anonymous references of any two processes to one (window-free) source are
one object after shipping — equal, hash-equal, one dictionary key, and a self-join between them has one origin on
both sides -/
theorem C08_anon_counter_collapse {P : Type} {α : Type} [DecidableEq α] (env : HashEnv α) (cf : Lit → Lit → Bool)
    (s : Source) (hs : s.windowFree = true) (p q : P) (i : Nat) :
    Source.identEq cf (anonRef counterNamer s p i) (anonRef counterNamer s q i) = some true
    ∧ Source.hashAgree env (anonRef counterNamer s p i) (anonRef counterNamer s q i) = true
    ∧ dictGet (fun x => x.H env) (Source.identEq cf) [(anonRef counterNamer s p i, 0)] (anonRef counterNamer s q i) = .ok (some 0)
    ∧ (∀ k c, Source.join (anonRef counterNamer s p i) (anonRef counterNamer s q i) k c
        = Source.join (anonRef counterNamer s p i) (anonRef counterNamer s p i) k c) := by
  have h := (C08_anon_shipped_iff env cf (counterNamer (P := P)) s hs p q i i).2 rfl
  refine ⟨h.1, h.2, ?_, fun _ _ => rfl⟩
  have hH : (anonRef (counterNamer (P := P)) s p i).H env = (anonRef (counterNamer (P := P)) s q i).H env := rfl
  simp [dictGet, hH, h.1]

/-- … while inside one process it does tell its references apart (why nothing shows in one interpreter) -/
example : (counterNamer () 0, counterNamer () 1, counterNamer () 9) = ("ref1", "ref2", "ref10") := by decide +kernel

/-- A lookup that does not raise answers like a structural dictionary — for any hash function `h` and any probe order,
provided `==` against the key is sound and the key equals itself. -/
theorem C08_dict_structural {α K V : Type} [DecidableEq α] [DecidableEq K] (h : K → α) (eq : K → K → EqRes) (k : K)
    (hsound : ∀ k', eq k' k = some true → k' = k) (hrefl : eq k k = some true) :
    ∀ (d : List (K × V)) (r : Option V), dictGet h eq d k = .ok r → r = structGet d k := by
  intro d
  induction d with
  | nil => intro r hr; simp [dictGet] at hr; simp [structGet, hr]
  | cons e rest ih =>
    obtain ⟨k', v⟩ := e
    intro r hr
    by_cases hk : k' = k
    · subst hk
      simp [dictGet, hrefl] at hr
      simp [structGet, ← hr]
    · have hs : structGet ((k', v) :: rest) k = structGet rest k := by simp [structGet, List.find?, hk]
      rw [hs]
      simp only [dictGet] at hr
      split at hr
      · split at hr
        · rename_i heq
          exact absurd (hsound k' heq) hk
        · exact ih r hr
        · cases hr
      · exact ih r hr

/-- features as keys (sets of elements, `lru_cache` of `generate_feature`): never confused, in any hash environment -/
theorem C08_dict_feature {α V : Type} [DecidableEq α] (env : HashEnv α) (cf : Lit → Lit → Bool) (k : Feature)
    (hk : k.windowFree = true) (d : List (Feature × V)) (r : Option V)
    (h : dictGet (fun f => f.H env) (Feature.identEq cf) d k = .ok r) : r = structGet d k :=
  C08_dict_structural _ _ k (fun k' => Feature.identEq_sound cf k' k) (Feature.identEq_refl cf k hk) d r h

/-- statements as keys (feed source maps, `lru_cache` of `Source.__getitem__` and `Reader._parse_statement`) -/
theorem C08_dict_source {α V : Type} [DecidableEq α] (env : HashEnv α) (cf : Lit → Lit → Bool) (k : Source)
    (hk : k.windowFree = true) (d : List (Source × V)) (r : Option V)
    (h : dictGet (fun s => s.H env) (Source.identEq cf) d k = .ok r) : r = structGet d k :=
  C08_dict_structural _ _ k (fun k' => Source.identEq_sound cf k' k) (Source.identEq_refl cf k hk) d r h

section NonVacuity

private def tA : Source := .table "A" [("a", .integer), ("b", .string)]
private def tB : Source := .table "B" [("a", .integer), ("b", .string)]
private def colA (n : String) : Feature := .elem tA n
private def q (lim : Int) : Source :=
  .query tA (.cons (.alias (colA "a") "x") (.cons (colA "b") .nil))
    (.some (.expr .gt (.cons (colA "a") (.cons (.lit (.int lim)) .nil)))) .nil .none
    (.cons (.mk (colA "b") .desc) .nil) (some (10, 0))
private def nocf : Lit → Lit → Bool := fun _ _ => false

/-- a non-trivial window-free statement satisfies the hypothesis and the conclusion is used both ways -/
example : (q 1).windowFree = true ∧ Source.identEq nocf (q 1) (q 1) = some true
    ∧ Source.identEq nocf (q 1) (q 2) = some false := by decide +kernel

/-- the colliding pair hashes equal (in the free environment, hence in every one) and is told apart by `==`;
a dictionary holding the one does not answer for the other -/
example : (q (-1)).H freeEnv = (q (-2)).H freeEnv ∧ Source.identEq nocf (q (-1)) (q (-2)) = some false
    ∧ (dictGet (fun s => s.H freeEnv) (Source.identEq nocf) [(q (-1), 1)] (q (-2))).toOption = some none
    ∧ (dictGet (fun s => s.H freeEnv) (Source.identEq nocf) [(q (-1), 1), (q (-2), 2)] (q (-2))).toOption
      = some (some 2) := by decide +kernel

/-- twin tables, alias wrapping, cross-type literals -/
example : Source.identEq nocf tA tB = some false ∧ Feature.identEq nocf (colA "a") (.alias (colA "a") "x") = some false
    ∧ Feature.identEq nocf (.alias (colA "a") "x") (colA "a") = some false
    ∧ Feature.identEq (fun _ _ => true) (.lit (.int 1)) (.lit (.float "1.0")) = some false
    ∧ Feature.identEq nocf (.lit (.int 1)) (.lit (.bool true)) = some false := by decide +kernel

/-- an optional clause on one side only: the comparison raises -/
example : Source.identEq nocf (q 1) (.query tA (.cons (.alias (colA "a") "x") (.cons (colA "b") .nil)) .none .nil .none
    (.cons (.mk (colA "b") .desc) .nil) (some (10, 0))) = none := by decide +kernel

end NonVacuity

end ForML.Dsl
