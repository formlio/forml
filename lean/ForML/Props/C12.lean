/-
C12 — Cross-validated evaluation and stacking never leak held-out data.

Reading of the statement in the model (ForML/Model/CrossVal.lean):

* a *pipeline* is a scope `S` (what an expanded trunk computes from its three inputs) that is provenance-`Local`
  (ForML/Lemmas/C12.lean); every expression of the operator library denotes such a scope
  (`C12_pipeline_local`, by induction over the expression, nested ensembles and evaluations included);
* *fold count* `n` and *splitter* are arbitrary: the cross-validator behind splitter `sp` is `E.dec sp`, any
  function from the splitter's training data to index lists (overlapping, non-covering, repeating alike);
* a *prediction for a record* is a row `r` of a provenance value: `r.key` the record, `r.deps` every record
  any model instance was trained on whose output went into the row;
* all data: `E.inp` is arbitrary, the features `X` / labels `L` handed to the evaluation or the ensemble are
  arbitrary terms (e.g. outputs of preceding operators).
-/
import ForML.Lemmas.C12
import ForML.Lemmas.C12Apply
import ForML.Lemmas.C12Reduce
import ForML.Model.CrossValActor

namespace ForML.CrossVal

/-- every expression of the operator library — wrap operators, MapReduce, `>>`, and (nested) FullStack and
TrainTestScore — is provenance-local, for every data and every splitter decision -/
theorem C12_pipeline_local (E : Env) (p : Pipe) : Local E (denote p) :=
  denoteC_local E p _ (origin_local E)

/-- `pipeline >> TrainTestScore(metric, method)`: the train path ends in the score of the outcomes the method
produces from the *unexpanded* pipeline and the source's features and labels -/
theorem C12_evaluated_pipeline (p : Pipe) (n sp metric reducer : Nat) (xa xt xl : Val) :
    (denote (.seq p (.score n sp metric reducer)) xa xt xl).train
      = (score metric reducer (produce (denote p) n sp xt xl)).getD .none := rfl

/-- `scope >> FullStack(bases...)`: the ensemble is built over the unexpanded scope and bases -/
theorem C12_stacked_pipeline (p : Pipe) (bases : List Pipe) (n sp appender stacker reducer : Nat) (xa xt xl : Val) :
    denote (.seq p (.stack bases n sp appender stacker reducer)) xa xt xl
      = build (bases.map denote) (folds (denote p) n sp xa xt xl) appender stacker reducer := by
  rw [← denoteAll_eq_map]
  rfl

/-- `CrossVal.produce` yields exactly `n` outcomes, outcome `fid` being fold `fid`: true = port `2 fid + 1` of the
label splitter, prediction = the pipeline trained on ports `2 fid` of the feature and label splitters applied to
port `2 fid + 1` of the feature splitter — all four ports of forks holding one and the same state -/
theorem C12_eval_folds (S : Scope) (n sp : Nat) (X L : Val) :
    (produce S n sp X L).length = n ∧
    ∀ fid, fid < n → (produce S n sp X L)[fid]? = some
      ⟨.part sp (.state sp .none X L) (2 * fid + 1) L,
       (S (.part sp (.state sp .none X L) (2 * fid + 1) X) (.part sp (.state sp .none X L) (2 * fid) X)
          (.part sp (.state sp .none X L) (2 * fid) L)).apply⟩ :=
  range_map_spec n (foldOutcome S sp X L)

/-- every fold contributes exactly once: with `n ≥ 2` folds the reducer has exactly `n` arguments, argument `fid`
being the metric of outcome `fid` -/
theorem C12_eval_once (S : Scope) (n sp metric reducer : Nat) (X L : Val) (hn : 2 ≤ n) :
    ∃ args, score metric reducer (produce S n sp X L) = some (.apply reducer .none args) ∧ args.length = n ∧
      ∀ fid, fid < n → args[fid]? = some (.apply metric .none
        [(foldOutcome S sp X L fid).true_, (foldOutcome S sp X L fid).pred]) := by
  have h := range_map_spec n (foldOutcome S sp X L)
  exact ⟨_, score_of_two_le metric reducer (h.1.symm ▸ hn),
    range_map_map_spec n (foldOutcome S sp X L) (metricOf metric)⟩

/-- hold-out: exactly one outcome, scored by the metric alone -/
theorem C12_holdout_once (S : Scope) (sp metric reducer : Nat) (X L : Val) :
    score metric reducer (produce S 1 sp X L) = some (.apply metric .none
      [(foldOutcome S sp X L 0).true_, (foldOutcome S sp X L 0).pred]) := rfl

/-- **Metric reducers**, for any method's outcomes: no outcome — refused (`assert outcomes`); one — the metric of that
(true, prediction) pair alone; `k ≥ 2` — the reducer over exactly `k` arguments, argument `i` the metric of outcome `i` and
of nothing else: every partition is scored exactly once -/
theorem C12_score_partitions (metric reducer : Nat) (os : List Outcome) :
    (os = [] → score metric reducer os = none) ∧
    (∀ o, os = [o] → score metric reducer os = some (.apply metric .none [o.true_, o.pred])) ∧
    (2 ≤ os.length → ∃ args, score metric reducer os = some (.apply reducer .none args) ∧ args.length = os.length ∧
      ∀ i (h : i < os.length), args[i]? = some (.apply metric .none [os[i].true_, os[i].pred])) := by
  refine ⟨by rintro rfl; rfl, by rintro o rfl; rfl, fun h => ?_⟩
  refine ⟨_, score_of_two_le metric reducer h, List.length_map _, fun i hi => ?_⟩
  rw [List.getElem?_map, List.getElem?_eq_getElem hi]
  rfl

/-- `pipeline >> PerfTrackScore(metric)`: the train path ends in the metric — alone, there is one partition — of (the tracked
labels, the pipeline with the states of the earlier generation applied to the tracked *features of the same data*);
apply and label pass through.  For every local pipeline every scored prediction describes a record of the tracked
features and depends only on what that row depended on and on what the earlier generation was trained on: nothing is
trained on the tracked data — in particular no prediction has seen the outcome it is scored against -/
theorem C12_perftrack (E : Env) (S : Scope) (hS : Local E S) (metric reducer : Nat) (T0 L0 xa xt xl : Val) :
    let out := perfTrackScore metric reducer (T0, L0) S xa xt xl
    let pred := (S xt T0 L0).apply
    out.train = .apply metric .none [xl, pred] ∧ out.apply = xa ∧ out.label = xl ∧
    (∀ r ∈ rows E pred, r.key ∈ (rows E xt).keys) ∧
    (∀ r ∈ rows E pred, ∀ x ∈ r.deps, x ∈ (rows E xt).deps ∨ x ∈ (rows E T0).atoms ∨ x ∈ (rows E L0).atoms) :=
  ⟨rfl, rfl, rfl, hS.apply_from xt T0 L0⟩

/-- **No leak in evaluation.**  For every local pipeline, fold count, splitter decision and fold `fid` with
decided positions `(tr, te)`: the true outcomes of outcome `fid` are exactly the held-out labels of fold `fid`;
every scored prediction describes a held-out record of fold `fid` and depends only on what that held-out feature
row depended on before the split and on records of the *training part of fold `fid`*. -/
theorem C12_eval_noleak (E : Env) (S : Scope) (hS : Local E S) (n sp : Nat) (X L : Val)
    (fid : Nat) (hfid : fid < n) (o : Outcome) (ho : (produce S n sp X L)[fid]? = some o)
    (tr te : List Nat) (hdec : (E.dec sp (rows E X) (rows E L))[fid]? = some (tr, te)) :
    rows E o.true_ = select te (rows E L) ∧
    (∀ r ∈ rows E o.pred, r.key ∈ (select te (rows E X)).keys) ∧
    (∀ r ∈ rows E o.pred, ∀ x ∈ r.deps,
      x ∈ (select te (rows E X)).deps ∨ x ∈ (select tr (rows E X)).atoms ∨ x ∈ (select tr (rows E L)).atoms) := by
  rw [produce_getElem? S n sp X L hfid] at ho
  cases ho
  have h := hS.apply_from (.part sp (.state sp .none X L) (2 * fid + 1) X) (.part sp (.state sp .none X L) (2 * fid) X)
    (.part sp (.state sp .none X L) (2 * fid) L)
  rw [rows_part_test E sp .none X L X fid tr te hdec, rows_part_train E sp .none X L X fid tr te hdec,
    rows_part_train E sp .none X L L fid tr te hdec] at h
  exact ⟨rows_part_test E sp .none X L L fid tr te hdec, h⟩

/-- …on source data (rows that do not depend on any trained model yet): every record a scored prediction depends
on is the feature or label record at a *train position of fold `fid`* -/
theorem C12_eval_trained_on_train_part (E : Env) (S : Scope) (hS : Local E S) (n sp : Nat) (X L : Val)
    (fid : Nat) (hfid : fid < n) (o : Outcome) (ho : (produce S n sp X L)[fid]? = some o)
    (tr te : List Nat) (hdec : (E.dec sp (rows E X) (rows E L))[fid]? = some (tr, te))
    (hX : ∀ r ∈ rows E X, r.deps = []) (hL : ∀ r ∈ rows E L, r.deps = []) :
    ∀ r ∈ rows E o.pred, ∀ x ∈ r.deps, ∃ p ∈ tr, ∃ q,
      ((rows E X)[p]? = some q ∨ (rows E L)[p]? = some q) ∧ x = q.key :=
  fun r hr x hx =>
    train_part_source hX hL ((C12_eval_noleak E S hS n sp X L fid hfid o ho tr te hdec).2.2 r hr x hx)

/-- …and when the splitter is a genuine train/test split (no position both trained on and held out) over distinct
records with aligned labels: **no scored prediction depends on its own record** -/
theorem C12_eval_heldout_unseen (E : Env) (S : Scope) (hS : Local E S) (n sp : Nat) (X L : Val)
    (fid : Nat) (hfid : fid < n) (o : Outcome) (ho : (produce S n sp X L)[fid]? = some o)
    (tr te : List Nat) (hdec : (E.dec sp (rows E X) (rows E L))[fid]? = some (tr, te))
    (hX : ∀ r ∈ rows E X, r.deps = []) (hL : ∀ r ∈ rows E L, r.deps = [])
    (hdisj : ∀ p ∈ tr, p ∉ te) (hnodup : (rows E X).rids.Nodup) (halign : (rows E L).rids = (rows E X).rids) :
    ∀ r ∈ rows E o.pred, ∀ x ∈ r.deps, x.rid ≠ r.key.rid :=
  fun r hr x hx =>
    heldout_unseen hdisj hnodup halign ((C12_eval_noleak E S hS n sp X L fid hfid o ho tr te hdec).2.1 r hr)
      (C12_eval_trained_on_train_part E S hS n sp X L fid hfid o ho tr te hdec hX hL r hr x hx)

/-- Whatever the state of the splitter (trained once, on whatever), port `k` of any of its forks selects the *same
positions* of whatever it is applied to: applied to row-aligned features and labels, it delivers the same records in
the same order -/
theorem C12_sync_ports (E : Env) (sp : Nat) (st : Val) (k : Nat) (X L : Val) :
    rows E (.part sp st k X) = select (portPositions (indices E st) k) (rows E X) ∧
    rows E (.part sp st k L) = select (portPositions (indices E st) k) (rows E L) ∧
    ((rows E X).rids = (rows E L).rids → (rows E (.part sp st k X)).rids = (rows E (.part sp st k L)).rids) :=
  ⟨rows_part E sp st k X, rows_part E sp st k L, fun h => by rw [rows_part, rows_part, rids_select, rids_select, h]⟩

/-- `set_params` replaces the cross-validator and nothing else: the fold indices survive -/
theorem C12_splitter_params_keep_indices (a : Splitter) (cv : Nat) :
    (a.setParams cv).indices = a.indices ∧ (a.setParams cv).getParams = cv := ⟨rfl, rfl⟩

/-- `set_state ∘ get_state` (either flavour) and the compiled code's `SetState.set` (which re-applies the receiver's
hyper-parameters on top) hand over exactly the trained indices and leave the receiver's own cross-validator in place
(pickled flavour and `SetState.set`) -/
theorem C12_splitter_state_transfer (t : Transfer) (a trained : Splitter) :
    (a.setState t trained.getState).indices = trained.indices ∧
    (a.preset t trained.getState).indices = trained.indices ∧
    (a.preset t trained.getState).getParams = a.getParams ∧
    ((a.setState .pickled trained.getState).getParams = a.getParams) := by
  cases t <;> exact ⟨rfl, rfl, rfl, rfl⟩

/-- …through any chain of forks of forks -/
theorem C12_splitter_relay (hops : List (Transfer × Nat)) (st : Splitter) :
    (Splitter.relay hops st).indices = st.indices := by
  induction hops generalizing st with
  | nil => rfl
  | cons h hops ih =>
    obtain ⟨t, cv⟩ := h
    rw [Splitter.relay, ih]
    exact (C12_splitter_state_transfer t (Splitter.new cv) st).2.1

/-- `train` asks the cross-validator exactly once (its `w cv`-th call) and keeps the answer; `apply` never asks (it is a
function of the actor alone: `Splitter.apply` has no access to `Splits` / `Calls`) -/
theorem C12_splitter_train_once (sp : Splits) (w : Calls) (cv : Nat) (X L : Data) :
    ((Splitter.new cv).train sp w X L).1.indices = some (sp cv (w cv) X (some L)) ∧
    ((Splitter.new cv).train sp w X L).1.getParams = cv ∧
    ((Splitter.new cv).train sp w X L).2 cv = w cv + 1 ∧
    ∀ c, c ≠ cv → ((Splitter.new cv).train sp w X L).2 c = w c :=
  ⟨rfl, rfl, if_pos rfl, fun _ hc => if_neg hc⟩

private theorem port_runApply_relay (t : Transfer) (cv : Nat) (hops : List (Transfer × Nat)) (st : Splitter) (x : Data)
    (k : Nat) : port (Splitter.runApply t cv (Splitter.relay hops st) x) k = select (portPositions st.indices k) x := by
  have h : ((Splitter.new cv).preset t (Splitter.relay hops st)).indices = st.indices :=
    (C12_splitter_state_transfer t (Splitter.new cv) _).2.1.trans (C12_splitter_relay hops st)
  rw [Splitter.runApply, Splitter.apply, h, port_cvApply]

/-- **Sync, from the actor contract.**  For *every* cross-validator behaviour — also one that never answers twice alike
(`sp` is any function of the call number) — , every call history `w`, every transfer flavour and whatever
cross-validators the forks' builders carry: the trained worker's state reaches the features fork and the labels fork
(directly, or through any chain of further forks), and every port of both forks selects exactly the positions computed
in the one `train` call; on row-aligned inputs they deliver the same records in the same order; the cross-validator has
been asked exactly once. -/
theorem C12_splitter_forks (sp : Splits) (w : Calls) (cv cvF cvL : Nat) (tF tL : Transfer)
    (hopsF hopsL : List (Transfer × Nat)) (X L : Data) :
    let r := Splitter.runTrain sp cv w X L
    let idx := sp cv (w cv) X (some L)
    r.2 cv = w cv + 1 ∧
    ∀ (k : Nat) (x l : Data),
      port (Splitter.runApply tF cvF (Splitter.relay hopsF r.1) x) k = select (portPositions (some idx) k) x ∧
      port (Splitter.runApply tL cvL (Splitter.relay hopsL r.1) l) k = select (portPositions (some idx) k) l ∧
      (x.rids = l.rids →
        (port (Splitter.runApply tF cvF (Splitter.relay hopsF r.1) x) k).rids
          = (port (Splitter.runApply tL cvL (Splitter.relay hopsL r.1) l) k).rids) := by
  intro r idx
  refine ⟨(C12_splitter_train_once sp w cv X L).2.2.1, fun k x l => ?_⟩
  have h1 := port_runApply_relay tF cvF hopsF r.1 x k
  have h2 := port_runApply_relay tL cvL hopsL r.1 l k
  exact ⟨h1, h2, fun h => by rw [h1, h2, rids_select, rids_select, h]⟩

/-- the graph-level meaning of a splitter port *is* that actor run: `part tag (state tag prev fx fy) k x` = port `k` of a
fresh instance of the fork's builder that took — by `SetState.set`, either flavour — the state of the worker trained on
`(fx, fy)`, applied to `x`; `E.dec tag` being what the cross-validator answered in that one call -/
theorem C12_part_is_fork_of_trained (E : Env) (sp : Splits) (w : Calls) (tag : Nat)
    (hdec : ∀ x l, E.dec tag x l = sp tag (w tag) x (some l)) (t : Transfer) (cvF : Nat) (prev fx fy x : Val) (k : Nat) :
    rows E (.part tag (.state tag prev fx fy) k x)
      = port (Splitter.runApply t cvF (Splitter.runTrain sp tag w (rows E fx) (rows E fy)).1 (rows E x)) k := by
  rw [rows_part, indices_state, hdec]
  exact (port_runApply_relay t cvF [] (Splitter.runTrain sp tag w (rows E fx) (rows E fy)).1 (rows E x) k).symm

/-- **Sync.**  Features and labels of every fold are split by the very indices computed in the one `train` call of the
splitter: whatever port `k` of the splitter trained on `(X, L)` is applied to — features `x` or labels `l`, in whichever
fork — it selects the positions `E.dec sp (rows X) (rows L)` decided then; row-aligned features and labels come out as the
same records in the same order -/
theorem C12_sync (E : Env) (sp : Nat) (prev X L : Val) (k : Nat) (x l : Val) :
    let idx := E.dec sp (rows E X) (rows E L)
    rows E (.part sp (.state sp prev X L) k x) = select (portPositions (some idx) k) (rows E x) ∧
    rows E (.part sp (.state sp prev X L) k l) = select (portPositions (some idx) k) (rows E l) ∧
    ((rows E x).rids = (rows E l).rids →
      (rows E (.part sp (.state sp prev X L) k x)).rids = (rows E (.part sp (.state sp prev X L) k l)).rids) :=
  C12_sync_ports E sp (.state sp prev X L) k x l

/-- in an evaluation, fold `fid` with decided positions `(tr, te)`: the pipeline is trained on `select tr` of the features
and `select tr` of the labels, predicts `select te` of the features and is scored against `select te` of the labels -/
theorem C12_eval_sync (E : Env) (S : Scope) (n sp : Nat) (X L : Val) (fid : Nat) (hfid : fid < n)
    (tr te : List Nat) (hdec : (E.dec sp (rows E X) (rows E L))[fid]? = some (tr, te)) :
    ∃ trainX trainL testX testL,
      (produce S n sp X L)[fid]? = some ⟨testL, (S testX trainX trainL).apply⟩ ∧
      rows E trainX = select tr (rows E X) ∧ rows E trainL = select tr (rows E L) ∧
      rows E testX = select te (rows E X) ∧ rows E testL = select te (rows E L) :=
  ⟨_, _, _, _, produce_getElem? S n sp X L hfid,
    rows_part_train E sp .none X L X fid tr te hdec, rows_part_train E sp .none X L L fid tr te hdec,
    rows_part_test E sp .none X L X fid tr te hdec, rows_part_test E sp .none X L L fid tr te hdec⟩

/-- …and in an ensemble: fold `fid`'s scope and bases are trained on `select tr` of features and labels, their copies map
`select te` of the features, and the stacked labels' block is `select te` of the labels -/
theorem C12_stack_sync (E : Env) (S : Scope) (sp : Nat) (xa xt xl : Val) (fid : Nat)
    (tr te : List Nat) (hdec : (E.dec sp (rows E xt) (rows E xl))[fid]? = some (tr, te)) :
    ∃ trainX trainL testX testL,
      foldOf S sp xa xt xl fid = ⟨(S xa trainX trainL).apply, (S xa trainX trainL).train, (S xa trainX trainL).label,
        (S testX trainX trainL).apply, testL⟩ ∧
      rows E trainX = select tr (rows E xt) ∧ rows E trainL = select tr (rows E xl) ∧
      rows E testX = select te (rows E xt) ∧ rows E testL = select te (rows E xl) :=
  ⟨_, _, _, _, rfl,
    rows_part_train E sp .none xt xl xt fid tr te hdec, rows_part_train E sp .none xt xl xl fid tr te hdec,
    rows_part_test E sp .none xt xl xt fid tr te hdec, rows_part_test E sp .none xt xl xl fid tr te hdec⟩

/-- if the held-out positions of the `n` folds are a rearrangement of all positions (each record held out in
exactly one fold — what k-fold cross-validators decide), the true outcomes scored over all folds are a rearrangement
of the labels: every record is scored exactly once -/
theorem C12_eval_each_record_once (E : Env) (S : Scope) (n sp : Nat) (X L : Val)
    (hpart : ((List.range n).flatMap fun fid => ((E.dec sp (rows E X) (rows E L))[fid]?.getD ([], [])).2).Perm
      (List.range (rows E L).length)) :
    ((produce S n sp X L).flatMap fun o => rows E o.true_).Perm (rows E L) := by
  have h := select_perm hpart
  rw [← flatMap_rows_part_test E sp .none X L L n] at h
  rw [produce_eq, List.flatMap_map]
  exact h

/-- every well-formed expression of the operator library (MapReduce with mappers, ensembles with bases and folds —
what the constructors insist on) maps its apply input row by row -/
theorem C12_pipeline_rowpreserving (E : Env) (p : Pipe) (h : p.wf = true) : RowPreserving E (denote p) :=
  denoteC_rowPreserving E p _ h (origin_rowPreserving E)

/-- for a row-preserving pipeline over row-aligned features and labels, the predictions of fold `fid` describe the
same records, in the same order, as the true outcomes they are scored against -/
theorem C12_eval_aligned (E : Env) (S : Scope) (hR : RowPreserving E S) (n sp : Nat) (X L : Val)
    (fid : Nat) (hfid : fid < n) (o : Outcome) (ho : (produce S n sp X L)[fid]? = some o)
    (halign : (rows E X).rids = (rows E L).rids) :
    (rows E o.pred).rids = (rows E o.true_).rids := by
  rw [produce_getElem? S n sp X L hfid] at ho
  cases ho
  exact (hR.rids_eq _ _ _).trans ((C12_sync_ports E sp _ (2 * fid + 1) X L).2.2 halign)

/-- `pipeline >> PerfTrackScore(metric)` for every pipeline expression: the one scored pair is (the tracked labels, the
predictions for the tracked features), row-aligned; no prediction depends on anything but its input row and the earlier
generation's training data -/
theorem C12_perftrack_every_pipeline (E : Env) (p : Pipe) (hp : p.wf = true) (metric reducer : Nat) (T0 L0 xa xt xl : Val)
    (halign : (rows E xt).rids = (rows E xl).rids) :
    let pred := (denote p xt T0 L0).apply
    (perfTrackScore metric reducer (T0, L0) (denote p) xa xt xl).train = .apply metric .none [xl, pred] ∧
    (rows E pred).rids = (rows E xl).rids ∧
    (∀ r ∈ rows E pred, ∀ x ∈ r.deps, x ∈ (rows E xt).deps ∨ x ∈ (rows E T0).atoms ∨ x ∈ (rows E L0).atoms) :=
  ⟨rfl, ((C12_pipeline_rowpreserving E p hp).rids_eq xt T0 L0).trans halign,
    ((C12_pipeline_local E p).apply_from xt T0 L0).2⟩

/-- `Ensembler.compose`: exactly `n` folds, fold `fid` made of ports `2 fid` / `2 fid + 1` of forks of one trained
splitter; the scope is trained per fold on the train part and its copy maps the held-out part -/
theorem C12_stack_folds (S : Scope) (n sp : Nat) (xa xt xl : Val) :
    (folds S n sp xa xt xl).length = n ∧
    ∀ fid, fid < n → (folds S n sp xa xt xl)[fid]? = some (foldOf S sp xa xt xl fid) :=
  range_map_spec n (foldOf S sp xa xt xl)

/-- the stacked train set: one column per base (in order), column `b` = the stacker over exactly `n` blocks, block
`fid` = base `b` trained on fold `fid`'s train part (through the scope) applied to fold `fid`'s held-out part -/
theorem C12_stack_train (bases : List Scope) (n sp appender stacker reducer : Nat) (S : Scope) (xa xt xl : Val) :
    ∃ cols, (fullStack bases n sp appender stacker reducer S xa xt xl).train = .apply appender .none cols ∧
      cols.length = bases.length ∧
      ∀ b (hb : b < bases.length), ∃ blocks, cols[b]? = some (.concat stacker blocks) ∧ blocks.length = n ∧
        ∀ fid, fid < n → blocks[fid]? = some
          (bases[b] (foldOf S sp xa xt xl fid).testTrain (foldOf S sp xa xt xl fid).trainTrain
            (foldOf S sp xa xt xl fid).trainLabel).apply := by
  refine ⟨_, rfl, List.length_map _, fun b hb =>
    ⟨_, ?_, range_map_map_spec n (foldOf S sp xa xt xl) fun f => (baseFold bases[b] f).1⟩⟩
  rw [List.getElem?_map, List.getElem?_eq_getElem hb]
  rfl

/-- the stacked labels: exactly `n` blocks, block `fid` = the held-out labels of fold `fid` -/
theorem C12_stack_label (bases : List Scope) (n sp appender stacker reducer : Nat) (S : Scope) (xa xt xl : Val) :
    ∃ blocks, (fullStack bases n sp appender stacker reducer S xa xt xl).label = .concat stacker blocks ∧
      blocks.length = n ∧
      ∀ fid, fid < n → blocks[fid]? = some (.part sp (.state sp .none xt xl) (2 * fid + 1) xl) :=
  ⟨_, rfl, range_map_map_spec n (foldOf S sp xa xt xl) (·.testLabel)⟩

/-- **Apply mode.**  One column per base; column `b` = the reducer over exactly `n` arguments, argument `fid` =
base `b`'s instance of fold `fid` (trained on that fold's train part) applied to the *same* live input `xa` (through
the scope instance of that fold): all fold models of each base learner are combined -/
theorem C12_stack_apply (bases : List Scope) (n sp appender stacker reducer : Nat) (S : Scope) (xa xt xl : Val) :
    ∃ cols, (fullStack bases n sp appender stacker reducer S xa xt xl).apply = .apply appender .none cols ∧
      cols.length = bases.length ∧
      ∀ b (hb : b < bases.length), ∃ args, cols[b]? = some (.apply reducer .none args) ∧ args.length = n ∧
        ∀ fid, fid < n → args[fid]? = some
          (bases[b] (S xa (.part sp (.state sp .none xt xl) (2 * fid) xt)
                         (.part sp (.state sp .none xt xl) (2 * fid) xl)).apply
            (foldOf S sp xa xt xl fid).trainTrain (foldOf S sp xa xt xl fid).trainLabel).apply := by
  refine ⟨_, rfl, List.length_map _, fun b hb =>
    ⟨_, ?_, range_map_map_spec n (foldOf S sp xa xt xl) fun f => (baseFold bases[b] f).2⟩⟩
  rw [List.getElem?_map, List.getElem?_eq_getElem hb]
  rfl

/-- **Apply mode, on data.**  For every local scope and base and every fold `fid` with decided positions `(tr, te)`:
argument `fid` of column `b`'s reducer describes records of the live input only, and depends only on what those input
rows depended on and on records of the *training part of fold `fid`*: it is the prediction of the fold-`fid` model -/
theorem C12_stack_apply_noleak (E : Env) (S : Scope) (hS : Local E S) (b : Scope) (hb : Local E b) (sp : Nat)
    (xa xt xl : Val) (fid : Nat) (tr te : List Nat)
    (hdec : (E.dec sp (rows E xt) (rows E xl))[fid]? = some (tr, te)) :
    let f := foldOf S sp xa xt xl fid
    let arg := (b f.trainApply f.trainTrain f.trainLabel).apply
    (∀ r ∈ rows E arg, r.key ∈ (rows E xa).keys) ∧
    (∀ r ∈ rows E arg, ∀ x ∈ r.deps,
      x ∈ (rows E xa).deps ∨ x ∈ (select tr (rows E xt)).atoms ∨ x ∈ (select tr (rows E xl)).atoms) := by
  have h := hS.seq_apply_from hb xa xa (.part sp (.state sp .none xt xl) (2 * fid) xt)
    (.part sp (.state sp .none xt xl) (2 * fid) xl)
  rw [rows_part_train E sp .none xt xl xt fid tr te hdec, rows_part_train E sp .none xt xl xl fid tr te hdec] at h
  exact h

/-- …on the *same input*: for a row-preserving scope and base every fold model's prediction describes exactly the records
of the live input, in order — the reducer combines, row by row, `n` predictions for one and the same record -/
theorem C12_stack_apply_same_input (E : Env) (S b : Scope) (hS : RowPreserving E S) (hb : RowPreserving E b) (sp : Nat)
    (xa xt xl : Val) (fid : Nat) :
    let f := foldOf S sp xa xt xl fid
    (rows E (b f.trainApply f.trainTrain f.trainLabel).apply).keys = (rows E xa).keys :=
  (hb _ _ _).trans (hS _ _ _)

/-- …and it combines *all* of them: with a trained model as base (a stateful mapper; the ensemble at the head of the
pipeline), every row of the reduced column depends on every record of the training part of *every* fold — the model
of each fold has contributed to each prediction -/
theorem C12_stack_apply_all_folds (E : Env) (a : Actor) (ha : a.stateful = true) (n sp reducer : Nat) (xa xt xl : Val)
    (fid : Nat) (hfid : fid < n) (tr te : List Nat)
    (hdec : (E.dec sp (rows E xt) (rows E xl))[fid]? = some (tr, te)) :
    let base := denote (.wrap none (some a) (some a))
    let col := Val.apply reducer .none ((folds Scope.origin n sp xa xt xl).map fun f => (baseFold base f).2)
    ∀ r ∈ rows E col, ∀ x,
      (x ∈ (select tr (rows E xt)).atoms ∨ x ∈ (select tr (rows E xl)).atoms) → x ∈ r.deps := by
  intro base col r hr x hx
  -- argument `g` of the reducer: the fold-`g` model applied to the live input, row by row
  let stOf : Nat → Val := fun g =>
    .state a.tag .none (.part sp (.state sp .none xt xl) (2 * g) xt) (.part sp (.state sp .none xt xl) (2 * g) xl)
  have harg : ∀ g, rows E (baseFold base (foldOf Scope.origin sp xa xt xl g)).2
      = (rows E xa).map fun q => { q with deps := union q.deps (seen E (stOf g)) } := by
    intro g
    show rows E (applied a (trainedState a _ _) xa) = _
    rw [trainedState, if_pos ha]
    exact rows_applied_stateful E a _ _
  rw [rows_apply, folds_eq, List.map_map, List.map_map] at hr
  -- every argument has one row per live record, so `r` carries the dependencies of a row of the fold-`fid` argument
  obtain ⟨q, hq, hsub⟩ := (hzip_sup hr (m := (rows E xa).length) (List.forall_mem_map.mpr fun g _ => by
    rw [Function.comp_apply, Function.comp_apply, harg, List.length_map])).2 _
      (List.mem_map.mpr ⟨fid, List.mem_range.mpr hfid, harg fid⟩)
  obtain ⟨p, _, rfl⟩ := List.mem_map.mp hq
  -- the fold-`fid` model has seen the training part of fold `fid`
  refine hsub x (mem_union.mpr (.inr (mem_union.mpr (.inr (mem_union.mpr ?_)))))
  rw [rows_part_train E sp .none xt xl xt fid tr te hdec, rows_part_train E sp .none xt xl xl fid tr te hdec]
  exact hx

/-- **No leak in stacking.**  For every local scope and base, fold count, splitter decision and fold `fid` with
decided positions `(tr, te)`: block `fid` of base `b`'s stacked column describes held-out records of fold `fid` and
depends only on what those held-out rows depended on before the split and on records of the *training part of fold
`fid`*; the stacked labels' block `fid` is exactly the held-out labels of fold `fid`. -/
theorem C12_stack_noleak (E : Env) (S : Scope) (hS : Local E S) (b : Scope) (hb : Local E b) (sp : Nat)
    (xa xt xl : Val) (fid : Nat) (tr te : List Nat)
    (hdec : (E.dec sp (rows E xt) (rows E xl))[fid]? = some (tr, te)) :
    let f := foldOf S sp xa xt xl fid
    let block := (b f.testTrain f.trainTrain f.trainLabel).apply
    rows E f.testLabel = select te (rows E xl) ∧
    (∀ r ∈ rows E block, r.key ∈ (select te (rows E xt)).keys) ∧
    (∀ r ∈ rows E block, ∀ x ∈ r.deps,
      x ∈ (select te (rows E xt)).deps ∨ x ∈ (select tr (rows E xt)).atoms ∨ x ∈ (select tr (rows E xl)).atoms) := by
  have h := hS.seq_apply_from hb (.part sp (.state sp .none xt xl) (2 * fid + 1) xt) xa
    (.part sp (.state sp .none xt xl) (2 * fid) xt) (.part sp (.state sp .none xt xl) (2 * fid) xl)
  rw [rows_part_test E sp .none xt xl xt fid tr te hdec, rows_part_train E sp .none xt xl xt fid tr te hdec,
    rows_part_train E sp .none xt xl xl fid tr te hdec] at h
  exact ⟨rows_part_test E sp .none xt xl xl fid tr te hdec, h⟩

/-- every row of a stacked column belongs to the block of exactly the fold it was produced in: the rows of the
column are the rows of block 0, then block 1, … — each fold contributes its block exactly once -/
theorem C12_stack_blocks_once (E : Env) (b : Scope) (n sp stacker : Nat) (S : Scope) (xa xt xl : Val) :
    rows E (.concat stacker ((folds S n sp xa xt xl).map fun f => (baseFold b f).1))
      = (List.range n).flatMap fun fid =>
          rows E (b (foldOf S sp xa xt xl fid).testTrain (foldOf S sp xa xt xl fid).trainTrain
            (foldOf S sp xa xt xl fid).trainLabel).apply := by
  rw [rows_concat, folds_eq, List.map_map, List.map_map, ← List.flatMap_def]
  rfl

/-- on source data and a genuine train/test split over distinct records: **no stacked prediction depends on its own
record** (the final model is trained on out-of-fold predictions only) -/
theorem C12_stack_heldout_unseen (E : Env) (S : Scope) (hS : Local E S) (b : Scope) (hb : Local E b) (sp : Nat)
    (xa xt xl : Val) (fid : Nat) (tr te : List Nat)
    (hdec : (E.dec sp (rows E xt) (rows E xl))[fid]? = some (tr, te))
    (hX : ∀ r ∈ rows E xt, r.deps = []) (hL : ∀ r ∈ rows E xl, r.deps = [])
    (hdisj : ∀ p ∈ tr, p ∉ te) (hnodup : (rows E xt).rids.Nodup) (halign : (rows E xl).rids = (rows E xt).rids) :
    let f := foldOf S sp xa xt xl fid
    ∀ r ∈ rows E (b f.testTrain f.trainTrain f.trainLabel).apply, ∀ x ∈ r.deps, x.rid ≠ r.key.rid := by
  intro f r hr x hx
  obtain ⟨_, hkeys, hdeps⟩ := C12_stack_noleak E S hS b hb sp xa xt xl fid tr te hdec
  exact heldout_unseen hdisj hnodup halign (hkeys r hr) (train_part_source hX hL (hdeps r hr x hx))

/-- for a row-preserving scope and base over row-aligned features and labels, block `fid` of the stacked column
describes the same records, in the same order, as block `fid` of the stacked labels -/
theorem C12_stack_aligned (E : Env) (S b : Scope) (hS : RowPreserving E S) (hb : RowPreserving E b) (sp : Nat)
    (xa xt xl : Val) (fid : Nat) (halign : (rows E xt).rids = (rows E xl).rids) :
    let f := foldOf S sp xa xt xl fid
    (rows E (b f.testTrain f.trainTrain f.trainLabel).apply).rids = (rows E f.testLabel).rids :=
  (hb.rids_eq _ _ _).trans <| (hS.rids_eq _ _ _).trans <| (C12_sync_ports E sp _ (2 * fid + 1) xt xl).2.2 halign

/-- …hence the whole stacked column is row-aligned with the stacked labels: the final model is trained on
(prediction, true outcome) pairs of the same record -/
theorem C12_stack_column_aligned (E : Env) (S b : Scope) (hS : RowPreserving E S) (hb : RowPreserving E b)
    (n sp stacker : Nat) (xa xt xl : Val) (halign : (rows E xt).rids = (rows E xl).rids) :
    (rows E (.concat stacker ((folds S n sp xa xt xl).map fun f => (baseFold b f).1))).rids
      = (rows E (.concat stacker ((folds S n sp xa xt xl).map (·.testLabel)))).rids := by
  simp only [rows_concat, Data.rids, List.map_flatten, List.map_map, folds_eq]
  congr 1
  exact List.map_congr_left fun fid _ => C12_stack_aligned E S b hS hb sp xa xt xl fid halign

/-- if the held-out positions of the `n` folds are a rearrangement of all positions, the stacked labels are a
rearrangement of the labels: every record enters the final model's training set exactly once -/
theorem C12_stack_each_record_once (E : Env) (bases : List Scope) (n sp appender stacker reducer : Nat) (S : Scope)
    (xa xt xl : Val)
    (hpart : ((List.range n).flatMap fun fid => ((E.dec sp (rows E xt) (rows E xl))[fid]?.getD ([], [])).2).Perm
      (List.range (rows E xl).length)) :
    (rows E (fullStack bases n sp appender stacker reducer S xa xt xl).label).Perm (rows E xl) := by
  have h := select_perm hpart
  rw [← flatMap_rows_part_test E sp .none xt xl xl n] at h
  show (rows E (.concat stacker _)).Perm _
  rw [rows_concat, folds_eq, List.map_map, List.map_map, ← List.flatMap_def]
  exact h

/-- `CrossVal(...)` wires at least two folds, `HoldOut(...)` exactly one (over a cross-validator generating at
least two splits), an ensemble at least two folds over at least one base -/
theorem C12_constructors :
    (∀ cv b ns n, crossValInit cv b ns = .ok n → 2 ≤ n) ∧
    (∀ sized cv b w c, holdOutInit sized cv b = .ok (w, c) → w = 1 ∧ 2 ≤ c) ∧
    (∀ m cv b ns n, ensemblerInit m cv b ns = .ok n → 0 < m ∧ 2 ≤ n) := by
  -- the shape of `crossValInit`: a check of the argument combination, then of the fold count `m` it yields
  have h0 : ∀ (c : Prop) [Decidable c] (m n : Nat),
      (if c then .error .typeError else if m < 2 then .error .valueError else .ok m : Except Err Nat) = .ok n → 2 ≤ n := by
    intro c _ m n h
    by_cases hc : c
    · rw [if_pos hc] at h
      cases h
    · by_cases hm : m < 2
      · rw [if_neg hc, if_pos hm] at h
        cases h
      · rw [if_neg hc, if_neg hm] at h
        cases h
        exact Nat.le_of_not_lt hm
  have h1 : ∀ cv b ns n, crossValInit cv b ns = .ok n → 2 ≤ n := fun _ _ _ n h => h0 _ _ n h
  refine ⟨h1, ?_, ?_⟩
  · intro sized cv b w c h
    unfold holdOutInit at h
    split at h
    · cases h
    · simp only at h
      split at h
      · cases h
      · rename_i c' hc
        cases h
        exact ⟨rfl, h1 _ _ _ _ hc⟩
  · intro m cv b ns n h
    unfold ensemblerInit at h
    split at h
    · cases h
    · rename_i hm
      exact ⟨Nat.pos_of_ne_zero hm, h1 _ _ _ _ h⟩

/-- **C12, evaluation**, for every pipeline expression `p`, fold count `n`, splitter `sp` deciding anything, fold
`fid`, and all data: in `p >> TrainTestScore(...)`, the prediction scored in fold `fid` describes held-out records of
fold `fid`, depends (beyond what the source rows depended on) only on the training part of fold `fid`, and is paired
with exactly the held-out labels of fold `fid` -/
theorem C12_noleak_every_pipeline (E : Env) (p : Pipe) (n sp : Nat) (X L : Val)
    (fid : Nat) (hfid : fid < n) (tr te : List Nat)
    (hdec : (E.dec sp (rows E X) (rows E L))[fid]? = some (tr, te)) :
    let o := foldOutcome (denote p) sp X L fid
    (produce (denote p) n sp X L)[fid]? = some o ∧
    rows E o.true_ = select te (rows E L) ∧
    (∀ r ∈ rows E o.pred, r.key ∈ (select te (rows E X)).keys) ∧
    (∀ r ∈ rows E o.pred, ∀ x ∈ r.deps,
      x ∈ (select te (rows E X)).deps ∨ x ∈ (select tr (rows E X)).atoms ∨ x ∈ (select tr (rows E L)).atoms) :=
  ⟨produce_getElem? _ n sp X L hfid,
   C12_eval_noleak E (denote p) (C12_pipeline_local E p) n sp X L fid hfid _ (produce_getElem? _ n sp X L hfid) tr te hdec⟩

/-- **C12, stacking**, for every scope expression `p`, every base expression `b`, fold count, splitter decision and
fold `fid`: see `C12_stack_noleak` -/
theorem C12_stack_noleak_every_pipeline (E : Env) (p b : Pipe) (sp : Nat) (xa xt xl : Val) (fid : Nat)
    (tr te : List Nat) (hdec : (E.dec sp (rows E xt) (rows E xl))[fid]? = some (tr, te)) :
    let f := foldOf (denote p) sp xa xt xl fid
    let block := (denote b f.testTrain f.trainTrain f.trainLabel).apply
    rows E f.testLabel = select te (rows E xl) ∧
    (∀ r ∈ rows E block, r.key ∈ (select te (rows E xt)).keys) ∧
    (∀ r ∈ rows E block, ∀ x ∈ r.deps,
      x ∈ (select te (rows E xt)).deps ∨ x ∈ (select tr (rows E xt)).atoms ∨ x ∈ (select tr (rows E xl)).atoms) :=
  C12_stack_noleak E (denote p) (C12_pipeline_local E p) (denote b) (C12_pipeline_local E b) sp xa xt xl fid tr te hdec

/-- **Every fold contributes exactly once, with weight `1/n` — a zero score included.**  The default reducer of the per-fold
metric values `k / d` is the exact fraction `Σ k / (d · n)` over *all* `n` values; moving the score of any one fold by `δ`
moves `n ·` mean by exactly `δ`; the order of the folds does not matter; a fold scoring `0` is counted (`n` grows, the sum
stays) wherever it stands -/
theorem C12_mean_all_folds (d : Nat) (xs : List Int) (h : xs ≠ []) :
    meanReducer d xs = some ⟨xs.sum, d * xs.length⟩ ∧
    (∀ i (hi : i < xs.length) (δ : Int), meanReducer d (xs.set i (xs[i] + δ)) = some ⟨xs.sum + δ, d * xs.length⟩) ∧
    (∀ ys, xs.Perm ys → meanReducer d ys = meanReducer d xs) ∧
    meanReducer d (xs ++ [0]) = some ⟨xs.sum, d * (xs.length + 1)⟩ ∧
    meanReducer d (0 :: xs) = some ⟨xs.sum, d * (xs.length + 1)⟩ := by
  refine ⟨meanReducer_of_ne_nil d h, fun i hi δ => ?_, fun ys hp => ?_, by simp [meanReducer], by simp [meanReducer]⟩
  · rw [meanReducer_of_ne_nil d (mt (List.set_eq_nil_iff i _).mp h), sum_set_add xs i hi δ, List.length_set]
  · rw [meanReducer_of_ne_nil d h, meanReducer_of_ne_nil d fun hy => h (hy ▸ hp).eq_nil, sum_perm hp, hp.length_eq]

/-- without a value the reducer refuses (`statistics.StatisticsError`) — and only then -/
theorem C12_mean_no_data (d : Nat) (xs : List Int) : meanReducer d xs = none ↔ xs = [] := by
  cases xs <;> simp [meanReducer]

/-- **Apply mode combines the fold models row by row, positionally.**  For fold predictions of one shape the default
reducer yields exactly one row per input row; row `i` is the exact mean `Σ_f fold_f[i] / (d · n)` of row `i` of *every* fold
model's prediction; and it is equivariant under any selection / reordering / repetition `ps` of the input rows: row `j` of the
result for the rows `ps` is row `ps[j]` of the result — nothing is sorted, grouped or merged (index labels play no role) -/
theorem C12_stack_reduce_positional (d : Nat) (f : List Int) (rest : List (List Int))
    (hshape : ∀ g ∈ rest, g.length = f.length) :
    ∃ out, stackReduce d (f :: rest) = .ok out ∧ out.length = f.length ∧
      (∀ i, i < f.length → out[i]? = some ⟨((f :: rest).map (·.getD i 0)).sum, d * (rest.length + 1)⟩) ∧
      ∀ ps : List Nat, (∀ p ∈ ps, p < f.length) → stackReduce d ((f :: rest).map (pick ps)) = .ok (pick ps out) := by
  have hm : ∀ g ∈ f :: rest, g.length = f.length := List.forall_mem_cons.mpr ⟨rfl, hshape⟩
  refine ⟨_, stackReduce_of_shape d f rest hshape, by rw [List.length_map, List.length_range], fun i hi => ?_,
    fun ps hps => ?_⟩
  · rw [List.getElem?_map, List.getElem?_range hi, Option.map_some, rowAcross_eq_map (f :: rest) f.length i hm hi]
    rfl
  · have hlen : ∀ g ∈ f :: rest, (pick ps g).length = ps.length := fun g hg =>
      pick_length ps g fun p hp => hm g hg ▸ hps p hp
    have hf := hlen f List.mem_cons_self
    rw [List.map_cons, stackReduce_of_shape d _ _ (List.forall_mem_map.mpr fun g hg =>
      (hlen g (List.mem_cons_of_mem _ hg)).trans hf.symm), hf, List.length_cons, List.length_cons, List.length_map]
    exact congrArg Except.ok
      (pick_rowwise (fun row => (⟨row.sum, d * (rest.length + 1)⟩ : Frac)) (f :: rest) f.length hm ps hps)

/-- no fold model, or fold predictions of different shapes: `ValueError('Folds must have same shape')` -/
theorem C12_stack_reduce_refuses (d : Nat) (f : List Int) (rest : List (List Int)) :
    stackReduce d [] = .error .valueError ∧
    ((∃ g ∈ rest, g.length ≠ f.length) → stackReduce d (f :: rest) = .error .valueError) := by
  refine ⟨rfl, ?_⟩
  rintro ⟨g, hg, hne⟩
  have : rest.all (·.length == f.length) = false := by
    rw [List.all_eq_false]
    exact ⟨g, hg, by simpa using hne⟩
  simp [stackReduce, this]

/-- three folds scoring 0, 7.5 and 15 (in eighths): the mean is 22.5 / 3 — the statement discriminates: dropping the fold
that scored zero (a truthiness filter) gives 22.5 / 2 -/
example : meanReducer 8 [0, 60, 120] = some ⟨180, 24⟩ ∧
    meanReducer 8 ([0, 60, 120].filter (· != 0)) = some ⟨180, 16⟩ := by decide +kernel

/-- two fold models on three live rows; picking the rows in the order 2, 0, 0 (an unsorted index with a repeated label)
yields the reduced rows 2, 0, 0 — three rows, not two merged and sorted ones -/
example : (stackReduce 8 [[60, 120, 180], [0, 60, 300]]).toOption = some [⟨60, 16⟩, ⟨180, 16⟩, ⟨480, 16⟩] ∧
    (stackReduce 8 ([[60, 120, 180], [0, 60, 300]].map (pick [2, 0, 0]))).toOption
      = some [⟨480, 16⟩, ⟨60, 16⟩, ⟨60, 16⟩] := by decide +kernel

/-- non-vacuity, the data of the examples below: four records per column; every splitter decides the 2-fold partition
`p % 2` -/
def exampleEnv : Env :=
  { inp := fun c => (List.range 4).map fun r => ⟨⟨c, r⟩, []⟩
    dec := fun _ x _ => (Decision.kfold 0).indices 2 x.length }

/-- `mapper(1) >> (label(2) + mapper(3))` -/
def examplePipe : Pipe :=
  .seq (.wrap none (some ⟨1, true⟩) (some ⟨1, true⟩)) (.wrap (some ⟨2, true⟩) (some ⟨3, true⟩) (some ⟨3, true⟩))

example : (exampleEnv.dec 9 (rows exampleEnv (.input 1)) (rows exampleEnv (.input 2)))[1]? = some ([0, 2], [1, 3]) := by
  decide +kernel

example : examplePipe.wf = true := by decide +kernel

/-- the prediction scored in fold 1 describes the held-out records 1 and 3 and depends on records 0 and 2 only
(features and labels): the hypotheses of `C12_eval_noleak` … `C12_eval_heldout_unseen` hold and their conclusions
are not vacuous -/
example : rows exampleEnv (foldOutcome (denote examplePipe) 9 (.input 1) (.input 2) 1).pred
    = [⟨⟨1, 1⟩, [⟨1, 0⟩, ⟨1, 2⟩, ⟨2, 0⟩, ⟨2, 2⟩]⟩, ⟨⟨1, 3⟩, [⟨1, 0⟩, ⟨1, 2⟩, ⟨2, 0⟩, ⟨2, 2⟩]⟩] := by
  decide +kernel

example : rows exampleEnv (foldOutcome (denote examplePipe) 9 (.input 1) (.input 2) 1).true_
    = [⟨⟨2, 1⟩, []⟩, ⟨⟨2, 3⟩, []⟩] := by
  decide +kernel

example : (rows exampleEnv (.input 1)).rids.Nodup ∧ (rows exampleEnv (.input 2)).rids = (rows exampleEnv (.input 1)).rids := by
  decide +kernel

/-- the stacked column of `FullStack(mapper(5))` over `mapper(1)` in scope: block 0 = records 0, 2 predicted by
models trained on records 1, 3 -/
example : rows exampleEnv
    ((denote (.wrap none (some ⟨5, true⟩) (some ⟨5, true⟩))) (foldOf (denote (.wrap none (some ⟨1, true⟩) (some ⟨1, true⟩))) 9 (.input 0) (.input 1) (.input 2) 0).testTrain
      (foldOf (denote (.wrap none (some ⟨1, true⟩) (some ⟨1, true⟩))) 9 (.input 0) (.input 1) (.input 2) 0).trainTrain
      (foldOf (denote (.wrap none (some ⟨1, true⟩) (some ⟨1, true⟩))) 9 (.input 0) (.input 1) (.input 2) 0).trainLabel).apply
    = [⟨⟨1, 0⟩, [⟨1, 1⟩, ⟨1, 3⟩, ⟨2, 1⟩, ⟨2, 3⟩]⟩, ⟨⟨1, 2⟩, [⟨1, 1⟩, ⟨1, 3⟩, ⟨2, 1⟩, ⟨2, 3⟩]⟩] := by
  decide +kernel

/-- the statement discriminates: wiring the *held-out* labels into the training of fold 1 (port `2 fid + 1` instead of
`2 fid`) makes the prediction for record 1 depend on its own label -/
example : (⟨2, 1⟩ : Atom) ∈ (rows exampleEnv
    ((denote examplePipe) (.part 9 (.state 9 .none (.input 1) (.input 2)) 3 (.input 1))
      (.part 9 (.state 9 .none (.input 1) (.input 2)) 2 (.input 1))
      (.part 9 (.state 9 .none (.input 1) (.input 2)) 3 (.input 2))).apply).deps := by
  decide +kernel

/-- apply mode of `FullStack(mapper(5))` (2 folds) on the four live records: each reduced prediction describes its live
record and depends on all eight training records (features and labels) — fold 0's model saw records 1, 3, fold 1's model
records 0, 2: both have contributed (hypotheses and conclusion of `C12_stack_apply_all_folds` are not vacuous) -/
example : (rows exampleEnv (Val.apply 8 .none ((folds Scope.origin 2 9 (.input 0) (.input 1) (.input 2)).map fun f =>
      (baseFold (denote (.wrap none (some ⟨5, true⟩) (some ⟨5, true⟩))) f).2))).map (fun r => (r.key, r.deps.length))
    = [(⟨0, 0⟩, 8), (⟨0, 1⟩, 8), (⟨0, 2⟩, 8), (⟨0, 3⟩, 8)] := by
  decide +kernel

/-- non-vacuity of the actor contract, a cross-validator that never answers twice alike: cross-validator 0, two folds, the
rotation moves on with every call of `split` -/
def exampleSplits : Splits := specSplits [⟨2, .kfold 0, true⟩]

example : exampleSplits 0 0 (idRows 1 [7, 8, 9, 10]) none ≠ exampleSplits 0 1 (idRows 1 [7, 8, 9, 10]) none := by decide +kernel

/-- the compiled flow on it — train, the state to a features fork and to a labels fork (fresh instances, `SetState.set`) —
: both forks deliver the records at the positions decided in call 0 although a second call would have decided otherwise -/
example : (Machine.init.run exampleSplits .pickled
      [.new 0 0, .train 0 [7, 8, 9, 10], .getState 0 0, .new 1 0, .preset 1 0, .new 2 0, .preset 2 0,
       .apply 1 1 [7, 8, 9, 10], .apply 2 2 [7, 8, 9, 10]]).drop 7
    = [.parts [[8, 10], [7, 9], [7, 9], [8, 10]], .parts [[8, 10], [7, 9], [7, 9], [8, 10]]] := by decide +kernel

/-- the statement discriminates: forks that lost the indices and split lazily (each asking the cross-validator again, for
what it is just splitting) deliver different records for features and labels -/
example : (cvSplit (idRows 1 [7, 8, 9, 10]) (exampleSplits 0 1 (idRows 1 [7, 8, 9, 10]) none)).map (·.rids)
    ≠ (cvSplit (idRows 2 [7, 8, 9, 10]) (exampleSplits 0 2 (idRows 2 [7, 8, 9, 10]) none)).map (·.rids) := by decide +kernel

end ForML.CrossVal
