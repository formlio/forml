/-
C06 — Feed reads return exactly what the statement denotes over its own storage (property theorems).

Objects: `parse` = the model of `forml/io/dsl/parser.py` + `provider/feed/reader/alchemy.py` as a stack machine emitting
abstract SQL (ForML.Model.Parser), `evalSql` = the meaning of that SQL, `denote` = the reference denotation of DSL
statements written from the documentation (ForML.Model.DslDenote), `WF` = well-formed statement over the schemas the
feed provisions (ForML.Model.ParserWF), `FeedCache.run` = the read path of the SQL feeds with their caches.
The tables `EXPRESSION / SET / ORDER`, the join options and the LIMIT/OFFSET emission are re-extracted from the live
code on every run (ForML.Generated.C06Tables); every theorem below is re-checked against them.
-/
import ForML.Lemmas.C06Parse
import ForML.Lemmas.C06Render
import ForML.Lemmas.C06Window
import ForML.Lemmas.C06Hints
import ForML.Lemmas.C06Lazy
import ForML.Lemmas.C06Sugar
import ForML.Lemmas.C06File

namespace ForML.C06
open ForML.Dsl ForML.Rel ForML.Parser ForML.Denote

/-- the operator classes of the modelled fragment -/
def modelledOps : List Op :=
  [.lt, .le, .gt, .ge, .eq, .ne, .isnull, .notnull, .and, .or, .not, .add, .sub, .mul, .abs, .count, .sum, .min, .max]

/-- every modelled expression class has an `EXPRESSION` entry that accepts SQL operands -/
theorem C06_expression_total : ∀ op ∈ modelledOps, ∃ sop, exprOp op = some sop ∧ sop ≠ .raises := by decide +kernel

/-- every `EXPRESSION` entry emits the SQL operator with the documented meaning of its class -/
theorem C06_expression_sound (op : Op) (sop : SqlOp) (h : exprOp op = some sop) (hr : sop ≠ .raises) :
    sop.isAgg = op.isAggregate ∧ (∀ vs, sqlAgg sop vs = dslAgg op vs) ∧ (∀ vs, sqlScalar sop vs = dslScalar op vs) :=
  exprOp_sound op sop h hr

/-- `generate_join`: the options per join kind (RIGHT = LEFT with the sides swapped; CROSS gets `full=True`) -/
theorem C06_join_table :
    joinOpt .inner = some (false, false, false) ∧ joinOpt .left = some (false, true, false) ∧
    joinOpt .right = some (false, true, true) ∧ joinOpt .full = some (true, false, false) ∧
    joinOpt .cross = some (true, false, false) ∧ Generated.C06.crossOnTrue = true :=
  ⟨joinOpt_eq .inner, joinOpt_eq .left, joinOpt_eq .right, joinOpt_eq .full, joinOpt_eq .cross, rfl⟩

/-- `SET` and `ORDER` map every kind / direction to its SQL counterpart -/
theorem C06_set_order_tables :
    (∀ k : SetKind, setOpOf k = some (setOfKind k)) ∧ (∀ d : Dir, orderOf d = some (dirOf d)) :=
  ⟨setOpOf_setOfKind, orderOf_dirOf⟩

/-- the `generate_query` model agrees with what the live code emitted on the probed `Rows` -/
theorem C06_rows_probe : ∀ p ∈ Generated.C06.rowsProbe, rowsOpts (some p.1) = p.2 := by decide +kernel

/-- Every visit of a well-formed statement pushes exactly one symbol — the translation `compile s` — onto the current
context, whatever lies below it, and leaves the suspended contexts and the registered origins as they were. -/
theorem C06_visit_one_symbol (srcs : Sources) (s : Source) (h : WF srcs s = true) :
    ∃ q, compile srcs s = some q ∧
      ∀ (syms : List Sym) (origs : List (Source × String)) (stk : List (Option Ctx)),
        visitSource srcs s ⟨some ⟨syms, origs⟩, stk⟩ = .ok ⟨some ⟨.src q :: syms, origs⟩, stk⟩ := by
  simp only [WF, Bool.and_eq_true] at h
  obtain ⟨q, hq, _, hv⟩ := visit_out srcs h.1 s h.2
  refine ⟨q, hq, ?_⟩
  intro syms origs stk
  simpa [regOrigins_out srcs s h.2] using hv syms origs stk

/-- `Reader._parse_statement` on a well-formed statement returns the translation: the visitor ends with exactly one
symbol in the context it was started in and an empty stack of suspended contexts (`fetch` and `__exit__` succeed) -/
theorem C06_parse_spec (srcs : Sources) (s : Source) (h : WF srcs s = true) :
    ∃ q, compile srcs s = some q ∧ parse srcs s = .ok q := by
  obtain ⟨q, hq, hv⟩ := C06_visit_one_symbol srcs s h
  refine ⟨q, hq, ?_⟩
  have := hv [] [] [none]
  simp [parse, enter, this, pop, exit, bind, Except.bind]

/-- parsing a well-formed statement over provisioned tables never fails -/
theorem C06_parse_total (srcs : Sources) (s : Source) (h : WF srcs s = true) : ∃ q, parse srcs s = .ok q := by
  obtain ⟨q, _, hp⟩ := C06_parse_spec srcs s h
  exact ⟨q, hp⟩

open ForML.Sugar (PyExpr PyOp Operand)

/-- the documented meaning of every operator method of `Operable`: method ↦ (expression class, operand order) -/
def sugarSpec : List (String × (String × String)) := [
  ("__add__", ("Addition", "self-other")), ("__and__", ("And", "self-other")), ("__eq__", ("Equal", "self-other")),
  ("__ge__", ("GreaterEqual", "self-other")), ("__gt__", ("GreaterThan", "self-other")), ("__invert__", ("Not", "self")),
  ("__le__", ("LessEqual", "self-other")), ("__lt__", ("LessThan", "self-other")), ("__mod__", ("Modulus", "self-other")),
  ("__mul__", ("Multiplication", "self-other")), ("__ne__", ("NotEqual", "self-other")), ("__or__", ("Or", "self-other")),
  ("__radd__", ("Addition", "other-self")), ("__rand__", ("And", "other-self")), ("__rmod__", ("Modulus", "other-self")),
  ("__rmul__", ("Multiplication", "other-self")), ("__ror__", ("Or", "other-self")),
  ("__rsub__", ("Subtraction", "other-self")), ("__rtruediv__", ("Division", "other-self")),
  ("__sub__", ("Subtraction", "self-other")), ("__truediv__", ("Division", "self-other"))]

/-- the operator methods of the live `Operable` (probed with marker operands on every run) are the documented ones:
a reflected method `__rop__` puts `other` first -/
theorem C06_sugar_table : Generated.C06.sugar = sugarSpec := by decide +kernel

/-- every binary operator with at least one feature operand constructs a feature: the operator's documented class with
the operands in the written order, or — comparisons only, the interpreter's own mirroring — the mirrored class with the
operands exchanged -/
theorem C06_sugar_binary (op : PyOp) (a b : Operand) (h : (∃ f, a = .feat f) ∨ (∃ f, b = .feat f)) :
    Sugar.binary op a b = some (.expr op.dsl (.cons a.lift (.cons b.lift .nil))) ∨
      (op.isComparison = true ∧
        Sugar.binary op a b = some (.expr (mirrorOp op.dsl) (.cons b.lift (.cons a.lift .nil)))) :=
  binary_spec op a b h

/-- the feature a Python expression over plain values and features constructs (any nesting, plain values on either
side, `~`) has on every row the value of the expression it is documented to mean -/
theorem C06_sugar_denotes (e : PyExpr) (f : Feature) (h : e.eval = some (.feat f)) (labels : Labels) (g : List Row)
    (row : Row) : evalF labels f g row = evalF labels e.spec g row :=
  sugarEq_sem (eval_spec e f h) labels g row

/-- `context.origins`: after the visit of the FROM tree of a well-formed query — in whatever order tables and
references to them were visited — every origin of the tree (a table, each reference to it) resolves to *its own*
handle, the name it is addressed by in the emitted SQL.  Different origins have different handles — this is the
hypothesis `hn` (which `WF` demands of every query), repeated as the last conjunct — so the columns of a table and of a
reference to the same table, as in a self-join, are never confused. -/
theorem C06_origin_resolution (srcs : Sources) (hT : OnlyTables srcs = true) (s : Source)
    (hwf : wfFrom srcs s = true) (ho : isOrigin s = true) (hn : nodupB ((leaves s).map (qualD srcs)) = true)
    (syms : List Sym) (origs : List (Source × String)) (stk : List (Option Ctx)) :
    ∃ st', visitSource srcs s ⟨some ⟨syms, origs⟩, stk⟩ = .ok st' ∧
      (∀ o ∈ leaves s, getOrigin o st' = .ok (qualD srcs o)) ∧
      (∀ a ∈ leaves s, ∀ b ∈ leaves s, qualD srcs a = qualD srcs b → a = b) := by
  obtain ⟨q, _, hv⟩ := visit_from srcs hT s hwf ho
  refine ⟨_, hv syms origs stk, ?_, injOn_of_nodupB srcs _ hn⟩
  intro o hm
  have hl := registered_of_reg srcs s hwf ho origs o hm
  obtain ⟨h, hh⟩ := Option.isSome_iff_exists.mp (leaves_qual_some srcs s hwf ho o hm)
  simp [getOrigin, hl, hh, qualD]

open ForML.Parser.Hints (parseH factorsOf hintFeatures queryCtx)

/-- Every factor `.factors` files under a table is a feature over that table alone, built from expression classes the
parser supports — so `visit_table` can always generate its code in the context in which only that table is registered. -/
theorem C06_factors_over_own_table (scope : List Source) (e : Feature) (h : supportedF scope e = true) :
    ∀ p ∈ factorsOf e, supportedF [p.1] p.2 = true :=
  factorsOf_ok scope e h

/-- the visitor with the segments (`Tables.select / filter` in `visit_query` / `visit_join`, the fields and the
predicate `visit_table` generates code for) computes exactly what the visitor without them computes: generating the
hint code never raises and leaves the parser state as it was -/
theorem C06_hint_generation_inert (srcs : Sources) (s : Source) (h : WF srcs s = true) : parseH srcs s = parse srcs s :=
  parseH_eq_parse srcs s h

/-- parsing a well-formed statement never fails — the complete `visit_table` included -/
theorem C06_parse_hints_total (srcs : Sources) (s : Source) (h : WF srcs s = true) :
    ∃ q, compile srcs s = some q ∧ parseH srcs s = .ok q := by
  obtain ⟨q, hq, hp⟩ := C06_parse_spec srcs s h
  exact ⟨q, hq, by rw [C06_hint_generation_inert srcs s h, hp]⟩

/-- rows the database returns for what the parser emitted (`none`: parsing or evaluation failed) -/
def readRows (srcs : Sources) (s : Source) (db : Db) : Option ORel :=
  match parse srcs s with
  | .ok q => evalSql q db
  | .error _ => none

/-- full strength: for every well-formed statement and every storage content -/
def C06_denotation_full : Prop :=
  ∀ (srcs : Sources) (s : Source), WF srcs s = true → ∀ db : Db, readRows srcs s db = denote srcs s db

/-- holds for every statement and every content on which each CROSS join has two non-empty or two empty sides: the
excluded region is *exactly* the known finding (CROSS rendered as FULL OUTER JOIN ON true, one side empty) -/
theorem C06_denotation_partial (srcs : Sources) (s : Source) (h : WF srcs s = true) (db : Db)
    (hc : crossBalanced srcs s db = true) : readRows srcs s db = denote srcs s db := by
  obtain ⟨q, hq, hp⟩ := C06_parse_spec srcs s h
  simp only [WF, Bool.and_eq_true] at h
  simp [readRows, hp, evalSql, denote, out_sem srcs s h.2 q hq db hc]

/-- in particular for every statement without a CROSS join, over every content -/
theorem C06_denotation_nocross (srcs : Sources) (s : Source) (h : WF srcs s = true) (hc : noCross s = true) (db : Db) :
    readRows srcs s db = denote srcs s db :=
  C06_denotation_partial srcs s h db (crossBalanced_of_noCross srcs db s hc)

/-- reading a set operation is the set operation on what reading its operands returns (every content, no restriction) -/
theorem C06_set_compositional (srcs : Sources) (l r : Source) (k : SetKind) (h : WF srcs (.set l r k) = true) (db : Db) :
    readRows srcs (.set l r k) db =
      match readRows srcs l db, readRows srcs r db with
      | some L, some R =>
        if L.names.length = R.names.length then some ⟨L.names, setRows (setOfKind k) L.rows R.rows⟩ else none
      | _, _ => none := by
  have h' := h
  simp only [WF, wfOut, Bool.and_eq_true] at h'
  obtain ⟨hT, ⟨hl, hr⟩, hk⟩ := h'
  obtain ⟨q, hq, hp⟩ := C06_parse_spec srcs _ h
  obtain ⟨ql, hql, hpl⟩ := C06_parse_spec srcs l (by simp [WF, hT, hl])
  obtain ⟨qr, hqr, hpr⟩ := C06_parse_spec srcs r (by simp [WF, hT, hr])
  have : q = .compound (setOfKind k) ql qr := by
    simp [compile, hql, hqr, setOpOf_setOfKind k] at hq
    exact hq.symm
  subst this
  simp only [readRows, hp, hpl, hpr, evalSql, evalOut]
  cases evalOut ql db <;> cases evalOut qr db <;> rfl

/-- consequently a set operation denotes what the documentation says as soon as its operands do -/
theorem C06_set_denotes (srcs : Sources) (l r : Source) (k : SetKind) (h : WF srcs (.set l r k) = true) (db : Db)
    (hl : readRows srcs l db = denote srcs l db) (hr : readRows srcs r db = denote srcs r db) :
    readRows srcs (.set l r k) db = denote srcs (.set l r k) db := by
  rw [C06_set_compositional srcs l r k h db, hl, hr]
  simp only [denote, denoteOut]
  cases denoteOut srcs l db <;> cases denoteOut srcs r db <;> rfl

/-- `limit(count, offset)`: the read returns exactly the rows `[offset, offset + count)` of what the same statement
without a limit returns — for every well-formed statement, every content, every `count` and `offset` (the arithmetic
of `generate_query`: `LIMIT count`, `OFFSET offset` only when non-zero; no CROSS restriction) -/
theorem C06_limit_window (srcs : Sources) (src : Source) (sel : Features) (pre : FeatureOpt) (grp : Features)
    (post : FeatureOpt) (ord : Orderings) (c o : Int)
    (h : WF srcs (.query src sel pre grp post ord (some (c, o))) = true) (db : Db) (R : ORel)
    (hR : readRows srcs (.query src sel pre grp post ord none) db = some R) :
    readRows srcs (.query src sel pre grp post ord (some (c, o))) db =
      some ⟨R.names, (R.rows.drop (toNat' o)).take (toNat' c)⟩ := by
  have h0 : WF srcs (.query src sel pre grp post ord none) = true := by
    simpa [WF, wfOut] using h
  obtain ⟨q0, hq0, hp0⟩ := C06_parse_spec srcs _ h0
  obtain ⟨q1, hq1, hp1⟩ := C06_parse_spec srcs _ h
  obtain ⟨items, frm, whr, g, hav, od, _, rfl⟩ := compile_query_select srcs src sel pre grp post ord none q0 hq0
  rw [compile_rows, hq0] at hq1
  simp only [Option.map_some, Option.some.injEq] at hq1
  subst hq1
  simp only [readRows, hp0] at hR
  simp only [readRows, hp1, withWindow]
  rw [evalSql_window items frm whr g hav od _ _ db R hR, windowOf_rowsOpts]

/-- consequently a limited read denotes what the documentation says as soon as the unlimited read does -/
theorem C06_limit_denotes (srcs : Sources) (src : Source) (sel : Features) (pre : FeatureOpt) (grp : Features)
    (post : FeatureOpt) (ord : Orderings) (c o : Int)
    (h : WF srcs (.query src sel pre grp post ord (some (c, o))) = true) (db : Db) (R : ORel)
    (hR : readRows srcs (.query src sel pre grp post ord none) db = some R)
    (hD : denote srcs (.query src sel pre grp post ord none) db = some R) :
    readRows srcs (.query src sel pre grp post ord (some (c, o))) db =
      denote srcs (.query src sel pre grp post ord (some (c, o))) db := by
  rw [C06_limit_window srcs src sel pre grp post ord c o h db R hR,
    denote_window srcs src sel pre grp post ord c o db R hD]

namespace Witness
def A : Source := .table "A" [("id", .integer), ("x", .integer)]
def B : Source := .table "B" [("id", .integer), ("y", .integer)]
def srcs : Sources := [(A, "a"), (B, "b")]

/-- `A.cross_join(B).select(A.x, B.y)` -/
def crossStmt : Source :=
  .query (.join A B .cross .none) (.cons (.elem A "x") (.cons (.elem B "y") .nil)) .none .nil .none .nil none

/-- one row in `a`, none in `b` -/
def crossDb : Db := [("a", ⟨["id", "x"], [[.int 1, .int 10]]⟩), ("b", ⟨["id", "y"], []⟩)]

def R : Source := .ref A "r"

/-- `A.left_join(r, A.x == r.id).select(A.id, Count(r.x).alias('n')).where(A.id > 0).groupby(A.id).orderby(A.id, 'descending').limit(5)`
with `r = A.reference('r')`: a self-join through a reference, a pre-aggregation filter, grouping, an aggregate,
an alias, an ordering and a limit -/
def selfStmt : Source :=
  .query (.join A R .left (.some (.expr .eq (.cons (.elem A "x") (.cons (.elem R "id") .nil)))))
    (.cons (.elem A "id") (.cons (.alias (.expr .count (.cons (.elem R "x") .nil)) "n") .nil))
    (.some (.expr .gt (.cons (.elem A "id") (.cons (.lit (.int 0)) .nil))))
    (.cons (.elem A "id") .nil) .none (.cons (.mk (.elem A "id") .desc) .nil) (some (5, 0))

def selfDb : Db := [("a", ⟨["id", "x"], [[.int 1, .int 2], [.int 2, .int 2], [.int 3, .null]]⟩), ("b", ⟨["id", "y"], []⟩)]
end Witness

/-- non-vacuity of the segment mechanism: for `selfStmt` the context of the query holds a factor for the table `A`
(`A.id > 0`, from the `where` clause) and three of its columns, `visit_table` generates code for all of them, and the
parse with the segments succeeds with the translation -/
example :
    hintFeatures (queryCtx (.join Witness.A Witness.R .left (.some (.expr .eq (.cons (.elem Witness.A "x") (.cons (.elem Witness.R "id") .nil)))))
        (.cons (.elem Witness.A "id") (.cons (.alias (.expr .count (.cons (.elem Witness.R "x") .nil)) "n") .nil))
        (.some (.expr .gt (.cons (.elem Witness.A "id") (.cons (.lit (.int 0)) .nil)))) (.cons (.elem Witness.A "id") .nil) .none
        (.cons (.mk (.elem Witness.A "id") .desc) .nil)) Witness.A =
      [.elem Witness.A "id", .elem Witness.A "x", .expr .gt (.cons (.elem Witness.A "id") (.cons (.lit (.int 0)) .nil))] ∧
    (match parseH Witness.srcs Witness.selfStmt with
     | .ok q => compile Witness.srcs Witness.selfStmt == some q
     | .error _ => false) = true := by
  decide +kernel

/-- non-vacuity of `C06_limit_window`: `limit(2, 1)` of the ordered self-join -/
example :
    readRows Witness.srcs
      (.query (.join Witness.A Witness.R .left (.some (.expr .eq (.cons (.elem Witness.A "x") (.cons (.elem Witness.R "id") .nil)))))
        (.cons (.elem Witness.A "id") .nil) .none .nil .none (.cons (.mk (.elem Witness.A "id") .desc) .nil) (some (2, 1)))
      Witness.selfDb = some ⟨[some "id"], [[.int 2], [.int 1]]⟩ := by
  decide +kernel

/-- the full statement is false of the code that exists: a CROSS join with exactly one empty side -/
theorem C06_denotation_counterexample : ¬ C06_denotation_full := by
  intro h
  have := h Witness.srcs Witness.crossStmt (by decide +kernel) Witness.crossDb
  revert this
  decide +kernel

/-- what the witness shows: nothing is denoted, one NULL-extended row is returned -/
example : denote Witness.srcs Witness.crossStmt Witness.crossDb = some ⟨[some "x", some "y"], []⟩ ∧
    readRows Witness.srcs Witness.crossStmt Witness.crossDb = some ⟨[some "x", some "y"], [[.int 10, .null]]⟩ := by
  decide +kernel

/-- non-vacuity of `C06_denotation_partial` with a CROSS join: both sides non-empty -/
example : WF Witness.srcs Witness.crossStmt = true ∧
    crossBalanced Witness.srcs Witness.crossStmt
      [("a", ⟨["id", "x"], [[.int 1, .int 10]]⟩), ("b", ⟨["id", "y"], [[.int 1, .int 5], [.int 2, .null]]⟩)] = true ∧
    denote Witness.srcs Witness.crossStmt
      [("a", ⟨["id", "x"], [[.int 1, .int 10]]⟩), ("b", ⟨["id", "y"], [[.int 1, .int 5], [.int 2, .null]]⟩)] =
      some ⟨[some "x", some "y"], [[.int 10, .int 5], [.int 10, .null]]⟩ := by
  decide +kernel

/-- non-vacuity of `C06_denotation_nocross`: a well-formed statement without CROSS with a non-trivial denotation -/
example : WF Witness.srcs Witness.selfStmt = true ∧ noCross Witness.selfStmt = true ∧
    denote Witness.srcs Witness.selfStmt Witness.selfDb =
      some ⟨[some "id", some "n"], [[.int 3, .int 0], [.int 2, .int 1], [.int 1, .int 1]]⟩ := by
  decide +kernel

open ForML.FeedCache (Feed State FeedKind run step storageOf)

/-- what every read of a history should return: a fresh evaluation over the feed's own storage at read time -/
def fresh (feeds : List Feed) : List Db → List FeedCache.Op → List (Option ORel)
  | _, [] => []
  | dbs, .read i s :: ops =>
    (match feeds[i]? with
     | none => none
     | some f => readRows f.srcs s (dbs.getD f.storage [])) :: fresh feeds dbs ops
  | dbs, .mutate i db :: ops => fresh feeds (dbs.set i db) ops
  | dbs, .restart :: ops => fresh feeds dbs ops

/-- full strength: in every history every read returns the fresh evaluation -/
def C06_independence_full : Prop :=
  ∀ (feeds : List Feed) (dbs : List Db) (ops : List FeedCache.Op), run feeds { storages := dbs } ops = fresh feeds dbs ops

namespace Witness
def sel : Source := .query A (.cons (.elem A "x") .nil) .none .nil .none .nil none
def db1 : Db := [("a", ⟨["id", "x"], [[.int 1, .int 10]]⟩)]
def db2 : Db := [("a", ⟨["id", "x"], [[.int 1, .int 20]]⟩)]
def feedOn (i : Nat) : Feed := { kind := .alchemy, srcs := [(A, "a")], storage := i }
def lazyOn (i : Nat) : Feed := { kind := .lazy, srcs := [(A, "a")], storage := i }
end Witness

/-- `read; mutate storage; read`: the second read returns the rows of the first (result cache keyed by the SQL text) -/
theorem C06_stale_counterexample :
    run [Witness.feedOn 0] { storages := [Witness.db1] } [.read 0 Witness.sel, .mutate 0 Witness.db2, .read 0 Witness.sel] ≠
      fresh [Witness.feedOn 0] [Witness.db1] [.read 0 Witness.sel, .mutate 0 Witness.db2, .read 0 Witness.sel] := by
  decide +kernel

/-- the stale rows also survive a restart (file cache under the ForML home directory) -/
theorem C06_stale_restart_counterexample :
    run [Witness.feedOn 0] { storages := [Witness.db1] }
        [.read 0 Witness.sel, .mutate 0 Witness.db2, .restart, .read 0 Witness.sel] ≠
      fresh [Witness.feedOn 0] [Witness.db1] [.read 0 Witness.sel, .mutate 0 Witness.db2, .restart, .read 0 Witness.sel] := by
  decide +kernel

/-- two feeds over two storages with equally named tables: the second feed gets the first feed's rows -/
theorem C06_crossfeed_counterexample :
    run [Witness.feedOn 0, Witness.feedOn 1] { storages := [Witness.db1, Witness.db2] }
        [.read 0 Witness.sel, .read 1 Witness.sel] ≠
      fresh [Witness.feedOn 0, Witness.feedOn 1] [Witness.db1, Witness.db2] [.read 0 Witness.sel, .read 1 Witness.sel] := by
  decide +kernel

/-- lazy feeds: an origin registered once in the process-global backend is never refreshed — a *different* statement
read after the storage changed still sees the old table content -/
theorem C06_lazy_counterexample :
    run [Witness.lazyOn 0] { storages := [Witness.db1] }
        [.read 0 Witness.sel, .mutate 0 Witness.db2, .read 0 (.query Witness.A (.cons (.elem Witness.A "id") (.cons (.elem Witness.A "x") .nil)) .none .nil .none .nil none)] ≠
      fresh [Witness.lazyOn 0] [Witness.db1]
        [.read 0 Witness.sel, .mutate 0 Witness.db2, .read 0 (.query Witness.A (.cons (.elem Witness.A "id") (.cons (.elem Witness.A "x") .nil)) .none .nil .none .nil none)] := by
  decide +kernel

/-- lazy feeds: a table none of whose columns is used (here the right side of a CROSS join) is never registered in
the backend, the read fails although the statement denotes rows -/
theorem C06_lazy_unused_counterexample :
    run [{ kind := .lazy, srcs := Witness.srcs, storage := 0 }]
        { storages := [[("a", ⟨["id", "x"], [[.int 1, .int 10]]⟩), ("b", ⟨["id", "y"], [[.int 1, .int 5]]⟩)]] }
        [.read 0 (.query (.join Witness.A Witness.B .cross .none) (.cons (.elem Witness.A "x") .nil) .none .nil .none .nil none)] = [none] ∧
      fresh [{ kind := .lazy, srcs := Witness.srcs, storage := 0 }]
        [[("a", ⟨["id", "x"], [[.int 1, .int 10]]⟩), ("b", ⟨["id", "y"], [[.int 1, .int 5]]⟩)]]
        [.read 0 (.query (.join Witness.A Witness.B .cross .none) (.cons (.elem Witness.A "x") .nil) .none .nil .none .nil none)] =
        [some ⟨[some "x"], [[.int 10]]⟩] := by
  decide +kernel

theorem C06_independence_counterexample : ¬ C06_independence_full := by
  intro h
  exact C06_stale_counterexample (h _ _ _)

/-- histories without a storage change -/
def noMutate : List FeedCache.Op → Bool
  | [] => true
  | .mutate _ _ :: _ => false
  | _ :: ops => noMutate ops

/-- all feeds are alchemy feeds on the storage `k` -/
def allOn (k : Nat) (feeds : List Feed) : Bool := feeds.all (fun f => f.kind == .alchemy && f.storage == k)

open ForML.FeedCache (keyOf)

/-- The key of the result cache — the rendered statement with its literal values in line — determines the SQL the
parser emitted: two statements share a cache entry only if they were translated to the same SQL. -/
theorem C06_cache_key_injective (q q' : SqlSel) (h : keyOf q = keyOf q') : q = q' :=
  Render.sel_injective q q' h

/-- distinct statements (differing in a literal, an operator, an alias, a limit or an offset …) never share an entry -/
theorem C06_distinct_statements_distinct_entries (q q' : SqlSel) (h : q ≠ q') : keyOf q ≠ keyOf q' :=
  fun hk => h (C06_cache_key_injective q q' hk)

/-- non-vacuity: `… WHERE x > 25` and `… WHERE x > 45`, `LIMIT 3` and `LIMIT 3 OFFSET 2` have different keys -/
example :
    keyOf (.select [.col "t" "x"] (.table "t") (some (.bin .gt (.col "t" "x") (.lit (.int 25)))) [] none [] none none) ≠
      keyOf (.select [.col "t" "x"] (.table "t") (some (.bin .gt (.col "t" "x") (.lit (.int 45)))) [] none [] none none) ∧
    keyOf (.select [.col "t" "x"] (.table "t") none [] none [] (some 3) none) ≠
      keyOf (.select [.col "t" "x"] (.table "t") none [] none [] (some 3) (some 2)) := by
  decide +kernel

/-- the caches only hold what a fresh evaluation over the storage `k` of `dbs` yields; the parse cache only holds what
parsing with the reader's own feed yields -/
structure CacheOk (feeds : List Feed) (dbs : List Db) (k : Nat) (st : State) : Prop where
  stor : st.storages = dbs
  mem : ∀ q v, st.mem.lookup (keyOf q) = some v → evalSql q (dbs.getD k []) = some v
  disk : ∀ q v, st.disk.lookup (keyOf q) = some v → evalSql q (dbs.getD k []) = some v
  parsed : ∀ i s q, st.parsed.lookup (i, s) = some q → ∃ f, feeds[i]? = some f ∧ parse f.srcs s = .ok q

private theorem exec_fresh (feeds : List Feed) (dbs : List Db) (k : Nat) (st : State) (hst : CacheOk feeds dbs k st)
    (f : Feed) (hk : f.kind = .alchemy) (hs : f.storage = k) (s : Source) (q : SqlSel) :
    (FeedCache.exec st f s q).2 = evalSql q (dbs.getD k []) ∧ CacheOk feeds dbs k (FeedCache.exec st f s q).1 := by
  unfold FeedCache.exec
  simp only [hk, storageOf, hs]
  have hne : (FeedKind.alchemy = FeedKind.lazy) = False := by simp
  simp only [hne, decide_false, Bool.false_and, Bool.false_eq_true, if_false]
  cases hm : st.mem.lookup (keyOf q) with
  | some v => exact ⟨(hst.mem q v hm).symm, hst⟩
  | none =>
    cases hd : st.disk.lookup (keyOf q) with
    | some v =>
      exact ⟨(hst.disk q v hd).symm, ⟨hst.stor, cache_cons_sound _ q v _ hst.mem (hst.disk q v hd), hst.disk, hst.parsed⟩⟩
    | none =>
      cases he : evalSql q (st.storages.getD k []) with
      | none =>
        refine ⟨?_, hst⟩
        rw [← hst.stor, he]
      | some v =>
        have he' : evalSql q (dbs.getD k []) = some v := by rw [← hst.stor]; exact he
        exact ⟨he'.symm, ⟨hst.stor, cache_cons_sound _ q v _ hst.mem he', cache_cons_sound _ q v _ hst.disk he',
          hst.parsed⟩⟩

/-- a read is `exec` of the parsed statement on a state that differs from `st` at most by that entry of the parse
cache -/
private theorem read_of_exec (I : State → Prop) (db : Db) {st : State} {i : Nat} {f : Feed} {s : Source} (hst : I st)
    (hp : ∀ q, st.parsed.lookup (i, s) = some q → parse f.srcs s = .ok q)
    (hcons : ∀ q, parse f.srcs s = .ok q → I { st with parsed := ((i, s), q) :: st.parsed })
    (hexec : ∀ st' q, I st' → parse f.srcs s = .ok q →
      (FeedCache.exec st' f s q).2 = evalSql q db ∧ I (FeedCache.exec st' f s q).1) :
    (FeedCache.read st i f s).2 = readRows f.srcs s db ∧ I (FeedCache.read st i f s).1 := by
  unfold FeedCache.read FeedCache.parseCached readRows
  cases hl : st.parsed.lookup (i, s) with
  | some q =>
    simp only [hp q hl]
    exact hexec st q hst (hp q hl)
  | none =>
    cases hq : parse f.srcs s with
    | error e => exact ⟨rfl, hst⟩
    | ok q => exact hexec _ q (hcons q hq) hq

/-- `I`: an invariant of the reader state; `ok`: the admitted histories -/
private theorem run_of_invariant (feeds : List Feed) (dbs : List Db) (I : State → Prop)
    (ok : List FeedCache.Op → Prop) (htail : ∀ op ops, ok (op :: ops) → ok ops)
    (hread : ∀ st i s ops f, I st → ok (.read i s :: ops) → feeds[i]? = some f →
      (FeedCache.read st i f s).2 = readRows f.srcs s (dbs.getD f.storage []) ∧ I (FeedCache.read st i f s).1)
    (hrestart : ∀ st, I st → I { st with mem := [], backend := [], partitions := [], parsed := [] }) :
    ∀ (ops : List FeedCache.Op) (st : State), noMutate ops = true → ok ops → I st →
      run feeds st ops = fresh feeds dbs ops
  | [], _, _, _, _ => rfl
  | .read i s :: ops, st, hn, ho, hst => by
    have ih := fun st' => run_of_invariant feeds dbs I ok htail hread hrestart ops st' (by simpa [noMutate] using hn)
      (htail _ _ ho)
    simp only [run, step, fresh]
    cases hi : feeds[i]? with
    | none => simp only [ih st hst]
    | some f =>
      obtain ⟨h1, h2⟩ := hread st i s ops f hst ho hi
      simp only [h1, ih _ h2]
  | .mutate i db :: ops, st, hn, _, _ => by simp [noMutate] at hn
  | .restart :: ops, st, hn, ho, hst => by
    simp only [run, step, fresh]
    exact run_of_invariant feeds dbs I ok htail hread hrestart ops _ (by simpa [noMutate] using hn) (htail _ _ ho)
      (hrestart st hst)

/-- What holds of the code that exists: as long as the storage does not change and all feeds are alchemy feeds on one
storage, every read of every history — arbitrary statements in any order, repeated, across restarts that keep the
home directory — returns the fresh evaluation of *its own* statement: statements never get each other's rows (the cache key
is injective, `C06_cache_key_injective`; the parse cache is transparent). -/
theorem C06_independence_partial (feeds : List Feed) (dbs : List Db) (k : Nat) (ops : List FeedCache.Op)
    (hf : allOn k feeds = true) (hn : noMutate ops = true) :
    run feeds { storages := dbs } ops = fresh feeds dbs ops := by
  refine run_of_invariant feeds dbs (CacheOk feeds dbs k) (fun _ => True) (fun _ _ _ => trivial) ?_ ?_ ops _ hn trivial
    ⟨rfl, by intro q v h; simp [List.lookup] at h, by intro q v h; simp [List.lookup] at h,
     by intro i s q h; simp [List.lookup] at h⟩
  · intro st i s _ f hst _ hi
    have hfk := List.all_eq_true.mp hf f (List.mem_of_getElem? hi)
    simp only [Bool.and_eq_true, beq_iff_eq] at hfk
    rw [hfk.2]
    refine read_of_exec (CacheOk feeds dbs k) _ hst ?_ ?_
      (fun st' q hst' _ => exec_fresh feeds dbs k st' hst' f hfk.1 hfk.2 s q)
    · intro q hl
      obtain ⟨f', hf', hp⟩ := hst.parsed i s q hl
      rw [hi] at hf'
      cases hf'
      exact hp
    · intro q hq
      exact ⟨hst.stor, hst.mem, hst.disk, fun i' s' q' h' =>
        lookup_cons_sound (fun (key : Nat × Source) q => ∃ f, feeds[key.1]? = some f ∧ parse f.srcs key.2 = .ok q)
          (i, s) q st.parsed (fun key q' h => hst.parsed key.1 key.2 q' h) ⟨f, hi, hq⟩ (i', s') q' h'⟩
  · intro st hst
    exact ⟨hst.stor, by intro q v h; simp [List.lookup] at h, hst.disk, by intro i s q h; simp [List.lookup] at h⟩

/-- every statement read in the history is well-formed for its feed and CROSS-balanced over the content `db` -/
def readsOk (feeds : List Feed) (db : Db) : List FeedCache.Op → Bool
  | [] => true
  | .read i s :: ops =>
    (match feeds[i]? with
     | none => true
     | some f => WF f.srcs s && crossBalanced f.srcs s db) && readsOk feeds db ops
  | _ :: ops => readsOk feeds db ops

private theorem fresh_spec (feeds : List Feed) (dbs : List Db) (k : Nat) (hf : allOn k feeds = true) :
    ∀ ops : List FeedCache.Op, noMutate ops = true → readsOk feeds (dbs.getD k []) ops = true →
      fresh feeds dbs ops = FeedCache.spec feeds dbs ops
  | [], _, _ => rfl
  | .read i s :: ops, hn, hr => by
    simp only [readsOk, Bool.and_eq_true] at hr
    simp only [fresh, FeedCache.spec]
    rw [fresh_spec feeds dbs k hf ops (by simpa [noMutate] using hn) hr.2]
    cases hi : feeds[i]? with
    | none => rfl
    | some f =>
      have hfk := List.all_eq_true.mp hf f (List.mem_of_getElem? hi)
      simp only [Bool.and_eq_true, beq_iff_eq] at hfk
      have h := hr.1
      simp only [hi, Bool.and_eq_true] at h
      simp only [hfk.2, C06_denotation_partial f.srcs s h.1 (dbs.getD k []) h.2]
  | .mutate i db :: ops, hn, _ => by simp [noMutate] at hn
  | .restart :: ops, hn, hr => by
    simp only [fresh, FeedCache.spec]
    exact fresh_spec feeds dbs k hf ops (by simpa [noMutate] using hn) (by simpa [readsOk] using hr)

/-- Over unchanged storage, for every history of reads of arbitrary well-formed statements (in any order, repeated,
across restarts) every read returns exactly what *its own statement denotes* over the storage — whatever was read
before (outside the CROSS finding's region). -/
theorem C06_history_denotes (feeds : List Feed) (dbs : List Db) (k : Nat) (ops : List FeedCache.Op)
    (hf : allOn k feeds = true) (hn : noMutate ops = true) (hr : readsOk feeds (dbs.getD k []) ops = true) :
    run feeds { storages := dbs } ops = FeedCache.spec feeds dbs ops := by
  rw [C06_independence_partial feeds dbs k ops hf hn]
  exact fresh_spec feeds dbs k hf ops hn hr

/-- non-vacuity: a history with a restart and repeated reads through two feeds on one storage -/
example : allOn 0 [Witness.feedOn 0, Witness.feedOn 0] = true ∧
    noMutate [.read 0 Witness.sel, .restart, .read 1 Witness.sel, .read 0 Witness.sel] = true ∧
    run [Witness.feedOn 0, Witness.feedOn 0] { storages := [Witness.db1] }
      [.read 0 Witness.sel, .restart, .read 1 Witness.sel, .read 0 Witness.sel] =
      [some ⟨[some "x"], [[.int 10]]⟩, some ⟨[some "x"], [[.int 10]]⟩, some ⟨[some "x"], [[.int 10]]⟩] := by
  decide +kernel

/-- all feeds are lazy feeds provisioning `srcs` from the storage `k` -/
def allLazyOn (srcs : Sources) (k : Nat) (feeds : List Feed) : Bool :=
  feeds.all (fun f => f.kind == .lazy && f.storage == k && f.srcs == srcs)

/-- every statement read is well-formed and uses a column of each of its tables, all present in the storage -/
def lazyReadsOk (srcs : Sources) (db : Db) : List FeedCache.Op → Bool
  | [] => true
  | .read _ s :: ops => (WF srcs s && lazyCovered srcs db s) && lazyReadsOk srcs db ops
  | _ :: ops => lazyReadsOk srcs db ops

/-- Lazy (file / inline backed: `lazy.Feed`, `monolite.Feed`) feeds over one unchanged storage: every read of every
history of well-formed statements that use a column of each of their tables returns the fresh evaluation of its own
statement — in one process and across restarts.  The two excluded regions are exactly the known findings: a storage
change (`C06_lazy_counterexample`, the registration is never refreshed) and a table none of whose columns is used
(`C06_lazy_unused_counterexample`). -/
theorem C06_independence_lazy_partial (srcs : Sources) (k : Nat) (feeds : List Feed) (dbs : List Db)
    (ops : List FeedCache.Op) (hf : allLazyOn srcs k feeds = true) (hn : noMutate ops = true)
    (hr : lazyReadsOk srcs (dbs.getD k []) ops = true) :
    run feeds { storages := dbs } ops = fresh feeds dbs ops := by
  refine run_of_invariant feeds dbs (LazyOk srcs k dbs) (fun ops => lazyReadsOk srcs (dbs.getD k []) ops = true) ?_ ?_ ?_
    ops _ hn hr
    ⟨rfl, by intro q v h; simp [List.lookup] at h, by intro q v h; simp [List.lookup] at h,
     by intro key c h; simp [List.lookup] at h, by intro t ht; simp at ht, by intro i s q h; simp [List.lookup] at h⟩
  · intro op ops ho
    cases op <;> simp only [lazyReadsOk, Bool.and_eq_true] at ho
    · exact ho.2
    · exact ho
    · exact ho
  · intro st i s _ f hst ho hi
    simp only [lazyReadsOk, Bool.and_eq_true] at ho
    have hfk := List.all_eq_true.mp hf f (List.mem_of_getElem? hi)
    simp only [Bool.and_eq_true, beq_iff_eq] at hfk
    obtain ⟨⟨hk, hs⟩, hsr⟩ := hfk
    obtain ⟨q0, hq0, hp0⟩ := C06_parse_spec srcs s ho.1.1
    subst hsr
    rw [hs]
    refine read_of_exec (LazyOk f.srcs k dbs) _ hst (hst.parsed i s) ?_ ?_
    · intro q hq
      exact ⟨hst.stor, hst.mem, hst.disk, hst.back, hst.parts, fun i' s' q' h' =>
        lookup_cons_sound (fun (key : Nat × Source) q => parse f.srcs key.2 = .ok q) (i, s) q st.parsed
          (fun key q' h => hst.parsed key.1 key.2 q' h) hq (i', s') q' h'⟩
    · intro st' q hst' hq
      rw [hp0] at hq
      cases hq
      exact exec_lazy f.srcs k dbs st' hst' f hk rfl hs s q0 hq0 ho.1.2
  · intro st hst
    exact ⟨hst.stor, by intro q v h; simp [List.lookup] at h, hst.disk, by intro key c h; simp [List.lookup] at h,
      by intro t ht; simp at ht, by intro i s q h; simp [List.lookup] at h⟩

private theorem fresh_append (feeds : List Feed) (dbs : List Db) : ∀ (pre post : List FeedCache.Op), noMutate pre = true →
    fresh feeds dbs (pre ++ post) = fresh feeds dbs pre ++ fresh feeds dbs post
  | [], _, _ => rfl
  | .read i s :: pre, post, h => by
    simp only [List.cons_append, fresh, fresh_append feeds dbs pre post (by simpa [noMutate] using h)]
  | .mutate i db :: pre, post, h => by simp [noMutate] at h
  | .restart :: pre, post, h => by
    simp only [List.cons_append, fresh, fresh_append feeds dbs pre post (by simpa [noMutate] using h)]

private theorem noMutate_append : ∀ (a b : List FeedCache.Op), noMutate (a ++ b) = (noMutate a && noMutate b)
  | [], b => by simp [noMutate]
  | .read _ _ :: a, b => by simp [noMutate, noMutate_append a b]
  | .mutate _ _ :: a, b => by simp [noMutate]
  | .restart :: a, b => by simp [noMutate, noMutate_append a b]

/-- A read through feed `f` depends only on `f`'s own mapping and storage: whatever other feeds of the process (same
connection, other source ↦ table mappings) read before — the same statement included — the read returns the fresh
evaluation of the statement under `f.srcs` (the parse cache is per reader, the result cache per rendered SQL). -/
theorem C06_read_own_feed (feeds : List Feed) (dbs : List Db) (k : Nat) (pre : List FeedCache.Op) (i : Nat) (s : Source)
    (f : Feed) (hf : allOn k feeds = true) (hn : noMutate pre = true) (hi : feeds[i]? = some f) :
    (run feeds { storages := dbs } (pre ++ [.read i s])).getLast? = some (readRows f.srcs s (dbs.getD k [])) := by
  have hfk := List.all_eq_true.mp hf f (List.mem_of_getElem? hi)
  simp only [Bool.and_eq_true, beq_iff_eq] at hfk
  rw [C06_independence_partial feeds dbs k _ hf (by rw [noMutate_append, hn]; rfl), fresh_append feeds dbs pre _ hn]
  simp [fresh, hi, hfk.2]

/-- `A.select(A.x).where(A.x > n)`: a family of statements that differ in one literal only -/
def Witness.selGt (n : Int) : Source :=
  .query Witness.A (.cons (.elem Witness.A "x") .nil)
    (.some (.expr .gt (.cons (.elem Witness.A "x") (.cons (.lit (.int n)) .nil)))) .nil .none .nil none

def Witness.db3 : Db := [("a", ⟨["id", "x"], [[.int 1, .int 10], [.int 2, .int 30], [.int 3, .int 50]]⟩)]

/-- non-vacuity of `C06_history_denotes`: statements differing in a literal only, read alternately, in one process and
after a restart — every read gets the rows of its own statement -/
example : allOn 0 [Witness.feedOn 0] = true ∧
    noMutate [.read 0 (Witness.selGt 25), .read 0 (Witness.selGt 45), .restart, .read 0 (Witness.selGt 45),
              .read 0 (Witness.selGt 25)] = true ∧
    readsOk [Witness.feedOn 0] Witness.db3
      [.read 0 (Witness.selGt 25), .read 0 (Witness.selGt 45), .restart, .read 0 (Witness.selGt 45),
       .read 0 (Witness.selGt 25)] = true ∧
    run [Witness.feedOn 0] { storages := [Witness.db3] }
      [.read 0 (Witness.selGt 25), .read 0 (Witness.selGt 45), .restart, .read 0 (Witness.selGt 45),
       .read 0 (Witness.selGt 25)] =
      [some ⟨[some "x"], [[.int 30], [.int 50]]⟩, some ⟨[some "x"], [[.int 50]]⟩, some ⟨[some "x"], [[.int 50]]⟩,
       some ⟨[some "x"], [[.int 30], [.int 50]]⟩] := by
  decide +kernel

/-- non-vacuity of `C06_read_own_feed`: two feeds on ONE storage (same connection) that map the schema `A` to different
physical tables read the same statement one after the other, also after a restart: each gets its own table's rows -/
example :
    run [{ kind := .alchemy, srcs := [(Witness.A, "a")], storage := 0 }, { kind := .alchemy, srcs := [(Witness.A, "a2")], storage := 0 }]
      { storages := [[("a", ⟨["id", "x"], [[.int 1, .int 10]]⟩), ("a2", ⟨["id", "x"], [[.int 1, .int 20], [.int 2, .int 30]]⟩)]] }
      [.read 0 Witness.sel, .read 1 Witness.sel, .restart, .read 1 Witness.sel, .read 0 Witness.sel] =
      [some ⟨[some "x"], [[.int 10]]⟩, some ⟨[some "x"], [[.int 20], [.int 30]]⟩, some ⟨[some "x"], [[.int 20], [.int 30]]⟩,
       some ⟨[some "x"], [[.int 10]]⟩] := by
  decide +kernel

open ForML.FileOrigin (effective csvDefaults loadCsv writeCsv)

/-- an option the user configures reaches the reader with the user's value … -/
theorem C06_file_options_user_wins (defaults user : FileOrigin.Options) (k v : String) (h : user.lookup k = some v) :
    (effective defaults user).lookup k = some v := by
  simp [effective, lookup_merge, h]

/-- … and an option the user does not mention keeps the class default -/
theorem C06_file_options_default (defaults user : FileOrigin.Options) (k : String) (h : user.lookup k = none) :
    (effective defaults user).lookup k = defaults.lookup k := by
  simp [effective, lookup_merge, h]

/-- whatever the user configures: the file these options describe (a header line exactly when the effective `header`
option says so) is loaded to exactly its content rows -/
theorem C06_csv_load_content (user : FileOrigin.Options) (cols : List String) (rows file : List Row)
    (h : writeCsv (effective csvDefaults user) cols rows = some file) :
    loadCsv (effective csvDefaults user) file = some rows :=
  loadCsv_writeCsv _ cols rows file h

/-- non-vacuity: a headerless file configured with `header=None` keeps its first row; by default the header line goes -/
example :
    loadCsv (effective csvDefaults [("header", "None")]) [[.int 1, .int 10], [.int 2, .int 20]] =
      some [[.int 1, .int 10], [.int 2, .int 20]] ∧
    loadCsv (effective csvDefaults [("sep", ";")]) [[.str "sensor", .str "value"], [.int 1, .int 10]] = some [[.int 1, .int 10]] ∧
    writeCsv (effective csvDefaults [("header", "None")]) ["sensor", "value"] [[.int 1, .int 10]] = some [[.int 1, .int 10]] := by
  decide +kernel

/-- non-vacuity of `C06_independence_lazy_partial`: the same family through a lazy feed, with a restart -/
example : allLazyOn [(Witness.A, "a")] 0 [Witness.lazyOn 0] = true ∧
    lazyReadsOk [(Witness.A, "a")] Witness.db3
      [.read 0 (Witness.selGt 25), .read 0 (Witness.selGt 45), .restart, .read 0 (Witness.selGt 25)] = true ∧
    run [Witness.lazyOn 0] { storages := [Witness.db3] }
      [.read 0 (Witness.selGt 25), .read 0 (Witness.selGt 45), .restart, .read 0 (Witness.selGt 25)] =
      [some ⟨[some "x"], [[.int 30], [.int 50]]⟩, some ⟨[some "x"], [[.int 50]]⟩, some ⟨[some "x"], [[.int 30], [.int 50]]⟩] := by
  decide +kernel

/-- non-vacuity: `100 / A.x`, `5 < A.x`, `~(A.x - 1 > 2)` -/
example :
    (PyExpr.bin .truediv (.val (.int 100)) (.feat (.elem Witness.A "x"))).eval =
      some (.feat (.expr .div (.cons (.lit (.int 100)) (.cons (.elem Witness.A "x") .nil)))) ∧
    (PyExpr.bin .lt (.val (.int 5)) (.feat (.elem Witness.A "x"))).eval =
      some (.feat (.expr .gt (.cons (.elem Witness.A "x") (.cons (.lit (.int 5)) .nil)))) ∧
    (PyExpr.inv (.bin .gt (.bin .sub (.feat (.elem Witness.A "x")) (.val (.int 1))) (.val (.int 2)))).eval =
      some (.feat (.expr .not (.cons (.expr .gt (.cons (.expr .sub (.cons (.elem Witness.A "x") (.cons (.lit (.int 1)) .nil)))
        (.cons (.lit (.int 2)) .nil))) .nil))) := by
  refine ⟨rfl, rfl, rfl⟩

/-- `PARTITIONS` is keyed by the origin — class and source: a second lazy feed whose table comes from an origin of the
same class is served the first feed's registration (C06-F4), one whose origin is of another class (a parquet file
against a CSV file) registers its own content -/
example :
    run [Witness.lazyOn 0, Witness.lazyOn 1] { storages := [Witness.db1, Witness.db2] }
      [.read 0 Witness.sel, .read 1 (Witness.selGt 0)] = [some ⟨[some "x"], [[.int 10]]⟩, some ⟨[some "x"], [[.int 10]]⟩] ∧
    run [Witness.lazyOn 0, { Witness.lazyOn 1 with origins := [(Witness.A, "Parquet")] }] { storages := [Witness.db1, Witness.db2] }
      [.read 0 Witness.sel, .read 1 (Witness.selGt 0)] = [some ⟨[some "x"], [[.int 10]]⟩, some ⟨[some "x"], [[.int 20]]⟩] := by
  decide +kernel

end ForML.C06
