/-
C11 — Graph construction keeps topology invariants under any call sequence.

Property theorems over `ForML.Model.Graph` (the model of forml's construction API with
`fixes/C11-atomic-topology-errors.diff` applied); helper lemmas live in `ForML/Lemmas/C11*.lean`.
Reading of the statement:
  * `Wf`       = (I2) no self-loop, (I3) apply xor train, (I4) one trained member per group, (I5) trained workers
                 publish nothing, (I6) `_PORTS` = ports having an edge, (I7) publishers exist / subscribers are
                 workers, (I8) registrations sit on placeholders;  `Inv` = (I1) one publisher per input port ∧ `Wf`;
  * atomicity  = a call answering an error leaves the state exactly as it was;
  * transparency = what an output port holds is held by everything registered upstream of it (complete) and the
                 holders of one subscription form one chain of registrations (sound);
  * cycles     = a successfully auto-traced segment has no walk from the head that returns to a passed node; with an
                 explicit tail: success = a repetition-free walk to the tail, `Cyclic` = a walk running into a passed
                 node, `Disconnected` = no walk reaches the tail (the search stops at the first hit, by design);
  * placeholders: a validated segment / an accepted composition reaches no placeholder (but a placeholder tail);
  * copy       = an isomorphic region of fresh nodes, disjoint from the copied graph.
`Wf` holds for every call sequence, whatever the route (workers, placeholders, failed calls, retries, segment /
trunk / composition calls).  Atomicity holds for every single-step call; `Segment.extend`, `Trunk.extend` and
`flow.Composition` keep their completed stages (finding C11-F3): `C11_atomic_full` + `_counterexample` + `_partial`
+ `C11_atomic_stages`.  (I1) is false of the code that exists when two publishers are registered on one placeholder
port (finding C11-F1): `_full` + `_counterexample` + `_partial`.  The placeholder clause is false when the head
placeholder compares equal to the tail worker, i.e. the tail is its registered publisher (finding C11-F2): `_full`
+ `_counterexample` + `_partial` (`C11_placeholder_*`, `C11_validator_*`).
-/
import ForML.Lemmas.C11Ops
import ForML.Lemmas.C11Cycle
import ForML.Lemmas.C11Visit
import ForML.Lemmas.C11Exists
import ForML.Lemmas.C11Republish

namespace ForML.Graph

/-- the calls that are one step of wiring (or none); `Segment.extend`, `Trunk.extend` and `flow.Composition` are
several (subscribe, then trace; three modes; several operators) -/
def Op.atomic : Op → Bool
  | .extend _ _ _ _ => false
  | .textend _ _ _ _ => false
  | .compose _ => false
  | _ => true

/-- the calls that may register a publisher on a placeholder -/
def Op.wires : Op → Bool
  | .subscribe _ _ _ _ | .publish _ _ _ _ | .extend _ _ _ _ | .textend _ _ _ _ | .compose _ => true
  | _ => false

theorem step_moves (g : G) (op : Op) (hw : Wf g) :
    Moves op.wires g (step g op).1 ∧ ((step g op).2.isErr = true → op.atomic = true → (step g op).1 = g) := by
  cases op with
  | mkWorker st i o =>
    simp only [step, mkWorker]
    split
    · exact ⟨.refl g, fun _ _ => rfl⟩
    · exact ⟨.one (.node g _ _), nofun⟩
  | mkFuture i o =>
    simp only [step, mkFuture]
    split
    · exact ⟨.refl g, fun _ _ => rfl⟩
    · exact ⟨.one (.node g _ g.ngroups), nofun⟩
  | fork n =>
    simp only [step, fork]
    split
    · exact ⟨.refl g, fun _ _ => rfl⟩
    · exact ⟨.one (.node g _ g.ngroups), nofun⟩
  | trunk a t l =>
    have one : ∀ (g : G) (m : Option (Nat × Nat)), Moves false g (trunkMode g m).1 := by
      intro g m
      cases m with
      | some p => exact .refl g
      | none => exact .one (.node g _ g.ngroups)
    simp only [step, trunk]
    rcases resolveOpt g a with e | ra
    · exact ⟨.refl g, fun _ _ => rfl⟩
    · rcases resolveOpt g t with e | rt
      · exact ⟨.refl g, fun _ _ => rfl⟩
      · rcases resolveOpt g l with e | rl
        · exact ⟨.refl g, fun _ _ => rfl⟩
        · exact ⟨((one _ ra).trans (one _ rt)).trans (one _ rl), nofun⟩
  | subscribe s j p pi =>
    exact ⟨(subscribe_route g s j p pi hw).moves, fun he _ => (subscribe_route g s j p pi hw).atomic he⟩
  | publish p pi s k =>
    exact ⟨(publishOp_route g p pi s k hw).moves, fun he _ => (publishOp_route g p pi s k hw).atomic he⟩
  | train n tp ti lp li =>
    simp only [step]
    rcases train_cases g n tp ti lp li hw with ⟨e, h⟩ | ⟨L1, L2, h, h1, h2⟩ <;> rw [h]
    · exact ⟨.refl g, fun _ _ => rfl⟩
    · exact ⟨.head (.published h1) (.one (.published h2)), nofun⟩
  | segment h t => exact ⟨.refl g, fun _ _ => rfl⟩
  | validate h t => exact ⟨.refl g, fun _ _ => rfl⟩
  | extend h t right xt => exact ⟨(extend_wire g h t right xt hw).moves hw, fun _ ha => nomatch ha⟩
  | textend b a t l => exact ⟨(textend_wire g b a t l hw).moves hw, fun _ ha => nomatch ha⟩
  | compose ts => exact ⟨(compose_wire g ts hw).moves hw, fun _ ha => nomatch ha⟩
  | copy h t =>
    simp only [step]
    rcases copy_cases g h t hw with ⟨e, he⟩ | ⟨tl, ps, _, hc, ok, _, _⟩
    · rw [he]; exact ⟨.refl g, fun _ _ => rfl⟩
    · rw [hc]; exact ⟨.one (.copied ok), nofun⟩

/-- one call — legal or illegal, succeeding or raising, between workers or through placeholders — keeps `Wf` -/
theorem C11_wf_step (g : G) (op : Op) (hw : Wf g) : Wf (step g op).1 := (step_moves g op hw).1.wf hw

theorem C11_wf_init : Wf init := by decide +kernel

theorem run_moves : ∀ (ops : List Op) (g : G), Wf g → Moves true g (run g ops)
  | [], g, _ => .refl g
  | op :: ops, g, hw =>
    have h := (step_moves g op hw).1.lift
    h.trans (run_moves ops _ (h.wf hw))

/-- after any sequence of construction calls no node feeds itself, every worker is subscribed either
for training or for applying, every group has at most one trained member, trained workers publish nothing,
and the `_PORTS` registry is exactly the set of subscribed ports -/
theorem C11_wf (ops : List Op) : Wf (run init ops) := (run_moves ops init C11_wf_init).wf C11_wf_init

/-- a call that raises leaves a well-formed state exactly as it was — every kind of single-step call, every route -/
theorem C11_atomic_step (g : G) (op : Op) (hw : Wf g) (ha : op.atomic = true) (he : (step g op).2.isErr = true) :
    (step g op).1 = g := (step_moves g op hw).2 he ha

/-- full strength: after any sequence of construction calls, a call that raises leaves the graph exactly as it was -/
def C11_atomic_full : Prop :=
  ∀ (ops : List Op) (op : Op), (step (run init ops) op).2.isErr = true → (step (run init ops) op).1 = run init ops

/-- C11-F3: `Trunk.extend` wires its modes one after the other; the train extension is refused (the input port is
taken) after the apply extension went through, and stays -/
theorem C11_atomic_counterexample : ¬ C11_atomic_full := by
  intro h
  have := h [.mkWorker false 1 1, .mkWorker true 1 1, .mkWorker true 1 1, .mkWorker true 1 1, .subscribe 3 0 1 0]
    (.textend ⟨(0, none), (1, none), (2, none)⟩ (some (2, none)) (some (3, none)) none) (by decide +kernel)
  revert this
  decide +kernel

/-- after any sequence of construction calls, a single-step call (node
creation, fork, subscribe / publish through any tree of placeholders, train, segment tracing, validation, copy,
`Trunk(...)`) that raises leaves the graph exactly as it was -/
theorem C11_atomic_partial (ops : List Op) (op : Op) (ha : op.atomic = true)
    (he : (step (run init ops) op).2.isErr = true) : (step (run init ops) op).1 = run init ops :=
  C11_atomic_step _ op (C11_wf ops) ha he

theorem C11_atomic (ops : List Op) (op : Op) (ha : op.atomic = true)
    (he : (step (run init ops) op).2.isErr = true) : (step (run init ops) op).1 = run init ops :=
  C11_atomic_partial ops op ha he

/-- the several-step calls (`Segment.extend`, `Trunk.extend`, `flow.Composition`), refused or
not, change the graph by subscriptions that were each accepted and nothing else: every completed stage stays, a
refused stage leaves no trace -/
theorem C11_atomic_stages (ops : List Op) (op : Op) (ha : op.atomic = false) :
    Wire (run init ops) (step (run init ops) op).1 := by
  have hw := C11_wf ops
  cases op with
  | extend h t right xt => exact extend_wire _ h t right xt hw
  | textend b a t l => exact textend_wire _ b a t l hw
  | compose ts => exact compose_wire _ ts hw
  | _ => cases ha

/-- a refused `Segment.copy` leaves the model state exactly as it was (the code leaves forks behind in the worker
groups: finding C11-F4, outside the compared state) -/
theorem C11_copy_atomic (ops : List Op) (h : Nat) (t : Option Nat)
    (he : (step (run init ops) (.copy h t)).2.isErr = true) : (step (run init ops) (.copy h t)).1 = run init ops :=
  C11_atomic_step _ _ (C11_wf ops) rfl he

/-- non-vacuity: failing calls of every kind on a non-trivial graph (self subscription through a placeholder,
trained publisher behind a placeholder, label stage of `train`, cycle of placeholders) -/
example :
    let ops := [Op.mkWorker true 1 1, .mkWorker false 1 1, .mkFuture 1 1, .mkFuture 1 1, .subscribe 2 0 1 0,
                .subscribe 1 0 2 0, .train 0 1 0 0 0, .subscribe 3 0 2 0, .subscribe 2 0 3 0, .train 0 2 0 1 0,
                .subscribe 2 0 0 0]
    (step (run init (ops.take 5)) (ops.getD 5 (.fork 0))).2 = .err .self ∧
    (step (run init (ops.take 6)) (ops.getD 6 (.fork 0))).2 = .err .trainedPublishing ∧
    (step (run init (ops.take 8)) (ops.getD 8 (.fork 0))).2 = .err .self ∧
    (run init ops).edges.length = 3 := by
  decide +kernel

/-- the call does not give a placeholder input port a second publisher: a `subscribe` / `publish` to a placeholder
finds the input port without a registration; for a several-step call it is read off the state the call reaches (its
registrations have distinct (placeholder, port) keys, `KeyNodup`) -/
def SingleOp (g : G) (op : Op) : Bool :=
  match op with
  | .subscribe s j _ _ => !(isFuture g s && g.regs.any (fun r => r.fut == s && r.idx == j))
  | .publish _ _ s k => !(isFuture g s && g.regs.any (fun r => r.fut == s && r.idx == k.index))
  | .extend _ _ _ _ => decide (KeyNodup (step g op).1)
  | .textend _ _ _ _ => decide (KeyNodup (step g op).1)
  | .compose _ => decide (KeyNodup (step g op).1)
  | _ => true

private theorem free_key {g : G} {s j : Nat}
    (ho : (!(isFuture g s && g.regs.any (fun r => r.fut == s && r.idx == j))) = true) (hf : isFuture g s = true) :
    ∀ r ∈ g.regs, ¬(r.fut = s ∧ r.idx = j) := by
  intro r hr ⟨h1, h2⟩
  simp only [hf, Bool.true_and, Bool.not_eq_true', List.any_eq_false, Bool.and_eq_true, beq_iff_eq, not_and] at ho
  exact ho r hr h1 h2

theorem single_step (g : G) (op : Op) (hw : Wf g) (hk : KeyNodup g) (ho : SingleOp g op = true) :
    KeyNodup (step g op).1 := by
  have hr : op.wires = false → KeyNodup (step g op).1 := by
    intro h
    have hm := (step_moves g op hw).1
    rw [h] at hm
    unfold KeyNodup
    rw [hm.regs_eq]
    exact hk
  cases op with
  | subscribe s j p pi => exact (subscribe_route g s j p pi hw).keyNodup hk (free_key ho)
  | publish p pi s k => exact (publishOp_route g p pi s k hw).keyNodup hk (free_key ho)
  | extend _ _ _ _ | textend _ _ _ _ | compose _ => exact of_decide_eq_true ho
  | _ => exact hr rfl

/-- no call of the sequence registers a second publisher on a placeholder port (decidable along the run) -/
def AllSingle : G → List Op → Prop
  | _, [] => True
  | g, op :: ops => SingleOp g op = true ∧ AllSingle (step g op).1 ops

instance : (g : G) → (ops : List Op) → Decidable (AllSingle g ops)
  | _, [] => isTrue trivial
  | g, op :: ops =>
    have := instDecidableAllSingle (step g op).1 ops
    by unfold AllSingle; infer_instance

theorem run_rooted (ops : List Op) : Rooted (run init ops) :=
  (run_moves ops init C11_wf_init).rooted C11_wf_init (fun _ => ⟨(0, 0), fun _ he => nomatch he⟩)

private theorem single_run (g : G) (ops : List Op) (hw : Wf g) (hk : KeyNodup g) (ha : AllSingle g ops) :
    KeyNodup (run g ops) := by
  induction ops generalizing g with
  | nil => exact hk
  | cons op ops ih => exact ih _ (C11_wf_step g op hw) (single_step g op hw hk ha.1) ha.2

/-- calls routed through any number of placeholders, in any order, connect nothing but the
chain of registrations: whenever two output ports hold the same subscription, one of them is upstream of the other
through the registered publishers (a worker port holding it is upstream of every placeholder port holding it) -/
theorem C11_future_sound (ops : List Op) (ha : AllSingle init ops) : Chain (run init ops) :=
  chain_of_rooted (keyNodup_single (single_run init ops C11_wf_init List.nodup_nil ha)) (run_rooted ops)

theorem C11_invariant_init : Inv init := by decide +kernel

/-- full strength: all the invariants, (I1) included, hold after every sequence of construction calls -/
def C11_invariant_full : Prop := ∀ ops : List Op, Inv (run init ops)

/-- C11-F1: two publishers registered on one placeholder port, then a subscriber: two publishers on one input port -/
theorem C11_invariant_counterexample : ¬ C11_invariant_full := by
  intro h
  have := h [.mkWorker false 1 1, .mkWorker false 1 1, .mkFuture 1 1, .mkWorker false 1 1,
             .subscribe 2 0 0 0, .subscribe 2 0 1 0, .subscribe 3 0 2 0]
  revert this
  decide +kernel

/-- the same witness violates (I1) specifically -/
theorem C11_I1_counterexample :
    ¬ I1 (run init [.mkWorker false 1 1, .mkWorker false 1 1, .mkFuture 1 1, .mkWorker false 1 1,
                    .subscribe 2 0 0 0, .subscribe 2 0 1 0, .subscribe 3 0 2 0]) := by
  unfold I1; decide +kernel

/-- all the invariants, one publisher per input port included, hold after every call
sequence — any length, worker routes and placeholder routes, any number of placeholders connected in any order,
legal and illegal calls, failed calls and retries in any interleaving — in which no placeholder input port is
given a second publisher -/
theorem C11_invariant_partial (ops : List Op) (ha : AllSingle init ops) : Inv (run init ops) :=
  ⟨i1_of_chain (C11_wf ops).i8 (C11_future_sound ops ha), C11_wf ops⟩

/-- non-vacuity: legal and illegal worker-to-worker calls (trained publisher, fork collision, retry, failing train
at the label stage) satisfy the hypothesis and end in a non-trivial graph -/
example :
    let ops := [Op.mkWorker true 1 1, .mkWorker false 1 2, .fork 0, .mkFuture 1 1, .subscribe 0 0 1 0,
                .train 0 1 0 1 0, .train 2 1 1 0 0, .train 2 1 1 1 0, .subscribe 1 0 2 0, .train 0 1 0 1 0,
                .segment 1 none]
    AllSingle init ops ∧ (run init ops).edges.length = 3 := by
  decide +kernel

/-- non-vacuity: a chain of placeholders wired downstream-first, upstream-last, with failing calls in between -/
example :
    let ops := [Op.mkWorker false 1 1, .mkFuture 1 1, .mkFuture 1 1, .mkWorker false 1 1, .mkWorker false 1 1,
                .subscribe 3 0 2 0, .subscribe 4 0 2 0, .subscribe 2 0 1 0, .subscribe 1 0 2 0, .subscribe 1 0 0 0,
                .subscribe 0 0 2 0]
    AllSingle init ops ∧ (run init ops).edges.length = 6 ∧
    (resolve (run init ops)).map (fun e => (e.pub, e.sub.node)) = [(0, 3), (0, 4)] := by
  decide +kernel

theorem run_closed (ops : List Op) : Closed (run init ops) :=
  (run_moves ops init C11_wf_init).closed C11_wf_init (fun _ he => nomatch he)

/-- after any sequence of construction calls — any number of placeholders, connected in
any order, several publishers per placeholder port included — a subscription held by an output port is held by
every output port upstream of it through the registered publishers; in particular every worker registered
(transitively) on a placeholder is connected to every subscriber of that placeholder, exactly as if it had been
wired directly -/
theorem C11_future_complete (ops : List Op) (e : Edge) (he : e ∈ (run init ops).edges) (x : Nat × Nat)
    (hu : Up (run init ops) (e.pub, e.out) x) : (⟨x.1, x.2, e.sub⟩ : Edge) ∈ (run init ops).edges :=
  (holdsUp_up (C11_wf ops).i8 hu (run_closed ops e he)).edge

/-- when `Segment(head)` traces its tail successfully, no walk over (non-trained) subscriptions
starting at the head ever returns to the head or passes a node twice: no cycle is reachable from the head.
(Contrapositive: with a reachable cycle the tracing raises.) -/
theorem C11_cycle (g : G) (h t : Nat) (hs : segment g h none = .node t) (ys : List Nat) (hy : Trail g h ys) :
    h ∉ ys ∧ ys.Nodup := by
  obtain ⟨_, _, l, hscan⟩ := (segment_spec g h none).2.1 t hs
  obtain ⟨h1, h2⟩ := scan_trail ys _ h [h] _ hscan hy
  exact ⟨fun hm => h1 h hm (by simp), h2⟩

/-- the same for a validated auto-traced segment -/
theorem C11_cycle_validate (g : G) (h t : Nat) (hv : validate g h none = .node t) (ys : List Nat)
    (hy : Trail g h ys) : h ∉ ys ∧ ys.Nodup :=
  C11_cycle g h t (validate_node g h none t hv).1 ys hy

/-- non-vacuity: a two-node cycle is refused, a chain with a trained side branch is traced -/
example :
    segment (run init [.mkWorker false 1 1, .mkWorker false 1 1, .subscribe 1 0 0 0, .subscribe 0 0 1 0]) 0 none
      = .err .cyclic ∧
    segment (run init [.mkWorker false 1 1, .mkWorker false 1 1, .mkWorker false 1 1, .mkWorker true 1 1,
      .subscribe 1 0 0 0, .subscribe 2 0 1 0, .train 3 1 0 0 0]) 0 none = .node 2 ∧
    Trail (run init [.mkWorker false 1 1, .mkWorker false 1 1, .mkWorker false 1 1, .mkWorker true 1 1,
      .subscribe 1 0 0 0, .subscribe 2 0 1 0, .train 3 1 0 0 0]) 0 [1, 2] := by
  decide +kernel

/-- full strength: a segment accepted by the validator has no placeholder head (unless it is the tail itself) -/
def C11_placeholder_full : Prop :=
  ∀ (g : G) (h : Nat) (t : Option Nat) (tl : Nat), validate g h t = .node tl → isFuture g h = true → tl = h

/-- C11-F2: a placeholder head whose registered publisher is given as the tail (and holds the same subscriptions)
compares equal to it and is skipped as if it were the tail -/
theorem C11_placeholder_counterexample : ¬ C11_placeholder_full := by
  intro h
  have := h (run init [.mkWorker false 1 1, .mkFuture 1 1, .mkWorker false 1 1, .subscribe 1 0 0 0, .subscribe 2 0 1 0])
    1 (some 0) 0 (by decide +kernel) (by decide +kernel)
  revert this
  decide +kernel

/-- the validator accepts a placeholder head only when it compares equal to the tail
(`Node.__eq__`: same number of output ports holding equal subscriptions, not all of them empty) -/
theorem C11_placeholder_partial (g : G) (h : Nat) (t : Option Nat) (tl : Nat)
    (hv : validate g h t = .node tl) (hf : isFuture g h = true) : eqNode g h tl = true := by
  have hacc := (validate_node g h t tl hv).2
  cases he : eqNode g h tl with
  | true => rfl
  | false =>
    rw [accept_some.mpr ⟨h, visit_pivot g tl _ h [], hf, he⟩] at hacc
    cases hacc

/-- non-vacuity: a connected placeholder head is refused, a worker-only segment is accepted -/
example :
    validate (run init [.mkFuture 1 1, .mkWorker false 1 1, .subscribe 1 0 0 0]) 0 none = .err .futures ∧
    validate (run init [.mkWorker false 1 1, .mkWorker false 1 1, .subscribe 1 0 0 0]) 0 none = .node 1 := by
  decide +kernel

/-- a successful `Segment(h, t).copy()` forks exactly the nodes on the mapper paths from the head
to the (unwrapped) tail - one fresh node per member, same kind, shape and worker group, the existing nodes
untouched -, replays exactly the subscriptions between two members of one path (an `Apply` port of the same
index), leaves the registrations as they were, and links no old node with a new one. -/
theorem C11_copy_iso (g : G) (h : Nat) (t : Option Nat) (hw : Wf g) (hok : (copy g h t).2.isErr = false) :
    ∃ (tl : Nat) (ps : List (List Nat)), paths (fuelOf g) g tl h [h] = .ok ps ∧
      (copy g h t).2 = .segs [(copyIdx g (regionOf g h ps) h, copyIdx g (regionOf g h ps) tl)] ∧
      h ∈ regionOf g h ps ∧ tl ∈ regionOf g h ps ∧ (regionOf g h ps).Nodup ∧
      (∀ n, n ∈ regionOf g h ps ↔ n < g.nodes.length ∧ (n = h ∨ ∃ m ∈ ps, n ∈ m)) ∧
      -- the forks: fresh, one per member, same kind / shape / group; the old nodes are untouched
      (∀ n ∈ regionOf g h ps, g.nodes.length ≤ copyIdx g (regionOf g h ps) n ∧
        (copy g h t).1.nodes[copyIdx g (regionOf g h ps) n]? = g.nodes[n]?) ∧
      (∀ a ∈ regionOf g h ps, ∀ b ∈ regionOf g h ps,
        copyIdx g (regionOf g h ps) a = copyIdx g (regionOf g h ps) b → a = b) ∧
      (copy g h t).1.nodes.length = g.nodes.length + (regionOf g h ps).length ∧
      (∀ n < g.nodes.length, (copy g h t).1.nodes[n]? = g.nodes[n]?) ∧
      -- the subscriptions: the old ones as they were, the new ones the images of the edges inside one path
      (copy g h t).1.regs = g.regs ∧
      (copy g h t).1.edges = g.edges ++ (copyEdges g ps).map (copyEdge g (regionOf g h ps)) ∧
      (∀ e, e ∈ copyEdges g ps ↔ e ∈ g.edges ∧ ∃ m ∈ ps, e.pub ∈ m ∧ e.sub.node ∈ m) ∧
      -- disjoint: no subscription links an old node with a new one
      (∀ e ∈ (copy g h t).1.edges, (e.pub < g.nodes.length ↔ e.sub.node < g.nodes.length)) := by
  rcases copy_cases g h t hw with ⟨e, he⟩ | ⟨tl, ps, hps, hc, ok, htl, hh⟩
  · rw [he] at hok; simp [Res.isErr] at hok
  · rw [hc]
    refine ⟨tl, ps, hps, rfl, hh, htl, ok.nodup, mem_regionOf g h ps, ?_, ?_, ?_, ?_, rfl, rfl, mem_copyEdges g ps, ?_⟩
    · intro n hn
      exact ⟨copyIdx_ge g _ n, copied_new_get g _ _ hn (ok.bound n hn)⟩
    · intro a ha b hb hab
      exact copyIdx_inj g ha hb hab
    · simp [copied]
    · intro n hn
      exact getElem?_nodes (g' := copied g _ _) rfl hn
    · intro e he
      rcases mem_copied_edges g _ _ e he with h1 | ⟨a, _, rfl⟩
      · have i7 := hw.i7 e h1
        exact ⟨fun _ => isWorker_lt _ _ i7.2, fun _ => i7.1⟩
      · exact ⟨fun hlt => absurd hlt (Nat.not_lt.mpr (copyIdx_ge g _ a.pub)),
          fun hlt => absurd hlt (Nat.not_lt.mpr (copyIdx_ge g _ a.sub.node))⟩

/-- non-vacuity: a placeholder head feeding a chain with a trained side branch: the three mappers are copied, the
trainer is not; a region in which two ports hold one subscription is refused and nothing is created -/
example :
    let g := run init [.mkFuture 1 1, .mkWorker false 1 1, .mkWorker false 1 1, .mkWorker true 1 1,
      .subscribe 1 0 0 0, .subscribe 2 0 1 0, .train 3 1 0 0 0]
    (copy g 0 none).2 = .segs [(4, 6)] ∧ (copy g 0 none).1.nodes.length = 7 ∧
    (copy g 0 none).1.edges.length = g.edges.length + 2 ∧
    (step (run init [.mkWorker false 1 2, .mkWorker false 1 1, .mkWorker false 1 1, .mkFuture 1 1,
      .mkWorker false 1 1, .subscribe 1 0 0 0, .subscribe 2 0 0 1, .subscribe 3 0 1 0, .subscribe 3 0 2 0,
      .subscribe 4 0 3 0]) (.copy 0 (some 4))).2 = .err .double := by
  decide +kernel

/-- full strength: the validator refuses a segment iff a placeholder other than its tail is reachable from the head -/
def C11_validator_full : Prop :=
  ∀ (g : G) (h tl : Nat), Wf g → h < g.nodes.length → tl < g.nodes.length →
    (accept g h tl = some .futures ↔ ∃ n, Reach g tl h n ∧ isFuture g n = true ∧ n ≠ tl)

/-- C11-F2 again: the placeholder head compares equal to the tail (its registered publisher) and is skipped -/
theorem C11_validator_counterexample : ¬ C11_validator_full := by
  intro h
  have := (h (run init [.mkWorker false 1 1, .mkFuture 1 1, .mkWorker false 1 1, .subscribe 1 0 0 0, .subscribe 2 0 1 0])
    1 0 (by decide +kernel) (by decide +kernel) (by decide +kernel)).mpr ⟨1, .head, by decide +kernel, by decide +kernel⟩
  revert this
  decide +kernel

/-- in every well-formed state in which no two different nodes compare equal
(`Node.__eq__`), `Segment(h, tl).accept(Validator())` refuses **iff** a placeholder other than the tail is
reachable from the head (over the subscribers of every output port, below the tail only through trained ones) -/
theorem C11_validator_partial (g : G) (hw : Wf g) (na : noAlias g = true) (h tl : Nat) (hh : h < g.nodes.length)
    (ht : tl < g.nodes.length) :
    accept g h tl = some .futures ↔ ∃ n, Reach g tl h n ∧ isFuture g n = true ∧ n ≠ tl :=
  accept_iff g hw na h tl hh ht

/-- in every state, a refusal names a reachable placeholder that does not compare equal to the tail -/
theorem C11_validator_sound (g : G) (h tl : Nat) (hr : accept g h tl = some .futures) :
    ∃ n, Reach g tl h n ∧ isFuture g n = true ∧ eqNode g n tl = false :=
  accept_sound g h tl hr

/-- non-vacuity: a state with a wired placeholder in which no two nodes compare equal; the placeholder head is
refused, the worker-only remainder accepted -/
example :
    let g := run init [.mkFuture 1 1, .mkWorker false 1 1, .mkWorker false 1 1, .mkWorker true 1 1,
      .subscribe 1 0 0 0, .subscribe 2 0 1 0, .train 3 2 0 1 0]
    Wf g ∧ noAlias g = true ∧ accept g 0 2 = some .futures ∧ accept g 1 2 = none ∧
    Reach g 2 0 1 ∧ isFuture g 0 = true := by
  intro g
  -- one evaluation of the state for all the decidable parts (the step of `Reach` included)
  have h : (Wf g ∧ noAlias g = true ∧ accept g 0 2 = some .futures ∧ accept g 1 2 = none ∧ isFuture g 0 = true) ∧
      1 ∈ succs g 2 0 ∧ follow g 2 0 1 = true := by decide +kernel
  exact ⟨h.1.1, h.1.2.1, h.1.2.2.1, h.1.2.2.2.1, .step .head h.2.1 h.2.2, h.1.2.2.2.2⟩

private theorem retrace_spec (g : G) (s : Nat × Nat) :
    ((∃ x, retrace g s = .node x) ∨ ∃ e, retrace g s = .err e) ∧
    ∀ x, retrace g s = .node x → s.1 < g.nodes.length ∧ x < g.nodes.length := by
  unfold retrace autoTail
  cases scan (fuelOf g) g s.2 [s.2] with
  | error e => exact ⟨.inr ⟨_, rfl⟩, fun _ => nofun⟩
  | ok ls =>
    cases ls with
    | nil => exact ⟨.inr ⟨_, rfl⟩, fun _ => nofun⟩
    | cons l ls =>
      cases ls with
      | cons _ _ => exact ⟨.inr ⟨_, rfl⟩, fun _ => nofun⟩
      | nil =>
        refine ⟨(segment_spec g s.1 (some (l.headD s.2))).1, fun x hx => ?_⟩
        obtain ⟨h1, h2, _⟩ := (segment_spec g s.1 (some (l.headD s.2))).2.1 x hx
        exact ⟨h1, h2⟩

/-- the validation `Composition.__new__` makes (apply path retraced and validated,
then the train path), in a well-formed alias-free state where both paths retrace: it refuses **iff** a placeholder
other than the path's tail is reachable from the head of the apply path or of the train path - a placeholder on
one path only is enough -/
theorem C11_composition_refused_iff (g : G) (c : Trunk3) (hw : Wf g) (na : noAlias g = true) (at_ tt : Nat)
    (ha : retrace g c.apply = .node at_) (ht : retrace g c.train = .node tt) :
    (finalize g c).isErr = true ↔
      (∃ n, Reach g at_ c.apply.1 n ∧ isFuture g n = true ∧ n ≠ at_) ∨
      (∃ n, Reach g tt c.train.1 n ∧ isFuture g n = true ∧ n ≠ tt) := by
  obtain ⟨a1, a2⟩ := (retrace_spec g c.apply).2 at_ ha
  obtain ⟨t1, t2⟩ := (retrace_spec g c.train).2 tt ht
  rw [← accept_iff g hw na c.apply.1 at_ a1 a2, ← accept_iff g hw na c.train.1 tt t1 t2]
  unfold finalize
  rw [ha]
  simp only
  rcases accept_none_or g c.apply.1 at_ with h1 | h1
  · rw [h1, ht]
    simp only
    rcases accept_none_or g c.train.1 tt with h2 | h2
    · rw [h2]; simp [Res.isErr]
    · rw [h2]; simp [Res.isErr]
  · rw [h1]; simp [Res.isErr]

private theorem composeLoop_segs : ∀ (ts : List TrunkSpec) (g : G) (c : Trunk3) (g' : G) (l : List (Nat × Nat)),
    composeLoop g c ts = (g', .segs l) → ∃ c', finalize g' c' = .segs l
  | [], g, c, g', l, h => by
    simp only [composeLoop, Prod.mk.injEq] at h
    exact ⟨c, h.1 ▸ h.2⟩
  | s :: rest, g, c, g', l, h => by
    simp only [composeLoop] at h
    split at h
    · cases h
    · split at h
      · exact composeLoop_segs rest _ _ g' l h
      · cases h

private theorem compose_segs (g : G) (ts : List TrunkSpec) (g' : G) (l : List (Nat × Nat))
    (h : compose g ts = (g', .segs l)) : ∃ c', finalize g' c' = .segs l := by
  cases ts with
  | nil => cases h
  | cons s rest =>
    simp only [compose] at h
    split at h
    · cases h
    · exact composeLoop_segs rest g _ g' l h

private theorem finalize_segs (g : G) (c : Trunk3) (l : List (Nat × Nat)) (h : finalize g c = .segs l) :
    ∃ at_ tt, l = [(c.apply.1, at_), (c.train.1, tt)] ∧ retrace g c.apply = .node at_ ∧
      retrace g c.train = .node tt ∧ accept g c.apply.1 at_ = none ∧ accept g c.train.1 tt = none := by
  unfold finalize at h
  rcases (retrace_spec g c.apply).1 with ⟨at_, ha⟩ | ⟨e, ha⟩
  · rw [ha] at h
    simp only at h
    rcases accept_none_or g c.apply.1 at_ with hacc | hacc
    · rw [hacc] at h
      simp only at h
      rcases (retrace_spec g c.train).1 with ⟨tt, ht⟩ | ⟨e, ht⟩
      · rw [ht] at h
        simp only at h
        rcases accept_none_or g c.train.1 tt with hacc2 | hacc2
        · rw [hacc2] at h
          simp only [Res.segs.injEq] at h
          exact ⟨at_, tt, h.symm, ha, ht, hacc, hacc2⟩
        · rw [hacc2] at h; cases h
      · rw [ht] at h; cases h
    · rw [hacc] at h; cases h
  · rw [ha] at h; cases h

/-- after any call sequence, a `flow.Composition` that is accepted - whatever the
operators wired before the validation - contains no placeholder in its apply path nor in its train path (other than
a lone placeholder tail), provided no two different nodes of the final graph compare equal -/
theorem C11_composition_accepted (ops : List Op) (ts : List TrunkSpec) (l : List (Nat × Nat))
    (hc : (step (run init ops) (.compose ts)).2 = .segs l)
    (na : noAlias (step (run init ops) (.compose ts)).1 = true) :
    ∃ ah at_ th tt, l = [(ah, at_), (th, tt)] ∧
      (∀ n, Reach (step (run init ops) (.compose ts)).1 at_ ah n →
        isFuture (step (run init ops) (.compose ts)).1 n = true → n = at_) ∧
      (∀ n, Reach (step (run init ops) (.compose ts)).1 tt th n →
        isFuture (step (run init ops) (.compose ts)).1 n = true → n = tt) := by
  have hw := C11_wf_step _ (.compose ts) (C11_wf ops)
  obtain ⟨c', hfin⟩ := compose_segs _ ts _ l (Prod.ext rfl hc)
  obtain ⟨at_, tt, hl, ha, ht, acc1, acc2⟩ := finalize_segs _ c' l hfin
  obtain ⟨a1, a2⟩ := (retrace_spec _ c'.apply).2 at_ ha
  obtain ⟨t1, t2⟩ := (retrace_spec _ c'.train).2 tt ht
  exact ⟨c'.apply.1, at_, c'.train.1, tt, hl, accept_none _ hw na _ _ a1 a2 acc1, accept_none _ hw na _ _ t1 t2 acc2⟩

/-- non-vacuity: a complete two-operator pipeline is accepted; with the train path of the source left to the
default placeholder (the apply path fully wired) it is refused, and so it is with the placeholder on the apply path.
(In the accepted state the placeholder heads of the second operator compare equal to the source tails registered on
them, so `noAlias` is false there: the example witnesses the answers of the call, not the hypothesis `noAlias` of
`C11_composition_accepted`.) -/
example :
    let ops := [Op.mkWorker false 0 1, .fork 0, .fork 0, .trunk none none none, .mkWorker false 1 1, .fork 6,
      .textend ⟨(3, none), (4, none), (5, none)⟩ (some (6, none)) (some (7, none)) none,
      .trunk (some (0, none)) none none]
    (step (run init ops) (.compose [⟨(0, none), (1, none), (2, none)⟩, ⟨(3, none), (4, none), (5, none)⟩])).2
      = .segs [(0, 6), (1, 7)] ∧
    (step (run init ops) (.compose [⟨(0, none), (8, none), (9, none)⟩, ⟨(3, none), (4, none), (5, none)⟩])).2
      = .err .futures ∧
    (step (run init ops) (.compose [⟨(8, none), (1, none), (9, none)⟩, ⟨(3, none), (4, none), (5, none)⟩])).2
      = .err .futures := by
  decide +kernel

/-- `Segment(h, t)` succeeds only when a walk over mapper subscriptions that never passes a
node twice leads from the head to (a node comparing equal to) the tail -/
theorem C11_tail_connected (g : G) (h t tl : Nat) (hs : segment g h (some t) = .node tl) :
    tl = t ∧ ∃ ys, TrailM g t [h] h ys ∧ eqNode g (ys.getLastD h) t = true := by
  obtain ⟨_, _, rfl, hf⟩ := (segment_spec g h (some t)).2.1 tl hs
  exact ⟨rfl, existsT_spec hf⟩

/-- `Segment(h, t)` raises `Cyclic` only for a genuine cycle: a walk from the head whose
next step runs into a node it has already passed -/
theorem C11_cycle_explicit (g : G) (h t : Nat) (hs : segment g h (some t) = .err .cyclic) :
    ∃ ys n, TrailM g t [h] h ys ∧ n ∈ mappers g (ys.getLastD h) (some t) ∧ memNode g n (ys.reverse ++ [h]) = true :=
  existsT_spec ((segment_spec g h (some t)).2.2.1 t rfl hs)

/-- `Segment(h, t)` raises `Disconnected tail` only when no walk over mapper
subscriptions leads from the head to the tail -/
theorem C11_disconnected_exact (g : G) (h t : Nat) (hs : segment g h (some t) = .err .disconnected)
    (ys : List Nat) (hy : TrailE g t h ys) : eqNode g (ys.getLastD h) t = false :=
  existsT_spec ((segment_spec g h (some t)).2.2.2 t rfl hs) ys hy

/-- full strength for an explicit tail: a traced segment has no cycle reachable from its head -/
def C11_cycle_explicit_full : Prop :=
  ∀ (g : G) (h t tl : Nat), segment g h (some t) = .node tl → ∀ ys, Trail g h ys → h ∉ ys ∧ ys.Nodup

/-- the search for an explicit tail stops at the first hit (`any`), a cycle beside the found path goes unnoticed -
the auto-traced `Segment(h)` of the same graph raises `Cyclic` (`C11_cycle`) -/
theorem C11_cycle_explicit_counterexample : ¬ C11_cycle_explicit_full := by
  intro h
  have := h (run init [.mkWorker false 1 2, .mkWorker false 1 1, .mkWorker false 2 1, .mkWorker false 1 1,
      .subscribe 1 0 0 0, .subscribe 2 0 0 1, .subscribe 3 0 2 0, .subscribe 2 1 3 0]) 0 1 1 (by decide +kernel)
    [2, 3, 2] (by decide +kernel)
  revert this
  decide +kernel

/-- non-vacuity: the explicit tail is found although a cycle hangs beside it; auto-tracing the same head refuses -/
example :
    let g := run init [.mkWorker false 1 2, .mkWorker false 1 1, .mkWorker false 2 1, .mkWorker false 1 1,
      .subscribe 1 0 0 0, .subscribe 2 0 0 1, .subscribe 3 0 2 0, .subscribe 2 1 3 0]
    segment g 0 (some 1) = .node 1 ∧ segment g 0 none = .err .cyclic ∧ segment g 1 (some 3) = .err .disconnected ∧
    segment g 3 (some 1) = .err .cyclic := by
  decide +kernel

/-- non-vacuity: `Segment.extend` by a bare node, the same again (refused with `Double subscription`, nothing is left),
of a segment given with its tail by a placeholder (registered), and retracing without a right side; the sequence
satisfies `AllSingle` -/
example :
    let ops := [Op.mkWorker false 1 1, .mkWorker false 1 1, .mkWorker false 1 1, .mkFuture 1 1,
      .extend 0 none (some (1, none)) none, .extend 0 none (some (1, none)) none, .extend 0 (some 1) (some (3, none)) none,
      .extend 0 none none none]
    (step (run init (ops.take 4)) (ops.getD 4 (.fork 0))).2 = .node 1 ∧
    (step (run init (ops.take 5)) (ops.getD 5 (.fork 0))).2 = .err .double ∧
    (step (run init (ops.take 6)) (ops.getD 6 (.fork 0))).2 = .node 3 ∧
    (step (run init (ops.take 7)) (ops.getD 7 (.fork 0))).2 = .node 1 ∧
    AllSingle init ops ∧ (run init ops).edges.length = 1 ∧ (run init ops).regs.length = 1 := by
  decide +kernel

/-- `Worker.trained` as the code defines it: subscribed on the Train port **or** on the Label port -/
theorem C11_trained_iff (g : G) (n : Nat) :
    trained g n = true ↔ (⟨n, .train⟩ : Sub) ∈ g.ports ∨ (⟨n, .label⟩ : Sub) ∈ g.ports := by
  unfold trained
  simp only [List.any_eq_true, Bool.not_eq_true']
  constructor
  · rintro ⟨q, hq, hqa⟩
    cases q with
    | apply i => simp [Port.isApply] at hqa
    | train => exact .inl ((mem_inputs g n .train).mp hq)
    | label => exact .inr ((mem_inputs g n .label).mp hq)
  · rintro (h | h)
    · exact ⟨.train, (mem_inputs g n .train).mpr h, rfl⟩
    · exact ⟨.label, (mem_inputs g n .label).mpr h, rfl⟩

/-- in every state, `publisher.publish(worker, Train())` / `(worker, Label())` through the
raw port API is refused - nothing changes - when another member of the worker's group is trained (subscribed on its
Train or on its Label port), exactly as `Worker.train` is -/
theorem C11_raw_port_group_rule (g : G) (p pi s m : Nat) (port : Port) (hp : port.isApply = false)
    (hs : isWorker g s = true) (hm : m ∈ group g s) (hne : m ≠ s) (ht : trained g m = true) :
    ∃ e, step g (.publish p pi s port) = (g, .err e) := by
  simp only [step, publishOp]
  split
  · exact ⟨_, rfl⟩
  · have hsf : ¬(isFuture g s = true ∧ s ≠ p) := by
      rw [isFuture_eq_false_of_isWorker g s hs]; exact fun h => Bool.noConfusion h.1
    cases hsub : subscription g ⟨s, port⟩ with
    | some e => exact ⟨e, publish_refused g p pi ⟨s, port⟩ e hsf hsub⟩
    | none =>
      have := List.any_eq_false.mp ((subscription_none g ⟨s, port⟩ hsub).2.2.2.2 hp) m hm
      simp [ht, hne] at this

/-- non-vacuity: a worker subscribed on its Label port only is trained: it does not publish, takes no Apply port, no
other member of its group becomes trained (raw port API or `Worker.train`), and the Train port completes it -/
example :
    let ops := [Op.mkWorker false 1 1, .mkWorker true 1 1, .fork 1, .publish 0 0 1 .label]
    trained (run init ops) 1 = true ∧
    (step (run init ops) (.publish 1 0 0 (.apply 0))).2 = .err .trainedPublishing ∧
    (step (run init ops) (.publish 0 0 2 .train)).2 = .err .forkTrain ∧
    (step (run init ops) (.train 2 0 0 0 0)).2 = .err .forkTrain ∧
    (step (run init ops) (.publish 0 0 1 (.apply 0))).2 = .err .collision ∧
    (step (run init ops) (.publish 0 0 1 .label)).2 = .err .double ∧
    (step (run init ops) (.publish 0 0 1 .train)).2 = .ok ∧
    AllSingle init (ops ++ [.publish 0 0 1 .train]) := by
  decide +kernel

/-- once `n._publish(idx, s)` (= `Publishable.republish`) has succeeded — `n` a worker
or a placeholder with any tree of registered publishers — the same call succeeds and changes nothing in the state
reached and in every later state with the same nodes / registrations / `_PORTS` that still holds what was published -/
theorem C11_republish_idempotent (fuel : Nat) (g h : G) (n idx : Nat) (s : Sub)
    (hok : (publishTo fuel g n idx s).2 = .ok) (hab : Above (publishTo fuel g n idx s).1 h) :
    publishTo fuel h n idx s = (h, .ok) :=
  publishTo_again fuel g n idx s h hok hab

/-- `_publish` never withdraws a subscription nor touches nodes, registrations or `_PORTS`,
whatever it answers -/
theorem C11_publish_monotone (fuel : Nat) (g : G) (n idx : Nat) (s : Sub) :
    Above g (publishTo fuel g n idx s).1 :=
  publishTo_above fuel g n idx s

/-- `Future._collapse()` as the code has it (re-publish *every* (registered publisher, held
subscription) pair) raises nothing and changes nothing when every such pair has been published successfully before:
the reason why the model's `publishTo` forwards the new subscription only -/
theorem C11_collapse_noop (k : Nat) (g : G) (f : Nat)
    (hpub : ∀ r ∈ g.regs, r.fut = f → ∀ s ∈ out g f r.idx,
      ∃ g0, (publishTo k g0 r.pub r.out s).2 = .ok ∧ Above (publishTo k g0 r.pub r.out s).1 g) :
    collapse k g f = (g, .ok) :=
  collapse_noop k g f hpub

/-- after every call sequence — any calls, any placeholders, several publishers per
placeholder port included — `Future._collapse()` on any node re-publishes only pairs whose publication changes
nothing: the graph stays exactly as it is and nothing is raised (the only other answer of the model is its depth
guard, when the fuel `k` given is smaller than the registration tree) -/
theorem C11_collapse_reachable (ops : List Op) (f k : Nat) :
    collapse k (run init ops) f = (run init ops, .ok) ∨
    collapse k (run init ops) f = (run init ops, .err .recursion) :=
  collapse_closed k _ f (C11_wf ops) (run_closed ops)

/-- the graph part of it, for every fuel -/
theorem C11_collapse_keeps_graph (ops : List Op) (f k : Nat) :
    (collapse k (run init ops) f).1 = run init ops := by
  rcases C11_collapse_reachable ops f k with h | h <;> rw [h]

/-- non-vacuity: a placeholder with two registered publishers and two held subscriptions (one connected before, one
after the registrations): four pairs are re-published by `_collapse()`, nothing changes; the hypothesis of
`C11_republish_idempotent` holds of the second publish (through the placeholder) -/
example :
    let ops := [Op.mkWorker false 1 1, .mkFuture 1 1, .mkWorker false 1 1, .mkWorker false 1 1, .mkWorker false 1 1,
                .subscribe 2 0 1 0, .subscribe 1 0 0 0, .subscribe 1 0 4 0, .subscribe 3 0 1 0]
    let g := run init ops
    ((g.regs.filter (fun r => r.fut = 1)).flatMap (fun r => (out g 1 r.idx).map (fun s => (r.pub, r.out, s)))).length = 4 ∧
    collapse (fuelOf g) g 1 = (g, .ok) ∧
    (publishTo (fuelOf g) (run init (ops.take 8)) 1 0 ⟨3, .apply 0⟩).2 = .ok ∧
    (publishTo (fuelOf g) (run init (ops.take 8)) 1 0 ⟨3, .apply 0⟩).1 ≠ run init (ops.take 8) := by
  decide +kernel

end ForML.Graph
