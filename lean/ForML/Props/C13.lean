/-
C13 — Actor state and hyper-parameter contract holds for every actor flavour (over ForML.Model.Actor and, for
actor classes derived from each other, ForML.Model.ActorClass).

All theorems quantify over the user's functions (`u : User σ`, uninterpreted), over every
signature `sig`, every flavour (`fs : FlavourSpec` = native / native with its own state methods /
decorated / wrapped with all their variants), all hyper-parameter dicts, all training histories,
all `set_params` sequences and all inputs.
-/
import ForML.Lemmas.C13
import ForML.Model.ActorClass

namespace ForML.Actor

variable {σ : Type}

/-- same internal state and the same effective attribute values (dict order and shadowed
duplicates are not observable) -/
def Equiv (o1 o2 : Obj σ) : Prop := o1.state = o2.state ∧ ∀ k, pget o1.params k = pget o2.params k

/-- lifted to results: both fail alike or both succeed with equivalent objects -/
def EquivE : Except Err (Obj σ) → Except Err (Obj σ) → Prop
  | .ok a, .ok b => Equiv a b
  | .error e, .error e' => e = e'
  | _, _ => False

private theorem equiv_fun {o1 o2 : Obj σ} (h : Equiv o1 o2) : pget o1.params = pget o2.params := funext h.2

private theorem reported_congr (s : Sig) {o1 o2 : Obj σ} (h : Equiv o1 o2) (k : Key) :
    pget (reported s o1) k = pget (reported s o2) k := by
  simp only [pget_reported, h.2 k]

private theorem storeParams_equiv (s : Sig) {o1 o2 : Obj σ} (h : Equiv o1 o2) (kw1 kw2 : PMap)
    (hk : ∀ k, pget kw1 k = pget kw2 k) :
    EquivE (storeParams s o1 kw1) (storeParams s o2 kw2) := by
  unfold storeParams
  rw [settable_congr s kw1 kw2 hk]
  split
  · exact ⟨h.1, fun k => by simp [pget_pupdate, h.2 k, hk k]⟩
  · rfl

private theorem dictSetState_equiv (s : Sig) (t : Bool) {o1 o2 : Obj σ} (h : Equiv o1 o2) (b : Blob σ) :
    EquivE (dictSetState s t o1 b) (dictSetState s t o2 b) := by
  cases b with
  | none => exact h
  | some pl =>
    simp only [dictSetState]
    split
    · rfl
    · cases pl with
      | whole p st =>
        exact storeParams_equiv s (o1 := { o1 with params := p, state := st }) (o2 := { o2 with params := p, state := st })
          ⟨rfl, fun _ => rfl⟩ _ _ (reported_congr s h)
      | value x => rfl

private theorem classApply_congr (u : User σ) (t : Bool) {o1 o2 : Obj σ} (h : Equiv o1 o2) (x : Int) :
    classApply u t o1 x = classApply u t o2 x := by
  unfold classApply
  rw [equiv_fun h, h.1]

private theorem trained_equiv (u : User σ) {o1 o2 : Obj σ} (h : Equiv o1 o2) (x y : Int) :
    Equiv { o1 with state := some (u.trainFn (pget o1.params) o1.state x y) }
      { o2 with state := some (u.trainFn (pget o2.params) o2.state x y) } :=
  ⟨by rw [equiv_fun h, h.1], h.2⟩

/-- **Equivalent objects behave identically** under every flavour: `apply` gives the same result
(or the same error) for every input, they report the same hyper-parameters, and `train`,
`set_params` and `set_state` (of any state) keep them equivalent. -/
theorem C13_equiv_behaves (u : User σ) (fs : FlavourSpec) (o1 o2 : Obj σ) (h : Equiv o1 o2) :
    (∀ x, (fs.toFlavour u).apply o1 x = (fs.toFlavour u).apply o2 x) ∧
    (∀ x y, EquivE ((fs.toFlavour u).train o1 x y) ((fs.toFlavour u).train o2 x y)) ∧
    (∀ kw, EquivE ((fs.toFlavour u).setParams o1 kw) ((fs.toFlavour u).setParams o2 kw)) ∧
    (∀ k, pget ((fs.toFlavour u).getParams o1) k = pget ((fs.toFlavour u).getParams o2) k) ∧
    (∀ b, EquivE ((fs.toFlavour u).setState o1 b) ((fs.toFlavour u).setState o2 b)) := by
  have hf := equiv_fun h
  have hs := h.1
  cases fs with
  | native s t =>
    refine ⟨classApply_congr u t h, fun x y => ?_, fun kw => storeParams_equiv s h kw kw (fun _ => rfl), reported_congr s h,
      dictSetState_equiv s t h⟩
    cases t
    · rfl
    · exact trained_equiv u h x y
  | custom s =>
    refine ⟨classApply_congr u true h, trained_equiv u h, fun kw => storeParams_equiv s h kw kw (fun _ => rfl),
      reported_congr s h, fun b => ?_⟩
    cases b with
    | none => exact h
    | some pl =>
      cases pl with
      | whole p st => exact ⟨rfl, fun _ => rfl⟩
      | value v => rfl
  | decorated s p =>
    have ha := accepts_congr s o1.params o2.params h.2
    refine ⟨fun x => ?_, fun x y => ?_, fun kw => ?_, h.2, fun b => ?_⟩
    · unfold FlavourSpec.toFlavour decorated; simp only [hf, hs, ha]
    · unfold FlavourSpec.toFlavour decorated; simp only [ha]
      cases p
      · rfl
      · cases accepts s o2.params
        · rfl
        · exact trained_equiv u h x y
    · exact ⟨hs, fun k => by simp only [pget_pupdate, h.2 k]⟩
    · cases p
      · cases b with
        | none => exact h
        | some _ => rfl
      · cases b with
        | none => exact h
        | some pl =>
          cases pl with
          | whole _ _ => rfl
          | value v => exact ⟨rfl, h.2⟩
  | wrapped s tm =>
    refine ⟨classApply_congr u tm.trains h, fun x y => ?_, fun kw => storeParams_equiv s h kw kw (fun _ => rfl),
      reported_congr s h, dictSetState_equiv s tm.stateful h⟩
    cases tm with
    | callable | method => exact trained_equiv u h x y
    | noncallable | absent => rfl

/-- **An empty state leaves the actor as it is** (all flavours; directly and through the
`SetState` preset of the platform). -/
theorem C13_empty (u : User σ) (fs : FlavourSpec) (o : Obj σ) :
    (fs.toFlavour u).setState o none = .ok o ∧ presetState (fs.toFlavour u) o none = .ok o := by
  refine ⟨?_, rfl⟩
  cases fs with
  | native s t | custom s | wrapped s tm => rfl
  | decorated s p => cases p <;> rfl

/-- attributes a constructor derives from the positional arguments and the defaults -/
def baseAttrs (fs : FlavourSpec) (args : List Int) : PMap :=
  match fs with
  | .decorated _ _ => []
  | .native s _ | .custom s | .wrapped s _ => pupdate s.defaults (zipPos s.pos (args.drop s.anon))

private theorem build_ok (u : User σ) (fs : FlavourSpec) {args : List Int} {kw : PMap} {o : Obj σ}
    (hb : (fs.toFlavour u).build args kw = .ok o) :
    o.state = none ∧ ∀ k, pget o.params k = por (pget kw k) (pget (baseAttrs fs args) k) := by
  cases fs with
  | native s t | custom s => exact ⟨ctorStore_state hb, ctorStore_lookup s args kw o hb⟩
  | decorated s p =>
    unfold FlavourSpec.toFlavour decorated at hb
    dsimp only at hb
    split at hb
    · cases hb
    · split at hb <;> cases hb
      exact ⟨rfl, fun k => (por_none_right _).symm⟩
  | wrapped s tm =>
    obtain ⟨o1, h1, rfl⟩ := wrappedBuild_ok s args kw o hb
    exact ⟨ctorStore_state (o := o1) h1, ctorStore_lookup s args kw o1 h1⟩

/-- A freshly built actor with a training implementation is untrained: `apply` raises; and it
stays so after an empty state.  A fresh decorated pair exports the empty state. -/
theorem C13_untrained (u : User σ) (fs : FlavourSpec) (hst : (fs.toFlavour u).hasTrain = true)
    (args : List Int) (kw : PMap) (o : Obj σ) (hb : (fs.toFlavour u).build args kw = .ok o) :
    (∀ x, (fs.toFlavour u).apply o x = .error .runtimeError) ∧
    (∀ o', (fs.toFlavour u).setState o none = .ok o' → ∀ x, (fs.toFlavour u).apply o' x = .error .runtimeError) ∧
    (∀ s p, fs = .decorated s p → (fs.toFlavour u).getState o = none) := by
  have hnone : o.state = none := (build_ok u fs hb).1
  have happ : ∀ x, (fs.toFlavour u).apply o x = .error .runtimeError := by
    intro x
    cases fs with
    | native s t => cases (hst : t = true); exact classApply_untrained u hnone x
    | custom s => exact classApply_untrained u hnone x
    | decorated s p => cases (hst : p = true); unfold FlavourSpec.toFlavour decorated; simp only [hnone, if_true]
    | wrapped s tm =>
      have ht : tm.trains = true := hst
      show classApply u tm.trains o x = _
      rw [ht]
      exact classApply_untrained u hnone x
  refine ⟨happ, ?_, ?_⟩
  · intro o' ho'
    rw [(C13_empty u fs o).1] at ho'
    cases ho'; exact happ
  · intro s p hfs
    subst hfs
    cases (hst : p = true)
    unfold FlavourSpec.toFlavour decorated
    simp only [hnone, if_true, Option.map_none]

/-- the state methods are forml's own (`flow.Actor.get_state/set_state`, `Stateful.Actor`'s), not
user-written ones -/
def FlavourSpec.formlState : FlavourSpec → Bool
  | .custom _ => false
  | _ => true

private theorem storeParams_win (s : Sig) (o o' : Obj σ) (kw : PMap) (h : storeParams s o kw = .ok o')
    (k : Key) (v : Int) (hk : pget kw k = some v) : pget (reported s o') k = some v := by
  obtain ⟨hset, rfl⟩ := storeParams_ok h
  have hvis : s.visible k = true := by
    cases hv : s.visible k with
    | true => rfl
    | false => have := settable_hidden s kw hset k hv; rw [this] at hk; cases hk
  simp [pget_reported, hvis, pget_pupdate, por_some hk]

/-- **Precedence**: whatever state is given to an actor (`set_state` of *any* bytes that forml's
state methods accept), every hyper-parameter the actor had keeps its value. -/
theorem C13_params_win (u : User σ) (fs : FlavourSpec) (hown : fs.formlState = true) (o o' : Obj σ) (b : Blob σ)
    (h : (fs.toFlavour u).setState o b = .ok o') (k : Key) (v : Int)
    (hk : pget ((fs.toFlavour u).getParams o) k = some v) :
    pget ((fs.toFlavour u).getParams o') k = some v := by
  have hdict : ∀ (s : Sig) (t : Bool), dictSetState s t o b = .ok o' → pget (reported s o) k = some v →
      pget (reported s o') k = some v := by
    intro s t h hk
    cases b with
    | none => cases h; exact hk
    | some pl =>
      simp only [dictSetState] at h
      split at h
      · cases h
      · cases pl with
        | whole p st => exact storeParams_win s _ o' _ h k v hk
        | value x => cases h
  cases fs with
  | native s t => exact hdict s t h hk
  | custom s => cases hown
  | decorated s p =>
    have hp : o'.params = o.params := by
      cases p
      · cases b <;> cases h; rfl
      · cases b with
        | none => cases h; rfl
        | some pl => cases pl <;> cases h; rfl
    exact (congrArg (pget · k) hp).trans hk
  | wrapped s tm => exact hdict s tm.stateful h hk

private theorem presetState_ok {f : Flavour σ} {o o' : Obj σ} {pl : Payload σ} (h : f.setState o (some pl) = .ok o') :
    presetState f o (some pl) = f.setParams o' (f.getParams o) := by
  simp only [presetState, h]

/-- The same through the platform's `SetState.set` (`get_params`, `set_state`, `set_params`), for
every flavour -- including actors whose own `set_state` overwrites everything. -/
theorem C13_params_win_preset (u : User σ) (fs : FlavourSpec) (o o' : Obj σ) (b : Blob σ)
    (h : presetState (fs.toFlavour u) o b = .ok o') (k : Key) (v : Int)
    (hk : pget ((fs.toFlavour u).getParams o) k = some v) :
    pget ((fs.toFlavour u).getParams o') k = some v := by
  cases b with
  | none => cases h; exact hk
  | some pl =>
    simp only [presetState] at h
    split at h
    · cases h
    · rename_i o1 _
      cases fs with
      | native s t | custom s | wrapped s tm => exact storeParams_win s o1 o' _ h k v hk
      | decorated s p =>
        cases h
        exact (pget_pupdate _ _ k).trans (por_some hk)

/-- the attribute values that travel inside an exported state: the whole attribute dict for the
class flavours; nothing for a decorated pair (the receiver keeps its own keyword arguments) -/
def carried (fs : FlavourSpec) (twin r0 : Obj σ) : PMap :=
  match fs with
  | .decorated _ _ => r0.params
  | _ => twin.params

/-- **State transfer**: an actor `r0` rebuilt from a builder accepts the state exported by *any*
twin of the same flavour (trained on whatever history, with whatever parameter updates) -- directly
through `set_state` (forml's state methods) or through the platform's `SetState` preset (every
flavour).  The result has the twin's internal state; every hyper-parameter the rebuilt actor reports
keeps the builder's value; only the attributes the builder's actor does not report as
hyper-parameters are taken from the state. -/
theorem C13_transfer (u : User σ) (fs : FlavourSpec) (hwf : fs.sig.wf = true)
    (hst : (fs.toFlavour u).isStateful = true) (preset : Bool) (hpath : fs.formlState = false → preset = true)
    (args : List Int) (kw : PMap) (r0 : Obj σ) (hb : (fs.toFlavour u).build args kw = .ok r0) (twin : Obj σ) :
    ∃ r, giveState preset (fs.toFlavour u) r0 ((fs.toFlavour u).getState twin) = .ok r ∧
      r.state = twin.state ∧ r.ctor = r0.ctor ∧
      ∀ k, pget r.params k = por (pget ((fs.toFlavour u).getParams r0) k) (pget (carried fs twin r0) k) := by
  have hdict : ∀ s : Sig, accepts s r0.params = true →
      ∃ r : Obj σ, giveState preset (native u s true) r0 ((native u s true).getState twin) = .ok r ∧
        r.state = twin.state ∧ r.ctor = r0.ctor ∧
        ∀ k, pget r.params k = por (pget (reported s r0) k) (pget twin.params k) := by
    intro s hacc
    cases preset
    · exact ⟨_, dictSetState_whole s r0 _ _ hacc, rfl, rfl, fun k => pget_pupdate _ _ k⟩
    · have h1 : (native u s true).setState r0 (some (.whole twin.params twin.state)) = .ok _ :=
        dictSetState_whole s r0 _ _ hacc
      exact ⟨_, (presetState_ok h1).trans (storeParams_reported s _ r0 hacc), rfl, rfl,
        fun k => by simp only [pget_pupdate, por_por_self]⟩
  cases fs with
  | native s t =>
    cases (hst : t = true)
    exact hdict s (ctorStore_accepts s hwf args kw r0 hb)
  | custom s =>
    cases (hpath rfl : preset = true)
    exact ⟨_, storeParams_reported s _ r0 (ctorStore_accepts s hwf args kw r0 hb), rfl, rfl, fun k => pget_pupdate _ _ k⟩
  | decorated s p =>
    cases (hst : p = true)
    have hnone : r0.state = none := (build_ok u _ hb).1
    obtain ⟨tp, ts, tc⟩ := twin
    cases ts with
    | none => cases preset <;> exact ⟨r0, rfl, hnone, rfl, fun k => (por_self _).symm⟩
    | some st =>
      cases preset
      · exact ⟨_, rfl, rfl, rfl, fun k => (por_self _).symm⟩
      · exact ⟨_, rfl, rfl, rfl, fun k => pget_pupdate _ _ k⟩
  | wrapped s tm =>
    have hacc := wrappedBuild_accepts s hwf args kw r0 hb
    cases tm with
    | callable | method => exact hdict s hacc
    | noncallable | absent => cases hst

/-- **Transfer equivalence**: if moreover the twin's attributes are the builder's (it was built
from the same builder and only trained, or its `set_params` were followed by the builder -- see
`C13_update_transfer`), the rebuilt actor is observationally equal to the twin -- hence
(`C13_equiv_behaves`) applies, trains, reports and is re-parameterised identically, for every input
and every continuation. -/
theorem C13_transfer_equiv (u : User σ) (fs : FlavourSpec) (hwf : fs.sig.wf = true)
    (hst : (fs.toFlavour u).isStateful = true) (preset : Bool) (hpath : fs.formlState = false → preset = true)
    (args : List Int) (kw : PMap) (r0 : Obj σ) (hb : (fs.toFlavour u).build args kw = .ok r0) (twin : Obj σ)
    (hp : ∀ k, pget twin.params k = pget r0.params k) :
    ∃ r, giveState preset (fs.toFlavour u) r0 ((fs.toFlavour u).getState twin) = .ok r ∧ Equiv r twin ∧ r.ctor = r0.ctor := by
  obtain ⟨r, hr, hs, hc, hk⟩ := C13_transfer u fs hwf hst preset hpath args kw r0 hb twin
  refine ⟨r, hr, ⟨hs, fun k => ?_⟩, hc⟩
  rw [hk k]
  have hrep : ∀ s : Sig, por (pget (reported s r0) k) (pget twin.params k) = pget twin.params k := by
    intro s
    rw [pget_reported, hp k]
    cases s.visible k
    · simp only [Bool.false_eq_true, if_false]; rfl
    · simp only [if_true]; exact por_self _
  cases fs with
  | native s t | custom s | wrapped s tm => exact hrep s
  | decorated s p => unfold FlavourSpec.toFlavour decorated; simp [carried, por_self, hp k]

private theorem train_params (u : User σ) (fs : FlavourSpec) (o o' : Obj σ) (x y : Int)
    (h : (fs.toFlavour u).train o x y = .ok o') : o'.params = o.params := by
  cases fs with
  | native s t => cases t <;> cases h; rfl
  | custom s => cases h; rfl
  | decorated s p =>
    unfold FlavourSpec.toFlavour decorated at h
    dsimp only at h
    split at h
    · split at h <;> cases h; rfl
    · cases h
  | wrapped s tm => cases tm <;> cases h <;> rfl

private theorem trainAll_params (u : User σ) (fs : FlavourSpec) (h : List (Int × Int)) (o o' : Obj σ)
    (ht : trainAll (fs.toFlavour u) o h = .ok o') : o'.params = o.params := by
  induction h generalizing o with
  | nil => simp [trainAll] at ht; cases ht; rfl
  | cons xy r ih =>
    obtain ⟨x, y⟩ := xy
    simp only [trainAll] at ht
    split at ht
    · cases ht
    · rename_i o1 h1
      rw [ih o1 ht, train_params u fs o o1 x y h1]

private theorem trainAll_equiv (u : User σ) (fs : FlavourSpec) (h : List (Int × Int)) (o1 o2 : Obj σ)
    (he : Equiv o1 o2) : EquivE (trainAll (fs.toFlavour u) o1 h) (trainAll (fs.toFlavour u) o2 h) := by
  induction h generalizing o1 o2 with
  | nil => exact he
  | cons xy r ih =>
    obtain ⟨x, y⟩ := xy
    have hstep := (C13_equiv_behaves u fs o1 o2 he).2.1 x y
    simp only [trainAll]
    cases h1 : (fs.toFlavour u).train o1 x y <;> cases h2 : (fs.toFlavour u).train o2 x y <;>
      simp only [h1, h2, EquivE] at hstep ⊢
    · exact hstep
    · exact ih _ _ hstep

private theorem trainAll_append (f : Flavour σ) (h1 h2 : List (Int × Int)) (o : Obj σ) :
    trainAll f o (h1 ++ h2) = match trainAll f o h1 with
      | .error e => .error e
      | .ok o' => trainAll f o' h2 := by
  induction h1 generalizing o with
  | nil => simp [trainAll]
  | cons xy r ih =>
    obtain ⟨x, y⟩ := xy
    simp only [List.cons_append, trainAll]
    cases f.train o x y with
    | error e => rfl
    | ok o1 => exact ih o1

/-- **Incremental training with state transfer, for every history** (induction over the
histories): train a twin from a builder on `h1`, export its state, give it (directly or through the
platform's preset) to an actor rebuilt from the same builder and continue training that one on
`h2`: the result is observationally equal to one actor trained on `h1 ++ h2` (same outputs for every
input, by `C13_equiv_behaves`), and a failure of the one is the same failure of the other. -/
theorem C13_incremental (u : User σ) (fs : FlavourSpec) (hwf : fs.sig.wf = true)
    (hst : (fs.toFlavour u).isStateful = true) (preset : Bool) (hpath : fs.formlState = false → preset = true)
    (args : List Int) (kw : PMap) (o0 : Obj σ) (hb : (fs.toFlavour u).build args kw = .ok o0)
    (h1 h2 : List (Int × Int)) (twin : Obj σ) (ht : trainAll (fs.toFlavour u) o0 h1 = .ok twin) :
    ∃ r, giveState preset (fs.toFlavour u) o0 ((fs.toFlavour u).getState twin) = .ok r ∧
      EquivE (trainAll (fs.toFlavour u) r h2) (trainAll (fs.toFlavour u) o0 (h1 ++ h2)) := by
  have hp : ∀ k, pget twin.params k = pget o0.params k := by
    intro k; rw [trainAll_params u fs h1 o0 twin ht]
  obtain ⟨r, hr, he, _⟩ := C13_transfer_equiv u fs hwf hst preset hpath args kw o0 hb twin hp
  refine ⟨r, hr, ?_⟩
  rw [trainAll_append, ht]
  exact trainAll_equiv u fs h2 r twin he

private theorem setParams_lookup (u : User σ) (fs : FlavourSpec) (o o' : Obj σ) (q : PMap)
    (h : (fs.toFlavour u).setParams o q = .ok o') (k : Key) :
    pget o'.params k = por (pget q k) (pget o.params k) := by
  have hstore : ∀ s : Sig, storeParams s o q = .ok o' → pget o'.params k = por (pget q k) (pget o.params k) := by
    intro s h
    obtain ⟨_, rfl⟩ := storeParams_ok h
    exact pget_pupdate _ _ _
  cases fs with
  | native s t | custom s | wrapped s tm => exact hstore s h
  | decorated s p =>
    simp only [FlavourSpec.toFlavour, decorated] at h
    cases h; exact pget_pupdate _ _ _

/-- **Hyper-parameter updates interleaved with training, then state transfer** (induction over
the op sequence): a twin is built from a builder and lives through *any* sequence of training steps
and `set_params` calls; the builder follows the same updates (`Builder.update(**kw)`); an actor
rebuilt from the updated builder and given the twin's exported state is observationally equal to
the twin. -/
theorem C13_update_transfer (u : User σ) (fs : FlavourSpec) (hwf : fs.sig.wf = true)
    (hst : (fs.toFlavour u).isStateful = true) (preset : Bool) (hpath : fs.formlState = false → preset = true)
    (sp sp' : Spec) (ops : List Op) (o0 twin r0 : Obj σ)
    (hb0 : sp.call (fs.toFlavour u) [] [] = .ok o0) (hrun : runOps (fs.toFlavour u) o0 ops = .ok twin)
    (hfol : sp.follow (fs.toFlavour u) ops = .ok sp') (hb : sp'.call (fs.toFlavour u) [] [] = .ok r0) :
    ∃ r, giveState preset (fs.toFlavour u) r0 ((fs.toFlavour u).getState twin) = .ok r ∧ Equiv r twin := by
  -- invariant along the ops: the live object's attributes are what a build from the following builder stores
  -- (`build_ok`); at the end that is `r0`'s attribute content, and `C13_transfer_equiv` applies
  have hinv : ∀ (ops : List Op) (sp : Spec) (o : Obj σ),
      (∀ k, pget o.params k = por (pget sp.kwargs k) (pget (baseAttrs fs sp.args) k)) →
      runOps (fs.toFlavour u) o ops = .ok twin → sp.follow (fs.toFlavour u) ops = .ok sp' →
      ∀ k, pget twin.params k = por (pget sp'.kwargs k) (pget (baseAttrs fs sp'.args) k) := by
    intro ops
    induction ops with
    | nil =>
      intro sp o hi hr hf k
      simp only [runOps] at hr; simp only [Spec.follow] at hf
      cases hr; cases hf; exact hi k
    | cons op rest ih =>
      intro sp o hi hr hf
      simp only [runOps] at hr
      split at hr
      · cases hr
      · rename_i o1 h1
        cases op with
        | train x y =>
          simp only [runOp] at h1
          simp only [Spec.follow] at hf
          exact ih sp o1 (by intro k; rw [train_params u fs o o1 x y h1]; exact hi k) hr hf
        | setParams q =>
          simp only [runOp] at h1
          simp only [Spec.follow, Spec.update, mkSpec] at hf
          split at hf
          · cases hf
          · rename_i sp1 hsp1
            split at hsp1
            · cases hsp1
            · cases hsp1
              refine ih _ o1 (fun k => ?_) hr hf
              rw [setParams_lookup u fs o o1 q h1 k, hi k]
              simp [pget_pupdate, por_assoc]
  have h0 := hinv ops sp o0 (build_ok u fs (args := sp.args) (kw := sp.kwargs) hb0).2 hrun hfol
  have hp : ∀ k, pget twin.params k = pget r0.params k := by
    intro k; rw [h0 k, (build_ok u fs (args := sp'.args) (kw := sp'.kwargs) hb).2 k]
  obtain ⟨r, hr, he, _⟩ := C13_transfer_equiv u fs hwf hst preset hpath sp'.args sp'.kwargs r0 hb twin hp
  exact ⟨r, hr, he⟩

/-- Native (with forml's or their own state methods) and decorated actors are pickled by their
attribute dict: the copy is the object. -/
theorem C13_pickle_plain (u : User σ) (s : Sig) (b : Bool) (o : Obj σ) :
    (native u s b).repickle o = .ok o ∧ (nativeCustom u s).repickle o = .ok o ∧ (decorated u s b).repickle o = .ok o :=
  ⟨rfl, rfl, rfl⟩

/-- A builder survives pickling (`__getnewargs_ex__` re-runs `Spec.__new__` on the same values). -/
theorem C13_pickle_builder (f : Flavour σ) (args : List Int) (kw : PMap) (sp : Spec)
    (h : mkSpec f args kw = .ok sp) : sp.repickle f = .ok sp := by
  unfold mkSpec at h
  cases hb : bindPartial f.specSig args kw with
  | error e => simp [hb] at h
  | ok b => simp only [hb] at h; cases h; simp [Spec.repickle, mkSpec, hb]

private theorem wrappedInv_congr (s : Sig) (tm : TrainMap) (o o' : Obj σ) (he : Equiv o' o) (hc : o'.ctor = o.ctor)
    (hi : WrappedInv s tm o) : WrappedInv s tm o' := by
  obtain ⟨o0, h0, hacc, hcov, hsl⟩ := hi
  refine ⟨o0, by rw [hc]; exact h0, ?_, ?_, ?_⟩
  · rw [accepts_congr s o'.params o.params he.2]; exact hacc
  · intro k hv hk; rw [he.2 k]; exact hcov k hv hk
  · intro hs
    obtain ⟨h1, h2⟩ := hsl hs
    exact ⟨by rw [he.1]; exact h1, fun k hv => by rw [he.2 k]; exact h2 k hv⟩

/-- **Pickling of a wrapped actor** (the `copyreg` reducer: re-create from the remembered
constructor arguments, `set_state`, `set_params`) yields an observationally equal actor that can be
pickled again -- for every reachable wrapped actor, trained or not, with or without a training
implementation, whatever the origin's constructor demands. -/
theorem C13_pickle_wrapped (u : User σ) (s : Sig) (tm : TrainMap) (o : Obj σ) (hwf : s.wf = true)
    (hinv : WrappedInv s tm o) :
    ∃ o', (wrapped u s tm).repickle o = .ok o' ∧ Equiv o' o ∧ o'.ctor = o.ctor ∧ WrappedInv s tm o' := by
  obtain ⟨o0, h0, hacc, hcov, hsl⟩ := id hinv
  have hst0 := ctorStore_state h0
  have hacc0 := ctorStore_accepts s hwf _ _ o0 h0
  have hfresh := wrappedBuild_of s o.ctor.1 o.ctor.2 o0 h0
  -- the copy is `o`'s reported hyper-parameters over a dict `base` to which `pget_pupdate_reported` applies
  have hmain : ∃ base, wrappedRepickle s tm.stateful o = .ok ⟨pupdate base (reported s o), o.state, o.ctor⟩ ∧
      (∀ k, s.visible k = false → pget base k = pget o.params k) ∧
      (∀ k, s.visible k = true → (pget base k).isSome = true → (pget o.params k).isSome = true) := by
    cases hs : tm.stateful
    -- no training: the state is `b''` and `base` is the dict of the re-created object
    · obtain ⟨hst, hhid⟩ := hsl hs
      refine ⟨o0.params, ?_, fun k hv => (hhid k hv).symm, hcov⟩
      rw [hst, ← hst0]
      simp only [wrappedRepickle, hfresh, dictGetState, Bool.false_eq_true, if_false, dictSetState]
      exact storeParams_reported s _ o hacc
    -- training: `base` is the whole dict of `o`, which travels in the state, under the re-created object's
    -- reported values
    · refine ⟨pupdate o.params (reported s ⟨o0.params, o0.state, o.ctor⟩), ?_, fun k hv => ?_, fun k hv hk => ?_⟩
      · simp only [wrappedRepickle, hfresh, dictGetState, if_true]
        rw [dictSetState_whole s ⟨o0.params, o0.state, (o.ctor.1, o.ctor.2)⟩ o.params o.state hacc0]
        exact storeParams_reported s _ o hacc
      · simp only [pget_pupdate, pget_reported, hv]; rfl
      · simp only [pget_pupdate, pget_reported, hv, if_true] at hk
        cases h0k : pget o0.params k with
        | none => rw [h0k] at hk; exact hk
        | some w => exact hcov k hv (by rw [h0k]; rfl)
  obtain ⟨base, h1, hhid, hcov'⟩ := hmain
  have he : Equiv (⟨pupdate base (reported s o), o.state, o.ctor⟩ : Obj σ) o :=
    ⟨rfl, pget_pupdate_reported s o base hhid hcov'⟩
  exact ⟨_, h1, he, rfl, wrappedInv_congr s tm o _ he rfl hinv⟩

/-- The invariant holds for every wrapped actor that comes out of its constructor and is kept by
training, `set_params` and `set_state` of a reachable twin's exported state. -/
theorem C13_wrapped_invariant (u : User σ) (s : Sig) (tm : TrainMap) (hwf : s.wf = true) :
    (∀ args kw o, (wrapped u s tm).build args kw = .ok o → WrappedInv s tm o) ∧
    (∀ o o' x y, WrappedInv s tm o → (wrapped u s tm).train o x y = .ok o' → WrappedInv s tm o') ∧
    (∀ o o' kw, WrappedInv s tm o → (wrapped u s tm).setParams o kw = .ok o' → WrappedInv s tm o') ∧
    (∀ o o' twin, WrappedInv s tm o → WrappedInv s tm twin →
      (wrapped u s tm).setState o ((wrapped u s tm).getState twin) = .ok o' → WrappedInv s tm o') := by
  refine ⟨?_, ?_, ?_, ?_⟩
  · intro args kw o h
    obtain ⟨o1, h1, rfl⟩ := wrappedBuild_ok s args kw o h
    have hst := ctorStore_state h1
    have hacc := ctorStore_accepts s hwf args kw o1 h1
    exact ⟨o1, h1, hacc, fun _ _ hk => hk, fun _ => ⟨hst, fun _ _ => rfl⟩⟩
  · intro o o' x y hi h
    obtain ⟨o0, h0, hacc, hcov, _⟩ := hi
    cases tm with
    | callable | method => cases h; exact ⟨o0, h0, hacc, hcov, fun hs => by cases hs⟩
    | noncallable | absent => cases h
  · intro o o' kw hi h
    obtain ⟨o0, h0, hacc, hcov, hsl⟩ := hi
    obtain ⟨hset, rfl⟩ := storeParams_ok h
    refine ⟨o0, h0, accepts_pupdate s _ _ hacc (settable_accepts s kw hset), fun k hv hk => ?_, fun hs => ?_⟩
    · simp only [pget_pupdate]
      have := hcov k hv hk
      cases pget kw k <;> simp [por, this]
    · obtain ⟨h1, h2⟩ := hsl hs
      refine ⟨h1, fun k hv => ?_⟩
      simp only [pget_pupdate, settable_hidden s kw hset k hv]
      exact h2 k hv
  · intro o o' twin hi ht h
    refine wrappedInv_setState s tm hi (fun p st hb => ?_) h
    simp only [wrapped, dictGetState] at hb
    split at hb <;> cases hb
    exact ht.accepts

/-- the reducer before the repair (`actor()`): full statement, refuted below -/
def C13_pickle_wrapped_legacy_full : Prop :=
  ∀ (σ : Type) (s : Sig) (tm : TrainMap) (o : Obj σ), s.wf = true → WrappedInv s tm o →
    ∃ o', wrappedRepickleLegacy s tm.stateful o = .ok o' ∧ Equiv o' o

/-- D21 / C13-F1: with the unrepaired reducer an origin class with a mandatory constructor argument
cannot be unpickled. -/
theorem C13_pickle_wrapped_legacy_counterexample : ¬ C13_pickle_wrapped_legacy_full := by
  intro h
  let s : Sig := { pos := [0, 1], mandatory := [0], defaults := [(1, 0)] }
  let o : Obj Int := { params := [(0, 2), (1, 0)], state := some 5, ctor := ([], [(0, 2)]) }
  have hinv : WrappedInv s .method o := by
    refine ⟨{ params := [(1, 0), (0, 2)], state := none }, rfl, by decide, ?_, fun h => absurd h (by decide)⟩
    intro k _ hk
    by_cases h1 : k = 1
    · subst h1; decide
    · by_cases h0 : k = 0
      · subst h0; decide
      · simp [pget, Ne.symm h1, Ne.symm h0] at hk
  obtain ⟨o', ho', _⟩ := h Int s .method o (by decide) hinv
  have : wrappedRepickleLegacy s (TrainMap.stateful .method) o = .error .typeError := by rfl
  rw [this] at ho'
  cases ho'

/-- even restricted to origins that can be constructed without arguments -/
def C13_pickle_wrapped_legacy_constructible_full : Prop :=
  ∀ (σ : Type) (s : Sig) (tm : TrainMap) (o : Obj σ), s.wf = true → s.mandatory = [] → WrappedInv s tm o →
    ∃ o', wrappedRepickleLegacy s tm.stateful o = .ok o' ∧ Equiv o' o

/-- C13-F4 (the silent twin of C13-F1, same root cause): with the unrepaired reducer an actor *without* a training implementation
whose origin has a constructor argument that is not a hyper-parameter comes back from pickling with
the default value of that argument (no error, different behaviour). -/
theorem C13_pickle_wrapped_legacy_constructible_counterexample : ¬ C13_pickle_wrapped_legacy_constructible_full := by
  intro h
  let s : Sig := { pos := [0, 2], defaults := [(0, 1), (2, 0)], hidden := [2] }
  let o : Obj Int := { params := [(0, 1), (2, 7)], state := none, ctor := ([], [(2, 7)]) }
  have hinv : WrappedInv s .absent o := by
    refine ⟨{ params := [(0, 1), (2, 7)], state := none }, rfl, by decide, fun k _ hk => hk, fun _ => ⟨rfl, fun _ _ => rfl⟩⟩
  obtain ⟨o', ho', he⟩ := h Int s .absent o (by decide) rfl hinv
  have : wrappedRepickleLegacy s (TrainMap.stateful .absent) o
      = .ok { params := [(0, 1), (2, 0)], state := none, ctor := ([], []) } := by rfl
  rw [this] at ho'
  cases ho'
  have := he.2 2
  simp [o, pget] at this

/-- **An actor reports itself stateful exactly when it has a training implementation** (native:
overridden `train`; decorated: the pair; wrapped: mapped callable or callable origin attribute). -/
theorem C13_stateful_iff (u : User σ) (fs : FlavourSpec) :
    (fs.toFlavour u).isStateful = (fs.toFlavour u).hasTrain := by
  cases fs with
  | native s t | custom s | decorated s p => rfl
  | wrapped s tm => cases tm <;> rfl

/-- the same statement for `Class.Actor.is_stateful` as it was before the repair (`hasattr`) -/
def C13_stateful_legacy_full : Prop := ∀ tm : TrainMap, tm.statefulLegacy = tm.trains

theorem C13_stateful_legacy_counterexample : ¬ C13_stateful_legacy_full := by
  intro h; exact absurd (h .noncallable) (by decide)

/-- **`is_stateful` of an actor class derived from other actor classes depends only on that class'
own resolved definition** (does it, or an ancestor, define `train`), not on which classes of the
family were asked before, in whatever order and from whatever class state: it is the
`hasTrain`/`isStateful` of the flavour the class resolves to (`classFlavour`), so every theorem
above applies to derived actors unchanged. -/
theorem C13_stateful_history_free (u : User σ) (sig : Sig) (tbl : Classes) (attrs : ClassAttrs) (hist : List Nat) (c : Nat) :
    (statefulPure tbl (runQueries statefulPure tbl attrs hist).1 c).2 = resolvesTrain tbl c ∧
    ((classFlavour sig tbl c).toFlavour u).hasTrain = resolvesTrain tbl c ∧
    ((classFlavour sig tbl c).toFlavour u).isStateful = resolvesTrain tbl c := by
  refine ⟨rfl, ?_, ?_⟩ <;>
    (unfold classFlavour; cases resolvesTrain tbl c <;> cases resolvesState tbl c <;> rfl)

/-- the same for an implementation that memoises the answer by plain attribute access -/
def C13_stateful_cached_inherited_full : Prop :=
  ∀ (tbl : Classes) (hist : List Nat) (c : Nat), answerAfter statefulCachedInherited tbl hist c = resolvesTrain tbl c

/-- a stateless base asked first, then its subclass that adds `train`: the subclass inherits the
cached `False` (the class of defects the family scripts of the check look for) -/
theorem C13_stateful_cached_inherited_counterexample : ¬ C13_stateful_cached_inherited_full := by
  intro h
  have := h [⟨none, false, false⟩, ⟨some 0, true, false⟩] [0] 1
  revert this
  decide

private theorem ownAttr_setAttr (attrs : ClassAttrs) (c c' : Nat) (v : Bool) :
    ownAttr (setAttr attrs c v) c' = if c' = c then some v else ownAttr attrs c' := by
  unfold ownAttr setAttr
  rw [List.getElem?_set]
  by_cases h : c = c'
  · subst h
    have : c < attrs.length + (c + 1 - attrs.length) := by omega
    simp [this]
  · have h' : ¬ c' = c := fun e => h e.symm
    simp only [h, h', if_false]
    by_cases hl : c' < attrs.length
    · rw [List.getElem?_append_left hl]
    · have hge : attrs.length ≤ c' := Nat.le_of_not_lt hl
      rw [List.getElem?_append_right hge, List.getElem?_eq_none_iff.2 hge]
      cases hr : (List.replicate (c + 1 - attrs.length) (none : Option Bool))[c' - attrs.length]? with
      | none => rfl
      | some x =>
        have := List.mem_of_getElem? hr
        rw [List.mem_replicate] at this
        rw [this.2]; rfl

private def GoodCache (tbl : Classes) (attrs : ClassAttrs) : Prop :=
  ∀ c v, ownAttr attrs c = some v → v = resolvesTrain tbl c

private theorem cachedOwn_step (tbl : Classes) (attrs : ClassAttrs) (hg : GoodCache tbl attrs) (c : Nat) :
    (statefulCachedOwn tbl attrs c).2 = resolvesTrain tbl c ∧ GoodCache tbl (statefulCachedOwn tbl attrs c).1 := by
  unfold statefulCachedOwn
  cases ho : ownAttr attrs c with
  | some v => exact ⟨hg c v ho, hg⟩
  | none =>
    refine ⟨rfl, fun c' v hv => ?_⟩
    simp only [ownAttr_setAttr] at hv
    by_cases h : c' = c
    · subst h; simp at hv; exact hv.symm
    · simp only [h, if_false] at hv; exact hg c' v hv

private theorem cachedOwn_run (tbl : Classes) (hist : List Nat) (attrs : ClassAttrs) (hg : GoodCache tbl attrs) :
    GoodCache tbl (runQueries statefulCachedOwn tbl attrs hist).1 := by
  induction hist generalizing attrs with
  | nil => exact hg
  | cons c rest ih =>
    simp only [runQueries]
    exact ih _ (cachedOwn_step tbl attrs hg c).2

/-- A memoising `is_stateful` that keeps its cache in the class' *own* `__dict__` is history-free
too (induction over the query history with the invariant "every cached value is right"): such a
refactoring is harmless and the check stays quiet on it. -/
theorem C13_stateful_cached_own_history_free (tbl : Classes) (hist : List Nat) (c : Nat) :
    answerAfter statefulCachedOwn tbl hist c = resolvesTrain tbl c := by
  have hg : GoodCache tbl (runQueries statefulCachedOwn tbl [] hist).1 :=
    cachedOwn_run tbl hist [] (fun c v h => by simp [ownAttr] at h)
  exact (cachedOwn_step tbl _ hg c).1

/-- `Builder.update` merges the keywords (new values win) and replaces the positionals only if new
ones are given; `reset` replaces both; `__call__` without overrides builds from exactly the stored
values. -/
theorem C13_builder (f : Flavour σ) (sp sp' : Spec) (args : List Int) (kw : PMap) :
    (sp.update f args kw = .ok sp' →
      sp'.args = (if args.isEmpty then sp.args else args) ∧ ∀ k, pget sp'.kwargs k = por (pget kw k) (pget sp.kwargs k)) ∧
    (sp.reset f args kw = .ok sp' → sp' = { args := args, kwargs := kw }) ∧
    sp.call f [] [] = f.build sp.args sp.kwargs := by
  refine ⟨fun h => ?_, fun h => ?_, rfl⟩
  · simp only [Spec.update, mkSpec] at h
    split at h
    · cases h
    · cases h; exact ⟨rfl, fun k => pget_pupdate _ _ k⟩
  · simp only [Spec.reset, mkSpec] at h
    split at h
    · cases h
    · cases h; rfl

/-- the signatures of the toy actors are well-formed -/
example : Sig.wf { pos := [0, 1], defaults := [(0, 1), (1, 0)] } = true ∧
    Sig.wf { pos := [0, 1, 2], defaults := [(0, 1), (1, 0), (2, 0)], hidden := [2] } = true ∧
    Sig.wf { pos := [0, 1], mandatory := [0], defaults := [(1, 0)] } = true := by decide +kernel

def exSig : Sig := { pos := [0, 1], defaults := [(0, 1), (1, 0)] }
/-- keyword-only hyper-parameters `a`, `b` (the decorated toy pair) -/
def exKwSig : Sig := { kw := [0, 1] }
def exNative : Flavour Int := native toyUser exSig true
def exCustom : Flavour Int := nativeCustom toyUser exSig
def exMand : Flavour Int := wrapped toyUser { pos := [0, 1], mandatory := [0], defaults := [(1, 0)] } .method

/-- a builder `(a=2, b=3)`, trained twice, state transferred to a fresh actor: same output -/
example :
    (do let o ← exNative.build [] [(0, 2), (1, 3)]
        let t ← trainAll exNative o [(1, 2), (3, 4)]
        let r ← exNative.setState o (exNative.getState t)
        pure (← exNative.apply r 10, ← exNative.apply t 10) : Except Err (Int × Int)) = .ok (122, 122) := by rfl

/-- the hypotheses of `C13_update_transfer` are satisfiable by a non-trivial run: train, `set_params(b=5)`,
train on the twin; `update(b=5)` on the builder; both builds succeed -/
example :
    (do let sp ← mkSpec exNative [] [(0, 2)]
        let o0 ← sp.call exNative [] []
        let twin ← runOps exNative o0 [.train 1 2, .setParams [(1, 5)], .train 3 4]
        let sp' ← sp.follow exNative [.train 1 2, .setParams [(1, 5)], .train 3 4]
        let r0 ← sp'.call exNative [] []
        let r ← giveState true exNative r0 (exNative.getState twin)
        pure (← exNative.apply r 10, ← exNative.apply twin 10, pget (exNative.getParams r) 1)
      : Except Err (Int × Int × Option Int)) = .ok (124, 124, some 5) := by rfl

/-- the hypothesis `formlState` of `C13_params_win` is needed: an actor whose own `set_state`
overwrites everything loses the builder's `a=2` to the state's `a=9` on a direct `set_state` … -/
example :
    (do let o ← exCustom.build [] [(0, 2)]
        let t ← exCustom.build [] [(0, 9)]
        let r ← exCustom.setState o (exCustom.getState t)
        pure (pget (exCustom.getParams r) 0) : Except Err (Option Int)) = .ok (some 9) := by rfl

/-- … and keeps it through the platform's preset (`C13_params_win_preset`) -/
example :
    (do let o ← exCustom.build [] [(0, 2)]
        let t ← exCustom.build [] [(0, 9)]
        let r ← presetState exCustom o (exCustom.getState t)
        pure (pget (exCustom.getParams r) 0) : Except Err (Option Int)) = .ok (some 2) := by rfl

/-- a trained wrapped actor with a mandatory constructor argument is pickled (repaired reducer) -/
example :
    (do let o ← exMand.build [] [(0, 2)]
        let t ← trainAll exMand o [(1, 2)]
        let t' ← exMand.repickle t
        pure (← exMand.apply t' 10, ← exMand.apply t 10) : Except Err (Int × Int)) = .ok (53, 53) := by rfl

/-- a wrapped actor with a constructor argument that is not a hyper-parameter satisfies the invariant -/
example : WrappedInv (σ := Int) { pos := [0, 2], defaults := [(0, 1), (2, 0)], hidden := [2] } .absent
    { params := [(0, 1), (2, 7)], state := none, ctor := ([], [(2, 7)]) } :=
  ⟨{ params := [(0, 1), (2, 7)], state := none }, rfl, by decide, fun _ _ hk => hk, fun _ => ⟨rfl, fun _ _ => rfl⟩⟩

/-- a family: stateless base, subclass adding `train`, sub-subclass with its own state methods, an
unrelated stateful class and its subclass: resolution per class -/
example : let tbl : Classes := [⟨none, false, false⟩, ⟨some 0, true, false⟩, ⟨some 1, false, true⟩, ⟨none, true, false⟩, ⟨some 3, false, false⟩]
    (List.range 5).map (resolvesTrain tbl) = [false, true, true, true, true] ∧
    (List.range 5).map (classFlavour exSig tbl) =
      [.native exSig false, .native exSig true, .custom exSig, .native exSig true, .native exSig true] := by decide +kernel

end ForML.Actor
