/-
C07 — the argument-handling layer of the public API in front of the grammar (Model/GrammarApi): every accepted spelling of
an argument leads to the same checks and the same stored statement, and whatever the chained interface returns the
constructor accepts; the one place where the layer refuses what the constructor accepts is a chain whose intermediate
statement is ill-formed (`C07_chain_order_counterexample`).
-/
import ForML.Model.GrammarApi
import ForML.Generated.C07ApiTables
import ForML.Lemmas.C07Api
import ForML.Lemmas.C07Chain

namespace ForML.Dsl

open ForML.Generated.C07Api

/-- `isinstance(value, primitive.__type__)` for a value of each python type -/
theorem C07_tables_isa :
    isaTable.map (·.1) = PyTag.all ∧ primitiveTypes.map (·.1) = primitiveKinds ∧
    isaTable.all (fun (t, row) => row == primitiveKinds.map t.isa) = true := by decide +kernel

/-- `kind.reflect` on the sample values (equal / hash-alike values of different types first) -/
theorem C07_tables_reflect :
    reflectTable.all (fun (v, k) => decide (reflect v = match k with
      | some k => Except.ok k
      | none => Except.error CtorErr.illtyped)) = true := by decide +kernel

/-- `Ordering.Direction(spelling)`: the four documented spellings in any case, nothing else -/
theorem C07_tables_directions :
    directionTable.all (fun (s, d) => decide (dirOfStr s = d)) = true ∧
    directionMembers = [("ASCENDING", "ascending"), ("DESCENDING", "descending")] := by decide +kernel

/-- `Join.Kind(spelling)`: exactly the five values -/
theorem C07_tables_join_kinds :
    joinKindTable.all (fun (s, k) => decide (JoinKind.ofWire s = k)) = true := by decide +kernel

/-- members and values of `Join.Kind` and `Set.Kind` -/
theorem C07_tables_members :
    joinKindMembers.map (·.2) = [JoinKind.inner, .left, .right, .full, .cross].map JoinKind.wire ∧
    setKindMembers.map (·.2) = [SetKind.union, .intersection, .difference].map SetKind.wire := by decide +kernel

/-- whatever order the *set* `Primitive.__subkinds__` iterates in, the rank-sorted scan gives the same kind -/
theorem C07_reflect_order_free (order : List Kind) (hp : order.Perm primitiveKinds) (v : PyVal) :
    reflectWith order v = reflect v := by
  rw [reflectWith_spec order hp, reflect_spec]

/-- and it is the kind of the most specific python type; a value of no known type (None, an empty sequence) is the
`ValueError` -/
theorem C07_reflect_spec (v : PyVal) : reflect v = match v.kindSpec with
    | some k => Except.ok k
    | none => Except.error CtorErr.illtyped := reflect_spec v

/-- the literal kinds of the shared AST are the reflected ones -/
theorem C07_reflect_literal (v : Lit) : reflect v.toPy = Except.ok v.kind := by
  rw [reflect_spec]
  cases v <;> rfl

/-- a literal of any python value has the reflected kind -/
theorem C07_literal_kind (v : PyVal) (f : Feature) (h : literalOf v = Except.ok f) : f.kindOf = reflect v := by
  cases v <;> simp only [literalOf, Except.ok.injEq] at h <;> try (subst h; simp [Feature.kindOf, reflect_spec, PyVal.kindSpec, Lit.kind])
  all_goals
    cases hr : reflect _ with
    | error e => simp [hr, bind, Except.bind] at h
    | ok k =>
      simp only [hr, bind, Except.bind, Except.ok.injEq] at h
      subst h
      simp [Feature.kindOf]

-- `True == 1 == 1.0 == Decimal(1)` in Python (equal hashes): four different kinds
example : [reflect (.bool true), reflect (.int 1), reflect (.float "1.0"), reflect (.decimal "1")] =
    [.ok .boolean, .ok .integer, .ok .float, .ok .decimal] := by decide +kernel
example : reflect (.datetime "2020-01-02T00:00:00") = .ok .timestamp ∧ reflect (.date "2020-01-02") = .ok .date ∧
    reflect (.seq (.seq (.bool false))) = .ok (.array (.array .boolean)) ∧ reflect .none = .error .illtyped ∧
    reflect (.seq .emptySeq) = .error .illtyped := by decide +kernel
-- an order in which the unsorted scan would answer `float` for `True`
example : reflectWith [.float, .timestamp, .date, .string, .decimal, .integer, .boolean] (.bool true) = .ok .boolean := by decide +kernel

/-- the three spellings of an ordering list — `Ordering` instances, `(feature, direction)` pairs, and the flat
`feature, direction, feature, direction…` — make the same orderings (or raise the same grammar error) -/
theorem C07_ordering_spellings (os : List Ordering) :
    makeOrderings (os.map Ordering.term) = makeOrderings (os.map (fun o => OTerm.pair o.feature (.enum o.dir))) ∧
    makeOrderings (os.map Ordering.term) = makeOrderings (os.flatMap (fun o => [OTerm.feat o.feature, .dir (.enum o.dir)])) ∧
    makeOrderings (os.map Ordering.term) = (do guardG (os.all (fun o => !o.feature.isAlias)); Except.ok os) := by
  rw [makeOrderings_terms, makeOrderings_pairs, makeOrderings_flat]
  exact ⟨rfl, rfl, rfl⟩

/-- a direction in any accepted spelling is the member it names -/
theorem C07_ordering_direction_spelling (f : Feature) (a : DirArg) (s : String) (d : Dir) (rest : List OTerm) :
    (a.direction = Except.ok d → makeOrderings (.pair f a :: rest) = makeOrderings (.pair f (.enum d) :: rest)) ∧
    ((DirArg.str s).direction = Except.ok d →
      makeOrderings (.feat f :: .dir (.str s) :: rest) = makeOrderings (.feat f :: .dir (.enum d) :: rest)) :=
  ⟨fun h => by simp only [makeOrderings, h]; rfl, fun h => by simp only [makeOrderings, h]; rfl⟩

/-- any other string is the `ValueError` of `Direction(…)`, raised before the feature is looked at -/
theorem C07_ordering_bad_direction (f : Feature) (s : String) (rest : List OTerm) (h : dirOfStr s = none) :
    makeOrderings (.feat f :: .dir (.str s) :: rest) = Except.error CtorErr.illtyped ∧
    makeOrderings (.pair f (.str s) :: rest) = Except.error CtorErr.illtyped := by
  simp [makeOrderings, DirArg.direction, h, bind, Except.bind]

/-- what was made is made again unchanged (the chained interface hands the stored orderings over again) -/
theorem C07_ordering_remade (ts : List OTerm) (os : List Ordering) (h : makeOrderings ts = Except.ok os) :
    makeOrderings (os.map Ordering.term) = Except.ok os := makeOrderings_idem ts os h

/-- every feature of a made ordering is an operable -/
theorem C07_ordering_operable (ts : List OTerm) (os : List Ordering) (h : makeOrderings ts = Except.ok os) :
    os.all (fun o => !o.feature.isAlias) = true := makeOrderings_operable ts os h

def oId : Feature := .elem (.table "T" [("id", .integer), ("name", .string)]) "id"
def oName : Feature := .elem (.table "T" [("id", .integer), ("name", .string)]) "name"

-- the documented examples of `orderby`, a default direction, and the refusals
example : makeOrderings [.feat oId, .dir (.enum .desc), .feat oName, .dir (.str "asc")] = .ok [.mk oId .desc, .mk oName .asc] := by decide +kernel
example : makeOrderings [.pair oId (.str "DESC"), .pair oName (.enum .desc)] = .ok [.mk oId .desc, .mk oName .desc] := by decide +kernel
example : makeOrderings [.feat oId, .feat oName] = .ok [.mk oId .asc, .mk oName .asc] := by decide +kernel
example : makeOrderings [.ordering (.mk oId .desc), .feat oName] = .ok [.mk oId .desc, .mk oName .asc] := by decide +kernel
example : makeOrderings [.dir (.str "asc")] = .error .grammar ∧ makeOrderings [.dir (.enum .asc), .feat oId] = .error .grammar ∧
    makeOrderings [.feat oId, .dir (.str "asc"), .dir (.str "desc")] = .error .grammar ∧
    makeOrderings [.ordering (.mk oId .desc), .dir (.str "asc")] = .error .grammar ∧
    makeOrderings [.junk] = .error .grammar ∧ makeOrderings [.feat oId, .dir .none] = .error .grammar := by decide +kernel
example : makeOrderings [.feat (.alias oId "x")] = .error .grammar ∧ makeOrderings [.pair (.alias oId "x") (.enum .asc)] = .error .grammar ∧
    makeOrderings [.feat (.alias oId "x"), .dir (.str "bogus")] = .error .illtyped ∧
    makeOrderings [.pair oId .none] = .error .illtyped ∧ makeOrderings [.dir (.str "as")] = .error .illtyped := by decide +kernel

/-- the string value of a join kind is the member: same checks, same stored statement (in particular `'cross'`) -/
theorem C07_join_kind_spelling (eqv : Feature → Feature → Bool) (l r : Source) (k : JoinKind) (c : Option Feature) :
    joinNew eqv l r (.str k.wire) c = joinNew eqv l r (.enum k) c := by
  simp [joinNew, JoinKindArg.kind, JoinKind.ofWire_wire]

/-- any other string is the `ValueError` of `Join.Kind(…)`, with or without a condition -/
theorem C07_join_kind_unknown (eqv : Feature → Feature → Bool) (l r : Source) (s : String) (c : Option Feature)
    (h : JoinKind.ofWire s = none) : joinNew eqv l r (.str s) c = Except.error CtorErr.illtyped := by
  simp [joinNew, JoinKindArg.kind, h, bind, Except.bind]

/-- `construct` evaluates the operands and then goes through this layer -/
theorem C07_construct_through_api (eqv : Feature → Feature → Bool) :
    (∀ s sel pre grp post ord rows, Source.construct eqv (.query s sel pre grp post ord rows) = (do
      let s' ← s.construct eqv
      let sel' ← sel.construct eqv
      let pre' ← pre.construct eqv
      let grp' ← grp.construct eqv
      let post' ← post.construct eqv
      let ord' ← ord.construct eqv
      queryNew eqv s' sel'.toList pre'.toOption grp'.toList post'.toOption (ord'.toList.map Ordering.term) rows)) ∧
    (∀ l r k c, Source.construct eqv (.join l r k c) = (do
      let l' ← l.construct eqv
      let r' ← r.construct eqv
      let c' ← c.construct eqv
      joinNew eqv l' r' (.enum k) c'.toOption)) ∧
    (∀ l r k, Source.construct eqv (.set l r k) = (do
      let l' ← l.construct eqv
      let r' ← r.construct eqv
      setNew l' r' k)) := by
  refine ⟨fun _ _ _ _ _ _ _ => ?_, fun _ _ _ _ => ?_, fun _ _ _ => rfl⟩
  · simp only [Source.construct, queryNew_terms, Features.ofList_toList, FeatureOpt.ofOption_toOption,
      Orderings.ofList_toList]
  · simp only [Source.construct, joinNew, JoinKindArg.kind, FeatureOpt.ofOption_toOption]
    rfl

/-- one call on a stored query: the replaced arguments must be accepted by `Query.__new__`, and they are what is stored -/
theorem C07_chain_step (eqv : Feature → Feature → Bool) (q : QState) (op : QOp) (c' : Source) :
    q.toSource.applyOp eqv op = Except.ok c' ↔ ∃ q', q.upd op = Except.ok q' ∧ q'.Valid eqv ∧ c' = q'.toSource :=
  applyOp_ok_iff eqv q op c'

/-- whatever a chain of calls returns, the constructor accepts with the arguments it stores -/
theorem C07_chain_sound (eqv : Feature → Feature → Bool) (ops : List QOp) (q : QState) (c : Source)
    (h : runChain eqv q.toSource ops = Except.ok c) (hne : ops ≠ []) :
    ∃ q' : QState, c = q'.toSource ∧ q'.s = q.s ∧
      queryNew eqv q'.s q'.sel q'.pre q'.grp q'.post (q'.ord.map Ordering.term) q'.rows = Except.ok c := by
  obtain ⟨q', _, h1, h2, h3⟩ := runChain_sound eqv ops q c h hne
  exact ⟨q', h1, h2, h3⟩

/-- full strength: the order of the calls does not matter -/
def C07_chain_order_full : Prop :=
  ∀ (ops ops' : List QOp), ops.Perm ops' → (ops.map QOp.slot).Nodup →
    ∀ q : QState, q.Valid structEqv → okOf (runChain structEqv q.toSource ops) = okOf (runChain structEqv q.toSource ops')

/-- proved for every equality and every accepted query as long as `groupby` is not among the calls: any two orders give
the same statement, or are both refused -/
theorem C07_chain_order_partial (eqv : Feature → Feature → Bool) (ops ops' : List QOp) (hp : ops.Perm ops')
    (hn : (ops.map QOp.slot).Nodup) (hg : ∀ op ∈ ops, op.isGroupby = false) (q : QState) (hv : q.Valid eqv) :
    okOf (runChain eqv q.toSource ops) = okOf (runChain eqv q.toSource ops') := by
  induction hp generalizing q with
  | nil => rfl
  | cons x _ ih =>
    rw [runChain_cons, runChain_cons]
    apply okOf_bind_congr
    intro c hc
    obtain ⟨q', _, hv', rfl⟩ := (applyOp_ok_iff eqv q x c).mp hc
    simp only [List.map_cons, List.nodup_cons] at hn
    exact ih hn.2 (fun op h => hg op (List.mem_cons_of_mem _ h)) q' hv'
  | swap x y l =>
    simp only [runChain_cons, ← bind_assoc]
    apply okOf_bind_left
    simp only [List.map_cons, List.nodup_cons, List.mem_cons, not_or] at hn
    exact applyOp_comm eqv q hv y x hn.1.1 (hg y (by simp)) (hg x (by simp))
  | trans h1 _ ih1 ih2 =>
    rw [ih1 hn hg q hv]
    exact ih2 ((h1.map QOp.slot).nodup_iff.mp hn) (fun op h => hg op (h1.mem_iff.mpr h)) q hv

def cT : Source := .table "T" [("id", .integer), ("name", .string)]
def cBare : QState := ⟨cT, [], none, [], none, [], none⟩
def cCount : Feature := .expr .count (Features.ofList [oId])

/-- `T.groupby(T.name).select(T.name, Count(T.id))` — the example in the docstring of `Queryable.groupby` — is refused:
the statement in between selects every column of `T` under the grouping, `T.id` neither grouped nor aggregated; `T.select(…).groupby(T.name)` is constructed -/
theorem C07_chain_order_counterexample : ¬ C07_chain_order_full := by
  intro h
  have := h [.groupby [oName], .select [oName, cCount]] [.select [oName, cCount], .groupby [oName]]
    (List.Perm.swap _ _ _) (by decide +kernel) cBare (by decide +kernel)
  revert this
  decide +kernel

example : cBare.Valid structEqv ∧
    okOf (runChain structEqv cBare.toSource [.select [oId], .where_ (.expr .gt (Features.ofList [oId, .lit (.int 1)])),
      .orderby [.feat oName, .dir (.str "DESC")], .limit 10 0]) =
    okOf (runChain structEqv cBare.toSource [.limit 10 0, .orderby [.pair oName (.enum .desc)],
      .where_ (.expr .gt (Features.ofList [oId, .lit (.int 1)])), .select [oId]]) ∧
    (okOf (runChain structEqv cBare.toSource [.select [oId], .limit 10 0])).isSome = true := by decide +kernel
-- repeated `where` accumulates with AND (also an aliased condition, whose alias is dropped)
example : runChain structEqv cBare.toSource [.where_ (.expr .gt (Features.ofList [oId, .lit (.int 1)])),
      .where_ (.alias (.expr .lt (Features.ofList [oId, .lit (.int 9)])) "p")] =
    .ok (.query cT .nil (.some (.expr .and (Features.ofList [.expr .lt (Features.ofList [oId, .lit (.int 9)]),
      .expr .gt (Features.ofList [oId, .lit (.int 1)])]))) .nil .none .nil none) := by decide +kernel

/-- `limit(count, offset)` validates nothing: any two integers are stored, and they never influence the verdict -/
theorem C07_rows_unvalidated (eqv : Feature → Feature → Bool) (s : Source) (sel : List Feature) (pre : Option Feature)
    (grp : List Feature) (post : Option Feature) (ts : List OTerm) (rows rows' : Option Rows) :
    (queryNew eqv s sel pre grp post ts rows).isOk = (queryNew eqv s sel pre grp post ts rows').isOk := by
  unfold queryNew
  exact isOk_bind_congr fun _ => isOk_bind_congr fun _ => isOk_bind_congr fun _ => isOk_bind_congr fun _ => rfl

/-- the kind of a set operation takes no part in the check -/
theorem C07_set_kind_irrelevant (l r : Source) (k k' : SetKind) : (setNew l r k).isOk = (setNew l r k').isOk := by
  unfold setNew
  exact isOk_bind_congr fun _ => rfl

end ForML.Dsl
