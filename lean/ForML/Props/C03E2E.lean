/-
C03 ∘ C01 — end to end through the flow stack: composition, then compilation.

For a pipeline expression `e` behind a source, `flow.Composition(source, e)` (model: `Compose.composition`, whose graph
evaluates to `⟦e⟧` by C03) is cut into its train and apply segments (`toSegment`: bound futures collapsed, members =
what `Traversal.each` visits, C01's `Segment`), each segment is compiled by the compiler model in the order of
`Traversal.each` and the instruction table is executed by the reference interpreter (C01).  The theorem: the functor of
the segment's tail yields `⟦e⟧`'s train / apply output on the source's outputs, the functors of the trained forks yield
`⟦e⟧`'s states, where the apply run is given the store holding those very states at the list positions of
`Composition.persistent`.

Status: `C03_end_to_end_partial` — *validated* form.  The side condition `bridgeOK src e` is decidable and is evaluated
by the driver on every generated expression.  What is missing for the unconditional theorem is a proof that it holds
for every trainable `e` that maps the train path, all actor symbols being below `Flow.falsyBase`.  It fails — and with
it the statement — when `e` leaves the train path untouched (`C03_end_to_end_counterexample`: the train segment then
ends in the `Future` proxying the first output port of the two-output label extractor, not a single-output tail
worker).  It also fails whenever a member's actor symbol is at or above `Flow.falsyBase`; among these are the symbols
whose trained state is falsy (C01 models the truthiness test of `Preset.reduce`, `if value:`: such a state is not
handed to the applied forks, which `⟦e⟧` does not express).
-/
import ForML.Props.C03
import ForML.Lemmas.C03BridgeFinal

namespace ForML.Compose
open ForML

/-- **End to end, validated**: for every accepted expression whose two translated segments pass the decidable checks,
compiling the train segment (no asset accessor) and the apply segment (accessor = the states of the train run at the
positions of `Composition.persistent`) in the order of `Traversal.each` succeeds, and executing the tables yields
`⟦e⟧` of the source's outputs at the tails and `⟦e⟧`'s states at the trained forks. -/
theorem C03_end_to_end_partial (src : Source) (e : Expr) (htr : e.trainable = true) (hok : bridgeOK src e = true) :
    ∃ sg, segments src e = .ok sg ∧
      ∃ o t, sg.train.each = .ok o ∧ Flow.compile sg.train none o = .ok t ∧
        (Flow.run none t).get (.uid sg.train.tail) = some (conv (denoteOn src e).train) ∧
        sg.graph.trains.map (fun T => (Flow.run none t).get (.uid T.node)) =
          (denoteOn src e).states.map (fun s => some (conv s.2)) ∧
        ∃ o' t', sg.apply.each = .ok o' ∧
          Flow.compile sg.apply (some (applyAssets sg (Flow.run none t))) o' = .ok t' ∧
          (Flow.run (some (applyAssets sg (Flow.run none t))) t').get (.uid sg.apply.tail) =
            some (conv (denoteOn src e).apply) := by
  obtain ⟨tk, g, W, hrun, ck⟩ := composition_spec src (C03_expand_realises e htr)
  have hseg : segments src e = .ok ⟨toSegment g tk.train.head tk.train.publisher,
      toSegment g tk.apply.head tk.apply.publisher, g, tk⟩ := by
    unfold segments; rw [show composition src e {} = .ok (tk, g) from hrun]
  unfold bridgeOK at hok
  rw [hseg] at hok
  simp only [bridgeOKof, Bool.and_eq_true, List.all_eq_true, List.contains_iff_mem] at hok
  obtain ⟨⟨⟨⟨⟨⟨⟨⟨⟨⟨⟨wfT, cT⟩, aT⟩, sT⟩, tkT⟩, allT⟩, wfA⟩, cA⟩, aA⟩, sA⟩, tkA⟩, noneA⟩ := hok
  obtain ⟨o, t, heach, hcmp, htail, hstates⟩ := ck.train_run rfl rfl wfT cT aT sT tkT allT
  -- the store of the apply run: the group's trained fork in the memo of the train run
  obtain ⟨o', t', heach', hcmp', htail'⟩ := ck.apply_run rfl rfl wfA cA aA sA tkA (fun T hT => by simpa using noneA T hT)
    (fun γ => match g.trainerOf γ with
      | some T => ((Flow.run none t).get (.uid T.node)).getD .none
      | none => .none)
    (fun gid h => by simp only [h])
    (fun gid T h => by simp only [h, hstates T (trainerOf_eq_some h).1, Option.getD_some])
  refine ⟨_, hseg, o, t, heach, hcmp, htail, ?_, o', t', heach', hcmp', htail'⟩
  show g.trains.map _ = (denote e src.xa src.xt src.xl).states.map _
  rw [← ck.trains.2, List.map_map]
  exact List.map_congr_left hstates

/-! ### non-vacuity: the side condition holds for concrete pipelines -/

/-- the source used by the harness: apply reader 901, train reader 902, label extractor 903 -/
def demoSource : Source := ⟨901, 902, 903⟩

private theorem bridgeOK_mapper : bridgeOK demoSource (.wrap none (some ⟨1, true⟩) (some ⟨1, true⟩)) = true := by
  decide +kernel

/-- a stateful mapper -/
example : bridgeOK demoSource (.wrap none (some ⟨1, true⟩) (some ⟨1, true⟩)) = true := bridgeOK_mapper

/-- label operator, operator with three different builders, map-reduce -/
example : bridgeOK demoSource (.seq (.wrap (some ⟨1, true⟩) none none)
    (.seq (.wrap (some ⟨2, true⟩) (some ⟨3, true⟩) (some ⟨4, false⟩)) (.mapreduce [⟨5, true⟩, ⟨6, false⟩] 7))) = true := by
  decide +kernel

/-- `mapper >> FullStack(estimator, debug >> estimator; 2 folds) >> estimator` -/
example : bridgeOK demoSource (.seq (.seq (.wrap none (some ⟨1, true⟩) (some ⟨1, true⟩))
    (.stack [.wrap none (some ⟨2, true⟩) (some ⟨2, true⟩),
      .seq (.debug ⟨3, false⟩ ⟨4, true⟩) (.wrap none (some ⟨5, true⟩) (some ⟨5, true⟩))] 2 6 7 8 9))
    (.wrap none (some ⟨10, true⟩) (some ⟨10, true⟩))) = true := by
  decide +kernel

example : ∃ sg, segments demoSource (.wrap none (some ⟨1, true⟩) (some ⟨1, true⟩)) = .ok sg ∧
    ∃ o t, sg.train.each = .ok o ∧ Flow.compile sg.train none o = .ok t ∧
      (Flow.run none t).get (.uid sg.train.tail) =
        some (conv (denoteOn demoSource (.wrap none (some ⟨1, true⟩) (some ⟨1, true⟩))).train) :=
  let ⟨sg, h, o, t, h1, h2, h3, _⟩ := C03_end_to_end_partial demoSource _ (by decide) bridgeOK_mapper
  ⟨sg, h, o, t, h1, h2, h3⟩

/-! ### the side condition is needed: an expression that leaves the train path untouched -/

/-- the first clause of the statement (the train segment compiles and its tail yields `⟦e⟧.train`) without the side
condition -/
def C03_end_to_end_full : Prop :=
  ∀ (src : Source) (e : Expr), e.trainable = true →
    ∃ sg, segments src e = .ok sg ∧
      ∃ o t, sg.train.each = .ok o ∧ Flow.compile sg.train none o = .ok t ∧
        (Flow.run none t).get (.uid sg.train.tail) = some (conv (denoteOn src e).train)

/-- a label operator alone: the tail worker of the train segment is the two-output label extractor, which C01's `wf`
refuses (it demands `szout ≤ 1` of the tail) -/
example : bridgeOK demoSource (.wrap (some ⟨1, true⟩) none none) = false := by decide +kernel

def labelOnly : Expr := .wrap (some ⟨1, true⟩) none none

def labelOnlySegments : Segments :=
  match segments demoSource labelOnly with
  | .ok sg => sg
  | .error _ => ⟨default, default, {}, default⟩

def labelOnlyTable : Flow.Table :=
  match Flow.compile labelOnlySegments.train none labelOnlySegments.train.visitOrder with
  | .ok t => t
  | .error _ => []

def isProjVal : Flow.Val → Bool
  | .proj .. => true
  | _ => false

/-- **the side condition cannot be dropped**: for the label operator alone the compiled train table yields, at the
functor of the segment's tail worker (the two-output label extractor), a value that is not the train-mode output
`⟦e⟧.train` (= port 0 of it) -/
theorem C03_end_to_end_counterexample : ¬ C03_end_to_end_full := by
  intro h
  obtain ⟨sg, hs, o, t, he, hc, hv⟩ := h demoSource labelOnly rfl
  have e1 : labelOnlySegments = sg := by
    unfold labelOnlySegments
    rw [hs]
  subst e1
  have e2 : (Except.ok labelOnlySegments.train.visitOrder : Except Flow.Segment.TErr (List Nat)) = Except.ok o :=
    (Flow.C01_traversal_never_cyclic labelOnlySegments.train).symm.trans he
  injection e2 with e2
  subst e2
  have e3 : labelOnlyTable = t := by
    unfold labelOnlyTable
    rw [hc]
  subst e3
  have key : ((Flow.run none labelOnlyTable).get (.uid labelOnlySegments.train.tail)).map isProjVal = some false := by
    decide +kernel
  rw [hv] at key
  have hp : isProjVal (conv (denoteOn demoSource labelOnly).train) = true := by decide +kernel
  rw [Option.map_some, hp] at key
  cases key

end ForML.Compose
