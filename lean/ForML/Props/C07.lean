/-
C07 — a statement is constructible exactly when it obeys the documented DSL grammar.

Model: ForML.Model.Grammar (`construct`: the constructors' checks in their order, exceptions as values;
`WellFormed`: the documented rules).  `construct` is parametrised by the equality with which `frozenset.issubset` /
`set.difference` compare features.  The theorems are stated for the structural one, which is what `Feature.__eq__` is
with fixes/C08-structural-eq.diff (C08: `C08_eq_structural`); `implEqv` is hash equality in the free environment
(collisions only where `pyIntHash` collides), what membership in a `frozenset` of features comes to without that patch
(`==` compared hashes: `ForML.Lemmas.C08Legacy`).  `C07_iff_eqv` restates `C07_iff_partial` for an equality that agrees
with the structural one on all features (`ImplEqIsStructural`); hash equality does so only up to collisions, which is
why the driver evaluates `construct` with both and reports whether they agree.
-/
import ForML.Model.Grammar
import ForML.Generated.C07Tables
import ForML.Lemmas.C07Main
import ForML.Lemmas.C07ErrKind
import ForML.Lemmas.C07Norm
import ForML.Lemmas.C07Regions
import ForML.Lemmas.C07Depth

namespace ForML.Dsl

/-- rank and class membership of every primitive kind (`kind.py`) -/
theorem C07_tables_kinds :
    ForML.Generated.C07.kindTable.all (fun (k, rank, numeric, date, boolean) =>
      k.rank == rank && k.isNumeric == numeric && k.isDate == date && (k == Kind.boolean) == boolean) = true ∧
    ForML.Generated.C07.kindTable.map (·.1) =
      [Kind.boolean, Kind.integer, Kind.float, Kind.decimal, Kind.string, Kind.date, Kind.timestamp] := by decide +kernel

/-- `Compound.__rank__` is the number of components -/
theorem C07_tables_compound :
    ForML.Generated.C07.compoundRanks =
      [(Kind.array .integer).rank, (Kind.map .integer .string).rank,
        (Kind.struct ["a", "b", "c"] (.cons .integer (.cons .integer (.cons .integer .nil)))).rank] := by decide +kernel

/-- operand count, family of constructor checks and aggregate-ness of every expression class
(`series.py`, `function/*.py`) -/
theorem C07_tables_ops :
    ForML.Generated.C07.opTable.all (fun (op, arity, group, agg) =>
      op.arity == arity && decide (op.group = group) && op.isAggregate == agg) = true ∧
    ForML.Generated.C07.opTable.map (·.1) = Op.all := by decide +kernel

/-- the join / set kinds and ordering directions the script alphabet uses are those of the code -/
theorem C07_tables_enums :
    ForML.Generated.C07.joinKinds = [JoinKind.inner, .left, .right, .full, .cross].map JoinKind.wire ∧
    ForML.Generated.C07.setKinds = [SetKind.union, .intersection, .difference].map SetKind.wire ∧
    ForML.Generated.C07.directions = [("asc", "ascending"), ("ascending", "ascending"), ("desc", "descending"),
      ("descending", "descending"), ("ASC", "ascending"), ("Desc", "descending")] := by decide +kernel

/-- the equality `construct` is run with is the structural one (C08: the patched `==` is, on window-free features —
`C08_feature_iff`; hash equality is only where no two hashes collide — `C08_legacy_partial_feature`,
`C08_legacy_collision`) -/
def ImplEqIsStructural (eqv : Feature → Feature → Bool) : Prop := ∀ a b, eqv a b = decide (a = b)

/-- the statement at full strength: for every script, construction succeeds iff the documented grammar holds -/
def C07_iff_full : Prop := ∀ r : RawStmt, (construct structEqv r).isOk = true ↔ WellFormed r

/-- proved: inside the region where schemas are defined (`tame`), for scripts that denote themselves (`normal`) -/
theorem C07_iff_partial (r : RawStmt) (hn : Source.normal r = true) (ht : Source.tame r = true) :
    (construct structEqv r).isOk = true ↔ WellFormed r := by
  unfold construct WellFormed
  cases h : Source.construct structEqv r with
  | error e =>
    simp only [Except.isOk, Except.toBool, Bool.false_eq_true, false_iff]
    intro hw
    have := (Source.construct_iff r hn ht r).mpr ⟨rfl, hw⟩
    rw [h] at this
    cases this
  | ok s =>
    simp only [Except.isOk, Except.toBool, true_iff]
    exact ((Source.construct_iff r hn ht s).mp h).2

/-- the same for every equality that is structural -/
theorem C07_iff_eqv (eqv : Feature → Feature → Bool) (he : ImplEqIsStructural eqv) (r : RawStmt)
    (hn : Source.normal r = true) (ht : Source.tame r = true) :
    (construct eqv r).isOk = true ↔ WellFormed r := by
  have : eqv = structEqv := by
    funext a b
    exact he a b
  rw [this]
  exact C07_iff_partial r hn ht

/-- what a successful construction stores is the script itself -/
theorem C07_stored (r : RawStmt) (hn : Source.normal r = true) (ht : Source.tame r = true) (s : Stmt)
    (h : construct structEqv r = Except.ok s) : s = r :=
  ((Source.construct_iff r hn ht s).mp h).1

/-- a well-formed script is constructed (and never rejected) -/
theorem C07_conforming_never_raises (r : RawStmt) (hn : Source.normal r = true) (ht : Source.tame r = true)
    (hw : WellFormed r) : construct structEqv r = Except.ok r :=
  (Source.construct_iff r hn ht r).mpr ⟨rfl, hw⟩

def tStudent : Source := .table "Student" [("id", .integer), ("name", .string), ("score", .float), ("born", .date)]
def tSchool : Source := .table "School" [("id", .integer), ("name", .string), ("rank", .integer)]
def sId : Feature := .elem tStudent "id"
def sName : Feature := .elem tStudent "name"
def sScore : Feature := .elem tStudent "score"
def kId : Feature := .elem tSchool "id"
def lit1 : Feature := .lit (.int 1)
def fs (l : List Feature) : Features := Features.ofList l
def q (s : Source) (sel : List Feature) (pre : FeatureOpt := .none) (grp : List Feature := []) (post : FeatureOpt := .none)
    (ord : List Ordering := []) : Source :=
  .query s (fs sel) pre (fs grp) post (Orderings.ofList ord) none
def bin (op : Op) (a b : Feature) : Feature := .expr op (fs [a, b])
def un (op : Op) (a : Feature) : Feature := .expr op (fs [a])

/-- two queries selecting an un-aliased expression: well-formed (equal schemas), yet `Set.__new__` dies reading the
schema (C07-F1) -/
def unnamedSet : Source := .set (q tStudent [bin .add sId lit1]) (q tStudent [bin .add sId lit1]) .union

/-- `Student[id, id] ∪ Student[id]`: the schemas differ, yet the dictionary collapses the repeated name (C07-F2) -/
def collapsedSet : Source := .set (q tStudent [sId, sId]) (q tStudent [sId]) .union

theorem C07_iff_counterexample : ¬ C07_iff_full := by
  intro h
  have := (h unnamedSet).mpr (by decide +kernel)
  revert this
  decide +kernel

/-- the second root cause refutes it as well: a non-conforming set that is constructed -/
theorem C07_iff_counterexample_duplicate :
    (construct structEqv collapsedSet).isOk = true ∧ ¬ WellFormed collapsedSet := by decide +kernel

/-- full strength: the schema of every constructed statement lists its output features' names and kinds in order -/
def C07_schema_full : Prop :=
  ∀ (r : RawStmt) (s : Stmt), construct structEqv r = Except.ok s → ∃ S, s.schemaOf = Except.ok S ∧ s.schemaS = some S

/-- proved where every output has a name and a kind and the names are distinct (`plain`) -/
theorem C07_schema_partial (r : RawStmt) (hn : Source.normal r = true) (ht : Source.tame r = true)
    (hp : Source.plain r = true) (s : Stmt) (h : construct structEqv r = Except.ok s) :
    ∃ S, s.schemaOf = Except.ok S ∧ s.schemaS = some S := by
  obtain ⟨rfl, hw⟩ := (Source.construct_iff r hn ht s).mp h
  obtain ⟨es, he, hs, _⟩ := Source.entries_spec s hw ht hp
  exact ⟨collapse es, by simp [Source.schemaOf, he, bind, Except.bind], (mapM_fieldOf _ _).mpr hs.symm⟩

/-- an un-aliased expression in the projection: `.schema` raises (C07-F1) -/
def unnamedQuery : Source := q tStudent [bin .add sId lit1, sName]

/-- equal column names on both sides of a join: one field per name (C07-F2) -/
def equalNamesJoin : Source := .join tStudent tSchool .inner (.some (bin .eq sId kId))

theorem C07_schema_counterexample : ¬ C07_schema_full := by
  intro h
  obtain ⟨S, h1, _⟩ := h unnamedQuery unnamedQuery (by decide +kernel)
  have : unnamedQuery.schemaOf = Except.error CtorErr.recursion := by decide +kernel
  rw [this] at h1
  cases h1

theorem C07_schema_counterexample_duplicate :
    construct structEqv equalNamesJoin = Except.ok equalNamesJoin ∧
    equalNamesJoin.schemaOf = Except.ok [("id", .integer), ("name", .string), ("score", .float), ("born", .date), ("rank", .integer)] ∧
    equalNamesJoin.schemaS = some [("id", .integer), ("name", .string), ("score", .float), ("born", .date),
      ("id", .integer), ("name", .string), ("rank", .integer)] := by decide +kernel

/-- full strength: whatever is rejected is rejected with `dsl.GrammarError` -/
def C07_error_kind_full : Prop :=
  ∀ (r : RawStmt) (e : CtorErr), construct structEqv r = Except.error e → e = CtorErr.grammar

/-- proved where schemas are defined (`tame`) and every element names an output of its origin, every expression
has the operand count of its class (`resolvable`) -/
theorem C07_error_kind_partial (r : RawStmt) (hn : Source.normal r = true) (ht : Source.tame r = true)
    (hr : Source.resolvable r = true) (e : CtorErr) (h : construct structEqv r = Except.error e) :
    e = CtorErr.grammar :=
  Source.construct_gonly r hn ht hr e h

/-- so in that region `construct` is the characteristic function of the grammar -/
theorem C07_construct_eq (r : RawStmt) (hn : Source.normal r = true) (ht : Source.tame r = true)
    (hr : Source.resolvable r = true) :
    construct structEqv r = if Source.wf r then Except.ok r else Except.error CtorErr.grammar := by
  by_cases hw : Source.wf r = true
  · simp only [hw, if_true]
    exact C07_conforming_never_raises r hn ht hw
  · simp only [hw, Bool.false_eq_true, if_false]
    cases h : construct structEqv r with
    | ok s => exact absurd ((Source.construct_iff r hn ht s).mp h).2 hw
    | error e => rw [C07_error_kind_partial r hn ht hr e h]

/-- an element that names no field, compared with a literal: `KeyError` (C07-F3) -/
def unknownCompared : Source := q tStudent [sId] (.some (bin .gt (.elem tStudent "nope") lit1))

theorem C07_error_kind_counterexample : ¬ C07_error_kind_full := by
  intro h
  have := h unnamedSet CtorErr.recursion (by decide +kernel)
  cases this

theorem C07_error_kind_counterexample_lookup :
    construct structEqv unknownCompared = Except.error CtorErr.lookup ∧ ¬ WellFormed unknownCompared := by decide +kernel

/-- a conforming statement using every clause satisfies the hypotheses of the partial theorems -/
def everything : Source :=
  q (.join tStudent tSchool .inner (.some (bin .eq sId kId)))
    [sName, .alias (un .avg sScore) "avg", .alias (bin .add (un .count sId) lit1) "n"]
    (.some (bin .gt sScore lit1)) [sName] (.some (bin .gt (un .count sId) lit1)) [.mk sName .desc]

example : Source.normal everything = true ∧ Source.tame everything = true ∧ Source.resolvable everything = true ∧
    WellFormed everything ∧
    construct structEqv everything = Except.ok everything ∧ construct implEqv everything = Except.ok everything := by decide +kernel

example : Source.plain (q tStudent [sId, .alias (bin .add sId sScore) "x"]) = true ∧
    (q tStudent [sId, .alias (bin .add sId sScore) "x"]).schemaOf = Except.ok [("id", .integer), ("x", .float)] := by decide +kernel

/-- a reference of a query, queried through its own elements; a set of two of them -/
def refQ : Source := .ref (q tStudent [sId, .alias sName "n"]) "r"
example : Source.tame (q refQ [.elem refQ "n"]) = true ∧ WellFormed (q refQ [.elem refQ "n"]) ∧
    ¬ WellFormed (q refQ [.elem (.ref (q tStudent [sId, .alias sName "n"]) "other") "n"]) ∧
    ¬ WellFormed (q refQ [sName]) := by decide +kernel
example : Source.tame (.set (q refQ []) (q tStudent [sId, .alias sName "n"]) .union) = true ∧
    WellFormed (.set (q refQ []) (q tStudent [sId, .alias sName "n"]) .union) ∧
    ¬ WellFormed (.set (q refQ []) (q tStudent [.alias sName "n", sId]) .union) := by decide +kernel

-- one rule each, violated or (where `WellFormed` is claimed) just kept; all `normal` and `tame`, so `C07_iff_partial`
-- applies to them
example : ¬ WellFormed (q tStudent [kId]) ∧ Source.tame (q tStudent [kId]) = true ∧ Source.resolvable (q tStudent [kId]) = true ∧
    construct structEqv (q tStudent [kId]) = Except.error CtorErr.grammar := by decide +kernel                 -- foreign element selected
example : ¬ WellFormed (q tStudent [sId] (.some (bin .add sId lit1))) := by decide +kernel                              -- filter not boolean
example : WellFormed (q tStudent [sId] (.some (.lit (.bool true)))) := by decide +kernel                                -- literal-only predicate
example : ¬ WellFormed (q tStudent [sId] (.some (.alias (bin .gt sId lit1) "p"))) := by decide +kernel                  -- aliased filter
example : ¬ WellFormed (q tStudent [sId] (.some (bin .gt (un .count sId) lit1))) := by decide +kernel                   -- aggregate in where
example : WellFormed (q tStudent [sId] .none [] (.some (bin .gt (un .count sId) lit1))) := by decide +kernel             -- … but fine in having
example : ¬ WellFormed (q tStudent [sId] .none [] (.some (bin .gt (.window (.expr .rownumber .nil) (fs [sId]) .nil) lit1))) := by decide +kernel
example : ¬ WellFormed (q tStudent [sId, sName] .none [sId]) := by decide +kernel                                        -- non-aggregate outside the grouping
example : WellFormed (q tStudent [.alias sId "i", bin .add (un .sum sScore) lit1] .none [sId]) := by decide +kernel      -- alias of a grouped feature, nested aggregate
example : ¬ WellFormed (q tStudent [sId] .none [.alias sId "g"]) := by decide +kernel                                    -- alias inside grouping
example : ¬ WellFormed (q tStudent [sId] .none [un .count sId]) := by decide +kernel                                     -- aggregate in grouping
example : ¬ WellFormed (q tStudent [sId] (.some (bin .gt sId sName))) := by decide +kernel                               -- comparison kinds
example : WellFormed (q tStudent [sId] (.some (bin .gt sId sScore))) := by decide +kernel                                -- numeric kinds mix
example : ¬ WellFormed (q tStudent [.alias (bin .add sName lit1) "x"]) := by decide +kernel                              -- arithmetic kinds
example : ¬ WellFormed (q tStudent [sId] (.some (bin .and sId (.lit (.bool true))))) := by decide +kernel                -- logical operand
example : ¬ WellFormed (q tStudent [.alias (un .year sId) "y"]) ∧ WellFormed (q tStudent [.alias (un .year (.elem tStudent "born")) "y"]) := by decide +kernel
example : ¬ WellFormed (.join tStudent tSchool .cross (.some (bin .eq sId kId))) ∧ ¬ WellFormed (.join tStudent tSchool .left .none) ∧
    WellFormed (.join tStudent tSchool .cross .none) := by decide +kernel
example : ¬ WellFormed (.join tStudent tSchool .inner (.some (bin .eq (un .sum sId) kId))) := by decide +kernel          -- aggregate in join condition
example : ¬ WellFormed (.set (q tStudent [sId, sName]) (q tStudent [sName, sId]) .union) := by decide +kernel            -- permuted schemas
example : ¬ WellFormed (q tStudent [sId] .none [] .none [.mk kId .asc]) ∧ ¬ WellFormed (q tStudent [sId] .none [] .none [.mk (.alias sId "o") .asc]) := by decide +kernel

/-- hash equality and structural equality disagree only through a hash collision: a statement built around the
colliding literals `-1` / `-2` (C08) selects a foreign element and is accepted under hash equality (`implEqv`) -/
def refNeg (n : Int) : Source := .ref (q tStudent [sId] (.some (bin .gt sId (.lit (.int n))))) "r"
example : (construct implEqv (q (refNeg (-1)) [.elem (refNeg (-2)) "id"])).isOk = true ∧
    (construct structEqv (q (refNeg (-1)) [.elem (refNeg (-2)) "id"])).isOk = false ∧
    ¬ WellFormed (q (refNeg (-1)) [.elem (refNeg (-2)) "id"]) := by decide +kernel

/-- a `normal` script is its own denotation … -/
theorem C07_denotation_of_normal (r : RawStmt) (hn : Source.normal r = true) : Source.norm r = r :=
  Source.norm_of_normal r hn

/-- … every denotation is `normal` … -/
theorem C07_denotation_normal (r : RawStmt) : Source.normal (Source.norm r) = true := Source.normal_norm r

/-- … and a script is constructed exactly like its denotation (same statement stored, same exception) -/
theorem C07_denotation_construct (r : RawStmt) (ht : Source.tame (Source.norm r) = true) :
    construct structEqv r = construct structEqv (Source.norm r) := Source.construct_norm r ht

/-- `C07_iff_partial` without `normal`: for EVERY script whose denotation lies where schemas are defined -/
theorem C07_iff_denotation (r : RawStmt) (ht : Source.tame (Source.norm r) = true) :
    (construct structEqv r).isOk = true ↔ WellFormed (Source.norm r) := by
  rw [C07_denotation_construct r ht]
  exact C07_iff_partial _ (Source.normal_norm r) ht

/-- what is stored is the denotation -/
theorem C07_stored_denotation (r : RawStmt) (ht : Source.tame (Source.norm r) = true) (s : Stmt)
    (h : construct structEqv r = Except.ok s) : s = Source.norm r := by
  rw [C07_denotation_construct r ht] at h
  exact C07_stored _ (Source.normal_norm r) ht s h

theorem C07_error_kind_denotation (r : RawStmt) (ht : Source.tame (Source.norm r) = true)
    (hr : Source.resolvable (Source.norm r) = true) (e : CtorErr) (h : construct structEqv r = Except.error e) :
    e = CtorErr.grammar := by
  rw [C07_denotation_construct r ht] at h
  exact C07_error_kind_partial _ (Source.normal_norm r) ht hr e h

theorem C07_schema_denotation (r : RawStmt) (ht : Source.tame (Source.norm r) = true)
    (hp : Source.plain (Source.norm r) = true) (s : Stmt) (h : construct structEqv r = Except.ok s) :
    ∃ S, s.schemaOf = Except.ok S ∧ s.schemaS = some S := by
  rw [C07_denotation_construct r ht] at h
  exact C07_schema_partial _ (Source.normal_norm r) ht hp s h

-- a reference of a reference, an alias of an alias, a set of two bare tables: not `normal`, covered all the same
def notNormal : Source :=
  q (.ref (.ref tStudent "a") "b") [.alias (.alias (.elem (.ref tStudent "b") "id") "x") "y"]
example : Source.normal notNormal = false ∧ Source.tame (Source.norm notNormal) = true ∧ WellFormed (Source.norm notNormal) ∧
    Source.norm notNormal = q (.ref tStudent "b") [.alias (.elem (.ref tStudent "b") "id") "y"] ∧
    construct structEqv notNormal = Except.ok (Source.norm notNormal) := by decide +kernel
example : Source.normal (.set tSchool tSchool .union) = false ∧
    construct structEqv (.set tSchool tSchool .union) = Except.ok (.set (q tSchool []) (q tSchool []) .union) ∧
    Source.norm (.set tSchool tSchool .union) = .set (q tSchool []) (q tSchool []) .union := by decide +kernel

/-- `tame` fails in exactly four regions -/
theorem C07_tame_exact (r : RawStmt) :
    Source.tame r = false ↔
      (Source.dupTable r = true ∨ Source.unnamedAt r = true ∨ Source.duplicateAt r = true ∨ Source.unkindedAt r = true) :=
  Source.tame_false_iff r

/-- the fourth of which lies inside `¬ resolvable` -/
theorem C07_unkinded_unresolvable (r : RawStmt) (h : Source.unkindedAt r = true) : Source.resolvable r = false := by
  cases hr : Source.resolvable r with
  | false => rfl
  | true =>
    rw [Source.unkindedAt_of_resolvable r hr] at h
    cases h

/-- `resolvable` fails in exactly two regions -/
theorem C07_resolvable_exact (r : RawStmt) :
    Source.resolvable r = false ↔ (Source.unknownElement r = true ∨ Source.illTypedCall r = true) := by
  rw [← Bool.not_eq_true, Source.resolvable_iff_regions]
  cases Source.unknownElement r <;> cases Source.illTypedCall r <;> simp

/-- Outside the three findings — un-named outputs where a schema is read (F1), repeated output names there (F2), an
element naming no output of its origin (F3) — and outside the two regions no use of the public API leads into (a table
with a repeated field name; a call with the wrong number of operands or `RowNumber()` as an operand), every script is
constructed exactly when its denotation is well-formed, what is stored is the denotation, and every rejection is the
grammar error. -/
theorem C07_outside_findings (r : RawStmt)
    (h1 : Source.unnamedAt (Source.norm r) = false) (h2 : Source.duplicateAt (Source.norm r) = false)
    (h3 : Source.unknownElement (Source.norm r) = false)
    (u1 : Source.dupTable (Source.norm r) = false) (u2 : Source.illTypedCall (Source.norm r) = false) :
    construct structEqv r =
      if Source.wf (Source.norm r) then Except.ok (Source.norm r) else Except.error CtorErr.grammar := by
  obtain ⟨hr, ht⟩ := Source.resolvable_tame_of_outside_regions _ h1 h2 h3 u1 u2
  rw [C07_denotation_construct r ht]
  exact C07_construct_eq _ (Source.normal_norm r) ht hr

/-- … and, if the statement's own outputs are named and distinct, `.schema` lists their names and kinds in order -/
theorem C07_schema_outside_findings (r : RawStmt)
    (h1 : Source.unnamedAt (Source.norm r) = false) (h2 : Source.duplicateAt (Source.norm r) = false)
    (h3 : Source.unknownElement (Source.norm r) = false)
    (u1 : Source.dupTable (Source.norm r) = false) (u2 : Source.illTypedCall (Source.norm r) = false)
    (hp : Source.plainN (Source.norm r) = true) (hw : WellFormed (Source.norm r)) :
    ∃ S, (Source.norm r).schemaOf = Except.ok S ∧ (Source.norm r).schemaS = some S := by
  obtain ⟨hr, ht⟩ := Source.resolvable_tame_of_outside_regions _ h1 h2 h3 u1 u2
  have hpl : Source.plain (Source.norm r) = true := by
    rw [Source.plain_eq_plainN_and_kinded, hp, Bool.true_and]
    exact Source.kinded_of_resolvable _ hr
  exact C07_schema_partial _ (Source.normal_norm r) ht hpl _ (C07_conforming_never_raises _ (Source.normal_norm r) ht hw)

example : Source.unnamedAt unnamedSet = true ∧ Source.duplicateAt unnamedSet = false ∧ Source.unknownElement unnamedSet = false ∧
    Source.dupTable unnamedSet = false ∧ Source.illTypedCall unnamedSet = false := by decide +kernel
example : Source.duplicateAt collapsedSet = true ∧ Source.unnamedAt collapsedSet = false ∧ Source.unknownElement collapsedSet = false ∧
    Source.dupTable collapsedSet = false ∧ Source.illTypedCall collapsedSet = false := by decide +kernel
example : Source.unknownElement unknownCompared = true ∧ Source.unnamedAt unknownCompared = false ∧
    Source.duplicateAt unknownCompared = false ∧ Source.dupTable unknownCompared = false ∧
    Source.illTypedCall unknownCompared = false ∧ Source.tame unknownCompared = true := by decide +kernel
-- an un-named output / equal names that no schema lookup meets are outside the regions: the theorems apply
example : Source.unnamedAt unnamedQuery = false ∧ Source.tame unnamedQuery = true ∧
    Source.duplicateAt (q equalNamesJoin [sId]) = false ∧ Source.tame (q equalNamesJoin [sId]) = true := by decide +kernel
-- `unkindedAt` is reached through an ill-typed call below a reference
example : Source.dupTable (.table "D" [("x", .integer), ("x", .string)]) = true ∧
    Source.illTypedCall (q tStudent [.expr .add (fs [sId])]) = true ∧ Source.illTypedCall (q tStudent [bin .add (.expr .rownumber .nil) lit1]) = true ∧
    Source.unkindedAt (.ref (q tStudent [.alias (.expr .add (fs [])) "x"]) "r") = true := by decide +kernel
-- everything of `everything` is outside all regions
example : Source.unnamedAt everything = false ∧ Source.duplicateAt everything = false ∧ Source.unknownElement everything = false ∧
    Source.dupTable everything = false ∧ Source.illTypedCall everything = false ∧ Source.norm everything = everything := by decide +kernel

/-- an aggregate or a window below any number of aliases, casts and operands stays visible -/
theorem C07_cumulative_any_depth (c : Ctx) (f : Feature) :
    (f.hasAggregate = true → (c.plug f).hasAggregate = true) ∧ (f.hasWindow = true → (c.plug f).hasWindow = true) :=
  ⟨any_nodes_plug _ c f, any_nodes_plug _ c f⟩

/-- no aggregate and no window anywhere in a where-condition -/
theorem C07_where_refuses_cumulative (c : Ctx) (f : Feature) (h : f.isCumulative = true) (s : Source) (sel grp : Features)
    (post : FeatureOpt) (ord : Orderings) (rows : Option Rows) :
    ¬ WellFormed (.query s sel (.some (c.plug f)) grp post ord rows) := by
  simp [WellFormed, Source.wf, queryRule, filterRule, cumulative_plug c f h]

/-- … in a grouping term -/
theorem C07_grouping_refuses_cumulative (c : Ctx) (f : Feature) (h : f.isCumulative = true) (s : Source) (sel : Features)
    (pre : FeatureOpt) (before after : List Feature) (post : FeatureOpt) (ord : Orderings) (rows : Option Rows) :
    ¬ WellFormed (.query s sel pre (Features.ofList (before ++ c.plug f :: after)) post ord rows) := by
  intro hw
  simp only [WellFormed, Source.wf, queryRule, Bool.and_eq_true, Features.toList_ofList, List.all_eq_true] at hw
  simpa [cumulative_plug c f h] using hw.2.1.1.1.2 (c.plug f) (by simp)

/-- … in a join condition -/
theorem C07_join_refuses_cumulative (c : Ctx) (f : Feature) (h : f.isCumulative = true) (l r : Source) (k : JoinKind) :
    ¬ WellFormed (.join l r k (.some (c.plug f))) := by
  simp [WellFormed, Source.wf, joinRule, cumulative_plug c f h]

/-- no window anywhere in a having-condition (an aggregate is fine there) -/
theorem C07_having_refuses_window (c : Ctx) (f : Feature) (h : f.isWindow = true) (s : Source) (sel : Features)
    (pre : FeatureOpt) (grp : Features) (ord : Orderings) (rows : Option Rows) :
    ¬ WellFormed (.query s sel pre grp (.some (c.plug f)) ord rows) := by
  have hw : (c.plug f).hasWindow = true := any_nodes_plug_self _ c f h
  simp [WellFormed, Source.wf, queryRule, filterRule, hw]

-- `deep.plug f` is `abs(f + 1) * 1 > 1`
def deep : Ctx := .arg .gt [] (.arg .mul [] (.arg .abs [] (.arg .add [] .hole [lit1]) []) [lit1]) [lit1]
example : deep.depth = 4 ∧ construct structEqv (q tStudent [sId] (.some (deep.plug (un .sum sScore)))) = Except.error CtorErr.grammar ∧
    construct structEqv (q tStudent [sId] .none [] (.some (deep.plug (un .sum sScore)))) =
      Except.ok (q tStudent [sId] .none [] (.some (deep.plug (un .sum sScore)))) ∧
    construct structEqv (q tStudent [sId] .none [] (.some (deep.plug (.window (un .sum sScore) (fs [sId]) .nil)))) =
      Except.error CtorErr.grammar := by decide +kernel
-- aggregates nest freely inside one another and inside windows (no rule forbids it)
example : WellFormed (q tStudent [un .sum (un .sum sScore), .window (un .sum (.window (.expr .rownumber .nil) (fs [sId]) .nil)) (fs [sName]) .nil]) := by decide +kernel

/-- the row limit takes no part in any check -/
theorem C07_rows_irrelevant (eqv : Feature → Feature → Bool) (s : Source) (sel : Features) (pre : FeatureOpt) (grp : Features)
    (post : FeatureOpt) (ord : Orderings) (rows rows' : Option Rows) :
    (construct eqv (.query s sel pre grp post ord rows)).isOk = (construct eqv (.query s sel pre grp post ord rows')).isOk ∧
    Source.wf (.query s sel pre grp post ord rows) = Source.wf (.query s sel pre grp post ord rows') := by
  refine ⟨?_, rfl⟩
  simp only [construct, Source.construct]
  exact isOk_bind_congr fun _ => isOk_bind_congr fun _ => isOk_bind_congr fun _ => isOk_bind_congr fun _ =>
    isOk_bind_congr fun _ => isOk_bind_congr fun _ => isOk_bind_congr fun _ => rfl

end ForML.Dsl
