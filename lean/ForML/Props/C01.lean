/-
C01 — Compiled instruction table preserves the task-graph dataflow.

Objects (all executable, `ForML/Model`):
  `compile g A order`   model of `flow.compile` (forml/flow/_code/compiler.py `Table.add/Linkage/Index/__iter__`)
                        over an explicit visit order (`Traversal.each`),
  `run A t`             the reference interpreter (memoised, dependency ordered) of a symbol table,
  `nodeVal/commitVal`   direct evaluation of the task graph (`GraphEval`, written from the property text),
  `specTable g A`       the table a segment denotes, written declaratively (`CompileSpec`).

The property, for a compiled table `t`, is `Preserves g A t` below.
-/
import ForML.Model.Compile
import ForML.Lemmas.C01Sem
import ForML.Lemmas.C01Compile
import ForML.Lemmas.C01Rerun
import ForML.Lemmas.C01Traversal
import ForML.Lemmas.C01Construct
import ForML.Lemmas.C01Faults

namespace ForML.Flow
open Segment

/-- What C01 demands of a table `t` compiled from segment `g` with asset accessor `A`. -/
structure Preserves (g : Segment) (A : Option Assets) (t : Table) : Prop where
  /-- executing the table yields, at the functor of every worker (in particular at every sink), exactly the value of
  direct graph evaluation: inputs in port order, multi-output workers split per port, the trained sibling's state of
  the same run / the stored state at the group's list position preset -/
  values : ∀ w ∈ g.workers, (run A t).get (.uid w.uid) = some (g.nodeVal A g.evalFuel w.uid)
  /-- no instruction is executed twice … -/
  once : (run A t).trace.Nodup
  /-- … every instruction of the table is executed, nothing else is -/
  all : ∀ k, k ∈ (run A t).trace ↔ ∃ s ∈ t, s.id = k
  /-- the table holds every instruction once -/
  distinct : (t.map (·.id)).Nodup
  /-- the functors of the table are exactly the tasks of the workers: one per worker … -/
  tasks : ∀ w ∈ g.workers, g.functorSym A w ∈ t
  /-- … and no other -/
  functors : ∀ s ∈ t, (∃ a act ps, s.instr = .functor a act ps) → ∃ w ∈ g.workers, s = g.functorSym A w
  /-- new generation: committed exactly when a persistent group is trained here, the dumped states of the trainers
  at the list positions of their groups; otherwise nothing is committed -/
  commit : match g.commitVal A with
    | some c => (run A t).get .committer = some c
    | none => ∀ s ∈ t, s.id ≠ Key.committer

/-- the reference interpreter on any acyclic table: the memoising executor computes the denotation `Table.value` of
every instruction (C02 speaks about the same denotation) -/
theorem C01_run_is_value (A : Option Assets) (t : Table) (r : Key → Nat) (hr : t.Ranked r) (s : Symbol) (hs : s ∈ t) :
    (run A t).get s.id = some (Table.value A t t.fuel s.id) := run_get A hr hs

/-- every instruction of an acyclic table is executed exactly once, and nothing else -/
theorem C01_run_exactly_once (A : Option Assets) (t : Table) (r : Key → Nat) (hr : t.Ranked r) :
    (run A t).trace.Nodup ∧ ∀ k, k ∈ (run A t).trace ↔ ∃ s ∈ t, s.id = k :=
  ⟨run_trace_nodup A hr, run_trace_mem A hr⟩

/-- the default fuel is enough for every acyclic table, of any size -/
theorem C01_value_fuel (A : Option Assets) (t : Table) (r : Key → Nat) (hr : t.Ranked r) (k : Key) (f : Nat)
    (hf : t.fuel ≤ f) : Table.value A t f k = Table.value A t t.fuel k := Table.value_fuel A hr k f hf

/-- **Any table with the symbols of `specTable g A` preserves the dataflow of `g`** (all well-formed segments, all
compatible asset accessors, no bound on size). -/
theorem C01_denoted_table_preserves (g : Segment) (A : Option Assets) (rank : Uid → Nat) (t : Table)
    (hwf : g.wf rank = true) (hA : g.assetsOK A = true) (hd : Denotes g A t) (hnd : (t.map (·.id)).Nodup) :
    Preserves g A t := by
  have h := wf_WF hwf
  have hA' := assetsOK_AssetsOK hA
  have hr := hd.ranked h
  have hfun : ∀ w ∈ g.workers, g.functorSym A w ∈ t :=
    fun w hw => (hd _).mpr (mem_specTable.mpr (Or.inl ⟨w, hw, rfl⟩))
  refine ⟨?_, run_trace_nodup A hr, run_trace_mem A hr, hnd, hfun, ?_, ?_⟩
  · intro w hw
    have := run_get A hr (hfun w hw)
    rw [show (g.functorSym A w).id = Key.uid w.uid from rfl, hd.value_uid h hA' hw] at this
    exact this
  · rintro s hs ⟨a, act, ps, hi⟩
    rcases mem_specTable.mp ((hd s).mp hs) with hw | ⟨w, _, h'⟩ | h' | h' | h'
    · exact hw
    · obtain ⟨_, _, i, _, _, rfl⟩ := mem_getterSyms.mp h'; cases hi
    · obtain ⟨_, γ, _, _, _, rfl⟩ := mem_loaderSyms.mp h'; cases hi
    · obtain ⟨w, _, _, _, rfl⟩ := mem_dumperSyms.mp h'; cases hi
    · obtain ⟨_, _, _, rfl⟩ := mem_committerSyms.mp h'; cases hi
  · cases hc : g.commitVal A with
    | none => exact hd.no_commit hc
    | some c =>
      obtain ⟨⟨s, hs, hid⟩, hv⟩ := hd.value_commit h hA' hc
      have := run_get A hr hs
      rw [hid, hv] at this
      exact this

theorem C01_describes_denotes {g : Segment} {A : Option Assets} {t : Table} (h : g.describes A t = true) :
    Denotes g A t ∧ (t.map (·.id)).Nodup := by
  simp only [describes, Bool.and_eq_true, List.all_eq_true, List.contains_iff_mem, allDistinct_iff_nodup] at h
  exact ⟨fun s => ⟨h.1.1 s, h.1.2 s⟩, h.2⟩

theorem C01_denotes_describes {g : Segment} {A : Option Assets} {t : Table} (hd : Denotes g A t)
    (hnd : (t.map (·.id)).Nodup) : g.describes A t = true := by
  simp only [describes, Bool.and_eq_true, List.all_eq_true, List.contains_iff_mem, allDistinct_iff_nodup]
  exact ⟨⟨fun s hs => (hd s).mp hs, fun s hs => (hd s).mpr hs⟩, hnd⟩

/-- Translation validation (what the driver evaluates on every explored case): an output of the compiler model that
passes the executable validator `describes` preserves the dataflow. -/
theorem C01_dataflow_validated (g : Segment) (A : Option Assets) (rank : Uid → Nat) (order : List Uid)
    (t : Table) (hwf : g.wf rank = true) (hA : g.assetsOK A = true) (_hc : compile g A order = .ok t)
    (hv : g.describes A t = true) : Preserves g A t :=
  C01_denoted_table_preserves g A rank t hwf hA (C01_describes_denotes hv).1 (C01_describes_denotes hv).2

/-- **The compiler model produces, for every visit order, exactly the denoted table (up to symbol order), every
instruction once**: no assertion of `Table.add` / `Linkage.insert` / `Index.set` / `__iter__` fires, arguments are
linked by subscriber port, getters by output port, stub getters pruned, loader re-keyed, committer by list position. -/
theorem C01_compile_denotes (g : Segment) (A : Option Assets) (rank : Uid → Nat) (order : List Uid)
    (hwf : g.wf rank = true) (hA : g.assetsOK A = true) (hp : order.Perm g.uids) :
    ∃ t, compile g A order = .ok t ∧ g.describes A t = true := by
  obtain ⟨t, hc, hd, hnd⟩ := compile_denotes hwf hA hp
  exact ⟨t, hc, C01_denotes_describes hd hnd⟩

/-- **C01 at full strength** (all segment topologies, all visit orders, all persistent lists compatible with the segment
— `assetsOK`: duplicate free, its groups trained here all or none, a stateful member whose group is trained outside the
segment is in the list; unbounded): compiling succeeds and executing the compiled table yields at every worker exactly
the value of direct graph evaluation, every instruction runs exactly once, functors correspond one-to-one to workers,
and the new generation is committed with the trainers' states at their groups' list positions. (Model of the code with
fix C01-F1: `Linkage.leaves` accepts an empty linkage.) -/
theorem C01_dataflow (g : Segment) (A : Option Assets) (rank : Uid → Nat) (order : List Uid)
    (hwf : g.wf rank = true) (hA : g.assetsOK A = true) (hp : order.Perm g.uids) :
    ∃ t, compile g A order = .ok t ∧ Preserves g A t := by
  obtain ⟨t, hc, hd, hnd⟩ := compile_denotes hwf hA hp
  exact ⟨t, hc, C01_denoted_table_preserves g A rank t hwf hA hd hnd⟩

theorem preserves_of_compile {g : Segment} {A : Option Assets} {rank : Uid → Nat} {order : List Uid} {t : Table}
    (hwf : g.wf rank = true) (hA : g.assetsOK A = true) (hp : order.Perm g.uids) (hc : compile g A order = .ok t) :
    Preserves g A t :=
  C01_denoted_table_preserves g A rank t hwf hA (denotes_of_compile hwf hA hp hc).1 (denotes_of_compile hwf hA hp hc).2

/-- **`Traversal.each` never raises `Cyclic`**, on any graph (cyclic or not, well-formed or not): the model with the
recursion path (`Traversal.members`) and the `Cyclic` test of `Traversal.subscribers` is the plain search — every node
of the path is in the global `seen` set and that mask is tested first (`continue`) -/
theorem C01_traversal_never_cyclic (g : Segment) : g.each = .ok g.visitOrder := each_eq g

/-- **`Traversal.each` calls the acceptor exactly once for every node reachable from the head along subscriptions, not
continuing past the tail except into trained subscribers, and for nothing else** — for every segment whose
subscriptions stay inside the listed workers (`closed`, a part of `wf`); no acyclicity is needed, the default fuel
always suffices -/
theorem C01_traversal_enumerates (g : Segment) (h : g.closed = true) :
    g.visitOrder.Nodup ∧ (∀ x ∈ g.visitOrder, x ∈ g.uids) ∧ ∀ x, x ∈ g.visitOrder ↔ Reach g.followed g.head x :=
  visitOrder_spec h

/-- the listed members of a well-formed segment are all reachable iff the decidable `connected` holds (every listed
member but the head has a subscription through which the traversal follows it) … -/
theorem C01_members_reachable (g : Segment) (rank : Uid → Nat) (hwf : g.wf rank = true) :
    g.connected = true ↔ ∀ x ∈ g.uids, Reach g.followed g.head x := connected_iff_reach hwf

/-- … which is exactly when the traversal enumerates the listed members, each once -/
theorem C01_traversal_perm (g : Segment) (rank : Uid → Nat) (hwf : g.wf rank = true) :
    g.connected = true ↔ g.visitOrder.Perm g.uids :=
  ⟨visitOrder_perm hwf, connected_of_perm hwf⟩

/-- **C01 for the order in which `Traversal.each` feeds the compiler** — no hypothesis on the visit order: for every
well-formed segment whose listed members are the reachable ones, the traversal succeeds, the compiler fed in its order
succeeds and the compiled table preserves the dataflow -/
theorem C01_dataflow_traversal (g : Segment) (A : Option Assets) (rank : Uid → Nat)
    (hwf : g.wf rank = true) (hA : g.assetsOK A = true) (hc : g.connected = true) :
    ∃ o t, g.each = .ok o ∧ compile g A o = .ok t ∧ Preserves g A t := by
  obtain ⟨t, hct, hp⟩ := C01_dataflow g A rank g.visitOrder hwf hA (visitOrder_perm hwf hc)
  exact ⟨g.visitOrder, t, each_eq g, hct, hp⟩

/-- **`flow.Segment(head, tail)` accepts every well-formed connected segment**: the head is simple (it cannot be trained),
the tail search of `Traversal.tail(expected)` — no global `seen` set, `Cyclic` when a subscriber is on the current path,
`any` stopping at the first hit — neither raises nor misses the tail, the tail is simple. So the segments the theorems
quantify over are segments the constructor lets through. -/
theorem C01_segment_accepted (g : Segment) (rank : Uid → Nat) (hwf : g.wf rank = true) (hc : g.connected = true) :
    g.construct = .ok () := construct_ok hwf hc

/-- `wf` alone does not make the *listed* workers the members: the statement without `connected` … -/
def C01_traversal_listed_full : Prop :=
  ∀ (g : Segment) (rank : Uid → Nat), g.wf rank = true → g.visitOrder.Perm g.uids

/-- … fails on a listed source (no input port) that nothing connects to the head -/
def strayWorker : Segment := ⟨[⟨0, 0, 0, false, 1, 1⟩, ⟨1, 1, 1, false, 0, 1⟩], [], 0, 0, []⟩

theorem C01_traversal_listed_counterexample : ¬ C01_traversal_listed_full := by
  intro h
  have := (h strayWorker (fun _ => 0) (by decide +kernel)).length_eq
  revert this
  decide +kernel

/-- what does hold without `connected`: the traversal visits a duplicate-free sub-list of the listed workers -/
theorem C01_traversal_listed_partial (g : Segment) (rank : Uid → Nat) (hwf : g.wf rank = true) :
    g.visitOrder.Nodup ∧ ∀ x ∈ g.visitOrder, x ∈ g.uids :=
  ⟨(visitOrder_spec (wf_closed hwf)).1, (visitOrder_spec (wf_closed hwf)).2.1⟩

/-- non-vacuity of the enumeration theorem on a *cyclic* graph (1 → 2 → 1) with a node (3) fed by the tail only: no
`Cyclic`, every reachable node once, the tail's plain subscriber is not a member while its trained one (4) is -/
def cyclicDemo : Segment :=
  ⟨[⟨0, 0, 0, false, 1, 1⟩, ⟨1, 1, 1, false, 2, 2⟩, ⟨2, 2, 2, false, 1, 1⟩, ⟨5, 5, 5, false, 1, 1⟩, ⟨3, 3, 3, false, 1, 1⟩,
    ⟨4, 4, 4, true, 1, 1⟩],
   [⟨0, 0, 1, .apply 0⟩, ⟨1, 0, 2, .apply 0⟩, ⟨2, 0, 1, .apply 1⟩, ⟨1, 1, 5, .apply 0⟩, ⟨5, 0, 3, .apply 0⟩,
    ⟨5, 0, 4, .train⟩, ⟨0, 0, 4, .label⟩],
   0, 5, []⟩

example : cyclicDemo.closed = true := by decide +kernel
example : cyclicDemo.each = .ok [0, 1, 2, 5, 4] := by rfl
/-- … while the constructor, which meets the cycle before the tail, raises `Cyclic` -/
example : cyclicDemo.construct = .error .cyclic := by rfl

/-- the visit order is irrelevant: two traversals yield the same symbols -/
theorem C01_order_irrelevant (g : Segment) (A : Option Assets) (rank : Uid → Nat) (o₁ o₂ : List Uid) (t₁ t₂ : Table)
    (hwf : g.wf rank = true) (hA : g.assetsOK A = true)
    (hp₁ : o₁.Perm g.uids) (hp₂ : o₂.Perm g.uids) (h₁ : compile g A o₁ = .ok t₁) (h₂ : compile g A o₂ = .ok t₂) :
    t₁.Perm t₂ := by
  obtain ⟨hd₁, hn₁⟩ := denotes_of_compile hwf hA hp₁ h₁
  obtain ⟨hd₂, hn₂⟩ := denotes_of_compile hwf hA hp₂ h₂
  rw [List.perm_ext_iff_of_nodup (nodup_of_nodup_map _ hn₁) (nodup_of_nodup_map _ hn₂)]
  intro s
  rw [hd₁ s, hd₂ s]

/-- positions: the committer's `i`-th argument is the dumper of the trainer of the `i`-th persistent group; the
loader of the `i`-th persistent group yields the `i`-th state of the previous generation -/
theorem C01_positions (g : Segment) (As : Assets) (rank : Uid → Nat) (order : List Uid) (t : Table)
    (hwf : g.wf rank = true) (hA : g.assetsOK (some As) = true)
    (hp : order.Perm g.uids) (hc : compile g (some As) order = .ok t) :
    (∀ (s : Symbol), s ∈ t → s.id = Key.committer → ∀ (i : Nat) (γ : Gid), As.persistent[i]? = some γ →
        ∃ tw, g.trainerOf γ = some tw ∧ s.args[i]? = some (Key.dumper tw.uid)) ∧
    (∀ (s : Symbol), s ∈ t → ∀ (γ : Gid), s.id = Key.loader γ → ∀ (i : Nat), As.persistent[i]? = some γ →
        (run (some As) t).get (.loader γ) = some (As.prev.getD i .none)) := by
  obtain ⟨hd, hnd⟩ := denotes_of_compile hwf hA hp hc
  have h := wf_WF hwf
  have hA' := assetsOK_AssetsOK hA
  constructor
  · intro s hs hid i γ hγ
    obtain ⟨As', hAs, ⟨w, hw, hT, hP⟩, rfl⟩ := mem_committerSyms.mp (spec_committer ((hd s).mp hs) hid)
    cases hAs
    have hall := hA'.all_trained_of_trainer h rfl hw hT hP
    obtain ⟨tw, htw⟩ := Option.isSome_iff_exists.mp (hall γ (List.mem_of_getElem? hγ))
    refine ⟨tw, htw, ?_⟩
    simp only
    rw [filterMap_eq_map (h := fun γ => match g.trainerOf γ with | some t => Key.dumper t.uid | none => Key.committer)
      (fun γ' hγ' => by
        obtain ⟨tw', htw'⟩ := Option.isSome_iff_exists.mp (hall γ' hγ')
        simp [htw'])]
    rw [List.getElem?_map, hγ]
    simp [htw]
  · intro s hs γ hid i hγ
    have hsym := spec_loader ((hd s).mp hs) hid
    subst hsym
    have hr := hd.ranked (A := some As) h
    have hv := run_get (some As) hr hs
    simp only at hv
    rw [hv, hd.value_loader h rfl ((hd _).mp hs)]
    simp only [Assets.load, Assets.offset, indexOf_of_get (hA'.nodup As rfl) hγ]

/-- **Re-execution**: instructions carry no state across executions. The `j`-th execution of a compiled table against
the evolving store (`asset.State.commit` replaces the generation: execution `j` sees what execution `j-1` committed)
*is* the execution of a fresh compilation against the store of that moment, and preserves the dataflow of the
segment with that store: the previous states preset are those of the latest committed generation, every time. -/
theorem C01_rerun (g : Segment) (A : Option Assets) (rank : Uid → Nat) (order : List Uid) (t : Table)
    (hwf : g.wf rank = true) (hA : g.assetsOK A = true) (hp : order.Perm g.uids)
    (hc : compile g A order = .ok t) (j : Nat) :
    (runSeq A t (j + 1))[j]? = some (run (storeSeq A t j) t) ∧
    compile g (storeSeq A t j) order = .ok t ∧ Preserves g (storeSeq A t j) t := by
  have hs := sameP_storeSeq A t j
  have hc' : compile g (storeSeq A t j) order = .ok t := by rw [← compile_congr g hs order]; exact hc
  exact ⟨by simp [runSeq], hc', preserves_of_compile hwf (by rw [← assetsOK_congr g hs]; exact hA) hp hc'⟩

/-- … and whatever happened to the store in between (commits of the table itself, commits from outside, refused
commits with more or fewer states than persistent groups, a previous generation longer or shorter than the persistent
list): against **any** store with the same persistent list the compiled table is the fresh compilation and preserves
the dataflow of the segment with that store -/
theorem C01_rerun_any_store (g : Segment) (A A' : Option Assets) (rank : Uid → Nat) (order : List Uid) (t : Table)
    (hwf : g.wf rank = true) (hA : g.assetsOK A = true) (hp : order.Perm g.uids)
    (hc : compile g A order = .ok t) (hs : SameP A A') :
    compile g A' order = .ok t ∧ Preserves g A' t := by
  have hc' : compile g A' order = .ok t := by rw [← compile_congr g hs order]; exact hc
  exact ⟨hc', preserves_of_compile hwf (by rw [← assetsOK_congr g hs]; exact hA) hp hc'⟩

/-- a commit from outside with a wrong number of states leaves the store as it was; one with the right number
replaces the previous generation; either way the persistent list is the same -/
theorem C01_external_commit (As : Assets) (vs : List Val) :
    SameP (some As) (some (commitExternal As vs)) ∧
    (vs.length ≠ As.persistent.length → commitExternal As vs = As) ∧
    (vs.length = As.persistent.length → commitExternal As vs = { As with prev := vs.map undump }) :=
  ⟨sameP_commitExternal As vs, commitExternal_refused As vs, commitExternal_accepted As vs⟩

/-- **The committed generation has one state id per persistent group, at the group's list position, whatever the
trained states are** — truthy, falsy (`b''`, `0`, an empty sequence: `Actor.falsyState`) or `None`: whenever a
persistent group is trained in the segment, the committer of the compiled table yields `committed vs` with `vs` as long
as the persistent list, and `vs[i]` is the *dumped* state of the trainer of `persistent[i]` (never a hole). -/
theorem C01_commit_every_position (g : Segment) (As : Assets) (rank : Uid → Nat) (t : Table)
    (hwf : g.wf rank = true) (hA : g.assetsOK (some As) = true) (hp : Preserves g (some As) t)
    (hany : ∃ γ ∈ As.persistent, (g.trainerOf γ).isSome) :
    ∃ vs, (run (some As) t).get .committer = some (.committed vs) ∧ vs.length = As.persistent.length ∧
      ∀ (i : Nat) (γ : Gid), As.persistent[i]? = some γ →
        ∃ tw, g.trainerOf γ = some tw ∧ vs[i]? = some (.dumped (g.nodeVal (some As) g.evalFuel tw.uid)) := by
  have hA' := assetsOK_AssetsOK hA
  obtain ⟨γ₀, hγ₀, hs₀⟩ := hany
  have hall := hA'.all_trained rfl hγ₀ hs₀
  have hc := hp.commit
  rw [commitVal_trained hγ₀ hs₀] at hc
  simp only [Assets.commit, List.length_map, if_true] at hc
  refine ⟨_, hc, by simp, ?_⟩
  intro i γ hγ
  obtain ⟨tw, htw⟩ := Option.isSome_iff_exists.mp (hall γ (List.mem_of_getElem? hγ))
  refine ⟨tw, htw, ?_⟩
  rw [List.getElem?_map, hγ]
  simp [htw]

/-- what the flow layer does with a falsy state: the dumper dumps it like any other (`dumped v`), while an actor that
is offered it as a preset keeps the state it was built with (`Preset.reduce` skips a falsy value) -/
theorem C01_falsy_state (A : Option Assets) (As : Assets) (a : Actor) (v : Val) (xs : List Val) (hv : v.truthy = false) :
    exec (some As) .dumper [v] = .dumped v ∧
    exec A (.functor a .apply [.setState]) (v :: xs) = .apply a .none xs := by
  refine ⟨rfl, ?_⟩
  rw [exec_apply_preset]
  simp [Val.asState, hv]

/-- non-vacuity: the group (gid 1) of actor 2002 in `falsyDemo` trains a *falsy* state (`Actor.falsyState`), fed by a
head (actor 1000) whose output is falsy (`Actor.falsyOut`), with a falsy stored previous state: the state is dumped and
committed at position 0 although it is falsy, while the applied fork holds no state and the trainer starts from no
state -/
def falsyDemo : Segment :=
  ⟨[⟨0, 0, 1000, false, 0, 1⟩, ⟨1, 1, 2002, true, 1, 1⟩, ⟨2, 1, 2002, true, 1, 1⟩],
   [⟨0, 0, 1, .apply 0⟩, ⟨0, 0, 2, .train⟩, ⟨0, 0, 2, .label⟩], 0, 1, []⟩

def falsyAssets : Option Assets := some ⟨[1], [.stored 1000]⟩

example : Actor.falsyOut 1000 = true ∧ Actor.falsyOut 2002 = false ∧ Actor.falsyState 2002 = true ∧
    (Val.stored 1000).truthy = false ∧ (Val.stored 0).truthy = true := by decide +kernel
example : falsyDemo.wf (fun u => if u = 0 then 0 else if u = 2 then 1 else 2) = true := by decide +kernel
example : falsyDemo.assetsOK falsyAssets = true := by decide +kernel
example : falsyDemo.connected = true := by decide +kernel
example : (match compile falsyDemo falsyAssets falsyDemo.visitOrder with
    | .ok t => ((run falsyAssets t).get .committer, (run falsyAssets t).get (.uid 1))
    | .error _ => (none, none)) =
    (some (.committed [.dumped (.state 2002 .none (.apply 1000 .none []) (.apply 1000 .none []))]),
     some (.apply 2002 .none [.apply 1000 .none []])) := by rfl

/-- **Every compilation denotes the graph as it is at that moment**: for any sequence of rounds — the same head and
tail with workers, forks, trainers, subscriptions added in between, or any other segments; each with the store of its
moment — every round's traversal succeeds, its compilation succeeds and the table preserves the dataflow of *that*
round's graph. (`compile` is a function of the whole graph; nothing of an earlier round enters.) -/
theorem C01_recompile (rounds : List (Segment × Option Assets)) (rank : Segment → Uid → Nat)
    (h : ∀ r ∈ rounds, r.1.wf (rank r.1) = true ∧ r.1.assetsOK r.2 = true ∧ r.1.connected = true) :
    ∀ r ∈ rounds, ∃ o t, r.1.each = .ok o ∧ compile r.1 r.2 o = .ok t ∧ Preserves r.1 r.2 t :=
  fun r hr => C01_dataflow_traversal r.1 r.2 (rank r.1) (h r hr).1 (h r hr).2.1 (h r hr).2.2

/-- the statement a cache keyed by the segment's boundary would need: a table compiled for one graph serves every
well-formed graph between the same head and tail … -/
def C01_compile_by_boundary_full : Prop :=
  ∀ (g₁ g₂ : Segment) (A : Option Assets) (r₁ r₂ : Uid → Nat) (t : Table),
    g₁.head = g₂.head → g₁.tail = g₂.tail → g₁.wf r₁ = true → g₂.wf r₂ = true → g₂.connected = true →
    g₂.assetsOK A = true → compile g₁ A g₁.visitOrder = .ok t → Preserves g₂ A t

/-- source → stateful scaler → sink … -/
def stage1 : Segment :=
  ⟨[⟨0, 0, 0, false, 0, 1⟩, ⟨1, 1, 1, true, 1, 1⟩, ⟨2, 2, 2, false, 1, 1⟩],
   [⟨0, 0, 1, .apply 0⟩, ⟨1, 0, 2, .apply 0⟩], 0, 2, []⟩

/-- … and the same head and tail after the trained fork of the scaler has been attached -/
def stage2 : Segment :=
  ⟨[⟨0, 0, 0, false, 0, 1⟩, ⟨1, 1, 1, true, 1, 1⟩, ⟨2, 2, 2, false, 1, 1⟩, ⟨3, 1, 1, true, 1, 1⟩],
   [⟨0, 0, 1, .apply 0⟩, ⟨1, 0, 2, .apply 0⟩, ⟨0, 0, 3, .train⟩, ⟨0, 0, 3, .label⟩], 0, 2, []⟩

/-- … is false: the table of `stage1` has no task for the trainer of `stage2` (and applies the scaler without state) -/
theorem C01_compile_by_boundary_counterexample : ¬ C01_compile_by_boundary_full := by
  intro h
  have hp := h stage1 stage2 none (fun u => u) (fun u => if u = 3 then 1 else if u = 0 then 0 else u + 1)
    [⟨.uid 0, .functor 0 .apply [], []⟩, ⟨.uid 1, .functor 1 .apply [], [.uid 0]⟩,
     ⟨.uid 2, .functor 2 .apply [], [.uid 1]⟩]
    rfl rfl (by decide +kernel) (by decide +kernel) (by decide +kernel) (by decide +kernel) rfl
  have := hp.tasks ⟨3, 1, 1, true, 1, 1⟩ (by decide +kernel)
  revert this
  decide +kernel

/-- what does hold: a compiled table serves the graph it was compiled from -/
theorem C01_compile_by_boundary_partial (g : Segment) (A : Option Assets) (rank : Uid → Nat) (t : Table)
    (hwf : g.wf rank = true) (hA : g.assetsOK A = true) (hc : g.connected = true)
    (hct : compile g A g.visitOrder = .ok t) : Preserves g A t :=
  preserves_of_compile hwf hA (visitOrder_perm hwf hc) hct

/-- `Loader.execute` against an accessor that may fail (`Store.loader`): it returns a value exactly for a stored state
and for the documented `MissingError` (→ `none`: "no state"); every other refusal raises; and the abstract store of the
interpreter (`Store.toAssets`) holds that value resp. the error value in its place -/
theorem C01_loader_outcomes (S : Store) (γ : Gid) (i : Nat) (hi : indexOf γ S.persistent = some i) :
    (S.outcomes[i]? = none → S.loader γ = .ok .none) ∧
    (S.outcomes[i]? = some .missing → S.loader γ = .ok .none) ∧
    (∀ v, S.outcomes[i]? = some (.state v) → S.loader γ = .ok v) ∧
    (S.outcomes[i]? = some .refused → S.loader γ = .error .assetRefused) ∧
    (S.outcomes[i]? = some .crashed → S.loader γ = .error .assetCrashed) ∧
    (match S.loader γ with | .ok v => v | .error e => .error e) = S.toAssets.load γ := by
  exact ⟨fun h => by simp only [Store.loader, hi, h], fun h => by simp only [Store.loader, hi, h],
    fun v h => by simp only [Store.loader, hi, h], fun h => by simp only [Store.loader, hi, h],
    fun h => by simp only [Store.loader, hi, h], Store.loader_toAssets S γ⟩

/-- **A refused load fails the run and nothing is committed**: when the accessor answers the load of a persistent
group that has a stateful member in the segment with anything but a state or `MissingError`, executing the compiled
table raises (`runFails`) — the member that is handed the loaded state (the group's trainer, else its applied
members) is never computed — and no generation is committed. In particular the actor is *not* run without its state. -/
theorem C01_refused_load_fails (g : Segment) (As : Assets) (rank : Uid → Nat) (t : Table)
    (hwf : g.wf rank = true) (hp : Preserves g (some As) t)
    (w : Worker) (hw : w ∈ g.workers) (hst : w.stateful = true) (hc : As.contains w.gid = true)
    (e : RunErr) (hl : As.load w.gid = .error e) :
    runFails (some As) t = true ∧ committedStates (some As) t = none := by
  obtain ⟨x, hx, _, he⟩ := consumer_hasError (wf_WF hwf) hw hst hc hl
  have hmem := lookupVal_mem (hp.values x hx)
  have hf : runFails (some As) t = true := by
    simp only [runFails, List.any_eq_true]
    exact ⟨_, hmem, he⟩
  exact ⟨hf, by simp [committedStates, hf]⟩

/-- … and in a training segment the committer itself is downstream of the refused load: the value it would commit
carries the error, i.e. `State.commit` is never called -/
theorem C01_refused_load_blocks_commit (g : Segment) (As : Assets) (rank : Uid → Nat) (t : Table)
    (hwf : g.wf rank = true) (hA : g.assetsOK (some As) = true) (hp : Preserves g (some As) t)
    (w : Worker) (hw : w ∈ g.workers) (hst : w.stateful = true) (hc : As.contains w.gid = true)
    (e : RunErr) (hl : As.load w.gid = .error e) (tw : Worker) (htw : g.trainerOf w.gid = some tw) :
    ∃ c, (run (some As) t).get .committer = some c ∧ c.hasError = true := by
  have h := wf_WF hwf
  have hA' := assetsOK_AssetsOK hA
  have hmemP : w.gid ∈ As.persistent := (indexOf_isSome_iff _ _).mp hc
  have hcm := hp.commit
  rw [commitVal_trained hmemP (by rw [htw]; rfl)] at hcm
  refine ⟨_, hcm, ?_⟩
  simp only [Assets.commit, List.length_map, if_true, Val.hasError]
  have he := trainer_hasError h hc hl htw
  apply Val.anyError_of_mem (v := .dumped (g.nodeVal (some As) g.evalFuel tw.uid))
  · rw [List.mem_map]
    exact ⟨w.gid, hmemP, by simp [htw]⟩
  · simpa [Val.hasError] using he

/-- the single stateless worker without any subscription (regression witness of fix C01-F1: the unrepaired
`Linkage.leaves` asserted `'Not acyclic'` on its empty linkage) -/
def loneWorker : Segment := ⟨[⟨0, 0, 0, false, 1, 1⟩], [], 0, 0, []⟩

example : loneWorker.wf (fun _ => 0) = true := by decide +kernel
example : compile loneWorker none [0] = .ok [⟨.uid 0, .functor 0 .apply [], []⟩] := rfl

/-- non-vacuity, DESIGN's shape: 3-output worker with an unused port, a group (gid 2) with a trainer (4) and two applied
forks (2, 3), a second group (gid 3) with fork 5 and trainer 6, train/label fed from different upstream ports -/
def demo : Segment :=
  ⟨[⟨0, 0, 0, false, 0, 1⟩, ⟨1, 1, 1, false, 1, 3⟩, ⟨2, 2, 2, true, 1, 1⟩, ⟨3, 2, 2, true, 1, 1⟩, ⟨4, 2, 2, true, 1, 1⟩,
    ⟨5, 3, 3, true, 1, 1⟩, ⟨6, 3, 3, true, 1, 1⟩, ⟨7, 4, 4, false, 3, 1⟩],
   [⟨0, 0, 1, .apply 0⟩, ⟨1, 0, 2, .apply 0⟩, ⟨1, 1, 3, .apply 0⟩, ⟨1, 0, 4, .train⟩, ⟨1, 1, 4, .label⟩,
    ⟨2, 0, 5, .apply 0⟩, ⟨3, 0, 6, .train⟩, ⟨0, 0, 6, .label⟩, ⟨2, 0, 7, .apply 0⟩, ⟨3, 0, 7, .apply 1⟩,
    ⟨5, 0, 7, .apply 2⟩],
   0, 7, []⟩

def demoRank : Uid → Nat
  | 0 => 0 | 1 => 1 | 4 => 2 | 2 => 3 | 3 => 4 | 6 => 5 | 5 => 6 | _ => 7

/-- partial persistence: only group 2 is persistent, a previous generation exists -/
def demoAssets : Option Assets := some ⟨[2], [.stored 0]⟩

example : demo.wf demoRank = true := by decide +kernel
example : demo.assetsOK demoAssets = true := by decide +kernel
example : demo.connected = true := by decide +kernel
example : demo.construct = .ok () := by rfl
example : demo.each = .ok [0, 1, 2, 5, 7, 4, 3, 6] := by rfl
/-- the theorem instantiated: the DESIGN shape compiles and preserves its dataflow -/
example : ∃ o t, demo.each = .ok o ∧ compile demo demoAssets o = .ok t ∧ Preserves demo demoAssets t :=
  C01_dataflow_traversal demo demoAssets demoRank (by decide +kernel) (by decide +kernel) (by decide +kernel)
example : (match compile demo demoAssets demo.visitOrder with
    | .ok t => demo.describes demoAssets t
    | .error _ => false) = true := by decide +kernel

end ForML.Flow
